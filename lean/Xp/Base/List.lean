/-
Facts about plain lists that two or more properties need and Lean's library lacks: the members of a list
whose keys have no duplicates; replacement by key; an entry read after `set`; the prefix before the first
element that fails a test; a loop that remembers the last position of an element; sorted insertion as a
permutation; Go maps kept as lists of pairs (`Lookup`, `Keyed`). Where a model's own function is meant, it is a
variable with its recursion equations as hypotheses, which hold by `rfl` at each use. Core Lean only.
-/
namespace Xp

universe u v w
variable {α : Type u} {β : Type v} {κ : Type w} [DecidableEq κ]

theorem pairwise_mem_cases {R : α → α → Prop} {l : List α} (h : l.Pairwise R) {a b : α}
    (ha : a ∈ l) (hb : b ∈ l) : a = b ∨ R a b ∨ R b a := by
  induction l with
  | nil => cases ha
  | cons x xs ih =>
    rw [List.pairwise_cons] at h
    rcases List.mem_cons.mp ha with rfl | ha' <;> rcases List.mem_cons.mp hb with rfl | hb'
    · exact .inl rfl
    · exact .inr (.inl (h.1 b hb'))
    · exact .inr (.inr (h.1 a ha'))
    · exact ih h.2 ha' hb'

theorem eq_of_map_nodup {f : α → β} {l : List α} (hn : (l.map f).Nodup) {a b : α}
    (ha : a ∈ l) (hb : b ∈ l) (h : f a = f b) : a = b :=
  (pairwise_mem_cases (List.pairwise_map.mp hn) ha hb).elim id fun hne => absurd h (hne.elim id fun hne e => hne e.symm)

/-- `p` is any test for "has the key of `a`": `· == f a`, `decide (· = f a)`, a conjunction over the
fields of a structured key -/
theorem find?_of_nodup_map {f : α → β} {l : List α} (hn : (l.map f).Nodup) {a : α} (ha : a ∈ l)
    {p : α → Bool} (hp : ∀ x, p x = true ↔ f x = f a) : l.find? p = some a := by
  cases h : l.find? p with
  | none => exact absurd ((hp a).mpr rfl) (List.find?_eq_none.mp h a ha)
  | some b => rw [eq_of_map_nodup hn (List.mem_of_find?_eq_some h) ha ((hp b).mp (List.find?_some h))]

/-- `p` says "has the key of `n`" -/
theorem mem_replace {p : α → Prop} [DecidablePred p] {n y : α} {l : List α} :
    y ∈ l.map (fun x => if p x then n else x) ↔ (y ∈ l ∧ ¬ p y) ∨ (y = n ∧ ∃ x ∈ l, p x) := by
  simp only [List.mem_map]
  constructor
  · rintro ⟨x, hx, rfl⟩
    by_cases h : p x
    · exact .inr ⟨if_pos h, x, hx, h⟩
    · exact .inl ⟨(if_neg h).symm ▸ hx, (if_neg h).symm ▸ h⟩
  · rintro (⟨hy, hn⟩ | ⟨rfl, x, hx, hn⟩)
    · exact ⟨y, hy, if_neg hn⟩
    · exact ⟨x, hx, if_pos hn⟩

/-- A loop over a list that keeps, in part `idx` of its state, the position of the element equal to `b` it saw
last (`f` is the loop from position `i` on, whatever else its state carries): afterwards that part is untouched if
`b` does not occur, and is the position of the LAST occurrence if it does. -/
theorem last_index_loop {α σ β : Type} [BEq α] [LawfulBEq α] (b : α) (pos : Nat → β) (idx : σ → β)
    (f : List α → Nat → σ → σ) (f_nil : ∀ i s, f [] i s = s)
    (f_cons : ∀ m r i s, ∃ s', f (m :: r) i s = f r (i + 1) s' ∧ idx s' = if m == b then pos i else idx s) :
    ∀ l i s, (b ∉ l → idx (f l i s) = idx s) ∧
      (b ∈ l → ∃ j, idx (f l i s) = pos (i + j) ∧ l[j]? = some b ∧ ∀ j', j < j' → l[j']? ≠ some b) := by
  intro l
  induction l with
  | nil => intro i s; exact ⟨fun _ => by rw [f_nil], nofun⟩
  | cons m rest ih =>
    intro i s
    obtain ⟨s', e, hs'⟩ := f_cons m rest i s
    obtain ⟨h3, h4⟩ := ih (i + 1) s'
    rw [e]
    refine ⟨fun hno => ?_, fun hyes => ?_⟩
    · rw [List.mem_cons, not_or] at hno
      rw [h3 hno.2, hs', if_neg fun h => hno.1 (eq_of_beq h).symm]
    · by_cases hr : b ∈ rest
      · obtain ⟨j, hj1, hj2, hj3⟩ := h4 hr
        refine ⟨j + 1, by rw [hj1, Nat.add_assoc, Nat.add_comm 1 j], hj2, fun j' hj' => ?_⟩
        cases j' with
        | zero => omega
        | succ j'' => exact hj3 j'' (by omega)
      · -- `m` is the last occurrence
        have hm : m = b := ((List.mem_cons.mp hyes).resolve_right hr).symm
        refine ⟨0, by rw [h3 hr, hs', hm, beq_self_eq_true, if_pos rfl]; rfl, by rw [hm]; rfl, fun j' hj' => ?_⟩
        cases j' with
        | zero => omega
        | succ j'' => exact fun hc => hr (List.mem_of_getElem? hc)

theorem getElem?_set_eq_some {l : List α} {i j : Nat} {x u : α} (h : (l.set i x)[j]? = some u) :
    (j = i ∧ u = x) ∨ (j ≠ i ∧ l[j]? = some u) := by
  rw [List.getElem?_set] at h
  split at h
  · split at h
    · exact .inl ⟨‹i = j›.symm, (Option.some.inj h).symm⟩
    · cases h
  · exact .inr ⟨fun e => ‹¬i = j› e.symm, h⟩

theorem takeWhile_append_cons {p : α → Bool} {l r : List α} {c : α} (hl : ∀ a ∈ l, p a = true) (hc : p c = false) :
    (l ++ c :: r).takeWhile p = l := by
  rw [List.takeWhile_append_of_pos hl, List.takeWhile_cons_of_neg (by simp [hc]), List.append_nil]

/-! Insertion into a sorted list and insertion sort, whatever the order and however the model writes
the comparison: the result is a permutation, so membership, `Nodup` of keys and the like carry over
(`List.Perm.mem_iff`, `.map`, `.nodup_iff`, `.pairwise_iff`). -/

section
variable (ins : α → List α → List α) (ins_nil : ∀ x, ins x [] = [x])
  (ins_cons : ∀ x y ys, ins x (y :: ys) = x :: y :: ys ∨ ins x (y :: ys) = y :: ins x ys)
include ins_nil ins_cons

theorem perm_insert (x : α) (l : List α) : (ins x l).Perm (x :: l) := by
  induction l with
  | nil => rw [ins_nil]
  | cons y ys ih =>
    rcases ins_cons x y ys with e | e <;> rw [e]
    exact (ih.cons y).trans (.swap x y ys)

theorem perm_insertionSort {sort : List α → List α} (sort_nil : sort [] = [])
    (sort_cons : ∀ x xs, sort (x :: xs) = ins x (sort xs)) (l : List α) : (sort l).Perm l := by
  induction l with
  | nil => rw [sort_nil]
  | cons x xs ih => rw [sort_cons]; exact (perm_insert ins ins_nil ins_cons x _).trans (ih.cons x)
end

/-! Go maps kept as lists of pairs, first binding wins. Each model defines its own lookup and `m[k] = v`
by these equations (they hold by `rfl`) and gets the laws from here; `delete(m, k)` and the range loop
bring their equations as hypotheses of the laws that speak of them. The laws that set nothing ask for the
lookup alone (`Lookup`). `set` replaces the first binding in place or appends: a map that inserts sorted,
conses in front of an erase or rewrites every binding is no `Keyed` (C04's `upsert`, C13's `aset`, C14's
`setLabel`), though its lookup may be a `Lookup` (C13's `aget`). -/

structure Lookup (get : κ → List (κ × β) → Option β) : Prop where
  get_nil : ∀ k, get k [] = none
  get_cons : ∀ k k' v r, get k ((k', v) :: r) = if k' = k then some v else get k r

structure Keyed (get : κ → List (κ × β) → Option β)
    (set : κ → β → List (κ × β) → List (κ × β)) : Prop extends Lookup get where
  set_nil : ∀ k v, set k v [] = [(k, v)]
  set_cons : ∀ k v k' v' r, set k v ((k', v') :: r) = if k' = k then (k, v) :: r else (k', v') :: set k v r

namespace Lookup
variable {get : κ → List (κ × β) → Option β} (h : Lookup get)
include h

theorem get_eq_none (k : κ) (l : List (κ × β)) : get k l = none ↔ k ∉ l.map (·.1) := by
  induction l with
  | nil => exact ⟨fun _ => nofun, fun _ => h.get_nil k⟩
  | cons p r ih =>
    obtain ⟨k', v'⟩ := p
    rw [h.get_cons, List.map_cons, List.mem_cons, not_or]
    split
    · exact ⟨nofun, fun hn => absurd ‹k' = k›.symm hn.1⟩
    · exact ih.trans ⟨fun hn => ⟨fun e => ‹¬k' = k› e.symm, hn⟩, (·.2)⟩

theorem mem_of_get {k : κ} {v : β} {l : List (κ × β)} (hg : get k l = some v) : (k, v) ∈ l := by
  induction l with
  | nil => rw [h.get_nil] at hg; cases hg
  | cons p r ih =>
    obtain ⟨k', v'⟩ := p
    rw [h.get_cons] at hg
    split at hg
    · cases hg; exact ‹k' = k› ▸ List.mem_cons_self
    · exact List.mem_cons_of_mem _ (ih hg)

theorem get_filter_key (p : κ → Bool) (k : κ) (l : List (κ × β)) :
    get k (l.filter fun kv => p kv.1) = if p k then get k l else none := by
  induction l with
  | nil => rw [List.filter_nil, h.get_nil, ite_self]
  | cons q r ih =>
    obtain ⟨k', v'⟩ := q
    rw [List.filter_cons, h.get_cons]
    by_cases e : k' = k
    · subst e
      cases hp : p k'
      · rw [if_neg Bool.false_ne_true, ih, hp]; rfl
      · rw [if_pos rfl, if_pos rfl, h.get_cons, if_pos rfl, if_pos rfl]
    · rw [if_neg e, ← ih]
      split
      · rw [h.get_cons, if_neg e]
      · rfl

variable {erase : κ → List (κ × β) → List (κ × β)} (erase_nil : ∀ k, erase k [] = [])
  (erase_cons : ∀ k k' v r, erase k ((k', v) :: r) = if k' = k then erase k r else (k', v) :: erase k r)
include erase_nil erase_cons

theorem get_erase_self (k : κ) (l : List (κ × β)) : get k (erase k l) = none := by
  induction l with
  | nil => rw [erase_nil, h.get_nil]
  | cons p r ih =>
    obtain ⟨k', v'⟩ := p
    rw [erase_cons]
    split
    · exact ih
    · rw [h.get_cons, if_neg ‹_›, ih]

theorem get_erase_ne {k k2 : κ} (hk : k2 ≠ k) (l : List (κ × β)) : get k2 (erase k l) = get k2 l := by
  induction l with
  | nil => rw [erase_nil]
  | cons p r ih =>
    obtain ⟨k', v'⟩ := p
    rw [erase_cons]
    split
    · rw [ih, h.get_cons, if_neg (‹k' = k› ▸ hk.symm)]
    · rw [h.get_cons, h.get_cons, ih]

end Lookup

namespace Keyed
variable {get : κ → List (κ × β) → Option β} {set : κ → β → List (κ × β) → List (κ × β)}
  (h : Keyed get set)
include h

theorem get_set_self (k : κ) (v : β) (l : List (κ × β)) : get k (set k v l) = some v := by
  induction l with
  | nil => rw [h.set_nil, h.get_cons, if_pos rfl]
  | cons p r ih =>
    obtain ⟨k', v'⟩ := p
    rw [h.set_cons]
    split
    · rw [h.get_cons, if_pos rfl]
    · rw [h.get_cons, if_neg ‹_›, ih]

theorem get_set_ne {k k2 : κ} (hk : k2 ≠ k) (v : β) (l : List (κ × β)) : get k2 (set k v l) = get k2 l := by
  induction l with
  | nil => rw [h.set_nil, h.get_cons, if_neg hk.symm]
  | cons p r ih =>
    obtain ⟨k', v'⟩ := p
    rw [h.set_cons]
    split
    · rw [h.get_cons, h.get_cons, if_neg hk.symm, if_neg (‹k' = k› ▸ hk.symm)]
    · rw [h.get_cons, h.get_cons, ih]

theorem get_set (k k2 : κ) (v : β) (l : List (κ × β)) :
    get k2 (set k v l) = if k2 = k then some v else get k2 l := by
  split
  · rw [‹k2 = k›, h.get_set_self]
  · rw [h.get_set_ne ‹_›]

theorem nodup_keys_set (k : κ) (v : β) {l : List (κ × β)} (hn : (l.map (·.1)).Nodup) :
    ((set k v l).map (·.1)).Nodup := by
  induction l with
  | nil => rw [h.set_nil]; exact List.nodup_cons.mpr ⟨nofun, List.nodup_nil⟩
  | cons p r ih =>
    obtain ⟨k', v'⟩ := p
    rw [List.map_cons, List.nodup_cons] at hn
    rw [h.set_cons]
    split
    · exact List.nodup_cons.mpr (‹k' = k› ▸ hn)
    · refine List.nodup_cons.mpr ⟨(h.get_eq_none k' _).mp ?_, ih hn.2⟩
      rw [h.get_set_ne ‹¬k' = k›]
      exact (h.get_eq_none k' r).mpr hn.1

/-! `for k, v := range s { d[k] = v }`, however the model spells the loop -/

variable {merge : List (κ × β) → List (κ × β) → List (κ × β)} (merge_nil : ∀ d, merge d [] = d)
  (merge_cons : ∀ d k v s, merge d ((k, v) :: s) = merge (set k v d) s)
include merge_nil merge_cons

/-- `hn`: of a key that is in `s` twice the loop leaves the last value, `get k s` reads the first -/
theorem get_merge (k : κ) (d : List (κ × β)) {s : List (κ × β)} (hn : (s.map (·.1)).Nodup) :
    get k (merge d s) = (get k s).or (get k d) := by
  induction s generalizing d with
  | nil => rw [merge_nil, h.get_nil]; rfl
  | cons p r ih =>
    obtain ⟨k', v'⟩ := p
    rw [List.map_cons, List.nodup_cons] at hn
    rw [merge_cons, ih _ hn.2, h.get_cons, h.get_set]
    by_cases e : k' = k
    · subst e
      rw [(h.get_eq_none k' r).mpr hn.1, if_pos rfl, if_pos rfl]; rfl
    · rw [if_neg e, if_neg fun e' => e e'.symm]

end Keyed

/-- lookup by `find?`, as the stores of C01 and C09 read their maps -/
theorem Keyed.of_find? {set : κ → β → List (κ × β) → List (κ × β)} (set_nil : ∀ k v, set k v [] = [(k, v)])
    (set_cons : ∀ k v k' v' r, set k v ((k', v') :: r) = if k' = k then (k, v) :: r else (k', v') :: set k v r) :
    Keyed (fun k l => (l.find? (·.1 = k)).map (·.2)) set :=
  ⟨⟨fun _ => rfl, fun k k' v r => by by_cases e : k' = k <;> simp [List.find?, e]⟩, set_nil, set_cons⟩

end Xp
