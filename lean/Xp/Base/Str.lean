/-
Strings as character lists, for closed facts. The kernel has no fast path for `String`: `"lit".toList`,
`"a" = "b"` and `"a" == "b"` on literals encode / decode UTF-8 byte arrays, at several thousand heartbeats
per character, while a literal unifies with `String.ofList ?l` for nothing. So a model function that reads
the characters of its argument is evaluated after `rw [String.toList_ofList]` (once per distinct literal),
and the lemmas here move the remaining comparisons of a built string `String.ofList l` with a literal to
the characters as well. Use `rw` / `simp only`, then close by `decide +kernel` or `rfl`.
-/
namespace Xp.Str

theorem ofList_eq (l : List Char) (s : String) : (String.ofList l = s) = (l = s.toList) :=
  propext ⟨fun h => by rw [← h, String.toList_ofList], fun h => by rw [h, String.ofList_toList]⟩

theorem ofList_beq (l : List Char) (s : String) : (String.ofList l == s) = (l == s.toList) := by
  rw [Bool.eq_iff_iff, beq_iff_eq, beq_iff_eq, ofList_eq]

theorem ofList_bne (l : List Char) (s : String) : (String.ofList l != s) = (l != s.toList) := by
  rw [bne, bne, ofList_beq]

end Xp.Str
