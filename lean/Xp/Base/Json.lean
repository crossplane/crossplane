import Xp.Base.List
/-
A small JSON value type for models (no floats: numbers are integers; anything
else is carried as an opaque tagged string by the harness).
Objects are association lists: `lookup` and `setKey` act on the first binding of a key,
`eraseKey` removes every binding of it; their laws are those of `Keyed` (Base/List).
-/
namespace Xp

inductive J where
  | null
  | bool (b : Bool)
  | num (i : Int)
  | str (s : String)
  | arr (l : List J)
  | obj (l : List (String × J))
  deriving Repr, Inhabited

namespace J

mutual
def beq : J → J → Bool
  | .null, .null => true
  | .bool a, .bool b => a == b
  | .num a, .num b => a == b
  | .str a, .str b => a == b
  | .arr a, .arr b => beqList a b
  | .obj a, .obj b => beqFields a b
  | _, _ => false
def beqList : List J → List J → Bool
  | [], [] => true
  | x :: xs, y :: ys => beq x y && beqList xs ys
  | _, _ => false
def beqFields : List (String × J) → List (String × J) → Bool
  | [], [] => true
  | (k, x) :: xs, (k', y) :: ys => k == k' && beq x y && beqFields xs ys
  | _, _ => false
end

instance : BEq J := ⟨beq⟩

/-- association-list lookup -/
def lookup (k : String) : List (String × J) → Option J
  | [] => none
  | (k', v) :: rest => if k' = k then some v else lookup k rest

def eraseKey (k : String) : List (String × J) → List (String × J)
  | [] => []
  | (k', v) :: rest => if k' = k then eraseKey k rest else (k', v) :: eraseKey k rest

def setKey (k : String) (v : J) : List (String × J) → List (String × J)
  | [] => [(k, v)]
  | (k', v') :: rest => if k' = k then (k, v) :: rest else (k', v') :: setKey k v rest

def keys (l : List (String × J)) : List String := l.map (·.1)

def get? (j : J) (k : String) : Option J :=
  match j with
  | .obj l => lookup k l
  | _ => none

def fields : J → List (String × J)
  | .obj l => l
  | _ => []

def getStr? : J → Option String
  | .str s => some s
  | _ => none

def getNum? : J → Option Int
  | .num s => some s
  | _ => none

def getBool? : J → Option Bool
  | .bool s => some s
  | _ => none

def getArr : J → List J
  | .arr s => s
  | _ => []

theorem keyed : Keyed lookup setKey := ⟨⟨fun _ => rfl, fun _ _ _ _ => rfl⟩, fun _ _ => rfl, fun _ _ _ _ _ => rfl⟩

theorem lookup_eraseKey_self (k : String) (l : List (String × J)) : lookup k (eraseKey k l) = none :=
  keyed.get_erase_self (fun _ => rfl) (fun _ _ _ _ => rfl) k l

theorem lookup_eraseKey_ne (k k2 : String) (h : k2 ≠ k) (l : List (String × J)) :
    lookup k2 (eraseKey k l) = lookup k2 l :=
  keyed.get_erase_ne (fun _ => rfl) (fun _ _ _ _ => rfl) h l

theorem lookup_setKey_self (k : String) (v : J) (l : List (String × J)) : lookup k (setKey k v l) = some v :=
  keyed.get_set_self k v l

theorem lookup_setKey_ne (k k2 : String) (v : J) (h : k2 ≠ k) (l : List (String × J)) :
    lookup k2 (setKey k v l) = lookup k2 l :=
  keyed.get_set_ne h v l

end J
end Xp
