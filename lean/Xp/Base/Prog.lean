/-
Programs of API calls under a fault plan, shared by every reconciler model, and their program logic.

A reconcile is a tree of API calls (`Prog`). Running it under a *fault plan* (`Nat → Outcome`, indexed by
API-call number) yields the final store (`run`), every store visible at any instant (`reach`), the applied
requests (`applied`) and the call log (`callLog`); `runE` and `ownE` are the same next to other clients of
the API server (`Env`), and `run` is their case `Env.none`. Theorems quantify over the plan, which is what
"for every call index k and every outcome" means.

One logic serves all of it: the rely/guarantee weakest precondition `WpE` (`wpE_sound`). What is proved by
walking a program is a `WpE`, or one of two predicates of the program text alone that are sound into it
(`Issues`, a class of requests; `Kept`, a discipline kept in a ghost); what is said of `run`, `reach`,
`applied`, `callLog`, `Safe` or a history of runs is read off it.
-/
namespace Xp

inductive Outcome where
  | ok          -- the call is applied and its reply delivered
  | fail        -- server error / timeout: not applied, controller sees an error
  | conflict    -- optimistic-concurrency conflict: not applied, controller sees Conflict
  | crashBefore -- process dies before the call takes effect
  | crashAfter  -- the call takes effect, the process dies before the reply
  deriving DecidableEq, Repr, Inhabited

abbrev Plan := Nat → Outcome

def Plan.allOk : Plan := fun _ => .ok

/-- fault at exactly call `k` -/
def Plan.at (k : Nat) (o : Outcome) : Plan := fun i => if i = k then o else .ok

inductive Prog (Req Resp α : Type) where
  | ret  : α → Prog Req Resp α
  | call : Req → (Resp → Prog Req Resp α) → Prog Req Resp α

namespace Prog
variable {Req Resp α β : Type}

def bind : Prog Req Resp α → (α → Prog Req Resp β) → Prog Req Resp β
  | .ret a, f => f a
  | .call r k, f => .call r (fun x => bind (k x) f)

instance : Monad (Prog Req Resp) where
  pure := .ret
  bind := bind

theorem bind_call (r : Req) (c : Resp → Prog Req Resp α) (f : α → Prog Req Resp β) :
    bind (.call r c) f = .call r (fun y => bind (c y) f) := rfl

def api (r : Req) : Prog Req Resp Resp := .call r .ret

end Prog

/-- Semantics of the API server as seen by one program. -/
structure Sem (S Req Resp : Type) where
  exec : S → Req → S × Resp
  /-- reply the controller sees when the call was *not* applied -/
  errResp : Outcome → Req → Resp

variable {S Req Resp α : Type}

/-- Final store and result (`none` = crashed). -/
def run (sem : Sem S Req Resp) (plan : Plan) : Nat → Prog Req Resp α → S → S × Option α
  | _, .ret a, s => (s, some a)
  | k, .call r c, s =>
    match plan k with
    | .ok => run sem plan (k+1) (c (sem.exec s r).2) (sem.exec s r).1
    | .fail => run sem plan (k+1) (c (sem.errResp .fail r)) s
    | .conflict => run sem plan (k+1) (c (sem.errResp .conflict r)) s
    | .crashBefore => (s, none)
    | .crashAfter => ((sem.exec s r).1, none)

/-- Every store visible at some instant of the run, oldest first (includes the start). -/
def reach (sem : Sem S Req Resp) (plan : Plan) : Nat → Prog Req Resp α → S → List S
  | _, .ret _, s => [s]
  | k, .call r c, s =>
    match plan k with
    | .ok => s :: reach sem plan (k+1) (c (sem.exec s r).2) (sem.exec s r).1
    | .fail => reach sem plan (k+1) (c (sem.errResp .fail r)) s
    | .conflict => reach sem plan (k+1) (c (sem.errResp .conflict r)) s
    | .crashBefore => [s]
    | .crashAfter => [s, (sem.exec s r).1]

/-- The requests that were *applied* during the run, in order. -/
def applied (sem : Sem S Req Resp) (plan : Plan) : Nat → Prog Req Resp α → S → List Req
  | _, .ret _, _ => []
  | k, .call r c, s =>
    match plan k with
    | .ok => r :: applied sem plan (k+1) (c (sem.exec s r).2) (sem.exec s r).1
    | .fail => applied sem plan (k+1) (c (sem.errResp .fail r)) s
    | .conflict => applied sem plan (k+1) (c (sem.errResp .conflict r)) s
    | .crashBefore => []
    | .crashAfter => [r]

/-- number of API calls issued (attempted) -/
def calls (sem : Sem S Req Resp) (plan : Plan) : Nat → Prog Req Resp α → S → Nat
  | _, .ret _, _ => 0
  | k, .call r c, s =>
    match plan k with
    | .ok => 1 + calls sem plan (k+1) (c (sem.exec s r).2) (sem.exec s r).1
    | .fail => 1 + calls sem plan (k+1) (c (sem.errResp .fail r)) s
    | .conflict => 1 + calls sem plan (k+1) (c (sem.errResp .conflict r)) s
    | .crashBefore => 1
    | .crashAfter => 1

/-- One log entry per attempted call: the request, the plan's outcome and the reply
the controller saw (`none` when the process crashed). Used by the drivers to compare
the model's call sequence with the implementation's. -/
def callLog (sem : Sem S Req Resp) (plan : Plan) : Nat → Prog Req Resp α → S → List (Req × Outcome × Option Resp)
  | _, .ret _, _ => []
  | k, .call r c, s =>
    match plan k with
    | .ok => (r, .ok, some (sem.exec s r).2) :: callLog sem plan (k+1) (c (sem.exec s r).2) (sem.exec s r).1
    | .fail => (r, .fail, some (sem.errResp .fail r)) :: callLog sem plan (k+1) (c (sem.errResp .fail r)) s
    | .conflict => (r, .conflict, some (sem.errResp .conflict r)) :: callLog sem plan (k+1) (c (sem.errResp .conflict r)) s
    | .crashBefore => [(r, .crashBefore, none)]
    | .crashAfter => [(r, .crashAfter, none)]

theorem run_mem_reach (sem : Sem S Req Resp) (plan : Plan) (k : Nat) (p : Prog Req Resp α) (s : S) :
    (run sem plan k p s).1 ∈ reach sem plan k p s := by
  induction p generalizing k s with
  | ret a => simp [run, reach]
  | call r c ih =>
    unfold run reach
    split
    · exact List.mem_cons_of_mem _ (ih _ _ _)
    · exact ih _ _ _
    · exact ih _ _ _
    · simp
    · simp

/-- `Issues Q p`: every request `p` can ever issue satisfies `Q`. -/
inductive Issues (Q : Req → Prop) : Prog Req Resp α → Prop where
  | ret (a : α) : Issues Q (.ret a)
  | call (r : Req) (c : Resp → Prog Req Resp α) : Q r → (∀ x, Issues Q (c x)) → Issues Q (.call r c)

namespace Issues
variable {β : Type} {Q Q' : Req → Prop} {p : Prog Req Resp α}

theorem mono (h : ∀ r, Q r → Q' r) (hp : Issues Q p) : Issues Q' p := by
  induction hp with
  | ret a => exact .ret a
  | call r c hq _ ih => exact .call r c (h r hq) ih

theorem any (p : Prog Req Resp α) : Issues (fun _ => True) p := by
  induction p with
  | ret a => exact .ret a
  | call r c ih => exact .call r c trivial ih

theorem bind {f : α → Prog Req Resp β} (hp : Issues Q p) (hf : ∀ a, Issues Q (f a)) :
    Issues Q (Prog.bind p f) := by
  induction hp with
  | ret a => exact hf a
  | call r c hq _ ih => exact .call r _ hq ih

end Issues

section eqns
variable (sem : Sem S Req Resp) (plan : Plan) (k : Nat) (r : Req) (c : Resp → Prog Req Resp α) (s : S)

theorem run_ok (h : plan k = .ok) : run sem plan k (.call r c) s =
    run sem plan (k+1) (c (sem.exec s r).2) (sem.exec s r).1 := by simp [run, h]
theorem run_fail (h : plan k = .fail) : run sem plan k (.call r c) s =
    run sem plan (k+1) (c (sem.errResp .fail r)) s := by simp [run, h]
theorem run_conflict (h : plan k = .conflict) : run sem plan k (.call r c) s =
    run sem plan (k+1) (c (sem.errResp .conflict r)) s := by simp [run, h]
theorem run_crashBefore (h : plan k = .crashBefore) : run sem plan k (.call r c) s = (s, none) := by
  simp [run, h]
theorem run_crashAfter (h : plan k = .crashAfter) : run sem plan k (.call r c) s = ((sem.exec s r).1, none) := by
  simp [run, h]

theorem reach_ok (h : plan k = .ok) : reach sem plan k (.call r c) s =
    s :: reach sem plan (k+1) (c (sem.exec s r).2) (sem.exec s r).1 := by simp [reach, h]
theorem reach_fail (h : plan k = .fail) : reach sem plan k (.call r c) s =
    reach sem plan (k+1) (c (sem.errResp .fail r)) s := by simp [reach, h]
theorem reach_conflict (h : plan k = .conflict) : reach sem plan k (.call r c) s =
    reach sem plan (k+1) (c (sem.errResp .conflict r)) s := by simp [reach, h]
theorem reach_crashBefore (h : plan k = .crashBefore) : reach sem plan k (.call r c) s = [s] := by
  simp [reach, h]
theorem reach_crashAfter (h : plan k = .crashAfter) : reach sem plan k (.call r c) s = [s, (sem.exec s r).1] := by
  simp [reach, h]
end eqns

/-- final store and result when every call is applied and answered -/
def evalOk (sem : Sem S Req Resp) : Prog Req Resp α → S → S × α
  | .ret a, s => (s, a)
  | .call r c, s => evalOk sem (c (sem.exec s r).2) (sem.exec s r).1

theorem run_allOk (sem : Sem S Req Resp) (k : Nat) (p : Prog Req Resp α) (s : S) :
    run sem Plan.allOk k p s = ((evalOk sem p s).1, some (evalOk sem p s).2) := by
  induction p generalizing k s with
  | ret a => rfl
  | call r c ih => exact ih _ _ _

theorem evalOk_bind {β : Type} (sem : Sem S Req Resp) (p : Prog Req Resp α) (f : α → Prog Req Resp β) (s : S) :
    evalOk sem (Prog.bind p f) s = evalOk sem (f (evalOk sem p s).2) (evalOk sem p s).1 := by
  induction p generalizing s with
  | ret a => rfl
  | call r c ih => exact ih _ _

/-- A history is a list of (plan, program) pairs run one after the other on the
store; controller-local state is lost between them (restart / requeue). -/
def runHistory (sem : Sem S Req Resp) : List (Plan × Prog Req Resp α) → S → S
  | [], s => s
  | (pl, p) :: rest, s => runHistory sem rest (run sem pl 0 p s).1

def reachHistory (sem : Sem S Req Resp) : List (Plan × Prog Req Resp α) → S → List S
  | [], s => [s]
  | (pl, p) :: rest, s => reach sem pl 0 p s ++ reachHistory sem rest (run sem pl 0 p s).1

/-- Rounds that follow one another, each from the store the one before left (`next`): what every round
guarantees of its items (`own`) holds of all items of the history. `rounds` is any function with the
equation that a definition by recursion on the history satisfies by `rfl`, which also finds `own` and `next`. -/
theorem rounds_forall {ε X : Type} {own : ε → S → List X} {next : ε → S → S} (rounds : List ε → S → List X)
    (hcons : ∀ e h s, rounds (e :: h) s = own e s ++ rounds h (next e s)) (Inv : S → Prop) (G : X → Prop)
    (hnil : ∀ s, Inv s → ∀ x ∈ rounds [] s, G x) (h : List ε)
    (hround : ∀ e ∈ h, ∀ s, Inv s → (∀ x ∈ own e s, G x) ∧ Inv (next e s)) (s : S) (hs : Inv s) :
    ∀ x ∈ rounds h s, G x := by
  induction h generalizing s with
  | nil => exact hnil s hs
  | cons e es ih =>
    intro x hx
    obtain ⟨h1, h2⟩ := hround e (List.mem_cons_self ..) s hs
    rw [hcons] at hx
    exact (List.mem_append.mp hx).elim (h1 x) (ih (fun e' he' => hround e' (List.mem_cons_of_mem _ he')) _ h2 x)

/-- for an invariant that the steps of this history keep; `reachHistory_inv`: that every program keeps -/
theorem reachHistory_inv_of (sem : Sem S Req Resp) (Inv : S → Prop) (h : List (Plan × Prog Req Resp α))
    (hrec : ∀ x ∈ h, ∀ s, Inv s → ∀ s' ∈ reach sem x.1 0 x.2 s, Inv s') (s : S) (hs : Inv s) :
    ∀ s' ∈ reachHistory sem h s, Inv s' :=
  rounds_forall (reachHistory sem) (fun _ _ _ => rfl) Inv Inv (fun _ hs _ hx => List.mem_singleton.mp hx ▸ hs) h
    (fun e he s hs => ⟨hrec e he s hs, hrec e he s hs _ (run_mem_reach sem e.1 0 e.2 s)⟩) s hs

theorem reachHistory_inv (sem : Sem S Req Resp) (Inv : S → Prop)
    (hrec : ∀ (pl : Plan) (p : Prog Req Resp α) (s : S), Inv s → ∀ s' ∈ reach sem pl 0 p s, Inv s')
    (h : List (Plan × Prog Req Resp α)) (s : S) (hs : Inv s) :
    ∀ s' ∈ reachHistory sem h s, Inv s' :=
  reachHistory_inv_of sem Inv h (fun x _ => hrec x.1 x.2) s hs

/-! ### Interference by other clients of the API server (rely / guarantee)

`Env` is what OTHER clients do to the store right before API call `k` of the program
(a concurrent replica of the same controller, another controller, an operator). `runE`
is `run` with that interference; `run` is the special case `Env.none` (`runE_none`).
`ownE` lists the program's own applied calls together with the store at the moment
each was applied, so that guarantees can be stated about the program's own writes. -/

abbrev Env (S : Type) := Nat → S → S

def Env.none : Env S := fun _ s => s

def runE (sem : Sem S Req Resp) (env : Env S) (plan : Plan) : Nat → Prog Req Resp α → S → S × Option α
  | _, .ret a, s => (s, some a)
  | k, .call r c, s =>
    match plan k with
    | .ok => runE sem env plan (k+1) (c (sem.exec (env k s) r).2) (sem.exec (env k s) r).1
    | .fail => runE sem env plan (k+1) (c (sem.errResp .fail r)) (env k s)
    | .conflict => runE sem env plan (k+1) (c (sem.errResp .conflict r)) (env k s)
    | .crashBefore => (env k s, none)
    | .crashAfter => ((sem.exec (env k s) r).1, none)

/-- The program's own applied calls: (store at the moment of the call, request), in order. -/
def ownE (sem : Sem S Req Resp) (env : Env S) (plan : Plan) : Nat → Prog Req Resp α → S → List (S × Req)
  | _, .ret _, _ => []
  | k, .call r c, s =>
    match plan k with
    | .ok => (env k s, r) :: ownE sem env plan (k+1) (c (sem.exec (env k s) r).2) (sem.exec (env k s) r).1
    | .fail => ownE sem env plan (k+1) (c (sem.errResp .fail r)) (env k s)
    | .conflict => ownE sem env plan (k+1) (c (sem.errResp .conflict r)) (env k s)
    | .crashBefore => []
    | .crashAfter => [(env k s, r)]

def callLogE (sem : Sem S Req Resp) (env : Env S) (plan : Plan) : Nat → Prog Req Resp α → S → List (Req × Outcome × Option Resp)
  | _, .ret _, _ => []
  | k, .call r c, s =>
    match plan k with
    | .ok => (r, .ok, some (sem.exec (env k s) r).2) :: callLogE sem env plan (k+1) (c (sem.exec (env k s) r).2) (sem.exec (env k s) r).1
    | .fail => (r, .fail, some (sem.errResp .fail r)) :: callLogE sem env plan (k+1) (c (sem.errResp .fail r)) (env k s)
    | .conflict => (r, .conflict, some (sem.errResp .conflict r)) :: callLogE sem env plan (k+1) (c (sem.errResp .conflict r)) (env k s)
    | .crashBefore => [(r, .crashBefore, none)]
    | .crashAfter => [(r, .crashAfter, none)]

section envEqns
variable (sem : Sem S Req Resp) (env : Env S) (plan : Plan) (k : Nat) (r : Req) (c : Resp → Prog Req Resp α) (s : S)

theorem runE_ok (h : plan k = .ok) : runE sem env plan k (.call r c) s =
    runE sem env plan (k+1) (c (sem.exec (env k s) r).2) (sem.exec (env k s) r).1 := by simp [runE, h]
theorem runE_fail (h : plan k = .fail) : runE sem env plan k (.call r c) s =
    runE sem env plan (k+1) (c (sem.errResp .fail r)) (env k s) := by simp [runE, h]
theorem runE_conflict (h : plan k = .conflict) : runE sem env plan k (.call r c) s =
    runE sem env plan (k+1) (c (sem.errResp .conflict r)) (env k s) := by simp [runE, h]
theorem runE_crashBefore (h : plan k = .crashBefore) : runE sem env plan k (.call r c) s = (env k s, none) := by
  simp [runE, h]
theorem runE_crashAfter (h : plan k = .crashAfter) : runE sem env plan k (.call r c) s =
    ((sem.exec (env k s) r).1, none) := by simp [runE, h]

theorem ownE_ok (h : plan k = .ok) : ownE sem env plan k (.call r c) s =
    (env k s, r) :: ownE sem env plan (k+1) (c (sem.exec (env k s) r).2) (sem.exec (env k s) r).1 := by simp [ownE, h]
theorem ownE_fail (h : plan k = .fail) : ownE sem env plan k (.call r c) s =
    ownE sem env plan (k+1) (c (sem.errResp .fail r)) (env k s) := by simp [ownE, h]
theorem ownE_conflict (h : plan k = .conflict) : ownE sem env plan k (.call r c) s =
    ownE sem env plan (k+1) (c (sem.errResp .conflict r)) (env k s) := by simp [ownE, h]
theorem ownE_crashBefore (h : plan k = .crashBefore) : ownE sem env plan k (.call r c) s = [] := by
  simp [ownE, h]
theorem ownE_crashAfter (h : plan k = .crashAfter) : ownE sem env plan k (.call r c) s = [(env k s, r)] := by
  simp [ownE, h]
end envEqns

theorem runE_none (sem : Sem S Req Resp) (plan : Plan) (k : Nat) (p : Prog Req Resp α) (s : S) :
    runE sem Env.none plan k p s = run sem plan k p s := by
  induction p generalizing k s with
  | ret a => rfl
  | call r c ih =>
    cases hk : plan k <;> simp [runE, run, hk, Env.none, ih] <;> exact ih _ _ _

theorem ownE_none (sem : Sem S Req Resp) (plan : Plan) (k : Nat) (p : Prog Req Resp α) (s : S) :
    (ownE sem Env.none plan k p s).map (·.2) = applied sem plan k p s := by
  induction p generalizing k s with
  | ret a => rfl
  | call r c ih =>
    cases hk : plan k <;> simp [ownE, applied, hk, Env.none, ih] <;> exact ih _ _ _

theorem runE_bind {β : Type} (sem : Sem S Req Resp) (env : Env S) (plan : Plan) (p : Prog Req Resp α)
    (f : α → Prog Req Resp β) (k : Nat) (s : S) :
    (∃ a k', (runE sem env plan k p s).2 = some a ∧
      runE sem env plan k (p.bind f) s = runE sem env plan k' (f a) (runE sem env plan k p s).1 ∧
      ownE sem env plan k (p.bind f) s =
        ownE sem env plan k p s ++ ownE sem env plan k' (f a) (runE sem env plan k p s).1) ∨
    ((runE sem env plan k p s).2 = none ∧ runE sem env plan k (p.bind f) s = ((runE sem env plan k p s).1, none) ∧
      ownE sem env plan k (p.bind f) s = ownE sem env plan k p s) := by
  induction p generalizing k s with
  | ret a => exact .inl ⟨a, k, rfl, rfl, rfl⟩
  | call r c ih =>
    rw [Prog.bind_call]
    -- a crash leaves nothing to show; otherwise the own call, if applied, heads both lists
    cases hk : plan k <;> simp only [runE, ownE, hk, List.cons_append, List.cons.injEq, true_and, or_true]
    all_goals exact ih _ _ _

/-- Rely/guarantee for a preorder `Rel` on stores that every issued call and every move of the others respects:
the final store is `Rel`-above the start, and at each own call the store it meets is above the start and its
result is below the final store. -/
theorem runE_rel (sem : Sem S Req Resp) (Rel : S → S → Prop) (hrefl : ∀ s, Rel s s)
    (htrans : ∀ a b c, Rel a b → Rel b c → Rel a c)
    (Q : Req → Prop) (hstep : ∀ s r, Q r → Rel s (sem.exec s r).1)
    (env : Env S) (henv : ∀ k s, Rel s (env k s))
    (plan : Plan) (k : Nat) (p : Prog Req Resp α) (hp : Issues Q p) (s : S) :
    Rel s (runE sem env plan k p s).1 ∧
    ∀ x ∈ ownE sem env plan k p s, Rel s x.1 ∧ Rel (sem.exec x.1 x.2).1 (runE sem env plan k p s).1 := by
  induction hp generalizing k s with
  | ret a => exact ⟨hrefl s, by intro x h; simp [ownE] at h⟩
  | call r c hq _ ih =>
    cases hk : plan k with
    | ok =>
      rw [runE_ok sem env plan k r c s hk, ownE_ok sem env plan k r c s hk]
      obtain ⟨h1, h2⟩ := ih (sem.exec (env k s) r).2 (k+1) (sem.exec (env k s) r).1
      have hs : Rel s (sem.exec (env k s) r).1 := htrans _ _ _ (henv k s) (hstep _ r hq)
      refine ⟨htrans _ _ _ hs h1, ?_⟩
      intro x hx
      cases List.mem_cons.mp hx with
      | inl e => subst e; exact ⟨henv k s, h1⟩
      | inr hx' => exact ⟨htrans _ _ _ hs (h2 x hx').1, (h2 x hx').2⟩
    | fail =>
      rw [runE_fail sem env plan k r c s hk, ownE_fail sem env plan k r c s hk]
      obtain ⟨h1, h2⟩ := ih (sem.errResp .fail r) (k+1) (env k s)
      exact ⟨htrans _ _ _ (henv k s) h1, fun x hx => ⟨htrans _ _ _ (henv k s) (h2 x hx).1, (h2 x hx).2⟩⟩
    | conflict =>
      rw [runE_conflict sem env plan k r c s hk, ownE_conflict sem env plan k r c s hk]
      obtain ⟨h1, h2⟩ := ih (sem.errResp .conflict r) (k+1) (env k s)
      exact ⟨htrans _ _ _ (henv k s) h1, fun x hx => ⟨htrans _ _ _ (henv k s) (h2 x hx).1, (h2 x hx).2⟩⟩
    | crashBefore =>
      rw [runE_crashBefore sem env plan k r c s hk, ownE_crashBefore sem env plan k r c s hk]
      exact ⟨henv k s, by intro x h; simp at h⟩
    | crashAfter =>
      rw [runE_crashAfter sem env plan k r c s hk, ownE_crashAfter sem env plan k r c s hk]
      refine ⟨htrans _ _ _ (henv k s) (hstep _ r hq), ?_⟩
      intro x hx
      simp at hx; subst hx
      exact ⟨henv k s, hrefl _⟩

/-- Rely/guarantee weakest precondition. `WpE sem R G p Q s`: from `s`, whatever an environment
obeying the rely `R` does before each call and whatever the fault plan, every own call of `p`
satisfies the guarantee `G` (store at that moment, request) and a returned result satisfies `Q`. -/
def WpE (sem : Sem S Req Resp) (R : S → S → Prop) (G : S → Req → Prop) :
    Prog Req Resp α → (S → α → Prop) → S → Prop
  | .ret a, Q, s => Q s a
  | .call r c, Q, s => ∀ s', R s s' →
      G s' r ∧ WpE sem R G (c (sem.exec s' r).2) Q (sem.exec s' r).1 ∧
      WpE sem R G (c (sem.errResp .fail r)) Q s' ∧ WpE sem R G (c (sem.errResp .conflict r)) Q s'

theorem wpE_sound (sem : Sem S Req Resp) (R : S → S → Prop) (G : S → Req → Prop)
    (env : Env S) (henv : ∀ k s, R s (env k s)) (plan : Plan) (k : Nat)
    (p : Prog Req Resp α) (Q : S → α → Prop) (s : S) (h : WpE sem R G p Q s) :
    (∀ x ∈ ownE sem env plan k p s, G x.1 x.2) ∧
    (∀ a, (runE sem env plan k p s).2 = some a → Q (runE sem env plan k p s).1 a) := by
  induction p generalizing k s with
  | ret a =>
    refine ⟨by intro x hx; simp [ownE] at hx, ?_⟩
    intro b hb
    simp [runE] at hb ⊢
    subst hb; exact h
  | call r c ih =>
    obtain ⟨hg, h1, h2, h3⟩ := h (env k s) (henv k s)
    cases hk : plan k with
    | ok =>
      rw [runE_ok sem env plan k r c s hk, ownE_ok sem env plan k r c s hk]
      obtain ⟨i1, i2⟩ := ih _ (k+1) _ h1
      refine ⟨?_, i2⟩
      intro x hx
      cases List.mem_cons.mp hx with
      | inl e => subst e; exact hg
      | inr hx' => exact i1 x hx'
    | fail =>
      rw [runE_fail sem env plan k r c s hk, ownE_fail sem env plan k r c s hk]
      exact ih _ (k+1) _ h2
    | conflict =>
      rw [runE_conflict sem env plan k r c s hk, ownE_conflict sem env plan k r c s hk]
      exact ih _ (k+1) _ h3
    | crashBefore =>
      rw [runE_crashBefore sem env plan k r c s hk, ownE_crashBefore sem env plan k r c s hk]
      exact ⟨by intro x hx; simp at hx, by intro a ha; simp at ha⟩
    | crashAfter =>
      rw [runE_crashAfter sem env plan k r c s hk, ownE_crashAfter sem env plan k r c s hk]
      refine ⟨?_, by intro a ha; simp at ha⟩
      intro x hx
      simp at hx; subst hx; exact hg

namespace WpE
variable {β : Type} {sem : Sem S Req Resp} {R R' : S → S → Prop} {G G' : S → Req → Prop}
  {p : Prog Req Resp α} {Q Q' : S → α → Prop} {s : S}

theorem sound (h : WpE sem R G p Q s) (env : Env S) (henv : ∀ k s, R s (env k s)) (plan : Plan) (k : Nat) :
    (∀ x ∈ ownE sem env plan k p s, G x.1 x.2) ∧
    (∀ a, (runE sem env plan k p s).2 = some a → Q (runE sem env plan k p s).1 a) :=
  wpE_sound sem R G env henv plan k p Q s h

/-- The rule of consequence, relative to an invariant `I` of the stores that the rely and the guaranteed
calls keep: the rely may shrink, guarantee and post-condition may be weakened, all of it where `I` holds. -/
theorem conseq {I : S → Prop} (h : WpE sem R G p Q s) (hs : I s)
    (hR : ∀ s s', I s → R' s s' → R s s' ∧ I s') (hG : ∀ t r, I t → G t r → G' t r ∧ I (sem.exec t r).1)
    (hQ : ∀ t a, I t → Q t a → Q' t a) : WpE sem R' G' p Q' s := by
  induction p generalizing s with
  | ret a => exact hQ _ _ hs h
  | call r c ih =>
    intro s' hr
    obtain ⟨hr, hs'⟩ := hR s s' hs hr
    obtain ⟨hg, h1, h2, h3⟩ := h s' hr
    exact ⟨(hG _ _ hs' hg).1, ih _ h1 (hG _ _ hs' hg).2, ih _ h2 hs', ih _ h3 hs'⟩

theorem mono (h : WpE sem R G p Q s) (hG : ∀ s r, G s r → G' s r) (hQ : ∀ s a, Q s a → Q' s a) :
    WpE sem R G' p Q' s :=
  h.conseq (I := fun _ => True) trivial (fun _ _ _ hr => ⟨hr, trivial⟩) (fun _ _ _ hg => ⟨hG _ _ hg, trivial⟩)
    fun _ _ _ => hQ _ _

theorem rely (h : WpE sem R' G p Q s) (hR : ∀ s s', R s s' → R' s s') : WpE sem R G p Q s :=
  h.conseq (I := fun _ => True) trivial (fun _ _ _ hr => ⟨hR _ _ hr, trivial⟩) (fun _ _ _ hg => ⟨hg, trivial⟩)
    fun _ _ _ hq => hq

/-- Only the calls that the guarantee allows need keep the invariant. -/
theorem inv {Inv : S → Prop} (h : WpE sem R G p Q s) (hs : Inv s) (hrely : ∀ s s', Inv s → R s s' → Inv s')
    (hG : ∀ t r, Inv t → G t r → Inv (sem.exec t r).1) :
    WpE sem R (fun t r => Inv t ∧ G t r) p (fun t a => Inv t ∧ Q t a) s :=
  h.conseq hs (fun _ _ hi hr => ⟨hr, hrely _ _ hi hr⟩) (fun _ _ hi hg => ⟨⟨hi, hg⟩, hG _ _ hi hg⟩)
    fun _ _ hi hq => ⟨hi, hq⟩

/-- And in the store the run leaves behind, crashed or not, about which `wpE_sound` is silent: what
lets runs follow one another (`rounds_forall`). -/
theorem inv_runE {Inv : S → Prop} (h : WpE sem R G p Q s) (hs : Inv s) (hrely : ∀ s s', Inv s → R s s' → Inv s')
    (hG : ∀ t r, Inv t → G t r → Inv (sem.exec t r).1) (env : Env S) (henv : ∀ k s, R s (env k s))
    (plan : Plan) (k : Nat) : Inv (runE sem env plan k p s).1 := by
  induction p generalizing k s with
  | ret a => exact hs
  | call r c ih =>
    obtain ⟨hg, h1, h2, h3⟩ := h (env k s) (henv k s)
    have hs' := hrely _ _ hs (henv k s)
    cases hk : plan k with
    | ok => rw [runE_ok sem env plan k r c s hk]; exact ih _ h1 (hG _ _ hs' hg) _
    | fail => rw [runE_fail sem env plan k r c s hk]; exact ih _ h2 hs' _
    | conflict => rw [runE_conflict sem env plan k r c s hk]; exact ih _ h3 hs' _
    | crashBefore => rw [runE_crashBefore sem env plan k r c s hk]; exact hs'
    | crashAfter => rw [runE_crashAfter sem env plan k r c s hk]; exact hG _ _ hs' hg

theorem bind {f : α → Prog Req Resp β} {Q₂ : S → β → Prop} (hp : WpE sem R G p Q s)
    (hf : ∀ s a, Q s a → WpE sem R G (f a) Q₂ s) : WpE sem R G (Prog.bind p f) Q₂ s := by
  induction p generalizing s with
  | ret a => exact hf _ _ hp
  | call r c ih =>
    intro s' hr
    obtain ⟨hg, h1, h2, h3⟩ := hp s' hr
    exact ⟨hg, ih _ h1, ih _ h2, ih _ h3⟩

theorem and (h : WpE sem R G p Q s) (h' : WpE sem R G' p Q' s) :
    WpE sem R (fun s r => G s r ∧ G' s r) p (fun s a => Q s a ∧ Q' s a) s := by
  induction p generalizing s with
  | ret a => exact ⟨h, h'⟩
  | call r c ih =>
    intro s' hr
    obtain ⟨hg, h1, h2, h3⟩ := h s' hr
    obtain ⟨hg', h1', h2', h3'⟩ := h' s' hr
    exact ⟨⟨hg, hg'⟩, ih _ h1 h1', ih _ h2 h2', ih _ h3 h3'⟩

/-- A call without interference: there is no environment to quantify over. -/
theorem call {r : Req} {c : Resp → Prog Req Resp α} (hg : G s r)
    (hok : WpE sem Eq G (c (sem.exec s r).2) Q (sem.exec s r).1)
    (hfail : WpE sem Eq G (c (sem.errResp .fail r)) Q s)
    (hconflict : WpE sem Eq G (c (sem.errResp .conflict r)) Q s) : WpE sem Eq G (.call r c) Q s :=
  fun _ e => e ▸ ⟨hg, hok, hfail, hconflict⟩

end WpE

theorem wpE_mono (sem : Sem S Req Resp) (R : S → S → Prop) (G G' : S → Req → Prop)
    (hG : ∀ s r, G s r → G' s r) (p : Prog Req Resp α) (Q Q' : S → α → Prop)
    (hQ : ∀ s a, Q s a → Q' s a) (s : S) (h : WpE sem R G p Q s) : WpE sem R G' p Q' s :=
  h.mono hG hQ

theorem wpE_bind {β : Type} (sem : Sem S Req Resp) (R : S → S → Prop) (G : S → Req → Prop)
    (p : Prog Req Resp α) (f : α → Prog Req Resp β) (Q : S → β → Prop) (s : S)
    (h : WpE sem R G p (fun s a => WpE sem R G (f a) Q s) s) : WpE sem R G (Prog.bind p f) Q s :=
  h.bind fun _ _ h => h

/-! ### The discipline of a program text, without a world

`Kept T guard post p γ` speaks of the program and of every sequence of replies, not of stores: what the
program knows is a ghost `γ` that the replies move by the relation `T` (request, reply, ghost after); every
request is allowed by the ghost of the moment, a result meets `post`. It is proved by walking the program
once. `Kept.wpE_link` reads it on the stores of any semantics whose replies stay within `T`, next to any
other client who leaves the tie between ghost and store alone; `Kept.wpE` when the stores carry the ghost
(`of`). An invariant of the stores is a separate matter (`WpE.inv`), unless it is the tie. `Issues Q` is the
case without ghost and with every reply (`Issues.kept`). -/

def Kept {Γ : Type} (T : Γ → Req → Resp → Γ → Prop) (guard : Γ → Req → Prop) (post : Γ → α → Prop) :
    Prog Req Resp α → Γ → Prop
  | .ret a, γ => post γ a
  | .call r k, γ => guard γ r ∧ ∀ resp γ', T γ r resp γ' → Kept T guard post (k resp) γ'

section kept
variable {β Γ : Type} {T : Γ → Req → Resp → Γ → Prop} {guard guard' : Γ → Req → Prop} {post post' : Γ → α → Prop}

/-- Soundness. `Link γ s` ties the ghost to the stores; the other clients, every allowed request and every
refusal keep the tie. -/
theorem Kept.wpE_link {sem : Sem S Req Resp} {R : S → S → Prop} (Link : Γ → S → Prop)
    (hrely : ∀ γ s s', Link γ s → R s s' → Link γ s')
    (hexec : ∀ γ s r, Link γ s → guard γ r → ∃ γ', T γ r (sem.exec s r).2 γ' ∧ Link γ' (sem.exec s r).1)
    (herr : ∀ γ o r, guard γ r → T γ r (sem.errResp o r) γ) :
    ∀ {p : Prog Req Resp α} {γ : Γ} {s : S}, Kept T guard post p γ → Link γ s →
      WpE sem R (fun t r => ∃ γ, Link γ t ∧ guard γ r) p (fun t a => ∃ γ, Link γ t ∧ post γ a) s
  | .ret _, γ, _, h, hl => ⟨γ, hl, h⟩
  | .call r _, γ, s, ⟨hg, hk⟩, hl => fun s' hr =>
    have hl' := hrely γ s s' hl hr
    have ⟨_, ht, hl''⟩ := hexec γ s' r hl' hg
    ⟨⟨γ, hl', hg⟩, Kept.wpE_link Link hrely hexec herr (hk _ _ ht) hl'',
      Kept.wpE_link Link hrely hexec herr (hk _ _ (herr γ .fail r hg)) hl',
      Kept.wpE_link Link hrely hexec herr (hk _ _ (herr γ .conflict r hg)) hl'⟩

/-- The stores carry the ghost: `Link γ s := γ = of s`. -/
theorem Kept.wpE {sem : Sem S Req Resp} {R : S → S → Prop} (of : S → Γ) (hrely : ∀ s s', R s s' → of s' = of s)
    (hexec : ∀ s r, guard (of s) r → T (of s) r (sem.exec s r).2 (of (sem.exec s r).1))
    (herr : ∀ γ o r, guard γ r → T γ r (sem.errResp o r) γ) {p : Prog Req Resp α} {s : S}
    (h : Kept T guard post p (of s)) : WpE sem R (fun t r => guard (of t) r) p (fun t a => post (of t) a) s :=
  (h.wpE_link (fun γ s => γ = of s) (fun _ _ _ e hr => e.trans (hrely _ _ hr).symm)
    (fun _ s r e hg => ⟨_, e ▸ hexec s r (e ▸ hg), rfl⟩) herr rfl).mono
    (fun _ _ ⟨_, e, hg⟩ => e ▸ hg) fun _ _ ⟨_, e, hq⟩ => e ▸ hq

theorem Kept.mono (hg : ∀ γ r, guard γ r → guard' γ r) (hq : ∀ γ a, post γ a → post' γ a) :
    ∀ {p : Prog Req Resp α} {γ : Γ}, Kept T guard post p γ → Kept T guard' post' p γ
  | .ret _, _, h => hq _ _ h
  | .call _ _, _, ⟨h1, h2⟩ => ⟨hg _ _ h1, fun x γ' ht => Kept.mono hg hq (h2 x γ' ht)⟩

theorem Kept.bind {mid : Γ → α → Prop} {post₂ : Γ → β → Prop} {f : α → Prog Req Resp β}
    (hf : ∀ γ a, mid γ a → Kept T guard post₂ (f a) γ) :
    ∀ {p : Prog Req Resp α} {γ : Γ}, Kept T guard mid p γ → Kept T guard post₂ (p.bind f) γ
  | .ret _, _, h => hf _ _ h
  | .call _ _, _, ⟨h1, h2⟩ => ⟨h1, fun x γ' ht => Kept.bind hf (h2 x γ' ht)⟩

/-- `Kept` is the largest predicate that unfolds as it does: a discipline defined by its own
recursion on the program is one. -/
theorem Kept.of_unfold (D : Γ → Prog Req Resp α → Prop) (hret : ∀ γ a, D γ (.ret a) → post γ a)
    (hcall : ∀ γ r c, D γ (.call r c) → guard γ r ∧ ∀ resp γ', T γ r resp γ' → D γ' (c resp)) :
    ∀ {p : Prog Req Resp α} {γ : Γ}, D γ p → Kept T guard post p γ
  | .ret _, _, h => hret _ _ h
  | .call _ _, _, h => ⟨(hcall _ _ _ h).1, fun x γ' ht => Kept.of_unfold D hret hcall ((hcall _ _ _ h).2 x γ' ht)⟩

theorem Issues.kept {Q : Req → Prop} {p : Prog Req Resp α} (hp : Issues Q p) (hg : ∀ γ r, Q r → guard γ r)
    (hpost : ∀ γ a, post γ a) : ∀ γ, Kept T guard post p γ := by
  induction hp with
  | ret a => exact fun γ => hpost γ a
  | call r c hq _ ih => exact fun γ => ⟨hg γ r hq, fun x γ' _ => ih x γ'⟩

/-- `Kept.wpE` and `WpE.inv` read on a run next to other clients: what `rounds_forall` asks of a round. -/
theorem Kept.sound {sem : Sem S Req Resp} {R : S → S → Prop} {Inv : S → Prop} {p : Prog Req Resp α} {s : S} (of : S → Γ)
    (h : Kept T guard post p (of s)) (hs : Inv s) (hrely : ∀ s s', R s s' → of s' = of s ∧ (Inv s → Inv s'))
    (hexec : ∀ s r, guard (of s) r →
      T (of s) r (sem.exec s r).2 (of (sem.exec s r).1) ∧ (Inv s → Inv (sem.exec s r).1))
    (herr : ∀ γ o r, guard γ r → T γ r (sem.errResp o r) γ)
    (env : Env S) (henv : ∀ k s, R s (env k s)) (plan : Plan) (k : Nat) :
    (∀ x ∈ ownE sem env plan k p s, Inv x.1 ∧ guard (of x.1) x.2) ∧ Inv (runE sem env plan k p s).1 :=
  have h' := h.wpE (sem := sem) (R := R) of (fun _ _ hr => (hrely _ _ hr).1) (fun s r hg => (hexec s r hg).1) herr
  have hr : ∀ s s', Inv s → R s s' → Inv s' := fun _ _ hs hr => (hrely _ _ hr).2 hs
  have hG : ∀ t r, Inv t → guard (of t) r → Inv (sem.exec t r).1 := fun t r ht hg => (hexec t r hg).2 ht
  ⟨((h'.inv hs hr hG).sound env henv plan k).1, h'.inv_runE hs hr hG env henv plan k⟩

theorem Kept.run {sem : Sem S Req Resp} {R : S → S → Prop} {p : Prog Req Resp α} {s : S} (of : S → Γ)
    (h : Kept T guard post p (of s)) (hrely : ∀ s s', R s s' → of s' = of s)
    (hexec : ∀ s r, guard (of s) r → T (of s) r (sem.exec s r).2 (of (sem.exec s r).1))
    (herr : ∀ γ o r, guard γ r → T γ r (sem.errResp o r) γ)
    (env : Env S) (henv : ∀ k s, R s (env k s)) (plan : Plan) (k : Nat) :
    (∀ x ∈ ownE sem env plan k p s, guard (of x.1) x.2) ∧
    ∀ a, (runE sem env plan k p s).2 = some a → post (of (runE sem env plan k p s).1) a :=
  (h.wpE of hrely hexec herr).sound env henv plan k

end kept

theorem Issues.guar {sem : Sem S Req Resp} {R : S → S → Prop} {Qr : Req → Prop} {p : Prog Req Resp α}
    (hp : Issues Qr p) (s : S) : WpE sem R (fun _ r => Qr r) p (fun _ _ => True) s :=
  (hp.kept (T := fun _ _ _ _ => True) (fun _ _ h => h) (fun _ _ => trivial) ()).wpE (fun _ => ())
    (fun _ _ _ => rfl) (fun _ _ _ => trivial) (fun _ _ _ _ => trivial)

theorem wpE_of_issues (sem : Sem S Req Resp) (R : S → S → Prop) (Inv : S → Prop) (Qr : Req → Prop)
    (hstep : ∀ s r, Inv s → Qr r → Inv (sem.exec s r).1) (hrely : ∀ s s', Inv s → R s s' → Inv s')
    (p : Prog Req Resp α) (hp : Issues Qr p) (s : S) (hs : Inv s) :
    WpE sem R (fun s r => Inv s ∧ Qr r) p (fun s _ => Inv s) s :=
  ((hp.guar s).inv hs hrely hstep).mono (fun _ _ h => h) fun _ _ h => h.1

/-- `wpE_of_issues` for dot notation -/
theorem Issues.wpE {sem : Sem S Req Resp} {R : S → S → Prop} {Inv : S → Prop} {Qr : Req → Prop}
    {p : Prog Req Resp α} {s : S} (hp : Issues Qr p) (hs : Inv s)
    (hstep : ∀ s r, Inv s → Qr r → Inv (sem.exec s r).1) (hrely : ∀ s s', Inv s → R s s' → Inv s') :
    WpE sem R (fun s r => Inv s ∧ Qr r) p (fun s _ => Inv s) s :=
  wpE_of_issues sem R Inv Qr hstep hrely p hp s hs

theorem runE_inv (sem : Sem S Req Resp) (Inv : S → Prop) (Q : Req → Prop)
    (hstep : ∀ s r, Inv s → Q r → Inv (sem.exec s r).1)
    (env : Env S) (henv : ∀ k s, Inv s → Inv (env k s))
    (plan : Plan) (k : Nat) (p : Prog Req Resp α) (hp : Issues Q p) (s : S) (hs : Inv s) :
    Inv (runE sem env plan k p s).1 :=
  (hp.guar (R := fun s s' => Inv s → Inv s') s).inv_runE hs (fun _ _ h r => r h) hstep env henv plan k

theorem ownE_issues (sem : Sem S Req Resp) (Q : Req → Prop) (env : Env S) (plan : Plan) (k : Nat)
    (p : Prog Req Resp α) (hp : Issues Q p) (s : S) : ∀ x ∈ ownE sem env plan k p s, Q x.2 :=
  ((hp.guar (R := fun _ _ => True) s).sound env (fun _ _ => trivial) plan k).1

theorem WpE.and_issues {sem : Sem S Req Resp} {R : S → S → Prop} {G : S → Req → Prop} {p : Prog Req Resp α}
    {Q : S → α → Prop} {s : S} {Qr : Req → Prop} (h : WpE sem R G p Q s) (hp : Issues Qr p) :
    WpE sem R (fun s r => G s r ∧ Qr r) p Q s :=
  (h.and (hp.guar s)).mono (fun _ _ h => h) fun _ _ h => h.1

/-! ### No interference: `WpE` with the rely `Eq` speaks of `run`, `applied`, `callLog`, `reach` and `Safe` -/
section plain
variable {sem : Sem S Req Resp} {G : S → Req → Prop} {p : Prog Req Resp α} {Q : S → α → Prop} {s : S}

theorem WpE.run (h : WpE sem Eq G p Q s) (plan : Plan) (k : Nat) :
    (∀ x ∈ ownE sem Env.none plan k p s, G x.1 x.2) ∧
    ∀ a, (run sem plan k p s).2 = some a → Q (run sem plan k p s).1 a := by
  have := h.sound Env.none (fun _ _ => rfl) plan k
  rwa [runE_none] at this

theorem WpE.applied (h : WpE sem Eq G p Q s) (plan : Plan) (k : Nat) :
    ∀ r ∈ applied sem plan k p s, ∃ t, G t r := by
  intro r hr
  rw [← ownE_none] at hr
  obtain ⟨x, hx, rfl⟩ := List.mem_map.mp hr
  exact ⟨x.1, (h.run plan k).1 x hx⟩

theorem WpE.callLog (h : WpE sem Eq G p Q s) (plan : Plan) (k : Nat) :
    ∀ e ∈ callLog sem plan k p s, ∃ t, G t e.1 := by
  induction p generalizing k s with
  | ret a => exact fun _ he => nomatch he
  | call r c ih =>
    obtain ⟨hg, h1, h2, h3⟩ := h s rfl
    intro e he
    unfold Xp.callLog at he
    split at he
    · exact (List.mem_cons.mp he).elim (fun e => e ▸ ⟨s, hg⟩) (ih _ h1 _ e)
    · exact (List.mem_cons.mp he).elim (fun e => e ▸ ⟨s, hg⟩) (ih _ h2 _ e)
    · exact (List.mem_cons.mp he).elim (fun e => e ▸ ⟨s, hg⟩) (ih _ h3 _ e)
    · exact List.mem_singleton.mp he ▸ ⟨s, hg⟩
    · exact List.mem_singleton.mp he ▸ ⟨s, hg⟩

/-- What holds "at every instant" is a statement about the own calls. -/
theorem reach_eq_own (sem : Sem S Req Resp) (plan : Plan) (k : Nat) (p : Prog Req Resp α) (s : S) :
    reach sem plan k p s = s :: (ownE sem Env.none plan k p s).map fun x => (sem.exec x.1 x.2).1 := by
  induction p generalizing k s with
  | ret a => rfl
  | call r c ih => cases hk : plan k <;> simp [reach, ownE, hk, ih, Env.none]

theorem start_mem_reach (sem : Sem S Req Resp) (plan : Plan) (k : Nat) (p : Prog Req Resp α) (s : S) :
    ∃ l, reach sem plan k p s = s :: l := ⟨_, reach_eq_own sem plan k p s⟩

/-- `Safe p s`: running `p` from `s` only ever applies requests that preserve `Inv`. Defined by
recursion on the program, so that knowledge gathered from earlier replies can be used. -/
def Safe (sem : Sem S Req Resp) (Inv : S → Prop) : Prog Req Resp α → S → Prop
  | .ret _, _ => True
  | .call r c, s =>
      Inv (sem.exec s r).1 ∧ Safe sem Inv (c (sem.exec s r).2) (sem.exec s r).1 ∧
      Safe sem Inv (c (sem.errResp .fail r)) s ∧ Safe sem Inv (c (sem.errResp .conflict r)) s

theorem safe_iff_wpE {Inv : S → Prop} :
    Safe sem Inv p s ↔ WpE sem Eq (fun t r => Inv (sem.exec t r).1) p (fun _ _ => True) s := by
  induction p generalizing s with
  | ret a => exact Iff.rfl
  | call r c ih =>
    exact ⟨fun ⟨h0, h1, h2, h3⟩ _ e => e ▸ ⟨h0, (ih _).mp h1, (ih _).mp h2, (ih _).mp h3⟩,
      fun h => have ⟨h0, h1, h2, h3⟩ := h s rfl; ⟨h0, (ih _).mpr h1, (ih _).mpr h2, (ih _).mpr h3⟩⟩

theorem WpE.safe {Inv : S → Prop} (h : WpE sem Eq G p Q s) (hs : Inv s)
    (hG : ∀ t r, Inv t → G t r → Inv (sem.exec t r).1) : Safe sem Inv p s :=
  safe_iff_wpE.mpr ((h.inv hs (fun _ _ h e => e ▸ h) hG).mono (fun _ _ h => hG _ _ h.1 h.2) fun _ _ _ => trivial)

theorem Safe.mono {Inv Inv' : S → Prop} (h : Safe sem Inv p s) (himp : ∀ s, Inv s → Inv' s) : Safe sem Inv' p s :=
  safe_iff_wpE.mpr ((safe_iff_wpE.mp h).mono (fun _ _ => himp _) fun _ _ h => h)

theorem reach_safe (sem : Sem S Req Resp) (Inv : S → Prop)
    (plan : Plan) (k : Nat) (p : Prog Req Resp α) (s : S) (hs : Inv s) (hp : Safe sem Inv p s) :
    ∀ s' ∈ reach sem plan k p s, Inv s' := by
  rw [reach_eq_own, List.forall_mem_cons, List.forall_mem_map]
  exact ⟨hs, ((safe_iff_wpE.mp hp).run plan k).1⟩

theorem WpE.reach {Inv : S → Prop} (h : WpE sem Eq G p Q s) (hs : Inv s)
    (hG : ∀ t r, Inv t → G t r → Inv (sem.exec t r).1) (plan : Plan) (k : Nat) :
    ∀ s' ∈ reach sem plan k p s, Inv s' :=
  reach_safe sem Inv plan k p s hs (h.safe hs hG)

theorem Safe.of_issues (sem : Sem S Req Resp) (Inv : S → Prop) (Q : Req → Prop)
    (hstep : ∀ s r, Inv s → Q r → Inv (sem.exec s r).1) {p : Prog Req Resp α} (hp : Issues Q p) (s : S)
    (hs : Inv s) : Safe sem Inv p s := (hp.guar s).safe hs hstep

/-- If every request of class `Q` preserves `Inv`, then a program that only issues `Q`-requests
keeps `Inv` at every instant under every plan. -/
theorem reach_inv (sem : Sem S Req Resp) (Inv : S → Prop) (Q : Req → Prop)
    (hstep : ∀ s r, Inv s → Q r → Inv (sem.exec s r).1)
    (plan : Plan) (k : Nat) (p : Prog Req Resp α) (hp : Issues Q p) (s : S) (hs : Inv s) :
    ∀ s' ∈ reach sem plan k p s, Inv s' :=
  reach_safe sem Inv plan k p s hs (Safe.of_issues sem Inv Q hstep hp s hs)

theorem reach_eq_scanl (sem : Sem S Req Resp) (plan : Plan) (k : Nat) (p : Prog Req Resp α) (s : S) :
    reach sem plan k p s = (applied sem plan k p s).scanl (fun t r => (sem.exec t r).1) s := by
  induction p generalizing k s with
  | ret a => rfl
  | call r c ih => cases hk : plan k <;> simp [reach, applied, hk, ih]

theorem reach_of_inert (sem : Sem S Req Resp) (plan : Plan) (k : Nat) (p : Prog Req Resp α) (s : S)
    (h : ∀ r ∈ applied sem plan k p s, (sem.exec s r).1 = s) : ∀ s' ∈ reach sem plan k p s, s' = s := by
  rw [reach_eq_scanl]
  generalize applied sem plan k p s = rs at h
  induction rs with
  | nil => simp
  | cons r rs ih =>
    rw [List.scanl_cons, h r (List.mem_cons_self ..), List.forall_mem_cons]
    exact ⟨rfl, ih fun r hr => h r (List.mem_cons_of_mem _ hr)⟩

end plain

section seq
variable {β : Type} (sem : Sem S Req Resp) (plan : Plan)

theorem run_bind (p : Prog Req Resp α) (f : α → Prog Req Resp β) (k : Nat) (s : S) :
    (∃ a k', (run sem plan k p s).2 = some a ∧
      run sem plan k (Prog.bind p f) s = run sem plan k' (f a) (run sem plan k p s).1) ∨
    ((run sem plan k p s).2 = none ∧ run sem plan k (Prog.bind p f) s = ((run sem plan k p s).1, none)) := by
  have := runE_bind sem Env.none plan p f k s
  simp only [runE_none] at this
  exact this.imp (fun ⟨a, k', h1, h2, _⟩ => ⟨a, k', h1, h2⟩) fun ⟨h1, h2, _⟩ => ⟨h1, h2⟩

theorem mem_reach_bind (p : Prog Req Resp α) (f : α → Prog Req Resp β) (k : Nat) (s x : S)
    (h : x ∈ reach sem plan k (Prog.bind p f) s) :
    x ∈ reach sem plan k p s ∨
    ∃ a k', (run sem plan k p s).2 = some a ∧ x ∈ reach sem plan k' (f a) (run sem plan k p s).1 := by
  have := runE_bind sem Env.none plan p f k s
  simp only [runE_none] at this
  rw [reach_eq_own] at h ⊢
  rcases this with ⟨a, k', h1, _, h3⟩ | ⟨_, _, h3⟩
  · rw [h3, List.map_append, ← List.cons_append, List.mem_append] at h
    exact h.imp id fun h => ⟨a, k', h1, by rw [reach_eq_own]; exact List.mem_cons_of_mem _ h⟩
  · exact .inl (h3 ▸ h)

theorem reach_bind_inv (Inv : S → Prop) (p : Prog Req Resp α) (f : α → Prog Req Resp β) (k : Nat) (s : S)
    (hp : ∀ x ∈ reach sem plan k p s, Inv x)
    (hf : ∀ a k', (run sem plan k p s).2 = some a →
      ∀ x ∈ reach sem plan k' (f a) (run sem plan k p s).1, Inv x) :
    ∀ x ∈ reach sem plan k (Prog.bind p f) s, Inv x := fun x hx =>
  (mem_reach_bind sem plan p f k s x hx).elim (hp x) fun ⟨a, k', ha, h⟩ => hf a k' ha x h

end seq

/-- `Emits sem Q p s`: from store `s`, whatever the fault plan, every request `p` issues satisfies
`Q`. Unlike `Issues` the replies are the ones the store really gives, so knowledge gathered from
earlier reads can be used. -/
abbrev Emits (sem : Sem S Req Resp) (Q : Req → Prop) (p : Prog Req Resp α) (s : S) : Prop :=
  WpE sem Eq (fun _ r => Q r) p (fun _ _ => True) s

theorem Issues.emits {sem : Sem S Req Resp} {Q : Req → Prop} {p : Prog Req Resp α} (h : Issues Q p) (s : S) :
    Emits sem Q p s := h.guar s

theorem Emits.callLog {sem : Sem S Req Resp} {Q : Req → Prop} {p : Prog Req Resp α} {s : S}
    (h : Emits sem Q p s) (plan : Plan) (k : Nat) : ∀ e ∈ callLog sem plan k p s, Q e.1 :=
  fun e he => (WpE.callLog h plan k e he).elim fun _ hq => hq

theorem Emits.applied {sem : Sem S Req Resp} {Q : Req → Prop} {p : Prog Req Resp α} {s : S}
    (h : Emits sem Q p s) (plan : Plan) (k : Nat) : ∀ r ∈ applied sem plan k p s, Q r :=
  fun r hr => (WpE.applied h plan k r hr).elim fun _ hq => hq

/-- every path through `p` issues at most `n` calls -/
inductive Within : Nat → Prog Req Resp α → Prop
  | ret (n : Nat) (a : α) : Within n (.ret a)
  | call (n : Nat) (r : Req) (c : Resp → Prog Req Resp α) : (∀ x, Within n (c x)) → Within (n + 1) (.call r c)

theorem calls_le_of_within (sem : Sem S Req Resp) (plan : Plan) {n : Nat} {p : Prog Req Resp α}
    (h : Within n p) : ∀ (i : Nat) (s : S), calls sem plan i p s ≤ n := by
  induction h with
  | ret n a => exact fun _ _ => Nat.zero_le n
  | call n r c _ ih =>
    intro i s
    unfold calls
    have step : ∀ x j t, 1 + calls sem plan j (c x) t ≤ n + 1 := fun x j t => by have := ih x j t; omega
    cases plan i with
    | ok => exact step _ _ _
    | fail => exact step _ _ _
    | conflict => exact step _ _ _
    | crashBefore => exact Nat.succ_le_succ (Nat.zero_le n)
    | crashAfter => exact Nat.succ_le_succ (Nat.zero_le n)

theorem applied_eq_callLog (sem : Sem S Req Resp) (plan : Plan) (k : Nat) (p : Prog Req Resp α) (s : S) :
    applied sem plan k p s =
      ((callLog sem plan k p s).filter fun e => e.2.1 = .ok ∨ e.2.1 = .crashAfter).map (·.1) := by
  induction p generalizing k s with
  | ret a => rfl
  | call r c ih => cases hk : plan k <;> simp [applied, callLog, hk, ih]

theorem applied_sub_callLog (sem : Sem S Req Resp) (plan : Plan) :
    ∀ (p : Prog Req Resp α) (k : Nat) (s : S) (r : Req), r ∈ applied sem plan k p s →
      ∃ e ∈ callLog sem plan k p s, e.1 = r := fun p k s r h => by
  rw [applied_eq_callLog] at h
  obtain ⟨e, he, rfl⟩ := List.mem_map.mp h
  exact ⟨e, (List.mem_filter.mp he).1, rfl⟩

theorem applied_allOk_index (sem : Sem S Req Resp) (p : Prog Req Resp α) :
    ∀ (k : Nat) (s : S), applied sem Plan.allOk k p s = applied sem Plan.allOk 0 p s := by
  induction p with
  | ret a =>
    intro k s
    rfl
  | call r c ih =>
    intro k s
    simp only [applied, Plan.allOk]
    rw [ih, ih _ 1]

end Xp
