import Xp.Proofs.C20Ex
import Xp.Proofs.C20Init
import Xp.Proofs.C20World
import Xp.Proofs.C20Peer
import Xp.Gen.C20Init
import Xp.Gen.C20Skel
import Xp.Model.C20Skel
import Xp.Proofs.C20Src
/-
C20 property theorems: initialisation is idempotent and never duplicates or
clobbers existing state. The lemmas live in Xp/Proofs/C20*.lean.

Vocabulary (defined in Model/Proofs):
* `runSteps g steps n d` – Initializer.Init over a step list, `initSteps cfg` – the
  step list of core.initCommand.Run, `g` – the certificate generator parameter,
  `n` – the id of the next generated key pair;
* `reach sem plan k p s` – every store visible at any instant of running `p` from
  `s` under fault plan `plan` (any outcome at any API call); `history g steps runs
  s` – the same over a sequence of runs, each with its own plan;
* `evalOk p s` – the result of a fault-free run;
* interference (last section): `Env Store` – what OTHER clients (a concurrent peer initialiser) do to the store
  right before our API call number k; `runE sem env plan 0 p s` / `runP g steps env plan n s` – the run under that
  interference; `ownE sem env plan 0 p s` – our own applied calls, each with the store at the moment it was
  applied; `KeptFrom cas a b` – every secret that is `Protected` in `a` (complete; or not a CA secret and holding
  any of tls.crt / tls.key / ca.crt) is unchanged in `b`; `PeerKeeps cas env` – the rely: the peer never rewrites
  a protected secret. Every theorem above this section is about `run` = the case `Env.none` (`no_peer_is_plain_run`);
* other writers on every object and error classes (very last section): `semK e` – refused calls are answered with an
  error of class `e` (`sem` = `semK .other`), `semAny er` – with any reply whatsoever; `Untouched a b` – existing
  defaults, custom resources and undeclared fields of `a` are the same in `b`; `PeerUntouches env` – the rely for
  them; `x.2.pkgTarget` – the (kind, object name, reference) a package write goes to; `x.2.bundles` – the caBundles
  a CRD / webhook-configuration write carries; `bundleRefs steps` – the webhook TLS secrets they are read from.
-/
namespace Xp.C20
open Xp

/-! ### tie to the source -/

/-- The step list of `initSteps` was written from this transcript of core.initCommand.Run; the
right-hand side is regenerated from cmd/crossplane/core/init.go on every run. -/
theorem init_skeleton_matches : initSkeleton = Xp.Gen.c20InitSkeleton := by rfl

/-- initializer.DNSNamesForService, probed on the current tree. -/
theorem dns_names_for_service_matches : dnsNamesForService "svc" "ns" = Xp.Gen.c20DnsProbe := by decide

/-! ### regenerated call skeletons: every Go function the model mirrors still has the modelled calls

Left: extracted with go/ast from the current tree on every run (harness/main/c20_skel.go). Right: declared in
Model/C20Skel.lean, every entry with the model step that mirrors it. -/

theorem skeleton_init : Xp.Gen.c20SkelInit = skelInit := by rfl
theorem skeleton_step_func_run : Xp.Gen.c20SkelStepFuncRun = skelStepFuncRun := by rfl
theorem skeleton_tls_run : Xp.Gen.c20SkelTlsRun = skelTlsRun := by rfl
theorem skeleton_load_or_generate_ca : Xp.Gen.c20SkelLoadOrGenerateCA = skelLoadOrGenerateCA := by rfl
theorem skeleton_ensure_server_certificate : Xp.Gen.c20SkelEnsureServer = skelEnsureLeaf := by rfl
/-- the client certificate goes the same way as the server certificate (one model function `ensureLeaf`) -/
theorem skeleton_ensure_client_certificate : Xp.Gen.c20SkelEnsureClient = skelEnsureLeaf := by rfl
theorem skeleton_parse_certificate_signer : Xp.Gen.c20SkelParseSigner = skelParseSigner := by rfl
/-- CertGenerator.Generate (the real generator) is what `stdGen` mirrors … -/
theorem skeleton_generate : Xp.Gen.c20SkelGenerate = skelGenerate := by rfl
/-- … it signs the certificate asked for, for the fresh key, with the signer's key (`Generator.Sound`) … -/
theorem skeleton_create_certificate_args : Xp.Gen.c20CreateCertificateArgs = createCertificateArgs := by rfl
/-- … and tls.go asks it for a self-signed CA named crossplane-root-ca, resp. for non-CA certificates with the
configured server / client names signed by the signer that was loaded or generated -/
theorem skeleton_generator_calls :
    Xp.Gen.c20GenCallCA = genCallCA ∧ Xp.Gen.c20GenCallServer = genCallServer ∧ Xp.Gen.c20GenCallClient = genCallClient :=
  ⟨rfl, rfl, rfl⟩
/-- the generator these lists describe meets the assumption every certificate theorem makes of its generator -/
theorem cert_generator_model_sound : stdGen.Sound := by
  refine ⟨?_, ?_, ?_⟩
  · intro dns ca sg n kp c h
    cases sg with
    | none => simp [stdGen] at h; obtain ⟨rfl, rfl⟩ := h; exact ⟨rfl, rfl, rfl⟩
    | some sg =>
      simp only [stdGen] at h
      split at h
      · simp at h; obtain ⟨rfl, rfl⟩ := h; exact ⟨rfl, rfl, rfl⟩
      · cases h
  · intro dns ca n kp c h
    simp [stdGen] at h; obtain ⟨rfl, rfl⟩ := h; rfl
  · intro dns ca sg n kp c h
    simp only [stdGen] at h
    split at h
    · rename_i hk
      simp at h; obtain ⟨rfl, rfl⟩ := h; exact ⟨rfl, hk⟩
    · cases h
theorem skeleton_apply : Xp.Gen.c20SkelApply = skelApply := by rfl
theorem skeleton_crds_run : Xp.Gen.c20SkelCrdsRun = skelCrdsRun := by rfl
theorem skeleton_webhook_configurations_run : Xp.Gen.c20SkelWhcsRun = skelWhcsRun := by rfl
theorem skeleton_migrator_run : Xp.Gen.c20SkelMigratorRun = skelMigratorRun := by rfl
theorem skeleton_lock_run : Xp.Gen.c20SkelLockRun = skelLockRun := by rfl
theorem skeleton_store_config_run : Xp.Gen.c20SkelStoreConfigRun = skelCreateIfAbsent := by rfl
theorem skeleton_deployment_runtime_config : Xp.Gen.c20SkelDrcRun = skelCreateIfAbsent := by rfl
/-- the only error class the two create-if-absent steps tolerate is AlreadyExists -/
theorem skeleton_ignored_errors : Xp.Gen.c20IgnoredErrors = ignoredErrors := by rfl
theorem skeleton_installer_run : Xp.Gen.c20SkelInstallerRun = skelInstallerRun := by rfl
theorem skeleton_build_pack : Xp.Gen.c20SkelBuildPack = skelBuildPack := by rfl
theorem skeleton_parse_package_source : Xp.Gen.c20SkelParseSource = skelParseSource := by rfl
theorem skeleton_to_dns_label : Xp.Gen.c20SkelToDNSLabel = skelToDNSLabel := by rfl

/-! #### the API calls of the declared skeletons are the request sequences of the model's own programs

`pathVerbs pre reply fuel p` lists the client verbs of the requests program `p` issues when every call is answered
by `reply` (`replyAbsent`: nothing exists; `replyPresent old`: everything exists, empty); `apiOnly pre l` keeps the
client calls of a declared skeleton. Create and Update / Patch are the two branches after the same Get. -/

/-- CoreCRDsMigrator.Run: Get, List, Patch (per resource), Status().Patch, Get – the whole of `migrateStep` -/
theorem skeleton_migrator_from_model :
    apiOnly "kube." skelMigratorRun
      = pathVerbs "kube." (replyPresent "v1alpha1") 9 (migrateStep "locks.pkg.crossplane.io" "v1alpha1") := by decide +kernel

/-- loadOrGenerateCA: Get + Create (no secret) and Get + Update (incomplete secret) of `loadOrGenerateCA` -/
theorem skeleton_load_or_generate_ca_from_model :
    apiOnly "kube." skelLoadOrGenerateCA
      = pathVerbs "kube." replyAbsent 9 (loadOrGenerateCA stdGen "ca" 7)
        ++ (pathVerbs "kube." (replyPresent "") 9 (loadOrGenerateCA stdGen "ca" 7)).drop 1 := by decide +kernel

/-- ensureServerCertificate / ensureClientCertificate: Get + Create and Get + Update of `ensureLeaf` -/
theorem skeleton_ensure_leaf_from_model :
    apiOnly "kube." skelEnsureLeaf
      = pathVerbs "kube." replyAbsent 9 (ensureLeaf stdGen ⟨"tls", ["svc"]⟩ ⟨7, ⟨7, 7, [], true⟩⟩ 8)
        ++ (pathVerbs "kube." (replyPresent "") 9 (ensureLeaf stdGen ⟨"tls", ["svc"]⟩ ⟨7, ⟨7, 7, [], true⟩⟩ 8)).drop 1 := by decide +kernel

/-- APIPatchingApplicator.Apply: [the nameless-object Create,] Get + Create and Get + Patch – the same for the four
users `applyCrd`, `applyWhc`, `applyPkg`, `lockStep` -/
theorem skeleton_apply_from_model :
    let viaCrd := fun reply => pathVerbs "client." reply 9 (applyCrd ⟨"c", 1, [("v1", true)], false⟩ .empty)
    let viaWhc := fun reply => pathVerbs "client." reply 9 (applyWhc ⟨.validating, "w", ["h"]⟩ .empty ⟨"s", "ns", 1⟩)
    let viaPkg := fun reply => pathVerbs "client." reply 9 (applyPkg .provider ("p", ⟨"", "a/b", "", false, "a/b", "a/b"⟩))
    let viaLock := fun reply => pathVerbs "client." reply 9 lockStep
    ∀ via ∈ [viaCrd, viaWhc, viaPkg, viaLock],
      apiOnly "client." skelApply = "client.Create" :: (via replyAbsent ++ (via (replyPresent "")).drop 1) := by decide +kernel

/-- StoreConfigObject.Run / DefaultDeploymentRuntimeConfig: the one Create of `createIfAbsent` -/
theorem skeleton_create_if_absent_from_model :
    apiOnly "kube." skelCreateIfAbsent = pathVerbs "kube." replyAbsent 9 (scStep "ns") ∧
    apiOnly "kube." skelCreateIfAbsent = pathVerbs "kube." replyAbsent 9 drcStep := by decide +kernel

/-- PackageInstaller.Run: the three Lists of `installWith` (the applies are `skeleton_apply_from_model`) -/
theorem skeleton_installer_from_model :
    apiOnly "kube." skelInstallerRun = pathVerbs "kube." replyAbsent 9 (installStep [] [] []) := by decide +kernel

/-- CoreCRDs.Run / WebhookConfigurations.Run: the Get of the webhook TLS secret (`getBundle`), first -/
theorem skeleton_bundle_from_model :
    apiOnly "kube." skelCrdsRun = pathVerbs "kube." replyAbsent 9 (crdsStep (some "tls") ⟨false, []⟩) ∧
    apiOnly "kube." skelWhcsRun = pathVerbs "kube." replyAbsent 9 (whcsStep "tls" ⟨"s", "ns", 1⟩ ⟨false, []⟩) := by decide +kernel

/-! ### existing TLS material is kept (for every fault plan, over every history of runs) -/

/-- An existing, complete certificate authority is never regenerated: at every instant of every
sequence of runs (each aborted anywhere or not) the CA secret – any secret holding both tls.crt and
tls.key – is exactly what it was. -/
theorem ca_kept (g : Generator) (steps : List Step) (runs : List (Plan × Nat)) (s : Store)
    (ca : String) (sec : Secret) (h : findSecret s ca = some sec) (hc : isComplete sec = true) :
    ∀ x ∈ history g steps runs s, findSecret x ca = some sec := by
  intro x hx
  exact kept_history g steps runs s x hx ca sec h (Or.inl hc)

/-- Existing TLS certificates are kept: a secret (other than a CA secret) that holds any of
tls.crt / tls.key / ca.crt is never rewritten. -/
theorem certs_kept (g : Generator) (steps : List Step) (runs : List (Plan × Nat)) (s : Store)
    (name : String) (sec : Secret) (hn : name ∉ caNames steps)
    (h : findSecret s name = some sec) (hm : hasMaterial sec = true) :
    ∀ x ∈ history g steps runs s, findSecret x name = some sec := by
  intro x hx
  refine kept_history g steps runs s x hx name sec h (Or.inr ⟨?_, hm⟩)
  have : sec.name = name := find_name h
  rw [this]; exact hn

/-! ### default objects and foreign fields are left untouched -/

/-- Lock, default StoreConfig and default DeploymentRuntimeConfig that already exist are left
exactly as they are; custom resources are never changed; the fields of packages, CRDs and webhook
configurations that the initializer does not declare survive every run. -/
theorem defaults_untouched (g : Generator) (steps : List Step) (runs : List (Plan × Nat)) (s : Store) :
    ∀ x ∈ history g steps runs s,
      (∀ v, s.lock = some v → x.lock = some v) ∧
      (∀ v, s.sc = some v → x.sc = some v) ∧
      (∀ v, s.drc = some v → x.drc = some v) ∧
      x.crs = s.crs ∧
      (∀ k n p, findPkg s k n = some p → ∃ p', findPkg x k n = some p' ∧ p'.extra = p.extra) ∧
      (∀ n c, findCrd s n = some c → ∃ c', findCrd x n = some c' ∧ c'.extra = c.extra) ∧
      (∀ k n w, findWhc s k n = some w → ∃ w', findWhc x k n = some w' ∧ w'.extra = w.extra) :=
  untouched_history g steps runs s

/-! ### packages -/

/-- The repaired lookup: an image whose source is installed (under any object name) resolves to
the name of an installed package with that source. -/
theorem requested_image_resolves_to_installed_name (pl : List Pkg) (r : Ref)
    (h : ∃ q ∈ pl, ∃ r', q.ref = some r' ∧ r'.src = r.src) :
    ∃ q ∈ pl, (∃ r', q.ref = some r' ∧ r'.src = r.src) ∧ resolve (buildIndex pl) r = q.name :=
  resolve_hits pl r h

/-- A requested image whose source is already installed is never installed a second time: at every
instant of the installer step, under every fault plan, every package whose source was installed
at the start carries the name of a package that existed at the start. -/
theorem no_second_package (plan : Plan) (k : Nat) (s : Store) (p c f : List Img) :
    ∀ x ∈ reach sem plan k (installStep p c f) s,
      ∀ q ∈ x.pkgs, ∀ r, q.ref = some r →
        (∃ q' ∈ s.pkgs, q'.kind = q.kind ∧ ∃ r', q'.ref = some r' ∧ r'.src = r.src) →
        ∃ q0 ∈ s.pkgs, q0.kind = q.kind ∧ q0.name = q.name := by
  intro x hx q hq r hr hi
  rcases installStep_cases plan k s p c f x hx with rfl | ⟨l, hb, h1, _⟩
  · exact ⟨q, hq, rfl, rfl⟩
  · -- an original, or it carries a request, whose name is the one the source resolved to at the start
    rcases h1 q hq with hin | ⟨nr, hnr, hname, href⟩
    · exact ⟨q, hin, rfl, rfl⟩
    · cases hr.symm.trans href
      obtain ⟨q0, h0, hk, hn0⟩ := resolved_name_installed s q.kind nr.2 hi
      exact ⟨q0, h0, hk, hn0.trans ((hb.names q.kind nr hnr).symm.trans hname)⟩

/-- D9 (installer.go at the pinned commit): the index is keyed by the parsed source but looked up
by the repository only, so a host-qualified image installed under a custom name is installed a
second time. Witness: provider `my-aws` = xpkg.upbound.io/crossplane/provider-aws:v1.0.0, request
xpkg.upbound.io/crossplane/provider-aws:v1.1.0. -/
theorem no_second_package_fails_on_unfixed_witness :
    let r0 : Ref := ⟨"xpkg.upbound.io", "crossplane/provider-aws", "v1.0.0", false,
      "xpkg.upbound.io/crossplane/provider-aws:v1.0.0", "xpkg.upbound.io/crossplane/provider-aws"⟩
    let r1 : Ref := ⟨"xpkg.upbound.io", "crossplane/provider-aws", "v1.1.0", false,
      "xpkg.upbound.io/crossplane/provider-aws:v1.1.0", "xpkg.upbound.io/crossplane/provider-aws"⟩
    let s : Store := ⟨[], [⟨.provider, "my-aws", r0.str, some r0, 3⟩], [], [], [], none, none, none⟩
    let x := (evalOk (installStepDefective [⟨r1.str, some r1⟩] [] []) s).1
    ¬ (∀ q ∈ x.pkgs, ∀ r, q.ref = some r →
        (∃ q' ∈ s.pkgs, q'.kind = q.kind ∧ ∃ r', q'.ref = some r' ∧ r'.src = r.src) →
        ∃ q0 ∈ s.pkgs, q0.kind = q.kind ∧ q0.name = q.name) := by
  intro r0 r1 s x h
  obtain ⟨q0, hq0, _, hn⟩ := h ⟨.provider, "crossplane-provider-aws", r1.str, some r1, 0⟩ (by decide +kernel) r1 rfl
    ⟨⟨.provider, "my-aws", r0.str, some r0, 3⟩, List.mem_singleton_self _, rfl, r0, rfl, rfl⟩
  rw [List.mem_singleton.1 hq0] at hn
  exact absurd hn (by decide)

/-! #### the package source (xpkg.ParsePackageSourceFromReference) is `[host/]path`: inside the model

`Ref.src` is not an input: the driver computes it with `parseSource` (the Go function's string logic over
ref.String(), the reference as written) and the observation compares it with the real function for every image
and every installed package. `Written` = the parts of a reference as written, `[host/]path[:tag][@digest]`. -/

/-- **The source is the reference without its identifier, nothing else changed** – with a tag, a digest, both or
neither, with or without a registry host, with or without a port (D14 lived here: a tag survived next to a digest). -/
theorem parse_source_strips_identifier (w : Written) (h : w.WF) :
    parseSource (String.ofList w.chars) = String.ofList w.repoChars := by
  simp [parseSource, parseSourceChars_written w h]

/-- Same host and same repository path as written – any tags, any digests – same source … -/
theorem same_repository_same_source (w w' : Written) (h : w.WF) (h' : w'.WF) (hh : w.host = w'.host) (hp : w.path = w'.path) :
    parseSource (String.ofList w.chars) = parseSource (String.ofList w'.chars) := by
  simp [parseSource, parseSourceChars_same_repository w w' h h' hh hp]

/-- … and only then: the source determines host and path. -/
theorem same_source_same_repository (w w' : Written) (h : w.WF) (h' : w'.WF)
    (he : parseSource (String.ofList w.chars) = parseSource (String.ofList w'.chars)) : w.repoChars = w'.repoChars := by
  simp only [parseSource, String.toList_ofList] at he
  exact parseSourceChars_injective w w' h h' (String.ofList_injective he)

/-- **No second package, over the reference as written**: a requested image whose host and repository path – whatever
its tag and / or digest, and whatever theirs – are those of a listed package is applied to the object name of a
listed package of that source: under any object name, for any registry host, for every reference form. -/
theorem no_second_package_for_any_reference_form (pl : List Pkg) (r r' : Ref) (w w' : Written) (q : Pkg)
    (hq : q ∈ pl) (hqr : q.ref = some r')
    (hs : r.src = parseSource r.str) (hs' : r'.src = parseSource r'.str)
    (hw : r.str = String.ofList w.chars) (hw' : r'.str = String.ofList w'.chars)
    (h : w.WF) (h' : w'.WF) (hh : w.host = w'.host) (hp : w.path = w'.path) :
    ∃ q ∈ pl, (∃ r'', q.ref = some r'' ∧ r''.src = r.src) ∧ resolve (buildIndex pl) r = q.name :=
  requested_image_resolves_to_installed_name pl r
    ⟨q, hq, r', hqr, by rw [hs, hs', hw, hw']; exact same_repository_same_source w' w h' h hh.symm hp.symm⟩

/-- … and over the whole run, at every instant, under every fault plan: every package in the store whose reference –
as written: any host, any tag and / or digest – names a repository that a package of that kind named at the start
(again: whatever its tag / digest) has the object name of a package that existed at the start. -/
theorem no_second_package_written (plan : Plan) (k : Nat) (s : Store) (p c f : List Img) :
    ∀ x ∈ reach sem plan k (installStep p c f) s,
      ∀ q ∈ x.pkgs, ∀ r, q.ref = some r → r.src = parseSource r.str →
        ∀ w : Written, w.WF → r.str = String.ofList w.chars →
        (∃ q' ∈ s.pkgs, q'.kind = q.kind ∧ ∃ r', ∃ w' : Written, q'.ref = some r' ∧ r'.src = parseSource r'.str ∧ w'.WF ∧
            r'.str = String.ofList w'.chars ∧ w'.host = w.host ∧ w'.path = w.path) →
        ∃ q0 ∈ s.pkgs, q0.kind = q.kind ∧ q0.name = q.name := by
  intro x hx q hq r hr hs w hw hstr ⟨q', hq', hk, r', w', hr', hs', hw', hstr', hh, hp⟩
  exact no_second_package plan k s p c f x hx q hq r hr
    ⟨q', hq', hk, r', hr', by rw [hs, hs', hstr, hstr']; exact same_repository_same_source w' w hw' hw hh hp⟩

/-- The hypothesis `r.src = parseSource r.str` (`Ref.Parsed`) of the theorems above is an invariant of the installer:
it holds of every package in the store at every instant of its run, under every fault plan, if it holds of the
packages the run starts from and of the requested images (the driver builds both that way: `refOf`). -/
theorem package_sources_stay_parsed (plan : Plan) (k : Nat) (s : Store) (p c f : List Img)
    (hs : ParsedStore s) (hp : ParsedImgs p) (hc : ParsedImgs c) (hf : ParsedImgs f) :
    ∀ x ∈ reach sem plan k (installStep p c f) s, ParsedStore x := by
  intro x hx q hq r hr
  rcases installStep_cases plan k s p c f x hx with rfl | ⟨l, hb, h1, _⟩
  · exact hs q hq r hr
  · rcases h1 q hq with hin | ⟨nr, hnr, _, href⟩
    · exact hs q hin r hr
    · cases hr.symm.trans href
      exact buildAll_parsed _ _ _ _ (hb q.kind) (by cases q.kind <;> assumption) nr hnr

/-- non-vacuity: `a/b:v1@s:0` installed, `a/b` requested, sources computed -/
example :
    let r' : Ref := ⟨"", "a/b", "s:0", true, String.ofList ['a','/','b',':','v','1','@','s',':','0'], String.ofList ['a','/','b']⟩
    let r : Ref := ⟨"", "a/b", "latest", false, String.ofList ['a','/','b'], String.ofList ['a','/','b']⟩
    ParsedStore { (default : Store) with pkgs := [⟨.provider, "mine", r'.str, some r', 3⟩] } ∧ ParsedImgs [⟨r.str, some r⟩] := by
  refine ⟨?_, ?_⟩
  · intro q hq r hr
    simp at hq; subst hq; simp at hr; subst hr
    simp only [Ref.Parsed, parseSource]
    exact congrArg String.ofList (by decide)
  · intro i hi r hr
    simp at hi; subst hi; simp at hr; subst hr
    simp only [Ref.Parsed, parseSource]
    exact congrArg String.ofList (by decide)

/-- D14 (repaired by fixes/D14.diff, which `parseSource` mirrors): the function as found at the pinned commit keeps
the tag of a reference that carries a tag and a digest (`a/b:v1@s:0`, identifier = the digest `s:0`), and trims the
default identifier off an untagged repository that ends in it (`a/latest`, identifier `latest`) – in both cases the
source differs from the one of the same repository written without identifier. -/
theorem parse_source_fails_on_unfixed_witness :
    parseSourceCharsDefective ['a','/','b',':','v','1','@','s',':','0'] ['s',':','0'] ≠ parseSourceCharsDefective ['a','/','b'] ['l','a','t','e','s','t'] ∧
    parseSourceChars ['a','/','b',':','v','1','@','s',':','0'] = parseSourceChars ['a','/','b'] ∧
    parseSourceCharsDefective ['a','/','l','a','t','e','s','t'] ['l','a','t','e','s','t'] ≠ ['a','/','l','a','t','e','s','t'] ∧
    parseSourceChars ['a','/','l','a','t','e','s','t'] = ['a','/','l','a','t','e','s','t'] := by decide +kernel

/-- non-vacuity: `r.io:5/x/aws:v1@sha:0a` (port, tag AND digest) installed and `r.io:5/x/aws` (no identifier)
requested – both well-formed, sources computed -/
example :
    let host := ['r','.','i','o',':','5']
    let path := ['x','/','a','w','s']
    let w' : Written := ⟨host, path, some ['v','1'], some ['s','h','a',':','0','a']⟩
    let w : Written := ⟨host, path, none, none⟩
    w.WF ∧ w'.WF ∧ parseSourceChars w'.chars = host ++ '/' :: path ∧ parseSourceChars w.chars = host ++ '/' :: path := by
  refine ⟨⟨by decide, by decide, by decide, by decide, by intro t ht; cases ht⟩,
    ⟨by decide, by decide, by decide, by decide, by intro t ht; cases ht; decide⟩, by decide, by decide⟩

/-! ### newly issued certificates chain to the stored CA and cover the DNS names -/

/-- Newly issued certificates chain to the stored authority: whenever a TLS secret (other than the
CA secret) differs from what it was at the start – at any instant of any sequence of runs, each
under any fault plan – it holds a certificate signed by the key pair of the certificate stored,
complete, in the CA secret, its private key, and that very CA certificate as ca.crt.
(`g.Sound`: the generator signs with the signer it is given; x509 itself is checked by test only.) -/
theorem new_certs_chain_to_stored_ca (g : Generator) (hg : g.Sound) (steps : List Step) (ca : String)
    (hca : ∀ c ∈ caNames steps, c = ca) (runs : List (Plan × Nat)) (s : Store) :
    ∀ x ∈ history g steps runs s, ∀ name, name ≠ ca → findSecret x name ≠ findSecret s name →
      ∃ sec C l c, findSecret x ca = some sec ∧ isComplete sec = true ∧ sec.crt = .cert C ∧
        findSecret x name = some l ∧ l.crt = .cert c ∧ l.key = .key c.kp ∧ l.ca = .cert C ∧ c.signedBy = C.kp := by
  intro x hx name hn hne
  obtain ⟨sec, C, l, c, _, h1, h2, h3, h4, h5, h6, h7, h8, _⟩ := issued_history g hg steps ca hca runs s x hx name hn hne
  exact ⟨sec, C, l, c, h1, h2, h3, h4, h5, h6, h7, h8⟩

/-- ... and cover the service's DNS names: the certificate of such a secret carries exactly the DNS
names some TLS step of the list configures for that secret. -/
theorem dns_covered (g : Generator) (hg : g.Sound) (steps : List Step) (ca : String)
    (hca : ∀ c ∈ caNames steps, c = ca) (runs : List (Plan × Nat)) (s : Store) :
    ∀ x ∈ history g steps runs s, ∀ name, name ≠ ca → findSecret x name ≠ findSecret s name →
      ∃ l c ref, findSecret x name = some l ∧ l.crt = .cert c ∧ ref ∈ leafRefs steps ∧ ref.name = name ∧ c.dns = ref.dns := by
  intro x hx name hn hne
  obtain ⟨_, _, l, c, ref, _, _, _, h4, h5, _, _, _, h9, h10, h11⟩ := issued_history g hg steps ca hca runs s x hx name hn hne
  exact ⟨l, c, ref, h4, h5, h9, h10, h11⟩

/-- For the step list of core.initCommand.Run the CA is `cfg.ca` and the webhook server certificate is
issued for DNSNamesForService(service, namespace) (the server secret being neither the client nor the ESS secret). -/
theorem init_tls_names (cfg : Cfg) :
    (∀ c ∈ caNames (initSteps cfg), c = cfg.ca) ∧
    (∀ ref ∈ leafRefs (initSteps cfg), ref.name = cfg.server → cfg.server ≠ cfg.client → cfg.server ≠ cfg.ess →
      ref.dns = dnsNamesForService cfg.svcName cfg.svcNs) := by
  constructor
  · intro c hc
    obtain ⟨st, hst, hc⟩ := mem_collect_inv rfl caNames_cons hc
    rcases mem_initSteps.mp hst with rfl | rfl | ⟨_, rfl⟩ | ⟨m, _, rfl⟩ | ⟨_, rfl⟩ | rfl | rfl | rfl | rfl <;>
      simp [caNames] at hc <;> exact hc
  · intro ref href hname hcl hess
    obtain ⟨st, hst, href⟩ := mem_collect_inv rfl leafRefs_cons href
    rcases mem_initSteps.mp hst with rfl | rfl | ⟨_, rfl⟩ | ⟨m, _, rfl⟩ | ⟨_, rfl⟩ | rfl | rfl | rfl | rfl <;>
      simp [leafRefs, optRefs] at href
    · -- the core TLS step: the server reference (webhooks on), or the client reference
      rcases href with ⟨_, rfl⟩ | rfl
      · rfl
      · exact absurd hname.symm hcl
    · -- the ESS TLS step
      subst href
      exact absurd hname.symm hess

/-! ### idempotence -/

/-- Every step is idempotent: after a completed run of the step, running it again (with any nonce)
returns success, generates nothing (the nonce comes back unchanged) and leaves the store exactly
as it is at every instant – no write changes anything.
(`StepHyp`: a CRD / webhook directory declares every object once; the requested packages are
pairwise distinct and not already installed twice.) -/
theorem step_idempotent (g : Generator) (st : Step) (s t : Store) (n n' : Nat) (hyp : StepHyp st s)
    (h : run sem Plan.allOk 0 (st.prog g n) s = (t, some (Res.ok, n'))) :
    ∀ m, run sem Plan.allOk 0 (st.prog g m) t = (t, some (Res.ok, m)) ∧
         ∀ x ∈ reach sem Plan.allOk 0 (st.prog g m) t, x = t := by
  have h' := evalOk_of_run h
  exact fun m => (step_fix g m st t (step_establishes g n n' st s t hyp h')).run

/-- Initialisation is idempotent: after a completed run of Crossplane's initialisation (from ANY
cluster state) a second run yields the same store, completes, generates no certificate, and no
write of it changes anything at any instant. -/
theorem init_idempotent (g : Generator) (cfg : Cfg) (s t : Store) (n n' d : Nat) (hyp : InitHyp cfg s)
    (h : run sem Plan.allOk 0 (initProg g cfg n) s = (t, some (Res.ok, n', d))) :
    ∀ m, run sem Plan.allOk 0 (initProg g cfg m) t = (t, some (Res.ok, m, d)) ∧
         ∀ x ∈ reach sem Plan.allOk 0 (initProg g cfg m) t, x = t :=
  (rerun_after_history g cfg s hyp [] s (List.mem_singleton_self s) h).2.1

/-- The post-condition of a completed step survives every later step that is `okAfter` it (all
pairs of core.initCommand.Run are when the webhook TLS secret is not the CA secret: `initSteps_pairwise`),
at every instant and under every fault plan: an error, a conflict or a crash of a later step never
destroys what an earlier step established. -/
theorem completed_steps_stay_done (g : Generator) (n : Nat) (a b : Step) (h : okAfter a b = true)
    (plan : Plan) (k : Nat) (s : Store) (hd : StepDone a s) :
    ∀ x ∈ reach sem plan k (b.prog g n) s, StepDone a x :=
  done_stable g n a b h plan k s hd

/-- The hypotheses of idempotence are themselves stable: they hold at every instant of every
(aborted) initialisation run of a cluster that satisfies them – a crash in the middle of the package
installer never leaves a store in which the requested images collide or a source is installed twice. -/
theorem hypotheses_survive_any_abort (g : Generator) (cfg : Cfg) (plan : Plan) (n : Nat) (s : Store) (hyp : InitHyp cfg s) :
    ∀ x ∈ reach sem plan 0 (initProg g cfg n) s, InitHyp cfg x :=
  initHyp_reach g cfg plan 0 n 0 s hyp

/-- Crash, then re-run: let a run be aborted anywhere (any outcome at any API call: error, conflict,
crash before or after the call took effect) and let a fault-free run from the store it left behind
complete. Then that run reaches the same post-condition as an undisturbed initialisation – every
step's `StepDone` – which is a fixpoint of the initialisation; existing TLS material of the original
cluster is still in place, and defaults / foreign fields are untouched.
(That the re-run completes whenever the undisturbed run would is checked by monitor only.) -/
theorem crash_then_rerun (g : Generator) (cfg : Cfg) (s : Store) (plan : Plan) (n m m' d : Nat) (t : Store)
    (hyp : InitHyp cfg s)
    (h : run sem Plan.allOk 0 (initProg g cfg m) (run sem plan 0 (initProg g cfg n) s).1 = (t, some (Res.ok, m', d))) :
    (∀ a ∈ initSteps cfg, StepDone a t) ∧
    (∀ k, run sem Plan.allOk 0 (initProg g cfg k) t = (t, some (Res.ok, k, d))) ∧
    KeptFrom (caNames (initSteps cfg)) s t ∧ Untouched s t := by
  obtain ⟨hd, hfix, hk, hu⟩ := rerun_after_history g cfg s hyp [(plan, n)] _
    (List.mem_append_left _ (run_mem_reach sem plan 0 (initProg g cfg n) s)) h
  exact ⟨hd, fun k => (hfix k).1, hk, hu⟩

/-! ### the CA bundle -/

/-- Core CRDs and webhook configurations end up carrying the current CA bundle: after a completed
initialisation with webhooks enabled the webhook TLS secret holds a non-empty tls.crt, every declared
CRD with webhook conversion carries it as caBundle, and every declared webhook configuration (that
declares webhooks) consists of exactly its declared webhooks, each with that bundle and the
configured service. -/
theorem ca_bundle_injected (g : Generator) (cfg : Cfg) (s t : Store) (n n' d : Nat) (hyp : InitHyp cfg s)
    (hw : cfg.webhook = true)
    (h : run sem Plan.allOk 0 (initProg g cfg n) s = (t, some (Res.ok, n', d))) :
    ∃ sec, findSecret t cfg.server = some sec ∧ sec.crt ≠ .empty ∧
      (∀ f, FileObj.crd f ∈ cfg.crdDir.objs → f.conv = true →
        ∃ c, findCrd t f.name = some c ∧ c.conv = true ∧ c.bundle = sec.crt) ∧
      (∀ f, FileObj.whc f ∈ cfg.whcDir.objs → f.hooks ≠ [] →
        ∃ w, findWhc t f.kind (whcName f) = some w ∧
          w.hooks = desiredHooks f sec.crt ⟨cfg.svcName, cfg.svcNs, cfg.svcPort⟩) :=
  bundle_of_done hw (init_done g cfg s t n n' d hyp (evalOk_of_run h)).1

/-! ### non-vacuity -/

/-- the repaired installer on the D9 witness updates `my-aws` in place -/
example :
    let r0 : Ref := ⟨"xpkg.upbound.io", "crossplane/provider-aws", "v1.0.0", false,
      "xpkg.upbound.io/crossplane/provider-aws:v1.0.0", "xpkg.upbound.io/crossplane/provider-aws"⟩
    let r1 : Ref := ⟨"xpkg.upbound.io", "crossplane/provider-aws", "v1.1.0", false,
      "xpkg.upbound.io/crossplane/provider-aws:v1.1.0", "xpkg.upbound.io/crossplane/provider-aws"⟩
    let s : Store := ⟨[], [⟨.provider, "my-aws", r0.str, some r0, 3⟩], [], [], [], none, none, none⟩
    (evalOk (installStep [⟨r1.str, some r1⟩] [] []) s).1.pkgs = [⟨.provider, "my-aws", r1.str, some r1, 3⟩] := by
  decide +kernel


/-- the generator used to replay real runs satisfies the soundness assumption -/
example : stdGen.Sound := cert_generator_model_sound

/-- `exCfg` / `exStore` (Proofs/C20Ex.lean): webhooks on, one CRD with webhook conversion, two webhook
configurations, a host-qualified provider already installed under a custom name, a partially initialised
cluster. The hypotheses of `init_idempotent` / `ca_bundle_injected` hold for it and the run completes. -/
example : (run sem Plan.allOk 0 (initProg stdGen exCfg 100) exStore).2.map (·.1) = some Res.ok := by decide +kernel

example : InitHyp exCfg exStore := by
  refine ⟨fun _ => by decide, by decide, by decide, ?_, ?_, ?_, ?_⟩
  · intro l hl
    have : buildAll resolve (buildIndex (listing exStore .provider)) exCfg.p = some [("my-aws", ⟨"xpkg.upbound.io", "crossplane/provider-aws", "v1.1.0", false,
      "xpkg.upbound.io/crossplane/provider-aws:v1.1.0", "xpkg.upbound.io/crossplane/provider-aws"⟩)] := by decide +kernel
    rw [this] at hl; cases hl; decide
  · intro l hl
    have : buildAll resolve (buildIndex (listing exStore .configuration)) exCfg.c = some [] := by decide +kernel
    rw [this] at hl; cases hl; decide
  · intro l hl
    have : buildAll resolve (buildIndex (listing exStore .function)) exCfg.f = some [] := by decide +kernel
    rw [this] at hl; cases hl; decide
  · intro q hq q' hq' _ _ _ _
    simp [exStore] at hq hq'
    rw [hq, hq']

/-- ... it updates `my-aws` in place, keeps the CA, issues a server certificate chained to it with the
service's DNS names, and a run crashed after its 8th API call and then repeated completes with the
same packages, CRDs and webhook configurations -/
example :
    let t := (run sem Plan.allOk 0 (initProg stdGen exCfg 100) exStore).1
    let r := run sem Plan.allOk 0 (initProg stdGen exCfg 200) (run sem (Plan.at 7 .crashAfter) 0 (initProg stdGen exCfg 100) exStore).1
    t.pkgs.map (fun p => (p.name, p.raw, p.extra)) = [("my-aws", "xpkg.upbound.io/crossplane/provider-aws:v1.1.0", 3)] ∧
    findSecret t "crossplane-root-ca" = findSecret exStore "crossplane-root-ca" ∧
    (findSecret t "crossplane-tls-server").map (·.crt) = some (.cert ⟨100, 1, ["crossplane-webhooks", "crossplane-webhooks.crossplane-system", "crossplane-webhooks.crossplane-system.svc"], false⟩) ∧
    r.2.map (·.1) = some Res.ok ∧ r.1.pkgs = t.pkgs ∧ r.1.crds = t.crds ∧ r.1.whcs.map (·.name) = t.whcs.map (·.name) := by
  decide +kernel

/-! ### interference by a concurrent peer initialiser

Crossplane runs this initialisation in several pods at once (core and rbac-manager init containers,
replicas, old and new pod of a rolling update). An `AlreadyExists` answer to a Create – after a Get that
said NotFound – can only come from such a peer, and so can a Conflict answer to an Update that nobody
injected. The theorems of this section quantify over ALL stores, fault plans and peer interference
(`Env Store`: any change of the store before any of our calls).

What survives and what does not:
* (a) `own_writes_never_clobber` holds for EVERY environment – it is the guarantee of our own calls;
* `ca_kept` / `certs_kept` survive under the rely `PeerKeeps` (`existing_tls_kept_under_interference`) and
  are false without it (example with `pxRogue` below): they are a joint property of all initialisers;
* `new_certs_chain_to_stored_ca` / `dns_covered` ("every secret that differs from the start is chained")
  do NOT survive, even under the rely: a secret may differ because the peer filled it (example with
  `pxForeign`). Their replacement is (b) `own_certs_chain_under_interference`, about the secrets WE wrote;
* "a run completes whenever the undisturbed run would" (monitor C20:rerun-failed, assumed by
  `crash_then_rerun`) does NOT survive: the run whose Create is refused aborts (example with `pxPeer`) – that is
  the intended behaviour; what holds instead is (c) `rerun_after_peer_abort_converges`;
* `step_idempotent` / `init_idempotent` / `ca_bundle_injected` / `completed_steps_stay_done` speak about
  interference-free runs and are unaffected as stated; read with a peer acting during the second run they
  fail trivially (the peer's writes change the store). `defaults_untouched` and `no_second_package` as stated do
  not survive a writer that touches packages / defaults; their replacements are in the LAST section
  (`defaults_untouched_under_interference`, `no_second_package_under_interference`). -/

/-- The interference-free semantics is the special case of no peer: every theorem above is a theorem
about `runP … Env.none`. -/
theorem no_peer_is_plain_run (g : Generator) (steps : List Step) (plan : Plan) (n : Nat) (s : Store) :
    runP g steps Env.none plan n s = run sem plan 0 (runSteps g steps n 0) s :=
  runE_none sem plan 0 _ s

/-- (a) An existing CA and existing certificates are never overwritten – stated about the write requests
the run issues, for EVERY store, fault plan and EVERY interference (no rely): each own applied call
leaves every secret that is protected AT THE MOMENT OF THE CALL exactly as it is; and an own secret write
that changes the store is either a Create of an object that is absent at that moment, or an Update of
exactly the object this run read (unchanged since: the resourceVersion precondition), which was not
protected – an incomplete CA secret, or a certificate secret without any material. -/
theorem own_writes_never_clobber (g : Generator) (steps : List Step) (env : Env Store) (plan : Plan) (n : Nat) (s : Store) :
    ∀ x ∈ ownE sem env plan 0 (runSteps g steps n 0) s,
      KeptFrom (caNames steps) x.1 (exec x.1 x.2).1 ∧
      ((exec x.1 x.2).1 ≠ x.1 →
        (∀ new, x.2 = .createSecret new → findSecret x.1 new.name = none) ∧
        (∀ old new, x.2 = .updateSecret old new →
          findSecret x.1 new.name = some old ∧ ¬ Protected (caNames steps) old)) :=
  fun x hx => ⟨own_step_keeps_any (fun _ _ => .err .other) g steps env plan n s x hx,
    own_write_shape_any (fun _ _ => .err .other) g steps env plan n s x hx⟩

/-- `ca_kept` / `certs_kept` under interference: if the peer obeys the same rule (never rewrites a
protected secret – `initialiser_peer_obeys_rely`: a peer that is an initialiser does), then whenever the
run ends – under every fault plan, i.e. at every instant – every secret that was protected at the start is
exactly what it was. -/
theorem existing_tls_kept_under_interference (g : Generator) (steps : List Step) (env : Env Store)
    (henv : PeerKeeps (caNames steps) env) (plan : Plan) (n : Nat) (s : Store) :
    KeptFrom (caNames steps) s (runP g steps env plan n s).1 :=
  (kept_under_interference_any (fun _ _ => .err .other) g steps _ (fun _ h => h) env henv plan n s).1

/-- (b) Newly issued certificates chain to the stored authority, under interference: every secret other
than the CA secret that THIS run wrote (the write was applied) is, when the run ends – whatever the fault
plan and whatever a rely-obeying peer did in between – still exactly what was written, signed by the key
pair of the certificate stored, complete, in the CA secret at that moment, carries that certificate as
ca.crt and names the configured DNS names. (Holds for aborted runs too, hence for runs that report success.) -/
theorem own_certs_chain_under_interference (g : Generator) (hg : g.Sound) (steps : List Step) (ca : String)
    (hca : ∀ c ∈ caNames steps, c = ca) (env : Env Store) (henv : PeerKeeps [ca] env)
    (plan : Plan) (n : Nat) (s : Store) :
    ∀ x ∈ ownE sem env plan 0 (runSteps g steps n 0) s, ∀ new, x.2.writes = some new → new.name ≠ ca →
      (exec x.1 x.2).2 = .ok →
      ∃ sec C c ref, findSecret (runP g steps env plan n s).1 ca = some sec ∧ isComplete sec = true ∧ sec.crt = .cert C ∧
        findSecret (runP g steps env plan n s).1 new.name = some new ∧
        new.crt = .cert c ∧ new.key = .key c.kp ∧ new.ca = .cert C ∧ c.signedBy = C.kp ∧
        ref ∈ leafRefs steps ∧ ref.name = new.name ∧ c.dns = ref.dns := by
  intro x hx new hw hne hok
  obtain ⟨hf, sec, C, l, c, ref, h1, h2, h3, h4, h5, h6, h7, h8, h9, h10, h11⟩ :=
    own_leaves_chain g hg steps ca hca env henv plan n s x hx new hw hne hok
  have e : l = new := by
    have := hf.symm.trans h4
    simpa using this.symm
  subst e
  exact ⟨sec, C, c, ref, h1, h2, h3, h4, h5, h6, h7, h8, h9, h10, h11⟩

/-- (c) Re-running after an abort caused by the peer converges: let a run of the TLS steps be disturbed by
any peer interference that keeps the CA secret loadable (`PeerWellFormed`: true of a peer that is an
initialiser) and by any fault plan – in particular let its Create be refused with AlreadyExists, or its
Update with Conflict. Then a fault-free, interference-free re-run from whatever store that run left
behind COMPLETES (every step), and keeps every protected secret it finds: the CA that is stored is the CA
afterwards. (`Generator.Total`: the generator does not fail on a self-signed request or on a signer whose
key matches its certificate; `TlsOnly`: the step list consists of TLS steps for `ca` with non-empty DNS
names; `CAWellFormed ca s`: the CA secret of the original cluster, if complete, loads.) -/
theorem rerun_after_peer_abort_converges (g : Generator) (hg : g.Sound) (ht : g.Total) (ca : String)
    (steps : List Step) (hsteps : TlsOnly ca steps) (env : Env Store) (hw : PeerWellFormed ca env)
    (plan : Plan) (n m : Nat) (s : Store) (hs : CAWellFormed ca s) :
    ∃ t' m', run sem Plan.allOk 0 (runSteps g steps m 0) (runP g steps env plan n s).1 =
        (t', some (Res.ok, m', steps.length)) ∧
      KeptFrom (caNames steps) (runP g steps env plan n s).1 t' := by
  unfold runP
  have hwf := wf_after_interference g hg steps ca env hw plan n s hs
  obtain ⟨t', m', e⟩ := tlsSteps_succeed g hg ht ca steps hsteps m 0 _ hwf
  refine ⟨t', m', ?_, ?_⟩
  · rw [run_allOk, e]; simp
  · have := kept_of_issues Plan.allOk 0 _ (runSteps_issues_safe g steps (caNames steps) (fun _ h => h) m 0)
      _ _ (keptFrom_refl _ _) _ (run_mem_reach sem Plan.allOk 0 (runSteps g steps m 0)
        (runE sem env plan 0 (runSteps g steps n 0) s).1)
    rw [run_allOk, e] at this
    exact this

/-- The rely is met by the peer we care about: another initialiser – any step list over the same CA
names, any generator, any nonce, run to completion before any one of our calls – never rewrites a
protected secret, and (sound generator) never stores a CA secret that does not load. -/
theorem initialiser_peer_obeys_rely (g : Generator) (steps : List Step) (cas : List String)
    (h : ∀ ca ∈ caNames steps, ca ∈ cas) (n k0 : Nat) :
    PeerKeeps cas (peerInit g steps n k0) ∧ (g.Sound → ∀ ca, PeerWellFormed ca (peerInit g steps n k0)) :=
  ⟨peerInit_keeps g steps cas h n k0, fun hg ca => peerInit_wf g hg steps ca n k0⟩

/-! #### non-vacuity and counterexamples (concrete peers of Proofs/C20Ex.lean) -/

/-- A concrete peer (pod B = `pxPeer`: the same initialisation, completing right before our Create of the
CA secret on a cluster without TLS secrets). Our Get said NotFound, our Create is refused: the run ABORTS,
having written nothing; pod B's CA is stored; the repeated run loads it, completes and changes nothing.
This also is the counterexample to "a run completes whenever the undisturbed run would". -/
example :
    let r := runP stdGen pxSteps pxPeer Plan.allOk 100 pxFresh
    let again := run sem Plan.allOk 0 (runSteps stdGen pxSteps 200 0) r.1
    (run sem Plan.allOk 0 (runSteps stdGen pxSteps 100 0) pxFresh).2.map (·.1) = some Res.ok ∧
    r.2.map (·.1) = some (Res.err "tls: signer") ∧
    (callLogE sem pxPeer Plan.allOk 0 (runSteps stdGen pxSteps 100 0) pxFresh).map (fun x => (x.2.1, x.2.2.map fun y => match y with | .err e => some e | _ => none)) =
      [(.ok, some (some .notFound)), (.ok, some (some .alreadyExists))] ∧
    (ownE sem pxPeer Plan.allOk 0 (runSteps stdGen pxSteps 100 0) pxFresh).all (fun x => decide ((exec x.1 x.2).1 = x.1)) = true ∧
    (findSecret r.1 "crossplane-root-ca").map (·.crt) = some (.cert ⟨500, 500, ["crossplane-root-ca"], true⟩) ∧
    (findSecret r.1 "crossplane-tls-server").map (fun l => (l.crt, l.ca)) =
      some (.cert ⟨501, 500, ["crossplane-webhooks", "crossplane-webhooks.crossplane-system", "crossplane-webhooks.crossplane-system.svc"], false⟩,
            .cert ⟨500, 500, ["crossplane-root-ca"], true⟩) ∧
    again.2.map (·.1) = some Res.ok ∧ again.1 = r.1 := by
  decide +kernel

/-- the hypotheses of (b) and (c) are satisfiable by that peer -/
example : PeerKeeps ["crossplane-root-ca"] pxPeer ∧ PeerWellFormed "crossplane-root-ca" pxPeer ∧
    TlsOnly "crossplane-root-ca" pxSteps ∧ CAWellFormed "crossplane-root-ca" pxFresh := by
  refine ⟨peerInit_keeps stdGen pxSteps _ (by simp [pxSteps, caNames]) 500 1,
    peerInit_wf stdGen cert_generator_model_sound pxSteps _ 500 1, ?_, ?_⟩
  · intro st hst
    simp [pxSteps] at hst
    subst hst
    exact ⟨_, _, rfl, fun r h => by cases h; simp, fun r h => by cases h; simp⟩
  · intro sec h
    simp [pxFresh, findSecret] at h

/-- the generator used to replay real runs is total in the sense of (c) -/
example : stdGen.Total :=
  ⟨fun _ _ _ => rfl, fun dns ca sg n h => by simp [stdGen, h]⟩

/-- `new_certs_chain_to_stored_ca` does not survive interference, even by a peer that obeys the rely:
`pxForeign` fills the (absent) server secret with a certificate of another authority before our first
call; our run keeps it (as it must), so at the end a secret differs from the start and is not chained. -/
example : PeerKeeps ["crossplane-root-ca"] pxForeign ∧
    findSecret (runP stdGen pxSteps pxForeign Plan.allOk 100 pxFresh).1 "crossplane-tls-server" ≠
      findSecret pxFresh "crossplane-tls-server" ∧
    ¬ Chained "crossplane-root-ca" (leafRefs pxSteps) (runP stdGen pxSteps pxForeign Plan.allOk 100 pxFresh).1 "crossplane-tls-server" := by
  have hrun : findSecret (runP stdGen pxSteps pxForeign Plan.allOk 100 pxFresh).1 "crossplane-tls-server" ≠
        findSecret pxFresh "crossplane-tls-server" ∧
      (findSecret (runP stdGen pxSteps pxForeign Plan.allOk 100 pxFresh).1 "crossplane-tls-server").map (·.ca) =
        some (.cert ⟨9, 9, ["crossplane-root-ca"], true⟩) ∧
      (findSecret (runP stdGen pxSteps pxForeign Plan.allOk 100 pxFresh).1 "crossplane-root-ca").map (·.crt) =
        some (.cert ⟨100, 100, ["crossplane-root-ca"], true⟩) := by decide +kernel
  obtain ⟨hne, hl, hc⟩ := hrun
  refine ⟨pxForeign_keeps, hne, ?_⟩
  rintro ⟨sec, C, l, c, ref, h1, _, h3, h4, _, _, h7, _⟩
  rw [h4] at hl
  rw [h1] at hc
  simp only [Option.map_some, Option.some.injEq] at hl hc
  rw [h7] at hl
  rw [h3] at hc
  cases hl
  cases hc

/-- `ca_kept` needs the rely: a peer that overwrites the complete CA secret (which no initialiser does)
leaves another CA behind – our own calls still clobber nothing (`own_writes_never_clobber` needs no rely). -/
example :
    findSecret (runP stdGen pxSteps pxRogue Plan.allOk 100 pxWithCA).1 "crossplane-root-ca" ≠
      findSecret pxWithCA "crossplane-root-ca" := by
  decide +kernel

/-! ### other writers on every object, every class of error

The environment of the previous section may do ANYTHING to the store (`Env Store`), not only write secrets: the
differential harness lets a concurrent initialiser of the same or of another release (complete, or crashed
half-way) and a user / another controller / the garbage collector create, edit and delete packages, CRDs, webhook
configurations, custom resources, the Lock, the default objects and unprotected secrets right before any of our
calls. And a refused call is answered with an error of ANY class: `semK e` (NotFound / AlreadyExists / Conflict /
everything else: Forbidden, Invalid, Unauthorized, TooManyRequests, a timeout, a Temporary() transport error, a
context deadline) – or, for the guarantees that do not depend on it, with ANY reply whatsoever (`semAny er`:
even a made-up success or a made-up object). `sem` is `semK .other`. -/

/-- the semantics of all earlier theorems is the case "an error of no particular class" -/
theorem error_class_other_is_plain_sem : semK .other = sem := rfl

/-- (a), for every class of error and every made-up reply: an existing CA and existing certificates are never
overwritten by our own calls – whatever refused calls are answered with, whatever any other writer does. -/
theorem own_writes_never_clobber_any_reply (er : Outcome → Req → Resp) (g : Generator) (steps : List Step)
    (env : Env Store) (plan : Plan) (n : Nat) (s : Store) :
    ∀ x ∈ ownE (semAny er) env plan 0 (runSteps g steps n 0) s,
      KeptFrom (caNames steps) x.1 (exec x.1 x.2).1 ∧
      ((exec x.1 x.2).1 ≠ x.1 →
        (∀ new, x.2 = .createSecret new → findSecret x.1 new.name = none) ∧
        (∀ old new, x.2 = .updateSecret old new →
          findSecret x.1 new.name = some old ∧ ¬ Protected (caNames steps) old)) :=
  fun x hx => ⟨own_step_keeps_any er g steps env plan n s x hx, own_write_shape_any er g steps env plan n s x hx⟩

/-- `ca_kept` / `certs_kept` under interference, for every class of error and every made-up reply. -/
theorem existing_tls_kept_any_reply (er : Outcome → Req → Resp) (g : Generator) (steps : List Step) (env : Env Store)
    (henv : PeerKeeps (caNames steps) env) (plan : Plan) (n : Nat) (s : Store) :
    KeptFrom (caNames steps) s (runE (semAny er) env plan 0 (runSteps g steps n 0) s).1 :=
  (kept_under_interference_any er g steps _ (fun _ h => h) env henv plan n s).1

/-- Default objects that already exist are left untouched – the guarantee of EVERY call the initializer can
issue, on EVERY store (the one the other writers left at that moment): an existing Lock / default StoreConfig /
default DeploymentRuntimeConfig, every custom resource and the undeclared fields of every existing package, CRD
and webhook configuration are the same after the call. (The call vocabulary `Req` is tied to the real run call by
call: an Update / Delete of such an object has no counterpart and shows as a difference.) -/
theorem every_call_leaves_defaults_untouched (s : Store) (r : Req) : Untouched s (exec s r).1 :=
  exec_untouched s r

/-- `defaults_untouched` under interference: if the other writers leave the default objects and foreign fields
alone too (`PeerUntouches`; true of a peer that is an initialiser), they are what they were whenever the run ends –
under every fault plan, for every class of error and every made-up reply. -/
theorem defaults_untouched_under_interference (er : Outcome → Req → Resp) (g : Generator) (steps : List Step)
    (env : Env Store) (henv : PeerUntouches env) (plan : Plan) (n : Nat) (s : Store) :
    Untouched s (runE (semAny er) env plan 0 (runSteps g steps n 0) s).1 :=
  untouched_under_interference er env henv plan 0 _ s

theorem initialiser_peer_leaves_defaults_untouched (g : Generator) (steps : List Step) (n k0 : Nat) :
    PeerUntouches (peerInit g steps n k0) := by
  intro k s
  unfold peerInit
  split
  · exact untouched_reach Plan.allOk 0 _ s _ (run_mem_reach sem Plan.allOk 0 _ s)
  · exact untouched_refl s

/-- `no_second_package` under interference: "already installed" is judged against what OUR List call of that kind
returned – the store at the moment of that call, after whatever another writer did before it and regardless of
what it does afterwards (a package somebody installs between our List and our Create is a race nobody can win).
For every interference, fault plan and class of error `e`: every package write of the installer (Create or Patch)
for a reference `r` goes to object name `n` such that, if a package of that kind with the source of `r` was
installed at the moment of our List, `n` is the name of a package that existed at that moment – never a second
name. (For `e = .notFound` nothing is claimed: a List refused with NotFound – "the kind is not served" – counts as
an empty list.) -/
theorem no_second_package_under_interference (e : Err) (env : Env Store) (plan : Plan) (s : Store) (p c f : List Img) :
    ∀ x ∈ ownE (semK e) env plan 0 (installStep p c f) s, ∀ kd n r, x.2.pkgTarget = some (kd, n, r) →
      e = .notFound ∨
      ∃ y ∈ ownE (semK e) env plan 0 (installStep p c f) s, y.2 = .listPkgs kd ∧
        (InstalledSrc y.1 kd r.src → ∃ q0 ∈ y.1.pkgs, q0.kind = kd ∧ q0.name = n) :=
  install_no_second_at_list_time e env plan 0 s p c f

/-- Core CRDs and webhook configurations carry the CURRENT CA bundle, under interference: every caBundle our run
writes into a CRD (webhook conversion) or a webhook configuration is tls.crt – non-empty – of the webhook TLS
secret as it is stored AT THE MOMENT of that write, and that secret still holds exactly that certificate when the
run ends. For every fault plan, every class of error, every interference that never rewrites a protected secret
(`PeerKeeps`), provided the webhook TLS secret is not the CA secret. -/
theorem ca_bundle_current_at_every_write (e : Err) (g : Generator) (steps : List Step) (env : Env Store)
    (henv : PeerKeeps (caNames steps) env) (hrefs : ∀ ref ∈ bundleRefs steps, ref ∉ caNames steps)
    (plan : Plan) (n : Nat) (s : Store) :
    ∀ x ∈ ownE (semK e) env plan 0 (runSteps g steps n 0) s, ∀ cb ∈ x.2.bundles,
      ∃ ref ∈ bundleRefs steps, ∃ sec, findSecret x.1 ref = some sec ∧ sec.crt = cb ∧ cb ≠ .empty ∧
        findSecret (runE (semK e) env plan 0 (runSteps g steps n 0) s).1 ref = some sec := by
  intro x hx cb hcb
  obtain ⟨hG, _⟩ := wpE_sound (semK e) (KeptFrom (caNames steps)) (BundleG (bundleRefs steps)) env henv plan 0 _ _ s
    (runSteps_bundle_wp e g (caNames steps) (bundleRefs steps) steps (fun ref h => ⟨hrefs ref h, h⟩) n 0 s)
  obtain ⟨ref, hmem, sec, h1, h2, h3⟩ := hG x hx cb hcb
  refine ⟨ref, hmem, sec, h1, h2, h3, ?_⟩
  have hpost := (kept_under_interference_any (fun _ _ => .err e) g steps _ (fun _ h => h) env henv plan n s).2 x hx
  have hafter : findSecret (exec x.1 x.2).1 ref = some sec := by
    simp only [findSecret] at h1 ⊢
    rw [frame_secrets x.1 x.2 (bundles_comp (List.ne_nil_of_mem hcb))]
    exact h1
  exact bundle_secret_kept (hrefs ref hmem) hafter (h2 ▸ h3) hpost

/-- for the step list of core.initCommand.Run the bundle comes from `cfg.server` -/
theorem init_bundle_refs (cfg : Cfg) : ∀ ref ∈ bundleRefs (initSteps cfg), ref = cfg.server := by
  rw [bundleRefs_init]
  split <;> simp

/-- The webhook-configuration step REPLACES the whole `webhooks` list (a JSON merge patch replaces a list; it does
not merge it entry by entry): after a completed step – from ANY store, whatever entries the stored configurations
held before (entries of another Crossplane version or of a third party, another order, stale bundles, another
service) – the webhook TLS secret holds a non-empty tls.crt and every declared configuration that declares
webhooks consists of EXACTLY the manifest's entries, in the manifest's order, each with that certificate as
caBundle and the configured service. (`(whcKeys d.objs).Nodup`: every configuration is declared once.) -/
theorem webhook_entries_are_the_manifests (g : Generator) (ref : String) (svc : Svc) (d : Dir) (s t : Store) (n n' : Nat)
    (hyp : (whcKeys d.objs).Nodup)
    (h : run sem Plan.allOk 0 ((Step.whcs ref svc d).prog g n) s = (t, some (Res.ok, n'))) :
    ∃ sec, findSecret t ref = some sec ∧ sec.crt ≠ .empty ∧
      ∀ f, FileObj.whc f ∈ d.objs → f.hooks ≠ [] →
        ∃ w, findWhc t f.kind (whcName f) = some w ∧ w.hooks = desiredHooks f sec.crt svc := by
  exact whcsDone_entries (step_establishes g n n' (.whcs ref svc d) s t hyp (evalOk_of_run h))

/-! #### non-vacuity: concrete other writers and error classes -/

/-- Somebody installs the requested provider as `their-own` BEFORE our List: it is updated in place. Somebody does
so right AFTER our List (before our Get): the race is lost, the provider exists twice – `no_second_package` as
stated for interference-free runs fails, the list-time statement holds. -/
example :
    let req : List Img := [⟨wxR1.str, some wxR1⟩]
    (runE sem (wxUser 0) Plan.allOk 0 (installStep req [] []) wxEmpty).1.pkgs.map (fun p => (p.name, p.raw, p.extra)) =
      [("their-own", wxR1.str, 2)] ∧
    (runE sem (wxUser 3) Plan.allOk 0 (installStep req [] []) wxEmpty).1.pkgs.map (fun p => (p.name, p.raw)) =
      [("their-own", wxR0.str), ("crossplane-provider-aws", wxR1.str)] := by
  decide +kernel

/-- Error classes are told apart where the code tells them apart: a Get refused with NotFound makes the Lock
step Create (the Lock exists: AlreadyExists, the step fails and nothing changes); refused with any other class
the step fails at once; a Create of the default StoreConfig refused with AlreadyExists is tolerated, refused
with any other class it is an error. -/
example :
    let s : Store := { wxEmpty with lock := some 3 }
    (callLogE (semK .notFound) Env.none (Plan.at 0 .fail) 0 lockStep s).map (fun x => reqLineTag x.1) = ["getLock", "createLock"] ∧
    (runE (semK .notFound) Env.none (Plan.at 0 .fail) 0 lockStep s) = (s, some (Res.err "lock: create")) ∧
    (callLogE (semK .other) Env.none (Plan.at 0 .fail) 0 lockStep s).map (fun x => reqLineTag x.1) = ["getLock"] ∧
    (runE (semK .alreadyExists) Env.none (Plan.at 0 .fail) 0 (scStep "ns") wxEmpty) = (wxEmpty, some Res.ok) ∧
    (runE (semK .other) Env.none (Plan.at 0 .fail) 0 (scStep "ns") wxEmpty) = (wxEmpty, some (Res.err "sc")) := by
  decide +kernel

/-- An existing `crossplane` webhook configuration holds an entry the manifest lacks (left by a third party, stale
bundle, another service) in front of a stale entry of ours: after the step exactly the manifest's entry is stored,
with the server certificate as bundle and the configured service. -/
example :
    let crt : Blob := .cert ⟨11, 1, ["x"], false⟩
    let s : Store := { wxEmpty with
      secrets := [⟨"srv", crt, .key 11, .empty, 0, 0⟩],
      whcs := [⟨.mutating, "crossplane", [⟨"thirdparty.example.org", .junk 8, ⟨"theirs", "kube-system", 8443⟩⟩,
        ⟨"h0.crossplane.io", .junk 8, ⟨"old", "old", 443⟩⟩], 3⟩] }
    let d : Dir := ⟨false, [.whc ⟨.mutating, "mutating-webhook-configuration", ["h0.crossplane.io"]⟩]⟩
    (run sem Plan.allOk 0 ((Step.whcs "srv" ⟨"hooks", "xp", 9443⟩ d).prog stdGen 100) s).1.whcs =
      [⟨.mutating, "crossplane", [⟨"h0.crossplane.io", crt, ⟨"hooks", "xp", 9443⟩⟩], 3⟩] := by
  decide +kernel

/-- the relies of this section are satisfiable: no interference; a peer that is an initialiser -/
example : PeerUntouches Env.none ∧ PeerUntouches (peerInit stdGen pxSteps 500 1) :=
  ⟨fun _ s => untouched_refl s, initialiser_peer_leaves_defaults_untouched _ _ _ _⟩

end Xp.C20
