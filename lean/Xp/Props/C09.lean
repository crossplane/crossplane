import Xp.Model.C09Skel
import Xp.Proofs.C09World
import Xp.Proofs.C09Flow
import Xp.Proofs.C09
import Xp.Gen.C09Skel
/-
C09 — connection details reach only their owner's secret, filtered, from the right XR.
Theorems over Xp/Model/C09.lean for ALL detail maps, key filters and pre-existing secrets, and
over Xp/Model/C09World.lean for all stores of secrets, owners, fault plans (every API error class
at every call, lost answers, cache misses, a concurrent writer) and sequences of operations of
the long-lived publisher / propagator, and for the composers' flow with any number of templates.
Maps are association lists; "is a map" = no duplicate keys (`Nodup`), as Go maps are.

Clauses of the property and where they are proved (monitors: props/C09.json level_note):
 1 only keys the XRD allows ........ publish_keys, publish_keys_allowed_history, publishA_write_keys, stepW_pub_keys
 2 only values of this XR's composition  extract_provenance, foldDetails_provenance, flow_values_provenance,
                                    flow_pt_foreign_blocks, flow_fn_foreign_invisible, pt_foreign_not_published
 3 written only if asked ........... publish_only_if_asked, propagate_only_if_asked, stepW_unasked
 4 claim secret = exact copy ....... propagate_exact, propagateE_exact, propagateA_copy, stepW_prop_copy
 5 only from a secret the XR controls  propagate_needs_controller, propagateA_source_error, stepW_prop_copy
 6 identical data never rewritten .. publish_no_rewrite, publish_idempotent, propagate_idempotent,
                                    stepW_pub_no_rewrite, stepW_pub_idempotent
 7 only the owner's secret ......... publish_guard, publishA_guard, propagateA_guard, stepW_frame, stepW_guard,
                                    stepW_owner, runW_foreign_untouched, runW_frame, flow_frame, flow_guard
-/
namespace Xp.C09

/-- **Keys and values under every fault plan.** Whatever call fails with whatever error class
(also when the answer to a write that took effect is lost): the data a publish stores holds, for
every key, the composition's value if the filter allows the key and the composition produced it,
and the previously stored value otherwise. -/
theorem publishA_write_keys (f : Option Fault) (filter : List String) (details : Data)
    (hn : (details.map (·.1)).Nodup) (slot : Slot) (d' : Data)
    (h : (publishA f true filter details slot).write = some d') (k : String) :
    dget d' k = (if allowed filter k then dget details k else none).orElse (fun _ => dget (slotData slot) k) := by
  rw [publishA_write_merged f filter details hn slot d' h k, dget_desiredData]

/-- **The guard under every fault plan**: a secret the writer may not control is never written
and nothing is reported published, whichever call fails with whichever class. -/
theorem publishA_guard (f : Option Fault) (wants : Bool) (filter : List String) (details : Data) (s : Secret)
    (h : controllable s .owner = false) :
    (publishA f wants filter details (some s)).write = none ∧ (publishA f wants filter details (some s)).published = false := by
  cases wants with
  | false => exact ⟨rfl, rfl⟩
  | true => exact applyA_refused (publishA_eq f filter details (some s)) (Or.inl h)

/-- **No error class is swallowed.** If some call of a publish fails (and the request did not
take effect), success is reported only in one case: the Get answered NotFound for a secret that
really does not exist, and the Create that followed succeeded. -/
theorem publishA_published_under_fault (x : Fault) (hl : x.lost = false) (hi : x.idx ≤ 1)
    (filter : List String) (details : Data) (slot : Slot)
    (h : (publishA (some x) true filter details slot).published = true) :
    x.idx = 0 ∧ x.cls = .notFound ∧ slot = none := by
  rcases applyA_cases (publishA_eq (some x) filter details slot) with ⟨_, hp⟩ | ⟨_, heq, hd⟩
  · rw [hp] at h; cases h
  · -- the write request (call 1) succeeded, so the failing call is the Get
    have h1 : x.idx ≠ 1 := faultAt_some_eq_none.mp (writeOut_published (heq ▸ h)).2.2
    have h0 : x.idx = 0 := Nat.lt_one_iff.mp (Nat.lt_of_le_of_ne hi h1)
    rcases hd with ⟨rfl, _, hnf⟩ | ⟨s, _, _, _, _, hf, _⟩
    · exact ⟨h0, hnf x (by simp [faultAt, h0]), rfl⟩
    · exact absurd h0 (faultAt_some_eq_none.mp hf)

/-- **Provenance and exact copy under every fault plan and concurrent writer**: whatever a
propagation stores is exactly the data of the source secret, which is controlled by the bound XR. -/
theorem propagateA_copy (e : EnvW) (fw tw : Bool) (src dst : Slot) (d' : Data)
    (h : (propagateA e fw tw src dst).write = some d') :
    ∃ fs, src = some fs ∧ fs.ctrl = .xr ∧ d' = fs.data := by
  rcases propagateA_cases e fw tw src dst with ⟨hw, _⟩ | ⟨_, _, _, fs, h1, h2, _, heq⟩
  · rw [hw] at h; cases h
  · exact ⟨fs, h1, h2, writeOut_write (heq ▸ h)⟩

/-- an error of ANY class on the read of the XR's secret (NotFound, Forbidden, a timeout, …)
ends the propagation: nothing is written -/
theorem propagateA_source_error (e : EnvW) (x : Fault) (he : e.fault = some x) (hx : x.idx = 0)
    (fw tw : Bool) (src dst : Slot) :
    (propagateA e fw tw src dst).write = none ∧ (propagateA e fw tw src dst).published = false := by
  rcases propagateA_cases e fw tw src dst with hs | ⟨_, _, h0, _⟩
  · exact hs
  · rw [he] at h0
    exact absurd hx (faultAt_some_eq_none.mp h0)

/-- the claim's destination is guarded under every fault plan -/
theorem propagateA_guard (e : EnvW) (fw tw : Bool) (src : Slot) (d : Secret) (h : controllable d .owner = false) :
    (propagateA e fw tw src (some d)).write = none :=
  (propagateA_blocked e fw tw src d h).1

/-- `publish`, `publishE`, `propagate` and `propagateE` of Model/C09.lean are the per-call writers at
particular fault plans (here and `publishA_miss`, `propagateA_env`, `propagateE_no_env`): what holds
under every fault plan holds of them. -/
theorem publishA_none (wants : Bool) (filter : List String) (details : Data) (slot : Slot) :
    (publishA none wants filter details slot).res slot = publish wants filter details slot := by
  cases wants with
  | false => rfl
  | true =>
    cases slot with
    | none => rfl
    | some s =>
      cases hc : controllable s .owner with
      | false => simp [publishA, publish, Out.res, faultAt, Out.fail, hc]
      | true =>
        cases hu : needsUpdate s.data (desiredData filter details) with
        | false => simp [publishA, publish, Out.res, faultAt, Out.nop, hc, hu]
        | true => simp [publishA, publish, Out.res, faultAt, writeOut, hc, hu]

/-- the informer-cache miss of `publishE` is a NotFound answer to the Get (call 0) -/
theorem publishA_miss (lost wants : Bool) (filter : List String) (details : Data) (slot : Slot) :
    (publishA (some ⟨0, .notFound, lost⟩) wants filter details slot).res slot =
      publishE { miss := true } wants filter details slot := by
  cases wants <;> cases slot <;> rfl

theorem publishE_no_env (wants : Bool) (filter : List String) (details : Data) (slot : Slot) :
    publishE {} wants filter details slot = publish wants filter details slot := by
  cases wants <;> cases slot <;> rfl

/-- the environment of `propagateE` as a fault plan: a cache miss of the claim's secret is a
NotFound answer to its Get (call 1) -/
def envOf (e : Env) : EnvW := ⟨if e.miss then some ⟨1, .notFound, false⟩ else none, e.swap⟩

theorem propagateA_env (e : Env) (fw tw : Bool) (src dst : Slot) :
    (propagateA (envOf e) fw tw src dst).res dst = propagateE e fw tw src dst := by
  obtain ⟨miss, swap⟩ := e
  by_cases hw : (!fw || !tw) = true
  · simp [propagateA, propagateE, hw, Out.res, Out.nop]
  obtain ⟨rfl, rfl⟩ : fw = true ∧ tw = true := by simpa using hw
  have h0 : faultAt (envOf ⟨miss, swap⟩).fault 0 = none := by cases miss <;> rfl
  cases src with
  | none => simp [propagateA, propagateE, h0, Out.res, Out.fail]
  | some fs =>
    by_cases hx : fs.ctrl = .xr
    case neg => simp [propagateA, propagateE, h0, hx, Out.res, Out.fail]
    -- the source is read and checked on both sides: what remains is the apply of the claim's secret
    rw [propagateA_eq _ fs dst h0 hx]
    cases miss with
    | true =>
      cases dst with
      | none => simp [applyA, propagateE, envOf, hx, faultAt, writeOut, Out.res]
      | some d => simp [applyA, propagateE, envOf, hx, faultAt, Out.res, Out.fail]
    | false =>
      cases dst with
      | none => simp [applyA, propagateE, envOf, hx, faultAt, writeOut, Out.res]
      | some d =>
        cases hc : controllable d .owner with
        | false => simp [applyA, propagateE, envOf, hx, hc, faultAt, Out.res, Out.fail]
        | true =>
          cases hd : dataEq d.data fs.data with
          | true => simp [applyA, propagateE, envOf, hx, hc, hd, faultAt, Out.res, Out.nop]
          | false =>
            cases swap with
            | true => simp [applyA, propagateE, envOf, hx, hc, hd, faultAt, Out.res, Out.fail]
            | false => simp [applyA, propagateE, envOf, hx, hc, hd, faultAt, writeOut, Out.res]

theorem propagateE_no_env (fw tw : Bool) (src dst : Slot) :
    propagateE {} fw tw src dst = propagate fw tw src dst := rfl

/-- An XR that does not ask for a connection secret gets none: nothing is written. -/
theorem publish_only_if_asked (filter : List String) (details : Data) (slot : Slot) :
    publish false filter details slot = ⟨slot, false, false, 0⟩ := rfl

/-- **Keys written.** After a successful publish, a key holds the composition's value iff the
filter allows it and the composition produced it; every other key of the secret is exactly
what it was. -/
theorem publish_keys (filter : List String) (details : Data) (hn : (details.map (·.1)).Nodup) (slot : Slot)
    (hp : (publish true filter details slot).published = true) (k : String) :
    dget (slotData (publish true filter details slot).slot) k =
      (if allowed filter k then dget details k else none).orElse (fun _ => dget (slotData slot) k) := by
  rw [← publishA_none] at hp ⊢
  obtain ⟨⟨d', hw⟩, _⟩ := publishA_published hp
  rw [Out.res_write_some hw]
  exact publishA_write_keys none filter details hn slot d' hw k

/-- By induction from an absent secret: whatever sequence of detail maps is published with a
fixed filter, the secret only ever contains allowed keys. -/
theorem publish_keys_allowed_history (filter : List String) (hist : List Data)
    (hn : ∀ d ∈ hist, (d.map (·.1)).Nodup) (k : String) :
    let final := hist.foldl (fun slot d => (publish true filter d slot).slot) none
    dget (slotData final) k ≠ none → allowed filter k = true :=
  List.foldlRecOn (motive := fun slot => ∀ k, dget (slotData slot) k ≠ none → allowed filter k = true) hist _
    (fun _ h => absurd rfl h)
    (fun slot h d hd => publishA_none true filter d slot ▸ publishA_keeps_allowed none filter d (hn d hd) slot h) k

/-- **Guard.** A destination controlled by someone else, or uncontrolled and not of the
connection type, is neither created, updated nor adopted; the conflict surfaces as an error. -/
theorem publish_guard (filter : List String) (details : Data) (s : Secret)
    (h : controllable s .owner = false) :
    publish true filter details (some s) = ⟨some s, false, true, 0⟩ := by
  simp [publish, h]

theorem controllable_spec (s : Secret) :
    controllable s .owner = true ↔ (s.ctrl = .owner ∨ ((s.ctrl = .none ∨ s.ctrl = .xrPlain) ∧ s.conn = true)) := by
  cases s with
  | mk conn ctrl data => cases ctrl <;> simp [controllable]

/-- **Identical data is never rewritten.** If every key that would be published is already
stored with that value, no write request is issued and nothing is reported as published. -/
theorem publish_no_rewrite (filter : List String) (details : Data) (s : Secret)
    (h : ∀ kv ∈ desiredData filter details, dget s.data kv.1 = some kv.2) :
    (publish true filter details (some s)).writes = 0 ∧ (publish true filter details (some s)).published = false ∧
    (publish true filter details (some s)).slot = some s := by
  have hnu := needsUpdate_eq_false.mpr h
  cases hc : controllable s .owner <;> simp [publish, hc, hnu]

/-- Publishing the same details again right after a successful publish writes nothing. -/
theorem publish_idempotent (filter : List String) (details : Data) (hn : (details.map (·.1)).Nodup) (slot : Slot)
    (hp : (publish true filter details slot).published = true) :
    (publish true filter details (publish true filter details slot).slot).writes = 0 := by
  have hp' : (publishA none true filter details slot).published = true := by
    rw [← publishA_none] at hp
    exact hp
  obtain ⟨⟨d', hw⟩, _⟩ := publishA_published hp'
  have hs : (publish true filter details slot).slot = some ⟨true, .owner, d'⟩ := by
    rw [← publishA_none]; exact Out.res_write_some hw slot
  rw [hs]
  refine (publish_no_rewrite filter details _ fun kv hkv => ?_).1
  show dget d' kv.1 = some kv.2
  rw [publishA_write_merged none filter details hn slot d' hw kv.1, dget_of_mem (desiredData_nodup filter details hn) hkv]
  rfl

/-- **An existing secret the cache has not seen is never overwritten**: whatever it is (own,
foreign, uncontrolled), the publisher's Create is refused and the secret stays as it was. -/
theorem publishE_miss_keeps (e : Env) (he : e.miss = true) (wants : Bool) (filter : List String) (details : Data) (s : Secret) :
    (publishE e wants filter details (some s)).slot = some s ∧ (publishE e wants filter details (some s)).published = false := by
  unfold publishE
  cases wants <;> simp [he]

/-- **The guard holds in every environment**: a destination the XR may not control is left
exactly as it was and nothing is reported published, with or without a cache miss. -/
theorem publishE_guard (e : Env) (filter : List String) (details : Data) (s : Secret)
    (h : controllable s .owner = false) :
    (publishE e true filter details (some s)).slot = some s ∧ (publishE e true filter details (some s)).published = false := by
  unfold publishE
  cases hm : e.miss
  · simp [publish, h]
  · simp

/-- **Exact copy and provenance in every environment**: whenever the propagation reports
success, the claim's secret holds exactly the data of the source secret that was read and
checked to be controlled by the bound XR. -/
theorem propagateE_exact (e : Env) (src dst : Slot) (h : (propagateE e true true src dst).published = true) :
    ∃ fs, src = some fs ∧ fs.ctrl = .xr ∧ (propagateE e true true src dst).slot = some ⟨true, .owner, fs.data⟩ := by
  rw [← propagateA_env] at h ⊢
  rcases propagateA_cases (envOf e) true true src dst with ⟨_, hp⟩ | ⟨_, _, _, fs, h1, h2, _, heq⟩
  · cases hp.symm.trans h
  · rw [heq] at h ⊢
    exact ⟨fs, h1, h2, Out.res_write_some (writeOut_published h).1 dst⟩

/-- **Whatever the environment, a claim's secret changes only by such a copy**: if the
destination differs afterwards, the propagation reported success (so `propagateE_exact`
applies); in particular a Conflict caused by a concurrent writer, a cache miss, a foreign
destination or an unowned source leave it exactly as it was. -/
theorem propagateE_changes_only_by_copy (e : Env) (fw tw : Bool) (src dst : Slot)
    (h : (propagateE e fw tw src dst).slot ≠ dst) : (propagateE e fw tw src dst).published = true ∧ fw = true ∧ tw = true := by
  rw [← propagateA_env] at h ⊢
  rcases propagateA_cases (envOf e) fw tw src dst with ⟨hw, _⟩ | ⟨hf, ht, _, fs, _, _, _, heq⟩
  · exact absurd (Out.res_write_none hw dst) h
  · -- `envOf e` plans no fault for the write request, so what is stored is reported
    have h2 : faultAt (envOf e).fault 2 = none := by
      obtain ⟨miss, swap⟩ := e
      cases miss <;> rfl
    rw [heq]
    exact ⟨by simp [writeOut, h2, Out.res], hf, ht⟩

/-- non-vacuity: a concurrent writer turns the update into a Conflict and the claim's secret
keeps its old data; without it the same call copies the XR's data -/
example :
    (propagateE { swap := true } true true (some ⟨true, .xr, [("user", "u")]⟩) (some ⟨true, .owner, [("user", "old")]⟩)).slot
      = some ⟨true, .owner, [("user", "old")]⟩ ∧
    (propagateE {} true true (some ⟨true, .xr, [("user", "u")]⟩) (some ⟨true, .owner, [("user", "old")]⟩)).slot
      = some ⟨true, .owner, [("user", "u")]⟩ := ⟨rfl, rfl⟩

/-- **Exact copy.** A successful propagation leaves the claim's secret with exactly the XR
secret's data (a replace, not a merge), controlled by the claim. -/
theorem propagate_exact (src dst : Slot) (h : (propagate true true src dst).published = true) :
    ∃ fs, src = some fs ∧ fs.ctrl = .xr ∧ (propagate true true src dst).slot = some ⟨true, .owner, fs.data⟩ := by
  rw [← propagateE_no_env] at h ⊢
  exact propagateE_exact {} src dst h

/-- **Provenance.** If the source secret is missing or not controlled by the bound XR, the
propagation fails and the claim's secret is not touched: a claim cannot use Crossplane to
read a secret its XR does not own. -/
theorem propagate_needs_controller (src dst : Slot) (h : ∀ fs, src = some fs → fs.ctrl ≠ .xr) :
    propagate true true src dst = ⟨dst, false, true, 0⟩ := by
  cases src with
  | none => rfl
  | some fs => simp [propagate, h fs rfl]

/-- Either side not asking for a secret: nothing happens. -/
theorem propagate_only_if_asked (fw tw : Bool) (src dst : Slot) (h : fw = false ∨ tw = false) :
    propagate fw tw src dst = ⟨dst, false, false, 0⟩ := by
  unfold propagate
  rcases h with rfl | rfl <;> simp

/-- The claim's destination is guarded like the XR's. -/
theorem propagate_guard (fs d : Secret) (hx : fs.ctrl = .xr) (h : controllable d .owner = false) :
    propagate true true (some fs) (some d) = ⟨some d, false, true, 0⟩ := by
  simp [propagate, hx, h]

theorem dataEq_self (a : Data) (hn : (a.map (·.1)).Nodup) : dataEq a a = true := by
  simp only [dataEq, Bool.and_self, List.all_eq_true, decide_eq_true_eq]
  exact fun kv h => dget_of_mem hn h

/-- Identical data is never rewritten: propagating again after a successful propagation
issues no write. -/
theorem propagate_idempotent (src dst : Slot) (hn : ∀ fs, src = some fs → (fs.data.map (·.1)).Nodup)
    (h : (propagate true true src dst).published = true) :
    (propagate true true src (propagate true true src dst).slot).writes = 0 := by
  obtain ⟨fs, rfl, hx, hs⟩ := propagate_exact src dst h
  rw [hs]
  -- the slot just written is the claim's own and equal to the source
  have hc : controllable ⟨true, .owner, fs.data⟩ .owner = true := rfl
  have he : dataEq fs.data fs.data = true := dataEq_self fs.data (hn fs rfl)
  simp [propagate, hx, hc, he]

/-- a fixed value is always extracted under its name; a missing value is an error -/
theorem extract_fromValue (conn : Data) (f : String → Option String) (name : String) (v : Option String) (acc : Data)
    (hn : name ≠ "") :
    extract conn f [⟨"FromValue", name, none, none, v⟩] acc = v.map (fun x => dset acc name x) := by
  cases v <;> simp [extract, hn]

/-- a connection-secret key that is not (yet) there is omitted, not an error; an unset key is an error -/
theorem extract_fromKey (conn : Data) (f : String → Option String) (name : String) (k : Option String) (acc : Data)
    (hn : name ≠ "") :
    extract conn f [⟨"FromConnectionSecretKey", name, k, none, none⟩] acc =
      k.map (fun key => match dget conn key with | some v => dset acc name v | none => acc) := by
  cases k with
  | none => simp [extract, hn]
  | some key => cases h : dget conn key <;> simp [extract, hn, h]

/-- a field path that cannot be read is omitted, not an error; an unset path is an error -/
theorem extract_fromPath (conn : Data) (f : String → Option String) (name : String) (p : Option String) (acc : Data)
    (hn : name ≠ "") :
    extract conn f [⟨"FromFieldPath", name, none, p, none⟩] acc =
      p.map (fun path => match f path with | some v => dset acc name v | none => acc) := by
  cases p with
  | none => simp [extract, hn]
  | some path => cases h : f path <;> simp [extract, hn, h]

/-- a detail without a name is an error, whatever its type -/
theorem extract_needs_name (conn : Data) (f : String → Option String) (c : Cfg) (cs : List Cfg) (acc : Data)
    (h : c.name = "") : extract conn f (c :: cs) acc = none := by
  simp [extract, h]

/-- **Provenance through the composer.** The connection secret of a composed resource that the
XR does not control is never read into the XR's secret: the reconcile fails on that resource
(MustBeControllableBy) before any detail is extracted, nothing is published and the resource is
not reported as applied. -/
theorem pt_foreign_not_published (cdSecret : Option Data) (key : String) (xrSecret : Slot) :
    ptFlow .other cdSecret key xrSecret = (⟨xrSecret, false, true, 0⟩, false) := by
  simp [ptFlow]

/-- When the XR does control the resource, exactly the requested key of that resource's own
connection secret is published (filtered like any other detail). -/
theorem pt_own_published (c : Ctrl) (hc : c ≠ .other) (conn : Data) (key v : String) (hk : key ≠ "")
    (hv : dget conn key = some v) :
    (ptFlow c (some conn) key none).1.slot = some ⟨true, .owner, [(key, v)]⟩ := by
  have hx : extract conn (fun _ => none) [⟨"FromConnectionSecretKey", key, some key, none, none⟩] [] =
      some [(key, v)] := by
    rw [extract_fromKey conn _ key (some key) [] hk, Option.map_some, hv]
    rfl
  simp [ptFlow, hc, hx, publish, desiredData, allowed]

/-- a merge patch: the allowed key is set, the key the filter drops is not, the stale key stays -/
example : (publish true ["user"] [("user", "1"), ("pass", "2")] (some ⟨true, .owner, [("stale", "x")]⟩)).slot =
    some ⟨true, .owner, [("stale", "x"), ("user", "1")]⟩ := rfl
/-- an update replaces: the old key is gone -/
example : (propagate true true (some ⟨true, .xr, [("user", "1")]⟩) (some ⟨true, .owner, [("old", "x")]⟩)).slot =
    some ⟨true, .owner, [("user", "1")]⟩ := rfl

/-- **Only the addressed secret.** An operation changes no secret but the one its owner
references — not a secret of the same name in another namespace, not one whose name extends
it, not the source it reads — in every environment. -/
theorem stepW_frame (filter : List String) (e : EnvW) (w : World) (op : Op) (k : Key)
    (h : op.target ≠ some k) : wget (stepW filter e w op).1 k = wget w k :=
  Decidable.by_contra fun hne => h (stepW_changed hne).1

/-- **Only the owner's secret.** If the addressed secret is controlled by another UID (an owner
of the same name re-created with a new UID included) or is uncontrolled and not of the
connection type, the whole store stays as it is and nothing is reported published — for every
error class at every call, cache miss and concurrent writer. -/
theorem stepW_guard (filter : List String) (e : EnvW) (w : World) (op : Op) (k : Key) (s : ASecret)
    (ht : op.target = some k) (hs : wget w k = some s) (hc : mayControl op.me s = false) :
    (stepW filter e w op).1 = w ∧ (stepW filter e w op).2.published = false := by
  have ho : (stepW filter e w op).2.write = none ∧ (stepW filter e w op).2.published = false := by
    cases op with
    | pub me ref details =>
      cases ht
      simp only [stepW, hs, Option.map_some]
      exact publishA_guard e.fault true filter details _ ((dstView_controllable me s).trans hc)
    | prop me cns cref xr xref =>
      cases cref with
      | none => cases ht
      | some dn =>
        cases ht
        cases xref with
        | none => exact ⟨rfl, rfl⟩
        | some sk =>
          simp only [stepW, hs, Option.map_some]
          exact propagateA_blocked e true true _ _ ((dstView_controllable me s).trans hc)
  simp only [stepW_world, ht]
  exact ⟨applyOut_none ho.1, ho.2⟩

/-- **Whatever changes belongs to the caller afterwards.** A secret that differs after an
operation is the one the operation addresses, and it is then a connection secret whose only
owner reference is the controller reference of the operation's owner. -/
theorem stepW_owner (filter : List String) (e : EnvW) (w : World) (op : Op) (k : Key)
    (h : wget (stepW filter e w op).1 k ≠ wget w k) :
    op.target = some k ∧ ∃ d, wget (stepW filter e w op).1 k = some (written op.me d) :=
  let ⟨ht, d, _, hd⟩ := stepW_changed h
  ⟨ht, d, hd⟩

/-- **Keys and values in the world.** After a publish of XR `me`, every key of its secret either
holds what it held before, or is allowed by the filter and holds the value the composition
produced in THIS call — never a value of an earlier call for another owner. -/
theorem stepW_pub_keys (filter : List String) (e : EnvW) (w : World) (me : String) (k : Key) (details : Data)
    (hn : (details.map (·.1)).Nodup) (key : String) :
    dget (dataAt (stepW filter e w (.pub me (some k) details)).1 k) key = dget (dataAt w k) key ∨
    (allowed filter key = true ∧
      dget (dataAt (stepW filter e w (.pub me (some k) details)).1 k) key = dget details key) := by
  simp only [stepW]
  cases hq : (publishA e.fault true filter details ((wget w k).map (dstView me))).write with
  | none => rw [applyOut_none hq]; exact Or.inl rfl
  | some d' =>
    have hk := publishA_write_merged e.fault filter details hn _ d' hq key
    have hd : dataAt (applyOut w k me (publishA e.fault true filter details ((wget w k).map (dstView me)))) k = d' := by
      unfold dataAt
      rw [applyOut_some hq]
      rfl
    have hs : slotData ((wget w k).map (dstView me)) = dataAt w k := slotData_dstView me (wget w k)
    rw [hd, hk, hs, dget_desiredData]
    cases allowed filter key with
    | false => exact Or.inl rfl
    | true =>
      cases dget details key with
      | none => exact Or.inl rfl
      | some v => exact Or.inr ⟨rfl, rfl⟩

/-- **A claim's secret changes only by an exact copy of a secret its XR controls.** If the
claim's secret differs after a propagation, the secret the XR references exists, is controlled
by the XR's UID, and the claim's secret now holds exactly its data — for every error class at
every call, cache miss and concurrent writer. A claim cannot use Crossplane to read a secret its
XR does not own, whatever else is called like it. -/
theorem stepW_prop_copy (filter : List String) (e : EnvW) (w : World) (me cns dn xr : String) (sk : Key)
    (h : wget (stepW filter e w (.prop me cns (some dn) xr (some sk))).1 (cns, dn) ≠ wget w (cns, dn)) :
    ∃ fs, wget w sk = some fs ∧ fs.ctrl = some xr ∧
      wget (stepW filter e w (.prop me cns (some dn) xr (some sk))).1 (cns, dn) = some (written me fs.data) := by
  obtain ⟨_, _, fs, _, _, hs, h1, h2, h3⟩ := stepW_prop_changed filter e w me cns (some dn) xr (some sk) (cns, dn) h
  cases hs
  exact ⟨fs, h1, h2, h3⟩

/-- **Written only if asked.** An owner that references no secret (or, for a claim, whose XR
references none) causes no write request at all and leaves the store as it is. -/
theorem stepW_unasked (filter : List String) (e : EnvW) (w : World) (op : Op)
    (h : op.target = none ∨ ∃ me cns cref xr, op = .prop me cns cref xr none) :
    (stepW filter e w op).1 = w ∧ (stepW filter e w op).2.writes = 0 ∧ (stepW filter e w op).2.published = false := by
  rcases h with h | ⟨me, cns, cref, xr, rfl⟩
  · cases op with
    | pub me ref details =>
      cases h
      exact ⟨rfl, rfl, rfl⟩
    | prop me cns cref xr xref =>
      cases cref with
      | some dn => cases h
      | none => cases xref <;> exact ⟨rfl, rfl, rfl⟩
  · cases cref <;> exact ⟨rfl, rfl, rfl⟩

/-- **Identical data is never rewritten, in the world.** If every key the XR would publish is
already stored with that value, the store stays as it is in every environment, and without a
failing call no write request is sent and nothing is reported published. -/
theorem stepW_pub_no_rewrite (filter : List String) (e : EnvW) (w : World) (me : String) (k : Key)
    (details : Data) (s : ASecret) (hs : wget w k = some s)
    (h : ∀ kv ∈ desiredData filter details, dget s.data kv.1 = some kv.2) :
    (stepW filter e w (.pub me (some k) details)).1 = w ∧
    (e.fault = none → (stepW filter e w (.pub me (some k) details)).2.writes = 0 ∧
        (stepW filter e w (.pub me (some k) details)).2.published = false) := by
  have hnu : needsUpdate (dstView me s).data (desiredData filter details) = false := needsUpdate_eq_false.mpr h
  simp only [stepW, hs, Option.map_some]
  have ho := applyA_refused (publishA_eq e.fault filter details (some (dstView me s))) (Or.inr (by rw [hnu]; rfl))
  refine ⟨applyOut_none ho.1, fun hf => ⟨?_, ho.2⟩⟩
  have hw := (publish_no_rewrite filter details (dstView me s) h).1
  rw [← publishA_none] at hw
  rw [hf]
  exact hw

/-- Publishing the same details again right after a successful publish sends no write request. -/
theorem stepW_pub_idempotent (filter : List String) (w : World) (me : String) (k : Key) (details : Data)
    (hn : (details.map (·.1)).Nodup)
    (hp : (stepW filter {} w (.pub me (some k) details)).2.published = true) :
    (stepW filter {} (stepW filter {} w (.pub me (some k) details)).1 (.pub me (some k) details)).2.writes = 0 := by
  have hp' : (publish true filter details ((wget w k).map (dstView me))).published = true := by
    rw [← publishA_none]; exact hp
  obtain ⟨⟨d', hq⟩, _⟩ := publishA_published hp
  -- to `me`, the secret after the first publish is the slot `publish` leaves
  have hv : (wget (stepW filter {} w (.pub me (some k) details)).1 k).map (dstView me) =
      (publish true filter details ((wget w k).map (dstView me))).slot := by
    rw [← publishA_none, Out.res_write_some hq]
    show (wget (applyOut w k me _) k).map (dstView me) = _
    rw [applyOut_some hq]
    simp [dstView, written]
  have h2 := publish_idempotent filter details hn _ hp'
  rw [← hv, ← publishA_none] at h2
  exact h2

theorem stepW_keeps (filter : List String) (e : EnvW) (w : World) (op : Op) (k : Key) (s : ASecret)
    (hs : wget w k = some s) (hc : mayControl op.me s = false) : wget (stepW filter e w op).1 k = some s := by
  by_cases ht : op.target = some k
  · rw [(stepW_guard filter e w op k s ht hs hc).1]; exact hs
  · rw [stepW_frame filter e w op k ht]; exact hs

/-- **Histories: details reach only their owner's secret.** Over ANY sequence of operations of
the long-lived publisher and propagator, for any owners, in any environments (error classes,
lost answers, cache misses, concurrent writers): a secret that none of the acting owners may
control — it is controlled by another UID, or uncontrolled and not a connection secret — is
bit for bit what it was. -/
theorem runW_foreign_untouched (filter : List String) (ops : List (EnvW × Op)) (w : World) (k : Key) (s : ASecret)
    (hs : wget w k = some s) (hc : ∀ p ∈ ops, mayControl p.2.me s = false) :
    wget (runW filter w ops) k = some s := by
  rw [runW_eq_foldl]
  exact List.foldlRecOn (motive := fun w => wget w k = some s) ops _ hs
    fun w hw p hp => stepW_keeps filter p.1 w p.2 k s hw (hc p hp)

/-- Histories: a key no operation of the sequence addresses keeps its secret (or stays absent). -/
theorem runW_frame (filter : List String) (ops : List (EnvW × Op)) (w : World) (k : Key)
    (h : ∀ p ∈ ops, p.2.target ≠ some k) : wget (runW filter w ops) k = wget w k := by
  rw [runW_eq_foldl]
  exact List.foldlRecOn (motive := fun w' => wget w' k = wget w k) ops _ rfl
    fun w' hw' p hp => (stepW_frame filter p.1 w' p.2 k (h p hp)).trans hw'

/-- **P&T: a foreign resource blocks the flow.** If any template is associated with a composed
resource controlled by someone else, the reconcile publishes nothing and the store is unchanged,
however many other templates there are and wherever the foreign one stands. -/
theorem flow_pt_foreign_blocks (filter : List String) (e : EnvW) (w : World) (me : String) (ref : Option Key)
    (ts : List Tmpl) (h : ∃ t ∈ ts, t.ctrl = .other) :
    flowStep filter e w false me ref ts = (w, .fail 0, false) := by
  obtain ⟨t, ht, hc⟩ := h
  have : (ts.any fun t => decide (t.ctrl = .other)) = true := List.any_eq_true.mpr ⟨t, ht, by simp [hc]⟩
  simp [flowStep, flowDetails, this]

/-- **Functions: a foreign resource is invisible.** What the pipeline is shown, and so what is
published, does not depend on resources controlled by someone else: not on their connection
secrets, not on their number or position. -/
theorem flow_fn_foreign_invisible (ts ts' : List Tmpl)
    (h : ts.filter (fun t => t.ctrl ≠ .other) = ts'.filter (fun t => t.ctrl ≠ .other)) :
    flowDetails true ts = flowDetails true ts' := by
  show foldDetails (ts.filter fun t => t.ctrl ≠ .other) [] = foldDetails (ts'.filter fun t => t.ctrl ≠ .other) []
  rw [h]

/-- a reconcile changes no secret but the one its XR references, whatever its templates read -/
theorem flow_frame (filter : List String) (e : EnvW) (w : World) (fn : Bool) (me : String) (ref : Option Key)
    (ts : List Tmpl) (k : Key) (h : ref ≠ some k) : wget (flowStep filter e w fn me ref ts).1 k = wget w k := by
  unfold flowStep
  cases flowDetails fn ts with
  | none => rfl
  | some d => exact stepW_frame filter e w (.pub me ref d) k (by simpa [Op.target] using h)

/-- a reconcile never writes a secret its XR may not control -/
theorem flow_guard (filter : List String) (e : EnvW) (w : World) (fn : Bool) (me : String) (k : Key)
    (ts : List Tmpl) (s : ASecret) (hs : wget w k = some s) (hc : mayControl me s = false) :
    (flowStep filter e w fn me (some k) ts).1 = w := by
  unfold flowStep
  cases flowDetails fn ts with
  | none => rfl
  | some d => exact (stepW_guard filter e w (.pub me (some k) d) k s rfl hs hc).1

/-- every value extraction adds comes from the connection secret it was given, from a fixed
value of a config, or from a field of the resource -/
theorem extract_provenance (conn : Data) (f : String → Option String) (cfgs : List Cfg) (acc d : Data)
    (h : extract conn f cfgs acc = some d) (k v : String) (hk : dget d k = some v) :
    dget acc k = some v ∨ v ∈ conn.map (·.2) ∨ v ∈ cfgs.filterMap (·.value) ∨ ∃ p, f p = some v :=
  (extract_built (S := fun v => v ∈ conn.map (·.2) ∨ v ∈ cfgs.filterMap (·.value) ∨ ∃ p, f p = some v)
    (fun k v h => Or.inl (dget_mem_values conn k v h)) (fun p _ h => Or.inr (Or.inr ⟨p, h⟩)) cfgs acc d
    (fun _ h => Or.inr (Or.inl h)) h).src hk

/-- every value of the folded details comes from one of the folded templates -/
theorem foldDetails_provenance (ts : List Tmpl) (acc d : Data) (h : foldDetails ts acc = some d)
    (k v : String) (hk : dget d k = some v) : dget acc k = some v ∨ ∃ t ∈ ts, v ∈ tmplValues t :=
  (foldDetails_built (S := fun v => ∃ t ∈ ts, v ∈ tmplValues t) ts acc d (fun t ht _ hv => ⟨t, ht, hv⟩) h).src hk

/-- `flow_values_provenance` below without its hypothesis that the details have distinct keys: they
always have (`flowDetails_nodup`). -/
theorem flowStep_values (filter : List String) (e : EnvW) (w : World) (fn : Bool) (me : String) (k : Key)
    (ts : List Tmpl) (key v : String)
    (hv : dget (dataAt (flowStep filter e w fn me (some k) ts).1 k) key = some v) :
    dget (dataAt w k) key = some v ∨
    (allowed filter key = true ∧ ∃ t ∈ ts, t.ctrl ≠ .other ∧ v ∈ tmplValues t) := by
  unfold flowStep at hv
  cases hd : flowDetails fn ts with
  | none => rw [hd] at hv; exact Or.inl hv
  | some d =>
    rw [hd] at hv
    rcases stepW_pub_keys filter e w me k d (flowDetails_nodup hd) key with h1 | ⟨ha, h2⟩
    · exact Or.inl (h1 ▸ hv)
    · exact ((flowDetails_built hd).src (h2 ▸ hv)).elim (fun h0 => by cases h0) fun h => Or.inr ⟨ha, h⟩

/-- **Only values produced by the composition for this XR.** After a reconcile (P&T or
functions, any number of templates, any environment of the publish), every key of the XR's
secret either holds what it held before, or is allowed by the filter and holds a value drawn, in
THIS reconcile, from a template whose composed resource is not controlled by someone else. -/
theorem flow_values_provenance (filter : List String) (e : EnvW) (w : World) (fn : Bool) (me : String) (k : Key)
    (ts : List Tmpl) (hn : ∀ d, flowDetails fn ts = some d → (d.map (·.1)).Nodup) (key v : String)
    (hv : dget (dataAt (flowStep filter e w fn me (some k) ts).1 k) key = some v) :
    dget (dataAt w k) key = some v ∨
    (allowed filter key = true ∧ ∃ t ∈ ts, t.ctrl ≠ .other ∧ v ∈ tmplValues t) :=
  flowStep_values filter e w fn me k ts key v hv

/-- functions: after a successful composition no template refers to somebody else's resource any
more (each such template got a fresh resource of the XR's own, without a connection secret), so
from then on the values a foreign resource's secret holds can still not reach the XR's secret.
`adoptFresh` is the step between two reconciles: no model function chains it with `flowStep`, the
driver (Drv/C09.lean, its list `fresh`) does, template by template. -/
theorem adoptFresh_no_foreign (ts : List Tmpl) : ∀ t ∈ adoptFresh true true ts, t.ctrl ≠ .other := by
  intro t ht
  simp only [adoptFresh, Bool.and_self, if_true, List.mem_map] at ht
  obtain ⟨t0, _, rfl⟩ := ht
  by_cases h : t0.ctrl = .other <;> simp [h]

theorem adoptFresh_drops_foreign_secret (ts : List Tmpl) :
    ∀ t ∈ ts, t.ctrl = .other → ∃ t' ∈ adoptFresh true true ts, t'.cfgs = t.cfgs ∧ t'.secret = none ∧ t'.ctrl = .owner := by
  intro t ht hc
  refine ⟨{ t with ctrl := .owner, secret := none, fetchErr := false, cdName := "" }, ?_, rfl, rfl, rfl⟩
  simp only [adoptFresh, Bool.and_self, if_true, List.mem_map]
  exact ⟨t, ht, by simp [hc]⟩

/-- one publisher, two XRs whose secrets have the same name in different namespaces: each gets
its own details; a secret of that name controlled by a third UID is refused -/
example :
    let w0 : World := [(("ns-c", "conn"), ⟨connType, some "uid-c", [], [("keep", "me")]⟩)]
    let w := runW ["user"] w0
      [({}, .pub "uid-a" (some ("ns-a", "conn")) [("user", "a"), ("pass", "x")]),
       ({}, .pub "uid-b" (some ("ns-b", "conn")) [("user", "b")]),
       ({}, .pub "uid-b" (some ("ns-c", "conn")) [("user", "b")])]
    wget w ("ns-a", "conn") = some (written "uid-a" [("user", "a")]) ∧
    wget w ("ns-b", "conn") = some (written "uid-b" [("user", "b")]) ∧
    wget w ("ns-c", "conn") = some ⟨connType, some "uid-c", [], [("keep", "me")]⟩ := ⟨rfl, rfl, rfl⟩

/-- a Forbidden answer to the Patch leaves the stored data; a lost answer does not -/
example :
    let w0 : World := [(("ns", "conn"), written "uid-a" [("user", "old")])]
    (stepW [] { fault := some ⟨1, .forbidden, false⟩ } w0 (.pub "uid-a" (some ("ns", "conn")) [("user", "new")])).1 = w0 ∧
    wget (stepW [] { fault := some ⟨1, .deadline, true⟩ } w0 (.pub "uid-a" (some ("ns", "conn")) [("user", "new")])).1 ("ns", "conn")
      = some (written "uid-a" [("user", "new")]) := ⟨rfl, rfl⟩

/-- functions: the foreign resource's secret never shows; P&T: it blocks the reconcile -/
example :
    let own : Tmpl := ⟨"cd-1", .owner, some [("user", "mine")], false, [⟨"FromConnectionSecretKey", "", some "user", none, none⟩]⟩
    let foreign : Tmpl := ⟨"cd-2", .other, some [("user", "theirs")], false, [⟨"FromConnectionSecretKey", "", some "user", none, none⟩]⟩
    flowDetails true [own, foreign] = some [("user", "mine")] ∧ flowDetails false [own, foreign] = none ∧
    flowDetails false [own] = some [("user", "mine")] := ⟨rfl, rfl, rfl⟩

/-- **A claim that is being deleted touches no secret.** Whatever the claim records about earlier
propagations (`propagated`), whatever is stored under the name its writeConnectionSecretToRef
gives — a secret controlled by ANOTHER claim included — the store is what it was, no call is
addressed to a secret and nothing is stamped. (The claim's own secret is left to Kubernetes
garbage collection.) -/
theorem claimRec_deleted_keeps_world (e : EnvW) (w : World) (c : ClaimIn) (h : c.deleted = true) :
    (claimRec e w c).1 = w ∧ (claimRec e w c).2.out = .nop ∧ (claimRec e w c).2.stamped = false := by
  simp [claimRec, h]

/-- a claim whose XR is not Ready (or does not exist) touches no secret either -/
theorem claimRec_waiting_keeps_world (e : EnvW) (w : World) (c : ClaimIn)
    (h : ∀ x, c.xr = some x → x.ready = false) :
    (claimRec e w c).1 = w ∧ (claimRec e w c).2.out = .nop ∧ (claimRec e w c).2.stamped = false := by
  rcases claimRec_cases e w c with h0 | ⟨x, _, hx, hr, _⟩
  · rw [h0]; exact ⟨rfl, rfl, rfl⟩
  · rw [h x hx] at hr; cases hr

/-- **Only the claim's own secret**: one reconcile of a claim (any environment) changes no secret
but the one named by the claim's writeConnectionSecretToRef in the claim's namespace. -/
theorem claimRec_frame (e : EnvW) (w : World) (c : ClaimIn) (k : Key)
    (h : c.cref.map (fun n => (c.cns, n)) ≠ some k) : wget (claimRec e w c).1 k = wget w k := by
  rcases claimRec_cases e w c with h0 | ⟨x, _, _, _, h1⟩
  · rw [h0]
  · rw [h1]; exact stepW_frame [] e w _ k h

/-- **… and only if the claim may control it**: a secret controlled by another UID (another
claim, the XR, a former incarnation of this claim) or uncontrolled and not of the connection type
is bit for bit what it was after any reconcile of the claim — live or being deleted. -/
theorem claimRec_foreign_untouched (e : EnvW) (w : World) (c : ClaimIn) (k : Key) (s : ASecret)
    (hs : wget w k = some s) (hc : mayControl c.me s = false) : wget (claimRec e w c).1 k = some s := by
  rcases claimRec_cases e w c with h0 | ⟨x, _, _, _, h1⟩
  · rw [h0]; exact hs
  · rw [h1]; exact stepW_keeps [] e w _ k s hs hc

/-- **A claim's secret changes only by an exact copy of a secret its Ready XR controls.** If any
secret differs after a reconcile of the claim, the claim is live, its XR is Ready, the secret is
the claim's, the secret the XR references is controlled by the XR's UID and the claim's secret now
holds exactly its data. -/
theorem claimRec_copy (e : EnvW) (w : World) (c : ClaimIn) (k : Key)
    (h : wget (claimRec e w c).1 k ≠ wget w k) :
    c.deleted = false ∧ ∃ x dn sk fs, c.xr = some x ∧ x.ready = true ∧ c.cref = some dn ∧ k = (c.cns, dn) ∧
      x.ref = some sk ∧ wget w sk = some fs ∧ fs.ctrl = some x.uid ∧
      wget (claimRec e w c).1 k = some (written c.me fs.data) := by
  rcases claimRec_cases e w c with h0 | ⟨x, hd, hx, hr, h1⟩
  · rw [h0] at h; exact absurd rfl h
  · rw [h1] at h ⊢
    obtain ⟨dn, sk, fs, h2⟩ := stepW_prop_changed [] e w c.me c.cns c.cref x.uid x.ref k h
    exact ⟨hd, x, dn, sk, fs, hx, hr, h2⟩

/-- **lastPublishedTime is read by nothing**: whatever the claim and its XR record about earlier
propagations / publications (unset, earlier, equal, later), a reconcile compares the two secrets. -/
theorem claimRec_ignores_times (e : EnvW) (w : World) (c : ClaimIn) (t t' : Nat) :
    claimRec e w { c with propagated := t, xr := c.xr.map fun x => { x with published := t' } } = claimRec e w c := by
  rcases c with ⟨me, cns, cref, del, xr, p⟩
  cases xr with
  | none => rfl
  | some x => rfl

/-- a deleted claim that once propagated, whose reference now names a secret of ANOTHER claim -/
example :
    let w : World := [(("ns", "conn"), written "uid-of-claim-a" [("password", "a")])]
    (claimRec {} w ⟨"uid-of-claim-b", "ns", some "conn", true, none, 3⟩).1 = w := rfl

/-- a live claim whose secret was deleted after it propagated (claim stamped later than the XR):
the copy is made again -/
example :
    let w : World := [(("xrns", "x"), written "xr-uid" [("user", "u")])]
    let r := claimRec {} w ⟨"c-uid", "ns", some "conn", false, some ⟨"xr-uid", some ("xrns", "x"), true, 1⟩, 2⟩
    wget r.1 ("ns", "conn") = some (written "c-uid" [("user", "u")]) ∧ r.2.stamped = true := ⟨rfl, rfl⟩

/-- the fetcher reads nothing but the secret its owner references -/
theorem fetchA_reads_only_referenced (w w' : World) (ref : Option Key) (f : Option ECls)
    (h : ∀ k, ref = some k → wget w k = wget w' k) : fetchA w ref f = fetchA w' ref f := by
  cases ref with
  | none => rfl
  | some k => simp [fetchA, h k rfl]

/-- what it returns is nothing, or the data of that secret -/
theorem fetchA_values (w : World) (k : Key) (f : Option ECls) (d : Data) (h : fetchA w (some k) f = some d) :
    d = [] ∨ ∃ s, wget w k = some s ∧ d = s.data := by
  cases f with
  | some c =>
    cases c with
    | notFound => exact Or.inl (Option.some.inj h).symm
    | _ => cases h
  | none =>
    have hd : d = ((wget w k).map (·.data)).getD [] := (Option.some.inj h).symm
    cases hg : wget w k with
    | none =>
      rw [hg] at hd
      exact Or.inl hd
    | some s =>
      rw [hg] at hd
      exact Or.inr ⟨s, rfl, hd⟩

/-- an owner without a reference has no details and no error; a NotFound is not an error -/
theorem fetchA_lenient (w : World) (k : Key) : fetchA w none none = some [] ∧ fetchA w (some k) (some .notFound) = some [] :=
  ⟨rfl, rfl⟩

/-- fromFieldPath: a string is taken as it is, any other value as its JSON text, and only a path
that designates nothing is an error (the detail is then skipped by `extract`) -/
theorem fromFieldPath_spec (v : Option FVal) :
    (∀ s, v = some (.str s) → fromFieldPath v = some s) ∧
    (∀ x, v = some x → (∀ s, x ≠ .str s) → fromFieldPath v = some (marshal x)) ∧
    (fromFieldPath v = none ↔ v = none) := by
  refine ⟨?_, ?_, ?_⟩
  · intro s h; subst h; rfl
  · intro x h hx; subst h
    cases x with
    | str s => exact absurd rfl (hx s)
    | int n => rfl
    | bool b => rfl
    | strs l => rfl
  · cases v with
    | none => simp [fromFieldPath]
    | some x => cases x <;> simp [fromFieldPath]

/-- a FromFieldPath detail over a typed field: present ⇒ published under the detail's name with
the string / the JSON text; absent ⇒ skipped without an error -/
theorem extract_fromPath_typed (conn : Data) (va : String → Option FVal) (name p : String) (acc : Data)
    (hn : name ≠ "") :
    extract conn (fieldReader va) [⟨"FromFieldPath", name, none, some p, none⟩] acc =
      match va p with
      | none => some acc
      | some (.str s) => some (dset acc name s)
      | some x => some (dset acc name (marshal x)) := by
  rw [extract_fromPath conn (fieldReader va) name (some p) acc hn]
  simp only [Option.map_some, fieldReader]
  cases va p with
  | none => rfl
  | some x => cases x <;> rfl

example : fromFieldPath (some (.int 5432)) = some "5432" ∧ fromFieldPath (some (.strs ["a", "b"])) = some "[\"a\",\"b\"]" ∧
    fromFieldPath (some (.bool true)) = some "true" ∧ fromFieldPath (some (.str "db")) = some "db" := ⟨rfl, rfl, rfl, rfl⟩

/-- **"All keys" only when the XRD lists NONE.** A filter that is not empty allows exactly the keys
it lists; in particular a list of blank entries only (connectionSecretKeys: [""]) allows no
non-blank key at all - blank entries are not dropped before the "empty means all" test. -/
theorem allowed_nonempty_iff (filter : List String) (k : String) (h : filter ≠ []) :
    allowed filter k = true ↔ k ∈ filter := by
  cases filter with
  | nil => exact absurd rfl h
  | cons a as => simp [allowed]

theorem allowed_blanks_only (filter : List String) (k : String) (h : filter ≠ []) (hb : ∀ f ∈ filter, f = "")
    (hk : k ≠ "") : allowed filter k = false := by
  cases hq : allowed filter k with
  | false => rfl
  | true => exact absurd (hb k ((allowed_nonempty_iff filter k h).mp hq)) hk

/-- … hence such an XRD publishes nothing: the desired data is empty for every detail map with
non-blank keys, whatever the secret held before -/
theorem desiredData_blanks_only (filter : List String) (details : Data) (h : filter ≠ []) (hb : ∀ f ∈ filter, f = "")
    (hd : ∀ kv ∈ details, kv.1 ≠ "") : desiredData filter details = [] := by
  unfold desiredData
  rw [List.filter_eq_nil_iff]
  intro kv hkv
  simp [allowed_blanks_only filter kv.1 h hb (hd kv hkv)]

/-- blank entries next to real keys allow nothing more than the real keys -/
theorem allowed_ignores_blanks (filter : List String) (k : String) (hk : k ≠ "") (hr : ∃ f ∈ filter, f ≠ "") :
    allowed filter k = allowed (filter.filter (· ≠ "")) k := by
  obtain ⟨f, hf, hf'⟩ := hr
  have h1 : filter ≠ [] := List.ne_nil_of_mem hf
  have h2 : filter.filter (· ≠ "") ≠ [] := List.ne_nil_of_mem (List.mem_filter.mpr ⟨hf, by simpa using hf'⟩)
  rw [Bool.eq_iff_iff, allowed_nonempty_iff _ _ h1, allowed_nonempty_iff _ _ h2, List.mem_filter]
  simp [hk]

example : desiredData ["", ""] [("user", "u"), ("pass", "p")] = [] ∧
    desiredData ["", "user"] [("user", "u"), ("pass", "p")] = [("user", "u")] ∧
    desiredData [] [("user", "u"), ("pass", "p")] = [("user", "u"), ("pass", "p")] := ⟨rfl, rfl, rfl⟩

/-! ### regenerated call skeletons (Xp.Gen.C09Skel, extracted from the current tree on every run)
equal the skeletons declared next to the model (Model/C09Skel.lean) -/

theorem skeleton_new_publisher : Xp.Gen.c09SkelNewPublisher = skelNewPublisher := rfl
theorem skeleton_new_propagator : Xp.Gen.c09SkelNewPropagator = skelNewPropagator := rfl
theorem skeleton_patching_apply : Xp.Gen.c09SkelPatchingApply = skelPatchingApply := rfl
theorem skeleton_updating_apply : Xp.Gen.c09SkelUpdatingApply = skelUpdatingApply := rfl
theorem skeleton_must_be_controllable : Xp.Gen.c09SkelMustBeControllable = skelMustBeControllable := rfl
theorem skeleton_publish : Xp.Gen.c09SkelPublish = skelPublish := rfl
theorem skeleton_unpublish : Xp.Gen.c09SkelUnpublish = skelUnpublish := rfl
theorem skeleton_propagate : Xp.Gen.c09SkelPropagate = skelPropagate := rfl
theorem skeleton_claim_nop_unpublish : Xp.Gen.c09SkelClaimNopUnpublish = skelClaimNopUnpublish := rfl
theorem skeleton_fetch_chain : Xp.Gen.c09SkelFetchChain = skelFetchChain := rfl
theorem skeleton_fetch_secret : Xp.Gen.c09SkelFetchSecret = skelFetchSecret := rfl
theorem skeleton_extract : Xp.Gen.c09SkelExtract = skelExtract := rfl
theorem skeleton_from_field_path : Xp.Gen.c09SkelFromFieldPath = skelFromFieldPath := rfl
theorem skeleton_extract_configs : Xp.Gen.c09SkelExtractConfigs = skelExtractConfigs := rfl
theorem skeleton_detail_type : Xp.Gen.c09SkelDetailType = skelDetailType := rfl
theorem skeleton_pt_compose : Xp.Gen.c09SkelPTCompose = skelPTCompose := rfl
theorem skeleton_fn_observe : Xp.Gen.c09SkelFnObserve = skelFnObserve := rfl
theorem skeleton_fn_compose : Xp.Gen.c09SkelFnCompose = skelFnCompose := rfl
theorem skeleton_xr_reconcile : Xp.Gen.c09SkelXRReconcile = skelXRReconcile := rfl
theorem skeleton_claim_reconcile : Xp.Gen.c09SkelClaimReconcile = skelClaimReconcile := rfl
theorem skeleton_wiring : Xp.Gen.c09SkelWiring = skelWiring := rfl
/-! the claim reconciler is built with the unpublisher / propagator the model mirrors -/
theorem default_claim_unpublisher : Xp.Gen.c09ClaimDefaultUnpublisher = claimDefaultUnpublisher := rfl
theorem default_claim_propagator : Xp.Gen.c09ClaimDefaultPropagator = claimDefaultPropagator := rfl
/-! the constants the model carries as literals -/
theorem const_connection_type : Xp.Gen.c09SecretTypeConnection = connType := rfl
theorem const_detail_types : Xp.Gen.c09DetailTypes = ["FromConnectionSecretKey", "FromFieldPath", "FromValue"] := rfl

end Xp.C09
