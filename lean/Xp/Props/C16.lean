import Xp.Proofs.C16Refs
import Xp.Proofs.C16Enrich
import Xp.Model.C16Skel
import Xp.Gen.C16
import Xp.Gen.C16Skel
import Xp.Gen.C16Enrich
/-
C16 — establishing package objects is all-or-nothing and respects the
active/inactive role.

Every theorem is stated for an ARBITRARY API-server rejection predicate
`rejects : Obj → Bool`, an ARBITRARY fault plan `fault` (an error or a crash at the
Get, the dry-run write or the real write of any object), ARBITRARY goroutine
completion orders `vorder`/`eorder` (and, for ReleaseObjects, an arbitrary set
`ran` of goroutines that got past the cancellation check), and every initial
store, or, where the argument needs the two guarantees of the API server, every
one that is well formed (`WF`: object keys unique, resourceVersions fresh).
-/
namespace Xp.C16

/-! ## 1. All-or-nothing -/

/-- The validate phase (every create/update as a dry run) never changes the store
nor issues a real write, whatever happens. -/
theorem validate_writes_nothing (rejects : Obj → Bool) (fault : Fault) (p : Parent) (control : Bool)
    (s : Store) (xs : List (Nat × Desired)) :
    (validateAll rejects fault p control s xs).1 = s :=
  validateAll_store rejects fault p control s xs

/-- **All or nothing.** If some object of the package (the `j`-th, whose goroutine is
among those that ran) cannot be taken over — an active revision finds it
controlled by a different revision or owner; or the API server would reject what
Establish submits for it; or it is a CRD with webhook conversion and the active
parent has no TLS bundle for it — then Establish fails and the store *and the log
of non-dry-run writes* are exactly what they were: no object of the package is
created or modified and no real write is even attempted. For every fault plan
and every completion order. -/
theorem all_or_nothing (rejects : Obj → Bool) (fault : Fault) (p : Parent) (control : Bool)
    (s : Store) (objs : List Desired) (vorder eorder : List Nat)
    (j : Nat) (d : Desired) (hd : objs[j]? = some d) (hj : j ∈ vorder)
    (hb : (control = true ∧ ForeignControlled p s d) ∨
          (∃ o, submission p control s d = some o ∧ rejects o = true) ∨
          (control = true ∧ d.needsCA = true ∧ p.tls ≠ .present)) :
    (establish rejects fault p control s objs vorder eorder).1 = s ∧
    ∀ refs, (establish rejects fault p control s objs vorder eorder).2 ≠ .ok refs := by
  rw [← establishI_none]
  exact establishI_validate_failed rejects fault Interf.none p control s objs vorder eorder
    (validateAll_blocked rejects fault p control s (pick objs vorder) j d (mem_pick hd hj) hb)

/-- More generally, *any* failure of the dry-run phase — a transient API error or a
crash at any Get or dry-run call included — leaves the store and the write log
untouched: the establish phase is never entered. -/
theorem dry_run_phase_failure_writes_nothing (rejects : Obj → Bool) (fault : Fault) (p : Parent) (control : Bool)
    (s : Store) (objs : List Desired) (vorder eorder : List Nat)
    (hf : (validateAll rejects fault p control s (pick objs vorder)).2.failed) :
    (establish rejects fault p control s objs vorder eorder).1 = s := by
  rw [← establishI_none]
  exact (establishI_validate_failed rejects fault Interf.none p control s objs vorder eorder hf).1

/-- A controlling parent with a runtime whose webhook TLS secret cannot be read, is
missing or holds an empty certificate establishes nothing at all. -/
theorem tls_failure_writes_nothing (rejects : Obj → Bool) (fault : Fault) (p : Parent)
    (s : Store) (objs : List Desired) (vorder eorder : List Nat)
    (ht : p.tls = .missing ∨ p.tls = .empty) :
    establish rejects fault p true s objs vorder eorder = (s, .crash) ∨
    ∃ e, establish rejects fault p true s objs vorder eorder = (s, .err e) := by
  have hc : ∀ u, getCert fault p true ≠ .ok u := by
    unfold getCert
    rcases ht with ht | ht
    · rw [ht]
      cases fault 0 .tls <;> simp
    · rw [ht]
      cases fault 0 .tls <;> simp
  unfold establish
  split
  · exact Or.inr ⟨_, rfl⟩
  · exact Or.inl rfl
  · rename_i u hu
    exact absurd hu (hc u)

/-! ## 2. Role laws of one Establish -/

/-- **An inactive revision never creates anything**: the keys present after
Establish(control = false) are exactly the keys present before. -/
theorem inactive_never_creates (rejects : Obj → Bool) (fault : Fault) (p : Parent)
    (s : Store) (objs : List Desired) (vorder eorder : List Nat) (hw : WF s) :
    let s' := (establish rejects fault p false s objs vorder eorder).1
    (∀ o' ∈ s'.objs, ∃ o ∈ s.objs, o.key = o'.key) ∧ (∀ o ∈ s.objs, ∃ o' ∈ s'.objs, o'.key = o.key) := by
  have h := (establish_inv rejects fault p false s objs vorder eorder hw).ev
  constructor
  · intro o' ho'
    rcases h.bwd o' ho' with ⟨o, ho, hk, _⟩ | ⟨_, hc⟩
    · exact ⟨o, ho, hk⟩
    · exact absurd hc.active (by simp)
  · intro o ho
    obtain ⟨o', ho', hk, _⟩ := h.fwd o ho
    exact ⟨o', ho', hk⟩

/-- **An inactive revision is at most a plain owner**: every object after
Establish(control = false) is either untouched, or it is the old object with the
same content, no owner entry dropped, no new controller (so the revision did not
become controller), and the revision present as a plain owner reference
(`controller` unset). -/
theorem inactive_plain_owner (rejects : Obj → Bool) (fault : Fault) (p : Parent)
    (s : Store) (objs : List Desired) (vorder eorder : List Nat) (hw : WF s) :
    ∀ o' ∈ (establish rejects fault p false s objs vorder eorder).1.objs,
      ∃ o ∈ s.objs, o.key = o'.key ∧
        (o' = o ∨ (o'.body = o.body ∧ asOwner p ∈ o'.owners ∧
                   (∀ u, hasUid o.owners u → hasUid o'.owners u) ∧
                   (∀ u, ctrl o'.owners u → ctrl o.owners u))) := by
  have h := (establish_inv rejects fault p false s objs vorder eorder hw).ev
  intro o' ho'
  rcases h.bwd o' ho' with ⟨o, ho, hk, hr⟩ | ⟨_, hc⟩
  · exact ⟨o, ho, hk, hr.imp id fun q => ⟨q.body rfl, q.mine, q.uids, q.ctrls_inactive⟩⟩
  · exact absurd hc.active (by simp)

/-- **Only an active revision becomes controller, and it controls what it writes**:
every object after Establish(control = true) is either untouched or carries the
controller reference of the parent, which is then its only controller; and no
owner entry was dropped. -/
theorem active_controls (rejects : Obj → Bool) (fault : Fault) (p : Parent)
    (s : Store) (objs : List Desired) (vorder eorder : List Nat) (hw : WF s) :
    ∀ o' ∈ (establish rejects fault p true s objs vorder eorder).1.objs,
      o' ∈ s.objs ∨
      (asController p ∈ o'.owners ∧ (∀ u, ctrl o'.owners u → u = p.uid) ∧
       ∀ o ∈ s.objs, o.key = o'.key → ∀ u, hasUid o.owners u → hasUid o'.owners u) := by
  have hinv := establish_inv rejects fault p true s objs vorder eorder hw
  have h := hinv.ev
  intro o' ho'
  rcases h.bwd o' ho' with ⟨o, ho, hk, hr⟩ | ⟨hnew, hc⟩
  · rcases hr with e | q
    · exact Or.inl (e ▸ ho)
    · refine Or.inr ⟨q.mine, q.only_ctrl, fun o2 ho2 hk2 => ?_⟩
      cases hw.keys o2 ho2 o ho (hk2.trans hk.symm)
      exact q.uids
  · exact Or.inr ⟨hc.mine, hc.ctrls, fun o ho hk => absurd hk (hnew o ho)⟩

/-- **A successful Establish covers the whole package**: if Establish reports
success, every object of the package (whose goroutines are in both completion
orders) exists and carries the parent's reference — controller reference for an
active parent; for an inactive parent the plain owner reference, provided the
object existed (an inactive revision creates nothing). -/
theorem establish_success_covers (rejects : Obj → Bool) (fault : Fault) (p : Parent) (control : Bool)
    (s s' : Store) (objs : List Desired) (vorder eorder : List Nat) (refs : List Ref) (hw : WF s)
    (h : establish rejects fault p control s objs vorder eorder = (s', .ok refs))
    (j : Nat) (d : Desired) (hd : objs[j]? = some d) (hv : j ∈ vorder) (he : j ∈ eorder)
    (hc : control = true ∨ (s.get d.key).isSome = true) :
    ∃ o' ∈ s'.objs, o'.key = d.key ∧ (if control then asController p else asOwner p) ∈ o'.owners := by
  rw [← establishI_none] at h
  rcases establishI_cases rejects fault Interf.none p control s objs vorder eorder with ⟨r, e, hr⟩ | ⟨cds, heq, e⟩ <;>
    rw [e] at h
  · cases h
    exact hr.elim
  · rw [establishAllI_none] at h
    have hcds := validateAll_cdseen rejects fault p control hw heq
    obtain ⟨sh1, sh2⟩ := validateAll_shape rejects fault p control heq
    obtain ⟨cd, hcd⟩ := sh1 (j, d) (mem_pick hd hv)
    obtain ⟨cd', hcd'⟩ := pickCD_mem_of he hcd
    obtain ⟨d', hd', hk', hsome', _⟩ := sh2 (j, cd') (mem_pickCD hcd')
    cases (mem_pick_iff.mp hd').1.symm.trans hd
    have := establishAll_ok rejects fault p control (EInv.refl p control s hw)
      (fun y hy => hcds y (mem_pickCD hy)) h (j, cd') hcd' (hc.imp id fun hc => hsome'.trans hc)
    exact hk' ▸ this

/-- **The package is a plain owner of every established object**: whenever the
parent's owner reference to its package resolves (to `q`, a different object than
the revision), every object Establish created or modified — active or inactive —
carries `q` with controller=false. -/
theorem package_is_plain_owner (rejects : Obj → Bool) (fault : Fault) (p : Parent) (control : Bool)
    (s : Store) (objs : List Desired) (vorder eorder : List Nat) (hw : WF s)
    (q : ORef) (hq : pkgRef p = some q) (hne : q.uid ≠ p.uid) :
    ∀ o' ∈ (establish rejects fault p control s objs vorder eorder).1.objs,
      o' ∈ s.objs ∨ (q ∈ o'.owners ∧ q.controller = some false) := by
  have h := (establish_inv rejects fault p control s objs vorder eorder hw).ev
  intro o' ho'
  rcases h.bwd o' ho' with ⟨o, ho, _, hr⟩ | ⟨_, hc⟩
  · rcases hr with e | qe
    · exact Or.inl (e ▸ ho)
    · exact Or.inr ⟨qe.pkg q hq hne, pkgRef_controller hq⟩
  · exact Or.inr ⟨hc.pkg q hq hne, pkgRef_controller hq⟩

/-! ## 3. Deactivation: ReleaseObjects -/

/-- **Deactivation gives up control but keeps ownership**: ReleaseObjects never
deletes or creates an object, never changes content, never drops an owner entry
and never makes anybody controller; an object it did write has the revision as an
owner whose (first) entry is not a controller reference. For every fault plan and
every set of goroutines that ran. -/
theorem release_keeps_owner (rejects : Obj → Bool) (fault : Fault) (p : Parent) (ran : Nat → Bool)
    (s : Store) (refs : List Ref) (order : List Nat) (hw : WF s) :
    let s' := (release rejects fault p ran s refs order).1
    (∀ o ∈ s.objs, ∃ o' ∈ s'.objs, o'.key = o.key ∧ o'.body = o.body ∧
        (∀ u, hasUid o.owners u → hasUid o'.owners u) ∧ (∀ u, ctrl o'.owners u → ctrl o.owners u) ∧
        (o' = o ∨ (hasUid o'.owners p.uid ∧
                   ∀ r, o'.owners.find? (fun r => r.uid = p.uid) = some r → r.isCtrl = false))) ∧
    (∀ o' ∈ s'.objs, ∃ o ∈ s.objs, o.key = o'.key) := by
  have h := (release_inv rejects fault p ran s refs order hw).ev
  constructor
  · intro o ho
    obtain ⟨o', ho', hk, hr⟩ := h.fwd o ho
    refine ⟨o', ho', hk, ?_⟩
    rcases hr with e | q
    · subst e; exact ⟨rfl, fun _ h => h, fun _ h => h, Or.inl rfl⟩
    · exact ⟨q.body, q.uids, q.ctrls, Or.inr ⟨q.mine, q.released⟩⟩
  · intro o' ho'
    rcases h.bwd o' ho' with ⟨o, ho, hk, _⟩ | ⟨_, hf⟩
    · exact ⟨o, ho, hk⟩
    · exact hf.elim

/-- **A successful release has released everything it references**: every stored
object named by a reference (whose goroutine is in the order) has the revision as
an owner that is not its controller. -/
theorem release_gives_up_control (rejects : Obj → Bool) (fault : Fault) (p : Parent) (ran : Nat → Bool)
    (s s' : Store) (refs : List Ref) (order : List Nat) (hw : WF s)
    (h : release rejects fault p ran s refs order = (s', .ok ()))
    (j : Nat) (k : Ref) (hk : refs[j]? = some k) (hj : j ∈ order) :
    ∀ o' ∈ s'.objs, o'.key = k.key → hasUid o'.owners p.uid ∧
      ∀ r, o'.owners.find? (fun r => r.uid = p.uid) = some r → r.isCtrl = false := by
  rw [← releaseV_none] at h
  intro o' ho' hkey
  rcases releaseV_ok rejects fault RInterf.none p ran hw h j k hk hj o' ho' hkey with ⟨_, ⟨_, ha⟩, _⟩ | h1
  · rcases ha with ha | ha <;> cases ha
  · exact h1

/-! ## 4. The reconciler and histories -/

/-- **Reconciling an inactive revision** (ReleaseObjects, then Establish(control=false)
only while `status.objectRefs` is empty) never creates an object, never drops an
owner entry and never makes anybody controller. -/
theorem inactive_reconcile_never_creates_or_controls (sys : Sys) (r : Rev) (e : Env)
    (hw : WF sys.store) (hr : r.active = false) :
    let s' := (reconcileRev sys r e).1.store
    (∀ o' ∈ s'.objs, ∃ o ∈ sys.store.objs, o.key = o'.key ∧
        (∀ u, hasUid o.owners u → hasUid o'.owners u) ∧ (∀ u, ctrl o'.owners u → ctrl o.owners u)) := by
  intro s' o' ho'
  obtain ⟨hk, hw'⟩ := reconcileRev_kept sys r e hw
  obtain ⟨⟨o, ho, hko⟩ | ⟨_, hf, _⟩, hc⟩ :=
    (reconcileRev_good sys r e hw (fun _ => False) (fun ha => by rw [hr] at ha; cases ha) o' ho').inactive
  · refine ⟨o, ho, hko, fun u hu => ?_, fun u hu => ?_⟩
    · obtain ⟨o'', ho'', hk'', hu''⟩ := hk o ho
      cases hw'.keys o'' ho'' o' ho' (hk''.trans hko)
      exact hu'' u hu
    · rcases hc u hu with ⟨o₂, ho₂, hk₂, hc₂⟩ | ⟨_, hf, _⟩
      · cases hw.keys o₂ ho₂ o ho (hk₂.trans hko.symm)
        exact hc₂
      · exact hf.elim
  · exact hf.elim

/-- **History corollary** (induction over the history). Take any sequence of
reconciles of any revisions, each with the desired state it has at that moment
(upgrades, rollbacks, two revisions active at once, …), in any order, under any
faults and goroutine orders. Then, comparing the final store with the initial one:
 * nothing was deleted and no object lost an owner entry;
 * an owner that is a controller at the end either was one at the start or is a
   revision that was reconciled as *active* in the history;
 * an object that did not exist at the start is owned by a revision that was
   reconciled as active, and controlled by such revisions only. -/
theorem history_roles (sys : Sys) (h : List (Rev × Env)) (hw : WF sys.store) :
    let s' := (runHistory sys h).store
    (∀ o ∈ sys.store.objs, ∃ o' ∈ s'.objs, o'.key = o.key ∧ ∀ u, hasUid o.owners u → hasUid o'.owners u) ∧
    (∀ o' ∈ s'.objs, ∀ u, ctrl o'.owners u →
        (∃ o ∈ sys.store.objs, o.key = o'.key ∧ ctrl o.owners u) ∨ ActiveIn h u) ∧
    (∀ o' ∈ s'.objs, (∀ o ∈ sys.store.objs, o.key ≠ o'.key) → ∃ u, ActiveIn h u ∧ hasUid o'.owners u) := by
  have g := runHistory_ginv sys sys.store.objs (ActiveIn h) h (fun _ h => h) (GInv.init sys.store _ _ hw)
  refine ⟨(runHistory_kept sys h hw).1, fun o' ho' u hu => ?_, fun o' ho' hnew => ?_⟩
  · exact ((g.good o' ho').ctrls u hu).imp id fun h => h.elim id fun ⟨_, hf, _⟩ => hf.elim
  · rcases (g.good o' ho').origin with ⟨o, ho, hk⟩ | ⟨_, hf, _⟩ | h
    · exact absurd hk (hnew o ho)
    · exact hf.elim
    · exact h

/-- **No garbage collection during an upgrade.** If an object has an owner `u`
(e.g. the package, which `package_is_plain_owner` puts on every established
object) and `u` stays alive, then after any history of reconciles the object
still exists and the Kubernetes garbage collector does not collect it — whichever
revisions were deactivated or deleted in between. -/
theorem never_collected (sys : Sys) (h : List (Rev × Env)) (hw : WF sys.store)
    (o : Obj) (ho : o ∈ sys.store.objs) (u : Nat) (hu : hasUid o.owners u)
    (live : Nat → Bool) (hl : live u = true) :
    ∃ o' ∈ (runHistory sys h).store.objs, o'.key = o.key ∧ gcCollects live o' = false := by
  obtain ⟨o', ho', hk, hm⟩ := (history_roles sys h hw).1 o ho
  refine ⟨o', ho', hk, ?_⟩
  obtain ⟨r, hr, hru⟩ := hm u hu
  unfold gcCollects
  have : (o'.owners.all fun r => !live r.uid) = false := by
    apply Bool.eq_false_iff.mpr
    intro hall
    have := List.all_eq_true.mp hall r hr
    rw [hru, hl] at this
    cases this
  rw [this, Bool.and_false]

/-- **A package never becomes a controller**: if no revision reconciled in the
history has the uid `q` (a package is not a revision) and `q` controls nothing
initially, `q` controls nothing afterwards — the package stays the plain owner
that `package_is_plain_owner` made it. -/
theorem package_never_controller (sys : Sys) (h : List (Rev × Env)) (hw : WF sys.store) (q : Nat)
    (hq : ∀ x ∈ h, x.1.parent.uid ≠ q) (h0 : ∀ o ∈ sys.store.objs, ¬ ctrl o.owners q) :
    ∀ o' ∈ (runHistory sys h).store.objs, ¬ ctrl o'.owners q := by
  intro o' ho' hc
  rcases (history_roles sys h hw).2.1 o' ho' q hc with ⟨o, ho, _, hco⟩ | ⟨x, hx, _, hxu⟩
  · exact h0 o ho hco
  · exact hq x hx hxu

/-- Well-formedness is an invariant of every history (so the hypotheses above are
available at every intermediate point, and every theorem about one Establish /
ReleaseObjects / reconcile applies to every step of every history). -/
theorem history_wf (sys : Sys) (h : List (Rev × Env)) (hw : WF sys.store) : WF (runHistory sys h).store :=
  (runHistory_kept sys h hw).2

/-! ## 5. Tables regenerated from the source on every run

`Xp/Gen/C16.lean` is produced by running the library functions of the current tree
(`meta.AddOwnerReference`, `meta.AddControllerReference`, `meta.AsController`,
`meta.AsOwner`, `revision.GetPackageOwnerReference`) on every list of at most two
owner references over two uids × controller ∈ {nil,false,true}. The model's
definitions must reproduce every row. (An exhaustive small scope tying helper
definitions to the code — not a stand-in for any of the proofs above.) -/

def ofGen (r : Xp.Gen.C16Ref) : ORef := ⟨r.1, r.2.1, r.2.2⟩

theorem addOwner_matches_library :
    Xp.Gen.c16AddOwnerTable.all (fun c => addOwner (c.1.map ofGen) (ofGen c.2.1) == c.2.2.map ofGen) = true := by
  decide +kernel

theorem addController_matches_library :
    Xp.Gen.c16AddControllerTable.all (fun c =>
      (match addController (c.1.map ofGen) (ofGen c.2.1) with
       | .ok l => some l
       | .error _ => none) == c.2.2.map (·.map ofGen)) = true := by
  decide +kernel

theorem owner_constructors_match_library :
    asController { uid := 7, label := "", owners := [] } = ofGen Xp.Gen.c16AsController ∧
    asOwner { uid := 7, label := "", owners := [] } = ofGen Xp.Gen.c16AsOwner := by
  decide +kernel

theorem pkgRef_matches_library :
    Xp.Gen.c16PkgRefTable.all (fun c =>
      (pkgRef { uid := 99, label := c.1, owners := c.2.1.zipIdx.map fun (n, i) => ⟨n, ⟨i, some true, none⟩⟩ }).map (·.uid) == c.2.2) = true := by
  decide +kernel

/-! ## 6. The hypotheses are satisfiable, and the statements discriminate -/

section Examples

/-- revision 11 of package 1 (its own owner reference points to the package) -/
def exRev11 : Parent := { uid := 11, label := "pkg-1", owners := [⟨"pkg-1", ⟨1, some true, some true⟩⟩] }
def exRev10 : Parent := { uid := 10, label := "pkg-1", owners := [⟨"pkg-1", ⟨1, some true, some true⟩⟩] }

/-- `a` is controlled by revision 20 of another package (2); `c` by the previous revision 10 of package 1 -/
def exStore : Store :=
  ⟨[⟨"Composition/a", 1, [⟨20, some true, some true⟩, ⟨2, some false, some true⟩], 1⟩,
    ⟨"Composition/c", 2, [⟨10, some true, some true⟩, ⟨1, some false, some true⟩], 1⟩], 3, []⟩

def exOk : Obj → Bool := fun _ => false
def exAll : Nat → Bool := fun _ => true

example : WF exStore := by
  refine ⟨?_, ?_⟩
  · intro x hx y hy e
    simp [exStore] at hx hy
    rcases hx with rfl | rfl <;> rcases hy with rfl | rfl <;> simp_all
  · intro o ho
    simp [exStore] at ho
    rcases ho with rfl | rfl <;> simp [exStore]

/-- the hypothesis of `all_or_nothing` holds for `a` … -/
example : ForeignControlled exRev11 exStore { key := "Composition/a", body := 7 } :=
  ⟨_, rfl, ⟨20, some true, some true⟩, by simp, rfl, by decide, fun q hq => by
    simp [pkgRef, exRev11] at hq; subst hq; decide⟩

/-- … and indeed nothing is written although `b` alone could have been created … -/
example : establish exOk Fault.none exRev11 true exStore [{ key := "Composition/b", body := 5 }, { key := "Composition/a", body := 7 }] [0, 1] [0, 1]
    = (exStore, .err .notControllable) := by decide +kernel

/-- … while without the blocked object the same call does create `b`, controlled by
revision 11 and plainly owned by package 1 (the conclusion is not vacuous). -/
example : (establish exOk Fault.none exRev11 true exStore [{ key := "Composition/b", body := 5 }] [0] [0]).1.objs =
    exStore.objs ++ [⟨"Composition/b", 3, [⟨11, some true, some true⟩, ⟨1, some false, some true⟩], 5⟩] := by decide +kernel

/-- An upgrade reconciled "in the wrong order": revision 11 is made active and
reconciled BEFORE the now inactive revision 10 has released `c`. The first
reconcile fails without touching anything (all-or-nothing); after revision 10 was
reconciled (release: controller → false, entry kept) revision 11 takes over. -/
def exEnv : Env := ⟨exOk, Fault.none, [0], [0], [0], exAll, id⟩
def exSys : Sys := ⟨exStore, fun u => if u = 10 then [⟨"Composition/c", true⟩] else []⟩
def exNew : Rev := ⟨exRev11, true, [{ key := "Composition/c", body := 9 }]⟩
def exOld : Rev := ⟨exRev10, false, [{ key := "Composition/c", body := 1 }]⟩

example : (reconcileRev exSys exNew exEnv).1.store = exStore := by decide +kernel

example : ((runHistory exSys [(exNew, exEnv), (exOld, exEnv), (exNew, exEnv)]).store.get "Composition/c").map (·.owners) =
    some [⟨10, some false, some true⟩, ⟨1, some false, some true⟩, ⟨11, some true, some true⟩] := by decide +kernel

/-- A limit of the guarantee, recorded on purpose: a poorly formed package that
lists the same object twice passes the dry-run phase (each copy is fine on its
own) and then fails half-way. No object is "blocked" in the sense of
`all_or_nothing`, so this is outside the property as worded (the code comments
acknowledge duplicates, crossplane issue 3466). -/
example : establish exOk Fault.none exRev11 true ⟨[], 1, []⟩ [{ key := "Composition/b", body := 5 }, { key := "Composition/b", body := 5 }] [0, 1] [0, 1]
    = (⟨[⟨"Composition/b", 1, [⟨11, some true, some true⟩, ⟨1, some false, some true⟩], 5⟩], 2,
        [⟨.create, "Composition/b", none, true⟩, ⟨.create, "Composition/b", some .alreadyExists, false⟩]⟩,
       .err .alreadyExists) := by decide +kernel

end Examples

/-! ## 7. Third-party interference

Sections 1–4 run Establish alone against the API server. Here another client (the
garbage collector, an administrator, another controller) writes in between: after
the validate phase and immediately before each real write of the establish phase
(`Interf`: arbitrary lists of deletions and of creations / replacements of objects
with arbitrary owner references), and, for histories, also between reconciles.
Every theorem below is for ALL stores (`WF`), rejection predicates, fault plans,
completion orders AND all interference.

Which of the laws above do NOT survive interference — they are false, not merely
unproved (see the counterexamples at the end of this section):
 * "nothing is deleted / every old object is still present, with all its owner
   entries" (`inactive_never_creates` second half, `release_keeps_owner` first half,
   `history_roles` first clause, `never_collected`): a third party may delete;
 * `establish_success_covers`: Establish can report success although an object it
   wrote has been deleted or replaced since;
 * the exact form "the keys afterwards are the keys before": a third party may add.
What survives is everything about what THE REVISION writes: an inactive revision
issues no create and never becomes controller, only an active revision becomes
controller, the package is a plain owner of whatever the revision wrote, nothing
at all is written when validation fails. -/

/-- The model of sections 1–4 is the special case "nobody interferes" (so every theorem
above is a statement about `establishI … Interf.none`). -/
theorem establishI_no_interference (rejects : Obj → Bool) (fault : Fault) (p : Parent) (control : Bool)
    (s : Store) (objs : List Desired) (vorder eorder : List Nat) (sys : Sys) (r : Rev) (e : Env)
    (h : List (Rev × Env)) :
    establishI rejects fault Interf.none p control s objs vorder eorder =
      establish rejects fault p control s objs vorder eorder ∧
    reconcileRevI sys r e Interf.none = reconcileRev sys r e ∧
    runHistoryI sys (h.map fun x => ⟨[], x.1, x.2, Interf.none⟩) = runHistory sys h :=
  ⟨establishI_none _ _ _ _ _ _ _ _, reconcileRevI_none _ _ _, runHistoryI_none _ _⟩

/-- **All or nothing, under interference**: with a blocked object (as in
`all_or_nothing`) Establish fails and the store and the revision's write log are
exactly what they were — the establish phase, and with it every interleaving with
it, is never reached. -/
theorem all_or_nothing_interf (rejects : Obj → Bool) (fault : Fault) (tp : Interf) (p : Parent) (control : Bool)
    (s : Store) (objs : List Desired) (vorder eorder : List Nat)
    (j : Nat) (d : Desired) (hd : objs[j]? = some d) (hj : j ∈ vorder)
    (hb : (control = true ∧ ForeignControlled p s d) ∨
          (∃ o, submission p control s d = some o ∧ rejects o = true) ∨
          (control = true ∧ d.needsCA = true ∧ p.tls ≠ .present)) :
    (establishI rejects fault tp p control s objs vorder eorder).1 = s ∧
    ∀ refs, (establishI rejects fault tp p control s objs vorder eorder).2 ≠ .ok refs :=
  establishI_validate_failed rejects fault tp p control s objs vorder eorder
    (validateAll_blocked rejects fault p control s (pick objs vorder) j d (mem_pick hd hj) hb)

/-- **An inactive revision never creates anything, whoever interferes**: every
object present after Establish(control = false) has a key that was present before,
or is an object the third party put; and the revision's own non-dry-run writes
(the log grows by `new`) are updates only — it does not even attempt a create. -/
theorem inactive_never_creates_interf (rejects : Obj → Bool) (fault : Fault) (tp : Interf) (p : Parent)
    (s : Store) (objs : List Desired) (vorder eorder : List Nat) (hw : WF s) :
    let s' := (establishI rejects fault tp p false s objs vorder eorder).1
    (∀ o' ∈ s'.objs, (∃ o ∈ s.objs, o.key = o'.key) ∨ PutBy tp.Puts o') ∧
    (∃ new, s'.log = s.log ++ new ∧ ∀ e ∈ new, e.verb = .update) := by
  refine ⟨fun o' ho' => ?_, ?_⟩
  · cases (establishI_inv rejects fault tp p false s objs vorder eorder hw).objs o' ho' with
    | same h => exact Or.inl ⟨o', h, rfl⟩
    | rewritten o ho hk _ => exact Or.inl ⟨o, ho, hk⟩
    | created c => exact absurd c.active (by simp)
    | third t => exact Or.inr t
  · exact (establishI_log rejects fault tp p false s objs vorder eorder hw).updates

/-- **An inactive revision never becomes controller, whoever interferes**: a
controller reference (of any uid, the revision's included) on an object after
Establish(control = false) was on the object of that key before, or the object is
one the third party put. -/
theorem inactive_never_controls_interf (rejects : Obj → Bool) (fault : Fault) (tp : Interf) (p : Parent)
    (s : Store) (objs : List Desired) (vorder eorder : List Nat) (hw : WF s) :
    ∀ o' ∈ (establishI rejects fault tp p false s objs vorder eorder).1.objs, ∀ u, ctrl o'.owners u →
      (∃ o ∈ s.objs, o.key = o'.key ∧ ctrl o.owners u) ∨ PutBy tp.Puts o' := by
  intro o' ho' u hu
  cases (establishI_inv rejects fault tp p false s objs vorder eorder hw).objs o' ho' with
  | same h => exact Or.inl ⟨o', h, rfl, hu⟩
  | rewritten o ho hk q => exact Or.inl ⟨o, ho, hk, q.ctrls_inactive u hu⟩
  | created c => exact absurd c.active (by simp)
  | third t => exact Or.inr t

/-- **An inactive revision is at most a plain owner, whoever interferes**:
`inactive_plain_owner` with one more case, an object the third party put. -/
theorem inactive_plain_owner_interf (rejects : Obj → Bool) (fault : Fault) (tp : Interf) (p : Parent)
    (s : Store) (objs : List Desired) (vorder eorder : List Nat) (hw : WF s) :
    ∀ o' ∈ (establishI rejects fault tp p false s objs vorder eorder).1.objs,
      o' ∈ s.objs ∨ PutBy tp.Puts o' ∨
      ∃ o ∈ s.objs, o.key = o'.key ∧ o'.body = o.body ∧ asOwner p ∈ o'.owners ∧
        (∀ u, hasUid o.owners u → hasUid o'.owners u) ∧ (∀ u, ctrl o'.owners u → ctrl o.owners u) := by
  intro o' ho'
  cases (establishI_inv rejects fault tp p false s objs vorder eorder hw).objs o' ho' with
  | same h => exact Or.inl h
  | rewritten o ho hk q => exact Or.inr (Or.inr ⟨o, ho, hk, q.body rfl, q.mine, q.uids, q.ctrls_inactive⟩)
  | created c => exact absurd c.active (by simp)
  | third t => exact Or.inr (Or.inl t)

/-- **Only an active revision becomes controller, whoever interferes** (both roles in
one statement): a controller reference on an object after Establish was on the
object of that key before, or the object is one the third party put, or the
reference is the parent's and the parent is active. -/
theorem only_active_controls_interf (rejects : Obj → Bool) (fault : Fault) (tp : Interf) (p : Parent) (control : Bool)
    (s : Store) (objs : List Desired) (vorder eorder : List Nat) (hw : WF s) :
    ∀ o' ∈ (establishI rejects fault tp p control s objs vorder eorder).1.objs, ∀ u, ctrl o'.owners u →
      (∃ o ∈ s.objs, o.key = o'.key ∧ ctrl o.owners u) ∨ PutBy tp.Puts o' ∨ (control = true ∧ u = p.uid) := by
  intro o' ho' u hu
  cases (establishI_inv rejects fault tp p control s objs vorder eorder hw).objs o' ho' with
  | same h => exact Or.inl ⟨o', h, rfl, hu⟩
  | rewritten o ho hk q =>
    rcases q.ctrls u hu with h | h
    · exact Or.inl ⟨o, ho, hk, h⟩
    · exact Or.inr (Or.inr h)
  | created c => exact Or.inr (Or.inr ⟨c.active, c.ctrls u hu⟩)
  | third t => exact Or.inr (Or.inl t)

/-- **An active revision controls what it writes, whoever interferes**: every object
after Establish(control = true) is untouched, or the third party's, or carries the
parent's controller reference as its only controller. -/
theorem active_controls_interf (rejects : Obj → Bool) (fault : Fault) (tp : Interf) (p : Parent)
    (s : Store) (objs : List Desired) (vorder eorder : List Nat) (hw : WF s) :
    ∀ o' ∈ (establishI rejects fault tp p true s objs vorder eorder).1.objs,
      o' ∈ s.objs ∨ PutBy tp.Puts o' ∨
      (asController p ∈ o'.owners ∧ ∀ u, ctrl o'.owners u → u = p.uid) := by
  intro o' ho'
  cases (establishI_inv rejects fault tp p true s objs vorder eorder hw).objs o' ho' with
  | same h => exact Or.inl h
  | rewritten o ho hk q => exact Or.inr (Or.inr ⟨q.mine, q.only_ctrl⟩)
  | created c => exact Or.inr (Or.inr ⟨c.mine, c.ctrls⟩)
  | third t => exact Or.inr (Or.inl t)

/-- **The revision's writes never drop an owner entry, whoever interferes** (the
master classification, `Origin` in Xp/Proofs/C16World.lean, over the role laws `QE` / `CE`
of Xp/Proofs/C16Establish.lean): every object after Establish is an untouched object of the
initial store, such an object rewritten within `QE` (in particular every owner entry kept),
an object created within `CE` (active parent only), or an object the third party put. The
resulting store is well formed. -/
theorem establish_interf_origin (rejects : Obj → Bool) (fault : Fault) (tp : Interf) (p : Parent) (control : Bool)
    (s : Store) (objs : List Desired) (vorder eorder : List Nat) (hw : WF s) :
    WF (establishI rejects fault tp p control s objs vorder eorder).1 ∧
    ∀ o' ∈ (establishI rejects fault tp p control s objs vorder eorder).1.objs, Origin p control tp.Puts s.objs o' :=
  ⟨(establishI_inv rejects fault tp p control s objs vorder eorder hw).wf,
   (establishI_inv rejects fault tp p control s objs vorder eorder hw).objs⟩

/-- **The package is a plain owner of whatever the revision wrote, whoever
interferes**: every object after Establish is untouched, or the third party's, or
carries the package reference `q` with controller=false. -/
theorem package_is_plain_owner_interf (rejects : Obj → Bool) (fault : Fault) (tp : Interf) (p : Parent) (control : Bool)
    (s : Store) (objs : List Desired) (vorder eorder : List Nat) (hw : WF s)
    (q : ORef) (hq : pkgRef p = some q) (hne : q.uid ≠ p.uid) :
    ∀ o' ∈ (establishI rejects fault tp p control s objs vorder eorder).1.objs,
      o' ∈ s.objs ∨ PutBy tp.Puts o' ∨ (q ∈ o'.owners ∧ q.controller = some false) := by
  intro o' ho'
  cases (establishI_inv rejects fault tp p control s objs vorder eorder hw).objs o' ho' with
  | same h => exact Or.inl h
  | rewritten o ho hk qe => exact Or.inr (Or.inr ⟨qe.pkg q hq hne, pkgRef_controller hq⟩)
  | created c => exact Or.inr (Or.inr ⟨c.pkg q hq hne, pkgRef_controller hq⟩)
  | third t => exact Or.inr (Or.inl t)

/-- **Reconciling an inactive revision under interference** (ReleaseObjects, then
Establish(control=false) with the third party writing in between): no object
appears that was not there or put by the third party, and no controller reference
appears that was not there or written by the third party. -/
theorem inactive_reconcile_interf (sys : Sys) (r : Rev) (e : Env) (tp : Interf)
    (hw : WF sys.store) (hr : r.active = false) :
    ∀ o' ∈ (reconcileRevI sys r e tp).1.store.objs,
      ((∃ o ∈ sys.store.objs, o.key = o'.key) ∨ (∃ a, tp.Puts a ∧ a.key = o'.key)) ∧
      ∀ u, ctrl o'.owners u →
        (∃ o ∈ sys.store.objs, o.key = o'.key ∧ ctrl o.owners u) ∨ (∃ a, tp.Puts a ∧ a.key = o'.key ∧ ctrl a.owners u) :=
  fun o' ho' => (((GInv.init sys.store (fun _ => False) tp.Puts hw).reconcile r e tp
    (fun ha => by rw [hr] at ha; cases ha) (fun _ h => h)).good o' ho').inactive

/-- **History corollary under interference** (induction over the history). Any
sequence of reconciles of any revisions in any roles, under any faults and orders,
with the third party writing before every reconcile and inside every Establish.
Comparing the final store with the initial one:
 * a controller reference at the end was on the object of that key at the start,
   or belongs to a revision reconciled as *active* in the history, or was written
   by the third party;
 * an object at the end has a key present at the start, or a key the third party
   put, or is owned by a revision that was reconciled as active — inactive
   revisions never add an object;
 * the store is still well formed. -/
theorem history_roles_interf (sys : Sys) (h : List HStep) (hw : WF sys.store) :
    let s' := (runHistoryI sys h).store
    WF s' ∧
    (∀ o' ∈ s'.objs, ∀ u, ctrl o'.owners u →
        (∃ o ∈ sys.store.objs, o.key = o'.key ∧ ctrl o.owners u) ∨ ActiveInI h u ∨
        (∃ a, PutsIn h a ∧ a.key = o'.key ∧ ctrl a.owners u)) ∧
    (∀ o' ∈ s'.objs, (∃ o ∈ sys.store.objs, o.key = o'.key) ∨ (∃ a, PutsIn h a ∧ a.key = o'.key) ∨
        (∃ u, ActiveInI h u ∧ hasUid o'.owners u)) := by
  have g := runHistoryI_ginv sys sys.store.objs (ActiveInI h) (PutsIn h) h (fun _ h => h) (fun _ h => h)
    (GInv.init sys.store _ _ hw)
  exact ⟨g.wf, fun o' ho' => (g.good o' ho').ctrls, fun o' ho' => (g.good o' ho').origin⟩

/-- **A package never becomes a controller, whoever interferes**: if no revision
reconciled in the history has the uid `q`, `q` controls nothing initially and the
third party never writes a controller reference for `q`, then `q` controls nothing
afterwards. -/
theorem package_never_controller_interf (sys : Sys) (h : List HStep) (hw : WF sys.store) (q : Nat)
    (hq : ∀ x ∈ h, x.rev.parent.uid ≠ q) (h0 : ∀ o ∈ sys.store.objs, ¬ ctrl o.owners q)
    (hp : ∀ a, PutsIn h a → ¬ ctrl a.owners q) :
    ∀ o' ∈ (runHistoryI sys h).store.objs, ¬ ctrl o'.owners q := by
  intro o' ho' hc
  rcases (history_roles_interf sys h hw).2.1 o' ho' q hc with ⟨o, ho, _, hco⟩ | ⟨x, hx, _, hxu⟩ | ⟨a, ha, _, hca⟩
  · exact h0 o ho hco
  · exact hq x hx hxu
  · exact hp a ha hca

section InterfExamples

/-- the third party deletes `Composition/c` right before the real write of object 0 -/
def exGone : Interf := { pre := fun i => if i = 0 then [.del "Composition/c"] else [] }

/-- **Deleted between validation and the real update**: revision 11 is inactive and was never active;
`Composition/c` exists (controlled by revision 10) when it is validated and is
deleted before the real update. The update fails with NotFound, the revision
issues no create, the object stays gone — and the law "every old object is still
present" (`inactive_never_creates`, second half) is indeed false under interference. -/
example : establishI exOk Fault.none exGone exRev11 false exStore [{ key := "Composition/c", body := 1 }] [0] [0]
    = (⟨[⟨"Composition/a", 1, [⟨20, some true, some true⟩, ⟨2, some false, some true⟩], 1⟩], 3,
        [⟨.update, "Composition/c", some .notFound, false⟩]⟩, .err .notFound) := by decide +kernel

/-- without the deletion the same call makes revision 11 a plain owner of `c` (the
statements above are not vacuous: the revision does write) -/
example : ((establishI exOk Fault.none Interf.none exRev11 false exStore [{ key := "Composition/c", body := 1 }] [0] [0]).1.get "Composition/c").map (·.owners)
    = some [⟨10, some true, some true⟩, ⟨1, some false, some true⟩, ⟨11, none, none⟩] := by decide +kernel

/-- `c` released by revision 10; the active revision 11 establishes `c` and `b` -/
def exStore2 : Store := ⟨[⟨"Composition/c", 1, [⟨10, some false, some true⟩, ⟨1, some false, some true⟩], 1⟩], 2, []⟩

/-- `establish_success_covers` is false under interference: revision 11 takes `c` over,
the third party deletes `c` before `b` is created, Establish reports success for
both objects, and `c` is gone. -/
example :
    let r := establishI exOk Fault.none { pre := fun i => if i = 1 then [.del "Composition/c"] else [] }
      exRev11 true exStore2 [{ key := "Composition/c", body := 9 }, { key := "Composition/b", body := 5 }] [0, 1] [0, 1]
    r.2 = .ok [⟨"Composition/c", true⟩, ⟨"Composition/b", false⟩] ∧ r.1.get "Composition/c" = none ∧
    (r.1.get "Composition/b").map (·.owners) = some [⟨11, some true, some true⟩, ⟨1, some false, some true⟩] := by decide +kernel

/-- a third party re-creates `c` (now controlled by a foreign owner 90) between the two
phases: the inactive revision's update carries the resourceVersion it validated and
is refused with a conflict; the object remains exactly what the third party put. -/
example : establishI exOk Fault.none { mid := [.put ⟨"Composition/c", 0, [⟨90, some true, none⟩], 4⟩] }
      exRev11 false exStore2 [{ key := "Composition/c", body := 1 }] [0] [0]
    = (⟨[⟨"Composition/c", 2, [⟨90, some true, none⟩], 4⟩], 3, [⟨.update, "Composition/c", some .conflict, false⟩]⟩,
       .err .conflict) := by decide +kernel

end InterfExamples

/-! ## 8. `status.objectRefs` and deactivation

"Deactivation gives up control" rests on `status.objectRefs`: `ReleaseObjects` walks
that list and nothing else, and the reconciler of an inactive revision stops right
after it when the list is not empty. So the list must never lose an object the
revision controls (`Listed`, `Stable`, `Benign`: Xp/Proofs/C16Refs.lean; `NotCtrlBy`:
Xp/Proofs/C16.lean). -/

/-- **`status.objectRefs` is only replaced by a successful Establish**, whoever
interferes: a reconcile that does not end in success (validation failure, an API
error or a crash at any call, including a real write of the establish phase after a
clean validation) leaves the lists of ALL revisions exactly as they were; and a
reconcile never touches the list of another revision. -/
theorem failed_establish_keeps_object_refs (sys : Sys) (r : Rev) (e : Env) (tp : Interf) :
    ((reconcileRevI sys r e tp).2 ≠ .ok () → (reconcileRevI sys r e tp).1.refs = sys.refs) ∧
    (∀ v, v ≠ r.parent.uid → (reconcileRevI sys r e tp).1.refs v = sys.refs v) :=
  reconcileRevI_refs sys r e tp

/-- **Establish writes objects of the package only**: an object of the store after
Establish is an untouched old object or has the key of a package object. -/
theorem establish_writes_package_objects_only (rejects : Obj → Bool) (fault : Fault) (p : Parent) (control : Bool)
    (s : Store) (objs : List Desired) (vorder eorder : List Nat) :
    ∀ o' ∈ (establish rejects fault p control s objs vorder eorder).1.objs,
      o' ∈ s.objs ∨ ∃ d ∈ objs, d.key = o'.key :=
  establish_keys rejects fault p control s objs vorder eorder

/-- **A successful inactive reconcile gives up all control** (under interference): if
everything the revision controls is listed in its `status.objectRefs` and every
ReleaseObjects goroutine is in the completion order, then after a reconcile of the
inactive revision that reports success, the revision is the controller of no
object (objects put by the third party aside). -/
theorem inactive_reconcile_gives_up_control (sys sys' : Sys) (r : Rev) (e : Env) (tp : Interf)
    (hw : WF sys.store) (hr : r.active = false) (hl : Listed sys r.parent.uid)
    (ho : ∀ j, j < (sys.refs r.parent.uid).length → j ∈ e.rorder)
    (h : reconcileRevI sys r e tp = (sys', .ok ())) :
    ∀ o' ∈ sys'.store.objs, PutBy tp.Puts o' ∨ NotCtrlBy o' r.parent.uid := by
  rw [← reconcileRevV_none] at h
  exact fun o' ho' => (reconcileRevV_released hw hr hl (StaleOK.none _ _) ho h o' ho').imp
    (PutBy.mono (World.puts_e tp)) id

/-- **A healthy revision stays fully listed** (induction over the history): `Stable`
survives every history made of reconciles of other revisions (upgrades, rollbacks,
competing packages), inactive reconciles, and *failed* active reconciles of the
revision itself over its package — under every fault plan and goroutine order. -/
theorem healthy_revision_stays_listed (sys : Sys) (h : List (Rev × Env)) (hw : WF sys.store)
    (u : Nat) (K : String → Prop) (hs : Stable sys u K) (hb : Benign u K sys h) :
    WF (runHistory sys h).store ∧ Stable (runHistory sys h) u K := by
  induction h generalizing sys with
  | nil => exact ⟨hw, hs⟩
  | cons x rest ih =>
    obtain ⟨r, e⟩ := x
    obtain ⟨hb1, hb2⟩ := hb
    unfold runHistory
    exact ih _ (reconcileRev_kept sys r e hw).2 (stable_step sys r e hw u K hs hb1) hb2

/-- **History theorem: after a successful release the revision controls nothing.**
Take a healthy revision `u` (`Stable`), any benign history `h` (in particular: one
or more reconciles of `u` that pass validation and fail at a real write; the
package manager activating another revision; that revision being reconciled first
or later), and then a reconcile of `u` as inactive that reports success. Afterwards
`u` is the controller of no object at all — so the next active revision can take
every object over. -/
theorem deactivation_gives_up_control_history (sys sys' : Sys) (h : List (Rev × Env)) (hw : WF sys.store)
    (K : String → Prop) (r : Rev) (e : Env) (hs : Stable sys r.parent.uid K) (hb : Benign r.parent.uid K sys h)
    (hr : r.active = false)
    (ho : ∀ j, j < ((runHistory sys h).refs r.parent.uid).length → j ∈ e.rorder)
    (hok : reconcileRev (runHistory sys h) r e = (sys', .ok ())) :
    ∀ o' ∈ sys'.store.objs, NotCtrlBy o' r.parent.uid := by
  have ⟨hw1, hs1⟩ := healthy_revision_stays_listed sys h hw r.parent.uid K hs hb
  intro o' ho'
  rw [← reconcileRevI_none] at hok
  exact (inactive_reconcile_gives_up_control _ _ r e _ hw1 hr hs1.listed ho hok o' ho').resolve_left fun ⟨a, ha, _⟩ => Interf.puts_none a ha

section RefsExamples

/-- revision 10 is active and healthy: it controls `b` and `c`, both listed -/
def exStore3 : Store :=
  ⟨[⟨"Composition/b", 1, [⟨10, some true, some true⟩, ⟨1, some false, some true⟩], 1⟩,
    ⟨"Composition/c", 2, [⟨10, some true, some true⟩, ⟨1, some false, some true⟩], 1⟩], 3, []⟩
def exSys3 : Sys := ⟨exStore3, fun u => if u = 10 then [⟨"Composition/b", true⟩, ⟨"Composition/c", true⟩] else []⟩
def exPkg : List Desired := [{ key := "Composition/b", body := 1 }, { key := "Composition/c", body := 1 }]
def exEnv2 : Env := ⟨exOk, Fault.none, [0, 1], [0, 1], [0, 1], exAll, id⟩
/-- validation passes, the REAL update of the second object is answered with an API error -/
def exEnvFail : Env := { exEnv2 with fault := fun i ph => if i = 1 ∧ ph = .real then .fail else .ok }

/-- the hypotheses of `deactivation_gives_up_control_history` hold for this state and the
history "one reconcile that fails at a real write" … -/
example : Stable exSys3 10 (fun k => k = "Composition/b" ∨ k = "Composition/c") := by
  refine ⟨?_, ?_⟩
  · intro o ho _
    simp [exSys3, exStore3] at ho
    rcases ho with rfl | rfl <;> simp [exSys3]
  · intro key hk
    rcases hk with rfl | rfl <;> simp [exSys3]

example : (reconcileRev exSys3 ⟨exRev10, true, exPkg⟩ exEnvFail).2 = .err .other := by decide +kernel

/-- … the failed reconcile keeps the list, the release then covers both objects, and
revision 10 ends up as plain owner of both (the conclusion is reached, not vacuous) -/
example :
    let sys1 := (reconcileRev exSys3 ⟨exRev10, true, exPkg⟩ exEnvFail).1
    let sys2 := (reconcileRev sys1 ⟨exRev10, false, exPkg⟩ exEnv2)
    sys1.refs 10 = [⟨"Composition/b", true⟩, ⟨"Composition/c", true⟩] ∧ sys2.2 = .ok () ∧
    sys2.1.store.objs.map (·.owners) =
      [[⟨10, some false, some true⟩, ⟨1, some false, some true⟩], [⟨10, some false, some true⟩, ⟨1, some false, some true⟩]] := by
  decide +kernel

/-- `Listed` is what the guarantee needs: were the list to lose `c` (what recording a
partial list after the failed reconcile would do), the same inactive reconcile would
still report success and revision 10 would remain the controller of `c`. -/
example :
    let sys2 := reconcileRev ⟨exStore3, fun u => if u = 10 then [⟨"Composition/b", true⟩] else []⟩ ⟨exRev10, false, exPkg⟩ exEnv2
    sys2.2 = .ok () ∧ (sys2.1.store.get "Composition/c").map (·.owners) =
      some [⟨10, some true, some true⟩, ⟨1, some false, some true⟩] := by
  decide +kernel

end RefsExamples

/-! ## 9. The world: interference during validation and inside ReleaseObjects, cached reads

Section 7 lets the third party write after the validate phase. In the world of
`Model/C16World.lean` (its header says where) it also writes DURING the validate phase and INSIDE
ReleaseObjects, the Gets of the validate phase are cached reads that may miss an object or serve
an older version (`VInterf.stale`), and the reconciler's Get of the revision itself may serve an
older `status.objectRefs` (`World.staleRefs`). Every theorem is for ALL well-formed stores,
rejection predicates, fault plans, completion orders, interference (`VInterf`, `Interf`,
`RInterf`) and staleness; the only hypothesis on the cache (`StaleOK`) is that what it serves is a
VERSION: an object of the key asked for whose resourceVersion was handed out before the call and
names that content (`Seen`).

What is new compared with section 7: the revision can now
legitimately REWRITE an object the third party put (it validated it after the put), case
`rethird` of `OriginV`; the role laws hold for that rewrite relative to what the third party
put. -/

/-- Sections 1–8 are the special case "nobody interferes during validation or release, and
the cache is up to date". -/
theorem world_no_interference (rejects : Obj → Bool) (fault : Fault) (tp : Interf) (p : Parent) (control : Bool)
    (s : Store) (objs : List Desired) (vorder eorder : List Nat) (ran : Nat → Bool) (refs : List Ref)
    (order : List Nat) (sys : Sys) (r : Rev) (e : Env) (h : List HStep) :
    establishV rejects fault VInterf.none tp p control s objs vorder eorder =
      establishI rejects fault tp p control s objs vorder eorder ∧
    releaseV rejects fault RInterf.none p ran s refs order = release rejects fault p ran s refs order ∧
    reconcileRevV sys r e { e := tp } = reconcileRevI sys r e tp ∧
    runHistoryV sys (h.map fun x => ⟨x.before, x.rev, x.env, { e := x.tp }⟩) = runHistoryI sys h :=
  ⟨establishV_none _ _ _ _ _ _ _ _ _, releaseV_none _ _ _ _ _ _ _, reconcileRevV_none _ _ _ _, runHistoryV_none _ _⟩

/-- **The validate phase writes nothing, whoever interferes and whatever the cache serves**:
the store it ends in is well formed, the revision's log of non-dry-run writes is unchanged,
and every object is an object of the initial store or one the third party put. -/
theorem validate_writes_nothing_world (rejects : Obj → Bool) (fault : Fault) (vi : VInterf) (p : Parent) (control : Bool)
    (s : Store) (xs : List (Nat × Desired)) (hw : WF s) :
    let s' := (validateAllV rejects fault vi p control s xs).1
    WF s' ∧ s'.log = s.log ∧ ∀ o ∈ s'.objs, o ∈ s.objs ∨ PutBy vi.Puts o :=
  have h := validateAllV_writes_nothing rejects fault vi p control s xs hw
  ⟨h.wf, h.log, h.objs⟩

/-- **Any failure of the validate phase leaves the revision's hands clean** — a rejection, a
foreign controller, a transient error or crash, and also: a Conflict / AlreadyExists / NotFound
at a dry run because the third party wrote between the Get and the dry run, or because the
cache served a stale version or missed the object. Establish then fails, has issued no
non-dry-run write, and the store differs from the initial one by third-party writes only. -/
theorem failed_validation_writes_nothing_world (rejects : Obj → Bool) (fault : Fault) (vi : VInterf) (tp : Interf)
    (p : Parent) (control : Bool) (s : Store) (objs : List Desired) (vorder eorder : List Nat) (hw : WF s)
    (hf : (validateAllV rejects fault vi p control s (pick objs vorder)).2.failed) :
    let r := establishV rejects fault vi tp p control s objs vorder eorder
    (∀ refs, r.2 ≠ .ok refs) ∧ r.1.log = s.log ∧ ∀ o ∈ r.1.objs, o ∈ s.objs ∨ PutBy vi.Puts o :=
  have h := establishV_validate_failed rejects fault vi tp p control s objs vorder eorder hf
  have ht := (TInv.refl vi.Puts s hw).byActs h.1 fun _ h => h
  ⟨h.2, ht.log, ht.objs⟩

/-- **All or nothing in the world.** If some object of the package is blocked (as in
`all_or_nothing`), its goroutine's read is not stale, and the third party's validate-phase
writes leave that object's key alone — whatever it does to every other object, whenever —
then Establish fails and the revision writes nothing (not even an attempt), although objects
validated before and after it may have met different stores. -/
theorem all_or_nothing_world (rejects : Obj → Bool) (fault : Fault) (vi : VInterf) (tp : Interf) (p : Parent) (control : Bool)
    (s : Store) (objs : List Desired) (vorder eorder : List Nat) (hw : WF s)
    (j : Nat) (d : Desired) (hd : objs[j]? = some d) (hj : j ∈ vorder)
    (hq : vi.Quiet d.key) (hs : vi.stale j = none)
    (hb : (control = true ∧ ForeignControlled p s d) ∨
          (∃ o, submission p control s d = some o ∧ rejects o = true) ∨
          (control = true ∧ d.needsCA = true ∧ p.tls ≠ .present)) :
    let r := establishV rejects fault vi tp p control s objs vorder eorder
    (∀ refs, r.2 ≠ .ok refs) ∧ r.1.log = s.log ∧ ∀ o ∈ r.1.objs, o ∈ s.objs ∨ PutBy vi.Puts o :=
  failed_validation_writes_nothing_world rejects fault vi tp p control s objs vorder eorder hw
    (validateAllV_failed rejects fault vi p control s (pick objs vorder) j d (mem_pick hd hj) hq hs hb)

/-- **Master classification in the world** (`OriginV`): the four cases of
`establish_interf_origin`, or an object the third party put that the revision then rewrote
within `QE`. The resulting store is well formed. -/
theorem establish_world_origin (rejects : Obj → Bool) (fault : Fault) (vi : VInterf) (tp : Interf) (p : Parent) (control : Bool)
    (s : Store) (objs : List Desired) (vorder eorder : List Nat) (hw : WF s)
    (hst : StaleOK s vi (pick objs vorder)) :
    WF (establishV rejects fault vi tp p control s objs vorder eorder).1 ∧
    ∀ o' ∈ (establishV rejects fault vi tp p control s objs vorder eorder).1.objs,
      OriginV p control (EPuts vi tp) s.objs o' :=
  have h := establishV_inv rejects fault vi tp p control s objs vorder eorder hw hst
  ⟨h.wf, h.objs⟩

/-- **An inactive revision never creates anything, in the world**: every object present after
Establish(control = false) has a key that was present before or that the third party put; and
the revision's own non-dry-run writes are updates only — it does not even attempt a create,
whatever a stale or missing cache entry made it believe. -/
theorem inactive_never_creates_world (rejects : Obj → Bool) (fault : Fault) (vi : VInterf) (tp : Interf) (p : Parent)
    (s : Store) (objs : List Desired) (vorder eorder : List Nat) (hw : WF s)
    (hst : StaleOK s vi (pick objs vorder)) :
    let s' := (establishV rejects fault vi tp p false s objs vorder eorder).1
    (∀ o' ∈ s'.objs, (∃ o ∈ s.objs, o.key = o'.key) ∨ (∃ a, EPuts vi tp a ∧ a.key = o'.key)) ∧
    (∃ new, s'.log = s.log ++ new ∧ ∀ e ∈ new, e.verb = .update) := by
  refine ⟨fun o' ho' => ?_, ?_⟩
  · exact (((GInv.init s (fun _ => False) (EPuts vi tp) hw).establishV rejects fault vi tp p false objs vorder eorder
      hst nofun (fun _ h => h)).good o' ho').inactive.1
  · exact (establishV_log rejects fault vi tp p false s objs vorder eorder hw).updates

/-- **Only an active revision becomes controller, in the world** (both roles in one statement):
a controller reference on an object after Establish was on the object of that key before, or
on an object of that key the third party put, or it is the parent's and the parent is active. -/
theorem only_active_controls_world (rejects : Obj → Bool) (fault : Fault) (vi : VInterf) (tp : Interf) (p : Parent) (control : Bool)
    (s : Store) (objs : List Desired) (vorder eorder : List Nat) (hw : WF s)
    (hst : StaleOK s vi (pick objs vorder)) :
    ∀ o' ∈ (establishV rejects fault vi tp p control s objs vorder eorder).1.objs, ∀ u, ctrl o'.owners u →
      (∃ o ∈ s.objs, o.key = o'.key ∧ ctrl o.owners u) ∨
      (∃ a, EPuts vi tp a ∧ a.key = o'.key ∧ ctrl a.owners u) ∨ (control = true ∧ u = p.uid) := by
  intro o' ho' u hu
  rcases (((GInv.init s (fun v => control = true ∧ v = p.uid) (EPuts vi tp) hw).establishV rejects fault vi tp p control
    objs vorder eorder hst (fun h => ⟨h, rfl⟩) (fun _ h => h)).good o' ho').ctrls u hu with h | h | h
  · exact Or.inl h
  · exact Or.inr (Or.inr h)
  · exact Or.inr (Or.inl h)

/-- **An inactive revision is at most a plain owner, in the world**:
`inactive_plain_owner_interf`, where the object `o` that was rewritten may also be one the third
party put, and the revision's own entry (the first with its uid) is no controller reference. -/
theorem inactive_plain_owner_world (rejects : Obj → Bool) (fault : Fault) (vi : VInterf) (tp : Interf) (p : Parent)
    (s : Store) (objs : List Desired) (vorder eorder : List Nat) (hw : WF s)
    (hst : StaleOK s vi (pick objs vorder)) :
    ∀ o' ∈ (establishV rejects fault vi tp p false s objs vorder eorder).1.objs,
      o' ∈ s.objs ∨ PutBy (EPuts vi tp) o' ∨
      ∃ o, (o ∈ s.objs ∨ PutBy (EPuts vi tp) o) ∧ o.key = o'.key ∧ o'.body = o.body ∧ asOwner p ∈ o'.owners ∧
        (∀ u, hasUid o.owners u → hasUid o'.owners u) ∧ (∀ u, ctrl o'.owners u → ctrl o.owners u) ∧
        NotCtrlBy o' p.uid := by
  intro o' ho'
  have key : ∀ o, QE p false o o' → o'.body = o.body ∧ asOwner p ∈ o'.owners ∧
      (∀ u, hasUid o.owners u → hasUid o'.owners u) ∧ (∀ u, ctrl o'.owners u → ctrl o.owners u) ∧
      NotCtrlBy o' p.uid :=
    fun o q => ⟨q.body rfl, q.mine, q.uids, q.ctrls_inactive, q.released rfl⟩
  cases (establishV_inv rejects fault vi tp p false s objs vorder eorder hw hst).objs o' ho' with
  | same h => exact Or.inl h
  | rewritten o ho hk q => exact Or.inr (Or.inr ⟨o, Or.inl ho, hk, key o q⟩)
  | created c => exact absurd c.active (by simp)
  | third t => exact Or.inr (Or.inl t)
  | rethird o t hk q => exact Or.inr (Or.inr ⟨o, Or.inr t, hk, key o q⟩)

/-- **The package is a plain owner of whatever the revision wrote, in the world**. -/
theorem package_is_plain_owner_world (rejects : Obj → Bool) (fault : Fault) (vi : VInterf) (tp : Interf) (p : Parent) (control : Bool)
    (s : Store) (objs : List Desired) (vorder eorder : List Nat) (hw : WF s)
    (hst : StaleOK s vi (pick objs vorder))
    (q : ORef) (hq : pkgRef p = some q) (hne : q.uid ≠ p.uid) :
    ∀ o' ∈ (establishV rejects fault vi tp p control s objs vorder eorder).1.objs,
      o' ∈ s.objs ∨ PutBy (EPuts vi tp) o' ∨ (q ∈ o'.owners ∧ q.controller = some false) := by
  intro o' ho'
  cases (establishV_inv rejects fault vi tp p control s objs vorder eorder hw hst).objs o' ho' with
  | same h => exact Or.inl h
  | rewritten o ho hk qe => exact Or.inr (Or.inr ⟨qe.pkg q hq hne, pkgRef_controller hq⟩)
  | created c => exact Or.inr (Or.inr ⟨c.pkg q hq hne, pkgRef_controller hq⟩)
  | third t => exact Or.inr (Or.inl t)
  | rethird o t hk qe => exact Or.inr (Or.inr ⟨qe.pkg q hq hne, pkgRef_controller hq⟩)

/-- **Deactivation keeps ownership and gives up control, whoever interferes with
ReleaseObjects**: the store stays well formed; ReleaseObjects issues updates only; and every
object afterwards is some `b` — an object of the initial store or one the third party put —
either untouched or rewritten with the same content, no owner entry dropped, nobody made
controller, the revision an owner whose (first) entry is no controller reference. In
particular ReleaseObjects never writes over a third-party write it has not read. -/
theorem release_world (rejects : Obj → Bool) (fault : Fault) (ri : RInterf) (p : Parent) (ran : Nat → Bool)
    (s : Store) (refs : List Ref) (order : List Nat) (hw : WF s) :
    let s' := (releaseV rejects fault ri p ran s refs order).1
    WF s' ∧ (∃ new, s'.log = s.log ++ new ∧ ∀ e ∈ new, e.verb = .update) ∧
    ∀ o' ∈ s'.objs, ∃ b, (b ∈ s.objs ∨ PutBy ri.Puts b) ∧
      (o' = b ∨ (o'.key = b.key ∧ o'.body = b.body ∧ (∀ u, hasUid b.owners u → hasUid o'.owners u) ∧
                 (∀ u, ctrl o'.owners u → ctrl b.owners u) ∧ hasUid o'.owners p.uid ∧ NotCtrlBy o' p.uid)) := by
  have h := releaseV_inv rejects fault ri p ran s refs order hw
  refine ⟨h.wf, ?_, fun o' ho' => ?_⟩
  · exact (releaseV_log rejects fault ri p ran s refs order).updates
  · obtain ⟨b, hb, hr⟩ := h.objs o' ho'
    exact ⟨b, hb, hr.imp id fun q => ⟨q.key, q.body, q.uids, q.ctrls, q.mine, q.released⟩⟩

/-- **A successful release has released everything it references, whoever interferes**: every
stored object named by a reference (whose goroutine is in the order) is one the third party
put, or has the revision as an owner that is not its controller. -/
theorem release_gives_up_control_world (rejects : Obj → Bool) (fault : Fault) (ri : RInterf) (p : Parent) (ran : Nat → Bool)
    (s s' : Store) (refs : List Ref) (order : List Nat) (hw : WF s)
    (h : releaseV rejects fault ri p ran s refs order = (s', .ok ()))
    (j : Nat) (k : Ref) (hk : refs[j]? = some k) (hj : j ∈ order) :
    ∀ o' ∈ s'.objs, o'.key = k.key → PutBy ri.Puts o' ∨ (hasUid o'.owners p.uid ∧ NotCtrlBy o' p.uid) :=
  releaseV_ok rejects fault ri p ran hw h j k hk hj

/-- **`status.objectRefs` in the world**: a reconcile that does not end in success leaves the
lists of all revisions as they were; a reconcile never touches another revision's list; and a
reconcile whose read of the revision was stale never ends in success and never changes any
list (every write of the revision object is refused), so a stale list is never written back. -/
theorem object_refs_world (sys : Sys) (r : Rev) (e : Env) (w : World) :
    ((reconcileRevV sys r e w).2 ≠ .ok () → (reconcileRevV sys r e w).1.refs = sys.refs) ∧
    (w.staleRefs.isSome = true →
      (reconcileRevV sys r e w).2 ≠ .ok () ∧ (reconcileRevV sys r e w).1.refs = sys.refs) ∧
    (∀ v, v ≠ r.parent.uid → (reconcileRevV sys r e w).1.refs v = sys.refs v) :=
  reconcileRevV_refs sys r e w

/-- **Reconciling an inactive revision in the world** (ReleaseObjects and Establish(false), the
third party writing anywhere, stale reads of the objects and of the revision): no object
appears that was not there or put by the third party, and no controller reference appears
that was not there or written by the third party. -/
theorem inactive_reconcile_world (sys : Sys) (r : Rev) (e : Env) (w : World)
    (hw : WF sys.store) (hr : r.active = false) (hst : StaleOK sys.store w.v (pick r.objs e.vorder)) :
    ∀ o' ∈ (reconcileRevV sys r e w).1.store.objs,
      ((∃ o ∈ sys.store.objs, o.key = o'.key) ∨ (∃ a, w.Puts a ∧ a.key = o'.key)) ∧
      ∀ u, ctrl o'.owners u →
        (∃ o ∈ sys.store.objs, o.key = o'.key ∧ ctrl o.owners u) ∨ (∃ a, w.Puts a ∧ a.key = o'.key ∧ ctrl a.owners u) :=
  fun o' ho' => (((GInv.init sys.store (fun _ => False) w.Puts hw).reconcileV r e w hst
    (fun ha => by rw [hr] at ha; cases ha) (fun _ h => h)).good o' ho').inactive

/-- **A successful inactive reconcile gives up all control, in the world**:
`inactive_reconcile_gives_up_control`, whatever the third party did before the Gets, between a
Get and its Update, or during the Establish call that follows when the list is empty. -/
theorem inactive_reconcile_gives_up_control_world (sys sys' : Sys) (r : Rev) (e : Env) (w : World)
    (hw : WF sys.store) (hr : r.active = false) (hl : Listed sys r.parent.uid)
    (hst : StaleOK sys.store w.v (pick r.objs e.vorder))
    (ho : ∀ j, j < (sys.refs r.parent.uid).length → j ∈ e.rorder)
    (h : reconcileRevV sys r e w = (sys', .ok ())) :
    ∀ o' ∈ sys'.store.objs, PutBy w.Puts o' ∨ NotCtrlBy o' r.parent.uid :=
  reconcileRevV_released hw hr hl hst ho h

/-- **History corollary in the world** (induction over the history): `history_roles_interf`
with the third party writing also inside every validate phase and ReleaseObjects call, and with
stale cached reads (`WorldOK`: each serves a version). -/
theorem history_roles_world (sys : Sys) (h : List WStep) (hw : WF sys.store) (hok : WorldOK sys h) :
    let s' := (runHistoryV sys h).store
    WF s' ∧
    (∀ o' ∈ s'.objs, ∀ u, ctrl o'.owners u →
        (∃ o ∈ sys.store.objs, o.key = o'.key ∧ ctrl o.owners u) ∨ ActiveInV h u ∨
        (∃ a, PutsInV h a ∧ a.key = o'.key ∧ ctrl a.owners u)) ∧
    (∀ o' ∈ s'.objs, (∃ o ∈ sys.store.objs, o.key = o'.key) ∨ (∃ a, PutsInV h a ∧ a.key = o'.key) ∨
        (∃ u, ActiveInV h u ∧ hasUid o'.owners u)) := by
  have g := runHistoryV_ginv sys sys.store.objs (ActiveInV h) (PutsInV h) h hok (fun _ h => h) (fun _ h => h)
    (GInv.init sys.store _ _ hw)
  exact ⟨g.wf, fun o' ho' => (g.good o' ho').ctrls, fun o' ho' => (g.good o' ho').origin⟩

/-- **A package never becomes a controller, in the world.** -/
theorem package_never_controller_world (sys : Sys) (h : List WStep) (hw : WF sys.store) (hok : WorldOK sys h) (q : Nat)
    (hq : ∀ x ∈ h, x.rev.parent.uid ≠ q) (h0 : ∀ o ∈ sys.store.objs, ¬ ctrl o.owners q)
    (hp : ∀ a, PutsInV h a → ¬ ctrl a.owners q) :
    ∀ o' ∈ (runHistoryV sys h).store.objs, ¬ ctrl o'.owners q := by
  intro o' ho' hc
  rcases (history_roles_world sys h hw hok).2.1 o' ho' q hc with ⟨o, ho, _, hco⟩ | ⟨x, hx, _, hxu⟩ | ⟨a, ha, _, hca⟩
  · exact h0 o ho hco
  · exact hq x hx hxu
  · exact hp a ha hca

section WorldExamples

/-- between the Get of object 0 (`Composition/b`, absent) and its dry-run create a third party
creates `b`, controlled by a foreign owner: the dry run answers AlreadyExists, Establish fails
and has written nothing — the object stays exactly what the third party put -/
example : establishV exOk Fault.none { dry := fun i => if i = 0 then [.put ⟨"Composition/b", 0, [⟨90, some true, none⟩], 4⟩] else [] }
      Interf.none exRev11 true exStore2 [{ key := "Composition/b", body := 5 }] [0] [0]
    = (⟨exStore2.objs ++ [⟨"Composition/b", 2, [⟨90, some true, none⟩], 4⟩], 3, []⟩, .err .alreadyExists) := by decide +kernel

/-- the same write BEFORE the Get: the active revision sees a foreign controller and refuses
locally (`hq` of `all_or_nothing_world` is needed: the third party can block and unblock) -/
example : (establishV exOk Fault.none { get := fun i => if i = 0 then [.put ⟨"Composition/b", 0, [⟨90, some true, none⟩], 4⟩] else [] }
      Interf.none exRev11 true exStore2 [{ key := "Composition/b", body := 5 }] [0] [0]).2 = .err .notControllable := by decide +kernel

/-- case `rethird` is real: a third party creates `b` (uncontrolled) right before the inactive
revision 11 validates it; the revision then adds itself and its package as plain owners of the
third party's object — it neither created it nor controls it -/
example : ((establishV exOk Fault.none { get := fun i => if i = 0 then [.put ⟨"Composition/b", 0, [⟨91, none, none⟩], 4⟩] else [] }
      Interf.none exRev11 false exStore2 [{ key := "Composition/b", body := 5 }] [0] [0]).1.get "Composition/b").map (fun o => (o.owners, o.body))
    = some ([⟨91, none, none⟩, ⟨1, some false, some true⟩, ⟨11, none, none⟩], 4) := by decide +kernel

/-- a lagging cache: it still serves `c` as released by revision 10 (resourceVersion 0) although
`c` is now (resourceVersion 1) controlled by the foreign owner 90. The active revision 11 decides
"controllable" on the stale version; the dry-run update carries the stale resourceVersion and is
refused: nothing is written. -/
def exForeign : Store := ⟨[⟨"Composition/c", 1, [⟨90, some true, none⟩], 1⟩], 2, []⟩
example : establishV exOk Fault.none
      { stale := fun i => if i = 0 then some (some ⟨"Composition/c", 0, [⟨10, some false, some true⟩, ⟨1, some false, some true⟩], 1⟩) else none }
      Interf.none exRev11 true exForeign [{ key := "Composition/c", body := 9 }] [0] [0]
    = (exForeign, .err .conflict) := by decide +kernel

/-- … and what it served satisfies `StaleOK` (a version: older resourceVersion, right key) -/
example : StaleOK exForeign
    { stale := fun i => if i = 0 then some (some ⟨"Composition/c", 0, [⟨10, some false, some true⟩, ⟨1, some false, some true⟩], 1⟩) else none }
    (pick [({ key := "Composition/c", body := 9 } : Desired)] [0]) := by
  intro x hx v hv
  simp [pick] at hx
  subst hx
  simp at hv
  subst hv
  refine ⟨rfl, by decide, ?_⟩
  intro c hc _ hrv
  simp [exForeign] at hc
  subst hc
  simp at hrv

/-- a cache miss: `c` exists but the Get says NotFound; the active revision dry-runs a create,
which the server refuses (AlreadyExists); an INACTIVE revision believes the object absent and
does nothing at all — in particular it creates nothing. -/
example : establishV exOk Fault.none { stale := fun i => if i = 0 then some none else none }
      Interf.none exRev11 true exStore2 [{ key := "Composition/c", body := 9 }] [0] [0] = (exStore2, .err .alreadyExists) ∧
    establishV exOk Fault.none { stale := fun i => if i = 0 then some none else none }
      Interf.none exRev11 false exStore2 [{ key := "Composition/c", body := 9 }] [0] [0]
      = (exStore2, .ok [⟨"Composition/c", true⟩]) := by decide +kernel

/-- ReleaseObjects: between the Get of `c` (controlled by revision 10) and its Update an
administrator re-creates `c`. The Update carries the resourceVersion read and is refused; `c`
remains exactly what the administrator put. -/
example : releaseV exOk Fault.none { upd := fun i => if i = 0 then [.put ⟨"Composition/c", 0, [⟨91, none, none⟩], 7⟩] else [] }
      exRev10 exAll exStore3 [⟨"Composition/c", true⟩] [0]
    = (⟨[⟨"Composition/b", 1, [⟨10, some true, some true⟩, ⟨1, some false, some true⟩], 1⟩,
         ⟨"Composition/c", 3, [⟨91, none, none⟩], 7⟩], 4, [⟨.update, "Composition/c", some .conflict, false⟩]⟩, .err .conflict) := by decide +kernel

/-- a stale read of the revision: the cache still serves the list `[b]` for the healthy revision
10 (it has meanwhile recorded `[b, c]`), now inactive. ReleaseObjects releases `b` only, the
shortcut's status update is refused: the reconcile ends in an error, the list is not
overwritten, and the next reconcile (fresh read) releases `c` as well. -/
example :
    let r := reconcileRevV exSys3 ⟨exRev10, false, exPkg⟩ exEnv2 { staleRefs := some [⟨"Composition/b", true⟩] }
    r.2 = .err .conflict ∧ r.1.refs 10 = [⟨"Composition/b", true⟩, ⟨"Composition/c", true⟩] ∧
    r.1.store.objs.map (·.owners) =
      [[⟨10, some false, some true⟩, ⟨1, some false, some true⟩], [⟨10, some true, some true⟩, ⟨1, some false, some true⟩]] ∧
    (reconcileRevV r.1 ⟨exRev10, false, exPkg⟩ exEnv2 {}).2 = .ok () ∧
    (reconcileRevV r.1 ⟨exRev10, false, exPkg⟩ exEnv2 {}).1.store.objs.map (·.owners) =
      [[⟨10, some false, some true⟩, ⟨1, some false, some true⟩], [⟨10, some false, some true⟩, ⟨1, some false, some true⟩]] := by decide +kernel

end WorldExamples

/-! ## 10. `spec.desiredState` is a string

Sections 4, 7, 8, 9 give a revision a Boolean role. The field is a free-form string without
enum or default (empty for a revision that was never activated, or anything a user typed).
`reconcileState` (Model/C16World.lean) is `Reconciler.Reconcile` reading the string as the code
does: deactivation (ReleaseObjects, shortcut) iff it is exactly `Inactive`; `control` iff it is
exactly `Active`; anything else: no deactivation, Establish without control. The role theorems
below quantify over the desired state AS A STRING: a revision is active iff its desired state is
exactly `Active`. -/

/-- the two constants are those of the current tree (`v1.PackageRevisionActive/Inactive`) -/
theorem desired_state_constants_match_library :
    activeState = Xp.Gen.c16DesiredActive ∧ inactiveState = Xp.Gen.c16DesiredInactive := ⟨rfl, rfl⟩

/-- for the two proper values `reconcileState` is `reconcileRevV` with the Boolean role -/
theorem reconcile_state_proper_values (sys : Sys) (p : Parent) (objs : List Desired) (e : Env) (w : World) :
    reconcileState sys p objs activeState e w = reconcileRevV sys ⟨p, true, objs⟩ e w ∧
    reconcileState sys p objs inactiveState e w = reconcileRevV sys ⟨p, false, objs⟩ e w := by
  have hne : activeState ≠ inactiveState := by decide
  constructor
  · unfold reconcileState
    rw [if_neg hne, if_pos rfl]
  · unfold reconcileState
    rw [if_pos rfl]

/-- **Only a revision whose desired state is exactly `Active` creates objects or becomes
controller** — for EVERY string `ds` (empty, garbage, case variants), in the world (third party
anywhere, stale reads): after one reconcile, every object has a key that was present before, or
that the third party put, or `ds` is exactly `Active` and the revision owns it; and every
controller reference was on the object of that key before, or was written by the third party, or
is the revision's own and `ds` is exactly `Active`. -/
theorem only_exactly_active_creates_or_controls (sys : Sys) (p : Parent) (objs : List Desired) (ds : String)
    (e : Env) (w : World) (hw : WF sys.store) (hst : StaleOK sys.store w.v (pick objs e.vorder)) :
    ∀ o' ∈ (reconcileState sys p objs ds e w).1.store.objs,
      ((∃ o ∈ sys.store.objs, o.key = o'.key) ∨ (∃ a, w.Puts a ∧ a.key = o'.key) ∨
        (ds = activeState ∧ hasUid o'.owners p.uid)) ∧
      ∀ u, ctrl o'.owners u →
        (∃ o ∈ sys.store.objs, o.key = o'.key ∧ ctrl o.owners u) ∨ (ds = activeState ∧ u = p.uid) ∨
        (∃ a, w.Puts a ∧ a.key = o'.key ∧ ctrl a.owners u) := by
  intro o' ho'
  have g := ((GInv.init sys.store (fun u => ds = activeState ∧ u = p.uid) w.Puts hw).reconcileS p objs ds e w hst
    (fun h => ⟨h, rfl⟩) (fun _ h => h)).good o' ho'
  constructor
  · rcases g.origin with h | h | ⟨u, ⟨hd, hu⟩, hh⟩
    · exact Or.inl h
    · exact Or.inr (Or.inl h)
    · exact Or.inr (Or.inr ⟨hd, hu ▸ hh⟩)
  · exact g.ctrls

/-- **A revision whose desired state is anything but exactly `Active` issues updates only**: not
even an attempt to create, whatever the string, the interference and the cache. -/
theorem non_active_issues_updates_only (sys : Sys) (p : Parent) (objs : List Desired) (ds : String)
    (e : Env) (w : World) (hw : WF sys.store) (hds : ds ≠ activeState) :
    ∃ new, (reconcileState sys p objs ds e w).1.store.log = sys.store.log ++ new ∧ ∀ x ∈ new, x.verb = .update :=
  (reconcileState_log sys p objs ds e w hw hds).updates

/-- **History corollary with string-valued desired states** (induction over the history):
`history_roles_world`, with "reconciled as active" read as "reconciled at some step with desired
state exactly `Active`". -/
theorem history_roles_state (sys : Sys) (h : List SStep) (hw : WF sys.store) (hok : WorldOKS sys h) :
    let s' := (runHistoryS sys h).store
    WF s' ∧
    (∀ o' ∈ s'.objs, ∀ u, ctrl o'.owners u →
        (∃ o ∈ sys.store.objs, o.key = o'.key ∧ ctrl o.owners u) ∨ ActiveInS h u ∨
        (∃ a, PutsInS h a ∧ a.key = o'.key ∧ ctrl a.owners u)) ∧
    (∀ o' ∈ s'.objs, (∃ o ∈ sys.store.objs, o.key = o'.key) ∨ (∃ a, PutsInS h a ∧ a.key = o'.key) ∨
        (∃ u, ActiveInS h u ∧ hasUid o'.owners u)) := by
  have g := runHistoryS_ginv sys sys.store.objs (ActiveInS h) (PutsInS h) h hok (fun _ h => h) (fun _ h => h)
    (GInv.init sys.store _ _ hw)
  exact ⟨g.wf, fun o' ho' => (g.good o' ho').ctrls, fun o' ho' => (g.good o' ho').origin⟩

section StateExamples

/-- Manual activation policy: revision 11 was never activated (desired state ""), the objects of
its package do not exist: it creates nothing, reports success and records the references -/
example :
    let r := reconcileState ⟨⟨[], 1, []⟩, fun _ => []⟩ exRev11 exPkg "" exEnv2 {}
    r.2 = .ok () ∧ r.1.store.objs = [] ∧ r.1.store.log = [] := by decide

/-- … the objects exist (controlled by revision 10): it adds itself as a plain owner, no more -/
example :
    (reconcileState exSys3 exRev11 exPkg "" exEnv2 {}).1.store.objs.map (·.owners) =
      [[⟨10, some true, some true⟩, ⟨1, some false, some true⟩, ⟨11, none, none⟩],
       [⟨10, some true, some true⟩, ⟨1, some false, some true⟩, ⟨11, none, none⟩]] := by decide +kernel

/-- a case variant is not `Active` either; exactly `Active` does create (the statements discriminate) -/
example :
    (reconcileState ⟨⟨[], 1, []⟩, fun _ => []⟩ exRev11 exPkg "active" exEnv2 {}).1.store.objs = [] ∧
    (reconcileState ⟨⟨[], 1, []⟩, fun _ => []⟩ exRev11 exPkg "Inactive " exEnv2 {}).1.store.objs = [] ∧
    (reconcileState ⟨⟨[], 1, []⟩, fun _ => []⟩ exRev11 exPkg "Active" exEnv2 {}).1.store.objs.length = 2 := by decide +kernel

/-- unlike `Inactive`, the empty state does not release what `status.objectRefs` lists beyond the
package: revision 10 (healthy, lists `b`, `c`) with desired state "" and a package of `b` only
keeps control of `c` — it was not deactivated -/
example :
    (reconcileState exSys3 exRev10 [{ key := "Composition/b", body := 1 }] "" exEnv2 {}).1.store.objs.map (·.owners) =
      [[⟨10, none, none⟩, ⟨1, some false, some true⟩], [⟨10, some true, some true⟩, ⟨1, some false, some true⟩]] := by decide +kernel

end StateExamples

/-! ## 11. Call skeletons regenerated from the source on every run

`Xp/Gen/C16Skel.lean` lists, in source order, the calls (and `return`s) of every Go function the
model mirrors, extracted with go/ast from the current tree. `Model/C16Skel.lean` (and, for
`enrichControlledResource`, `Model/C16Enrich.lean`) declares the skeleton each model definition
was written against, entry by entry. A call added, dropped or moved in the code breaks the
obligation of that function before any scenario runs. -/

theorem skeleton_Establish : Xp.Gen.c16SkelEstablish = skelEstablish := rfl
theorem skeleton_addLabels : Xp.Gen.c16SkelAddLabels = skelAddLabels := rfl
theorem skeleton_validate : Xp.Gen.c16SkelValidate = skelValidate := rfl
theorem skeleton_enrichControlledResource : Xp.Gen.c16SkelEnrich = skelEnrich := rfl
/-- the FIELD WRITES of `enrichControlledResource` (left-hand sides of its assignments, per case of
its type switch): the paths `PObj.frame` blanks out, and no other -/
theorem skeleton_enrichControlledResource_writes : Xp.Gen.c16AssignEnrich = assignEnrich := rfl
theorem skeleton_getWebhookTLSCert : Xp.Gen.c16SkelGetWebhookTLSCert = skelGetWebhookTLSCert := rfl
theorem skeleton_establish : Xp.Gen.c16SkelEstablishPhase = skelEstablishPhase := rfl
theorem skeleton_create : Xp.Gen.c16SkelCreate = skelCreate := rfl
theorem skeleton_update : Xp.Gen.c16SkelUpdate = skelUpdate := rfl
theorem skeleton_ReleaseObjects : Xp.Gen.c16SkelReleaseObjects = skelReleaseObjects := rfl
theorem skeleton_GetPackageOwnerReference :
    Xp.Gen.c16SkelGetPackageOwnerReference = skelGetPackageOwnerReference := rfl
theorem skeleton_Reconcile : Xp.Gen.c16SkelReconcile = skelReconcile := rfl
theorem skeleton_deactivateRevision : Xp.Gen.c16SkelDeactivateRevision = skelDeactivateRevision := rfl

/-! ## 12. The content of a package object: `addLabels` and `enrichControlledResource`

`Model/C16Enrich.lean`: before `validate` reads the cluster, `Establish` merges the parent's
`spec.commonLabels` into every package object and — for a controlling parent only — renames a
webhook configuration after the package and points its webhooks (and the conversion webhook of a
CRD) at the package's service with the CA bundle, or refuses a CRD with webhook conversion when
there is no CA bundle. The theorems are for every object, parent, namespace and certificate.
The definitions are tied to the code by the two skeletons above, by the constants and by
`prepare_matches_code`: 140 rows produced by the real `addLabels` / `enrichControlledResource`. -/

/-- the frame: whatever `enrichControlledResource` does to an object, the object with the
permitted fields blanked out — the name and the webhooks' client-config fields caBundle,
service.name/namespace/port of a webhook configuration; the same fields below
spec.conversion.webhook.clientConfig of a CRD whose strategy is Webhook — is unchanged. In
particular labels, `rest`, the kind, the number, names and `rest` of the webhooks, `url` and
`service.path` of every client config, the conversion strategy and review versions, and the NAME
of everything that is not a webhook configuration. -/
theorem enrich_frame (ns cert : String) (p : EParent) (o o' : PObj)
    (h : enrich ns cert p o = .ok o') :
    o'.frame = o.frame ∧ o'.rest = o.rest ∧ o'.labels = o.labels ∧
    (match o.shape, o'.shape with
     | .validating hs, .validating hs' => hs'.map (fun h => (h.name, h.rest)) = hs.map (fun h => (h.name, h.rest))
     | .mutating hs, .mutating hs' => hs'.map (fun h => (h.name, h.rest)) = hs.map (fun h => (h.name, h.rest))
     | .crd c, .crd c' => o'.name = o.name ∧ c'.map (·.strategy) = c.map (·.strategy)
     | .other, .other => o' = o
     | _, _ => False) := by
  rcases enrich_ok h with ⟨rfl, hc, hs, hsh | hsh⟩ | ⟨rfl, hsh | hsh⟩ | ⟨hc, hs, hsh, rfl⟩ | ⟨hc, hs, hsh, rfl⟩ |
    ⟨c, c', hsh, hcv, rfl⟩
  · exact ⟨rfl, rfl, rfl, by simp only [hsh]⟩
  · exact ⟨rfl, rfl, rfl, by simp only [hsh]⟩
  · exact ⟨rfl, rfl, rfl, by simp only [hsh, and_self]⟩
  · exact ⟨rfl, rfl, rfl, by simp only [hsh]⟩
  · simp [PObj.frame, hsh, enrichHooks_frame, enrichHooks_shape]
  · simp [PObj.frame, hsh, enrichHooks_frame, enrichHooks_shape]
  · simp [PObj.frame, hsh, enrichConv_frame ns p.label cert c c' hcv, enrichConv_strategy ns p.label cert c c' hcv]

/-- what is written: with a certificate, every webhook of a webhook configuration and the
conversion webhook of a CRD (strategy Webhook) carries the certificate as CA bundle and the
service `label` / `ns` / 9443; the review versions of the conversion are kept -/
theorem enrich_result (ns cert : String) (p : EParent) (o o' : PObj)
    (h : enrich ns cert p o = .ok o') (hc : cert ≠ "") :
    match o.shape, o'.shape with
    | .validating _, .validating hs' => ∀ h ∈ hs', h.cc.filled ns p.label cert = true
    | .mutating _, .mutating hs' => ∀ h ∈ hs', h.cc.filled ns p.label cert = true
    | .crd (some c), .crd (some c') =>
      c.strategy = webhookStrategy →
        ∃ w cc, c'.webhook = some w ∧ w.cc = some cc ∧ cc.filled ns p.label cert = true ∧
          w.reviewVersions = (c.webhook.map (·.reviewVersions)).getD []
    | .crd none, .crd none => True
    | .other, .other => True
    | _, _ => False := by
  rcases enrich_ok h with ⟨_, hc', _⟩ | ⟨rfl, hsh | hsh⟩ | ⟨_, hs, hsh, rfl⟩ | ⟨_, hs, hsh, rfl⟩ | ⟨c, c', hsh, hcv, rfl⟩
  · exact absurd hc' hc
  · simp only [hsh]
  · simp only [hsh]
  · simp only [hsh]
    exact enrichHooks_filled ns p.label cert hs
  · simp only [hsh]
    exact enrichHooks_filled ns p.label cert hs
  · simp only [hsh]
    exact fun hs => (enrichConv_filled ns p.label cert c c' hcv hs).2

/-- `enrichControlledResource` fails exactly for a CRD whose conversion strategy is Webhook when
there is no certificate -/
theorem enrich_refuses_iff (ns cert : String) (p : EParent) (o : PObj) :
    (∃ e, enrich ns cert p o = .error e) ↔ (needsCAOf o = true ∧ cert = "") := by
  unfold needsCAOf
  fun_cases enrich ns cert p o with
  | case5 c hsh e hcv =>      -- a CRD with conversion, `enrichConv` refused
    have := (enrichConv_error_iff ns p.label cert c).mp ⟨e, hcv⟩
    simp [hsh, this.1, this.2]
  | case6 c hsh c' hcv =>      -- `enrichConv` went through
    have : ¬ (c.strategy = webhookStrategy ∧ cert = "") := fun hh => by
      obtain ⟨e, he⟩ := (enrichConv_error_iff ns p.label cert c).mpr hh
      rw [hcv] at he
      cases he
    simpa [hsh] using this
  | _ => simp [*]      -- every other shape: no error, no conversion webhook

/-- the guard `control && d.needsCA && p.tls != .present` of `validateOne` (Model/C16.lean) IS
`enrichControlledResource` refusing the object: for a secret whose certificate is not empty (an
empty one never gets past `getWebhookTLSCert`), preparing the object fails exactly when the guard
fires, with `needsCA` read off the structured object -/
theorem validate_guard_is_enrich (ns crt : String) (t : Tls) (control : Bool) (p : EParent) (o : PObj)
    (hcrt : crt ≠ "") :
    (∃ e, prepare ns crt t control p o = .error e) ↔ (control && needsCAOf o && t != .present) = true := by
  unfold prepare prepareC
  cases control with
  | false => simp
  | true =>
    simp only [if_true, Bool.true_and]
    rw [enrich_refuses_iff]
    have hn : needsCAOf { o with labels := addLabels p.common o.labels } = needsCAOf o := rfl
    rw [hn]
    cases t <;> simp [certOf, hcrt]

/-- `enrichControlledResource` rewrites the parser's object in place; doing it again changes nothing -/
theorem enrich_idempotent (ns cert : String) (p : EParent) (o o' : PObj)
    (h : enrich ns cert p o = .ok o') : enrich ns cert p o' = .ok o' := by
  rcases enrich_ok h with ⟨rfl, hc, hs, hsh | hsh⟩ | ⟨rfl, hsh | hsh⟩ | ⟨hc, hs, hsh, rfl⟩ | ⟨hc, hs, hsh, rfl⟩ |
    ⟨c, c', hsh, hcv, rfl⟩
  · simp only [enrich, hsh, if_pos hc]
  · simp only [enrich, hsh, if_pos hc]
  · simp only [enrich, hsh]
  · simp only [enrich, hsh]
  · simp only [enrich, if_neg hc, enrichHooks_idem, enrichName_idem]
  · simp only [enrich, if_neg hc, enrichHooks_idem, enrichName_idem]
  · simp only [enrich, enrichConv_idem ns p.label cert c c' hcv]

/-- the name: only a webhook configuration is renamed, only with a certificate and only when the
revision has an owner reference named like its package label; the new name depends on that owner
reference alone — not on the revision, not on the name the package gave the object. So the
revisions of one package (same package owner reference) address the SAME object, which is what
lets an upgrade take the object over instead of creating a second one. -/
theorem enrich_name (ns cert : String) (p : EParent) (o o' : PObj) (h : enrich ns cert p o = .ok o') :
    o'.name =
      (match o.shape with
       | .validating _ | .mutating _ =>
         if cert = "" then o.name else (match pkgOwner p with | some q => webhookName q | none => o.name)
       | _ => o.name) := by
  rcases enrich_ok h with ⟨rfl, hc, hs, hsh | hsh⟩ | ⟨rfl, hsh | hsh⟩ | ⟨hc, hs, hsh, rfl⟩ | ⟨hc, hs, hsh, rfl⟩ |
    ⟨c, c', hsh, _, rfl⟩
  all_goals simp only [hsh]
  · exact (if_pos hc).symm
  · exact (if_pos hc).symm
  · exact (if_neg hc).symm
  · exact (if_neg hc).symm

/-- an inactive parent (`control = false`) never calls `enrichControlledResource`: the object it
looks up and becomes a plain owner of is the parser's object, labels apart -/
theorem prepare_inactive (ns crt : String) (t : Tls) (p : EParent) (o : PObj) :
    prepare ns crt t false p o = .ok { o with labels := addLabels p.common o.labels } := rfl

/-- `addLabels`: every common label of the parent is on the object afterwards (keys of a map are
unique), every other label of the object is kept, and an object without labels gets exactly the
parent's (nil stays nil) -/
theorem addLabels_spec (common : List (String × String)) (labels : List (String × String))
    (hu : common.Pairwise (fun a b => a.1 ≠ b.1)) :
    ∃ r, addLabels (some common) (some labels) = some r ∧
      (∀ k v, (k, v) ∈ common → getLabel r k = some v) ∧
      (∀ k, (∀ kv ∈ common, kv.1 ≠ k) → getLabel r k = getLabel labels k) := by
  have hn : (common.map (·.1)).Nodup := List.pairwise_map.mpr hu
  have hm : ∀ k, getLabel (common.foldl (fun acc kv => setLabel acc kv.1 kv.2) labels) k =
      (getLabel common k).or (getLabel labels k) := fun k =>
    keyed.get_merge (merge := fun d s => s.foldl (fun acc kv => setLabel acc kv.1 kv.2) d)
      (fun _ => rfl) (fun _ _ _ _ => rfl) k labels hn
  refine ⟨_, rfl, fun k v hkv => (hm k).trans ?_, fun k hk => (hm k).trans ?_⟩
  · cases hg : getLabel common k with
    | none => exact absurd (List.mem_map_of_mem hkv) ((keyed.get_eq_none k common).mp hg)
    | some v' => cases eq_of_map_nodup hn (keyed.mem_of_get hg) hkv rfl; rfl
  · rw [(keyed.get_eq_none k common).mpr fun hmem => ?_]; rfl
    obtain ⟨kv, hkv, e⟩ := List.mem_map.mp hmem
    exact hk kv hkv e

theorem addLabels_nil (common : Option (List (String × String))) (labels : List (String × String)) :
    addLabels common none = common ∧ addLabels none (some labels) = some labels := ⟨rfl, rfl⟩

/-- `pkgOwner` (the owner reference a webhook configuration is named after) and `pkgRef` (the owner
reference every established object gets as a plain owner, sections 2 and 4) are the SAME owner
reference of the revision — both are `GetPackageOwnerReference`: the first one whose name is the
value of the label pkg.crossplane.io/package -/
theorem pkgOwner_is_pkgRef (p : Parent) (kind : PRef → String) (common : Option (List (String × String))) :
    ∃ r : Option PRef, r = p.owners.find? (fun r => r.name = p.label) ∧
      pkgRef p = r.map (fun r => { r.ref with controller := some false }) ∧
      pkgOwner (eparentOf p kind common) = r.map (fun r => ⟨kind r, r.name⟩) :=
  ⟨_, rfl, rfl, find_map_name p.owners kind p.label⟩

/-- **The API-level model is a sound abstraction of the structured pipeline.** One goroutine of
`validate` run on a structured package object (`validateOneP`: `enrichControlledResource`, then the
Get and the dry run on the rewritten object) IS `validateOne` of Model/C16.lean run on the
abstract object `⟨kind/NAME AFTER REWRITING, content after rewriting (any encoding), needsCA⟩` with
`needsCA` read off the structured object — for every rejection predicate, fault plan, store,
encoding and object, and every secret whose certificate is not empty. So sections 1–10
(`all_or_nothing` with its third disjunct `d.needsCA ∧ p.tls ≠ present`, the role laws, …) speak
about webhook configurations and conversion CRDs as they are submitted. -/
theorem validateOneP_refines (rejects : Obj → Bool) (fault : Fault) (ns crt : String) (enc : PObj → Nat)
    (kind : String) (p : Parent) (ep : EParent) (control : Bool) (s : Store) (i : Nat) (o : PObj)
    (hcrt : crt ≠ "") :
    validateOneP rejects fault ns crt enc kind p ep control s i o =
      validateOne rejects fault p control s i
        (desiredOfP enc kind ((prepare ns crt p.tls control ep o).toOption.getD o) (needsCAOf o)) := by
  have hg := validate_guard_is_enrich ns crt p.tls control ep o hcrt
  unfold validateOneP validateOne
  cases hp : prepare ns crt p.tls control ep o with
  | error e =>
    have : (control && (desiredOfP enc kind ((Except.error e : Except Err PObj).toOption.getD o) (needsCAOf o)).needsCA
        && p.tls != .present) = true := hg.mp ⟨e, hp⟩
    rw [if_pos this]
  | ok o' =>
    have : ¬ (control && (desiredOfP enc kind ((Except.ok o' : Except Err PObj).toOption.getD o) (needsCAOf o)).needsCA
        && p.tls != .present) = true := fun h => by
      obtain ⟨e, he⟩ := hg.mpr h
      rw [hp] at he; cases he
    rw [if_neg this]
    rfl

theorem enrich_constants_match_code :
    servicePort = Xp.Gen.c16ServicePort ∧ webhookStrategy = Xp.Gen.c16WebhookStrategy := ⟨rfl, rfl⟩

def ccOfGen (c : Xp.Gen.C16CC) : CC :=
  ⟨c.url, c.service.map fun s => ⟨s.name, s.ns, s.path, s.port⟩, c.caBundle⟩

def pobjOfGen (o : Xp.Gen.C16PObj) : PObj :=
  let hooks : List Hook := o.hooks.map fun h => ⟨h.name, ccOfGen h.cc, h.rest⟩
  let conv : Option Conv := o.conv.map fun c =>
    ⟨c.strategy, c.webhook.map fun w => ⟨w.cc.map ccOfGen, w.reviewVersions⟩⟩
  ⟨o.name, o.labels,
    if o.kind = "VWC" then .validating hooks else if o.kind = "MWC" then .mutating hooks
    else if o.kind = "CRD" then .crd conv else .other,
    o.rest⟩

/-- labels are a map: equal as maps (the rows carry them sorted by key) -/
def sameLabels : Option (List (String × String)) → Option (List (String × String)) → Bool
  | none, none => true
  | some a, some b => a.length == b.length && b.all fun kv => getLabel a kv.1 == some kv.2
  | _, _ => false

def sameObj (a b : PObj) : Bool :=
  a.name == b.name && a.shape == b.shape && a.rest == b.rest && sameLabels a.labels b.labels

/-- every row of the table — produced by running `addLabels` and (for a controlling parent)
`enrichControlledResource` of the current tree on 14 objects (webhook configurations with 0–3
webhooks whose client configs have a service with a path / a service with a port and an old CA
bundle / a URL / nothing; CRDs without conversion, with strategy None (with and without a
left-over webhook section), with strategy Webhook and no / an empty / a partial / a full webhook
section; a Composition) x 4 parents (package owner found / found after an owner whose name merely
starts with the package's name and before a second one of that name / not found / no label) x
{certificate, no certificate}, and the first two parents once more as inactive (14 x 10 = 140 rows) —
is reproduced by the model -/
theorem prepare_matches_code :
    Xp.Gen.c16EnrichTable.all (fun r =>
      match prepareC r.ns r.cert r.control ⟨r.label, r.owners.map fun kn => ⟨kn.1, kn.2⟩, r.common⟩ (pobjOfGen r.obj), r.out with
      | .ok o', some e => sameObj o' (pobjOfGen e)
      | .error _, none => true
      | _, _ => false) = true := by
  decide +kernel

/-! ### owner references: `create` and `update` themselves

Section 5 ties the library helpers; these two tables tie their COMPOSITION in
`APIEstablisher.create` / `APIEstablisher.update` — which references a new object gets, which of
current / desired is submitted by an update, with which references and resourceVersion, and when
it refuses without a call — to `createRefs` / `updateSub`, by running the two functions of the
current tree over a recording client: 3 parents (package owner found; not found; found as the
second of three, after one whose name merely starts with the label and before another of the same
name) x control x every list of at most two references over {package, the revision itself, a
stranger} x controller ∈ {nil,false,true}. -/

def parentOfGen (c : String × List (String × Xp.Gen.C16Ref)) : Parent :=
  { uid := 7, label := c.1, owners := c.2.map fun nr => ⟨nr.1, ofGen nr.2⟩ }

theorem create_matches_code :
    Xp.Gen.c16CreateTable.all (fun r =>
      match Xp.Gen.c16OwnerParents[r.1]? with
      | some pc => createRefs (parentOfGen pc) == r.2.map ofGen
      | none => false) = true := by
  decide +kernel

theorem update_matches_code :
    Xp.Gen.c16UpdateTable.all (fun r =>
      match Xp.Gen.c16OwnerParents[r.1]? with
      | none => false
      | some pc =>
        match updateSub (parentOfGen pc) r.2.1 ⟨"k", 5, r.2.2.1.map ofGen, 1⟩ ⟨"k", 0, [], 2⟩, r.2.2.2 with
        | .ok sub, some (isDesired, carriesRv, refs) =>
          sub.body == (if isDesired then 2 else 1) && (sub.rv == 5) == carriesRv && sub.owners == refs.map ofGen
        | .error _, none => true
        | _, _ => false) = true := by
  decide +kernel

section EnrichExamples

def exProv : EParent := ⟨"prov", [⟨"Lock", "provx"⟩, ⟨"Provider", "prov"⟩], some [("team", "a")]⟩
def exVWC : PObj :=
  ⟨"validating-webhook-configuration", some [("team", "b"), ("x", "1")],
   .validating [⟨"h0", ⟨none, some ⟨"webhook-service", "system", some "/validate", none⟩, ""⟩, 10⟩], 7⟩
def exConvCRD : PObj := ⟨"things.example.org", none, .crd (some ⟨"Webhook", none⟩), 3⟩

/-- an active provider revision with its certificate: the webhook configuration is renamed after
the package and its webhook points at the package's service; path, webhook name and everything
else stay; the common label wins over the object's own -/
example :
    (prepare "xp" "CERT" .present true exProv exVWC).toOption =
      some ⟨"crossplane-provider-prov", some [("team", "a"), ("x", "1")],
           .validating [⟨"h0", ⟨none, some ⟨"prov", "xp", some "/validate", some 9443⟩, "CERT"⟩, 10⟩], 7⟩ := by decide +kernel

/-- the hypotheses of `enrich_frame` / `enrich_result` / `enrich_name` hold non-trivially, and the
frame discriminates: it does see a change of a webhook's `rest` or of `service.path` -/
example : ∃ o', enrich "xp" "CERT" exProv exVWC = .ok o' ∧ o' ≠ exVWC ∧ o'.frame = exVWC.frame := by
  refine ⟨_, rfl, ?_, ?_⟩ <;> decide
example :
    ({ exVWC with shape := .validating [⟨"h0", ⟨none, some ⟨"webhook-service", "system", some "/other", none⟩, ""⟩, 10⟩] } : PObj).frame
      ≠ exVWC.frame := by decide +kernel

/-- no certificate (the secret is not named): the webhook configuration passes untouched, the CRD
with webhook conversion is refused — `validate_guard_is_enrich` on both sides -/
example : (prepare "xp" "CERT" .noName true exProv { exVWC with labels := none }).toOption =
    some { exVWC with labels := some [("team", "a")] } := by decide +kernel
example : (prepare "xp" "CERT" .noName true exProv exConvCRD).toOption = none := by decide
example : (prepare "xp" "CERT" .present true exProv exConvCRD).toOption.map (·.shape) =
    some (.crd (some ⟨"Webhook", some ⟨some ⟨none, some ⟨"prov", "xp", none, some 9443⟩, "CERT"⟩, []⟩⟩)) := by decide +kernel

/-- an inactive revision does not enrich: it looks the webhook configuration up under the name the
package gave it -/
example : (prepare "xp" "CERT" .present false exProv exVWC).toOption.map (·.name) =
    some "validating-webhook-configuration" := by decide +kernel

/-- `validateOneP_refines` on the conversion CRD: no certificate — refused before any call; with the
certificate — a dry-run create of the rewritten object (nothing stored, the goroutine succeeds) -/
example :
    validateOneP (fun _ => false) Fault.none "xp" "CERT" (fun o => o.rest) "CRD"
      { uid := 31, label := "prov", owners := [], tls := .noName } exProv true ⟨[], 1, []⟩ 0 exConvCRD =
      (⟨[], 1, []⟩, .err .other) := by decide
example :
    (validateOneP (fun _ => false) Fault.none "xp" "CERT" (fun o => o.rest) "CRD"
      { uid := 31, label := "prov", owners := [], tls := .present } exProv true ⟨[], 1, []⟩ 0 exConvCRD).2 =
      .ok ⟨⟨"CRD/things.example.org", 0, [⟨31, some true, some true⟩], 3⟩, none⟩ := by decide +kernel

/-- `addLabels_spec` is satisfiable -/
example : addLabels (some [("team", "a"), ("y", "2")]) (some [("x", "1"), ("team", "b")]) =
    some [("x", "1"), ("team", "a"), ("y", "2")] := by decide +kernel

end EnrichExamples

end Xp.C16
