import Xp.Model.C04
import Xp.Model.C04Conn
import Xp.Model.C04Compose
import Xp.Proofs.C04
import Xp.Proofs.C04Compose
import Xp.Proofs.C04Conn
import Xp.Gen.C04Skel
/-
C04 — every pipeline step sees exactly the state the function contract promises.
For ALL functions (`Fn = Request → Option Response`), pipelines, cluster contents, secrets and
observed states: the requirements loop and the pipeline loop of the reference interpreter
(Xp/Model/C04.lean), the request as Compose builds it around that loop (Xp/Model/C04Compose.lean),
the connection bookkeeping of PackagedFunctionRunner (Xp/Model/C04Conn.lean), and the ties of the
declared call skeletons to the regenerated ones.
-/
namespace Xp.C04

/-! ### the requirements loop (FetchingFunctionRunner.RunFunction) -/

theorem runFetching_zero (cluster : List ClusterObj) (f : Fn) (req : Request) (prev : List (String × Sel)) :
    runFetching cluster f 0 req prev = ([], .err) := rfl

/-- With the initial fuel `MaxRequirementsIterations + 1` this is the property's bound on the calls
of one step. -/
theorem rounds_bounded (cluster : List ClusterObj) (f : Fn) (fuel : Nat) (req : Request) (prev : List (String × Sel)) :
    (runFetching cluster f fuel req prev).1.length ≤ fuel := by
  have h := rounds cluster f fuel req prev
  generalize runFetching cluster f fuel req prev = r at h
  induction h with
  | spent => exact Nat.le_refl 0
  | failed n => exact Nat.succ_le_succ (Nat.zero_le n)
  | returned n => exact Nat.succ_le_succ (Nat.zero_le n)
  | again _ _ _ _ ih => exact Nat.succ_le_succ ih

/-- Within the rounds of one step only `extra_resources` and `context` change: the
observed state, the desired state, the input and the credentials a function sees are
the same in every round. -/
theorem rounds_keep_contract (cluster : List ClusterObj) (f : Fn) (fuel : Nat) (req : Request) (prev : List (String × Sel)) :
    ∀ q ∈ (runFetching cluster f fuel req prev).1,
      q.observed = req.observed ∧ q.desired = req.desired ∧ q.xrReady = req.xrReady ∧
      q.input = req.input ∧ q.creds = req.creds := by
  have h := rounds cluster f fuel req prev
  generalize runFetching cluster f fuel req prev = r at h
  induction h with
  | spent => exact fun _ hq => nomatch hq
  | failed => exact fun _ hq => List.mem_singleton.mp hq ▸ ⟨rfl, rfl, rfl, rfl, rfl⟩
  | returned => exact fun _ hq => List.mem_singleton.mp hq ▸ ⟨rfl, rfl, rfl, rfl, rfl⟩
  | again _ _ _ _ ih => exact List.forall_mem_cons.mpr ⟨⟨rfl, rfl, rfl, rfl, rfl⟩, ih⟩

/-- Round `r+1` is supplied exactly the resources matching the requirements returned in
round `r` (same keys, fetched contents, nothing left over from earlier rounds) and the
context returned in round `r`. -/
theorem round_inputs (cluster : List ClusterObj) (f : Fn) (fuel : Nat) (req : Request) (prev : List (String × Sel)) (r : Nat)
    (q q' : Request) (hq : (runFetching cluster f fuel req prev).1[r]? = some q)
    (hq' : (runFetching cluster f fuel req prev).1[r+1]? = some q') :
    ∃ rsp, f q = some rsp ∧ q' = nextReq cluster q rsp := by
  have h := rounds cluster f fuel req prev
  generalize runFetching cluster f fuel req prev = res at h hq hq'
  induction h generalizing r with
  | spent => cases hq
  | failed => cases hq'
  | returned => cases hq'
  | @again _ _ _ rsp _ hf _ _ hr ih =>
    cases r with
    | zero =>
      cases hq
      -- `q'` heads the rounds that follow, and they start on the refreshed request
      exact ⟨rsp, hf, hr.head q' (List.head?_eq_getElem? ▸ hq')⟩
    | succ r' => exact ih r' hq hq'

/-- The loop returns a response only if it is the function's answer to the last request
and either carries a fatal result or repeats the requirements of the previous round
(`prev` when it is the first round). The statement ties `p` to `prev` for a single round only;
`Rounds.of_ok` (Xp/Proofs/C04.lean), from which it follows, also says that after several rounds `p`
is what the function returned for the request before the last. -/
theorem returns_when_stable (cluster : List ClusterObj) (f : Fn) (fuel : Nat) (req : Request) (prev : List (String × Sel))
    (rsp : Response) (h : (runFetching cluster f fuel req prev).2 = .ok rsp) :
    ∃ q p, (runFetching cluster f fuel req prev).1.getLast? = some q ∧ f q = some rsp ∧
      (hasFatal rsp.results = true ∨ rsp.reqs = p) ∧
      ((runFetching cluster f fuel req prev).1.length = 1 → p = prev) := by
  obtain ⟨init, q, hl, hfq, hcase⟩ := (rounds cluster f fuel req prev).of_ok h
  rw [hl]
  rcases hcase with hfat | ⟨_, hs⟩ | ⟨q0, _, h0, _, _⟩
  · exact ⟨q, prev, List.getLast?_concat, hfq, .inl hfat, fun _ => rfl⟩
  · exact ⟨q, prev, List.getLast?_concat, hfq, .inr hs, fun _ => rfl⟩
  · refine ⟨q, rsp.reqs, List.getLast?_concat, hfq, .inr rfl, fun hlen => ?_⟩
    -- a request `q0` was sent before `q`: two at least
    cases init with
    | nil => cases h0
    | cons a l => simp at hlen

/-- a function that asks for an extra resource is called a second time -/
example : (runFetching [⟨"EX", "x1", []⟩]
    (fun q => some ⟨[], none, [], if q.extra.isEmpty then [("e", ⟨"EX", "x1", []⟩)] else [("e", ⟨"EX", "x1", []⟩)], [], []⟩)
    6 ⟨[], [], none, [], [], "", []⟩ []).1.length = 2 := rfl

/-! ### the pipeline loop (FunctionComposer.Compose) -/

/-- The first step starts from empty desired state and empty context. -/
theorem first_step_starts_empty (observed : List Res) (s : Step) :
    (stepRequest observed initState s).desired = [] ∧ (stepRequest observed initState s).ctx = [] ∧
    (stepRequest observed initState s).xrReady = none := ⟨rfl, rfl, rfl⟩

/-- Threading: when a step returns (non-fatal) response `rsp`, the rest of the pipeline
runs from the state whose desired, XR readiness and context are exactly `rsp`'s — so the
next step's request carries the previous step's output — and conditions / events are
appended in pipeline order. -/
theorem threading (cluster : List ClusterObj) (observed : List Res) (s : Step) (ss : List Step) (i : Nat) (st : PipeState)
    (hc : s.creds.any (·.2.isNone) = false) (rsp : Response)
    (hr : (runFetching cluster s.fn (Xp.Gen.maxRequirementsIterations + 1) (stepRequest observed st s) []).2 = .ok rsp)
    (hnf : (eventsUntilFatal s.name rsp.results).2 = false) :
    runPipeline cluster observed (s :: ss) i st =
      runPipeline cluster observed ss (i + 1)
        { desired := rsp.desired, xrReady := rsp.xrReady, ctx := rsp.ctx,
          events := st.events ++ (eventsUntilFatal s.name rsp.results).1,
          conds := st.conds ++ rsp.conds,
          trace := st.trace ++ (runFetching cluster s.fn (Xp.Gen.maxRequirementsIterations + 1) (stepRequest observed st s) []).1.map (fun r => (i, r)) } :=
  runPipeline_next hc hr (eventsUntilFatal_snd_eq s.name rsp.results ▸ hnf)

/-- Every request any function receives during a pipeline run carries the same observed
state. -/
theorem observed_same_for_all (cluster : List ClusterObj) (observed : List Res) (ss : List Step) (i : Nat) (st : PipeState)
    (hst : ∀ p ∈ st.trace, p.2.observed = observed) :
    ∀ p ∈ traceOf (runPipeline cluster observed ss i st), p.2.observed = observed := by
  obtain ⟨t, ht, _, hti⟩ := (runs cluster observed ss i st).trace
  intro p hp
  rw [ht] at hp
  rcases List.mem_append.mp hp with hp | hp
  · exact hst p hp
  · obtain ⟨_, s, st', _, _, _, hq⟩ := hti p hp
    exact (rounds_keep_contract cluster s.fn _ _ [] p.2 hq).1

/-- Results are surfaced in pipeline order and none before the first fatal one is dropped:
the events of one response are exactly its non-fatal results, in order, up to the first
fatal result. -/
theorem events_in_order (step : String) (rs : List Result) :
    (eventsUntilFatal step rs).1 = (rs.takeWhile (fun r => decide (r.sev ≠ .fatal))).map (evOf step) ∧
    ((eventsUntilFatal step rs).2 = true ↔ ∃ r ∈ rs, r.sev = .fatal) := by
  rw [eventsUntilFatal_eq]
  exact ⟨rfl, by simp [hasFatal]⟩

/-- **Step k's request, exactly.** For every pipeline `pre ++ s :: post` — every length, every
position `k = pre.length` — whose steps before `s` completed leaving the state `st`, and `s`'s
credentials being available: the trace of the run is the requests of the earlier steps (all with
an index `< k`), then `(k, stepRequest observed st s)`: the request that carries the SAME observed
state as every other step, the desired state / XR readiness / context of `st`, no extra
resources, and `s`'s own input and credentials; whatever follows carries an index `≥ k`. And `st`
is the initial (empty) state when `k = 0`, otherwise its desired state, XR readiness and context
are exactly those of the response the runner returned for step `k-1` (which carried no fatal
result) when it was started from the state its own predecessors left. -/
theorem step_request_exact (cluster : List ClusterObj) (observed : List Res)
    (pre : List Step) (s : Step) (post : List Step) (st : PipeState)
    (hpre : runPipeline cluster observed pre 0 initState = .done st)
    (hc : s.creds.any (·.2.isNone) = false) :
    (∃ tail, traceOf (runPipeline cluster observed (pre ++ s :: post) 0 initState) =
        st.trace ++ (pre.length, stepRequest observed st s) :: tail ∧ ∀ p ∈ tail, pre.length ≤ p.1) ∧
    (∀ p ∈ st.trace, p.1 < pre.length) ∧
    (pre = [] → st = initState) ∧
    (∀ pre' s', pre = pre' ++ [s'] → ∃ st' rsp,
        runPipeline cluster observed pre' 0 initState = .done st' ∧
        (runFetching cluster s'.fn (Xp.Gen.maxRequirementsIterations + 1) (stepRequest observed st' s') []).2 = .ok rsp ∧
        hasFatal rsp.results = false ∧
        st.desired = rsp.desired ∧ st.xrReady = rsp.xrReady ∧ st.ctx = rsp.ctx ∧
        st.conds = st'.conds ++ rsp.conds ∧ st.events = st'.events ++ (eventsUntilFatal s'.name rsp.results).1) := by
  refine ⟨?_, ?_, ?_, ?_⟩
  · rw [runPipeline_append_eq, hpre, Nat.zero_add]
    exact cons_trace_head cluster observed s post pre.length st hc
  · obtain ⟨t, ht, _, hti⟩ := (runs cluster observed pre 0 initState).trace
    rw [hpre] at ht
    have ht : st.trace = t := ht
    intro p hp
    obtain ⟨k, _, _, hk, _, hp1, _⟩ := hti p (ht ▸ hp)
    rw [hp1, Nat.zero_add]
    exact (List.getElem?_eq_some_iff.mp hk).1
  · rintro rfl
    rw [runPipeline_nil] at hpre
    cases hpre
    rfl
  · rintro pre' s' rfl
    obtain ⟨st', rsp, h1, _, hr, hf, rfl⟩ := append_single_done cluster observed s' 0 st pre' initState hpre
    exact ⟨st', rsp, h1, hr, hf, rfl, rfl, rfl, rfl, rfl⟩

/-- hypotheses satisfiable: a one-step pipeline whose step adds a resource and sets a context key -/
example : ∃ st, runPipeline [] [] [⟨"s0", fun _ => some ⟨[⟨"a", "KA", "", 1, true⟩], none, [("k", "v")], [], [], []⟩, "", []⟩] 0 initState = .done st ∧
    st.desired = [⟨"a", "KA", "", 1, true⟩] ∧ st.ctx = [("k", "v")] := ⟨_, rfl, rfl, rfl⟩

/-- **The final desired state is the last step's output**: a pipeline `pre ++ [s]` that completes
ends with exactly the desired state, XR readiness and context of the response the runner
returned for `s`. -/
theorem final_desired_is_last_output (cluster : List ClusterObj) (observed : List Res)
    (pre : List Step) (s : Step) (st : PipeState)
    (h : runPipeline cluster observed (pre ++ [s]) 0 initState = .done st) :
    ∃ st' rsp, runPipeline cluster observed pre 0 initState = .done st' ∧
      (runFetching cluster s.fn (Xp.Gen.maxRequirementsIterations + 1) (stepRequest observed st' s) []).2 = .ok rsp ∧
      st.desired = rsp.desired ∧ st.xrReady = rsp.xrReady ∧ st.ctx = rsp.ctx := by
  obtain ⟨st', rsp, h1, _, hr, _, rfl⟩ := append_single_done cluster observed s 0 st pre initState h
  exact ⟨st', rsp, h1, hr, rfl, rfl, rfl⟩

example : ∃ st, runPipeline [] [] ([] ++ [⟨"s0", fun _ => some ⟨[⟨"a", "KA", "", 1, true⟩], some true, [], [], [], []⟩, "", []⟩]) 0 initState = .done st :=
  ⟨_, rfl⟩

/-- **Results and conditions are surfaced in pipeline order and none is dropped**, for every
pipeline: whatever way the run ends, the events and conditions of its final state are, in
pipeline order, those of every accepted response (`accepted`: the responses the runner returned,
step by step, up to and including the first one with a fatal result) — all conditions of each,
and its results up to a fatal one. When the run completes, every step has exactly one accepted
response, none carries a fatal result, and the events are ALL results of ALL steps, in order. -/
theorem results_and_conditions_in_pipeline_order (cluster : List ClusterObj) (observed : List Res) (ss : List Step) :
    (finalState (runPipeline cluster observed ss 0 initState)).events =
      (accepted cluster observed ss 0 initState).flatMap (fun p => (eventsUntilFatal p.1 p.2.results).1) ∧
    (finalState (runPipeline cluster observed ss 0 initState)).conds =
      (accepted cluster observed ss 0 initState).flatMap (fun p => p.2.conds) ∧
    (∀ st, runPipeline cluster observed ss 0 initState = .done st →
      (accepted cluster observed ss 0 initState).map (·.1) = ss.map (·.name) ∧
      st.events = (accepted cluster observed ss 0 initState).flatMap (fun p => p.2.results.map (evOf p.1)) ∧
      st.conds = (accepted cluster observed ss 0 initState).flatMap (fun p => p.2.conds)) := by
  obtain ⟨h1, h2, hdone⟩ := (runs cluster observed ss 0 initState).accepted_responses
  refine ⟨h1, h2, fun st hst => ?_⟩
  obtain ⟨hn, hnf⟩ := hdone st hst
  rw [hst] at h1 h2
  refine ⟨hn, h1.trans ?_, h2⟩
  exact flatMap_congr_mem _ _ _ (fun p hp => eventsUntilFatal_no_fatal p.1 p.2.results (hnf p hp))

example : (accepted [] [] [⟨"s0", fun _ => some ⟨[], none, [], [], [⟨.normal, "m", false⟩], [⟨"T", "True", "R", false, ""⟩]⟩, "", []⟩,
    ⟨"s1", fun _ => some ⟨[], none, [], [], [⟨.warning, "w", true⟩, ⟨.fatal, "f", false⟩, ⟨.normal, "late", false⟩], []⟩, "", []⟩] 0 initState).map (·.1)
    = ["s0", "s1"] := rfl

/-! ### the request as Compose builds it, and the condition status it takes from a response (Xp/Model/C04Compose.lean) -/

/-- **The full request of step k.** The step the pipeline loop runs for a `PipelineStep` whose
preparation succeeded (input decoded to `i`, credentials loaded to `cd`) starts, from the
accumulated state `st`, with a request whose full form is exactly `buildRequest o st i cd`: the
observed state `o` built once by AsState (XR, its connection details, every observed composed
resource with its connection details), `st`'s desired state / XR readiness / context, the step's
own input and its own credentials' data, no extra resources and no meta. -/
theorem compose_first_request (s : SecretStore) (o : ObservedState) (xs : XStep) (st : PipeState)
    (i : Bool × String) (cd : List (String × KV)) (hp : prepare s xs = some (i, cd)) :
    (toStep s o xs).creds.any (·.2.isNone) = false ∧
    embed o i cd (stepRequest (o.resources.map (·.res)) st (toStep s o xs)) = buildRequest o st i cd ∧
    ∀ q, (toStep s o xs).fn q = xs.fn (embed o i cd q) := by
  unfold toStep
  simp only [hp]
  refine ⟨?_, ?_, ?_⟩
  · simp [List.any_map]
  · have hk : ((keysOf cd).map fun p => (p.1, some p.2)).map (fun c => (c.1, c.2.getD [])) = keysOf cd := by
      rw [List.map_map]
      exact List.map_id' _
    simp only [buildRequest, stepRequest, hk]
  · exact fun _ => trivial

example : prepare ⟨[("sec", [("u", "v")])], []⟩ ⟨"s0", fun _ => none, some (some "in"), [⟨"c", true, some "sec"⟩]⟩ =
    some ((true, "in"), [("c", [("u", "v")])]) := rfl

/-- **A step whose preparation fails is never called**: when the input does not decode or a
credentials Get fails, the pipeline stops at that step with the trace unchanged (no request is
sent to it or to any later step) and nothing is surfaced. -/
theorem prepare_failure_stops (s : SecretStore) (o : ObservedState) (xs : XStep) (ss : List Step) (k : Nat) (st : PipeState)
    (cluster : List ClusterObj) (hp : prepare s xs = none) :
    runPipeline cluster (o.resources.map (·.res)) (toStep s o xs :: ss) k st = .failed st false := by
  have hc : (toStep s o xs).creds.any (·.2.isNone) = true := by
    simp only [toStep, hp]
    rfl
  exact runPipeline_noCreds hc

example : prepare ⟨[], []⟩ ⟨"s0", fun _ => none, none, [⟨"c", true, some "missing"⟩]⟩ = none := rfl
example : prepare ⟨[("sec", [])], []⟩ ⟨"s0", fun _ => none, some none, []⟩ = none := rfl

/-- **Credentials, error handling.** The credentials loop succeeds iff the Get of every
secret-sourced credential with a secret reference finds its Secret — NotFound fails the step
just like any other error; credentials of another source, or without a reference, are skipped. -/
theorem loadCreds_ok_iff (s : SecretStore) (cs : List Cred) (acc : List (String × KV)) :
    (loadCreds s acc cs).isSome ↔
      ∀ c ∈ cs, c.isSecret = true → ∀ ref, c.secretRef = some ref → ∃ d, s.get ref = .found d := by
  fun_induction loadCreds s acc cs with
  | case1 acc => exact ⟨fun _ _ hc => (nomatch hc), fun _ => rfl⟩
  | case2 acc c cs hns ih =>  -- not secret-sourced: skipped
    rw [ih, List.forall_mem_cons]
    refine ⟨fun h => ⟨fun hs => ?_, h⟩, And.right⟩
    simp [hs] at hns
  | case3 acc c cs _ hr ih =>  -- no reference: skipped
    rw [ih, List.forall_mem_cons]
    refine ⟨fun h => ⟨fun _ ref hr' => ?_, h⟩, And.right⟩
    rw [hr] at hr'
    cases hr'
  | case4 acc c cs _ ref hr d hg ih =>  -- the Secret is found
    rw [ih, List.forall_mem_cons]
    refine ⟨fun h => ⟨fun _ ref' hr' => ?_, h⟩, And.right⟩
    rw [hr] at hr'
    cases hr'
    exact ⟨d, hg⟩
  | case5 acc c cs hs ref hr hg =>  -- the Get fails
    rw [List.forall_mem_cons]
    refine ⟨fun h => (nomatch h), fun h => ?_⟩
    obtain ⟨d, hd⟩ := h.1 (by simpa using hs) ref hr
    exact absurd hd (hg d)

/-- **Own credentials only.** Every entry of the credentials a step is sent is the data of a
Secret one of the step's OWN secret-sourced credential entries names, under that entry's name. -/
theorem loadCreds_sound (s : SecretStore) (cs : List Cred) (acc out : List (String × KV))
    (h : loadCreds s acc cs = some out) :
    ∀ p ∈ out, p ∈ acc ∨ ∃ c ∈ cs, c.name = p.1 ∧ c.isSecret = true ∧ ∃ ref, c.secretRef = some ref ∧ s.get ref = .found p.2 := by
  revert h
  fun_induction loadCreds s acc cs with
  | case1 acc => exact fun h p hp => .inl (Option.some.inj h ▸ hp)
  | case2 acc c cs _ ih =>  -- not secret-sourced: skipped
    exact fun h p hp => (ih h p hp).imp_right (Exists.imp fun _ => And.imp_left (List.mem_cons_of_mem _))
  | case3 acc c cs _ _ ih =>  -- no reference: skipped
    exact fun h p hp => (ih h p hp).imp_right (Exists.imp fun _ => And.imp_left (List.mem_cons_of_mem _))
  | case4 acc c cs hs ref hr d hg ih =>  -- the Secret is found: its data is upserted under the entry's name
    intro h p hp
    rcases ih h p hp with h1 | h1
    · rcases mem_upsert acc c.name d p h1 with h2 | rfl
      · exact .inl h2
      · exact .inr ⟨c, List.mem_cons_self .., rfl, by simpa using hs, ref, hr, hg⟩
    · exact .inr (h1.imp fun _ => And.imp_left (List.mem_cons_of_mem _))
  | case5 => exact fun h => nomatch h  -- the Get fails

example : loadCreds ⟨[("sec", [("u", "v")])], []⟩ [] [⟨"c", true, some "sec"⟩, ⟨"d", false, some "sec"⟩] = some [("c", [("u", "v")])] := rfl

/-- **Credentials are a map keyed by name; a later entry of the same name replaces an earlier
one.** When the credentials loop succeeds, the data sent under name `n` is that of the LAST of the
step's own entries named `n` that is secret-sourced with a reference (its Secret's data), and
there is no entry `n` when the step has none. -/
theorem loadCreds_lookup (s : SecretStore) (cs : List Cred) (acc out : List (String × KV))
    (h : loadCreds s acc cs = some out) (n : String) :
    out.lookup n = match (cs.filterMap (credEntry s)).reverse.lookup n with
      | some d => some d
      | none => acc.lookup n := by
  revert h
  fun_induction loadCreds s acc cs with
  | case1 acc => exact fun h => Option.some.inj h ▸ rfl
  | case2 acc c cs hns ih =>  -- not secret-sourced: contributes nothing
    have hce : credEntry s c = none := by
      simp only [Bool.not_eq_true'] at hns
      simp [credEntry, hns]
    exact fun h => by simpa [List.filterMap_cons, hce] using ih h
  | case3 acc c cs _ hr ih =>  -- no reference: contributes nothing
    have hce : credEntry s c = none := by simp [credEntry, hr]
    exact fun h => by simpa [List.filterMap_cons, hce] using ih h
  | case4 acc c cs hs ref hr d hg ih =>  -- the Secret is found: contributes `(c.name, d)`
    have hce : credEntry s c = some (c.name, d) := by
      simp only [Bool.not_eq_true', Bool.not_eq_false] at hs
      simp [credEntry, hs, hr, hg]
    intro h
    rw [ih h]
    simp only [List.filterMap_cons, hce, List.reverse_cons, lookup_append_single, lookup_upsert]
    cases (List.filterMap (credEntry s) cs).reverse.lookup n with
    | some x => simp
    | none => by_cases hn : n = c.name <;> simp [hn]
  | case5 => exact fun h => nomatch h  -- the Get fails

example : loadCreds ⟨[("sec1", [("u", "1")]), ("sec2", [("t", "2")])], []⟩ [] [⟨"c", true, some "sec1"⟩, ⟨"c", true, some "sec2"⟩] =
    some [("c", [("t", "2")])] := rfl

/-- **Connection details, error handling.** FetchConnection fails only when a referenced Secret's
Get answers an error other than NotFound; no reference and NotFound both yield empty details. -/
theorem fetchConnection_cases (s : SecretStore) (ref : Option String) :
    (fetchConnection s ref = none ↔ ∃ n, ref = some n ∧ s.get n = .error) ∧
    (ref = none → fetchConnection s ref = some []) ∧
    (∀ n, ref = some n → s.get n = .notFound → fetchConnection s ref = some []) ∧
    (∀ n d, ref = some n → s.get n = .found d → fetchConnection s ref = some d) := by
  refine ⟨?_, ?_, ?_, ?_⟩
  · cases ref with
    | none => simp [fetchConnection]
    | some n => cases hg : s.get n <;> simp [fetchConnection, hg]
  · rintro rfl; rfl
  · rintro n rfl hg; simp [fetchConnection, hg]
  · rintro n d rfl hg; simp [fetchConnection, hg]

example : fetchConnection ⟨[("sec", [("u", "v")])], ["bad"]⟩ (some "bad") = none ∧
    fetchConnection ⟨[("sec", [("u", "v")])], ["bad"]⟩ (some "sec") = some [("u", "v")] := ⟨rfl, rfl⟩

/-- **Observed composed resources and their connection details.** Every resource the observer
returns is a referenced object that is not controlled by someone else, under its
composition-resource-name, with exactly the connection details FetchConnection yields for its
own `writeConnectionSecretToRef`. -/
theorem observe_sound (s : SecretStore) (refs : List (String × String)) (objs : List CObj) (out : List ORes)
    (h : observeX s refs objs = some out) :
    ∀ r ∈ out, ∃ o ∈ objs, (o.kind, o.name) ∈ refs ∧ o.annot = r.res.rname ∧ o.annot ≠ "" ∧ (o.ctrl == "other") = false ∧
      r.res = ⟨o.annot, o.kind, o.name, o.content, false⟩ ∧ fetchConnection s o.connRef = some r.conn := by
  refine foldlM_some_invariant (P := fun acc => ∀ r ∈ acc, ∃ o ∈ objs, (o.kind, o.name) ∈ refs ∧ o.annot = r.res.rname ∧
    o.annot ≠ "" ∧ (o.ctrl == "other") = false ∧ r.res = ⟨o.annot, o.kind, o.name, o.content, false⟩ ∧
    fetchConnection s o.connRef = some r.conn) refs [] out ?_ ?_ h
  · exact fun _ hp => nomatch hp
  intro x hx acc acc' hacc hstep r hr
  rcases observeStep_some hstep with ⟨rfl, _⟩ | ⟨o, c, _, hfind, hctrl, hannot, hconn, rfl⟩
  · exact hacc r hr
  · rcases List.mem_append.mp hr with hr | hr
    · exact hacc r (List.mem_filter.mp hr).1
    · obtain rfl := List.mem_singleton.mp hr
      have hp := List.find?_some hfind
      simp only [Bool.and_eq_true, beq_iff_eq] at hp
      have hx' : (o.kind, o.name) = x := Prod.ext hp.1 hp.2
      exact ⟨o, List.mem_of_find?_eq_some hfind, hx' ▸ hx, rfl, by simpa using hannot, hctrl, rfl, hconn⟩

example : observeX ⟨[("sec", [("u", "v")])], []⟩ [("KA", "a1")] [⟨"KA", "a1", "ra", "xr", 1, some "sec"⟩] =
    some [⟨⟨"ra", "KA", "a1", 1, false⟩, [("u", "v")]⟩] := rfl

/-- **Every existing composed resource of this XR is observed.** When the observer succeeds,
every reference that names an object which exists and is not controlled by someone else is
represented in the observed state under the object's composition-resource-name (with
`observe_sound`: carrying its own connection details). -/
theorem observe_complete (s : SecretStore) (refs : List (String × String)) (objs : List CObj) (out : List ORes)
    (h : observeX s refs objs = some out) (x : String × String) (hx : x ∈ refs) (hname : (x.2 == "") = false)
    (o : CObj) (hfind : objs.find? (fun o => o.kind == x.1 && o.name == x.2) = some o) (hctrl : (o.ctrl == "other") = false) :
    ∃ r ∈ out, r.res.rname = o.annot := by
  obtain ⟨l1, l2, rfl⟩ := List.append_of_mem hx
  rw [observeX, List.foldlM_append] at h
  obtain ⟨acc1, _, h⟩ := Option.bind_eq_some_iff.mp h
  rw [List.foldlM_cons] at h
  obtain ⟨acc2, hstep, h⟩ := Option.bind_eq_some_iff.mp h
  exact observe_fold_keeps s objs l2 acc2 out h _ (observeStep_adds s objs acc1 acc2 x o hstep hname hfind hctrl)

example : observeX ⟨[], []⟩ [("KA", "a1"), ("KB", "gone")] [⟨"KA", "a1", "ra", "xr", 1, none⟩] =
    some [⟨⟨"ra", "KA", "a1", 1, false⟩, []⟩] := rfl

/-- **The constant part of every request.** Every full request of the run carries the observed
state AsState built once (the XR's name and connection details, the connection details of every
observed composed resource), no meta, and the input flag and credentials data that the
preparation of ITS OWN step produced. -/
theorem xtrace_constant_part (s : SecretStore) (o : ObservedState) (steps : List XStep) (tr : List (Nat × Request))
    (k : Nat) (xq : XRequest) (h : (k, xq) ∈ xtrace s o steps tr) :
    xq.xrName = o.xrName ∧ xq.xrConn = o.xrConn ∧ xq.obsConn = o.resources.map (fun r => (r.res.rname, r.conn)) ∧ xq.metaTag = "" ∧
    ∃ xs i cd q, steps[k]? = some xs ∧ prepare s xs = some (i, cd) ∧ (k, q) ∈ tr ∧ xq = embed o i cd q ∧
      xq.credData = cd ∧ xq.hasInput = i.1 := by
  obtain ⟨q, xs, i, cd, hq, hx, hprep, rfl⟩ := mem_xtrace h
  exact ⟨rfl, rfl, rfl, rfl, xs, i, cd, q, hx, hprep, hq, rfl, rfl, rfl⟩

example : xtrace ⟨[], []⟩ ⟨"xr", [("a", "b")], []⟩ [⟨"s0", fun _ => none, none, []⟩] [(0, ⟨[], [], none, [], [], "", []⟩)] =
    [(0, ⟨⟨[], [], none, [], [], "", []⟩, "xr", [("a", "b")], [], [], false, ""⟩)] := rfl

/-- **Step k's full request, for every pipeline and every k.** In a Compose run over the
pipeline `pre ++ xs :: post` (any length, position `k = pre.length`) in which the steps before
`xs` completed leaving the state `st` (so, by `step_request_exact`, `st` holds exactly the
desired state and context step `k-1` returned, or nothing when `k = 0`) and whose preparation of
`xs` gave input `i` and credentials `cd`: the full requests the functions received are the
requests of earlier steps (index `< k`), then `(k, buildRequest o st i cd)` — observed state `o`
with the XR's and every observed resource's connection details, `st`'s desired state and
context, `xs`'s own input and own credentials, no extra resources, no meta — then requests with
an index `≥ k`. -/
theorem compose_step_request_exact (w : XWorld) (pre : List XStep) (xs : XStep) (post : List XStep)
    (o : ObservedState) (r : PipeResult) (st : PipeState) (i : Bool × String) (cd : List (String × KV))
    (hrun : composeX w (pre ++ xs :: post) = .ran o r)
    (hpre : runPipeline w.cluster (o.resources.map (·.res)) (pre.map (toStep w.secrets o)) 0 initState = .done st)
    (hp : prepare w.secrets xs = some (i, cd)) :
    ∃ head tail, xtrace w.secrets o (pre ++ xs :: post) (traceOf r) = head ++ (pre.length, buildRequest o st i cd) :: tail ∧
      (∀ p ∈ head, p.1 < pre.length) ∧ (∀ p ∈ tail, pre.length ≤ p.1) := by
  have hr : r = runPipeline w.cluster (o.resources.map (·.res)) ((pre ++ xs :: post).map (toStep w.secrets o)) 0 initState := by
    unfold composeX at hrun
    split at hrun
    · cases hrun
    · split at hrun
      · cases hrun
      · cases hrun; rfl
  obtain ⟨hc, hemb, _⟩ := compose_first_request w.secrets o xs st i cd hp
  rw [List.map_append, List.map_cons] at hr
  obtain ⟨⟨tail, htr, htail⟩, hhead, _, _⟩ :=
    step_request_exact w.cluster (o.resources.map (·.res)) (pre.map (toStep w.secrets o)) (toStep w.secrets o xs)
      (post.map (toStep w.secrets o)) st hpre hc
  rw [← hr] at htr
  simp only [List.length_map] at htr htail hhead
  refine ⟨xtrace w.secrets o (pre ++ xs :: post) st.trace, xtrace w.secrets o (pre ++ xs :: post) tail, ?_,
    fun p hp' => let ⟨_, _, _, _, hq, _⟩ := mem_xtrace hp'; hhead _ hq,
    fun p hp' => let ⟨_, _, _, _, hq, _⟩ := mem_xtrace hp'; htail _ hq⟩
  have hk : (pre ++ xs :: post)[pre.length]? = some xs := by simp
  rw [htr, xtrace_append, xtrace_cons hk hp, hemb]

example : ∃ o r, composeX ⟨"xr", some "sec", [], [], ⟨[("sec", [("u", "v")])], []⟩, []⟩
    ([] ++ (⟨"s0", fun q => if q.xrConn = [("u", "v")] then some ⟨[], none, [], [], [], []⟩ else none, none, []⟩ : XStep) :: []) = .ran o r ∧
    (traceOf r).length = 1 := ⟨_, _, rfl, by decide⟩

/-- the status switch of Compose maps every status to True, False or Unknown, and only the two
definite ones to themselves -/
theorem convStatus_cases (st : String) :
    (convStatus st = "True" ↔ st = "True") ∧ (convStatus st = "False" ↔ st = "False") ∧
    (convStatus st = "True" ∨ convStatus st = "False" ∨ convStatus st = "Unknown") := by
  unfold convStatus
  by_cases h1 : st = "True"
  · subst h1; decide
  · by_cases h2 : st = "False"
    · subst h2; decide
    · simp [h1, h2]

/-! ### regenerated facts: the modelled Go functions still have the modelled call skeleton -/

/-- `FunctionComposer.Compose`: observed state built once before the loop; per step: input, the
credentials loop with its secret Get, the call, threading of desired and context, conditions,
results with the severity switch; nothing reads meta / ttl. -/
theorem skeleton_compose : Xp.Gen.c04SkelCompose = skelCompose := rfl

/-- `FetchingFunctionRunner.RunFunction` -/
theorem skeleton_fetching : Xp.Gen.c04SkelFetching = skelFetching := rfl

/-- `ExistingExtraResourcesFetcher.Fetch` -/
theorem skeleton_fetch : Xp.Gen.c04SkelFetch = skelFetch := rfl

/-- `ExistingComposedResourceObserver.ObserveComposedResources` -/
theorem skeleton_observe : Xp.Gen.c04SkelObserve = skelObserve := rfl

/-- `AsState` -/
theorem skeleton_as_state : Xp.Gen.c04SkelAsState = skelAsState := rfl

/-- `SecretConnectionDetailsFetcher.FetchConnection` -/
theorem skeleton_fetch_connection : Xp.Gen.c04SkelFetchConnection = skelFetchConnection := rfl

/-- `convertTarget`, tabulated on the real function for every target value of the proto enum -/
theorem convert_target_table : ∀ p ∈ Xp.Gen.c04TargetTable, convertTarget p.1 = p.2 := by decide

/-- `PackagedFunctionRunner.RunFunction` -/
theorem skeleton_pkg_run : Xp.Gen.c04SkelPkgRun = Xp.C04Conn.skelPkgRun := rfl

/-- `PackagedFunctionRunner.getClientConn` -/
theorem skeleton_get_client_conn : Xp.Gen.c04SkelGetClientConn = Xp.C04Conn.skelGetClientConn := rfl

/-- `PackagedFunctionRunner.GarbageCollectConnectionsNow` -/
theorem skeleton_gc_conns : Xp.Gen.c04SkelGcConns = Xp.C04Conn.skelGcConns := rfl

/-- `BetaFallBackFunctionRunnerServiceClient.RunFunction`, `toBeta`, `fromBeta` -/
theorem skeleton_beta : Xp.Gen.c04SkelBeta = Xp.C04Conn.skelBeta ∧ Xp.Gen.c04SkelToBeta = Xp.C04Conn.skelReencode ∧
    Xp.Gen.c04SkelFromBeta = Xp.C04Conn.skelReencode := ⟨rfl, rfl, rfl⟩

/-! ### which function instance a step is sent to (PackagedFunctionRunner) -/

section Conn
open Xp.C04Conn

/-- **Right instance.** Whenever a connection is handed out for function `fn`, its target is the
non-empty endpoint of an Active revision of `fn`, and that is what the cache now holds for
`fn` — also when a connection to an older endpoint was cached (it is replaced). -/
theorem conn_target (revs : List Rev) (c : Conns) (fn ep : String)
    (h : (getConn revs c fn).1 = some ep) :
    (∃ r ∈ revs, r.fn = fn ∧ r.active = true ∧ r.endpoint = ep ∧ ep ≠ "") ∧
    cget (getConn revs c fn).2 fn = some ep := by
  revert h
  fun_cases getConn revs c fn with
  | case1 => exact fun h => nomatch h  -- no endpoint to use
  | case2 ep' hw hc =>  -- the cached connection targets it
    intro h
    cases h
    exact ⟨wanted_some hw, hc⟩
  | case3 ep' hw _ =>  -- nothing or a stale connection cached: a new one is
    intro h
    cases h
    exact ⟨wanted_some hw, cget_append_new c fn ep⟩

/-- No connection is handed out when the function has no Active revision or the Active
revision has no endpoint yet; the cache is left alone. -/
theorem conn_error_keeps_cache (revs : List Rev) (c : Conns) (fn : String)
    (h : (getConn revs c fn).1 = none) : (getConn revs c fn).2 = c := by
  revert h
  fun_cases getConn revs c fn with
  | case1 => exact fun _ => rfl  -- no endpoint to use
  | case2 => exact fun h => nomatch h
  | case3 => exact fun h => nomatch h

/-- Connections of other functions are not touched by a call for `fn`. -/
theorem conn_others_untouched (revs : List Rev) (c : Conns) (fn m : String) (hm : m ≠ fn) :
    cget (getConn revs c fn).2 m = cget c m := by
  fun_cases getConn revs c fn with
  | case1 => rfl
  | case2 => rfl
  | case3 ep _ _ => exact cget_other c fn ep m hm  -- only the entry of `fn` is replaced

/-- **A step is sent to the active revision of the function it names.** When
PackagedFunctionRunner.RunFunction sends the request at all, the connection it sends it over
targets the non-empty endpoint of an Active revision of the named function (whatever was
cached before); when the lookup fails nothing is sent and the cache is left alone. -/
theorem call_sent_to_active (revs : List Rev) (c : Conns) (fn : String) :
    (∀ ep, (runPackaged revs c fn).1 = some ep →
      (∃ r ∈ revs, r.fn = fn ∧ r.active = true ∧ r.endpoint = ep ∧ ep ≠ "") ∧ cget (runPackaged revs c fn).2 fn = some ep) ∧
    ((runPackaged revs c fn).1 = none → (runPackaged revs c fn).2 = c) :=
  ⟨conn_target revs c fn, conn_error_keeps_cache revs c fn⟩

example : (runPackaged [⟨"f-1", "f", false, "live0"⟩, ⟨"f-2", "f", true, "live2"⟩] [("f", "live0")] "f") =
    (some "live2", [("f", "live2")]) := rfl

/-- **A failing List changes nothing.** When the List of FunctionRevisions (getClientConn) or of
Functions (garbage collection) answers an error, no connection is handed out, none is closed and
the cache is exactly what it was; garbage collection of an empty cache does not even list. When
the List succeeds both are the functions the other theorems are about. -/
theorem list_failure_keeps_cache (revs : List Rev) (fns : List String) (c : Conns) (fn : String) :
    getConnF true revs c fn = (none, c) ∧ getConnF false revs c fn = getConn revs c fn ∧
    (c ≠ [] → gcF true fns c = (none, c)) ∧ gcF true fns [] = (some 0, []) ∧
    (gcF false fns c).2 = (gc fns c).2 ∧ (gcF false fns c).1 = some (gc fns c).1 := by
  refine ⟨rfl, rfl, ?_, rfl, ?_, ?_⟩
  · intro h; cases c with
    | nil => exact absurd rfl h
    | cons a l => rfl
  · cases c <;> rfl
  · cases c <;> rfl

example : gcF true ["f"] [("g", "live0")] = (none, [("g", "live0")]) := rfl

/-- **Collection.** Garbage collection keeps exactly the connections of installed functions and
reports how many it closed. -/
theorem conn_gc (fns : List String) (c : Conns) (p : String × String) :
    (p ∈ (gc fns c).2 ↔ p ∈ c ∧ p.1 ∈ fns) ∧ (gc fns c).1 + (gc fns c).2.length = c.length := by
  constructor
  · simp [gc, List.mem_filter]
  · simp only [gc]
    exact filter_split_length (fun p : String × String => fns.contains p.1) c

end Conn

end Xp.C04
