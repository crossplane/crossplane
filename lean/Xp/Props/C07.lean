import Xp.Proofs.C07Hist
import Xp.Proofs.C07World
import Xp.Proofs.C07Upgrade
import Xp.Model.C07Skel
/-
C07 — claim and XR exchange exactly the fields each side owns.

The partition `owner` / `statusMachinery` (Xp/Model/C07.lean) is stated by hand,
independently of internal/xcrd/schemas.go; `tables_conform_to_partition` ties
the tables regenerated from the current tree (Xp.Gen) to it, and every theorem
below is about the model functions that filter with those generated tables.
All theorems hold for every claim, XR, key and history: no bounds.
-/
namespace Xp.C07
open Xp

/-- The key tables of the current tree (internal/xcrd/schemas.go, regenerated into Xp.Gen) are exactly the
partition stated by hand. -/
theorem tables_conform_to_partition :
    (∀ k, Xp.Gen.specPropsClaim.contains k =
      (owner k == .shared || owner k == .revision || owner k == .claimOnly || owner k == .eachSide)) ∧
    (∀ k, Xp.Gen.specPropsXR.contains k =
      (owner k == .shared || owner k == .revision || owner k == .xrOnly || owner k == .eachSide)) ∧
    (∀ k, Xp.Gen.propagateSpecProps.contains k = (owner k == .shared)) ∧
    (∀ k, Xp.Gen.statusProps.contains k = statusMachinery k) ∧
    owner Xp.Gen.compositionRevisionRefKey = .revision :=
  ⟨fun k => (tables_owner k).1, fun k => (tables_owner k).2.1, fun k => (tables_owner k).2.2,
    statusProps_contains, owner_revKey⟩

/-! ### claim → XR -/

/-- **claim_to_xr** (server-side syncer, spec). For every claim, XR and top-level key `k`
the applied object carries the claim's value of `k` unchanged — whatever is nested
inside it — iff `k` is a user field or a composition selection field; the revision
reference iff the XR's update policy is Manual; claim-only and each-side machinery never;
and `claimRef` names the claim. Last clause: the other XR-only key, `resourceRefs`, WOULD be copied if the
claim carried it; that is why the preservation theorems below assume `ClaimValid` (Xp/Model/C07.lean). -/
theorem claim_to_xr (c : Cfg) (gen : String) (cm : KObj) (xr : Option KObj) (cs : AL J) (k : String) :
    let ps := (ssaPatch c gen cm xr cs).specFields
    (owner k = .user ∨ owner k = .shared → alookup k ps = alookup k cs) ∧
    (owner k = .claimOnly ∨ owner k = .eachSide → alookup k ps = none) ∧
    (owner k = .revision →
      alookup k ps = if policyOf (xrSpecFields xr) == some "Manual" then alookup k cs else none) ∧
    (k = "claimRef" → alookup k ps = some (claimRefJ c cm)) ∧
    (owner k = .xrOnly → k ≠ "claimRef" → alookup k ps = alookup k cs) :=
  specToXR_partition c cm _ cs k

/-- Filtering is by top-level key only: a user field that merely *contains* fields named
like machinery is copied whole. -/
example :
    let cs : AL J := [("params", .obj [("resourceRef", .obj [("name", .str "inner")]), ("claimRef", .str "x")]),
                      ("resourceRef", .obj [("name", .str "xr-1")])]
    let ps := (ssaPatch ⟨"example.org/v1", "Thing", "ns", "example.org/v1", "XThing"⟩ "g" { name := "c" } none cs).specFields
    (match alookup "params" ps with
     | some (.obj [("resourceRef", .obj [("name", .str v)]), ("claimRef", .str w)]) => v ++ w
     | _ => "") = "innerx" ∧ (alookup "resourceRef" ps).isNone = true := by decide +kernel

/-- **claim_to_xr**, labels and annotations: Kubernetes-reserved keys are never applied,
every other label and annotation of the claim is, the two claim labels name the claim,
and an external name the XR already has wins over the claim's. -/
theorem claim_to_xr_meta (c : Cfg) (gen : String) (cm : KObj) (xr : Option KObj) (cs : AL J) (k : String) :
    let p := ssaPatch c gen cm xr cs
    alookup k p.labels =
      (if k = Xp.Gen.labelKeyClaimNamespace then some c.claimNS
       else if k = Xp.Gen.labelKeyClaimName then some cm.name
       else if reserved k then none else alookup k cm.labels) ∧
    alookup k p.anns =
      (if k = extNameKey ∧ extName xr ≠ "" then some (extName xr)
       else if reserved k then none else alookup k cm.anns) :=
  ⟨ssaPatch_labels c gen cm xr cs k, ssaPatch_anns c gen cm xr cs k⟩

/-- **claim_to_xr**, in the store, first sync and re-sync (server-side syncer): every user
field and composition selection field of the claim whose value is not itself an object
(scalars and lists, which server-side apply treats as atoms here) is stored on the XR
with exactly the claim's value, whatever the XR held and whatever was applied before;
object values are merged key-wise by server-side apply (see `first_sync_creates_body`
for the unmerged case). -/
theorem claim_to_xr_stored (c : Cfg) (gen : String) (s : St) (cs : AL J) (k : String) (v : J)
    (h : s.cm.spec = some (.obj cs)) (hnd : NoDup cs)
    (hk : owner k = .user ∨ owner k = .shared) (hv : alookup k cs = some v) (hatom : ∀ l, v ≠ .obj l) :
    ∃ y, (syncSSA c gen s).st.xr = some y ∧ alookup k y.specFields = some v := by
  refine ⟨_, syncSSA_xr c gen s cs h, ?_⟩
  have hp := ((specToXR_partition c s.cm (policyOf (xrSpecFields s.xr) == some "Manual") cs k).1 hk).trans hv
  exact applySSA_spec_set s.xr s.prev _ _ k v rfl (NoDup_specToXR _ _ _ cs hnd) hp hatom

/-- **claim_to_xr** for the client-side syncer: the object it hands to Apply (create or
merge patch) carries exactly the same spec law. -/
theorem claim_to_xr_csa (c : Cfg) (gen : String) (cm : KObj) (xr : Option KObj) (cs : AL J) (k : String) :
    let ps := (csaDesired c gen cm xr cs).specFields
    (owner k = .user ∨ owner k = .shared → alookup k ps = alookup k cs) ∧
    (owner k = .claimOnly ∨ owner k = .eachSide → alookup k ps = none) ∧
    (owner k = .revision →
      alookup k ps = if policyOf (xrSpecFields xr) == some "Manual" then alookup k cs else none) ∧
    (k = "claimRef" → alookup k ps = some (claimRefJ c cm)) :=
  have t := specToXR_partition c cm (policyOf (xrSpecFields xr) == some "Manual") cs k
  ⟨t.1, t.2.1, t.2.2.1, t.2.2.2.1⟩

/-- **claim_to_xr**, labels and annotations, client-side syncer: the object handed to
Apply is the XR as read plus every non-reserved label and annotation of the claim (the
claim's value wins), plus the two claim labels; reserved keys of the claim are not added;
an external name the existing XR already has is restored. -/
theorem claim_to_xr_meta_csa (c : Cfg) (gen : String) (cm : KObj) (xr : Option KObj) (cs : AL J) (k : String)
    (hl : NoDup cm.labels) (ha : NoDup cm.anns) :
    let d := csaDesired c gen cm xr cs
    let x0 : KObj := xr.getD { name := "" }
    alookup k d.labels =
      (if k = Xp.Gen.labelKeyClaimNamespace then some c.claimNS
       else if k = Xp.Gen.labelKeyClaimName then some cm.name
       else if reserved k then alookup k x0.labels
       else (alookup k cm.labels).or (alookup k x0.labels)) ∧
    alookup k d.anns =
      (if k = extNameKey ∧ xr.isSome ∧ extName xr ≠ "" then some (extName xr)
       else if reserved k then alookup k x0.anns
       else (alookup k cm.anns).or (alookup k x0.anns)) := by
  refine ⟨?_, ?_⟩
  · simp only [csaDesired, claimLabels, addAll]
    have hw : NoDup (withoutReserved cm.labels) := NoDup_filter _ _ hl
    rw [alookup_aset, alookup_aset, alookup_addAll _ _ _ hw, alookup_withoutReserved]
    cases reserved k <;> rfl
  · have base : alookup k ((addAnn (xr.getD { name := "" }).annotations (cm.annotations.map withoutReserved)).getD []) =
        if reserved k then alookup k (xr.getD { name := "" }).anns
        else (alookup k cm.anns).or (alookup k (xr.getD { name := "" }).anns) := by
      rw [getD_addAnn _ _ _ (by rw [getD_unreserved]; exact NoDup_filter _ _ ha), getD_unreserved,
        alookup_withoutReserved]
      cases reserved k <;> rfl
    simp only [csaDesired, KObj.anns] at base ⊢
    by_cases hs : xr.isSome = true
    · by_cases hen : extName xr = ""
      · simp [hs, hen, base]
      · simp [hs, hen, getD_setAnn, alookup_aset, base]
    · simp [hs, base]

/-! ### what the XR side owns is preserved -/

/-- **xr_owned_preserved**, what is asserted: for a valid claim the server-side apply
body never mentions `resourceRefs`, `writeConnectionSecretToRef` or
`publishConnectionDetailsTo`, carries no status, and asserts the XR's existing
external name rather than the claim's. -/
theorem xr_owned_never_asserted (c : Cfg) (gen : String) (cm : KObj) (xr : Option KObj) (cs : AL J)
    (hv : ClaimValid cs) :
    let p := ssaPatch c gen cm xr cs
    (∀ k, XrOwned k → alookup k p.specFields = none) ∧ p.status = none ∧
    (extName xr ≠ "" → alookup extNameKey p.anns = some (extName xr)) :=
  ⟨fun _ hk => specToXR_not_owned c cm _ hv hk, rfl, fun hen => by rw [ssaPatch_anns]; simp [hen]⟩

/-- **xr_owned_preserved**, in the store, server-side syncer, first sync and re-sync:
if the claim is valid and the configuration the claim controller applied last time
(if any) mentioned no XR-owned key — which `prev_never_owns` shows for every history —
then after the sync the stored XR has the same `resourceRefs`,
`writeConnectionSecretToRef`, `publishConnectionDetailsTo` and status as before. -/
theorem xr_owned_preserved (c : Cfg) (gen : String) (s : St) (cs : AL J) (x : KObj)
    (h : s.cm.spec = some (.obj cs)) (hx : s.xr = some x) (hv : ClaimValid cs)
    (hprev : ∀ q, s.prev = some q → ∀ k, XrOwned k → alookup k q.specFields = none) :
    ∃ y, (syncSSA c gen s).st.xr = some y ∧
      (∀ k, XrOwned k → alookup k y.specFields = alookup k x.specFields) ∧
      y.status = x.status ∧ y.name = x.name := by
  refine ⟨_, syncSSA_xr c gen s cs h, ?_⟩
  rw [hx]
  exact applySSA_keeps_owned c gen s.cm (some x) cs x s.prev hv hprev

/-- The exact boundary of the recorded finding D27.
Whatever XR the server-side apply meets in the store, afterwards it carries the external
name of the XR AS READ (when that is not empty): an existing external name survives iff
the version the reconciler read already carried it. -/
theorem external_name_preserved_when_read (c : Cfg) (gen : String) (rcm : KObj) (rxr : Option KObj) (cs : AL J)
    (cur : KObj) (prev : Option KObj) (hen : extName rxr ≠ "") (hnd : NoDup rcm.anns) :
    extName (some (applySSA (some cur) prev (ssaPatch c gen rcm rxr cs))) = extName rxr := by
  have hp : (ssaPatch c gen rcm rxr cs).anns = aset extNameKey (extName rxr) (withoutReserved rcm.anns) := by
    rw [ssaPatch_anns_eq, if_pos (by simp [hen])]
  have hnd' : NoDup (ssaPatch c gen rcm rxr cs).anns := by
    rw [hp]
    exact NoDup_aset _ _ _ (NoDup_filter _ _ hnd)
  show (alookup extNameKey (applySSA _ _ _).anns).getD "" = _
  rw [applySSA_anns, alookup_addAll _ _ _ hnd', hp, alookup_aset_self]
  rfl

/-- **xr_owned_preserved**, external name: an external name the XR already has survives the
server-side sync in the store, whatever external name the claim carries. -/
theorem external_name_preserved (c : Cfg) (gen : String) (s : St) (cs : AL J) (x : KObj)
    (h : s.cm.spec = some (.obj cs)) (hx : s.xr = some x) (hen : extName (some x) ≠ "")
    (hnd : NoDup s.cm.anns) :
    extName (syncSSA c gen s).st.xr = extName (some x) := by
  rw [syncSSA_xr c gen s cs h, hx]
  exact external_name_preserved_when_read c gen s.cm (some x) cs x s.prev hen hnd

/-- First sync: when no XR exists the server-side apply creates exactly the applied
object (so everything `claim_to_xr` says of the body holds of the stored XR). -/
theorem first_sync_creates_body (c : Cfg) (gen : String) (s : St) (cs : AL J)
    (h : s.cm.spec = some (.obj cs)) (hx : s.xr = none) :
    (syncSSA c gen s).st.xr = some { ssaPatch c gen s.cm none cs with status := none } := by
  rw [syncSSA_xr c gen s cs h, hx]; rfl

/-- **xr_owned_preserved**, client-side syncer: the JSON merge patch (or the skipped
no-op patch) leaves the same keys and the status of the stored XR unchanged. -/
theorem xr_owned_preserved_csa (c : Cfg) (gen : String) (s : St) (cs : AL J) (x : KObj)
    (h : s.cm.spec = some (.obj cs)) (hx : s.xr = some x) (hv : ClaimValid cs) :
    ∃ y, (syncCSA c gen s).st.xr = some y ∧
      (∀ k, XrOwned k → alookup k y.specFields = alookup k x.specFields) ∧
      y.status = x.status := by
  refine ⟨_, (syncCSA_st c gen s cs h).1, ?_⟩
  rcases csaApplied_cases c gen s cs x hx with e | e <;> rw [e]
  · exact ⟨fun _ _ => rfl, rfl⟩
  · exact mergePatch_keeps_owned c gen s.cm (some x) cs x hv

/-! ### XR → claim -/

/-- **XR → claim, labels and annotations, server-side syncer**: every claim write (Update,
Status().Update) and the stored claim afterwards carry the claim's own name and labels and
its own annotations, except that the external name is the XR's when the XR has one. No
other label or annotation of the XR reaches the claim. -/
theorem meta_xr_to_claim (c : Cfg) (gen : String) (s : St) (cs : AL J) (h : s.cm.spec = some (.obj cs)) :
    (∀ w ∈ (syncSSA c gen s).writes, w.isXR = false → ClaimMetaOf s.cm (extName s.xr) w.body) ∧
    ClaimMetaOf s.cm (extName s.xr) (syncSSA c gen s).st.cm := by
  refine ⟨fun w hw hx => ?_, ?_⟩
  · -- the writes are those of the call-level model in the quiet world, where `syncSSAW_run` speaks of them
    have hq : _ = (syncSSA c gen s).writes := (syncSSAW_quiet c gen { cm := s.cm, xr := s.xr, prev := s.prev }).2.1
    simpa [ssaMay, hx] using (syncSSAW_run (w := World.quiet) c gen s.cm 0 s.xr _).writes w (hq ▸ hw)
  · rw [syncSSA_cm c gen s cs h]
    simp only []
    split <;> exact ssaClaim_meta c (ssaPatch c gen s.cm s.xr cs).name s.cm s.xr cs

/-- **xr_to_claim** (server-side syncer, first sync and re-sync). After the sync the
stored claim differs from the claim before only as follows. Spec: `resourceRef` names the
XR; `compositionRef` is the XR's only when the claim had none; `compositionRevisionRef`
is the XR's iff the XR's update policy is Automatic and the XR has one; every other key —
user fields and all other machinery — is exactly the claim's own (so nothing else of the
XR's spec, in particular no XR-only machinery, reaches the claim). Labels unchanged;
annotations unchanged except the XR's external name. Status, when the XR has one: every
non-machinery key is the XR's; `conditions` are the claim's own, `connectionDetails` is
the claim's own lastPublishedTime, `claimConditionTypes` never appears. Without an XR
status the claim status is unchanged. -/
theorem xr_to_claim (c : Cfg) (gen : String) (s : St) (cs : AL J) (h : s.cm.spec = some (.obj cs)) :
    let o := syncSSA c gen s
    let xs := xrSpecFields s.xr
    let cst := s.cm.statusFields
    (∀ k, alookup k o.st.cm.specFields =
      if k = "resourceRef" then some (xrRefJ c (ssaPatch c gen s.cm s.xr cs).name)
      else if k = "compositionRef" then
        (match alookup k cs with
         | some v => some v
         | none => alookup k xs)
      else if k = "compositionRevisionRef" then
        (if policyOf xs = some "Automatic" then
          match alookup k xs with
          | some r => some r
          | none => alookup k cs
         else alookup k cs)
      else alookup k cs) ∧
    o.st.cm.labels = s.cm.labels ∧
    (∀ k, alookup k o.st.cm.anns =
      if k = extNameKey ∧ extName s.xr ≠ "" then some (extName s.xr) else alookup k s.cm.anns) ∧
    (∀ x xst, s.xr = some x → x.status = some (.obj xst) →
      ∀ k, alookup k o.st.cm.statusFields =
        if k = "connectionDetails" then ownPublished cst
        else if k = "conditions" then alookup "conditions" cst
        else if statusMachinery k then none else alookup k xst) ∧
    ((s.xr = none ∨ ∃ x, s.xr = some x ∧ x.status = none) → o.st.cm.status = s.cm.status) := by
  obtain ⟨_, hl, ha⟩ := (meta_xr_to_claim c gen s cs h).2
  refine ⟨fun k => ?_, hl, ha, ?_, ?_⟩
  · simp only [syncSSA_cm c gen s cs h]
    refine Eq.trans ?_ (ssaClaim_spec c (ssaPatch c gen s.cm s.xr cs).name s.cm s.xr cs k)
    split <;> rfl
  · intro x xst hx hst k
    simp only [syncSSA_cm c gen s cs h, applySSA_status, hx, hst]
    exact alookup_ssaStatus s.cm.statusFields xst k
  · intro hn
    simp only [syncSSA_cm c gen s cs h, applySSA_status]
    rcases hn with hn | ⟨x, hx, hst⟩
    · simp only [hn]; rfl
    · simp only [hx, hst]; rfl

/-- **xr_to_claim**, client-side syncer, the part that holds (`_partial`: see
`xr_to_claim_fails_for_csa_on_unfixed_witness` for what does not). After a successful
sync the claim's status machinery (`conditions`, `connectionDetails`,
`claimConditionTypes`) is exactly the claim's own, and XR-only and each-side spec
machinery (`claimRef`, `resourceRefs`, `writeConnectionSecretToRef`,
`publishConnectionDetailsTo`) never flows back: those claim keys are unchanged.

Full statement that does NOT hold for the client-side syncer (defect D10, known finding
`C07:csa-xr-spec-backflow`): "every claim spec key other than resourceRef,
compositionRef (when the claim has none) and compositionRevisionRef (under Automatic)
is unchanged". -/
theorem xr_to_claim_csa_partial (c : Cfg) (gen : String) (s : St) (cs : AL J)
    (h : s.cm.spec = some (.obj cs)) (herr : (syncCSA c gen s).err = "") :
    (∀ k, statusMachinery k = true →
      alookup k (syncCSA c gen s).st.cm.statusFields = alookup k s.cm.statusFields) ∧
    (∀ k, owner k = .xrOnly ∨ owner k = .eachSide →
      alookup k (syncCSA c gen s).st.cm.specFields = alookup k cs) := by
  obtain ⟨st', hm, e⟩ := syncCSA_ok c gen s cs h herr
  rw [e]
  refine ⟨fun k hk => ?_, fun k hk => ?_⟩
  · rw [KObj.statusFields, csaLast_status, csaMergeStatus_machinery _ _ _ hm k hk, csaBound_status]
    rfl
  · rw [csaLast_specFields, alookup_csaClaimSpec_filtered _ _ k hk]
    refine (csaBound_spec c gen s cs h).2 k fun e => ?_
    rw [e, owner_resourceRef] at hk
    rcases hk with hk | hk <;> cases hk

/-- Negation witness for the full XR → claim clause on the unchanged client-side syncer
(D10): the claim has no `region`, the XR does; after `syncCSA` the claim has the XR's
value. The server-side syncer on the same state leaves the claim without it. -/
theorem xr_to_claim_fails_for_csa_on_unfixed_witness :
    (alookup "region" d10Witness.cm.specFields).isNone = true ∧
    (syncCSA wcfg "g" d10Witness).err = "" ∧
    strAt "region" (syncCSA wcfg "g" d10Witness).st.cm = "xu-east" ∧
    -- the server-side syncer on the same state does not copy it
    (alookup "region" (syncSSA wcfg "g" d10Witness).st.cm.specFields).isNone = true := by decide +kernel

/-! ### compositionRevisionRef: one direction per update policy

Each statement below is about ONE sync and mentions nothing but that sync's claim and
XR (and, for server-side apply, the configuration the claim controller last applied to
that same XR): which claims a syncer served before is not an input. The harness runs
many claims through one long-lived syncer object and compares every sync with these
per-sync functions, so any state carried from one sync to the next is a disagreement. -/

/-- **revision_ref_claim_to_xr**, every policy value, both syncers, the write bodies:
the object handed to server-side apply / client-side Apply carries the claim's
`compositionRevisionRef` when the XR's update policy (as read) is `Manual`, and carries
NO `compositionRevisionRef` at all when the policy is anything else - `Automatic`, unset,
or any other string - and on a first sync (no XR, hence no policy). -/
theorem revision_ref_claim_to_xr (c : Cfg) (gen : String) (cm : KObj) (xr : Option KObj) (cs : AL J) :
    (policyOf (xrSpecFields xr) = some "Manual" →
      alookup revKey (ssaPatch c gen cm xr cs).specFields = alookup revKey cs ∧
      alookup revKey (csaDesired c gen cm xr cs).specFields = alookup revKey cs) ∧
    (policyOf (xrSpecFields xr) ≠ some "Manual" →
      alookup revKey (ssaPatch c gen cm xr cs).specFields = none ∧
      alookup revKey (csaDesired c gen cm xr cs).specFields = none) := by
  -- both bodies have `specToXR` as their spec, by definition
  have t := (specToXR_partition c cm (policyOf (xrSpecFields xr) == some "Manual") cs revKey).2.2.1 owner_revKey
  refine ⟨fun hp => ?_, fun hp => ?_⟩
  · rw [if_pos (by simp [hp])] at t
    exact ⟨t, t⟩
  · rw [if_neg (by simpa using hp)] at t
    exact ⟨t, t⟩

/-- **revision_ref_claim_to_xr**, in the store, re-sync: when the XR's update policy is not
`Manual` the XR side owns the field, and the stored XR's `compositionRevisionRef` after
the sync is exactly what it was before - whatever the claim carries. For server-side
apply this needs that the claim controller did not itself apply the field to this XR the
last time (it did only if the policy was `Manual` then; in that case apply drops what it
owned, it still never writes the claim's value). -/
theorem revision_ref_xr_kept_unless_manual (c : Cfg) (gen : String) (s : St) (cs : AL J) (x : KObj)
    (h : s.cm.spec = some (.obj cs)) (hx : s.xr = some x)
    (hpol : policyOf x.specFields ≠ some "Manual") :
    ((∀ q, s.prev = some q → alookup revKey q.specFields = none) →
      ∃ y, (syncSSA c gen s).st.xr = some y ∧ alookup revKey y.specFields = alookup revKey x.specFields) ∧
    (∃ y, (syncCSA c gen s).st.xr = some y ∧ alookup revKey y.specFields = alookup revKey x.specFields) := by
  have hb := (revision_ref_claim_to_xr c gen s.cm (some x) cs).2 hpol
  refine ⟨fun hprev => ⟨_, syncSSA_xr c gen s cs h, ?_⟩, _, (syncCSA_st c gen s cs h).1, ?_⟩
  · rw [hx]
    exact applySSA_spec_untouched x s.prev _ _ revKey rfl hb.1 hprev
  · rcases csaApplied_cases c gen s cs x hx with e | e <;> rw [e]
    exact mergePatchXR_spec_untouched x _ _ revKey rfl hb.2

/-- **revision_ref_claim_to_xr**, in the store, first sync: the XR either syncer creates
has no `compositionRevisionRef`, whatever the claim carries (a new XR has no update
policy yet, so the claim's reference is not pushed). -/
theorem revision_ref_absent_on_first_sync (c : Cfg) (gen : String) (s : St) (cs : AL J)
    (h : s.cm.spec = some (.obj cs)) (hx : s.xr = none) :
    (∃ y, (syncSSA c gen s).st.xr = some y ∧ alookup revKey y.specFields = none) ∧
    (∃ y, (syncCSA c gen s).st.xr = some y ∧ alookup revKey y.specFields = none) := by
  have hb := (revision_ref_claim_to_xr c gen s.cm none cs).2 (by simp [xrSpecFields, policyOf, strOf])
  refine ⟨⟨_, first_sync_creates_body c gen s cs h hx, hb.1⟩, _, (syncCSA_st c gen s cs h).1, ?_⟩
  unfold csaApplied
  simp only [hx]
  exact hb.2

/-- **revision_ref_xr_to_claim**, every policy value, both syncers, in the store: after the
sync the claim's `compositionRevisionRef` is the XR's iff the XR's update policy is
`Automatic`; under every other value (`Manual`, unset, any other string, no XR) it is
exactly the claim's own. Server-side syncer: policy and revision of the XR as read (an
XR without a revision leaves the claim's alone). Client-side syncer (successful sync):
policy and revision of the XR as applied (an XR without a revision is mirrored as an
explicit null, which the API server prunes). -/
theorem revision_ref_xr_to_claim (c : Cfg) (gen : String) (s : St) (cs : AL J)
    (h : s.cm.spec = some (.obj cs)) :
    (alookup revKey (syncSSA c gen s).st.cm.specFields =
      if policyOf (xrSpecFields s.xr) = some "Automatic" then
        (match alookup revKey (xrSpecFields s.xr) with
         | some r => some r
         | none => alookup revKey cs)
      else alookup revKey cs) ∧
    ((syncCSA c gen s).err = "" →
      alookup revKey (syncCSA c gen s).st.cm.specFields =
        if policyOf (csaApplied c gen s cs).specFields = some "Automatic" then
          some ((alookup revKey (csaApplied c gen s cs).specFields).getD .null)
        else alookup revKey cs) := by
  refine ⟨?_, fun herr => ?_⟩
  · simpa [revKey] using (xr_to_claim c gen s cs h).1 revKey
  · obtain ⟨st', -, e⟩ := syncCSA_ok c gen s cs h herr
    rw [e, csaLast_specFields, alookup_csaClaimSpec_rev, (csaBound_spec c gen s cs h).2 revKey (by simp [revKey])]

/-- a claim pinned to `rev-1` against an XR at `rev-2`, both under the given update policy. The example
below runs the three policy values through both syncers. Manual: the XR receives `rev-1`, the claim keeps
`rev-1`. Automatic: the XR keeps `rev-2`, the claim receives `rev-2`. Unset: neither side changes. -/
def revState (policy : Option String) : St :=
  let pol : AL J := match policy with | some p => [("compositionUpdatePolicy", .str p)] | none => []
  { cm := { name := "my-claim"
            spec := some (.obj (pol ++ [("compositionRevisionRef", .obj [("name", .str "rev-1")]),
                                        ("resourceRef", xrRefJ wcfg "my-claim-x")])) }
    xr := some { name := "my-claim-x"
                 labels := [("crossplane.io/claim-name", "my-claim"), ("crossplane.io/claim-namespace", "team-a")]
                 spec := some (.obj (pol ++ [("claimRef", claimRefJ wcfg { name := "my-claim" }),
                                             ("compositionRevisionRef", .obj [("name", .str "rev-2")])])) } }

def revOf (o : Option KObj) : String :=
  match o with
  | some x => (match alookup revKey x.specFields with
               | some (.obj [("name", .str v)]) => v
               | _ => "")
  | none => ""

example :
    (revOf (syncSSA wcfg "g" (revState (some "Manual"))).st.xr = "rev-1" ∧
     revOf (some (syncSSA wcfg "g" (revState (some "Manual"))).st.cm) = "rev-1" ∧
     revOf (syncCSA wcfg "g" (revState (some "Manual"))).st.xr = "rev-1" ∧
     revOf (some (syncCSA wcfg "g" (revState (some "Manual"))).st.cm) = "rev-1") ∧
    (revOf (syncSSA wcfg "g" (revState (some "Automatic"))).st.xr = "rev-2" ∧
     revOf (some (syncSSA wcfg "g" (revState (some "Automatic"))).st.cm) = "rev-2" ∧
     revOf (syncCSA wcfg "g" (revState (some "Automatic"))).st.xr = "rev-2" ∧
     revOf (some (syncCSA wcfg "g" (revState (some "Automatic"))).st.cm) = "rev-2") ∧
    (revOf (syncSSA wcfg "g" (revState none)).st.xr = "rev-2" ∧
     revOf (some (syncSSA wcfg "g" (revState none)).st.cm) = "rev-1" ∧
     revOf (syncCSA wcfg "g" (revState none)).st.xr = "rev-2" ∧
     revOf (some (syncCSA wcfg "g" (revState none)).st.cm) = "rev-1") := by decide +kernel

/-! ### the hypotheses are satisfiable by non-trivial states -/

/-- a re-sync of a claim with user fields (one nesting machinery names), claim-only and
each-side machinery against an XR holding composed-resource references, its own secret
reference, an external name, conditions and a user status field -/
def exampleState : St :=
  { cm := { name := "my-claim"
            labels := [("team", "a"), ("app.kubernetes.io/name", "x")]
            annotations := some [("kubectl.kubernetes.io/last-applied-configuration", "{}"), ("crossplane.io/external-name", "claim-ext")]
            spec := some (.obj [("region", .str "eu"), ("params", .obj [("resourceRef", .str "nested")]),
                                ("compositionSelector", .obj [("matchLabels", .obj [])]),
                                ("compositeDeletePolicy", .str "Foreground"),
                                ("writeConnectionSecretToRef", .obj [("name", .str "cm-secret")]),
                                ("resourceRef", xrRefJ wcfg "my-claim-x")])
            status := some (.obj [("conditions", .arr [.obj [("type", .str "Ready")]])]) }
    xr := some { name := "my-claim-x"
                 annotations := some [("crossplane.io/external-name", "xr-ext")]
                 spec := some (.obj [("claimRef", claimRefJ wcfg { name := "my-claim" }), ("region", .str "old"),
                                     ("resourceRefs", .arr [.obj [("name", .str "cd-0")]]),
                                     ("writeConnectionSecretToRef", .obj [("name", .str "xr-secret")]),
                                     ("compositionRef", .obj [("name", .str "comp")])])
                 status := some (.obj [("conditions", .arr [.obj [("type", .str "Synced")]]), ("address", .str "10.0.0.1")]) }
    prev := some { name := "my-claim-x", spec := some (.obj [("region", .str "old"), ("size", .num 3)]) } }

example : ClaimValid exampleState.cm.specFields ∧ NoDup exampleState.cm.anns ∧ Inv exampleState := by
  have hv : ClaimValid exampleState.cm.specFields := fun k hk => by
    rcases owner_xrOnly hk with rfl | rfl <;> simp [exampleState, KObj.specFields, objFields, alookup]
  refine ⟨hv, by simp [NoDup, akeys, exampleState, KObj.anns], hv, ?_⟩
  intro q hq k hk
  cases hq
  rcases hk with hk | rfl
  · rcases owner_eachSide hk with rfl | rfl <;> simp [KObj.specFields, objFields, alookup]
  · simp [KObj.specFields, objFields, alookup]

/-- what the theorems say, evaluated on that state: the XR keeps its own fields and
external name and receives the claim's user fields; the claim keeps its conditions,
receives the XR's user status and composition reference, and none of the XR's machinery -/
example :
    let o := syncSSA wcfg "g" exampleState
    let y := o.st.xr.getD { name := "" }
    o.err = "" ∧ o.st.xr.isSome ∧
    strAt "region" y = "eu" ∧ (alookup "size" y.specFields).isNone ∧
    (alookup "resourceRefs" y.specFields).isSome ∧ (alookup "compositeDeletePolicy" y.specFields).isNone ∧
    (match alookup "writeConnectionSecretToRef" y.specFields with
     | some (.obj [("name", .str v)]) => v
     | _ => "") = "xr-secret" ∧
    extName o.st.xr = "xr-ext" ∧ (alookup "app.kubernetes.io/name" y.labels).isNone ∧
    alookup "team" y.labels = some "a" ∧
    (match alookup "address" o.st.cm.statusFields with | some (.str v) => v | _ => "") = "10.0.0.1" ∧
    (match alookup "conditions" o.st.cm.statusFields with
     | some (.arr [.obj [("type", .str v)]]) => v
     | _ => "") = "Ready" ∧
    (alookup "resourceRefs" o.st.cm.specFields).isNone ∧ (alookup "compositionRef" o.st.cm.specFields).isSome := by
  decide +kernel

/-! ### first sync and re-sync: every history -/

/-- Along every history of syncs (either syncer), user edits of the claim that the API
server admits, XR-controller writes and managed-field upgrades, starting from a valid
claim that the claim controller has not applied yet: the claim stays free of XR-only
machinery and the configuration last applied by the claim controller's field manager
never mentions a key the XR side owns (the hypothesis of `xr_owned_preserved`). -/
theorem prev_never_owns (c : Cfg) (s0 : St) (ops : List Op)
    (h0 : ClaimValid s0.cm.specFields) (hp : s0.prev = none) (hv : ∀ op ∈ ops, ValidOp op) :
    Inv (run c s0 ops) :=
  run_induction c Inv ValidOp (fun s op hv h => inv_step c s op h hv) ops s0
    ⟨h0, fun q hq => by rw [hp] at hq; cases hq⟩ hv

/-- **xr_owned_preserved**, every history: at any server-side sync anywhere in any
admitted history, the stored XR keeps its `resourceRefs`, `writeConnectionSecretToRef`,
`publishConnectionDetailsTo`, status and name. (`post`, what follows the sync, occurs in `hv` only: it places
the sync inside a longer admitted history, nothing else of it is used.) -/
theorem xr_owned_preserved_history (c : Cfg) (s0 : St) (pre post : List Op) (gen : String)
    (h0 : ClaimValid s0.cm.specFields) (hp : s0.prev = none)
    (hv : ∀ op ∈ pre ++ Op.syncSSA gen :: post, ValidOp op)
    (x : KObj) (cs : AL J) (hx : (run c s0 pre).xr = some x) (hcs : (run c s0 pre).cm.spec = some (.obj cs)) :
    ∃ y, (syncSSA c gen (run c s0 pre)).st.xr = some y ∧
      (∀ k, XrOwned k → alookup k y.specFields = alookup k x.specFields) ∧
      y.status = x.status ∧ y.name = x.name := by
  have hinv := prev_never_owns c s0 pre h0 hp (fun op ho => hv op (List.mem_append_left _ ho))
  have hvalid : ClaimValid cs := specFields_eq hcs ▸ hinv.1
  exact xr_owned_preserved c gen _ cs x hcs hx hvalid hinv.2

/-! ### worlds that are not quiet: stale cached reads, third parties, failing calls

`syncSSAW` / `syncCSAW` (Xp/Model/C07World.lean) are the call-level model the harness
runs: what the reconciler READ (`rcm`, `rxr`: any version, the XR possibly missing) is
an input of its own, third parties write before any API call, any call may fail with
any error class, writes of the claim are resource-version checked. Everything above is
about the special case below; what follows holds in every world. -/

/-- No third party, no failing call, the reconciler
read the stored objects: the call-level model IS `syncSSA` / `syncCSA` (stored claim, XR,
applied configuration, writes, error), so every theorem above is a theorem about the
model the differential harness runs. -/
theorem world_model_is_sync_when_quiet (c : Cfg) (gen : String) (s : Srv) :
    (let o := syncSSAW c gen World.quiet s.cm s.cmV s.xr s
     o.srv.toSt = (syncSSA c gen s.toSt).st ∧ o.writes = (syncSSA c gen s.toSt).writes ∧
       o.err = (syncSSA c gen s.toSt).err) ∧
    ((s.xr = none → s.prev = none) →
     let o := syncCSAW c gen World.quiet s.cm s.cmV s.xr s.xrV s
     o.srv.toSt = (syncCSA c gen s.toSt).st ∧ o.writes = (syncCSA c gen s.toSt).writes ∧
       o.err = (syncCSA c gen s.toSt).err) :=
  ⟨syncSSAW_quiet c gen s, fun hp => syncCSAW_quiet c gen s hp⟩

/-- In every world - whatever third parties write between the
calls, whichever call fails, however stale the cached reads - every request either syncer
sends to the XR (apply, create, merge patch) carries the field partition of the claim AS
READ: the law of `claim_to_xr`, with the update policy of the XR as read. -/
theorem claim_to_xr_every_world (c : Cfg) (gen : String) (w : World) (rcm : KObj) (rcmV : Nat)
    (rxr : Option KObj) (rxrV : Nat) (s : Srv) (cs : AL J) (hcs : rcm.spec = some (.obj cs))
    (wr : Write) (hx : wr.isXR = true)
    (h : wr ∈ (syncSSAW c gen w rcm rcmV rxr s).writes ∨ wr ∈ (syncCSAW c gen w rcm rcmV rxr rxrV s).writes)
    (k : String) :
    let ps := wr.body.specFields
    (owner k = .user ∨ owner k = .shared → alookup k ps = alookup k cs) ∧
    (owner k = .claimOnly ∨ owner k = .eachSide → alookup k ps = none) ∧
    (owner k = .revision →
      alookup k ps = if policyOf (xrSpecFields rxr) == some "Manual" then alookup k cs else none) ∧
    (k = "claimRef" → alookup k ps = some (claimRefJ c rcm)) := by
  have hf : rcm.specFields = cs := specFields_eq hcs
  rcases h with h | h
  · have e := (syncSSAW_run c gen rcm rcmV rxr s).writes wr h
    simp only [hf, List.not_mem_nil, false_or, ssaMay, hx, if_true] at e
    subst e
    have t := claim_to_xr c gen rcm rxr cs k
    exact ⟨t.1, t.2.1, t.2.2.1, t.2.2.2.1⟩
  · have e := (syncCSAW_run c gen rcm rcmV rxr rxrV s).writes wr h
    simp only [hf, List.not_mem_nil, false_or] at e
    rcases e hx with rfl | rfl <;> exact claim_to_xr_csa c gen rcm rxr cs k

/-- What the XR side owns survives whatever XR the write
meets in the store. For EVERY stored XR `cur` (changed by anybody since it was read, or
never seen by the cache at all) and every read `rcm`, `rxr` the write body was computed
from: the server-side apply (claim controller's previous configuration not owning, see
`prev_never_owns_every_world`) and the client-side merge patch leave `resourceRefs`,
`writeConnectionSecretToRef`, `publishConnectionDetailsTo` and the status of `cur` as they are. -/
theorem xr_owned_preserved_any_store (c : Cfg) (gen : String) (rcm : KObj) (rxr : Option KObj) (cs : AL J)
    (cur : KObj) (prev : Option KObj) (hv : ClaimValid cs)
    (hprev : ∀ q, prev = some q → ∀ k, XrOwned k → alookup k q.specFields = none) :
    (let y := applySSA (some cur) prev (ssaPatch c gen rcm rxr cs)
     (∀ k, XrOwned k → alookup k y.specFields = alookup k cur.specFields) ∧ y.status = cur.status ∧ y.name = cur.name) ∧
    (let y := mergePatchXR cur (csaDesired c gen rcm rxr cs)
     (∀ k, XrOwned k → alookup k y.specFields = alookup k cur.specFields) ∧ y.status = cur.status) :=
  ⟨applySSA_keeps_owned c gen rcm rxr cs cur prev hv hprev, mergePatch_keeps_owned c gen rcm rxr cs cur hv⟩

/-- The hypothesis of `xr_owned_preserved_any_store` is an
invariant of every sync in every world: if the configuration last applied by the claim
controller's field manager mentions no key the XR side owns, it still does not after a
sync by either syncer - with any third-party writes, failing calls and stale reads - as
long as the claim that was read is a valid instance of the claim CRD. -/
theorem prev_never_owns_every_world (c : Cfg) (gen : String) (w : World) (rcm : KObj) (rcmV : Nat)
    (rxr : Option KObj) (rxrV : Nat) (s : Srv) (hp : PrevOK s) (hv : ClaimValid rcm.specFields) :
    PrevOK (syncSSAW c gen w rcm rcmV rxr s).srv ∧ PrevOK (syncCSAW c gen w rcm rcmV rxr rxrV s).srv :=
  ⟨(syncSSAW_run c gen rcm rcmV rxr s).prev.keeps
      (fun wr hq hx k hk => by
        simp only [ssaMay, hx, if_true] at hq
        rw [hq]
        exact specToXR_not_owned c rcm _ hv hk) hp,
    (syncCSAW_run c gen rcm rcmV rxr rxrV s).prev.keeps
      (fun wr hq hx k hk => by
        rcases hq hx with rfl | rfl <;> exact specToXR_not_owned c rcm _ hv hk) hp⟩

/-- A sync that works on a copy of the claim older than
the stored claim (an old version from the cache; for the server-side syncer also: a user
edited the claim between the read and the first write) never writes the claim: it ends in
an error and the stored claim is exactly what third parties made of it (`ClaimByEnv`). The
server-side syncer stops at its first call, before anything is sent to the XR. -/
theorem stale_claim_never_overwritten (c : Cfg) (gen : String) (w : World) (rcm : KObj) (rcmV : Nat)
    (rxr : Option KObj) (rxrV : Nat) (s : Srv) (cs : AL J) (hcs : rcm.spec = some (.obj cs)) :
    (rcmV ≠ (applyActs s (w.acts 0)).cmV →
      let o := syncSSAW c gen w rcm rcmV rxr s
      o.err ≠ "" ∧ o.srv = applyActs s (w.acts 0) ∧ o.calls = 1 ∧ (∀ wr ∈ o.writes, wr.isXR = false)) ∧
    (rcmV < s.cmV →
      let o := syncCSAW c gen w rcm rcmV rxr rxrV s
      o.err ≠ "" ∧ ClaimByEnv s o.srv) :=
  ⟨syncSSAW_stale_claim c gen w rcm rcmV rxr s cs hcs, (syncCSAW_run c gen rcm rcmV rxr rxrV s).stale⟩

/-- Every error class at every call. A sync that returns no
error had no failing call - the one exception being a NotFound answer to the Get inside
the client-side Apply (its first or second call), which means "create the XR". -/
theorem no_api_error_swallowed (c : Cfg) (gen : String) (w : World) (rcm : KObj) (rcmV : Nat)
    (rxr : Option KObj) (rxrV : Nat) (s : Srv) (cs : AL J) (hcs : rcm.spec = some (.obj cs)) :
    ((syncSSAW c gen w rcm rcmV rxr s).err = "" →
      ∀ k, k < (syncSSAW c gen w rcm rcmV rxr s).calls → w.inj k = none) ∧
    ((syncCSAW c gen w rcm rcmV rxr rxrV s).err = "" →
      ∀ k, k < (syncCSAW c gen w rcm rcmV rxr rxrV s).calls → ∀ e, w.inj k = some e → k ≤ 1 ∧ e = "notFound") :=
  ⟨fun hok k hk => Option.eq_none_iff_forall_ne_some.mpr fun e he =>
      ((syncSSAW_run c gen rcm rcmV rxr s).okCalls hok k (Nat.zero_le k) hk e he).1,
    fun hok k hk e he => (syncCSAW_run c gen rcm rcmV rxr rxrV s).okCalls hok k (Nat.zero_le k) hk e he⟩

/-- D27 witness state: the stored XR received the external name `xr-new` after the version
the informer cache still holds (`d27ReadXR`, no external name); the claim carries its own. -/
def d27Stored : Srv :=
  { cm := { name := "my-claim"
            annotations := some [("crossplane.io/external-name", "claim-ext")]
            spec := some (.obj [("region", .str "eu"), ("resourceRef", xrRefJ wcfg "my-claim-x")]) }
    cmV := 3
    xr := some { name := "my-claim-x"
                 labels := [("crossplane.io/claim-name", "my-claim"), ("crossplane.io/claim-namespace", "team-a")]
                 annotations := some [("crossplane.io/external-name", "xr-new")]
                 spec := some (.obj [("claimRef", claimRefJ wcfg { name := "my-claim" }), ("region", .str "eu")]) }
    xrV := 5 }

def d27ReadXR : KObj :=
  { name := "my-claim-x"
    labels := [("crossplane.io/claim-name", "my-claim"), ("crossplane.io/claim-namespace", "team-a")]
    spec := some (.obj [("claimRef", claimRefJ wcfg { name := "my-claim" }), ("region", .str "eu")]) }

/-- the same store before a third party gave the XR an external name -/
def d27Before : Srv := { d27Stored with xr := some d27ReadXR }

/-- that third party's write -/
def d27Race : World :=
  { acts := fun k => if k = 1 then [Act.xrCtl { setAnn := [("crossplane.io/external-name", "xr-new")] }] else [] }

/-- Negation witness for "an existing external name is preserved" on the unchanged
server-side syncer outside the quiet world (recorded finding D27, signature
`C07:external-name-overwritten-after-stale-xr-read`): (1) the reconciler reads an XR
version that does not carry the external name yet (cache lag) - the sync succeeds and the
stored XR's `xr-new` is replaced by the claim's `claim-ext`; (2) the reads are fresh but a
third party sets the external name between the claim update and the apply - same loss;
(3) with a fresh read and no interference the name survives (`external_name_preserved`). -/
theorem external_name_overwritten_after_stale_read_witness :
    extName d27Stored.xr = "xr-new" ∧
    (let o := syncSSAW wcfg "g" World.quiet d27Stored.cm d27Stored.cmV (some d27ReadXR) d27Stored
     o.err = "" ∧ extName o.srv.xr = "claim-ext") ∧
    (let o := syncSSAW wcfg "g" d27Race d27Before.cm d27Before.cmV d27Before.xr d27Before
     o.err = "" ∧ extName o.srv.xr = "claim-ext") ∧
    (let o := syncSSAW wcfg "g" World.quiet d27Stored.cm d27Stored.cmV d27Stored.xr d27Stored
     o.err = "" ∧ extName o.srv.xr = "xr-new") := by decide +kernel

/-- the hypotheses of the world theorems are satisfiable: a stale claim copy against a
store that moved on, an injected failure, a third party's edit -/
example :
    let w : World := { acts := fun k => if k = 0 then [Act.editClaim { setSpec := [("region", .str "us")] }] else []
                       inj := fun k => if k = 1 then some "forbidden" else none }
    -- the user's edit before the first write makes the claim copy stale: Conflict, nothing else happens
    (syncSSAW wcfg "g" w d27Stored.cm d27Stored.cmV d27Stored.xr d27Stored).err = "api:conflict" ∧
    strAt "region" (syncSSAW wcfg "g" w d27Stored.cm d27Stored.cmV d27Stored.xr d27Stored).srv.cm = "us" ∧
    -- without the edit the injected Forbidden on the apply is returned, the XR is untouched
    (syncSSAW wcfg "g" { inj := w.inj } d27Stored.cm d27Stored.cmV d27Stored.xr d27Stored).err = "api:forbidden" ∧
    extName (syncSSAW wcfg "g" { inj := w.inj } d27Stored.cm d27Stored.cmV d27Stored.xr d27Stored).srv.xr = "xr-new" := by
  decide +kernel

/-! ### regenerated call skeletons (tie to the source, DESIGN section 11)

For every Go function the model mirrors: the ordered list of every call it makes, extracted
from the current tree on every run (harness/main/c07_dump.go → Xp.Gen.c07Skel…), equals the
skeleton the model was written against (Xp/Model/C07Skel.lean, one entry per call with the
model step that mirrors it). -/

/-- `ServerSideCompositeSyncer.Sync` -/
theorem skeleton_ssa_sync : Xp.Gen.c07SkelSsaSync = skelSsaSync := rfl

/-- `ClientSideCompositeSyncer.Sync` -/
theorem skeleton_csa_sync : Xp.Gen.c07SkelCsaSync = skelCsaSync := rfl

/-- `NewClientSideCompositeSyncer`: the applicator is crossplane-runtime's APIPatchingApplicator -/
theorem skeleton_new_csa : Xp.Gen.c07SkelNewCsa = skelNewCsa := rfl

/-- crossplane-runtime's `APIPatchingApplicator.Apply`, in the module version go.mod requires
(the client-side syncer's Apply; `csaApplyW` mirrors it) -/
theorem skeleton_runtime_apply : Xp.Gen.c07SkelRuntimeApply = skelRuntimeApply := rfl

/-- `PatchingManagedFieldsUpgrader.Upgrade` -/
theorem skeleton_upgrade : Xp.Gen.c07SkelUpgrade = skelUpgrade := rfl

/-- `withoutReservedK8sEntries`: calls and statement shape -/
theorem skeleton_without_reserved :
    Xp.Gen.c07SkelWithoutReserved = skelWithoutReserved ∧ Xp.Gen.c07ShapeWithoutReserved = shapeWithoutReserved :=
  ⟨rfl, rfl⟩

/-- `withoutKeys` makes no calls: its statement shape is the regenerated fact -/
theorem skeleton_without_keys :
    Xp.Gen.c07SkelWithoutKeys = skelWithoutKeys ∧ Xp.Gen.c07ShapeWithoutKeys = shapeWithoutKeys := ⟨rfl, rfl⟩

/-- `merge` (object.go) -/
theorem skeleton_merge : Xp.Gen.c07SkelMerge = skelMerge := rfl

/-- `xcrd.GetPropFields` -/
theorem skeleton_get_prop_fields :
    Xp.Gen.c07SkelGetPropFields = skelGetPropFields ∧ Xp.Gen.c07ShapeGetPropFields = shapeGetPropFields := ⟨rfl, rfl⟩

/-- the constants, tables and option values the two `Sync`s refer to (which update policy
gates which direction, the only mergo option, the apply options), in source order -/
theorem skeleton_refs :
    Xp.Gen.c07RefsSsaSync = refsSsaSync ∧ Xp.Gen.c07RefsCsaSync = refsCsaSync := ⟨rfl, rfl⟩

/-- The API calls of the declared skeletons ARE the model's writes: on a state on which every
write happens, the writes of `syncSSA` / `syncCSA`, in order, are the client calls of the
declared (= regenerated) skeleton, in order. -/
theorem skeleton_api_calls_are_model_writes :
    (syncSSA wcfg "g" skelStateSSA).writes.map (Write.verb true) = skelSsaSync.filter isClientCall ∧
    (syncCSA wcfg "c-x" skelStateCSA).writes.map (Write.verb false) = skelCsaSync.filter isClientCall := by
  decide +kernel

/-! ### the reserved-key filter -/

/-- The literals of `withoutReservedK8sEntries` in the current tree: it splits at one
one-character separator and tests exactly these suffixes (the model's `reserved` is a
function of these regenerated tables). -/
theorem reserved_tables :
    Xp.Gen.c07ReservedSeparators.map String.toList = [[reservedSep]] ∧ reservedSep = '/' ∧
    Xp.Gen.c07ReservedSuffixes = ["kubernetes.io", "k8s.io"] := ⟨rfl, rfl, rfl⟩

/-- **Which keys are reserved**, stated without the tables: `k` is reserved iff it is
`p ++ r` where `p` contains no "/", `r` is empty or starts with "/", and `p` ends in
`kubernetes.io` or `k8s.io`. (Suffix, not label-domain match: `xkubernetes.io/a` is reserved,
`kubernetes.io.x/a` and `a/kubernetes.io` are not.) -/
theorem reserved_iff (k : String) :
    reserved k = true ↔
      ∃ p r, k.toList = p ++ r ∧ '/' ∉ p ∧ (r = [] ∨ r.head? = some '/') ∧
        ("kubernetes.io".toList <:+ p ∨ "k8s.io".toList <:+ p) := by
  rw [reserved_toList]
  simp only [reservedL, Bool.or_eq_true, List.isSuffixOf_iff_suffix]
  constructor
  · intro h
    exact ⟨_, _, (List.takeWhile_append_dropWhile (p := (· != '/')) (l := k.toList)).symm,
      not_mem_takeWhile_ne '/' _, dropWhile_ne_head '/' _, h⟩
  · rintro ⟨p, r, hk, hp, hr, hs⟩
    rw [hk, takeWhile_ne_append '/' p r hp hr]
    exact hs

example : reserved "kubectl.kubernetes.io/last-applied-configuration" = true ∧ reserved "xkubernetes.io/a" = true ∧
    reserved "k8s.io" = true ∧ reserved "kubernetes.io.x/a" = false ∧ reserved "a/kubernetes.io" = false ∧
    reserved "K8s.io/x" = false ∧ reserved "crossplane.io/external-name" = false := by
  simp only [reserved_toList]
  repeat rw [String.toList_ofList]
  decide +kernel

/-! ### labels and annotations: XR → claim, and reserved keys (claim → XR: `claim_to_xr_meta`, `claim_to_xr_meta_csa` above; XR → claim, server-side syncer: `meta_xr_to_claim` above) -/

/-- **XR → claim, labels and annotations, client-side syncer**: the same, the external name
being that of the XR as applied (its first two claim writes precede the copy and carry the
claim's metadata unchanged). -/
theorem meta_xr_to_claim_csa (c : Cfg) (gen : String) (s : St) (cs : AL J) (h : s.cm.spec = some (.obj cs)) :
    let en := extName (some (csaApplied c gen s cs))
    (∀ w ∈ (syncCSA c gen s).writes, w.isXR = false →
      ClaimMetaOf s.cm "" w.body ∨ ClaimMetaOf s.cm en w.body) ∧
    (ClaimMetaOf s.cm "" (syncCSA c gen s).st.cm ∨ ClaimMetaOf s.cm en (syncCSA c gen s).st.cm) ∧
    ((syncCSA c gen s).err = "" → ClaimMetaOf s.cm en (syncCSA c gen s).st.cm) := by
  obtain ⟨w, hw, e⟩ := syncCSA_cases c gen s cs h _ _ rfl rfl
  have h1 : ClaimMetaOf s.cm "" (csaBound c gen s cs) := csaBound_meta c gen s cs
  -- the bound claim (written at most once before the apply) has the claim's metadata
  have h0 : ∀ x ∈ w, x.isXR = false → ClaimMetaOf s.cm "" x.body := fun x hx hxr => by
    rw [hw x hx hxr]
    exact ClaimMetaOf_self s.cm
  rw [e]
  cases hm : csaMergeStatus (csaBound c gen s cs).status (csaApplied c gen s cs).status with
  | error e' =>
    exact ⟨fun x hx hxr => .inl (h0 x hx hxr), .inl h1, fun he => absurd he (csaMergeStatus_err_ne _ _ e' hm)⟩
  | ok st' =>
    have h3 : ClaimMetaOf s.cm (extName (some (csaApplied c gen s cs)))
        (csaLast (csaBound c gen s cs) (csaApplied c gen s cs) st') :=
      ClaimMetaOf_setExt h1 rfl rfl rfl
    refine ⟨fun x hx hxr => ?_, .inr h3, fun _ => h3⟩
    simp only [List.mem_append, List.mem_cons, List.not_mem_nil, or_false] at hx
    rcases hx with hx | rfl | rfl
    · exact .inl (h0 x hx hxr)
    · exact .inl h1
    · exact .inr h3

/-- **XR → claim, labels and annotations, every world** (server-side syncer): whatever third
parties write between the calls, whichever call fails, however stale the reads - every
claim write carries the name, labels and annotations of the claim AS READ, the external
name being that of the XR AS READ when it has one. -/
theorem meta_xr_to_claim_every_world (c : Cfg) (gen : String) (w : World) (rcm : KObj) (rcmV : Nat)
    (rxr : Option KObj) (s : Srv) (cs : AL J) (hcs : rcm.spec = some (.obj cs))
    (wr : Write) (h : wr ∈ (syncSSAW c gen w rcm rcmV rxr s).writes) (hx : wr.isXR = false) :
    ClaimMetaOf rcm (extName rxr) wr.body := by
  have e := (syncSSAW_run c gen rcm rcmV rxr s).writes wr h
  simpa [ssaMay, hx] using e

example :
    let o := syncSSA wcfg "g" exampleState
    o.st.cm.labels = exampleState.cm.labels ∧
    alookup extNameKey o.st.cm.anns = some "xr-ext" ∧
    alookup "kubectl.kubernetes.io/last-applied-configuration" o.st.cm.anns = some "{}" := by decide +kernel

/-- **Reserved labels / annotations never cross and are never disturbed, server-side
syncer**: the apply body carries none, and a reserved label or annotation of the stored XR
(e.g. one a user or another controller put there) has the same value - or absence - after the
sync, provided the claim controller's previously applied configuration carried none
(`prev_clean_every_history`: it never does). -/
theorem reserved_meta_untouched (c : Cfg) (gen : String) (s : St) (cs : AL J) (x : KObj) (k : String)
    (h : s.cm.spec = some (.obj cs)) (hx : s.xr = some x) (hk : reserved k = true) (hp : PrevClean s.prev) :
    alookup k (ssaPatch c gen s.cm s.xr cs).labels = none ∧ alookup k (ssaPatch c gen s.cm s.xr cs).anns = none ∧
    ∃ y, (syncSSA c gen s).st.xr = some y ∧
      alookup k y.labels = alookup k x.labels ∧ alookup k y.anns = alookup k x.anns := by
  have hl := ssaPatch_reserved_labels c gen s.cm s.xr cs k hk
  have ha := ssaPatch_reserved_anns c gen s.cm s.xr cs k hk
  refine ⟨hl, ha, _, syncSSA_xr c gen s cs h, ?_, ?_⟩
  · rw [hx] at hl ⊢
    exact applySSA_labels_untouched x s.prev _ k hl (fun q hq => (hp q hq k hk).1)
  · rw [hx] at ha ⊢
    exact applySSA_anns_untouched x s.prev _ k ha (fun q hq => (hp q hq k hk).2)

/-- the same for the client-side syncer: the XR its Apply leaves in the store has every
reserved label and annotation of the XR it found, unchanged -/
theorem reserved_meta_untouched_csa (c : Cfg) (gen : String) (s : St) (cs : AL J) (x : KObj) (k : String)
    (hx : s.xr = some x) (hk : reserved k = true)
    (hcl : NoDup s.cm.labels) (hca : NoDup s.cm.anns) (hxl : NoDup x.labels) (hxa : NoDup x.anns) :
    alookup k (csaApplied c gen s cs).labels = alookup k x.labels ∧
    alookup k (csaApplied c gen s cs).anns = alookup k x.anns := by
  obtain ⟨dl, da⟩ := claim_to_xr_meta_csa c gen s.cm s.xr cs k hcl hca
  simp only [hx, Option.getD_some, ne_of_reserved hk reserved_own_keys.2.2,
    ne_of_reserved hk reserved_own_keys.2.1, ne_of_reserved hk reserved_own_keys.1, hk, if_true, if_false,
    false_and] at dl da
  rcases csaApplied_cases c gen s cs x hx with e | e <;> rw [e]
  · exact ⟨rfl, rfl⟩
  · refine ⟨mergePatchXR_labels_untouched x _ k dl ?_,
      mergePatchXR_anns_untouched x _ k da (NoDup_csaDesired_anns c gen s.cm (some x) cs hca hxa)⟩
    simp only [csaDesired, Option.getD_some]
    exact NoDup_addAll _ _ (NoDup_addAll _ _ hxl)

/-- `PrevClean` (the hypothesis of `reserved_meta_untouched`) holds along every history of
syncs of either syncer, claim edits, XR-controller writes and upgrades. -/
theorem prev_clean_every_history (c : Cfg) (s0 : St) (ops : List Op) (hp : s0.prev = none) :
    PrevClean (run c s0 ops).prev :=
  run_induction c (fun s => PrevClean s.prev) (fun _ => True) (fun s op _ h => step_prevClean c s op h) ops s0
    (fun q hq => by rw [hp] at hq; cases hq) fun _ _ => trivial

example :
    let s : St := { exampleState with
      xr := exampleState.xr.map fun x => { x with labels := [("topology.kubernetes.io/zone", "z1"), ("team", "old")] }
      prev := some { name := "my-claim-x", labels := [("team", "old")] } }
    PrevClean s.prev ∧
    (alookup "topology.kubernetes.io/zone" ((syncSSA wcfg "g" s).st.xr.getD { name := "" }).labels = some "z1") ∧
    (alookup "team" ((syncSSA wcfg "g" s).st.xr.getD { name := "" }).labels = some "a") := by
  refine ⟨?_, by decide +kernel⟩
  intro q hq k hk
  cases hq
  refine ⟨?_, rfl⟩
  by_cases h : k = "team"
  · rw [h, reserved_toList, String.toList_ofList] at hk
    exact absurd hk (by decide +kernel)
  · simp [alookup, Ne.symm h]

/-- **Lists (of scalars or of maps) are atoms for both merges**: `merge` passes mergo no
slice option (`skeleton_refs`), so a list of the XR replaces the claim's value wholesale
under WithOverride (status) and otherwise only fills an absent or empty claim value (spec);
lists of maps are never merged element-wise. -/
theorem merge_lists_are_atoms (dst : Option J) (l : List J) :
    mergeV true dst (.arr l) = some (.arr l) ∧
    mergeV false dst (.arr l) =
      (match dst with
       | none => some (.arr l)
       | some d => if isEmptyJ d then some (.arr l) else some d) := by
  constructor
  · simp [mergeV]
  · cases dst <;> simp [mergeV]

example :
    jeqv (.obj (mergeF true [("ports", .arr [.obj [("n", .num 1), ("p", .str "a")]])] [("ports", .arr [.obj [("n", .num 2)]])]))
      (.obj [("ports", .arr [.obj [("n", .num 2)]])]) = true ∧
    jeqv (.obj (mergeF false [("ports", .arr [.obj [("n", .num 1)]])] [("ports", .arr [.obj [("n", .num 2)]]), ("tags", .arr [.str "x"])]))
      (.obj [("ports", .arr [.obj [("n", .num 1)]]), ("tags", .arr [.str "x"])]) = true := by decide +kernel

/-! ### the managed-fields upgrader (CSA → SSA migration) -/

/-- The JSON patches of `Upgrade` in the current tree write nothing but
metadata.managedFields and metadata.resourceVersion: no label, annotation, spec or status
field of the XR. -/
theorem upgrade_patches_only_bookkeeping :
    upgradePaths ≠ [] ∧ ∀ p ∈ upgradePaths, bookkeepingPath p = true := by
  -- the table entry by entry (no entry but the separators equals "--"); then everything is about the characters
  -- of literals (`bookkeepingPath_ofList`, `String.toList_ofList`), which the kernel evaluates cheaply
  simp only [upgradePaths, Xp.Gen.c07UpgradePatchOps, List.filter_cons, bne_iff_ne, ne_eq, String.reduceEq,
    not_false_eq_true, not_true_eq_false, if_true, if_false, List.filter_nil, List.map_cons, List.map_nil,
    List.forall_mem_cons, bookkeepingPath_ofList]
  repeat rw [String.toList_ofList]
  decide +kernel

/-- The three cases of `Upgrade`, for every list of managers in every order: the claim
manager present and before-first-apply absent - nothing is sent; both present - exactly the
LAST before-first-apply entry is removed; the claim manager absent - all managers are
cleared. -/
theorem upgrade_plan_cases (ssa : String) (mf : List String) :
    (ssa ∈ mf → bfaManager ∉ mf → upgradePlan true ssa mf = .nothing) ∧
    (ssa ∉ mf → upgradePlan true ssa mf = .clearAll) ∧
    (ssa ∈ mf → bfaManager ∈ mf →
      ∃ j, upgradePlan true ssa mf = .removeAt j ∧ mf[j]? = some bfaManager ∧
        ∀ j', j < j' → mf[j']? ≠ some bfaManager) := by
  obtain ⟨h1, h2⟩ := scan_found ssa mf 0 {}
  refine ⟨fun hs hb => ?_, fun hs => ?_, fun hs hb => ?_⟩
  · simp [upgradePlan, h1, h2, hs, hb]
  · simp [upgradePlan, h1, hs]
  · obtain ⟨j, hj1, hj2, hj3⟩ := (scan_idx ssa mf 0 {}).2 hb
    exact ⟨j, by simp [upgradePlan, h1, h2, hs, hb, hj1], hj2, hj3⟩

/-- **The upgrade never drops the claim controller's own manager entry** (so the set of
fields server-side apply treats as previously applied by the claim controller - what
`xr_owned_preserved` and `reserved_meta_untouched` reason about - survives every upgrade),
removes nothing but one before-first-apply entry when the claim manager is present, and
once the claim manager is alone with no before-first-apply entry it is a no-op without an
API call. -/
theorem upgrade_keeps_claim_manager (ssa : String) (mf : List String) (inj : Option String)
    (hne : ssa ≠ bfaManager) (hs : ssa ∈ mf) :
    ssa ∈ (upgradeRun true ssa mf inj).managers ∧
    ((upgradeRun true ssa mf inj).managers = mf ∨
      (bfaManager ∈ mf ∧ inj = none ∧ mf.Perm (bfaManager :: (upgradeRun true ssa mf inj).managers))) ∧
    (bfaManager ∉ mf → upgradeRun true ssa mf inj = { managers := mf, calls := 0, err := "" }) := by
  obtain ⟨c1, _, c3⟩ := upgrade_plan_cases ssa mf
  by_cases hb : bfaManager ∈ mf
  · obtain ⟨j, hj, hjb, _⟩ := c3 hs hb
    cases inj with
    | some e =>
      have : (upgradeRun true ssa mf (some e)).managers = mf := by simp [upgradeRun, hj]
      exact ⟨by rw [this]; exact hs, Or.inl this, fun h => absurd hb h⟩
    | none =>
      have hm : (upgradeRun true ssa mf none).managers = mf.eraseIdx j := by simp [upgradeRun, hj, applyUpg]
      have hperm := perm_cons_eraseIdx bfaManager mf j hjb
      refine ⟨?_, Or.inr ⟨hb, rfl, by rw [hm]; exact hperm⟩, fun h => absurd hb h⟩
      rw [hm]
      have := (hperm.mem_iff (a := ssa)).mp hs
      simp only [List.mem_cons] at this
      rcases this with h | h
      · exact absurd h hne
      · exact h
  · have hn := c1 hs hb
    have : upgradeRun true ssa mf inj = { managers := mf, calls := 0, err := "" } := by simp [upgradeRun, hn]
    exact ⟨by rw [this]; exact hs, Or.inl (by rw [this]), fun _ => this⟩

/-- A run of the upgrader whose API call, if it makes one, fails with a class other than NotFound: nothing
changed, there is at most that one call, and the failure is returned (never swallowed). -/
theorem upgrade_error_not_swallowed (created : Bool) (ssa : String) (mf : List String) (e : String)
    (he : e ≠ "notFound") :
    (upgradeRun created ssa mf (some e)).managers = mf ∧ (upgradeRun created ssa mf (some e)).calls ≤ 1 ∧
    ((upgradeRun created ssa mf (some e)).calls = 1 → (upgradeRun created ssa mf (some e)).err = apiErr e) := by
  unfold upgradeRun
  have hf : (e == "notFound") = false := by simp [he]
  split <;> simp [hf]

/-- the migration as the comment of `Upgrade` tells it: managers of client-side apply only →
cleared; after the claim controller's first apply (claim manager + before-first-apply) →
before-first-apply removed; then nothing more -/
example :
    (upgradeRun true Xp.Gen.fieldOwnerXR ["crossplane", "apiextensions.crossplane.io/composite"] none).managers = [] ∧
    (upgradeRun true Xp.Gen.fieldOwnerXR [Xp.Gen.fieldOwnerXR, "before-first-apply"] none).managers = [Xp.Gen.fieldOwnerXR] ∧
    (upgradeRun true Xp.Gen.fieldOwnerXR [Xp.Gen.fieldOwnerXR] none).calls = 0 ∧
    (upgradeRun true Xp.Gen.fieldOwnerXR ["before-first-apply", "x", "before-first-apply", Xp.Gen.fieldOwnerXR] none).managers
      = ["before-first-apply", "x", Xp.Gen.fieldOwnerXR] ∧
    Xp.Gen.fieldOwnerXR ≠ bfaManager := by decide +kernel

end Xp.C07
