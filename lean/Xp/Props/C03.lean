import Xp.Proofs.C01
import Xp.Proofs.C03Pipe
import Xp.Proofs.C03PT
import Xp.Proofs.C03Run
/-
C03 — a failing composition pipeline is never destructive; garbage collection is exact.

Uses the reconcile model of C01 (Xp/Model/C01.lean) and the pipeline interpreter of C04
(Xp/Model/C04.lean): `pipelineOut` plugs the pipeline in as the function output of the
function composer.

Definitions the statements use that live in the proof modules: `Xp.C04.Diverges`, `Xp.C04.StepFails`
(Xp/Proofs/C03Pipe.lean); `observePure` (ObserveComposedResources as a pure function of the store) and
`ObservedAs` (Xp/Proofs/C01Prog.lean); `Harmless`, `NoGc`, `FnGcJustified` (Xp/Proofs/C03Fn.lean) and `PtGcJustified`
(Xp/Proofs/C03PT.lean), the justification a garbage-collection request of either composer has; `WFReqs`,
`liftOutcome` (Xp/Proofs/C03Run.lean); `Rounds` is in Xp/Model/C03.lean. Where a lemma of a proof module is the result
itself, the theorem here gives it the property's name and cites it (`gcFn_requests`: `issues_gcFn`, `fetching_errs_iff`:
`runFetching_err_iff`, `pipeline_fails_iff`: `runPipeline_failed_iff`, `run_function_previous_round`: `rounds_prev`).

Informer cache: the store `s` of every theorem below is arbitrary, and with it the set `s.miss` of
composed resources that exist but are missing from the informer cache while the reconcile runs
(Xp/Model/C01.lean: the first read of a reference and the name probes go through the cache, a
cached NotFound is repeated against the API server). So every statement holds for every such set;
the justifications `FnGcJustified` / `PtGcJustified` and the observation `observePure` speak about
the objects and references of the store only — what the cache misses changes none of them.
-/
namespace Xp.C03
open Xp.C01

theorem harmless_keeps (s : St) (r : Req) (h : Harmless r) :
    (exec s r).1.refs = s.refs ∧ (exec s r).1.objs = s.objs := by
  cases r with
  | addFinalizer rv =>
    -- a conflict leaves the store as it is, success touches `xrFin` and `xrRv` only
    simp only [exec]
    split
    · exact ⟨rfl, rfl⟩
    · exact ⟨rfl, rfl⟩
  | statusUpdate rv =>
    rw [exec_statusUpdate_state]
    exact ⟨rfl, rfl⟩
  | getXR | getObj _ _ | getCached _ _ =>
    rw [exec_read_state rfl]
    exact ⟨rfl, rfl⟩
  | _ => exact h.elim

/-- **No mutation on failure.** If the function pipeline fails — a step errors, returns a
fatal result, lacks its credentials, or its requirements never stabilise — or observing
the existing composed resources fails, then under every fault plan, at every instant of
the reconcile, no composed resource was created, updated or deleted and spec.resourceRefs
is untouched. (`hfail` asks the pipeline to fail on every observation; `emits_of_failed`, from which this
follows, needs it only for what is observed in `s`, and covers the observation that fails.) -/
theorem fail_no_write (out : Obs → FnOut) (ch : Choices) (hfail : ∀ obs, out obs = .failed)
    (plan : Plan) (s : St) :
    ∀ s' ∈ reach sem plan 0 (reconcile (.fn out ch)) s, s'.refs = s.refs ∧ s'.objs = s.objs := by
  refine reach_safe sem (fun s' => s'.refs = s.refs ∧ s'.objs = s.objs) plan 0 _ s ⟨rfl, rfl⟩ ?_
  refine (emits_of_failed out ch s fun obs _ => hfail obs).safe ⟨rfl, rfl⟩ fun t r ⟨h1, h2⟩ hq => ?_
  have := harmless_keeps t r hq
  exact ⟨this.1.trans h1, this.2.trans h2⟩

/-! ### the pipeline as the function output of the composer -/

def toRes (p : String × CObj) : Xp.C04.Res := ⟨p.1, p.2.kind, p.2.name, p.2.content, false⟩

def toDesired (r : Xp.C04.Res) : Desired := ⟨r.rname, r.kind, r.content, r.ready⟩

/-- the function composer's desired state as computed by the pipeline of C04 -/
def pipelineOut (cluster : List Xp.C04.ClusterObj) (steps : List Xp.C04.Step) : Obs → FnOut := fun obs =>
  match Xp.C04.runPipeline cluster (obs.map toRes) steps 0 Xp.C04.initState with
  | .done st => .desired (st.desired.map toDesired)
  | .failed _ _ => .failed

/-- Instance for pipelines: a pipeline whose run fails on every observation writes nothing. -/
theorem failing_pipeline_no_write (cluster : List Xp.C04.ClusterObj) (steps : List Xp.C04.Step) (ch : Choices)
    (hfail : ∀ obs : Obs, ∃ st fatal, Xp.C04.runPipeline cluster (obs.map toRes) steps 0 Xp.C04.initState = .failed st fatal)
    (plan : Plan) (s : St) :
    ∀ s' ∈ reach sem plan 0 (reconcile (.fn (pipelineOut cluster steps) ch)) s, s'.refs = s.refs ∧ s'.objs = s.objs := by
  apply fail_no_write
  intro obs
  obtain ⟨st, fatal, h⟩ := hfail obs
  simp [pipelineOut, h]

/-- a first step that errors, or returns a fatal result, or never stabilises, fails the pipeline -/
theorem first_step_failure_fails (cluster : List Xp.C04.ClusterObj) (observed : List Xp.C04.Res)
    (s : Xp.C04.Step) (ss : List Xp.C04.Step)
    (h : s.creds.any (·.2.isNone) = true ∨
         (Xp.C04.runFetching cluster s.fn (Xp.Gen.maxRequirementsIterations + 1)
            (Xp.C04.stepRequest observed Xp.C04.initState s) []).2 = .err ∨
         ∃ rsp, (Xp.C04.runFetching cluster s.fn (Xp.Gen.maxRequirementsIterations + 1)
            (Xp.C04.stepRequest observed Xp.C04.initState s) []).2 = .ok rsp ∧
            (Xp.C04.eventsUntilFatal s.name rsp.results).2 = true) :
    ∃ st fatal, Xp.C04.runPipeline cluster observed (s :: ss) 0 Xp.C04.initState = .failed st fatal :=
  Xp.C04.runPipeline_cons_of_fails
    (h.imp_right (Or.imp (Xp.C04.runFetching_err_iff ..).mp fun ⟨rsp, h, hf⟩ =>
      ⟨rsp, h, Xp.C04.eventsUntilFatal_snd_eq s.name rsp.results ▸ hf⟩)) ss 0

/-! ### the collector's targets and requests -/

/-- what the function composer hands to its garbage collector -/
def gcTargets (obs : Obs) (ds : List Desired) : List CObj :=
  (obs.filter fun p => !(ds.any (·.rname = p.1))).map (·.2)

/-- The function composer's garbage-collection targets are exactly the observed composed
resources (referenced, not controlled by someone else, annotated) whose resource name is
absent from the final desired state: nothing still desired is ever targeted. -/
theorem gc_targets_exact (obs : Obs) (ds : List Desired) (o : CObj) :
    o ∈ gcTargets obs ds ↔ ∃ a, (a, o) ∈ obs ∧ ∀ d ∈ ds, d.rname ≠ a :=
  mem_undesiredOf obs ds o

/-- Whatever is replied to it, the garbage-collection loop issues nothing but the update/delete
requests of its targets, the status update of its error epilogue and what the continuation issues.
(That the requests of the targets ARE applied is `fn_collects`, Xp/Proofs/C03Fn.lean.) -/
theorem gcFn_requests (lrv : Nat) (os : List CObj) (k : P) (Q : Req → Prop)
    (hQ : ∀ o ∈ os, Q (.gcUpdate o.kind o.name) ∧ Q (.delete o.kind o.name))
    (hs : Q (.statusUpdate (some lrv))) (hk : Issues Q k) : Issues Q (gcFn lrv os k) :=
  issues_gcFn lrv os k hQ hs hk

/-! ### failure at any step index -/

/-- `RunFunction` of a step ends in an error exactly when some round's call errors (before the
requirements stabilise) or the allowed rounds are used up with the requirements still
changing (`Diverges` spells this out round by round). -/
theorem fetching_errs_iff (cluster : List Xp.C04.ClusterObj) (f : Xp.C04.Fn) (fuel : Nat) (req : Xp.C04.Request)
    (prev : List (String × Xp.C04.Sel)) :
    (Xp.C04.runFetching cluster f fuel req prev).2 = .err ↔ Xp.C04.Diverges cluster f fuel req prev :=
  Xp.C04.runFetching_err_iff cluster f fuel req prev

/-- a function whose requirements differ from the previous round's in every round never
stabilises: `RunFunction` errors whatever the iteration bound is -/
theorem never_stabilising_errs (cluster : List Xp.C04.ClusterObj) (f : Xp.C04.Fn)
    (hf : ∀ req prev, ∃ rsp, f req = some rsp ∧ Xp.C04.hasFatal rsp.results = false ∧ rsp.reqs ≠ prev)
    (fuel : Nat) (req : Xp.C04.Request) (prev : List (String × Xp.C04.Sel)) :
    (Xp.C04.runFetching cluster f fuel req prev).2 = .err :=
  (Xp.C04.runFetching_err_iff ..).mpr
    (Xp.C04.diverges_of_inv cluster f (fun _ _ => True)
      (fun req prev _ => (hf req prev).imp fun _ h => ⟨h.1, h.2.1, h.2.2, trivial⟩) fuel req prev trivial)

/-- The same with an invariant: it is enough that the requirements differ from the previous
round's along the rounds actually played (`I` holds of the first round and is kept from one round
to the next). `never_stabilising_errs` is the instance `I := fun _ _ => True`, whose hypothesis
no deterministic function satisfies (take `prev := (f req).reqs`); this form is satisfiable, see
the example below it. -/
theorem never_stabilising_errs_inv (cluster : List Xp.C04.ClusterObj) (f : Xp.C04.Fn)
    (I : Xp.C04.Request → List (String × Xp.C04.Sel) → Prop)
    (hf : ∀ req prev, I req prev → ∃ rsp, f req = some rsp ∧ Xp.C04.hasFatal rsp.results = false ∧ rsp.reqs ≠ prev ∧
      I { req with extra := rsp.reqs.map (fun p => (p.1, Xp.C04.fetch cluster p.2)), ctx := rsp.ctx } rsp.reqs)
    (fuel : Nat) (req : Xp.C04.Request) (prev : List (String × Xp.C04.Sel)) (h0 : I req prev) :
    (Xp.C04.runFetching cluster f fuel req prev).2 = .err :=
  (Xp.C04.runFetching_err_iff ..).mpr (Xp.C04.diverges_of_inv cluster f I hf fuel req prev h0)

/-- the invariant form is satisfiable: a function that asks for an extra resource exactly when it
was handed none flips its requirements in every round, for every iteration bound -/
example (fuel : Nat) (req : Xp.C04.Request) (h : req.extra = []) :
    (Xp.C04.runFetching [] (fun rq => some ⟨rq.desired, none, [], if rq.extra = [] then [("x", ⟨"K", "n", []⟩)] else [], [], []⟩)
      fuel req []).2 = .err :=
  never_stabilising_errs_inv [] _ (fun rq prev => (rq.extra = [] ↔ prev = []))
    (fun rq prev hI => by
      by_cases he : rq.extra = []
      · refine ⟨_, rfl, rfl, ?_, ?_⟩
        · simp [he, hI.mp he]
        · simp [he]
      · refine ⟨_, rfl, rfl, ?_, ?_⟩
        · simp only [he, if_false]; intro h'; exact he (hI.mpr h'.symm)
        · simp [he])
    fuel req [] (by simp [h])

/-- **Failure at any step index.** If the steps in front of step `s` succeed (whatever they
do) and `s` lacks its credentials, or its call errors in some round, or its requirements
never stabilise within the bound, or it returns a fatal result, then the pipeline as a whole
fails, whatever follows `s`. -/
theorem step_failure_fails (cluster : List Xp.C04.ClusterObj) (observed : List Xp.C04.Res)
    (pre : List Xp.C04.Step) (s : Xp.C04.Step) (post : List Xp.C04.Step) (i : Nat) (st0 st : Xp.C04.PipeState)
    (hpre : Xp.C04.runPipeline cluster observed pre i st0 = .done st)
    (h : s.creds.any (·.2.isNone) = true ∨
         Xp.C04.Diverges cluster s.fn (Xp.Gen.maxRequirementsIterations + 1) (Xp.C04.stepRequest observed st s) [] ∨
         ∃ rsp, (Xp.C04.runFetching cluster s.fn (Xp.Gen.maxRequirementsIterations + 1)
            (Xp.C04.stepRequest observed st s) []).2 = .ok rsp ∧ Xp.C04.hasFatal rsp.results = true) :
    ∃ st' fatal, Xp.C04.runPipeline cluster observed (pre ++ s :: post) i st0 = .failed st' fatal :=
  (Xp.C04.runPipeline_failed_iff cluster observed _ i st0).mpr ⟨pre, s, post, st, rfl, hpre, h⟩

/-- A pipeline fails **iff** one of its steps fails after all earlier steps succeeded (so a
pipeline none of whose steps fails completes, and the failing step may be any index). -/
theorem pipeline_fails_iff (cluster : List Xp.C04.ClusterObj) (observed : List Xp.C04.Res)
    (steps : List Xp.C04.Step) (i : Nat) (st0 : Xp.C04.PipeState) :
    (∃ st' fatal, Xp.C04.runPipeline cluster observed steps i st0 = .failed st' fatal) ↔
    ∃ pre s post st, steps = pre ++ s :: post ∧ Xp.C04.runPipeline cluster observed pre i st0 = .done st ∧
      Xp.C04.StepFails cluster observed st s :=
  Xp.C04.runPipeline_failed_iff cluster observed steps i st0

/-- **No mutation when any step fails.** If, for every observation, some step of the pipeline
(any index, possibly a different one per observation) fails after its predecessors succeeded,
then under every fault plan, at every instant of the reconcile, no composed resource was
created, updated or deleted and spec.resourceRefs is untouched. -/
theorem step_failure_no_write (cluster : List Xp.C04.ClusterObj) (steps : List Xp.C04.Step) (ch : Choices)
    (hfail : ∀ obs : Obs, ∃ pre s post st, steps = pre ++ s :: post ∧
      Xp.C04.runPipeline cluster (obs.map toRes) pre 0 Xp.C04.initState = .done st ∧
      Xp.C04.StepFails cluster (obs.map toRes) st s)
    (plan : Plan) (s : St) :
    ∀ s' ∈ reach sem plan 0 (reconcile (.fn (pipelineOut cluster steps) ch)) s, s'.refs = s.refs ∧ s'.objs = s.objs :=
  failing_pipeline_no_write cluster steps ch
    (fun obs => (Xp.C04.runPipeline_failed_iff cluster (obs.map toRes) steps 0 Xp.C04.initState).mpr (hfail obs)) plan s

/-! ### the function composer never deletes what is still desired -/

/-- every entry of an observation is a referenced, existing object that is not controlled by
someone else, under its own (non-empty) annotation -/
theorem observed_sound (s : St) (obs : Obs) (h : observePure s.objs s.refs [] = some obs) :
    ∀ p ∈ obs, ObservedAs s p.1 p.2 :=
  observePure_sound s s.refs [] obs (fun _ hr => hr) (fun _ hp => by cases hp) h

/-- in a store satisfying the C01 invariant the observation misses nothing: every referenced,
existing object that is not controlled by someone else is in it under its annotation -/
theorem observed_complete (s : St) (hg : Good s) (obs : Obs) (h : observePure s.objs s.refs [] = some obs)
    (o : CObj) (ho : o ∈ s.objs) (hr : key o ∈ s.refs) (hc : o.ctrl ≠ .other) :
    o.annot ≠ "" ∧ (o.annot, o) ∈ obs := by
  have hok : ObsOKp s ([] ++ s.refs) obs :=
    observePure_complete hg s.refs [] [] obs (fun _ hr => hr) (by intro r h; cases h) (obsOKp_nil s) h
  obtain ⟨hne, hl⟩ := hok.observed o ho (by simpa using hr) hc
  exact ⟨hne, mem_of_obsLookup hl⟩

/-- **Nothing still desired is ever targeted, under any fault plan, at any instant.** Every
`delete` and every label-stripping `gcUpdate` the function-composer reconcile *issues*
(whether or not it is applied, whatever the plan does before or after) targets an observed
composed resource of this XR whose resource name is absent from the desired state the
pipeline returned for that observation. -/
theorem fn_gc_only_undesired (out : Obs → FnOut) (ch : Choices) (hgc : ∀ l x, x ∈ ch.gcOrder l → x ∈ l)
    (plan : Plan) (s : St) :
    ∀ e ∈ callLog sem plan 0 (reconcile (.fn out ch)) s, ∀ kind name,
      (e.1 = .delete kind name ∨ e.1 = .gcUpdate kind name) → FnGcJustified out s kind name :=
  (emits_fn_justified out ch hgc s).callLog plan 0

/-- Corollary, in the property's words: a composed resource that is observed and still desired
is never the target of a `delete` or `gcUpdate` request — not at the end, not transiently,
under no fault plan. -/
theorem fn_desired_never_deleted (out : Obs → FnOut) (ch : Choices) (hgc : ∀ l x, x ∈ ch.gcOrder l → x ∈ l)
    (plan : Plan) (s : St) (obs : Obs) (ds : List Desired)
    (hobs : observePure s.objs s.refs [] = some obs) (hout : out obs = .desired ds)
    (a : String) (o : CObj) (hm : (a, o) ∈ obs) (d : Desired) (hd : d ∈ ds) (hda : d.rname = a) :
    ∀ e ∈ callLog sem plan 0 (reconcile (.fn out ch)) s, e.1 ≠ .delete o.kind o.name ∧ e.1 ≠ .gcUpdate o.kind o.name := by
  refine fun e he => GcOnly.ne_of_not (fn_gc_only_undesired out ch hgc plan s e he) ?_
  rintro ⟨obs', ds', a', o', hobs', hout', _, hk, hn, hnd, hoa'⟩
  cases hobs.symm.trans hobs'
  cases hout.symm.trans hout'
  exact hnd d hd (hda.trans (observedAs_key_unique (observed_sound s obs hobs _ hm) hoa' hk hn).2.symm)

/-- The same for the pipeline of C04 plugged in as the function output: "desired" is the final desired
state of the pipeline run for this observation. -/
theorem pipeline_desired_never_deleted (cluster : List Xp.C04.ClusterObj) (steps : List Xp.C04.Step) (ch : Choices)
    (hgc : ∀ l x, x ∈ ch.gcOrder l → x ∈ l) (plan : Plan) (s : St) (obs : Obs)
    (hobs : observePure s.objs s.refs [] = some obs) (st : Xp.C04.PipeState)
    (hrun : Xp.C04.runPipeline cluster (obs.map toRes) steps 0 Xp.C04.initState = .done st)
    (a : String) (o : CObj) (hm : (a, o) ∈ obs) (r : Xp.C04.Res) (hr : r ∈ st.desired) (hra : r.rname = a) :
    ∀ e ∈ callLog sem plan 0 (reconcile (.fn (pipelineOut cluster steps) ch)) s,
      e.1 ≠ .delete o.kind o.name ∧ e.1 ≠ .gcUpdate o.kind o.name :=
  fn_desired_never_deleted (pipelineOut cluster steps) ch hgc plan s obs (st.desired.map toDesired) hobs
    (by simp [pipelineOut, hrun]) a o hm (toDesired r) (List.mem_map.mpr ⟨r, hr, rfl⟩) hra

/-- an object that is not in the observation at all — controlled by someone else, unreferenced,
or missing — is never targeted either -/
theorem fn_foreign_never_deleted (out : Obs → FnOut) (ch : Choices) (hgc : ∀ l x, x ∈ ch.gcOrder l → x ∈ l)
    (plan : Plan) (s : St) (kind name : String)
    (h : (⟨kind, name⟩ : Ref) ∉ s.refs ∨ findObj s.objs kind name = none ∨
         ∃ o, findObj s.objs kind name = some o ∧ o.ctrl = .other) :
    ∀ e ∈ callLog sem plan 0 (reconcile (.fn out ch)) s, e.1 ≠ .delete kind name ∧ e.1 ≠ .gcUpdate kind name := by
  refine fun e he => GcOnly.ne_of_not (fn_gc_only_undesired out ch hgc plan s e he) ?_
  rintro ⟨_, _, a', o', _, _, _, rfl, rfl, _, hoa'⟩
  rcases h with h | h | ⟨o, h, hc⟩
  · exact h hoa'.ref
  · cases hoa'.found.symm.trans h
  · cases hoa'.found.symm.trans h; exact hoa'.notForeign hc

/-- **Exactness on a fault-free run.** If the fault-free reconcile succeeds — or merely gets as
far as persisting the new references — then the observation succeeded, the pipeline returned
a desired state for it, and the `delete` (and `gcUpdate`) requests applied are exactly those
for the observed composed resources whose resource name is absent from that desired state. -/
theorem fn_gc_exact (out : Obs → FnOut) (ch : Choices) (hgc : ∀ l x, x ∈ ch.gcOrder l ↔ x ∈ l) (s : St)
    (hdone : (run sem Plan.allOk 0 (reconcile (.fn out ch)) s).2 = some .success ∨
             ∃ v rf, Req.patchRefs v rf ∈ applied sem Plan.allOk 0 (reconcile (.fn out ch)) s) :
    ∃ obs ds, observePure s.objs s.refs [] = some obs ∧ out obs = .desired ds ∧
      ∀ kind name,
        (Req.delete kind name ∈ applied sem Plan.allOk 0 (reconcile (.fn out ch)) s ↔
          ∃ a o, (a, o) ∈ obs ∧ o.kind = kind ∧ o.name = name ∧ ∀ d ∈ ds, d.rname ≠ a) ∧
        (Req.gcUpdate kind name ∈ applied sem Plan.allOk 0 (reconcile (.fn out ch)) s ↔
          ∃ a o, (a, o) ∈ obs ∧ o.kind = kind ∧ o.name = name ∧ ∀ d ∈ ds, d.rname ≠ a) :=
  fn_exact out ch hgc Plan.allOk 0 s (hdone.imp_right fun ⟨_, _, h⟩ => issued_of_applied h trivial)

/-! ### the patch-and-transform associator -/

/-- **P&T: only references whose template is gone are ever targeted, under any fault plan, at
any instant.** Every `delete` and `gcUpdate` the P&T reconcile issues targets a referenced
object whose annotation names no template and which is not controlled by another owner. -/
theorem pt_gc_only_templateless (tmpl : List Desired) (fresh : List String) (ver : String) (plan : Plan) (s : St) :
    ∀ e ∈ callLog sem plan 0 (reconcile (.pt tmpl fresh ver)) s, ∀ kind name,
      (e.1 = .delete kind name ∨ e.1 = .gcUpdate kind name) → PtGcJustified tmpl s kind name :=
  (emits_pt_justified tmpl fresh ver s).callLog plan 0

/-- Corollary: an object whose annotation names an existing template, or that is controlled by
another owner, or that is not referenced, is never the target of a `delete` or `gcUpdate`. -/
theorem pt_templated_never_deleted (tmpl : List Desired) (fresh : List String) (ver : String) (plan : Plan) (s : St)
    (kind name : String)
    (h : (⟨kind, name⟩ : Ref) ∉ s.refs ∨ findObj s.objs kind name = none ∨
         ∃ o, findObj s.objs kind name = some o ∧ (o.ctrl = .other ∨ ∃ t ∈ tmpl, t.rname = o.annot)) :
    ∀ e ∈ callLog sem plan 0 (reconcile (.pt tmpl fresh ver)) s, e.1 ≠ .delete kind name ∧ e.1 ≠ .gcUpdate kind name := by
  refine fun e he => GcOnly.ne_of_not (pt_gc_only_templateless tmpl fresh ver plan s e he) ?_
  rintro ⟨o', hr, _, hf, _, hnt, hc⟩
  rcases h with h | h | ⟨o, h, h2⟩
  · exact h hr
  · cases hf.symm.trans h
  · cases hf.symm.trans h
    rcases h2 with h2 | ⟨t, ht, hta⟩
    · exact hc h2
    · exact hnt t ht hta

/-- **P&T exactness on a fault-free run.** If the fault-free reconcile succeeds — or merely
gets as far as persisting the new references — the `delete` (and `gcUpdate`) requests applied
are exactly those for the named references whose object exists and is annotated with a name
that is no template; each of these objects is annotated and not controlled by another owner
(otherwise the association would have aborted). -/
theorem pt_gc_exact (tmpl : List Desired) (fresh : List String) (ver : String) (s : St)
    (hdone : (run sem Plan.allOk 0 (reconcile (.pt tmpl fresh ver)) s).2 = some .success ∨
             ∃ rv v rf, Req.updateXR rv v rf ∈ applied sem Plan.allOk 0 (reconcile (.pt tmpl fresh ver)) s) :
    ∀ kind name,
      (Req.delete kind name ∈ applied sem Plan.allOk 0 (reconcile (.pt tmpl fresh ver)) s ↔
        ∃ o, (⟨kind, name⟩ : Ref) ∈ s.refs ∧ name ≠ "" ∧ findObj s.objs kind name = some o ∧
          ∀ t ∈ tmpl, t.rname ≠ o.annot) ∧
      (Req.gcUpdate kind name ∈ applied sem Plan.allOk 0 (reconcile (.pt tmpl fresh ver)) s ↔
        ∃ o, (⟨kind, name⟩ : Ref) ∈ s.refs ∧ name ≠ "" ∧ findObj s.objs kind name = some o ∧
          ∀ t ∈ tmpl, t.rname ≠ o.annot) ∧
      (∀ o, (⟨kind, name⟩ : Ref) ∈ s.refs → name ≠ "" → findObj s.objs kind name = some o →
        (∀ t ∈ tmpl, t.rname ≠ o.annot) → o.annot ≠ "" ∧ o.ctrl ≠ .other) :=
  pt_exact tmpl fresh ver Plan.allOk 0 s (hdone.imp_right fun ⟨_, _, _, h⟩ => issued_of_applied h trivial)

/-! ### non-vacuity -/
example : ∃ st fatal, Xp.C04.runPipeline [] [] [⟨"s0", fun _ => none, "", []⟩] 0 Xp.C04.initState = .failed st fatal :=
  ⟨_, _, rfl⟩

/-- step 0 succeeds (it desires "a"); step 1 asks for different requirements in every round -/
def exOkFn : Xp.C04.Fn := fun _ => some ⟨[⟨"a", "KA", "", 1, true⟩], none, [], [], [], []⟩
def exFlipFn : Xp.C04.Fn := fun req =>
  some ⟨req.desired, none, [], if req.extra = [] then [("x", ⟨"K", "n", []⟩)] else [], [], []⟩
def exFatalFn : Xp.C04.Fn := fun req => some ⟨req.desired, none, [], [], [⟨.fatal, "boom", false⟩], []⟩
def exErrFn : Xp.C04.Fn := fun _ => none

/-- the hypotheses of `step_failure_fails` are met with a non-empty successful prefix: step 1
never stabilises -/
example : ∃ st, Xp.C04.runPipeline [] [] [⟨"s0", exOkFn, "", []⟩] 0 Xp.C04.initState = .done st ∧
    Xp.C04.StepFails [] [] st ⟨"s1", exFlipFn, "", []⟩ :=
  ⟨_, rfl, Or.inr (Or.inl ((Xp.C04.runFetching_err_iff _ _ _ _ _).mp rfl))⟩

/-- ... step 2 returns a fatal result after two successful steps -/
example : ∃ st, Xp.C04.runPipeline [] [] [⟨"s0", exOkFn, "", []⟩, ⟨"s1", exOkFn, "", []⟩] 0 Xp.C04.initState = .done st ∧
    Xp.C04.StepFails [] [] st ⟨"s2", exFatalFn, "", []⟩ :=
  ⟨_, rfl, Or.inr (Or.inr ⟨_, rfl, rfl⟩)⟩

/-- ... step 1's call errors; and the whole pipelines fail -/
example : ∃ st, Xp.C04.runPipeline [] [] [⟨"s0", exOkFn, "", []⟩] 0 Xp.C04.initState = .done st ∧
    Xp.C04.StepFails [] [] st ⟨"s1", exErrFn, "", []⟩ :=
  ⟨_, rfl, Or.inr (Or.inl (Or.inl rfl))⟩

example : ∃ st fatal, Xp.C04.runPipeline [] [] [⟨"s0", exOkFn, "", []⟩, ⟨"s1", exFlipFn, "", []⟩, ⟨"s2", exOkFn, "", []⟩]
    0 Xp.C04.initState = .failed st fatal := ⟨_, _, rfl⟩

/-- a pipeline that does not fail exists too (the `iff` of `pipeline_fails_iff` is not one-sided) -/
example : ∃ st, Xp.C04.runPipeline [] [] [⟨"s0", exOkFn, "", []⟩, ⟨"s1", exOkFn, "", []⟩] 0 Xp.C04.initState = .done st :=
  ⟨_, rfl⟩

/-- An XR with three referenced composed resources: `xr-a` (resource name "a", still desired /
template exists), `xr-b` (resource name "b", no longer desired / template gone) and `xr-f`
(controlled by someone else). -/
def gcObjA : CObj := ⟨"KA", "xr-a", "a", .xr, false, false, 1, true⟩
def gcObjB : CObj := ⟨"KB", "xr-b", "b", .xr, false, false, 0, true⟩
def gcObjF : CObj := ⟨"KF", "xr-f", "f", .other, false, false, 0, false⟩
def gcStore : St :=
  { xrFin := true, xrRv := 3,
    refs := [⟨"KA", "xr-a"⟩, ⟨"KB", "xr-b"⟩, ⟨"KF", "xr-f"⟩],
    objs := [gcObjA, gcObjB, gcObjF] }
def gcOut : Obs → FnOut := fun _ => .desired [⟨"a", "KA", 1, true⟩]
def gcCh : Choices := ⟨"v1", [], id, id⟩

/-- the observation: the foreign-controlled object is skipped -/
def gcObs : Obs := [("a", gcObjA), ("b", gcObjB)]
theorem gcStore_observed : observePure gcStore.objs gcStore.refs [] = some gcObs := by decide

/-- the fault-free function-composer run: "a" kept, "b" collected, the foreign one skipped -/
theorem gcStore_fn_run :
    (applied sem Plan.allOk 0 (reconcile (.fn gcOut gcCh)) gcStore).take 7 =
      [.getXR, .getCached "KA" "xr-a", .getCached "KB" "xr-b", .getCached "KF" "xr-f",
       .gcUpdate "KB" "xr-b", .delete "KB" "xr-b",
       .patchRefs "v1" (refsOf [⟨⟨"a", "KA", 1, true⟩, "xr-a", false⟩])] := by rfl

/-- the same run with `xr-b` missing from the informer cache: the cached read answers NotFound,
the live read finds it, and it is collected all the same -/
example :
    (applied sem Plan.allOk 0 (reconcile (.fn gcOut gcCh)) { gcStore with miss := [⟨"KB", "xr-b"⟩] }).take 8 =
      [.getXR, .getCached "KA" "xr-a", .getCached "KB" "xr-b", .getObj "KB" "xr-b", .getCached "KF" "xr-f",
       .gcUpdate "KB" "xr-b", .delete "KB" "xr-b",
       .patchRefs "v1" (refsOf [⟨⟨"a", "KA", 1, true⟩, "xr-a", false⟩])] := by rfl

/-- the hypothesis of `fn_gc_exact` is met -/
example : ∃ v rf, Req.patchRefs v rf ∈ applied sem Plan.allOk 0 (reconcile (.fn gcOut gcCh)) gcStore :=
  ⟨"v1", refsOf [⟨⟨"a", "KA", 1, true⟩, "xr-a", false⟩], List.mem_of_mem_take (by rw [gcStore_fn_run]; simp)⟩

/-- the justification of `fn_gc_only_undesired` holds of the undesired resource, and of neither
the desired nor the foreign-controlled one -/
example : FnGcJustified gcOut gcStore "KB" "xr-b" :=
  ⟨gcObs, _, "b", gcObjB, gcStore_observed, rfl, by decide, rfl, rfl, by decide,
    observed_sound gcStore gcObs gcStore_observed ("b", gcObjB) (by decide)⟩

example (plan : Plan) : ∀ e ∈ callLog sem plan 0 (reconcile (.fn gcOut gcCh)) gcStore,
    e.1 ≠ .delete "KA" "xr-a" ∧ e.1 ≠ .gcUpdate "KA" "xr-a" :=
  fn_desired_never_deleted gcOut gcCh (fun _ _ h => h) plan gcStore gcObs _ gcStore_observed rfl "a" gcObjA (by decide)
    ⟨"a", "KA", 1, true⟩ (by decide) rfl

example (plan : Plan) : ∀ e ∈ callLog sem plan 0 (reconcile (.fn gcOut gcCh)) gcStore,
    e.1 ≠ .delete "KF" "xr-f" ∧ e.1 ≠ .gcUpdate "KF" "xr-f" :=
  fn_foreign_never_deleted gcOut gcCh (fun _ _ h => h) plan gcStore _ _ (Or.inr (Or.inr ⟨gcObjF, by decide, rfl⟩))

def gcTmpl : List Desired := [⟨"a", "KA", 1, true⟩]

/-- P&T with the single template "a" on the same store: "b" is collected, then the association
stops at the foreign-controlled `xr-f` (whose annotation names no template) without touching it -/
theorem gcStore_pt_run :
    applied sem Plan.allOk 0 (reconcile (.pt gcTmpl [] "v1")) gcStore =
      [.getXR, .getCached "KA" "xr-a", .getCached "KB" "xr-b", .gcUpdate "KB" "xr-b", .delete "KB" "xr-b",
       .getCached "KF" "xr-f", .statusUpdate (some 3)] := by rfl

example : PtGcJustified gcTmpl gcStore "KB" "xr-b" :=
  ⟨gcObjB, by decide, by decide, by decide, by decide, by decide, by decide⟩

example (plan : Plan) : ∀ e ∈ callLog sem plan 0 (reconcile (.pt gcTmpl [] "v1")) gcStore,
    (e.1 ≠ .delete "KA" "xr-a" ∧ e.1 ≠ .gcUpdate "KA" "xr-a") ∧ (e.1 ≠ .delete "KF" "xr-f" ∧ e.1 ≠ .gcUpdate "KF" "xr-f") :=
  fun e he =>
    ⟨pt_templated_never_deleted gcTmpl [] "v1" plan gcStore _ _
        (Or.inr (Or.inr ⟨gcObjA, by decide, Or.inr ⟨_, List.mem_cons_self .., rfl⟩⟩)) e he,
     pt_templated_never_deleted gcTmpl [] "v1" plan gcStore _ _
        (Or.inr (Or.inr ⟨gcObjF, by decide, Or.inl rfl⟩)) e he⟩

/-- without the foreign-controlled reference the P&T run gets past the association (the
hypothesis of `pt_gc_exact` is met): "a" kept, "b" collected -/
def gcStore2 : St := { gcStore with refs := [⟨"KA", "xr-a"⟩, ⟨"KB", "xr-b"⟩] }

theorem gcStore2_pt_run :
    (applied sem Plan.allOk 0 (reconcile (.pt gcTmpl [] "v1")) gcStore2).take 6 =
      [.getXR, .getCached "KA" "xr-a", .getCached "KB" "xr-b", .gcUpdate "KB" "xr-b", .delete "KB" "xr-b",
       .updateXR 3 "v1" [⟨"KA", "xr-a"⟩]] := by rfl

example : ∃ rv v rf, Req.updateXR rv v rf ∈ applied sem Plan.allOk 0 (reconcile (.pt gcTmpl [] "v1")) gcStore2 :=
  ⟨3, "v1", [⟨"KA", "xr-a"⟩], List.mem_of_mem_take (by rw [gcStore2_pt_run]; simp)⟩

/-! ### the success hypothesis of the exactness theorems is necessary

Exactness without "the composition gets past rendering / association" is false of the model (and
of the code it mirrors: both return the error before, or in the middle of, the collection). -/

/-- function composer: the pipeline succeeds and "b" is undesired, but a new resource "c" cannot
be named (the generator gives up), so the fault-free reconcile errors before collecting -/
theorem fn_gc_unconditional_exactness_fails_witness :
    observePure gcStore.objs gcStore.refs [] = some gcObs ∧
    ("b", gcObjB) ∈ gcObs ∧ (∀ d ∈ [(⟨"a", "KA", 1, true⟩ : Desired), ⟨"c", "KA", 0, false⟩], d.rname ≠ "b") ∧
    Req.delete "KB" "xr-b" ∉ applied sem Plan.allOk 0
      (reconcile (.fn (fun _ => .desired [⟨"a", "KA", 1, true⟩, ⟨"c", "KA", 0, false⟩]) gcCh)) gcStore := by
  refine ⟨gcStore_observed, by decide, by decide, ?_⟩
  have : applied sem Plan.allOk 0
      (reconcile (.fn (fun _ => .desired [⟨"a", "KA", 1, true⟩, ⟨"c", "KA", 0, false⟩]) gcCh)) gcStore =
      [.getXR, .getCached "KA" "xr-a", .getCached "KB" "xr-b", .getCached "KF" "xr-f", .statusUpdate (some 3)] := by rfl
  rw [this]; simp

/-- P&T: the foreign-controlled, template-less `xr-f` is referenced *before* `xr-b`; the
association errors at `xr-f` and `xr-b` (referenced, existing, controllable, template gone) is
not collected in this reconcile -/
theorem pt_gc_unconditional_exactness_fails_witness :
    let s : St := { gcStore with refs := [⟨"KF", "xr-f"⟩, ⟨"KB", "xr-b"⟩] }
    (⟨"KB", "xr-b"⟩ : Ref) ∈ s.refs ∧ findObj s.objs "KB" "xr-b" = some gcObjB ∧ gcObjB.ctrl ≠ .other ∧
    (∀ t ∈ gcTmpl, t.rname ≠ gcObjB.annot) ∧
    Req.delete "KB" "xr-b" ∉ applied sem Plan.allOk 0 (reconcile (.pt gcTmpl [] "v1")) s := by
  intro s
  refine ⟨by decide, by decide, by decide, by decide, ?_⟩
  have : applied sem Plan.allOk 0 (reconcile (.pt gcTmpl [] "v1")) s =
      [.getXR, .getCached "KF" "xr-f", .statusUpdate (some 3)] := by rfl
  rw [this]; simp

/-! ### call skeletons regenerated from the source tree (Xp/Gen/C03Skel.lean) -/

/-- `FetchingFunctionRunner.RunFunction`: call, fatal check, `reflect.DeepEqual`, fetch loop, context, exits -/
theorem skeleton_run_function : Xp.Gen.c03SkelRunFunction = skelRunFunction := rfl
/-- `ExistingExtraResourcesFetcher.Fetch`: nil check, by name (Get, NotFound ⇒ nil), by labels (List), unknown match -/
theorem skeleton_fetch : Xp.Gen.c03SkelFetch = skelFetch := rfl
/-- `DeletingComposedResourceGarbageCollector.GarbageCollectComposedResources` -/
theorem skeleton_gc_fn : Xp.Gen.c03SkelGcFn = skelGcFn := rfl
/-- `GarbageCollectingAssociator.AssociateTemplates` -/
theorem skeleton_associate : Xp.Gen.c03SkelAssociate = skelAssociator := rfl
/-- `ExistingComposedResourceObserver.ObserveComposedResources` -/
theorem skeleton_observe : Xp.Gen.c03SkelObserve = skelObserver := rfl
/-- `FunctionComposer.Compose` -/
theorem skeleton_compose_fn : Xp.Gen.c03SkelComposeFn = skelComposeFn := rfl
/-- the bound used by `runFunctionTop` is the constant of the source tree (and the one the C04 model uses) -/
theorem max_iterations_tied : Xp.Gen.c03MaxRequirementsIterations = Xp.Gen.maxRequirementsIterations := rfl

/-! ### `RunFunction` and `Fetch`, call by call, under every fault plan -/

/-- `RunFunction` (with every `Fetch` it performs) only reads: under every fault plan the
cluster is the same at every instant. (So is it for every program over `fsem`, whose two requests are
reads: what this records is that `RunFunction` needs no other request.) -/
theorem run_function_never_writes (f : XFn) (order : Reqs → Reqs) (fuel : Nat) (req : Xp.C04.Request) (prev : Option Reqs)
    (tr : List Xp.C04.Request) (plan : Plan) (k : Nat) (cl : List Xp.C04.ClusterObj) :
    ∀ s' ∈ reach fsem plan k (runFunctionP f order fuel req prev tr) cl, s' = cl :=
  reach_of_inert fsem plan k _ cl fun r _ => fexec_fst cl r

/-- **An answer is accepted only if it is fatal or its requirements equal the previous round's**
— under every fault plan, for every function, every map order and every bound: what
`RunFunction` returns is the function's answer to the last request it was sent; every earlier
round's answer was non-fatal, had requirements different from its predecessor's, all of which
were fetched, and the next request carried exactly the cluster's answers to them (`Rounds`); and
at most `MaxRequirementsIterations + 1` requests were sent. -/
theorem run_function_accepts_only_stable (f : XFn) (order : Reqs → Reqs) (plan : Plan) (cl : List Xp.C04.ClusterObj)
    (req : Xp.C04.Request) (tr' : List Xp.C04.Request) (rsp : Rsp)
    (h : (run fsem plan 0 (runFunctionTop f order req) cl).2 = some (tr', .ok rsp)) :
    ∃ n rq pv, Rounds f cl order n req none rq pv ∧ f rq = some rsp ∧
      (Xp.C04.hasFatal rsp.base.results = true ∨ rsp.reqs = pv) ∧
      n ≤ Xp.Gen.c03MaxRequirementsIterations ∧ tr'.length = n + 1 := by
  obtain ⟨_, ⟨_, _, hok⟩, _⟩ := returned_of_run f order cl _ req none [] plan 0 h
  obtain ⟨n, rq, pv, h1, h2, h3, h4, h5⟩ := hok rsp rfl
  exact ⟨n, rq, pv, h1, h2, h3, Nat.lt_succ_iff.mp h4, by simpa using h5⟩

/-- the requirements an accepted, non-fatal answer is compared with are those of the previous
round's (non-fatal) answer — or, in the first round, the nil requirements the loop starts with -/
theorem run_function_previous_round {f : XFn} {cl : List Xp.C04.ClusterObj} {order : Reqs → Reqs} {n : Nat}
    {req rq : Xp.C04.Request} {pv : Option Reqs} (h : Rounds f cl order n req none rq pv) :
    n = 0 ∧ pv = none ∨ ∃ rq0 rsp0, f rq0 = some rsp0 ∧ rsp0.reqs = pv ∧ Xp.C04.hasFatal rsp0.base.results = false :=
  rounds_prev h

/-- **The bound holds however the call ends** (answer, error, any fault plan): the function is
sent at most `MaxRequirementsIterations + 1` requests. -/
theorem run_function_bounded (f : XFn) (order : Reqs → Reqs) (plan : Plan) (cl : List Xp.C04.ClusterObj)
    (req : Xp.C04.Request) (tr' : List Xp.C04.Request) (r : RunResult)
    (h : (run fsem plan 0 (runFunctionTop f order req) cl).2 = some (tr', r)) :
    tr'.length ≤ Xp.Gen.c03MaxRequirementsIterations + 1 := by
  obtain ⟨_, ⟨hlen, _⟩, _⟩ := returned_of_run f order cl _ req none [] plan 0 h
  simpa using hlen

/-- **A failed read of an extra resource is never swallowed.** If any Get / List issued by
`RunFunction` is answered with an error (fault `fail` or `conflict`, at any call index), the call
ends in an error — never in an answer computed from partial extra resources. -/
theorem run_function_fault_never_swallowed (f : XFn) (order : Reqs → Reqs) (fuel : Nat) (req : Xp.C04.Request)
    (prev : Option Reqs) (tr : List Xp.C04.Request) (plan : Plan) (k : Nat) (cl : List Xp.C04.ClusterObj)
    (hf : ∃ e ∈ callLog fsem plan k (runFunctionP f order fuel req prev tr) cl, e.2.1 = .fail ∨ e.2.1 = .conflict)
    (t : List Xp.C04.Request) (r : RunResult)
    (hr : (run fsem plan k (runFunctionP f order fuel req prev tr) cl).2 = some (t, r)) : r = .err := by
  obtain ⟨_, ⟨_, herr, _⟩, hfault⟩ := returned_of_run f order cl fuel req prev tr plan k hr
  exact herr (hfault hf)

/-- **The call-by-call model refines to the pure interpreter.** On a fault-free run, for a
function of the C04 model (whose selectors match by name or by labels, not both), `runFunctionP`
sends the same requests and ends the same way as `Xp.C04.runFetching` — so the pipeline theorems
above (`fetching_errs_iff`, `pipeline_fails_iff`, …) speak about the loop modelled here. -/
theorem run_function_refines_interpreter (f : Xp.C04.Fn) (hwf : ∀ rq r, f rq = some r → WFReqs r.reqs)
    (cl : List Xp.C04.ClusterObj) (fuel : Nat) (req : Xp.C04.Request) :
    (run fsem Plan.allOk 0 (runFunctionP (liftFn f) id fuel req none []) cl).2 =
      some ((Xp.C04.runFetching cl f fuel req []).1, liftOutcome (Xp.C04.runFetching cl f fuel req []).2) := by
  rw [run_allOk_snd]
  exact congrArg some ((okVal_runFunctionP f hwf cl fuel req [] [] fun _ hp => nomatch hp).trans
    (by rw [List.nil_append]))

/-- a by-name `Fetch` of a missing object hands the function a nil entry and is NOT an error;
unknown / nil selectors are errors without any call -/
theorem fetch_outcomes (cl : List Xp.C04.ClusterObj) (kind n : String) (c : Option Fetched → Prog FReq FResp Nat) (k : Nat) :
    (cl.any (fun o => o.kind = kind ∧ o.name = n) = false →
      run fsem Plan.allOk k (fetchP (some ⟨kind, .name n⟩) c) cl = run fsem Plan.allOk (k + 1) (c (some none)) cl) ∧
    fetchP (some ⟨kind, .unset⟩) c = c none ∧ fetchP none c = c none := by
  refine ⟨fun h => ?_, rfl, rfl⟩
  rw [fetchP, run_ok fsem Plan.allOk k _ _ cl rfl]
  simp only [fsem, fexec, h]
  rfl

/-! non-vacuity of the `RunFunction` theorems -/

/-- asks for `x` by name in every round: the second answer repeats the requirements and is accepted -/
def exStableFn : XFn := fun rq =>
  some ⟨⟨rq.desired, none, [], [], [], []⟩, some [("x", some ⟨"K", .name "n"⟩)]⟩
/-- present-but-empty requirements: not equal to the nil requirements of round 0, so a second call is made -/
def exEmptyFn : XFn := fun rq => some ⟨⟨rq.desired, none, [], [], [], []⟩, some []⟩
def exReq : Xp.C04.Request := ⟨[], [], none, [], [], "", []⟩
def exCluster : List Xp.C04.ClusterObj := [⟨"K", "n", []⟩]

/-- fault-free: two calls, one Get, accepted (hypothesis of `run_function_accepts_only_stable`) -/
example : ∃ tr rsp, (run fsem Plan.allOk 0 (runFunctionTop exStableFn id exReq) exCluster).2 = some (tr, .ok rsp) ∧
    tr.length = 2 ∧ (tr.getLast?.map (·.extra)) = some [("x", some ["n"])] := ⟨_, _, rfl, rfl, rfl⟩
/-- the same with the Get failing: the call ends in an error (hypothesis of `run_function_fault_never_swallowed`) -/
example : (callLog fsem (Plan.at 0 .fail) 0 (runFunctionTop exStableFn id exReq) exCluster).map (·.2.1) = [.fail] ∧
    ∃ tr, (run fsem (Plan.at 0 .fail) 0 (runFunctionTop exStableFn id exReq) exCluster).2 = some (tr, .err) :=
  ⟨rfl, _, rfl⟩
/-- present-but-empty requirements cost a second call (nil ≠ empty under `reflect.DeepEqual`) -/
example : ∃ tr rsp, (run fsem Plan.allOk 0 (runFunctionTop exEmptyFn id exReq) exCluster).2 = some (tr, .ok rsp) ∧ tr.length = 2 :=
  ⟨_, _, rfl, rfl⟩
/-- `Rounds` with one round played -/
example : Rounds exStableFn exCluster id 1 exReq none { exReq with extra := [("x", some ["n"])] } (some [("x", some ⟨"K", .name "n"⟩)]) :=
  Rounds.next (f := exStableFn) ⟨⟨[], none, [], [], [], []⟩, some [("x", some ⟨"K", .name "n"⟩)]⟩ rfl rfl (by decide)
    (by intro p hp; simp at hp; subst hp; rfl) (Rounds.here _ _)
/-- the hypothesis of `run_function_refines_interpreter` is met (by a function that asks for nothing) -/
example : ∀ rq r, exOkFn rq = some r → WFReqs r.reqs := by
  intro rq r h p hp; simp [exOkFn] at h; subst h; cases hp

/-! ### the function composer's collector with its controller check -/

/-- **The composer built on the collector WITH its controller check is the composer of the theorems
above**: the real observer never lets a foreign-controlled resource into the observation, so the
check never decides. Every theorem about `composeFn` / `reconcile (.fn …)` (no write on failure,
only undesired resources targeted, exactness) is therefore a theorem about the code including
`errFmtControllerMismatch`. -/
theorem compose_with_controller_check_eq (lrv : Nat) (refs : List Ref) (out : Obs → FnOut) (ch : Choices)
    (hgc : ∀ l x, x ∈ ch.gcOrder l → x ∈ l) :
    composeFnFull lrv refs out ch = composeFn lrv refs out ch := by
  refine observeFn_congr lrv (composeTail (gcFnFull lrv) lrv out ch) (composeTail (gcFn lrv) lrv out ch)
    (fun obs hobs => ?_) refs [] (fun p hp => nomatch hp)
  cases ho : out obs with
  | failed => rw [composeTail_failed ho, composeTail_failed ho]
  | desired ds =>
    rw [composeTail_desired ho, composeTail_desired ho]
    refine congrArg (renderFn lrv obs ds ch.fresh []) (funext fun named => gcFnFull_eq_gcFn lrv _ _ fun o ho => ?_)
    obtain ⟨p, hp, rfl⟩ := List.mem_map.mp (hgc _ _ ho)
    exact hobs p (List.mem_filter.mp hp).1

/-- **The collector itself never touches what someone else controls**, whatever it is handed
(even a list no real observation can be): every update / delete request it can issue, under any
fault plan, targets an entry that is not controlled by another owner. -/
theorem gc_collector_spares_foreign (lrv : Nat) (os : List CObj) (k : P) (plan : Plan) (i : Nat) (s : St)
    (hk : Issues NoGc k) :
    ∀ e ∈ callLog sem plan i (gcFnFull lrv os k) s, ∀ kind name,
      (e.1 = .delete kind name ∨ e.1 = .gcUpdate kind name) → ∃ o ∈ os, o.kind = kind ∧ o.name = name ∧ o.ctrl ≠ .other := by
  refine Emits.callLog (Q := GcOnly fun kind name => ∃ o ∈ os, o.kind = kind ∧ o.name = name ∧ o.ctrl ≠ .other)
    (Issues.emits ?_ s) plan i
  exact issues_gcFnFull lrv k (GcOnly.of_noGc trivial) (hk.mono fun _ => GcOnly.of_noGc) os
    fun o ho hc => GcOnly.pair ⟨o, ho, rfl, rfl, hc⟩

/-- a list with a foreign-controlled entry between two collectable ones: the first is collected,
the collection stops at the foreign one, the third is not touched -/
example : (callLog sem Plan.allOk 0 (gcFnFull 3 [gcObjB, gcObjF, gcObjA] (.ret .success)) gcStore).map (·.1) =
    [.gcUpdate "KB" "xr-b", .delete "KB" "xr-b", .statusUpdate (some 3)] := by rfl

example : composeFnFull 3 gcStore.refs gcOut gcCh = composeFn 3 gcStore.refs gcOut gcCh :=
  compose_with_controller_check_eq 3 _ gcOut gcCh (fun _ _ h => h)

end Xp.C03
