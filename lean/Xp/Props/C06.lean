import Xp.Proofs.C06Ok
import Xp.Proofs.C06Run
import Xp.Proofs.C06Race
import Xp.Proofs.C06Mf
import Xp.Gen.C06
/-
C06 — a claim binds exactly one XR and never hijacks another claim's XR.

System (Xp/Model/C06.lean): one claim-controller thread running `reconcile cfg`
(both syncers; `cfg` = syncer, which cached version of the claim the read returns,
name oracle), interleaved at API-call granularity with the
environment `Env` (XR controller / GC / user rewriting or removing XRs without ever
changing spec.claimRef, or creating one without claimRef: `Env.xrCreate`, AlreadyExists on the client-side Create;
user editing or deleting the claim, possibly rewriting apiVersion/kind of spec.resourceRef, without changing
spec.resourceRef.name), every call possibly failing — `callErr` (not applied) and `callLost` (applied, the reply
lost) answer an error of ANY class (`Err`: NotFound, Conflict, Invalid, AlreadyExists, other; Forbidden, transport
timeouts and context deadlines are `other`: the code has no branch for them), except that an XR read answers
NotFound only where the name really was absent, in the stored state or an older one served by the cache
(`admissible`) —, and crashes/restarts at any point
(`start` drops the in-flight reconcile and begins a new one with arbitrary `cfg` — including
another XR version `cfg.xrt` of the controller; crash-after = `callOk` then `start`).
`Reach s0 sys` = `sys` is reachable from the store `s0`. The theorems hold for every
reachable state, i.e. over ALL schedules, fault plans, cache lags and histories.

All reads go through the cache, as in the real controller (`engine.GetCached()`): the claim
read may return ANY version the claim ever had (`pick`), and every XR read — the Get in
Reconcile, the Get inside the client-side Apply, the availability Gets of the name
generator — may return ANY earlier state of that name, including "absent" (`xpick`). No freshness
of XR reads is assumed, and none is needed in the environment the property
fixes: an XR bound to another claim has been so in every state its name ever had (nobody but
this controller sets a claimRef, and it only writes its own), hence a stale
read that shows "absent / unbound / ours" still proves "not foreign now" (`Inv.xfor`,
`not_foreign_of_hist`). What remains outside is an environment in which ANOTHER claim's
controller binds XRs: there, between a read and each of the three requests that carry no
resourceVersion (`unconditionalOn`: the forced apply of the server-side syncer, the Delete, the merge patch of
an XR the Get did not find), the XR can become foreign (recorded limit, outside the property's quantifier).

References are full references. A claim's `spec.resourceRef` is (name, group, version, kind); an
XR's `spec.claimRef` and the claim's own identity `St.me` (= `cm.GetReference()`) are (name,
namespace, group, version, kind). "The claim references an XR" is a function of the reference's
NAME only, as in the code (`Claim.refName`), so the one-XR theorems hold whatever group, version
or kind the recorded reference carries — also when the controller's XR version (`Cfg.xrt`,
arbitrary at every `start`) changes between reconciles and when somebody rewrites the type of the
reference (`Env.claimWrite` only fixes the name). "The XR is bound to this claim" is equality of
all five components (`cmp.Equal` on reference.Claim): `no_hijack` speaks about every XR whose
claimRef differs from `St.me` in ANY of them (`no_hijack_components`), e.g. the claim with the
same name in another namespace. A `uid` key in a claimRef is not a component the code looks at
(`unbound_ignores_uid`). Not varied: the claim's own apiVersion (`St.me` is fixed; if the claim
version is switched the code as it stands refuses its own XR — no second XR, nothing written).

Other claims. `St.others` holds the other claims of the kind; the same long-lived controller reconciles
them (`swap`), and `other_claims_reconcile_is_environment` shows that, seen from any one claim, a
reconcile of another claim is a sequence of environment steps of a world with peers (`St.peers = true`,
`Env.peerWrite`: XRs created, rebound, unbound by another claim's controller at any moment; never bound to
the viewing claim). Every theorem that does not assume `peers = false` therefore holds for each claim
of such a world: `ref_set_once`, `one_xr`, `one_xr_count`, `created_names_unique`,
`created_name_any_ref_type`, `ref_before_create`, `next_call_safe`, and `no_hijack_guarded` (the writes
that carry the XR's resourceVersion never hit a foreign-bound XR). `no_hijack` for ALL writes needs
`peers = false` (the environment the property fixes); `raced_*_hijacks_with_peers` show that with peers
each of the three unconditional requests does rebind / delete another claim's XR (finding).

`Init s0` (Xp/Proofs/C06Run.lean) = admissible initial store; `Init.single` builds it from a claim with a single
version and XRs without history.
-/
namespace Xp.C06

/-- A claim update carries the resourceVersion of the version that was read; if that is
not the stored version (stale cache), the update is rejected and nothing changes. -/
theorem stale_update_rejected (s : St) (cur c : Claim) (hc : s.claim = some cur) (hrv : c.rv ≠ cur.rv) :
    exec s (.updClaim c) = (s, .err .conflict) := by
  simp [exec, hc, hrv]

/-- The NAME in `spec.resourceRef` is set-once: in every reachable state, a newer stored version of
the claim references an XR of the same name as every older one, and any two versions that carry a
reference name the same XR — whatever group, version and kind the two references carry (those
may differ: the syncers rewrite them to the controller's current XR type). -/
theorem ref_set_once {s0 : St} (h0 : Init s0) {sys : Sys} (hr : Reach s0 sys) :
    (∀ a ∈ sys.st.hist, ∀ b ∈ sys.st.hist, a.rv < b.rv → ∀ r, a.ref = some r → ∃ r', b.ref = some r' ∧ r'.name = r.name) ∧
    (∀ a ∈ sys.st.hist, ∀ b ∈ sys.st.hist, ∀ r r', a.ref = some r → b.ref = some r' → r.name = r'.name) := by
  have hi := (reach_inv h0.inv hr).1
  refine ⟨?_, fun a ha b hb r r' hn hm => hist_ref_unique hi.mono ha hb (refName_of_ref hn) (refName_of_ref hm)⟩
  intro a ha b hb hlt r hn
  have key : b.refName = some r.name := by
    rcases pairwise_mem_cases hi.mono ha hb with e | ⟨h, _⟩ | ⟨_, h⟩
    · subst e; omega
    · omega
    · exact h _ (refName_of_ref hn)
  unfold Claim.refName at key
  cases hb' : b.ref with
  | none => rw [hb'] at key; cases key
  | some r' => rw [hb'] at key; exact ⟨r', rfl, Option.some.inj key⟩

/-- the request a program issues first -/
def firstReq : P → Option Req
  | .call r _ => some r
  | .ret _ => none

/-- A claim whose `spec.resourceRef` carries the name `n` under ANY group `g`, version `v` and kind
`k` — the controller's current XR apiVersion, another served version of the same kind (the XRD's
referenceable version was switched and the controller restarted for `cfg.xrt`), another group,
another kind, or none at all — is treated as bound to `n`: Reconcile reads XR `n`; the server-side
syncer updates the claim with, then applies, `n`; the client-side syncer applies `n`, after an
Update(claim) that records `n` again if the stored reference is not literally the proposed one.
No path draws a fresh name. -/
theorem recorded_name_reused (cfg : Cfg) (cm : Claim) (xr : Option XR) (n : Name) (g v k : String) :
    firstReq (withClaim cfg { cm with ref := some ⟨n, g, v, k⟩ }) = some (.getXR n (cfg.xpick 0)) ∧
    syncSSA cfg { cm with ref := some ⟨n, g, v, k⟩ } = ssaBind cfg { cm with ref := some ⟨n, g, v, k⟩ } n ∧
    (syncCSA cfg { cm with ref := some ⟨n, g, v, k⟩ } xr = csaApply cfg xr { cm with ref := some ⟨n, g, v, k⟩ } n ∨
     syncCSA cfg { cm with ref := some ⟨n, g, v, k⟩ } xr = csaBindNew cfg xr { cm with ref := some ⟨n, g, v, k⟩ } n) := by
  refine ⟨rfl, rfl, ?_⟩
  simp only [syncCSA]
  split
  · exact Or.inl rfl
  · exact Or.inr rfl

/-- At every instant of every execution at most one XR is bound to the claim (carries a claimRef
equal to the claim's reference in name, namespace, group, version and kind), and it is the one the
claim's stored `spec.resourceRef` names — whatever group, version and kind that reference carries. -/
theorem one_xr {s0 : St} (h0 : Init s0) {sys : Sys} (hr : Reach s0 sys) :
    (∀ n m, boundAt sys.st n → boundAt sys.st m → n = m) ∧
    (∀ c (r : XRef), sys.st.claim = some c → c.ref = some r → ∀ n, boundAt sys.st n → n = r.name) := by
  have hi := (reach_inv h0.inv hr).1
  refine ⟨fun n m hn hm => acked_unique hi (hi.bound n hn) (hi.bound m hm), ?_⟩
  intro c r hc hr' n hn
  exact acked_unique hi (hi.bound n hn) ⟨c, cur_mem hi hc, refName_of_ref hr'⟩

/-- the same as a count: among any duplicate-free list of XR names at most one is bound -/
theorem one_xr_count {s0 : St} (h0 : Init s0) {sys : Sys} (hr : Reach s0 sys) (names : List Name) (hnd : names.Nodup) :
    (names.filter (isBound sys.st)).length ≤ 1 := by
  have huniq := (one_xr h0 hr).1
  have hnd' : (names.filter (isBound sys.st)).Nodup := hnd.sublist List.filter_sublist
  match hl : names.filter (isBound sys.st) with
  | [] => simp
  | [_] => simp
  | a :: b :: rest =>
    exfalso
    have ha : a ∈ names.filter (isBound sys.st) := by rw [hl]; simp
    have hb : b ∈ names.filter (isBound sys.st) := by rw [hl]; simp
    have hab : a = b := huniq a b ((isBound_iff _ _).mp (List.mem_filter.mp ha).2) ((isBound_iff _ _).mp (List.mem_filter.mp hb).2)
    rw [hl] at hnd'
    subst hab
    simp at hnd'

/-- Every XR the claim controller ever creates, over the whole history (all retries after
all interruptions, all stale reads, all restarts of the controller under another XR version), has
one and the same name, and that is the name durably recorded in the claim's `spec.resourceRef`:
a retry reuses it, whatever group, version and kind the recorded reference carries. -/
theorem created_names_unique {s0 : St} (h0 : Init s0) {sys : Sys} (hr : Reach s0 sys) :
    (∀ n m, Ev.create n ∈ sys.st.trace → Ev.create m ∈ sys.st.trace → n = m) ∧
    (∀ n c (r : XRef), Ev.create n ∈ sys.st.trace → sys.st.claim = some c → c.ref = some r → n = r.name) := by
  have hi := (reach_inv h0.inv hr).1
  have key : ∀ n, Ev.create n ∈ sys.st.trace → acked sys.st n :=
    fun n hn => (hi.evOk hn).elim (hi.ackHist n) (hi.p0 n)
  refine ⟨fun n m hn hm => acked_unique hi (key n hn) (key m hm), ?_⟩
  intro n c r hn hc hr'
  exact acked_unique hi (key n hn) ⟨c, cur_mem hi hc, refName_of_ref hr'⟩

/-- the same with the components of the recorded reference spelled out: ANY group, version and kind -/
theorem created_name_any_ref_type {s0 : St} (h0 : Init s0) {sys : Sys} (hr : Reach s0 sys)
    (c : Claim) (nm : Name) (g v k : String) (hc : sys.st.claim = some c) (href : c.ref = some ⟨nm, g, v, k⟩)
    (n : Name) (hn : Ev.create n ∈ sys.st.trace) : n = nm :=
  (created_names_unique h0 hr).2 n c _ hn hc href

/-- In every execution prefix, the creation of XR `n` (Create by the client-side syncer,
apply-create by the server-side one) is preceded by an acknowledged claim update carrying
`spec.resourceRef.name = n` — or the claim already carried that reference in a version
stored before the start. (The trace is newest-first: `pre` is what happened before.) -/
theorem ref_before_create {s0 : St} (h0 : Init s0) {sys : Sys} (hr : Reach s0 sys)
    (post pre : List Ev) (n : Name) (hsplit : sys.st.trace = post ++ Ev.create n :: pre) :
    Ev.ack n ∈ pre ∨ acked s0 n :=
  (traceOk_at post (hsplit ▸ (reach_inv h0.inv hr).1.trace)).1 n rfl

/-- In a world without other claims' controllers (`s0.peers = false`: the environment the property
fixes; XR reads may be stale): no write and no delete of the claim controller ever takes effect on an
XR whose stored `spec.claimRef` is not exactly this claim's reference: whenever such a call — conditional
on the resourceVersion (`xrWriteG`) or not (`xrWrite`) — was applied to an XR carrying a claimRef `r`,
then `r` is the claim's own reference. -/
theorem no_hijack {s0 : St} (h0 : Init s0) (hp : s0.peers = false) {sys : Sys} (hr : Reach s0 sys) (n : Name) (r : CRef) :
    Ev.xrWrite n (some r) ∈ sys.st.trace ∨ Ev.xrWriteG n (some r) ∈ sys.st.trace → r = s0.me := by
  intro h
  have hi := (reach_inv h0.inv hr).1
  obtain ⟨hme, hpe⟩ := reach_me_peers hr
  rw [← hme]
  exact h.elim (fun h => hi.evOk h (hpe.trans hp) r rfl) (fun h => hi.evOk h r rfl)

/-- In EVERY world — also one in which other claims' controllers create XRs and bind XRs to their
claims at any moment (`s0.peers = true`, `Env.peerWrite`) — the writes that carry the resourceVersion of
the XR as read (the managed-fields JSON patch; the client-side syncer's merge patch of an XR that
Reconcile's Get found) never take effect on an XR whose stored claimRef names another claim: the bound
check passed on the state with that resourceVersion, and the server accepts the write only on a state
with the same claimRef. What is NOT protected there is exactly the unconditional requests (`xrWrite`:
Delete, the server-side syncer's forced apply, the client-side merge patch of an XR that Reconcile's Get
did not find): see `raced_*` below. -/
theorem no_hijack_guarded {s0 : St} (h0 : Init s0) {sys : Sys} (hr : Reach s0 sys) (n : Name) (r : CRef) :
    Ev.xrWriteG n (some r) ∈ sys.st.trace → r = s0.me := by
  exact fun h => ((reach_inv h0.inv hr).1.evOk h r rfl).trans (reach_me_peers hr).1

/-- component-wise: an XR whose claimRef differs from this claim's reference in ANY component
`cmp.Equal` looks at — the name, the namespace (the same-named claim of another namespace), the
group, the version or the kind — is never written or deleted by this claim's controller. -/
theorem no_hijack_components {s0 : St} (h0 : Init s0) (hp : s0.peers = false) {sys : Sys} (hr : Reach s0 sys) (n : Name) (r : CRef)
    (hdiff : r.name ≠ s0.me.name ∨ r.ns ≠ s0.me.ns ∨ r.group ≠ s0.me.group ∨ r.version ≠ s0.me.version ∨
      r.kind ≠ s0.me.kind) : Ev.xrWrite n (some r) ∉ sys.st.trace ∧ Ev.xrWriteG n (some r) ∉ sys.st.trace := by
  have key : ¬ (Ev.xrWrite n (some r) ∈ sys.st.trace ∨ Ev.xrWriteG n (some r) ∈ sys.st.trace) := by
    intro h
    have := no_hijack h0 hp hr n r h
    subst this
    rcases hdiff with h | h | h | h | h <;> exact h rfl
  exact ⟨fun h => key (Or.inl h), fun h => key (Or.inr h)⟩

/-- the bound check of Reconcile as a function of the five components -/
theorem unbound_iff_components (cm : Claim) (x : XR) :
    unbound cm x = true ↔ ∃ r, x.cref = some r ∧ (r.name ≠ cm.id.name ∨ r.ns ≠ cm.id.ns ∨ r.group ≠ cm.id.group ∨
      r.version ≠ cm.id.version ∨ r.kind ≠ cm.id.kind) := by
  unfold unbound
  cases hc : x.cref with
  | none => simp
  | some r =>
    obtain ⟨a, b, c, d, e⟩ := r
    cases hid : cm.id with
    | mk a' b' c' d' e' =>
      simp only [bne_iff_ne, ne_eq, Option.some.injEq, CRef.mk.injEq, exists_eq_left', Decidable.not_and_iff_not_or_not]

/-- a `uid` (or any other key reference.Claim has no field for) in the XR's claimRef is not part of
the comparison: it neither makes the XR foreign nor bound -/
theorem unbound_ignores_uid (cm : Claim) (x : XR) (b : Bool) : unbound cm { x with crefUid := b } = unbound cm x := rfl

/-- The same, stated on the requests: whenever a call of the in-flight reconcile is about to be applied to the
store, it satisfies its guarantee `G`. In a world without other claims' controllers it is not addressed to a
foreign-bound XR (with peers only: to a name that was seen not foreign, `NF`, `SeenRv`; cf.
`unconditional_request_window`); a claimRef it writes is this claim's own; and the name of the XR it writes or
deletes is durably recorded in the claim. -/
theorem next_call_safe {s0 : St} (h0 : Init s0) {s : St} {r : Req} {k : Resp → P}
    (hr : Reach s0 ⟨s, some (.call r k)⟩) : G s r :=
  ((reach_inv h0.inv hr).2 _ rfl s (Fut.refl s) (reach_inv h0.inv hr).1).1

/-- the XR a write or delete request is addressed to -/
def xrTarget : Req → Option Name
  | .upgradeXR n _ _ | .deleteXR n _ | .createXR n _ _ | .patchXR n _ _ | .applyXR n _ => some n
  | _ => none

/-- Clause "a retry reuses that name", on the requests (monitor C06:write-off-ref as a theorem): whenever ANY write
or delete of the in-flight reconcile — the managed-fields patch, Delete, Create, merge patch, forced apply — is
about to be applied, the XR it is addressed to is the one whose name is durably recorded in the claim: some stored
version of the claim carries that name, and it is the name of the stored `spec.resourceRef` (whatever group,
version and kind that reference carries) if the claim still has one. In every world, over all schedules, fault
plans, cache lags (a stale claim read included) and histories. -/
theorem writes_only_to_recorded_name {s0 : St} (h0 : Init s0) {s : St} {r : Req} {k : Resp → P}
    (hr : Reach s0 ⟨s, some (.call r k)⟩) (n : Name) (hw : xrTarget r = some n) :
    acked s n ∧ ∀ c (ref : XRef), s.claim = some c → c.ref = some ref → ref.name = n := by
  have hg := next_call_safe h0 hr
  have hi := (reach_inv h0.inv hr).1
  have hack : acked s n := by
    cases r with
    | upgradeXR m rv d => obtain ⟨_, hack⟩ := hg; cases hw; exact hack
    | deleteXR m fg => obtain ⟨_, hack⟩ := hg; cases hw; exact hack
    | createXR m b c => obtain ⟨hack, _⟩ := hg; cases hw; exact hack
    | patchXR m rv c => obtain ⟨⟨⟨hack, _⟩, _⟩, _⟩ := hg; cases hw; exact hack
    | applyXR m c => obtain ⟨⟨hack, _⟩, _⟩ := hg; cases hw; exact hack
    | _ => cases hw
  refine ⟨hack, fun c ref hc href => ?_⟩
  exact acked_unique hi ⟨c, cur_mem hi hc, refName_of_ref href⟩ hack

/-- ServerSideCompositeSyncer.Sync, for EVERY configuration, claim copy (however stale), name oracle and EVERY
sequence of replies (errors of any class at any call): the forced apply of the XR — the only XR write of the
server-side Sync, which creates the XR or rebinds it — is issued only after an `Update(claim)` of the same Sync
that the server accepted. That Update carries the resourceVersion of the copy read (`stale_update_rejected`: a
stale copy is answered Conflict, a copy of a claim that is gone NotFound), so the Sync of a reconcile working on a
stale copy of the claim — also one from before the claim's deletion or re-creation — never writes an XR (what
Reconcile itself sends before Sync, the managed-fields patch and the Delete, is not covered). This is the
optimistic-concurrency check of the whole reconcile. `skeleton_ssa_sync` ties only the order of the calls in the
source: an Update skipped at run time when the claim looks unchanged would leave it true, and is what the monitors
C06:xr-for-nonexistent-claim / C06:second-xr watch for. (The CLIENT-side Sync has no such property in the
code as it stands: finding C06:xr-created-from-stale-claim-without-claim-write.) -/
theorem ssa_sync_writes_xr_only_after_accepted_claim_update (reply : Req → Resp) (fuel : Nat) (cfg : Cfg) (cm : Claim) :
    applyAfterUpd reply fuel false (syncSSA cfg cm) = true :=
  (afterUpd_syncSSA cfg cm).run reply fuel

/-! ### regenerated facts: the modelled Go functions still have the modelled call skeleton -/

/-- `Reconcile`: Get claim, Get XR, unbound check, Upgrade, [Delete, RemoveFinalizer] | [AddFinalizer, Sync], … -/
theorem skeleton_reconcile : Xp.Gen.c06SkelReconcile = skelReconcile := rfl

/-- server-side `Sync`: GenerateName, Update(claim), then Patch(XR), then Status().Update(claim) -/
theorem skeleton_ssa_sync : Xp.Gen.c06SkelSsaSync = skelSsaSync := rfl

/-- client-side `Sync`: GenerateName, Update(claim), then Apply(XR), Status().Update(claim), Update(claim) -/
theorem skeleton_csa_sync : Xp.Gen.c06SkelCsaSync = skelCsaSync := rfl

theorem skeleton_upgrade : Xp.Gen.c06SkelUpgrade = skelUpgrade := rfl

theorem skeleton_generate_name : Xp.Gen.c06SkelGenerateName = skelGenerateName := rfl

/-- crossplane-runtime `APIPatchingApplicator.Apply` (the module source the harness is linked against): [Create
for a nameless object,] Get, Create on NotFound, [ApplyOptions,] Patch — what `csaApply` mirrors -/
theorem skeleton_apply : Xp.Gen.c06SkelApply = skelApply := rfl

/-- crossplane-runtime `APIFinalizer.AddFinalizer` / `RemoveFinalizer`: one Update each -/
theorem skeleton_add_finalizer : Xp.Gen.c06SkelAddFinalizer = skelAddFinalizer := rfl

theorem skeleton_remove_finalizer : Xp.Gen.c06SkelRemoveFinalizer = skelRemoveFinalizer := rfl

/-- offered/reconciler.go: under features.EnableBetaClaimSSA exactly the server-side syncer AND the patching
managed-fields upgrader are wired (`Cfg.ssa` stands for both: `syncWith`, `upgradeOf`) … -/
theorem wiring_ssa : Xp.Gen.c06WiringSSA = wiringSSA := rfl

/-- … and claim.NewReconciler's defaults are the client-side syncer and the Nop upgrader -/
theorem wiring_default : Xp.Gen.c06WiringDefault = wiringDefault := rfl

/-- the field manager `Upgrade` looks for is claim.FieldOwnerXR -/
theorem field_owner_tied : Xp.Gen.c06FieldOwnerXR = ssaManager := rfl

/-! #### the declared skeletons of the syncers are the request sequences of the model's programs

`pathReqs (okReply …)` lists the requests a model program issues when every call succeeds; mapped to client
verbs they ARE the declared (and hence, by `skeleton_*`, the regenerated) skeletons, for every configuration,
claim, XR and name. -/

/-- server-side `Sync` = GenerateName, then the three requests of `ssaBind` -/
theorem skeleton_ssa_sync_from_model (cfg : Cfg) (cm : Claim) (x : XR) (n : Name) :
    skelSsaSync = "names.GenerateName" :: (pathReqs (okReply cm x true) 3 (ssaBind cfg cm n)).map reqVerb := rfl

/-- client-side `Sync` = GenerateName, the Update of `csaBindNew`, Apply, the two requests of `csaPost` -/
theorem skeleton_csa_sync_from_model (cfg : Cfg) (xr : Option XR) (cm : Claim) (x : XR) (n : Name) :
    skelCsaSync = "names.GenerateName" :: (pathReqs (okReply cm x false) 1 (csaBindNew cfg xr cm n)).map reqVerb ++
      "client.Apply" :: (pathReqs (okReply cm x false) 2 (csaPost cm)).map reqVerb := rfl

/-- `Apply` = [the nameless-object Create,] the two paths of `csaApply`: Get + Create (NotFound), Get + Patch -/
theorem skeleton_apply_from_model (cfg : Cfg) (cm : Claim) (x : XR) (n : Name) :
    skelApply = "client.Create" :: ((pathReqs (okReply cm x false) 2 (csaApply cfg none cm n)).map reqVerb ++
      ((pathReqs (okReply cm x true) 2 (csaApply cfg none cm n)).map reqVerb).drop 1) := rfl

/-- `Upgrade` = one Patch per constructor of `UpDec`, the removal first (source order of the switch) -/
theorem skeleton_upgrade_from_model (n : Name) (rv i : Nat) :
    skelUpgrade = [UpDec.removeAt i, UpDec.clear].map fun d => reqVerb (.upgradeXR n rv d) := rfl

/-- the object the client-side syncer asks Apply for, built from the XR as read: claimRef and claim labels
set to this claim's (SetClaimReference replaces the whole reference: a uid key goes), everything else —
including the resourceVersion — as read -/
def csaDesired (me : CRef) (x : XR) : XR := { x with cref := some me, crefUid := false, lbl := some (me.name, me.ns) }

/-- `AllowUpdateIf(func(old, obj) bool { return !cmp.Equal(old, obj) })` refuses the update (`csaNoop`: no patch
is sent) iff the desired object changes nothing of the XR as read AND that is the current state (same
resourceVersion); an XR that was not read is always patched. -/
theorem csa_allow_update_if (me : CRef) (xr : Option XR) (cur : XR) :
    csaNoop me xr cur = true ↔ ∃ x, xr = some x ∧ csaDesired me x = x ∧ x.rv = cur.rv := by
  cases xr with
  | none => simp [csaNoop]
  | some x =>
    obtain ⟨rv, cref, uid, lbl, fin, del, st, gen, mf⟩ := x
    simp only [csaNoop, csaDesired, Bool.and_eq_true, beq_iff_eq, Bool.not_eq_true', Option.some.injEq, exists_eq_left', XR.mk.injEq,
      and_true, true_and]
    -- `csaNoop` compares the rv and exactly the three fields `csaDesired` sets: the same four equations, associated differently
    constructor
    · rintro ⟨⟨⟨h1, h2⟩, h3⟩, h4⟩; exact ⟨⟨h2.symm, h3.symm, h4.symm⟩, h1⟩
    · rintro ⟨⟨h2, h3, h4⟩, h1⟩; exact ⟨⟨⟨h1, h2.symm⟩, h3.symm⟩, h4.symm⟩

/-- `APIPatchingApplicator.Apply` as the client-side syncer calls it, step by step: Get; on NotFound a Create
that still carries the resourceVersion of the XR as read if there was one (the server rejects it); otherwise,
unless AllowUpdateIf refuses, ONE merge patch that carries the resourceVersion of the XR as read — the rv
precondition — and no resourceVersion at all if Reconcile's Get did not find the XR. -/
theorem csa_apply_steps (cfg : Cfg) (xr : Option XR) (cm1 : Claim) (n : Name) :
    ∃ k, csaApply cfg xr cm1 n = .call (.getXR n (cfg.xpick 1)) k ∧
      firstReq (k (.err .notFound)) = some (.createXR n xr.isSome cm1.id) ∧
      ∀ cur, firstReq (k (.xr cur)) =
        if csaNoop cm1.id xr cur then firstReq (csaPost cm1) else some (.patchXR n (xr.map XR.rv) cm1.id) := by
  refine ⟨_, rfl, rfl, fun cur => ?_⟩
  dsimp only
  split <;> rfl

/-! ### managed fields: the upgrader's decision and its two JSON patches (no oracle)

`PatchingManagedFieldsUpgrader.Upgrade` is inside the model: `upgradeDecision` is its loop and switch over the
manager names of the XR as read, `applyUpDec` the server's answer to the patch on the stored managers. -/

/-- the decision, for ALL manager lists: nothing to do iff the claim manager is there and no before-first-apply
entry is; clear iff the claim manager is not there; otherwise remove the LAST before-first-apply entry -/
theorem upgrade_decision_spec (ssa : String) (mf : List String) :
    (upgradeDecision ssa mf = none ↔ ssa ∈ mf ∧ bfaManager ∉ mf) ∧
    (upgradeDecision ssa mf = some .clear ↔ ssa ∉ mf) ∧
    (∀ i, upgradeDecision ssa mf = some (.removeAt i) ↔
      ssa ∈ mf ∧ mf[i]? = some bfaManager ∧ ∀ k, i < k → mf[k]? ≠ some bfaManager) := by
  rcases decision_cases ssa mf with ⟨e, hs, hb⟩ | ⟨e, hs⟩ | ⟨j, e, hs, hj, hjl⟩ <;> rw [e]
  · exact ⟨⟨fun _ => ⟨hs, hb⟩, fun _ => rfl⟩, ⟨fun h => (nomatch h), fun h => absurd hs h⟩,
      fun i => ⟨fun h => (nomatch h), fun h => absurd (List.mem_of_getElem? h.2.1) hb⟩⟩
  · exact ⟨⟨fun h => (nomatch h), fun h => absurd h.1 hs⟩, ⟨fun _ => hs, fun _ => rfl⟩,
      fun i => ⟨fun h => (nomatch h), fun h => absurd h.1 hs⟩⟩
  · refine ⟨⟨fun h => (nomatch h), fun h => absurd (List.mem_of_getElem? hj) h.2⟩,
      ⟨fun h => (nomatch h), fun h => absurd hs h⟩, fun i => ⟨fun h => ?_, fun h => ?_⟩⟩
    · cases h
      exact ⟨hs, hj, hjl⟩
    · rcases Nat.lt_trichotomy i j with h' | h' | h'
      · exact absurd hj (h.2.2 j h')
      · rw [h']
      · exact absurd h.2.1 (hjl i h')

/-- the patch computed from a state is applicable to THAT state unless it has no managers at all: an XR whose
managers were cleared and that was not applied yet (the reconcile was interrupted between `Upgrade` and the
apply) is answered Invalid by every later `Upgrade` until somebody records a manager -/
theorem upgrade_patch_applicable_iff (ssa : String) (mf : List String) (d : UpDec) (h : upgradeDecision ssa mf = some d) :
    (applyUpDec d mf).isSome = true ↔ mf ≠ [] := by
  cases d with
  | clear => cases mf <;> simp [applyUpDec]
  | removeAt i =>
    obtain ⟨_, hget, _⟩ := ((upgrade_decision_spec ssa mf).2.2 i).mp h
    have hlt : i < mf.length := (List.getElem?_eq_some_iff.mp hget).1
    have hne : mf ≠ [] := by intro e; rw [e] at hlt; exact absurd hlt (by simp)
    simp [applyUpDec, hlt, hne]

theorem upgrade_rejected_without_managers (ssa : String) :
    upgradeDecision ssa [] = some .clear ∧ applyUpDec .clear [] = none := ⟨rfl, rfl⟩

/-- Whatever the store, the resourceVersion and the patch: the managed-fields patch changes neither the claim
(spec.resourceRef) nor any XR's claimRef, uid key, claim labels, finalizers, deletionTimestamp or status; it
creates and removes no XR. -/
theorem upgrade_keeps_refs (s : St) (n : Name) (rv : Nat) (d : UpDec) :
    (exec s (.upgradeXR n rv d)).1.claim = s.claim ∧ (exec s (.upgradeXR n rv d)).1.hist = s.hist ∧
    ∀ m, ((exec s (.upgradeXR n rv d)).1.xrs m).map (fun x => (x.cref, x.crefUid, x.lbl, x.fin, x.deleting, x.status, x.gen)) =
      (s.xrs m).map (fun x => (x.cref, x.crefUid, x.lbl, x.fin, x.deleting, x.status, x.gen)) := by
  have he := exec_eff s (.upgradeXR n rv d)
  generalize (exec s (.upgradeXR n rv d)).1 = s', (exec s (.upgradeXR n rv d)).2 = resp at he ⊢
  cases he with
  | reject => exact ⟨rfl, rfl, fun _ => rfl⟩
  | write _ _ _ _ hw =>
    cases hw with
    | upgradeXR _ _ x hx =>
      refine ⟨rfl, rfl, fun m => ?_⟩
      show Option.map _ (if m = n then some _ else s.xrs m) = _
      split
      · next hm => rw [hm, hx]; rfl
      · rfl

/-- the client-side wiring never issues the patch … -/
theorem upgrade_only_in_ssa_wiring (cfg : Cfg) (cm : Claim) (xr : Option (Name × XR)) (h : cfg.ssa = false) :
    afterCheck cfg cm xr = restOf cfg cm xr := by
  unfold afterCheck upgradeOf
  cases xr with
  | none => rfl
  | some p => simp [h]

/-- … and the server-side one issues exactly the patch decided on the managers of the XR as read, carrying the
resourceVersion read -/
theorem upgrade_request_is_decision (cfg : Cfg) (cm : Claim) (n : Name) (x : XR) (d : UpDec) (hs : cfg.ssa = true)
    (h : upgradeDecision ssaManager x.mf = some d) :
    firstReq (afterCheck cfg cm (some (n, x))) = some (.upgradeXR n x.rv d) := by
  unfold afterCheck upgradeOf
  simp [hs, h, firstReq]

/-- the forced apply records the claim manager, so after it `Upgrade` never clears again … -/
theorem upgrade_never_clears_after_apply (mf : List String) : upgradeDecision ssaManager (applyMf mf) ≠ some .clear := by
  intro h
  exact (upgrade_decision_spec _ _).2.1.mp h (ssa_mem_applyMf mf)

/-- … and each removal is accepted on the state it was decided on, keeps the claim manager and shortens the list:
after at most (number of before-first-apply entries) further patches the decision is "nothing to do" -/
theorem upgrade_remove_progress (mf : List String) (i : Nat) (h : upgradeDecision ssaManager mf = some (.removeAt i)) :
    ∃ mf', applyUpDec (.removeAt i) mf = some mf' ∧ ssaManager ∈ mf' ∧ mf'.length + 1 = mf.length := by
  obtain ⟨hs, hget, _⟩ := ((upgrade_decision_spec _ mf).2.2 i).mp h
  have hlt : i < mf.length := (List.getElem?_eq_some_iff.mp hget).1
  refine ⟨mf.eraseIdx i, by simp [applyUpDec, hlt], ?_, ?_⟩
  · obtain ⟨j, hj⟩ := List.getElem?_of_mem hs
    refine List.mem_eraseIdx_iff_getElem?.mpr ⟨j, ?_, hj⟩
    intro e
    subst e
    rw [hget] at hj
    exact absurd (Option.some.inj hj) (by decide +kernel)
  · rw [List.length_eraseIdx_of_lt hlt]; omega

/-- the migration path of an XR that the client-side syncer created: clear, apply (the server records
before-first-apply), remove that entry, done; and the loop looks at ALL entries (the last before-first-apply
index, managers in any order) -/
example : upgradeDecision ssaManager ["crossplane"] = some .clear ∧ applyUpDec .clear ["crossplane"] = some [] ∧
    applyMf [] = [ssaManager, bfaManager] ∧ upgradeDecision ssaManager [ssaManager, bfaManager] = some (.removeAt 1) ∧
    applyUpDec (.removeAt 1) [ssaManager, bfaManager] = some [ssaManager] ∧ upgradeDecision ssaManager [ssaManager] = none := by decide +kernel

example : upgradeDecision ssaManager ["kubectl", bfaManager, ssaManager, "apiextensions.crossplane.io/composite"] = some (.removeAt 1) ∧
    upgradeDecision ssaManager [bfaManager, ssaManager, bfaManager] = some (.removeAt 2) ∧
    upgradeDecision ssaManager [ssaManager, "crossplane", "apiextensions.crossplane.io/composite"] = none := by decide +kernel

/-- Running a reconcile under any fault plan with scripted environment actions after each
call (what `Xp.Drv.C06` does to replay a run of the real code) yields a reachable state. -/
theorem driver_runs_are_executions {s0 : St} (cfg : Cfg) (plan : Nat → Flt) (env : Nat → List EnvAct)
    (henv : ∀ k, ∀ a ∈ env k, a.adm s0.peers s0.me) (s : St)
    (t : Option P) (h : Reach s0 ⟨s, t⟩) : ∃ t', Reach s0 ⟨(runRec plan env 0 (reconcile cfg) s).1, t'⟩ :=
  runRec_reach plan env henv 0 _ s (Reach.step _ _ h (Step.start s t cfg))

/-- this claim: example.org/v1 Thing ns/c -/
def exMe : CRef := ⟨"c", "ns", "example.org", "v1", "Thing"⟩
/-- the claim of the same kind and NAME in another namespace -/
def exTwin : CRef := ⟨"c", "other-ns", "example.org", "v1", "Thing"⟩
def exXRT : GVK := ⟨"example.org", "v1", "XThing"⟩

/-- a new claim (no reference, no finalizer), an XR `x-a` bound to the same-named claim of another
namespace, an unbound XR `x-b` -/
def exClaim : Claim := ⟨1, exMe, none, false, false, false⟩
def exStore : St :=
  { me := exMe, claim := some exClaim, hist := [exClaim],
    xrs := fun n => if n = "x-a" then some ⟨2, some exTwin, false, some ("c", "other-ns"), true, false, true, 0, ["crossplane"]⟩
                    else if n = "x-b" then some ⟨3, none, false, none, false, false, false, 0, [ssaManager]⟩ else none,
    xhist := fun n => [if n = "x-a" then some ⟨2, some exTwin, false, some ("c", "other-ns"), true, false, true, 0, ["crossplane"]⟩
                       else if n = "x-b" then some ⟨3, none, false, none, false, false, false, 0, [ssaManager]⟩ else none],
    nextRv := 10, trace := [] }

example : Init exStore := by
  refine Init.single (c := exClaim) rfl rfl (by decide) rfl rfl ?_ (fun n => rfl) ?_
  · intro n ⟨x, hx, hc⟩
    rcases xrs_two hx with rfl | rfl
    · exact absurd hc (by decide)
    · cases hc
  · intro n x hx
    rcases xrs_two hx with rfl | rfl <;> decide

/-- a complete server-side reconcile of `exStore` whose first candidate name collides with the
foreign XR: get claim, add finalizer, Get x-a (taken), Get c-1 (free), update claim, apply -/
def exRun : Sys :=
  stepOk (stepOk (stepOk (stepOk (stepOk (stepOk
    ⟨exStore, some (reconcile { ssa := true, xrt := exXRT, pick := none, xpick := fun _ => none, cands := ["x-a", "c-1"] })⟩)))))

example : Reach exStore exRun :=
  stepOk_reach (stepOk_reach (stepOk_reach (stepOk_reach (stepOk_reach (stepOk_reach
    (Reach.step _ _ Reach.init (Step.start _ _ _)))))))

/-- the hypotheses are met by an execution that really creates and binds an XR -/
example : exRun.st.trace = [.create "c-1", .ack "c-1"] ∧ isBound exRun.st "c-1" = true ∧
    (exRun.st.claim.map (·.ref)) = some (some ⟨"c-1", "example.org", "v1", "XThing"⟩) := by decide +kernel

/-! #### the recorded reference carries another served version than the controller's

The claim was bound while the XRD's referenceable version was `v1alpha1`; the controller was
restarted for `v1`. Both syncers keep the one XR `x-b` (no `create` event, no new name) and rewrite
the reference's apiVersion. -/

def exClaim3 : Claim := ⟨1, exMe, some ⟨"x-b", "example.org", "v1alpha1", "XThing"⟩, true, false, false⟩
def exStore3 : St :=
  { me := exMe, claim := some exClaim3, hist := [exClaim3],
    xrs := fun n => if n = "x-b" then some ⟨3, some exMe, false, some ("c", "ns"), false, false, false, 0, [ssaManager]⟩ else none,
    xhist := fun n => [if n = "x-b" then some ⟨3, some exMe, false, some ("c", "ns"), false, false, false, 0, [ssaManager]⟩ else none],
    nextRv := 10, trace := [] }

example : Init exStore3 := by
  refine Init.single (c := exClaim3) rfl rfl (by decide) rfl rfl ?_ (fun n => rfl) ?_
  · intro n ⟨x, hx, _⟩
    simp only [exStore3] at hx
    split at hx
    · rename_i h; subst h; rfl
    · cases hx
  · intro n x hx
    simp only [exStore3] at hx ⊢
    split at hx
    · cases hx; decide
    · cases hx

def exRun3 (ssa : Bool) : Sys :=
  stepOk (stepOk (stepOk (stepOk (stepOk (stepOk (stepOk
    ⟨exStore3, some (reconcile { ssa := ssa, xrt := exXRT, pick := none, xpick := fun _ => none, cands := ["c-1"] })⟩))))))

/-- server-side: the claim update (same name, apiVersion rewritten), then the apply of `x-b`; no create -/
example : (exRun3 true).st.trace = [.xrWrite "x-b" (some exMe), .ack "x-b"] ∧
    isBound (exRun3 true).st "x-b" = true ∧ isBound (exRun3 true).st "c-1" = false ∧
    ((exRun3 true).st.claim.bind (·.ref)) = some ⟨"x-b", "example.org", "v1", "XThing"⟩ := by decide +kernel

/-- client-side: `!cmp.Equal(existing, proposed)` → the claim update; the XR is already as desired; no create -/
example : (exRun3 false).st.trace = [.ack "x-b", .ack "x-b"] ∧
    isBound (exRun3 false).st "x-b" = true ∧ isBound (exRun3 false).st "c-1" = false ∧
    ((exRun3 false).st.claim.bind (·.ref)) = some ⟨"x-b", "example.org", "v1", "XThing"⟩ := by decide +kernel

/-- a legacy XR bound to this claim, server-side wiring: the first request after the bound check is the 'clear'
patch carrying the resourceVersion read (`upgrade_request_is_decision`); applied to the store it empties the manager
list and leaves claimRef and labels alone (`upgrade_keeps_refs`); the client-side wiring goes straight on -/
def exLegacy : XR := ⟨3, some exMe, false, some ("c", "ns"), false, false, false, 0, ["crossplane"]⟩
def exStore6 : St := { exStore3 with xrs := fun n => if n = "x-b" then some exLegacy else none,
                                     xhist := fun n => [if n = "x-b" then some exLegacy else none] }

example : firstReq (afterCheck { ssa := true, xrt := exXRT, pick := none, xpick := fun _ => none, cands := [] } exClaim3 (some ("x-b", exLegacy))) =
    some (.upgradeXR "x-b" 3 .clear) := rfl

example : ((exec exStore6 (.upgradeXR "x-b" 3 .clear)).1.xrs "x-b").map (fun x => (x.mf, x.cref, x.lbl)) =
    some ([], some exMe, some ("c", "ns")) := by decide +kernel

example : ∃ c, firstReq (afterCheck { ssa := false, xrt := exXRT, pick := none, xpick := fun _ => none, cands := [] } exClaim3 (some ("x-b", exLegacy))) =
    some (.updClaim c) := ⟨_, rfl⟩

/-! #### the referenced XR is bound to the same-named claim of another namespace

A manifest of `other-ns/c` copied into `ns` together with its `spec.resourceRef`: the reconcile of
`ns/c` reads `x-a`, finds a claimRef that differs in the namespace only, and ends without a single
write to or delete of the XR — also when `ns/c` is being deleted. -/

def exClaim4 (deleting : Bool) : Claim := ⟨1, exMe, some ⟨"x-a", "example.org", "v1", "XThing"⟩, true, deleting, false⟩
def exStore4 (deleting : Bool) : St := { exStore with claim := some (exClaim4 deleting), hist := [exClaim4 deleting] }

def exRun4 (ssa deleting : Bool) : Sys :=
  stepOk (stepOk (stepOk (stepOk
    ⟨exStore4 deleting, some (reconcile { ssa := ssa, xrt := exXRT, pick := none, xpick := fun _ => none, cands := ["c-1"] })⟩)))

def isDone : Option P → Bool
  | some (.ret _) => true
  | _ => false

example : (exRun4 true false).st.trace = [] ∧ (exRun4 true false).st.xrs "x-a" = exStore.xrs "x-a" ∧ isDone (exRun4 true false).thread = true := by
  rw [exRun4, unbound_reconcile_ends _ _ (exClaim4 false) "x-a" _ rfl rfl rfl rfl rfl rfl]
  exact ⟨rfl, rfl, rfl⟩
example : (exRun4 false false).st.trace = [] ∧ (exRun4 false false).st.xrs "x-a" = exStore.xrs "x-a" ∧ isDone (exRun4 false false).thread = true := by
  rw [exRun4, unbound_reconcile_ends _ _ (exClaim4 false) "x-a" _ rfl rfl rfl rfl rfl rfl]
  exact ⟨rfl, rfl, rfl⟩
example : (exRun4 true true).st.trace = [] ∧ (exRun4 true true).st.xrs "x-a" = exStore.xrs "x-a" ∧ isDone (exRun4 true true).thread = true := by
  rw [exRun4, unbound_reconcile_ends _ _ (exClaim4 true) "x-a" _ rfl rfl rfl rfl rfl rfl]
  exact ⟨rfl, rfl, rfl⟩
example : (exRun4 false true).st.trace = [] ∧ (exRun4 false true).st.xrs "x-a" = exStore.xrs "x-a" ∧ isDone (exRun4 false true).thread = true := by
  rw [exRun4, unbound_reconcile_ends _ _ (exClaim4 true) "x-a" _ rfl rfl rfl rfl rfl rfl]
  exact ⟨rfl, rfl, rfl⟩

example : unbound (exClaim4 false) ⟨2, some exTwin, false, none, true, false, true, 0, []⟩ = true := by decide
example : unbound (exClaim4 false) ⟨2, some exMe, true, none, true, false, true, 0, []⟩ = false := by decide

/-- ONE applied call of the reconcile of the claim that is current in `s`, in a world with other claims
(`s.peers`), seen from the claim in slot `j` of `s.others` (`swap s j`; a different claim): a finite
sequence of environment steps `Env` (which step for which call: header of Proofs/C06World.lean), provided a
claimRef the call writes is its own (its guarantee). -/
theorem other_claims_call_is_environment (s : St) (r : Req) (j : Nat) (d : Side) (hd : s.others[j]? = some d)
    (hp : s.peers = true) (hne : d.me ≠ s.me) (hg : G s r) : Envs (swap s j) (swap (exec s r).1 j) :=
  (exec_eff s r).envs j d hd hp hne (reqCref_of_G hg)

/-- A whole scheduled reconcile of the CURRENT claim — any fault plan: every error class at every call,
lost replies, crashes — started in a reachable state of its own system, is for every OTHER claim of the
world (slot `j`) a finite sequence of environment steps … -/
theorem other_claims_reconcile_is_environment {s0 : St} (h0 : Init s0) (plan : Nat → Flt) (k : Nat) (p : P) (s : St)
    (h : Reach s0 ⟨s, some p⟩) (hp : s0.peers = true) (j : Nat) (d : Side) (hd : s.others[j]? = some d) (hne : d.me ≠ s0.me) :
    Envs (swap s j) (swap (runRec plan (fun _ => []) k p s).1 j) := by
  induction p generalizing k s d with
  | ret a => exact Envs.refl _
  | call r c ih =>
    have hmp := reach_me_peers h
    have hps : s.peers = true := hmp.2.trans hp
    have hnes : d.me ≠ s.me := by rw [hmp.1]; exact hne
    have hcall := other_claims_call_is_environment s r j d hd hps hnes (next_call_safe h0 h)
    have hd' : (exec s r).1.others[j]? = some d := by rw [exec_others]; exact hd
    unfold runRec
    simp only [List.foldl_nil]
    split
    · exact hcall.trans (ih _ _ _ (Reach.step _ _ h (Step.callOk s r c)) d hd' hne)
    · exact Envs.refl _
    · exact hcall
    · exact hcall.trans (ih _ _ _ (Reach.step _ _ h (Step.callLost s r c _ (admissible_fltErr _ r))) d hd' hne)
    · exact ih _ _ _ (Reach.step _ _ h (Step.callErr s r c _ (admissible_fltErr _ r))) d hd hne

/-- … and therefore keeps every reachable state of THAT claim's own system reachable: `ref_set_once`,
`one_xr`, `one_xr_count`, `created_names_unique`, `ref_before_create` and `no_hijack_guarded` (all stated
for every `Init` store and every `Reach`able state, in particular with `peers = true`) hold for EACH claim
of a world in which one long-lived controller reconciles several claims one after the other, whatever the
other claims' reconciles did in between (created XRs under a name this claim is about to use, bound the XR
this claim references, …). -/
theorem other_claims_reconcile_keeps_reachable {s0 t0 : St} (h0 : Init s0) (plan : Nat → Flt) (k : Nat) (p : P) (s : St)
    (h : Reach s0 ⟨s, some p⟩) (hp : s0.peers = true) (j : Nat) (d : Side) (hd : s.others[j]? = some d) (hne : d.me ≠ s0.me)
    (t : Option P) (hv : Reach t0 ⟨swap s j, t⟩) : Reach t0 ⟨swap (runRec plan (fun _ => []) k p s).1 j, t⟩ :=
  reach_envs hv (other_claims_reconcile_is_environment h0 plan k p s h hp j d hd hne)

/-! ### with other claims' controllers around, exactly the unconditional requests are unprotected

`no_hijack` needs `peers = false`; `no_hijack_guarded` does not. The three theorems below show that the gap
is real for each of the three requests that carry no resourceVersion: in a world with peers
(`Env.peerWrite` between the read the bound check decides on and the request) the code as it stands rebinds or
deletes the XR of another claim. These are findings about the unchanged code in a dimension the property's
quantifier does not name (monitor `C06:foreign-xr-written-after-raced-read`, corpus/C06/raced.jsonl). -/

/-- `exStore` (XR `x-a` bound to the twin claim, `x-b` unbound) with the claim `c`, in a world with peers -/
def exStoreP (c : Claim) : St := { exStore with claim := some c, hist := [c], peers := true }

/-- the claim statically references the unbound XR `x-b` -/
def exClaim2 (deleting : Bool) : Claim := ⟨1, exMe, some ⟨"x-b", "example.org", "v1", "XThing"⟩, true, deleting, false⟩
/-- the claim references the XR `x-n`, which does not exist (yet) -/
def exClaim5 : Claim := ⟨1, exMe, some ⟨"x-n", "example.org", "v1", "XThing"⟩, true, false, false⟩

theorem exStoreP_init (c : Claim) (hrv : c.rv = 1) (hid : c.id = exMe) : Init (exStoreP c) := by
  refine Init.single (c := c) rfl rfl (hrv ▸ (by decide : 1 < 10)) rfl hid ?_ (fun n => rfl) ?_
  · intro n ⟨x, hx, hc⟩
    rcases xrs_two hx with rfl | rfl
    · have hc' : some exTwin = some exMe := hc
      exact absurd hc' (by decide)
    · cases hc
  · intro n x hx
    rcases xrs_two hx with rfl | rfl
    · exact (by decide : 2 < 10)
    · exact (by decide : 3 < 10)

example : Init (exStoreP (exClaim2 false)) ∧ (exStoreP (exClaim2 false)).peers = true := ⟨exStoreP_init _ rfl rfl, rfl⟩

/-- the twin claim's controller binds (or creates, bound) XR `n` -/
def peerBind (s : St) (n : Name) : St := (putXR s n ⟨0, some exTwin, false, some ("c", "other-ns"), false, false, false, 0, ["crossplane"]⟩).1

def peerStep (sys : Sys) (n : Name) : Sys := ⟨peerBind sys.st n, sys.thread⟩

theorem peerStep_reach {s0 : St} {sys : Sys} (h : Reach s0 sys) (n : Name) (hp : sys.st.peers = true) (hme : sys.st.me = exMe) :
    Reach s0 (peerStep sys n) :=
  Reach.step _ _ h (Step.env sys.st _ sys.thread (Env.peerWrite sys.st n _ hp (fun hc => by
    rw [hme] at hc; exact absurd (Option.some.inj hc) (by decide))))

def exCfg (ssa : Bool) : Cfg := { ssa := ssa, xrt := exXRT, pick := none, xpick := fun _ => none, cands := [] }

/-- server-side syncer: get claim, get `x-b` (unbound: the bound check passes), Update(claim); the twin
claim's controller binds `x-b`; the pending forced apply rebinds it -/
def exRacedApply : Sys := stepOk (peerStep (stepOk (stepOk (stepOk ⟨exStoreP (exClaim2 false), some (reconcile (exCfg true))⟩))) "x-b")

theorem raced_apply_hijacks_with_peers :
    Reach (exStoreP (exClaim2 false)) exRacedApply ∧ Ev.xrWrite "x-b" (some exTwin) ∈ exRacedApply.st.trace ∧
      (exRacedApply.st.xrs "x-b").bind (·.cref) = some exMe := by
  have hr : Reach (exStoreP (exClaim2 false))
      (stepOk (stepOk (stepOk ⟨exStoreP (exClaim2 false), some (reconcile (exCfg true))⟩))) :=
    stepOk_reach (stepOk_reach (stepOk_reach (Reach.step _ _ Reach.init (Step.start _ _ _))))
  exact ⟨stepOk_reach (peerStep_reach hr "x-b" (reach_me_peers hr).2 (reach_me_peers hr).1), by decide +kernel⟩

/-- either syncer, the claim is being deleted: get claim, get `x-b` (unbound); the twin claim's controller
binds `x-b`; the pending Delete removes the twin claim's XR -/
def exRacedDelete (ssa : Bool) : Sys := stepOk (peerStep (stepOk (stepOk ⟨exStoreP (exClaim2 true), some (reconcile (exCfg ssa))⟩)) "x-b")

theorem raced_delete_hijacks_with_peers (ssa : Bool) :
    Reach (exStoreP (exClaim2 true)) (exRacedDelete ssa) ∧ Ev.xrWrite "x-b" (some exTwin) ∈ (exRacedDelete ssa).st.trace ∧
      (exRacedDelete ssa).st.xrs "x-b" = none := by
  have hr : Reach (exStoreP (exClaim2 true)) (stepOk (stepOk ⟨exStoreP (exClaim2 true), some (reconcile (exCfg ssa))⟩)) :=
    stepOk_reach (stepOk_reach (Reach.step _ _ Reach.init (Step.start _ _ _)))
  refine ⟨stepOk_reach (peerStep_reach hr "x-b" (reach_me_peers hr).2 (reach_me_peers hr).1), ?_⟩
  cases ssa <;> decide +kernel

/-- client-side syncer: get claim, get `x-n` (NotFound: nothing to check); the twin claim's controller
creates `x-n`; Apply's own Get finds it, and the merge patch — built from an XR that was never read, so
without a resourceVersion — rebinds it -/
def exRacedPatch : Sys := stepOk (stepOk (peerStep (stepOk (stepOk ⟨exStoreP exClaim5, some (reconcile (exCfg false))⟩)) "x-n"))

theorem raced_patch_hijacks_with_peers :
    Reach (exStoreP exClaim5) exRacedPatch ∧ Ev.xrWrite "x-n" (some exTwin) ∈ exRacedPatch.st.trace ∧
      (exRacedPatch.st.xrs "x-n").bind (·.cref) = some exMe := by
  have hr : Reach (exStoreP exClaim5) (stepOk (stepOk ⟨exStoreP exClaim5, some (reconcile (exCfg false))⟩)) :=
    stepOk_reach (stepOk_reach (Reach.step _ _ Reach.init (Step.start _ _ _)))
  exact ⟨stepOk_reach (stepOk_reach (peerStep_reach hr "x-n" (reach_me_peers hr).2 (reach_me_peers hr).1)),
    by decide +kernel⟩

/-! #### the window of the finding, exactly

`raced_*` above are witnesses; `hijack_needs_unconditional_request`, `unconditional_request_window` and
`becomes_foreign_only_by_peer_write` below say that they are the ONLY shape a hijack by the code as it stands can
have, in every world, over all schedules, fault plans, cache lags and histories: a write that hit a foreign-bound XR
carried no resourceVersion; such a request is only issued for a name that was seen NOT foreign, so the XR BECAME
foreign after that state; and only a write of another claim's controller makes an XR foreign.

Hence: claim A's reconcile rebinds or deletes claim B's XR `n` iff B's controller bound (or created) `n`
between the state of `n` that A's deciding read served and A's unconditional request. -/

/-- In EVERY world: a write of the claim controller that took effect on an XR whose claimRef named another
claim was unconditional (`xrWrite`: Delete, forced apply, merge patch of an unread XR), and the world has
other claims' controllers. -/
theorem hijack_needs_unconditional_request {s0 : St} (h0 : Init s0) {sys : Sys} (hr : Reach s0 sys) (n : Name) (r : CRef)
    (hne : r ≠ s0.me) :
    Ev.xrWriteG n (some r) ∉ sys.st.trace ∧ (Ev.xrWrite n (some r) ∈ sys.st.trace → s0.peers = true) := by
  refine ⟨fun h => hne (no_hijack_guarded h0 hr n r h), fun h => ?_⟩
  cases hp : s0.peers with
  | true => rfl
  | false => exact absurd (no_hijack h0 hp hr n r (Or.inl h)) hne

/-- Whenever a request without resourceVersion is about to be applied to XR `n`: some state the name `n` had
since the start was absent, unbound or bound to THIS claim (the state the deciding read served); and if the XR
stored at that instant names another claim, the world has other claims' controllers. -/
theorem unconditional_request_window {s0 : St} (h0 : Init s0) {s : St} {r : Req} {k : Resp → P}
    (hr : Reach s0 ⟨s, some (.call r k)⟩) (n : Name) (hu : unconditionalOn r = some n) :
    SeenNF s n ∧ (foreignNow s n → s0.peers = true) := by
  have hg := next_call_safe h0 hr
  have hp : s.peers = s0.peers := (reach_me_peers hr).2
  have key : NF s n := by
    cases r with
    | deleteXR m fg => obtain ⟨hnf, _⟩ := hg; cases hu; exact hnf
    | applyXR m c => obtain ⟨⟨_, hnf⟩, _⟩ := hg; cases hu; exact hnf
    | patchXR m rv c =>
      obtain ⟨⟨⟨_, hnf⟩, _⟩, _⟩ := hg
      cases rv with
      | none => cases hu; exact hnf
      | some v => cases hu
    | _ => cases hu
  refine ⟨key.2, fun hf => ?_⟩
  cases hq : s0.peers with
  | true => rfl
  | false => exact absurd ⟨hp.trans hq, hf⟩ key.1

/-- The only step of the system — environment, call (applied, failed with any error class, reply lost),
start/crash/restart, return — after which an XR names another claim that did not do so before is a write of
ANOTHER claim's controller to that very XR, in a world with peers; the reconcile in flight is untouched. -/
theorem becomes_foreign_only_by_peer_write {s0 : St} (h0 : Init s0) {a b : Sys} (ha : Reach s0 a) (hstep : Step a b)
    (n : Name) (hnf : ¬ foreignNow a.st n) (hf : foreignNow b.st n) :
    s0.peers = true ∧ b.thread = a.thread ∧ ∃ x', Env a.st b.st ∧ b.st = (putXR a.st n x').1 := by
  have hp : a.st.peers = s0.peers := (reach_me_peers ha).2
  cases hstep with
  | env s s' t he =>
    obtain ⟨hpe, x', hx'⟩ := env_foreign_only_peer he n hnf hf
    exact ⟨hp ▸ hpe, rfl, x', he, hx'⟩
  | start s t cfg => exact absurd hf hnf
  | done s r => exact absurd hf hnf
  | callErr s r k e he => exact absurd hf hnf
  | callOk s r k => exact absurd hf (exec_keeps_not_foreign (next_call_safe h0 ha) n hnf)
  | callLost s r k e he => exact absurd hf (exec_keeps_not_foreign (next_call_safe h0 ha) n hnf)

/-- … and nothing on the server side stops it: an unconditional request that reaches the store while XR `n`
carries ANY claimRef `r` takes effect on it (the ghost trace records `xrWrite n (some r)`): the forced apply
and the merge patch without resourceVersion rebind the XR to the requester, the Delete removes it or marks it
for deletion. Together with the three theorems above: the hijack happens IF AND ONLY IF another claim's
controller bound the XR inside the window. -/
theorem unconditional_request_always_applies (s : St) (n : Name) (x : XR) (r c : CRef) (fg : Bool)
    (hx : s.xrs n = some x) (hr : x.cref = some r) :
    ((exec s (.applyXR n c)).1.trace = Ev.xrWrite n (some r) :: s.trace ∧
      ((exec s (.applyXR n c)).1.xrs n).bind (·.cref) = some c) ∧
    ((exec s (.patchXR n none c)).1.trace = Ev.xrWrite n (some r) :: s.trace ∧
      ((exec s (.patchXR n none c)).1.xrs n).bind (·.cref) = some c) ∧
    (exec s (.deleteXR n fg)).1.trace = Ev.xrWrite n (some r) :: s.trace := by
  have hput : ∀ (x' : XR) (e : Ev), ((emit (putXR s n x').1 e).xrs n).bind (·.cref) = x'.cref := by
    intro x' e
    show Option.bind (if n = n then some _ else s.xrs n) _ = _
    rw [if_pos rfl]
    rfl
  refine ⟨?_, ?_, ?_⟩
  · simp only [exec, hx, hr]
    exact ⟨rfl, hput _ _⟩
  · simp only [exec, hx, hr]
    exact ⟨rfl, hput _ _⟩
  · simp only [exec, hx, hr]
    exact congrArg _ (delState_trace s n x _)

/-- the hypotheses of `unconditional_request_window` and `becomes_foreign_only_by_peer_write` are met by the
witness of `raced_apply_hijacks_with_peers`: the forced apply is pending on `x-b`, which the twin claim's
controller has just bound — `x-b` was unbound (not foreign) in the state the reconcile read -/
def exRacedApplyPre : Sys := stepOk (stepOk (stepOk ⟨exStoreP (exClaim2 false), some (reconcile (exCfg true))⟩))

example : ((peerStep exRacedApplyPre "x-b").thread.bind firstReq).bind unconditionalOn = some "x-b" := by decide +kernel

example : ((exRacedApplyPre.st.xrs "x-b").bind (·.cref)) = none ∧
    (((peerStep exRacedApplyPre "x-b").st.xrs "x-b").bind (·.cref)) = some exTwin ∧ exTwin ≠ exMe := by decide +kernel

/-- `writes_only_to_recorded_name` on the same state: the pending Update/apply go to `x-b`, the name the stored
claim records -/
example : (exRacedApplyPre.thread.bind firstReq).bind xrTarget = some "x-b" ∧
    (exRacedApplyPre.st.claim.bind (·.ref)).map (·.name) = some "x-b" := by decide +kernel

/-- `unconditional_request_always_applies`: `exStore` holds `x-a` bound to the twin claim -/
example : ∃ x, exStore.xrs "x-a" = some x ∧ x.cref = some exTwin := ⟨_, rfl, rfl⟩

/-- the client-side merge patch of an XR that WAS read carries its resourceVersion: the same race ends in
a conflict and the twin claim's XR is untouched (cf. `no_hijack_guarded`) -/
def exRacedPatchRead : Sys := stepOk (stepOk (peerStep (stepOk (stepOk ⟨exStoreP (exClaim2 false), some (reconcile (exCfg false))⟩)) "x-b"))

example : exRacedPatchRead.st.trace = [] ∧ (exRacedPatchRead.st.xrs "x-b").bind (·.cref) = some exTwin := by decide +kernel

/-! ### the claim is gone, the cache still serves its last bound copy (finding D41)

`ssa_sync_writes_xr_only_after_accepted_claim_update` has no client-side counterpart in the code as it stands:
ClientSideCompositeSyncer.Sync updates the claim only if the proposed reference differs from the stored one, and
AddFinalizer writes nothing if the copy has the finalizer. So a STALE copy of a claim that is bound reaches Apply's
Create without any resourceVersion-checked claim write. Monitor C06:xr-created-from-stale-claim-without-claim-write,
corpus/C06/stale_gone.jsonl. -/

/-- `applyAfterUpd` is not vacuous: false for a program that applies the XR first (what the server-side Sync would be
without its Update) -/
example : applyAfterUpd (okReply exClaim ⟨3, none, false, none, false, false, false, 0, []⟩ true) 5 false
    (.call (.applyXR "x-b" exMe) fun _ => .ret .ok) = false := rfl

/-- the claim `exClaim5` (bound to `x-n`, which was deleted with it) is GONE; the cache serves its last copy
(`pick := some 0`); four calls of the reconcile -/
def exGone (ssa : Bool) : Sys :=
  stepOk (stepOk (stepOk (stepOk
    ⟨{ exStoreP exClaim5 with claim := none }, some (reconcile { exCfg ssa with pick := some 0 })⟩)))

theorem exGone_reach (ssa : Bool) : Reach (exStoreP exClaim5) (exGone ssa) :=
  stepOk_reach (stepOk_reach (stepOk_reach (stepOk_reach
    (Reach.step _ _ (Reach.step _ _ Reach.init (Step.env _ _ none (Env.claimGone _))) (Step.start _ _ _)))))

/-- CLIENT-side syncer, unchanged code: get claim (stale copy), get `x-n` (NotFound), Apply's Get (NotFound), Create —
an XR bound to a claim that does not exist, and no claim write was even attempted (no `ack`): the clause "the
reference is durably recorded before the XR is created" holds only through the OLD incarnation's record. -/
theorem stale_copy_of_deleted_claim_creates_xr_fails_on_unfixed_witness :
    Reach (exStoreP exClaim5) (exGone false) ∧ (exGone false).st.claim = none ∧
      (exGone false).st.trace = [.create "x-n"] ∧ isBound (exGone false).st "x-n" = true :=
  ⟨exGone_reach false, by decide +kernel⟩

/-- SERVER-side syncer, same schedule: the Update(claim), which its Sync always issues, is answered NotFound and nothing is written -/
example : Reach (exStoreP exClaim5) (exGone true) ∧ (exGone true).st.trace = [] ∧ ((exGone true).st.xrs "x-n").isNone = true :=
  ⟨exGone_reach true, by decide +kernel⟩

end Xp.C06
