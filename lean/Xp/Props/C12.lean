import Xp.Proofs.C12R
import Xp.Proofs.C12I
import Xp.Proofs.C12H
import Xp.Gen.C12Skel
/-
C12 — composition revisions form a faithful, monotonic history.

The theorems are about `Xp.C12.reconcile` (the revision controller with
fixes/D4.diff applied) and `Xp.C12.fetch` (APIRevisionFetcher.Fetch), for every
fault plan (`Plan`, an outcome for every API call index), every history of
environment actions (Composition edits incl. label/annotation-only edits and
A-B-A reverts, owner references stripped or replaced, restores under a new UID,
XR edits) interleaved with faulty reconciles, and every store `WF` describes —
the empty store and every store any such history reaches.

Recorded assumption (`Naming.Inj H D`): the content hash is collision-free on the
set `D` of contents the Compositions ever have (also on the 63-character prefix
used as label and the 7-character prefix used in the revision name, `Naming.Inj.name`).
`D` is arbitrary; nothing else is assumed about hashing.

The unchanged tree violates `numbers_monotone` and `current_is_highest` (defect
D4); the negation is proved on a concrete witness for `reconcileD4`, the mirror of
the unchanged ordering (section "defect D4").

In order: the ties to the source (call skeletons, probed constants); the revision as a
field-by-field copy and the hash input (`hash_input_eq_iff`, the naming assumption made precise);
histories; the XR side; satisfiability of the hypotheses and A-B-A; defect D4; the same under
interference between API calls, error classes and cache lag; the revision-created handler; finding
D22 (lagging revision list); the label<->annotation move.
-/
namespace Xp.C12

variable {H : Naming} {D : Content → Prop}

/-! ### tie to the source (regenerated on every run) -/

def specW (fn : String) : Spec := ⟨"example.org/v1", "XThing", some "Pipeline", [], [], [("compose", fn)], none, none⟩
def rs0 : RevSpec := toRevisionSpec (specW "function-0")
def rs1 : RevSpec := toRevisionSpec (specW "function-1")
def cA0 : Content := ⟨[("channel", "dev")], [], specW "function-0"⟩
/-- a naming for the path theorems below -/
def HW0 : Naming := ⟨fun _ => "ha", fun n _ => n ++ "-a"⟩

/-- The order of API calls and of the `LatestRevision` computation in the Go
`Reconcile` (go/ast walk of the current tree) is the one the model mirrors:
adoption loop, then `LatestRevision`, then the renumbering loop, then `Create`. -/
theorem skeleton_matches : Xp.Gen.compositionReconcileSkeleton = reconcileSkeleton := rfl

/-- the two reserved label keys (regenerated from the API package) are distinct: `Rev.label` tests them one after
the other -/
theorem label_keys_distinct : Xp.Gen.labelCompositionName ≠ Xp.Gen.labelCompositionHash := by
  simp [Xp.Gen.labelCompositionName, Xp.Gen.labelCompositionHash]

/-- `Reconciler.Reconcile`: every client call and every helper whose position decides the
outcome, in source order, is the step of `reconcile` / `adoptLoop` / `renumLoop` named in
`reconcileCallSkel` -/
theorem skeleton_Reconcile : Xp.Gen.c12ReconcileSkel = reconcileCallSkel := rfl

/-- `NewCompositionRevision` ↔ `newRev`, field by field -/
theorem skeleton_NewCompositionRevision : Xp.Gen.c12NewRevisionSkel = newRevSkel := rfl

/-- `NewCompositionRevisionSpec` ↔ `toRevisionSpec` + `Rev.num` -/
theorem skeleton_NewCompositionRevisionSpec : Xp.Gen.c12NewRevisionSpecSkel = newRevisionSpecSkel := rfl

/-- the generated converter calls one helper per structured field -/
theorem skeleton_ToRevisionSpec : Xp.Gen.c12ToRevisionSpecSkel = toRevisionSpecSkel := rfl

/-- `Composition.Hash`: three `yaml.Marshal`, two `append` without separator, one digest -/
theorem skeleton_Hash : Xp.Gen.c12HashSkel = hashSkel := rfl

/-- `v1.LatestRevision` ↔ `latestGo` -/
theorem skeleton_LatestRevision : Xp.Gen.c12LatestRevisionSkel = latestRevisionSkel := rfl

/-- `APIRevisionFetcher.Fetch` ↔ `fetch` -/
theorem skeleton_Fetch : Xp.Gen.c12FetchSkel = fetchSkel := rfl

/-- `APIRevisionFetcher.getCompositionRevisionList` ↔ `fetchSel` + `.listRevs` -/
theorem skeleton_getCompositionRevisionList : Xp.Gen.c12RevisionListSkel = revisionListSkel := rfl

/-- `EnqueueForCompositionRevision` ↔ `enqueueFor` -/
theorem skeleton_EnqueueForCompositionRevision : Xp.Gen.c12EnqueueSkel = enqueueSkel := rfl

/-- The client calls of the declared `Reconcile` skeleton are **the requests the model's program
issues**: along the path that re-adopts and renumbers one revision (Get, List, Update,
Update) followed by the `Create` of the path that finds no revision (Get, List, Create). -/
theorem skeleton_Reconcile_is_model_path :
    let r0 : Rev := ⟨"comp-a", "comp", "ha", 1, none, [], rs0, 1⟩
    let adoptRenum := pathVerbs (reconcile HW0 "comp") [.comp ⟨"comp", 1, cA0, false⟩, .revs [r0, { r0 with name := "comp-b", hash := "hb", num := 2, ctrl := some 1 }],
      .rev { r0 with ctrl := some 1 }, .rev { r0 with ctrl := some 1, num := 3 }]
    let create := pathVerbs (reconcile HW0 "comp") [.comp ⟨"comp", 1, cA0, false⟩, .revs [], .ok]
    adoptRenum = ["Get", "List", "Update", "Update"] ∧ create = ["Get", "List", "Create"] ∧
    (adoptRenum ++ create.drop 2).map ("client." ++ ·) =
      reconcileCallSkel.filter (["client.Get", "client.List", "client.Update", "client.Create"].contains ·) := by decide +kernel

/-- … and those of `Fetch` / `getCompositionRevisionList`: the Manual path (the reconciler's
Get of the XR, Get of the referenced revision) and the Automatic path (Get of the XR, Get of
the Composition, List, then `Apply` = Get + Patch). Third conjunct: `Fetch` itself has three Get / Apply
calls (`fetchSkel`); the `+ 1` is the XR reconciler's own Get of the XR, with which the model's `fetch` begins. -/
theorem skeleton_Fetch_is_model_path :
    let r0 : Rev := ⟨"comp-a", "comp", "ha", 1, some 1, [], rs0, 1⟩
    let xm : XR := ⟨"xr", "comp", some .manual, none, some "comp-a", 0⟩
    let xa : XR := ⟨"xr", "comp", some .automatic, none, none, 0⟩
    pathVerbs (fetch "xr") [.xr xm, .rev r0] = ["Get", "Get"] ∧
    pathVerbs (fetch "xr") [.xr xa, .comp ⟨"comp", 1, cA0, false⟩, .revs [r0], .xr xa, .ok] = ["Get", "Get", "List", "Get", "Patch"] ∧
    (fetchSkel.filter (["ca.Get", "ca.Apply"].contains ·)).length + 1 = 4 ∧
    revisionListSkel.filter (· == "ca.List") = ["ca.List"] := by decide +kernel

/-- one `key: value` line per map entry, as the model renders it (probed on `yaml.Marshal`) -/
theorem yaml_entry_line : Xp.Gen.yamlOneEntry = (Tok.entry "k" "v").render (fun _ => "") := by decide

/-- the lengths `NewCompositionRevision` truncates to (probed on the real function): a sha256
in hex, a 63-character label value, a 7-character name suffix -/
theorem hash_lengths : Xp.Gen.compositionHashLen = 64 ∧ Xp.Gen.revisionHashLabelLen = 63 ∧
    Xp.Gen.revisionNameSuffixLen = 7 := by decide

/-- the two truncations of `NewCompositionRevision` are within the digest: 7 ≤ 63 ≤ 64 -/
theorem hash_truncations : Xp.Gen.revisionNameSuffixLen ≤ Xp.Gen.revisionHashLabelLen ∧
    Xp.Gen.revisionHashLabelLen ≤ Xp.Gen.compositionHashLen := by decide

/-! ### the revision is a field-by-field copy; the hash input -/

/-- **`NewCompositionRevision` copies the Composition field by field**, for every naming,
Composition and number: the spec of the revision read back is the Composition's spec (every
field), the labels are the Composition's, the two crossplane.io labels are the Composition's
name and the hash label of its content, it is controlled by the Composition. -/
theorem new_revision_is_copy (H : Naming) (c : Comp) (n : Nat) :
    (newRev H c n).spec.toSpec = c.content.spec ∧ (newRev H c n).spec = toRevisionSpec c.content.spec ∧
    (newRev H c n).labels = c.content.labels ∧ (newRev H c n).comp = c.name ∧
    (newRev H c n).hash = H.hash c.content ∧ (newRev H c n).name = H.name c.name c.content ∧
    (newRev H c n).ctrl = some c.uid ∧ (newRev H c n).num = n :=
  by
  refine ⟨?_, rfl, rfl, rfl, rfl, rfl, rfl, rfl⟩
  show (toRevisionSpec c.content.spec).toSpec = c.content.spec
  generalize c.content.spec = sp
  cases sp
  rfl

/-- `toRevisionSpec` loses nothing -/
theorem revision_spec_roundtrip (s : Spec) : (toRevisionSpec s).toSpec = s := by cases s; rfl

/-- … and is injective: two Compositions with different specs never share a revision spec -/
theorem toRevisionSpec_inj {s s' : Spec} (h : toRevisionSpec s = toRevisionSpec s') : s = s' := by
  rw [← revision_spec_roundtrip s, ← revision_spec_roundtrip s', h]

/-- for the naming the code implements the hash label and the revision name are functions of
the hash input `yaml(labels) ++ yaml(annotations) ++ yaml(spec)` alone -/
theorem hash_label_function_of_input (dg : List Tok → String) (c c' : Content) (n : String)
    (h : hashToks c = hashToks c') :
    (Naming.ofDigest dg).hash c = (Naming.ofDigest dg).hash c' ∧
    (Naming.ofDigest dg).name n c = (Naming.ofDigest dg).name n c' := by
  simp only [Naming.ofDigest, h, and_self]

/-- **For which pairs of contents the input of `Composition.Hash` is injective**: two contents
have the same input iff they are equal or a label<->annotation move of each other (`Shift`:
same spec, labels and annotations all non-empty, the label entries followed by the
annotation entries are the same sequence). -/
theorem hash_input_eq_iff (c c' : Content) : hashToks c = hashToks c' ↔ c = c' ∨ Shift c c' :=
  hashToks_eq_iff c c'

/-- whatever collides, **the hash input determines the spec** … -/
theorem hash_input_determines_spec {c c' : Content} (h : hashToks c = hashToks c') : c.spec = c'.spec :=
  (hashToks_eq h).1

/-- … and the labels a colliding content's revision carries are a prefix of the other
content's label entries followed by its annotation entries -/
theorem shift_labels_prefix {c c' : Content} (h : hashToks c = hashToks c') :
    c.labels <+: c'.labels ++ c'.annos :=
  (hashToks_eq h).2.1 ▸ List.prefix_append _ _

/-- **The naming assumption of the history theorems, made precise**: for the naming the code
implements, `Naming.Inj` on a set `D` of contents holds when the digest is collision-free on
the inputs of `D` (also truncated) and `D` contains no label<->annotation move … -/
theorem naming_inj_of_digest {dg : List Tok → String} (hd : DigestInj dg D) (hs : Separated D) :
    (Naming.ofDigest dg).Inj D where
  hash := fun c c' d d' h => hs.eq_of_input d d' (hd.label c c' d d' h)
  name := fun n c n' c' d d' h => ⟨(hd.name n c n' c' d d' h).1, hs.eq_of_input d d' (hd.name n c n' c' d d' h).2⟩

/-- … and fails, whatever the digest, as soon as `D` contains one -/
theorem naming_not_inj_on_move (dg : List Tok → String) {c c' : Content} (d : D c) (d' : D c')
    (hne : c ≠ c') (hsh : Shift c c') : ¬ (Naming.ofDigest dg).Inj D := fun hi =>
  -- the two contents have the same hash input, hence the same hash label
  hne (hi.hash c c' d d' (by simp only [Naming.ofDigest, (hashToks_eq_iff c c').mpr (Or.inr hsh)]))

/-- **A listed revision carrying the current hash label is reused**: the renumbering loop never
falls through to the `Create` when the (re-adopted) list contains a revision whose hash
label is the current hash — for every list with numbers ≥ 1, every continuation that
creates only when no revision was found. This is what happens after a label<->annotation
move: the revision of the colliding content is kept as the current one. -/
theorem matching_hash_never_creates (h : String) (latest : Nat) (k : Nat → P Res)
    (hk : ∀ n, 0 < n → NoCreate (k n)) (l : List Rev) (hpos : ∀ r ∈ l, 1 ≤ r.num)
    (hex : ∃ r ∈ l, r.hash = h) : NoCreate (renumLoop h latest l 0 k) :=
  renumLoop_noCreate h latest k hk l 0 hpos (Or.inr hex)

/-! ### histories -/

/-- Every store visible at any instant of any history is well-formed: revision
names are unique, every revision is the faithful image of one content (name,
hash label, spec, labels), numbers start at 1 and are unique per Composition. -/
theorem history_wf (hi : H.Inj D) (h : List Ev) (s : Store) (w : WF H D s) (hev : ∀ e ∈ h, EvOK D e) :
    ∀ s' ∈ reachHist H h s, WF H D s' :=
  fun s' hs' => ((reachHist_ok hi h s w hev).mem s' hs').1

/-- **Revision numbers only grow**, per revision, across every history, fault and
crash: for any two instants (the earlier store `a`, the later store `b`), every
revision of `a` still exists in `b` and its number did not decrease. -/
theorem numbers_monotone (hi : H.Inj D) (h : List Ev) (s : Store) (w : WF H D s) (hev : ∀ e ∈ h, EvOK D e) :
    (reachHist H h s).Pairwise fun a b => ∀ r ∈ a.revs, ∃ r' ∈ b.revs, r'.name = r.name ∧ r.num ≤ r'.num := by
  refine (reachHist_ok hi h s w hev).pairwise.imp ?_
  intro a b hab r hr
  obtain ⟨r', hr', e1, _, _, _, _, e6⟩ := hab r hr
  exact ⟨r', hr', e1, e6⟩

/-- **Apart from its number (and owner reference) a revision is never edited
afterwards**, nor deleted: at any later instant the revision of that name carries
the same spec, the same labels (the two crossplane.io labels included). -/
theorem spec_never_edited (hi : H.Inj D) (h : List Ev) (s : Store) (w : WF H D s) (hev : ∀ e ∈ h, EvOK D e) :
    (reachHist H h s).Pairwise fun a b => ∀ r ∈ a.revs, ∃ r' ∈ b.revs,
      r'.name = r.name ∧ r'.spec = r.spec ∧ r'.labels = r.labels ∧ r'.comp = r.comp ∧ r'.hash = r.hash := by
  refine (reachHist_ok hi h s w hev).pairwise.imp ?_
  intro a b hab r hr
  obtain ⟨r', hr', e1, e2, e3, e4, e5, _⟩ := hab r hr
  exact ⟨r', hr', e1, e4, e5, e2, e3⟩

/-- **After a reconcile that returned without error the revision matching the
Composition's current content has the strictly highest number** of all revisions
of that Composition, is controlled by it and carries exactly that content — from
every well-formed store, hence also when the Composition was reverted to earlier
content (A-B-A) and after owner references were stripped, under every fault plan. -/
theorem current_is_highest (hi : H.Inj D) (s : Store) (w : WF H D s) (comp : String) (plan : Plan) (c : Comp)
    (hc : s.comps.find? (·.name = comp) = some c) (hd : c.deleting = false)
    (hok : (run sem plan 0 (reconcile H comp) s).2 = some .done ∨
           (run sem plan 0 (reconcile H comp) s).2 = some .created) :
    ∃ r ∈ (run sem plan 0 (reconcile H comp) s).1.revs,
      r.comp = comp ∧ r.hash = H.hash c.content ∧ r.spec = toRevisionSpec c.content.spec ∧ r.labels = c.content.labels ∧
      r.ctrl = some c.uid ∧
      ∀ r' ∈ (run sem plan 0 (reconcile H comp) s).1.revs, r'.comp = comp → r'.name ≠ r.name → r'.num < r.num := by
  have hcn : c.name = comp := find_name (f := Comp.name) hc
  obtain ⟨res, hres, hr⟩ : ∃ res, (run sem plan 0 (reconcile H comp) s).2 = some res ∧ (res = .done ∨ res = .created) :=
    hok.elim (fun h => ⟨_, h, .inl rfl⟩) fun h => ⟨_, h, .inr rfl⟩
  obtain ⟨_, hb, _⟩ := (reconcile_sound hi comp w false (fun h => nomatch h) plan).2 res hres
  obtain ⟨r, hr, g1, g2, g3, g4, g5, g6⟩ := (hb c hc).2 hr hd
  exact ⟨r, hr, hcn ▸ g1, g2, g3, g4, g5 exact_eq, fun r' hr' hc' hn => g6 r' hr' (hcn ▸ hc') hn⟩

/-- Clause 1 in the property's words: **the revision of the current content, read back as a
Composition spec, is exactly the Composition's spec** (every field), after every reconcile
that returned without error, under every fault plan. -/
theorem current_revision_spec_eq_composition_spec (hi : H.Inj D) (s : Store) (w : WF H D s) (comp : String)
    (plan : Plan) (c : Comp) (hc : s.comps.find? (·.name = comp) = some c) (hd : c.deleting = false)
    (hok : (run sem plan 0 (reconcile H comp) s).2 = some .done ∨
           (run sem plan 0 (reconcile H comp) s).2 = some .created) :
    ∃ r ∈ (run sem plan 0 (reconcile H comp) s).1.revs,
      r.comp = comp ∧ r.hash = H.hash c.content ∧ r.spec.toSpec = c.content.spec := by
  obtain ⟨r, hr, g1, g2, g3, _⟩ := current_is_highest hi s w comp plan c hc hd hok
  exact ⟨r, hr, g1, g2, by rw [g3]; exact revision_spec_roundtrip _⟩

/-- **Every content a Composition has had at a successful reconcile is captured by
exactly one revision whose spec and labels equal that content**, at every instant
of every continuation of the history. -/
theorem one_rev_per_content (hi : H.Inj D) (s : Store) (w : WF H D s) (comp : String) (plan : Plan) (c : Comp)
    (hc : s.comps.find? (·.name = comp) = some c) (hd : c.deleting = false)
    (hok : (run sem plan 0 (reconcile H comp) s).2 = some .done ∨
           (run sem plan 0 (reconcile H comp) s).2 = some .created)
    (h : List Ev) (hev : ∀ e ∈ h, EvOK D e) :
    ∀ s' ∈ reachHist H h (run sem plan 0 (reconcile H comp) s).1,
      ∃ r ∈ s'.revs, r.comp = comp ∧ r.hash = H.hash c.content ∧
        r.spec = toRevisionSpec c.content.spec ∧ r.labels = c.content.labels ∧
        ∀ r' ∈ s'.revs, r'.comp = comp → r'.hash = H.hash c.content → r' = r := by
  intro s' hs'
  obtain ⟨r, hr, g1, g2, g3, g4, _, _⟩ := current_is_highest hi s w comp plan c hc hd hok
  have w1 : WF H D (run sem plan 0 (reconcile H comp) s).1 :=
    (reachEv_ok hi w (.reconcile comp plan) trivial).last
  obtain ⟨w', le', _⟩ := (reachHist_ok hi h _ w1 hev).mem s' hs'
  obtain ⟨r', hr', e1, e2, e3, e4, e5, _⟩ := le' r hr
  refine ⟨r', hr', e2.trans g1, e3.trans g2, e4.trans g3, e5.trans g4, ?_⟩
  exact fun x hx hxc hxh => w'.toWF0.eq_of_hash hi hx hr' (hxc.trans (e2.trans g1).symm) (hxh.trans (e3.trans g2).symm)

/-- **Progress**: a reconcile that meets no fault returns without error — unless a
revision of the Composition is controlled by somebody else, which makes every
reconcile fail by design. Together with `one_rev_per_content` and
`current_is_highest`: one fault-free reconcile after an edit captures the new
content. (That the `Create` finds its name free rests on the collision-freedom of the 7-character name
prefix, `Naming.Inj.name`: in `recTail_safeR`, Proofs/C12R.lean, hence in every theorem through `reconcile_sound`.) -/
theorem reconcile_succeeds_without_faults (hi : H.Inj D) (s : Store) (w : WF H D s) (comp : String) (c : Comp)
    (hc : s.comps.find? (·.name = comp) = some c)
    (hown : ∀ x ∈ s.revs, x.comp = comp → x.ctrl = none ∨ x.ctrl = some c.uid) :
    (run sem Plan.allOk 0 (reconcile H comp) s).2 = some .done ∨
    (run sem Plan.allOk 0 (reconcile H comp) s).2 = some .created := by
  have hcn : c.name = comp := find_name (f := Comp.name) hc
  have ha := congrArg Prod.snd (run_allOk sem 0 (reconcile H comp) s)
  obtain ⟨_, hpost, hb⟩ := (reconcile_sound hi comp w true (fun _ c' hc' x hx hxc => by
    rw [hc] at hc'; cases hc'; exact hown x hx (hxc.trans hcn)) Plan.allOk).2 _ ha
  rcases (hpost c hc).1 (hb rfl) with e | e
  · exact Or.inl (e ▸ ha)
  · exact Or.inr (e ▸ ha)

/-! ### XR side -/

/-- **An XR with the Manual policy keeps using the revision it references**: under
every fault plan the fetch writes nothing (the store, hence the XR's reference, is
the same at every instant) and the only revision it can hand to the XR
reconciler is the stored revision of that name. -/
theorem manual_pins (s : Store) (n : String) (x : XR) (p : String)
    (hx : s.xrs.find? (·.name = n) = some x) (hpol : x.policy = some .manual) (href : x.ref = some p) (plan : Plan) :
    (∀ s' ∈ reach sem plan 0 (fetch n) s, s' = s) ∧
    ∀ r, (run sem plan 0 (fetch n) s).2 = some (.rev r) → r.name = p ∧ s.revs.find? (·.name = p) = some r := by
  have hp := fetch_manual_wp s n x p hx hpol href
  -- no write, so the store stays what it is
  have ⟨hs, hpost⟩ := wp_sound_plain (Inv := (· = s)) (Rel := fun _ _ => True) (fun _ => trivial) (fun _ _ _ _ _ => trivial)
    (fun _ _ ht hr => ⟨(exec_read hr).trans ht, trivial⟩) plan 0 rfl hp
  refine ⟨fun s' hs' => (hs.mem s' hs').1, fun r hr => ?_⟩
  obtain ⟨_, hb, _⟩ := hpost _ hr
  have hf := fresh_getRev (hs.last ▸ hb r rfl)
  exact ⟨find_name (f := Rev.name) hf, hf⟩

/-- **An XR with the Automatic policy (or without a selected revision) moves to the
highest-numbered revision controlled by its Composition, restricted by its
revision selector** (the selector counts only under an explicit Automatic
policy), and references it afterwards. Revisions and Compositions are never
written by a fetch. -/
theorem automatic_follows_highest_controlled (s : Store) (n : String) (x : XR)
    (hx : s.xrs.find? (·.name = n) = some x) (hnot : ∀ p, x.policy = some .manual → x.ref ≠ some p)
    (plan : Plan) (r : Rev) (hr : (run sem plan 0 (fetch n) s).2 = some (.rev r)) :
    (∃ c, s.comps.find? (·.name = x.comp) = some c ∧ r ∈ s.revs ∧ r.comp = c.name ∧ r.ctrl = some c.uid ∧
      selOK (effSel x) r = true ∧
      (∀ r' ∈ s.revs, r'.comp = c.name → r'.ctrl = some c.uid → selOK (effSel x) r' = true → r'.num ≤ r.num) ∧
      xrRef (run sem plan 0 (fetch n) s).1 x.name = some r.name) ∧
    (run sem plan 0 (fetch n) s).1.revs = s.revs ∧ (run sem plan 0 (fetch n) s).1.comps = s.comps := by
  have hp := fetch_safe s n fun x' hx' => by rw [hx] at hx'; cases hx'; exact hnot
  have ⟨hk, hpost⟩ := wp_sound_plain (Inv := fun t => t.revs = s.revs ∧ t.comps = s.comps) (Rel := fun _ _ => True) (fun _ => trivial)
    (fun _ _ _ _ _ => trivial) (fun t q ht hq => ⟨⟨(exec_revs_of_reads hq).trans ht.1, (exec_comps t q).trans ht.2⟩, trivial⟩) plan 0 ⟨rfl, rfl⟩ hp
  obtain ⟨_, hb, _⟩ := hpost _ hr
  exact ⟨hb r rfl x hx, hk.last⟩

/-- End to end: after a successful reconcile of Composition `c`, an XR of that
Composition without selector that is not pinned is handed exactly the revision of
the Composition's current content. -/
theorem automatic_gets_current (hi : H.Inj D) (s : Store) (w : WF H D s) (comp : String) (plan : Plan) (c : Comp)
    (hc : s.comps.find? (·.name = comp) = some c) (hd : c.deleting = false)
    (hok : (run sem plan 0 (reconcile H comp) s).2 = some .done ∨
           (run sem plan 0 (reconcile H comp) s).2 = some .created)
    (n : String) (x : XR) (hx : (run sem plan 0 (reconcile H comp) s).1.xrs.find? (·.name = n) = some x)
    (hxc : x.comp = comp) (hnot : ∀ p, x.policy = some .manual → x.ref ≠ some p) (hsel : effSel x = [])
    (plan' : Plan) (r : Rev)
    (hr : (run sem plan' 0 (fetch n) (run sem plan 0 (reconcile H comp) s).1).2 = some (.rev r)) :
    r.hash = H.hash c.content ∧ r.spec = toRevisionSpec c.content.spec ∧ r.labels = c.content.labels := by
  obtain ⟨g, hg, g1, g2, g3, g4, g5, g6⟩ := current_is_highest hi s w comp plan c hc hd hok
  have w1 : WF H D (run sem plan 0 (reconcile H comp) s).1 :=
    (reachEv_ok hi w (.reconcile comp plan) trivial).last
  obtain ⟨⟨c', hc', a1, a2, a3, _, a5, _⟩, _, _⟩ :=
    automatic_follows_highest_controlled _ n x hx hnot plan' r hr
  rw [run_comps, hxc, hc] at hc'
  cases hc'
  have hcn : c.name = comp := find_name (f := Comp.name) hc
  -- `g`, the revision of the current content, is controlled and strictly highest; the fetched `r` is highest among
  -- the controlled ones: so `r` cannot have another name than `g`, and names are unique
  have hle : g.num ≤ r.num := a5 g hg (g1.trans hcn.symm) g5 (by rw [hsel]; rfl)
  have hname : r.name = g.name :=
    Decidable.by_contra fun e => Nat.lt_irrefl _ (Nat.lt_of_lt_of_le (g6 r a1 (a2.trans hcn) e) hle)
  have : r = g := eq_of_name_eq w1.names a1 hg hname
  exact this ▸ ⟨g2, g3, g4⟩

/-! ### the hypotheses are satisfiable; A-B-A -/

def cA : Content := ⟨[("channel", "dev")], [], specW "function-0"⟩
def cB : Content := ⟨[("channel", "dev")], [("example.org/note", "v1")], specW "function-0"⟩   -- annotation-only edit of cA
def cC : Content := ⟨[], [], specW "function-1"⟩

def HW : Naming where
  hash := fun c => if c = cA then "ha" else if c = cB then "hb" else "hc"
  name := fun n c => n ++ (if c = cA then "-a" else if c = cB then "-b" else "-c")

def DW (c : Content) : Prop := c = cA ∨ c = cB ∨ c = cC

instance : DecidablePred DW := fun c => by unfold DW; infer_instance

theorem HW_hash_inj : ∀ c c', DW c → DW c' → HW.hash c = HW.hash c' → c = c' := by
  intro c c' h h' e
  -- the three contents differ in the number of their annotations or labels, the three labels are distinct
  have hAB : cA ≠ cB := fun h => absurd (congrArg (·.annos.length) h) (by decide)
  have hAC : cA ≠ cC := fun h => absurd (congrArg (·.labels.length) h) (by decide)
  have hBC : cB ≠ cC := fun h => absurd (congrArg (·.labels.length) h) (by decide)
  have hab : "ha" ≠ "hb" := by simp
  have hac : "ha" ≠ "hc" := by simp
  have hbc : "hb" ≠ "hc" := by simp
  exact ite3_inj_on id id hAB hAC hBC hab hac hbc h h' e

def comp0 (c : Content) : Comp := ⟨"comp", 1, c, false⟩

/-- the empty store with one Composition is well-formed (non-trivial start of every history) -/
example : WF HW DW ⟨[comp0 cA], [], []⟩ where
  comps := fun c h => by simp at h; subst h; exact Or.inl rfl
  names := List.Pairwise.nil
  faithful := fun _ h => by cases h
  pos := fun _ h => by cases h
  nums := fun _ h => by cases h

theorem HW_name_inj : ∀ n c n' c', DW c → DW c' → HW.name n c = HW.name n' c' → n = n' ∧ c = c' := by
  intro n c n' c' h h' e
  -- the three suffixes have the same length, so the names split at the same place
  have len : ∀ d : Content, (if d = cA then "-a" else if d = cB then "-b" else "-c").toList.length = 2 :=
    fun d => by
      split
      · rfl
      · split <;> rfl
  have := append_inj_of_len _ _ _ _ ((len c).trans (len c').symm) e
  have hAB : cA ≠ cB := fun h => absurd (congrArg (·.annos.length) h) (by decide)
  have hAC : cA ≠ cC := fun h => absurd (congrArg (·.labels.length) h) (by decide)
  have hBC : cB ≠ cC := fun h => absurd (congrArg (·.labels.length) h) (by decide)
  have hab : "-a" ≠ "-b" := by simp
  have hac : "-a" ≠ "-c" := by simp
  have hbc : "-b" ≠ "-c" := by simp
  exact ⟨this.1, ite3_inj_on id id hAB hAC hBC hab hac hbc h h' this.2⟩

theorem HW_inj : HW.Inj DW := ⟨HW_hash_inj, HW_name_inj⟩

def abaHistory : List Ev :=
  [.reconcile "comp" Plan.allOk, .putComp (comp0 cB), .reconcile "comp" Plan.allOk,
   .putComp (comp0 cA), .reconcile "comp" Plan.allOk]

/-- A → B → A: two revisions, the revision of A is renumbered 1 → 3 and is the highest -/
example : (runHist HW abaHistory ⟨[comp0 cA], [], []⟩).revs.map (fun r => (r.name, r.num)) =
    [("comp-a", 3), ("comp-b", 2)] := by decide +kernel

/-- same history, then every owner reference is stripped and the Composition
restored under a new UID, with a crash right after the first re-adoption write and a
retry: the numbers are untouched and the revision of A is still the highest -/
example : (runHist HW (abaHistory ++ [.putComp ⟨"comp", 7, cA, false⟩, .setCtrl ["comp-a", "comp-b"] none,
      .reconcile "comp" (Plan.at 2 .crashAfter), .reconcile "comp" Plan.allOk]) ⟨[comp0 cA], [], []⟩).revs.map
      (fun r => (r.name, r.num, r.ctrl)) = [("comp-a", 3, some 7), ("comp-b", 2, some 7)] := by decide +kernel

theorem abaHistory_ok : ∀ e ∈ abaHistory, EvOK DW e := by
  intro e he
  simp only [abaHistory, List.mem_cons, List.mem_nil_iff, or_false] at he
  rcases he with h | h | h | h | h <;> subst h <;> simp [EvOK, DW, comp0]

def start0 : Store := ⟨[comp0 cA], [], []⟩

theorem start0_wf : WF HW DW start0 where
  comps := fun c h => by simp [start0] at h; subst h; exact Or.inl rfl
  names := List.Pairwise.nil
  faithful := fun _ h => by cases h
  pos := fun _ h => by cases h
  nums := fun _ h => by cases h

/-- the hypotheses of the history theorems are met by the A-B-A history (whose
stores are non-trivial, see above) -/
example : (reachHist HW abaHistory start0).Pairwise fun a b =>
    ∀ r ∈ a.revs, ∃ r' ∈ b.revs, r'.name = r.name ∧ r.num ≤ r'.num :=
  numbers_monotone HW_inj abaHistory start0 start0_wf abaHistory_ok

/-- … and those of `current_is_highest` / `reconcile_succeeds_without_faults` by its
last reconcile (the revert to A, where revision `comp-a` goes 1 → 3) -/
example : ∃ s c, WF HW DW s ∧ s.comps.find? (·.name = "comp") = some c ∧ c.deleting = false ∧
    s.revs.map (fun r => (r.name, r.num)) = [("comp-a", 1), ("comp-b", 2)] ∧
    (run sem Plan.allOk 0 (reconcile HW "comp") s).2 = some .done :=
  ⟨runHist HW (abaHistory.take 4) start0, comp0 cA,
   (reachHist_ok HW_inj (abaHistory.take 4) start0 start0_wf
      (fun e he => abaHistory_ok e (List.mem_of_mem_take he))).last,
   by decide +kernel⟩

/-! ### defect D4: the ordering of the unchanged tree violates the property -/

/-- three revisions 1, 2, 3 of contents A, B, C (current: C) whose owner
references were stripped by a backup/restore; the Composition has a new UID -/
def d4Store : Store :=
  ⟨[⟨"comp", 10, cC, false⟩],
   [⟨"comp-a", "comp", "ha", 1, none, [("channel", "dev")], rs0, 2⟩,
    ⟨"comp-b", "comp", "hb", 2, none, [("channel", "dev")], rs0, 2⟩,
    ⟨"comp-c", "comp", "hc", 3, none, [], rs1, 2⟩], []⟩

/-- what one fault-free reconcile of the unchanged ordering does to it: the current revision goes 3 → 1 -/
theorem d4_unfixed_run :
    (run sem Plan.allOk 0 (reconcileD4 HW "comp") d4Store).1.revs.map (fun r => (r.name, r.num)) =
      [("comp-a", 1), ("comp-b", 2), ("comp-c", 1)] ∧
    (run sem Plan.allOk 0 (reconcileD4 HW "comp") d4Store).2 = some .done := by decide +kernel

/-- `numbers_monotone` is false for the unchanged ordering: the number of `comp-c` decreased -/
theorem numbers_monotone_fails_on_unfixed_witness :
    ¬ ∀ r ∈ d4Store.revs, ∃ r' ∈ (run sem Plan.allOk 0 (reconcileD4 HW "comp") d4Store).1.revs,
        r'.name = r.name ∧ r.num ≤ r'.num := by decide +kernel

/-- `current_is_highest` is false for the unchanged ordering: after a successful
reconcile the revision of the current content C does not have the highest number -/
theorem current_is_highest_fails_on_unfixed_witness :
    (run sem Plan.allOk 0 (reconcileD4 HW "comp") d4Store).2 = some .done ∧
    ¬ ∃ r ∈ (run sem Plan.allOk 0 (reconcileD4 HW "comp") d4Store).1.revs, r.hash = HW.hash cC ∧
        ∀ r' ∈ (run sem Plan.allOk 0 (reconcileD4 HW "comp") d4Store).1.revs, r'.name ≠ r.name → r'.num < r.num := by
  decide +kernel

/-- the repaired ordering on the same witness: numbers 1, 2, 3 kept, all re-adopted -/
theorem d4_fixed_run :
    (run sem Plan.allOk 0 (reconcile HW "comp") d4Store).1.revs.map (fun r => (r.name, r.num, r.ctrl)) =
      [("comp-a", 1, some 10), ("comp-b", 2, some 10), ("comp-c", 3, some 10)] := by decide +kernel

/-- the order of calls of the defective model is the other one (what the walk of the unchanged tree yields) -/
theorem d4_skeleton_differs : reconcileD4Skeleton ≠ reconcileSkeleton :=
  fun h => absurd (congrArg List.length h) (by decide)

/-! ### interference between API calls, error classes, informer-cache lag

`runX sm env plan`: other clients act on the store right before every API call
(`env k`), a call may be answered with any error class without being applied
(`Fault.reply`), reads may be served by a lagging informer cache (`semV (v k)`, a view
per call). -/

/-- the setting of the theorems above is `runX` without interference, error classes and lag -/
theorem interference_free_is_special_case {α : Type} (plan : Plan) (p : P α) (s : Store) :
    runX (fun _ => semV View.fresh) Env.none (FPlan.ofPlan plan) 0 p s = run sem plan 0 p s :=
  runX_plain (fun _ => semV_fresh) (fun _ => rfl) plan p 0 s

/-- **Numbers only grow, no revision is edited or deleted, every revision stays the
faithful image of one content with a unique name — under ANY interference, error class,
crash and cache lag**: whatever other clients do between two API calls of a reconcile (as
long as they themselves keep `WF0` and `Le`: users, backup/restore, other controllers, other
replicas of this controller), whichever error class any call is answered with, and
whatever lagging views the informer cache serves at each call. Every write the reconcile
applies is an `Update` that only raises a number or changes the owner, or a `Create` of a
faithful revision (`GoodReq`). -/
theorem history_safe_under_interference (v : Nat → View) (hv : ∀ k, ViewOK D (v k)) (env : Env Store)
    (henv : ∀ k s, WF0 H D s → WF0 H D (env k s) ∧ Le s (env k s)) (plan : FPlan) (hplan : plan.errOnly)
    (comp : String) (s : Store) (w : WF0 H D s) :
    (∀ s' ∈ reachX (fun k => semV (v k)) env plan 0 (reconcile H comp) s, WF0 H D s' ∧ Le s s') ∧
    (reachX (fun k => semV (v k)) env plan 0 (reconcile H comp) s).Pairwise Le ∧
    (∀ x ∈ ownX (fun k => semV (v k)) env plan 0 (reconcile H comp) s, WF0 H D x.1 ∧ GoodReq H D x.2) :=
  have h := issuesG_reach v env plan hv henv hplan _ (reconcile_issues comp) 0 s w
  ⟨fun s' hs' => ⟨(h.1.mem s' hs').1, (h.1.mem s' hs').2.1⟩, h.1.pairwise, h.2⟩

/-- … in particular **numbers only grow** across any two instants of such a reconcile -/
theorem numbers_monotone_under_interference (v : Nat → View) (hv : ∀ k, ViewOK D (v k)) (env : Env Store)
    (henv : ∀ k s, WF0 H D s → WF0 H D (env k s) ∧ Le s (env k s)) (plan : FPlan) (hplan : plan.errOnly)
    (comp : String) (s : Store) (w : WF0 H D s) :
    (reachX (fun k => semV (v k)) env plan 0 (reconcile H comp) s).Pairwise fun a b =>
      ∀ r ∈ a.revs, ∃ r' ∈ b.revs, r'.name = r.name ∧ r'.spec = r.spec ∧ r'.labels = r.labels ∧ r.num ≤ r'.num := by
  refine (history_safe_under_interference v hv env henv plan hplan comp s w).2.1.imp ?_
  intro a b hab r hr
  obtain ⟨r', hr', e1, _, _, e4, e5, e6⟩ := hab r hr
  exact ⟨r', hr', e1, e4, e5, e6⟩

/-- … and **a content is never captured twice**: at every instant two revisions of one
Composition carrying the same content hash are the same object -/
theorem one_rev_per_content_under_interference (hi : H.Inj D) (v : Nat → View) (hv : ∀ k, ViewOK D (v k))
    (env : Env Store) (henv : ∀ k s, WF0 H D s → WF0 H D (env k s) ∧ Le s (env k s)) (plan : FPlan)
    (hplan : plan.errOnly) (comp : String) (s : Store) (w : WF0 H D s) :
    ∀ s' ∈ reachX (fun k => semV (v k)) env plan 0 (reconcile H comp) s,
      ∀ a ∈ s'.revs, ∀ b ∈ s'.revs, a.comp = b.comp → a.hash = b.hash → a = b := by
  intro s' hs' a ha b hb hc hh
  exact ((history_safe_under_interference v hv env henv plan hplan comp s w).1 s' hs').1.eq_of_hash hi ha hb hc hh

/-- the same for the XR side: a fetch keeps the revision history intact whatever happens around it -/
theorem fetch_safe_under_interference (v : Nat → View) (hv : ∀ k, ViewOK D (v k)) (env : Env Store)
    (henv : ∀ k s, WF0 H D s → WF0 H D (env k s) ∧ Le s (env k s)) (plan : FPlan) (hplan : plan.errOnly)
    (xr : String) (s : Store) (w : WF0 H D s) :
    (∀ s' ∈ reachX (fun k => semV (v k)) env plan 0 (fetch xr) s, WF0 H D s' ∧ Le s s') ∧
    (reachX (fun k => semV (v k)) env plan 0 (fetch xr) s).Pairwise Le :=
  have h := (issuesG_reach v env plan hv henv hplan _ (fetch_issues xr) 0 s w).1
  ⟨fun s' hs' => ⟨(h.mem s' hs').1, (h.mem s' hs').2.1⟩, h.pairwise⟩

/-- **After a reconcile that returned without error the revision of the content it read
has the strictly highest number — also when third parties act between its API calls**
(`RelyT`: users editing / re-creating Compositions and XRs, backup/restore or other
controllers stripping or replacing the owner references of revisions) and whichever
error class any later call is answered with. `c` is the Composition the reconcile's `Get`
returned (the store after the interference preceding that call). Lists are read fresh. -/
theorem current_is_highest_under_interference (hi : H.Inj D) (s : Store) (w : WF H D s) (env : Env Store)
    (henv : ∀ k s, RelyT D s (env k s)) (plan : FPlan) (hplan : plan.errOnly) (hp0 : plan 0 = .out .ok)
    (comp : String) (c : Comp) (hc : (env 0 s).comps.find? (·.name = comp) = some c) (hd : c.deleting = false)
    (hok : (runX (fun _ => sem) env plan 0 (reconcile H comp) s).2 = some .done ∨
           (runX (fun _ => sem) env plan 0 (reconcile H comp) s).2 = some .created) :
    ∃ r ∈ (runX (fun _ => sem) env plan 0 (reconcile H comp) s).1.revs,
      r.comp = comp ∧ r.hash = H.hash c.content ∧ r.spec = toRevisionSpec c.content.spec ∧ r.labels = c.content.labels ∧
      ∀ r' ∈ (runX (fun _ => sem) env plan 0 (reconcile H comp) s).1.revs,
        r'.comp = comp → r'.name ≠ r.name → r'.num < r.num := by
  have hcn : c.name = comp := find_name (f := Comp.name) hc
  obtain ⟨res, hres, hr⟩ : ∃ res, (runX (fun _ => sem) env plan 0 (reconcile H comp) s).2 = some res ∧
      (res = .done ∨ res = .created) := hok.elim (fun h => ⟨_, h, .inl rfl⟩) fun h => ⟨_, h, .inr rfl⟩
  obtain ⟨r, hr, g1, g2, g3, g4, _, g5⟩ := reconcile_good_of_relyT hi w (fun k s _ => henv k s) hplan hp0 hc hd hres hr
  exact ⟨r, hr, hcn ▸ g1, g2, g3, g4, fun r' hr' hc' hn => g5 r' hr' (hcn ▸ hc') hn⟩

/-- **An XR that is Manual and references a revision keeps using it — whatever happens
around the fetch**: if the XR the fetch read (through a possibly lagging cache, after
whatever other clients did) is Manual and references `p`, the fetch applies no write at
all, under every interference, error class and cache lag, and the only revision it can
hand over is named `p`. -/
theorem manual_pins_under_interference (v : Nat → View) (env : Env Store) (plan : FPlan) (hplan : plan.errOnly)
    (hp0 : plan 0 = .out .ok) (s : Store) (n : String) (x : XR) (p : String)
    (hx : ((v 0).apply (env 0 s)).xrs.find? (·.name = n) = some x)
    (hpol : x.policy = some .manual) (href : x.ref = some p) :
    (∀ y ∈ ownX (fun k => semV (v k)) env plan 0 (fetch n) s, y.2.isWrite = false) ∧
    ∀ r, (runX (fun k => semV (v k)) env plan 0 (fetch n) s).2 = some (.rev r) → r.name = p := by
  obtain ⟨k, hk, _, hm⟩ := fetch_head n
  have e0 : (semV (v 0)).exec (env 0 s) (.getXR n) = (env 0 s, .xr x) :=
    show (env 0 s, (exec ((v 0).apply (env 0 s)) (.getXR n)).2) = _ by simp only [exec, hx]
  rw [hk, runX_ok _ _ _ hp0, ownX_ok _ _ _ hp0, e0, hm x p hpol href]
  obtain ⟨h1, h2⟩ := manualTail_runX v env plan hplan p 1 (env 0 s)
  exact ⟨fun y hy => (List.mem_cons.mp hy).elim (fun h => h ▸ rfl) (h1 y), h2⟩

/-- every environment action of the histories is, from a well-formed store, within the rely `RelyT` of
`current_is_highest_under_interference` -/
theorem envStep_is_third_party (s : Store) (w : WF H D s) (e : Ev) (he : EvOK D e) : RelyT D s (envStep s e) :=
  envStep_relyT w.comps e he

/-! ### the revision-created handler of the XR controller -/

/-- **Every XR that is not Manual and uses the Composition of a newly created revision is
enqueued** (so that its next fetch moves it to that revision), and nothing else is. -/
theorem enqueue_exactly_automatic (xrs : List XR) (r : Rev) (hr : r.comp ≠ "") (n : String) :
    n ∈ enqueueFor xrs r ↔ ∃ x ∈ xrs, x.name = n ∧ x.comp = r.comp ∧ x.policy ≠ some .manual := by
  simp only [enqueueFor, hr, if_false, List.mem_map, List.mem_filter, Bool.and_eq_true, decide_eq_true_eq,
    ne_eq]
  constructor
  · rintro ⟨x, ⟨hx, hp, hc⟩, e⟩; exact ⟨x, hx, e, hc, hp⟩
  · rintro ⟨x, hx, e, hc, hp⟩; exact ⟨x, ⟨hx, hp, hc⟩, e⟩

/-! ### finding D22: with a lagging revision list the current content does not get the highest number -/

def revA : Rev := ⟨"comp-a", "comp", "ha", 1, some 1, [("channel", "dev")], rs0, 1⟩
def revB : Rev := ⟨"comp-b", "comp", "hb", 2, some 1, [("channel", "dev")], rs0, 1⟩

/-- contents A, B captured as revisions 1, 2; the Composition was just edited to C -/
def staleStore : Store := ⟨[comp0 cC], [revA, revB], [⟨"xr", "comp", some .automatic, none, none, 0⟩]⟩

/-- the informer cache has not yet seen revision B (created by the previous reconcile) -/
def staleView : View := { revs := some [revA] }

def afterStale : Store := (runX (fun _ => semV staleView) Env.none (FPlan.ofPlan Plan.allOk) 0 (reconcile HW "comp") staleStore).1

/-- the reconcile on the lagging list creates the revision of C with number 2, which B already carries -/
theorem stale_list_run :
    (runX (fun _ => semV staleView) Env.none (FPlan.ofPlan Plan.allOk) 0 (reconcile HW "comp") staleStore).2 = some .created ∧
    afterStale.revs.map (fun r => (r.name, r.num)) = [("comp-a", 1), ("comp-b", 2), ("comp-c", 2)] := by decide +kernel

/-- `current_is_highest` is false with a lagging list: the reconcile returned without error
and the revision of the current content C does not have the strictly highest number -/
theorem current_is_highest_fails_with_stale_list_witness :
    (runX (fun _ => semV staleView) Env.none (FPlan.ofPlan Plan.allOk) 0 (reconcile HW "comp") staleStore).2 = some .created ∧
    ¬ ∃ r ∈ afterStale.revs, r.hash = HW.hash cC ∧ ∀ r' ∈ afterStale.revs, r'.name ≠ r.name → r'.num < r.num :=
  ⟨stale_list_run.1, fun ⟨r, hr, _, h⟩ =>
    no_strict_max_of_tie (a := "comp-b") (b := "comp-c") (n := 2) (by rw [stale_list_run.2]; decide)
      (by rw [stale_list_run.2]; simp) (by rw [stale_list_run.2]; simp) (by simp) ⟨r, hr, h⟩⟩

/-- … and no later reconcile repairs it: on fresh reads the reconcile returns `done` and
leaves the tie, and an Automatic XR is handed the revision of the PREVIOUS content B -/
theorem stale_list_tie_is_never_repaired_witness :
    run sem Plan.allOk 0 (reconcile HW "comp") afterStale = (afterStale, some .done) ∧
    ((run sem Plan.allOk 0 (fetch "xr") afterStale).2.map fun | .rev r => r.name | .err => "err") = some "comp-b" := by
  decide +kernel

/-! ### observation: a label<->annotation move does not change the hash input

`Composition.Hash` concatenates yaml(labels), yaml(annotations), yaml(spec) without separator
(`skeleton_Hash`, `hash_input_eq_iff`). Moving the last label entries to the front of the
annotations (both maps staying non-empty) is a label/annotation-only edit that leaves the
input, hence the hash label, unchanged: no new revision is created, the revision of the
previous content stays the current one. Its spec equals the new content's spec
(`hash_input_determines_spec`); the labels copied at its creation are those of the previous
content (`shift_labels_prefix`). The clauses of the property (spec equals the content, numbers,
highest, Manual / Automatic selection) hold; what does not carry over is the strengthening
`r.labels = c.content.labels` of `current_is_highest`, whose hypothesis `Naming.Inj` is false
for such a pair (`naming_not_inj_on_move`). -/

def cX : Content := ⟨[("channel", "dev"), ("tier", "gold")], [("zone", "z1")], specW "function-0"⟩
/-- `cX` with the label `tier: gold` moved to the annotations -/
def cY : Content := ⟨[("channel", "dev")], [("tier", "gold"), ("zone", "z1")], specW "function-0"⟩

/-- the move is a `Shift`: two distinct contents with the same hash input -/
theorem move_collides_witness : cX ≠ cY ∧ Shift cX cY ∧ hashToks cX = hashToks cY :=
  have hs : Shift cX cY :=
    ⟨rfl, List.cons_ne_nil _ _, List.cons_ne_nil _ _, List.cons_ne_nil _ _, List.cons_ne_nil _ _, rfl⟩
  ⟨fun h => absurd (congrArg (·.labels.length) h) (by decide), hs, (hash_input_eq_iff cX cY).mpr (Or.inr hs)⟩

/-- a digest on the inputs of `cX` (= that of `cY`), `cA`, and everything else -/
def dgW (t : List Tok) : String :=
  if t = hashToks cX then "1111111aaaa" else if t = hashToks cA then "2222222bbbb" else "3333333cccc"

def HD : Naming := Naming.ofDigest dgW

def xrGold : XR := ⟨"xr", "comp", some .automatic, some [("tier", "gold")], none, 0⟩

/-- X, reconcile, move edit to Y, reconcile -/
def moveHistory : List Ev :=
  [.reconcile "comp" Plan.allOk, .putComp (comp0 cY), .reconcile "comp" Plan.allOk]

/-- **What the move edit does**, on the model (`reconcile`, the controller with fixes/D4.diff): the second reconcile
returns `done` without creating anything; the one revision keeps number 1 and the labels of
X (`tier: gold` is no label of Y any more); its spec is Y's spec; an Automatic XR selecting
`tier: gold` is still handed it. -/
theorem move_edit_keeps_revision_witness :
    (runHist HD moveHistory ⟨[comp0 cX], [], [xrGold]⟩).revs.map (fun r => (r.name, r.num, r.labels, decide (r.spec = toRevisionSpec cY.spec))) =
      [("comp-1111111", 1, cX.labels, true)] ∧
    (run sem Plan.allOk 0 (reconcile HD "comp") (runHist HD (moveHistory.take 2) ⟨[comp0 cX], [], [xrGold]⟩)).2 = some .done ∧
    ((run sem Plan.allOk 0 (fetch "xr") (runHist HD moveHistory ⟨[comp0 cX], [], [xrGold]⟩)).2.map
      fun | .rev r => r.name | .err => "err") = some "comp-1111111" := by decide +kernel

/-- the move in the other direction (Y first, then the label added by moving it out of the
annotations): no revision carries the new label, the selecting XR finds no revision -/
theorem move_edit_reverse_witness :
    (runHist HD [.reconcile "comp" Plan.allOk, .putComp (comp0 cX), .reconcile "comp" Plan.allOk]
      ⟨[comp0 cY], [], [xrGold]⟩).revs.map (fun r => (r.name, r.num, r.labels)) = [("comp-1111111", 1, cY.labels)] ∧
    ((run sem Plan.allOk 0 (fetch "xr") (runHist HD [.reconcile "comp" Plan.allOk, .putComp (comp0 cX),
      .reconcile "comp" Plan.allOk] ⟨[comp0 cY], [], [xrGold]⟩)).2.map fun | .rev r => r.name | .err => "err") = some "err" := by
  decide +kernel

/-! the hypotheses of `naming_inj_of_digest` and `naming_not_inj_on_move` are satisfiable -/

def DW2 (c : Content) : Prop := c = cX ∨ c = cA ∨ c = cC

/-- a set of three contents without a move … -/
theorem DW2_separated : Separated DW2 := by
  -- only `cX` has annotations, and a move needs annotations on both sides
  have key : ∀ d, DW2 d → d.annos ≠ [] → d = cX := by
    rintro d (rfl | rfl | rfl) h
    · rfl
    · exact absurd rfl h
    · exact absurd rfl h
  intro c c' h h' hs
  exact (key c h hs.2.2.1).trans (key c' h' hs.2.2.2.2.1).symm

/-- … on which `dgW` is collision-free, so that `naming_inj_of_digest` applies to `HD` -/
example : DigestInj dgW DW2 where
  label := fun c c' h h' e => by
    have lx : takeStr Xp.Gen.revisionHashLabelLen "1111111aaaa" = "1111111aaaa" := by rw [takeStr_ofList]; decide +kernel
    have ly : takeStr Xp.Gen.revisionHashLabelLen "2222222bbbb" = "2222222bbbb" := by rw [takeStr_ofList]; decide +kernel
    have lz : takeStr Xp.Gen.revisionHashLabelLen "3333333cccc" = "3333333cccc" := by rw [takeStr_ofList]; decide +kernel
    exact ite3_inj_on hashToks (takeStr Xp.Gen.revisionHashLabelLen) (by decide +kernel) (by decide) (by decide)
      (by simp [lx, ly]) (by simp [lx, lz]) (by simp [ly, lz])
      h h' e
  name := fun n c n' c' h h' e => by
    have sx : takeStr Xp.Gen.revisionNameSuffixLen (takeStr Xp.Gen.revisionHashLabelLen "1111111aaaa") = "1111111" := by
      rw [takeStr_ofList, takeStr_ofList]; decide +kernel
    have sy : takeStr Xp.Gen.revisionNameSuffixLen (takeStr Xp.Gen.revisionHashLabelLen "2222222bbbb") = "2222222" := by
      rw [takeStr_ofList, takeStr_ofList]; decide +kernel
    have sz : takeStr Xp.Gen.revisionNameSuffixLen (takeStr Xp.Gen.revisionHashLabelLen "3333333cccc") = "3333333" := by
      rw [takeStr_ofList, takeStr_ofList]; decide +kernel
    -- the suffix is one of three 7-character strings, so the names split at the same places
    have len : ∀ t, (takeStr Xp.Gen.revisionNameSuffixLen (takeStr Xp.Gen.revisionHashLabelLen (dgW t))).toList.length = 7 :=
      fun t => by
        unfold dgW
        split
        · rw [sx, String.toList_ofList]; rfl
        · split
          · rw [sy, String.toList_ofList]; rfl
          · rw [sz, String.toList_ofList]; rfl
    have h1 := append_inj_of_len _ _ _ _ ((len _).trans (len _).symm) e
    have h2 := append_inj_of_len _ _ _ _ rfl h1.1
    exact ⟨h2.1, ite3_inj_on hashToks (fun d => takeStr Xp.Gen.revisionNameSuffixLen (takeStr Xp.Gen.revisionHashLabelLen d))
      (by decide +kernel) (by decide) (by decide) (by simp [sx, sy]) (by simp [sx, sz]) (by simp [sy, sz])
      h h' h1.2⟩

/-- `naming_not_inj_on_move` applies to every set containing `cX` and `cY` -/
example : ¬ HD.Inj (fun c => c = cX ∨ c = cY) :=
  naming_not_inj_on_move dgW (Or.inl rfl) (Or.inr rfl) move_collides_witness.1 move_collides_witness.2.1

/-- `hash_input_eq_iff` / `hash_input_determines_spec` / `shift_labels_prefix` on the witness -/
example : cX.spec = cY.spec ∧ cX.labels <+: cY.labels ++ cY.annos ∧ cY.labels <+: cX.labels ++ cX.annos :=
  ⟨hash_input_determines_spec move_collides_witness.2.2, shift_labels_prefix move_collides_witness.2.2,
   shift_labels_prefix move_collides_witness.2.2.symm⟩

/-- `matching_hash_never_creates` on the list and the continuation of `reconcile` after the move -/
example : NoCreate (renumLoop (HD.hash cY) 1 [newRev HD (comp0 cX) 1] 0 fun ex =>
    if ex > 0 then .ret .done else .call (.createRev (newRev HD (comp0 cY) 2)) fun _ => .ret .err) :=
  matching_hash_never_creates _ _ _ (fun n hn => by simp [hn, NoCreate]) _
    (fun r hr => by rw [List.mem_singleton.mp hr]; exact Nat.le_refl 1)
    ⟨_, List.mem_cons_self .., (hash_label_function_of_input dgW cX cY "" move_collides_witness.2.2).1⟩

/-- `new_revision_is_copy` on a spec with every field set -/
example : (newRev HD ⟨"comp", 1, ⟨[("a", "b")], [], ⟨"example.org/v1", "XThing", some "Resources", ["common"], ["bucket"],
    [("compose", "fn")], some "ns", some "vault"⟩⟩, false⟩ 4).spec.toSpec =
    ⟨"example.org/v1", "XThing", some "Resources", ["common"], ["bucket"], [("compose", "fn")], some "ns", some "vault"⟩ :=
  (new_revision_is_copy _ _ _).1

end Xp.C12
