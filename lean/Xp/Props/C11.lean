import Xp.Proofs.C11
import Xp.Proofs.C11Hook
import Xp.Gen.C11Skel
/-
C11 property theorems: the CRDs derived from an XRD are the author's schema plus
intact Crossplane machinery; colliding claim names are rejected; group and
kind/plural cannot change.

`derive .xr = forXR` models xcrd.ForCompositeResource, `derive .claim = forClaim`
models xcrd.ForCompositeResourceClaim.  All theorems quantify over every XRD
(any number of versions, any schema tree, any names, policies, conversion) and,
where they speak about the machinery, are stated over the tables regenerated
from /repo (`Xp.Gen.xcrd…`).  `tables_consistent`, `machinery_complete` and the
`machinery_shape_*` theorems are obligations on those generated tables: they break
when the tree's tables stop containing the machinery the property names.
-/
namespace Xp.C11
open Xp.Gen

/-! ## obligations on the regenerated tables -/

/-- the key lists and the full tables come from the same functions, and no table repeats a key
(so Go's map iteration order cannot influence the result) -/
theorem tables_consistent :
    keys xcrdSpecPropsXR = specPropsXR ∧ keys xcrdSpecPropsClaim = specPropsClaim ∧ keys xcrdStatusProps = statusProps ∧
    specPropsXR.Nodup ∧ specPropsClaim.Nodup ∧ statusProps.Nodup :=
  ⟨rfl, rfl, rfl, nodup_tableOf .xr, nodup_tableOf .claim, nodup_statusProps⟩

/-- the machinery the property names is in the tables: composition selection, references,
connection secret settings (spec) and conditions / connection details (status) -/
theorem machinery_complete :
    (∀ k ∈ ["compositionRef", "compositionSelector", "compositionRevisionRef", "compositionRevisionSelector",
            "compositionUpdatePolicy", "claimRef", "resourceRefs", "publishConnectionDetailsTo",
            "writeConnectionSecretToRef"], k ∈ specPropsXR) ∧
    (∀ k ∈ ["compositionRef", "compositionSelector", "compositionRevisionRef", "compositionRevisionSelector",
            "compositionUpdatePolicy", "compositeDeletePolicy", "resourceRef", "publishConnectionDetailsTo",
            "writeConnectionSecretToRef"], k ∈ specPropsClaim) ∧
    (∀ k ∈ ["conditions", "connectionDetails"], k ∈ statusProps) ∧
    (∀ k ∈ propagateSpecProps, k ∈ specPropsXR ∧ k ∈ specPropsClaim) := by decide +kernel

/-- what "standard schema" means, stated without the tables: type, required list and property
names of every machinery field of a composite resource -/
theorem machinery_shape_xr : shape xcrdSpecPropsXR = [
    ("claimRef", "object", ["apiVersion", "kind", "namespace", "name"], ["apiVersion", "kind", "name", "namespace"]),
    ("compositionRef", "object", ["name"], ["name"]),
    ("compositionRevisionRef", "object", ["name"], ["name"]),
    ("compositionRevisionSelector", "object", ["matchLabels"], ["matchLabels"]),
    ("compositionSelector", "object", ["matchLabels"], ["matchLabels"]),
    ("compositionUpdatePolicy", "string", [], []),
    ("publishConnectionDetailsTo", "object", ["name"], ["configRef", "metadata", "name"]),
    ("resourceRefs", "array", [], []),
    ("writeConnectionSecretToRef", "object", ["name", "namespace"], ["name", "namespace"])] := rfl

theorem machinery_shape_claim : shape xcrdSpecPropsClaim = [
    ("compositeDeletePolicy", "string", [], []),
    ("compositionRef", "object", ["name"], ["name"]),
    ("compositionRevisionRef", "object", ["name"], ["name"]),
    ("compositionRevisionSelector", "object", ["matchLabels"], ["matchLabels"]),
    ("compositionSelector", "object", ["matchLabels"], ["matchLabels"]),
    ("compositionUpdatePolicy", "string", [], []),
    ("publishConnectionDetailsTo", "object", ["name"], ["configRef", "metadata", "name"]),
    ("resourceRef", "object", ["apiVersion", "kind", "name"], ["apiVersion", "kind", "name"]),
    ("writeConnectionSecretToRef", "object", ["name"], ["name"])] := rfl

theorem machinery_shape_status : shape xcrdStatusProps = [
    ("claimConditionTypes", "array", [], []),
    ("conditions", "array", [], []),
    ("connectionDetails", "object", [], ["lastPublishedTime"])] := rfl

/-- BaseProps' spec and status nodes start empty, so nothing but the author's and the machinery's fields
end up there -/
theorem base_schema :
    xcrdBaseProps.type = "object" ∧ xcrdBaseProps.required = ["spec"] ∧
    keys xcrdBaseProps.props = ["apiVersion", "kind", "metadata", "spec", "status"] ∧
    (prop xcrdBaseProps "metadata").type = "object" ∧
    (prop xcrdBaseProps "spec").type = "object" ∧ keys (prop xcrdBaseProps "spec").props = [] ∧
    (prop xcrdBaseProps "spec").required = [] ∧ (prop xcrdBaseProps "spec").xValidations = [] ∧
    (prop xcrdBaseProps "spec").oneOf = [] ∧
    (prop xcrdBaseProps "status").type = "object" ∧ keys (prop xcrdBaseProps "status").props = [] := by
  simp [xcrdBaseProps, prop, lookup, keys]

/-- names are used as label values: the limit written into both CRDs is 63 -/
theorem name_limit : maxNameLengthOf .xr = 63 ∧ maxNameLengthOf .claim = 63 := ⟨rfl, rfl⟩

/-- the keywords an author's schema relies on are keywords of the type the derivation decodes the
document into (extv1.JSONSchemaProps of the module version the current tree pins, by reflection):
none of them is dropped by the decode before genCrdVersion runs, `properties` is a map of schemas,
`items` a schema or a list of schemas, the CEL rules a list of rule objects. (A keyword outside
this table never reaches the derivation: JSON decoding is library code.) -/
theorem schema_keywords_known :
    (∀ k ∈ ["type", "description", "properties", "required", "default", "enum", "format", "pattern", "nullable",
            "items", "additionalProperties", "minimum", "maximum", "multipleOf", "minLength", "maxLength",
            "minItems", "maxItems", "uniqueItems", "minProperties", "maxProperties", "oneOf", "anyOf", "allOf", "not",
            "x-kubernetes-validations", "x-kubernetes-preserve-unknown-fields", "x-kubernetes-int-or-string",
            "x-kubernetes-embedded-resource", "x-kubernetes-list-type", "x-kubernetes-list-map-keys",
            "x-kubernetes-map-type"], k ∈ keys xcrdSchemaKeywords) ∧
    (keys xcrdSchemaKeywords).Nodup ∧
    lookup "properties" xcrdSchemaKeywords = some "schemaMap" ∧
    lookup "items" xcrdSchemaKeywords = some "schemaOrSchemas" ∧
    lookup "additionalProperties" xcrdSchemaKeywords = some "schemaOrBool" ∧
    lookup "oneOf" xcrdSchemaKeywords = some "schemas" ∧
    lookup "x-kubernetes-validations" xcrdSchemaKeywords = some "rules" := by decide +kernel

/-! ## obligations on the regenerated statement / call skeletons

Every Go function the model mirrors is read with go/ast from the current tree on every run
(harness/main/c11_skel.go -> Xp.Gen.c11Stmts…): its leaf statements and control headers in source
order. The model files declare the statements their definitions mirror (one entry per statement,
with the model step); these obligations say the two lists are equal, so that a field copy dropped,
two writes swapped, a comparison changed or a call inserted in a mirrored function fails here before
any scenario is run. -/

theorem skeleton_ForCompositeResource : c11StmtsForCompositeResource = skelForCompositeResource := rfl
theorem skeleton_ForCompositeResourceClaim : c11StmtsForCompositeResourceClaim = skelForCompositeResourceClaim := rfl
theorem skeleton_genCrdVersion : c11StmtsGenCrdVersion = skelGenCrdVersion := rfl
theorem skeleton_validateClaimNames : c11StmtsValidateClaimNames = skelValidateClaimNames := rfl
theorem skeleton_parseSchema : c11StmtsParseSchema = skelParseSchema := rfl
theorem skeleton_setCrdMetadata : c11StmtsSetCrdMetadata = skelSetCrdMetadata := rfl
theorem skeleton_IsEstablished : c11StmtsIsEstablished = skelIsEstablished ∧
    c11EstablishedType = "Established" ∧ c11ConditionTrue = "True" := ⟨rfl, rfl, rfl⟩
theorem skeleton_Validate : c11StmtsValidate = skelValidate ∧ c11StmtsValidateConversion = skelValidateConversion := ⟨rfl, rfl⟩
theorem skeleton_ValidateUpdate : c11StmtsValidateUpdate = skelValidateUpdate := rfl
theorem skeleton_getAllCRDsForXRD : c11StmtsGetAllCRDsForXRD = skelGetAllCRDsForXRD := rfl
theorem skeleton_hook_ValidateCreate : c11StmtsHookValidateCreate = skelHookValidateCreate := rfl
theorem skeleton_hook_ValidateUpdate : c11StmtsHookValidateUpdate = skelHookValidateUpdate := rfl
theorem skeleton_hook_dryRunUpdateOrCreateIfNotFound : c11StmtsHookDryRun = skelHookDryRun := rfl
theorem skeleton_hook_rewriteError : c11StmtsHookRewriteError = skelHookRewriteError := rfl

/-- the verbs go/ast finds on the validator's client are the requests of the model's Prog trees
(a function of the model, for every CRD): Get, then a dry-run Update or a dry-run Create inside the
retried closure; one dry-run Create per CRD in ValidateCreate; nothing else, and ValidateUpdate itself
calls the client only through dryRunUpdateOrCreateIfNotFound -/
theorem skeleton_hook_client_calls (crd : Crd) :
    c11CallsHookDryRun = callsHookDryRun crd ∧ c11CallsHookValidateCreate = callsHookValidateCreate crd ∧
    c11CallsHookValidateUpdate = [] := ⟨rfl, rfl, rfl⟩

/-- the reconcilers that write the CRDs: Render (built with xcrd.ForCompositeResource /
ForCompositeResourceClaim themselves, not a wrapper) comes before the one Apply, and the only other
function of package xcrd Reconcile uses is the establishment gate IsEstablished (no option that
filters or skips the Apply) -/
theorem skeleton_reconcilers :
    c11SkelDefinitionReconcile = skelDefinitionReconcile ∧ c11SkelOfferedReconcile = skelOfferedReconcile ∧
    c11RendererDefinition = rendererOf .xr ∧ c11RendererOffered = rendererOf .claim ∧
    c11XcrdInDefinitionReconcile = ["IsEstablished"] ∧ c11XcrdInOfferedReconcile = ["IsEstablished"] :=
  ⟨rfl, rfl, rfl, rfl, rfl, rfl⟩

/-! ## machinery intact -/

/-- Whatever the author wrote under a machinery key of `spec` (in any version, in either CRD),
the CRD carries the standard schema of the table there; the only variation is the `default` of the
policy field when the XRD sets a default policy. -/
theorem machinery_intact (w : Which) (xrd : Xrd) (crd : Crd) (h : derive w xrd = .ok crd) :
    ∀ cv ∈ crd.versions, ∀ k std, lookup k (tableOf w) = some std →
      lookup k (prop cv.schema "spec").props =
        some (if k = policyKey w then applyDefault (policyOf w xrd) std else std) := by
  refine derive_all h fun vr s k std hk => ?_
  rw [lookup_spec_props (nodup_machineryOf w xrd), lookup_machineryOf, hk]
  rfl

/-- the same for the machinery status fields (conditions, connectionDetails, claimConditionTypes) -/
theorem machinery_intact_status (w : Which) (xrd : Xrd) (crd : Crd) (h : derive w xrd = .ok crd) :
    ∀ cv ∈ crd.versions, ∀ k std, lookup k xcrdStatusProps = some std →
      lookup k (prop cv.schema "status").props = some std := by
  refine derive_all h fun vr s k std hk => ?_
  rw [lookup_status_props, hk]
  rfl

/-- the envelope cannot be altered either: every version's schema is an object requiring `spec`,
apiVersion and kind are BaseProps', `spec`, `status`, `metadata` stay objects, and `metadata`
declares nothing but `name` – whatever the author's top-level schema says -/
theorem machinery_intact_root (w : Which) (xrd : Xrd) (crd : Crd) (h : derive w xrd = .ok crd) :
    ∀ cv ∈ crd.versions,
      cv.schema.type = "object" ∧ cv.schema.required = ["spec"] ∧
      lookup "apiVersion" cv.schema.props = lookup "apiVersion" xcrdBaseProps.props ∧
      lookup "kind" cv.schema.props = lookup "kind" xcrdBaseProps.props ∧
      (prop cv.schema "spec").type = "object" ∧ (prop cv.schema "status").type = "object" ∧
      (prop cv.schema "metadata").type = "object" ∧ keys (prop cv.schema "metadata").props = ["name"] := by
  refine derive_all h fun vr s => ?_
  rw [schema_decorate, genSpec_base, genStatus_base, genMetadata_base]
  simp [prop, lookup, keys, xcrdBaseProps]

/-! ## author's schema kept -/

/-- Every property the author declares under `spec` / `status` whose name is not a machinery key
is carried unchanged into both CRDs, in every version, and nothing else appears there. (An author's
`properties` is a JSON object, hence without duplicate keys.) -/
theorem author_kept (w : Which) (xrd : Xrd) (crd : Crd) (h : derive w xrd = .ok crd) :
    Zip (fun vr cv => ∀ s, vr.schema = .ok s →
        ((keys (prop s "spec").props).Nodup → ∀ k, k ∉ keys (tableOf w) →
            lookup k (prop cv.schema "spec").props = lookup k (prop s "spec").props) ∧
        ((keys (prop s "status").props).Nodup → ∀ k, k ∉ statusProps →
            lookup k (prop cv.schema "status").props = lookup k (prop s "status").props))
      xrd.versions crd.versions := by
  refine derive_zip h fun vr s hs s' hs' => ?_
  cases hs.symm.trans hs'
  constructor
  · intro hnd k hk
    rw [lookup_spec_props (nodup_machineryOf w xrd), lookup_machineryOf, (lookup_eq_none_iff k _).mpr hk,
      lookup_setAll_nil k _ hnd]
    rfl
  · intro hnd k hk
    rw [lookup_status_props, (lookup_eq_none_iff k Xp.Gen.xcrdStatusProps).mpr hk, lookup_setAll_nil k _ hnd]
    rfl

/-- required lists, CEL rules, oneOf alternatives, descriptions and the spec's
preserve-unknown-fields switch of the author's `spec` and `status` are carried exactly -/
theorem author_rules_kept (w : Which) (xrd : Xrd) (crd : Crd) (h : derive w xrd = .ok crd) :
    Zip (fun vr cv => ∀ s, vr.schema = .ok s →
        (prop cv.schema "spec").required = (prop s "spec").required ∧
        (prop cv.schema "spec").xValidations = (prop s "spec").xValidations ∧
        (prop cv.schema "spec").oneOf = (prop s "spec").oneOf ∧
        (prop cv.schema "spec").description = (prop s "spec").description ∧
        (prop cv.schema "spec").preserveUnknown = (prop s "spec").preserveUnknown ∧
        (prop cv.schema "status").required = (prop s "status").required ∧
        (prop cv.schema "status").xValidations = (prop s "status").xValidations ∧
        (prop cv.schema "status").oneOf = (prop s "status").oneOf ∧
        (prop cv.schema "status").description = (prop s "status").description ∧
        cv.schema.description = s.description)
      xrd.versions crd.versions := by
  refine derive_zip h fun vr s hs s' hs' => ?_
  cases hs.symm.trans hs'
  simp [schema_decorate, genSpec_base, genStatus_base, prop, lookup]

/-- ... and EXACTLY that much of the author's document is read: both derivations give the same
result (CRD or error) for an XRD and for the XRD whose schemas are cut down to the top-level
description, the spec node's required / preserve-unknown-fields / rules / oneOf / description /
properties, the status node's required / rules / oneOf / description / properties and
metadata.name.maxLength. Every other keyword at those three levels (type, default, enum, anyOf,
allOf, not, additionalProperties, nullable, min/maxProperties, status preserve-unknown-fields,
further top-level properties, top-level rules) is dropped by the derivation; keywords INSIDE a
property of spec / status are carried whole (`author_kept`). -/
theorem author_read_exactly (w : Which) (xrd : Xrd) :
    derive w { xrd with versions := xrd.versions.map Version.read } = derive w xrd := by
  cases w with
  | xr => simp only [derive, forXR, genVersions_read]; rfl
  | claim => simp only [derive, forClaim, genVersions_read]; rfl

/-- labels and annotations: the CRD carries the XRD's own labels overlaid with spec.metadata.labels
(on a shared key spec.metadata wins), and exactly spec.metadata.annotations (the XRD's own
annotations are not propagated) - the same on both CRDs -/
theorem labels_propagated (w : Which) (xrd : Xrd) (crd : Crd) (h : derive w xrd = .ok crd) :
    crd.annotations = xrd.metaAnnotations ∧
    ((keys xrd.metaLabels).Nodup →
      (∀ k, k ∈ keys xrd.metaLabels → lookup k crd.labels = lookup k xrd.metaLabels) ∧
      (∀ k, k ∉ keys xrd.metaLabels → lookup k crd.labels = lookup k xrd.labels)) := by
  have hl : crd.labels = crdLabels xrd ∧ crd.annotations = xrd.metaAnnotations := by
    cases w with
    | xr => obtain ⟨vs, _, rfl⟩ := forXR_ok xrd crd h; exact ⟨rfl, rfl⟩
    | claim => obtain ⟨c, vs, _, _, rfl⟩ := forClaim_ok xrd crd h; exact ⟨rfl, rfl⟩
  refine ⟨hl.2, fun hnd => ⟨fun k hk => ?_, fun k hk => ?_⟩⟩
  · rw [hl.1]; exact lookup_setAll_of_mem k _ _ hnd hk
  · rw [hl.1]; exact lookup_setAll_of_not_mem k _ _ hnd hk

/-- the machinery printer columns of the current tree: Synced / Ready first, then the composition
(composite) or the connection secret (claim), and the age (obligation on the regenerated tables;
`versions_all` says every version carries the author's columns followed by exactly these) -/
theorem printer_columns_shape :
    xcrdPrinterColumnNamesXR = ["SYNCED", "READY", "COMPOSITION", "COMPOSITIONREVISION", "AGE"] ∧
    xcrdPrinterColumnNamesClaim = ["SYNCED", "READY", "CONNECTION-SECRET", "AGE"] ∧
    xcrdPrinterColumnsXR.length = 5 ∧ xcrdPrinterColumnsClaim.length = 4 ∧
    categoryComposite = "composite" ∧ categoryClaim = "claim" := ⟨rfl, rfl, rfl, rfl, rfl, rfl⟩

/-! ## versions, storage, subresource, scope, owner, names -/

/-- every version of the XRD appears, in order, with its name, served flag, deprecation data and
the author's printer columns followed by the machinery's -/
theorem versions_all (w : Which) (xrd : Xrd) (crd : Crd) (h : derive w xrd = .ok crd) :
    Zip (fun vr cv => cv.name = vr.name ∧ cv.served = vr.served ∧ cv.deprecated = vr.deprecated.getD false ∧
          cv.deprecationWarning = vr.deprecationWarning ∧ cv.columns = vr.columns ++ columnsOf w)
      xrd.versions crd.versions := by
  refine derive_zip h fun vr s _ => ?_
  simp [decorate, mkVersion]

/-- the storage flag of every CRD version is the referenceable flag of the XRD version -/
theorem one_storage (w : Which) (xrd : Xrd) (crd : Crd) (h : derive w xrd = .ok crd) :
    Zip (fun vr cv => cv.storage = vr.referenceable) xrd.versions crd.versions :=
  derive_zip h fun _ _ _ => rfl

/-- hence an XRD with exactly one referenceable version yields exactly one storage version -/
theorem one_storage_exactly (w : Which) (xrd : Xrd) (crd : Crd) (h : derive w xrd = .ok crd)
    (h1 : (xrd.versions.filter (·.referenceable)).length = 1) : (crd.versions.filter (·.storage)).length = 1 := by
  rw [← h1]
  exact zip_filter_length (one_storage w xrd crd h)

/-- the status subresource is always on (and no scale subresource is invented) -/
theorem status_subresource (w : Which) (xrd : Xrd) (crd : Crd) (h : derive w xrd = .ok crd) :
    ∀ cv ∈ crd.versions, cv.statusSubresource = true ∧ cv.scaleSubresource = false :=
  derive_all h fun _ _ => ⟨rfl, rfl⟩

/-- composites are cluster scoped, claims namespaced -/
theorem scope (xrd : Xrd) (crd : Crd) :
    (derive .xr xrd = .ok crd → crd.scope = "Cluster") ∧ (derive .claim xrd = .ok crd → crd.scope = "Namespaced") := by
  constructor
  · intro h; obtain ⟨vs, _, rfl⟩ := forXR_ok xrd crd h; rfl
  · intro h; obtain ⟨c, vs, _, _, rfl⟩ := forClaim_ok xrd crd h; rfl

/-- both CRDs have exactly one owner reference: a controller reference to the XRD -/
theorem controller_ref (w : Which) (xrd : Xrd) (crd : Crd) (h : derive w xrd = .ok crd) :
    crd.owners = [{ apiVersion := xrdApiVersion, kind := xrdKind, name := xrd.name, uid := xrd.uid,
                    controller := true, blockOwnerDeletion := true }] := by
  cases w with
  | xr => obtain ⟨vs, _, rfl⟩ := forXR_ok xrd crd h; rfl
  | claim => obtain ⟨c, vs, _, _, rfl⟩ := forClaim_ok xrd crd h; rfl

/-- group, conversion settings and names: the composite CRD is named like the XRD and carries its
names plus the `composite` category; the claim CRD is `<plural>.<group>` of the claim names and
carries them plus the `claim` category -/
theorem names_carried (xrd : Xrd) (crd : Crd) :
    (derive .xr xrd = .ok crd → crd.group = xrd.group ∧ crd.conversion = xrd.conversion ∧ crd.name = xrd.name ∧
        crd.names = { xrd.names with categories := xrd.names.categories ++ [categoryComposite] }) ∧
    (derive .claim xrd = .ok crd → ∃ c, xrd.claimNames = some c ∧ crd.group = xrd.group ∧
        crd.conversion = xrd.conversion ∧ crd.name = c.plural ++ "." ++ xrd.group ∧
        crd.names = { c with categories := c.categories ++ [categoryClaim] }) := by
  constructor
  · intro h; obtain ⟨vs, _, rfl⟩ := forXR_ok xrd crd h; exact ⟨rfl, rfl, rfl, rfl⟩
  · intro h
    obtain ⟨c, vs, hc, _, rfl⟩ := forClaim_ok xrd crd h
    exact ⟨c, (validateClaimNames_ok xrd c hc).1, rfl, rfl, rfl, rfl⟩

/-- `metadata.name` is a string whose length limit is the smaller of the author's and 63 -/
theorem name_maxlen (w : Which) (xrd : Xrd) (crd : Crd) (h : derive w xrd = .ok crd) :
    Zip (fun vr cv => ∀ s, vr.schema = .ok s →
        (prop (prop cv.schema "metadata") "name").type = "string" ∧
        (prop (prop cv.schema "metadata") "name").maxLength =
          some (match (prop (prop s "metadata") "name").maxLength with
                | some a => min a 63
                | none => 63))
      xrd.versions crd.versions := by
  refine derive_zip h fun vr s hs s' hs' => ?_
  cases hs.symm.trans hs'
  have hm : maxNameLengthOf w = 63 := by
    cases w
    · exact name_limit.1
    · exact name_limit.2
  rw [schema_decorate, genMetadata_base, hm]
  exact ⟨rfl, congrArg some (nameMaxLength_eq s 63)⟩

/-! ## unusable schemas and claim names -/

/-- a version without a schema, or with one that does not parse, makes both derivations fail -/
theorem invalid_schema_rejected (w : Which) (xrd : Xrd) (h : ∃ vr ∈ xrd.versions, ∀ s, vr.schema ≠ .ok s) :
    ∃ e, derive w xrd = .error e := by
  cases hd : derive w xrd with
  | error e => exact ⟨e, rfl⟩
  | ok crd =>
    obtain ⟨vr, hvr, hbad⟩ := h
    have hz : Zip (fun vr _ => ∃ s, vr.schema = .ok s) xrd.versions crd.versions := derive_zip hd fun _ s hs => ⟨s, hs⟩
    obtain ⟨_, s, hs⟩ := zip_mem_left hz vr hvr
    exact absurd hs (hbad s)

/-- claim names whose kind, plural, or non-empty singular or listKind equals the composite's
corresponding name are rejected: no claim CRD is derived -/
theorem claim_names_rejected (xrd : Xrd) (c : Names) (hc : xrd.claimNames = some c)
    (hcol : claimNamesCollide c xrd.names) : ∃ n, derive .claim xrd = .error (.conflictingClaimName n) := by
  rcases validateClaimNames_some xrd c hc with ⟨_, n, hn⟩ | ⟨hno, _⟩
  · exact ⟨n, by simp only [derive, forClaim, hn]⟩
  · exact absurd hcol hno

/-- and conversely a claim CRD is only ever derived from present, non-colliding claim names -/
theorem claim_crd_only_if_no_collision (xrd : Xrd) (crd : Crd) (h : derive .claim xrd = .ok crd) :
    ∃ c, xrd.claimNames = some c ∧ ¬ claimNamesCollide c xrd.names := by
  obtain ⟨c, vs, hc, _, _⟩ := forClaim_ok xrd crd h
  exact ⟨c, validateClaimNames_ok xrd c hc⟩

/-- the webhook never admits an XRD whose claim names collide, whatever the API server answers -/
theorem claim_collision_not_admitted (xrd : Xrd) (c : Names) (hc : xrd.claimNames = some c)
    (hcol : claimNamesCollide c xrd.names) (server : Crd → Bool) : admissionCreate xrd server ≠ .allowed :=
  admission_collide _ xrd c hc hcol server

/-! ## immutability -/

/-- exactly a change of group, kind or plural, of the kind or plural of claim names both XRDs have, and an invalid
conversion setting are refused: adding or removing `claimNames` wholesale, and changing singular/listKind/short
names/categories, is accepted -/
theorem update_accepted_iff (new old : Xrd) :
    validateUpdate new old = [] ↔
      (new.group = old.group ∧ new.names.kind = old.names.kind ∧ new.names.plural = old.names.plural ∧
       (∀ cn co, new.claimNames = some cn → old.claimNames = some co → cn.kind = co.kind ∧ cn.plural = co.plural) ∧
       validate new = []) := by
  unfold validateUpdate
  simp only [List.append_eq_nil_iff, guard_eq_nil, ne_eq, Decidable.not_not]
  constructor
  · rintro ⟨⟨⟨⟨h1, h2⟩, h3⟩, h4⟩, h5⟩
    refine ⟨h1, h3, h2, fun cn co hn ho => ?_, h5⟩
    simp only [hn, ho, List.append_eq_nil_iff, guard_eq_nil, Decidable.not_not] at h4
    exact ⟨h4.2, h4.1⟩
  · rintro ⟨h1, h2, h3, h4, h5⟩
    refine ⟨⟨⟨⟨h1, h3⟩, h2⟩, ?_⟩, h5⟩
    cases hn : new.claimNames with
    | none => rfl
    | some cn =>
      cases ho : old.claimNames with
      | none => rfl
      | some co =>
        simp only [List.append_eq_nil_iff, guard_eq_nil, Decidable.not_not]
        exact ⟨(h4 cn co hn ho).2, (h4 cn co hn ho).1⟩

/-- hence ValidateUpdate reports an error whenever the group, the kind or the plural changes, or both
XRDs have claim names whose kind or plural differ -/
theorem immutable (new old : Xrd)
    (h : new.group ≠ old.group ∨ new.names.kind ≠ old.names.kind ∨ new.names.plural ≠ old.names.plural ∨
         (∃ cn co, new.claimNames = some cn ∧ old.claimNames = some co ∧ (cn.kind ≠ co.kind ∨ cn.plural ≠ co.plural))) :
    validateUpdate new old ≠ [] := by
  intro h0
  obtain ⟨h1, h2, h3, h4, _⟩ := (update_accepted_iff new old).mp h0
  rcases h with h | h | h | ⟨cn, co, hn, ho, h⟩
  · exact h h1
  · exact h h2
  · exact h h3
  · exact h.elim (· (h4 cn co hn ho).1) (· (h4 cn co hn ho).2)

/-- the webhook denies such an update before it derives or dry-runs anything -/
theorem immutable_webhook (new old : Xrd) (server : Crd → Bool) (h : validateUpdate new old ≠ []) :
    admissionUpdate new old server = .invalid (validateUpdate new old) := by
  simp [admissionUpdate, admission, h]

/-- the webhook admits an XRD only if every derived CRD passes the API server's dry run -/
theorem admitted_only_if_server_accepts (xrd : Xrd) (server : Crd → Bool) (h : admissionCreate xrd server = .allowed) :
    validate xrd = [] ∧ ∃ x, forXR xrd = .ok x ∧ server x = true ∧
      (∀ c, xrd.claimNames = some c → ∃ cc, forClaim xrd = .ok cc ∧ server cc = true) := by
  obtain ⟨hv, crds, hcr, hall⟩ := (admission_allowed_iff _ _ _).mp h
  obtain ⟨x, hx, ⟨hn, rfl⟩ | ⟨cc, hcc, rfl⟩⟩ := allCrds_ok xrd crds hcr
  · exact ⟨hv, x, hx, hall _ (.head _), fun c hc => by rw [hn] at hc; cases hc⟩
  · exact ⟨hv, x, hx, hall _ (.head _), fun _ _ => ⟨cc, hcc, hall _ (.tail _ (.head _))⟩⟩

/-! ## the webhook as a long-lived client of the API server: interference, cache lag, API errors

`hookCreate` / `hookUpdate` (Model/C11Hook) are ValidateCreate / ValidateUpdate call by call: reads
through the informer cache, dry-run writes to the API server, retry.RetryOnConflict around
"Get, then Update, or Create if NotFound". The theorems quantify over EVERY environment `env`
(what third parties, the informer and the network do right before each call: create / delete /
modify either CRD, let the cache lag or miss, make the call fail with an error of any class),
every fault plan, every initial world and every server verdict `accept`. The interference-free
`admissionCreate` / `admissionUpdate` above are the quiet special case (`hook_quiet_*`). -/

/-- retry.DefaultRetry of the current tree makes five attempts (obligation on the regenerated constant;
with zero steps the closure would never run and every update would be admitted unvalidated) -/
theorem retry_steps : xrdWebhookRetrySteps = 5 := rfl

/-- ValidateUpdate admits a request only if ValidateUpdate(old) found nothing, both CRDs could be
derived (so the claim names do not collide) and the API server ACCEPTED every derived CRD -
whatever happens concurrently, whatever the cache serves, whichever calls fail however. -/
theorem webhook_update_sound (new old : Xrd) (accept : Crd → Bool) (env : Env World) (plan : Plan) (k : Nat) (w : World)
    (h : (runE (hookSem accept) env plan k (hookUpdate new old) w).2 = some .allowed) :
    validateUpdate new old = [] ∧ ∃ crds, allCrds new = .ok crds ∧ ∀ p ∈ crds, accept p.2 = true :=
  (admission_allowed_iff _ _ _).mp (hookUpdate_refines h)

/-- the same for ValidateCreate -/
theorem webhook_create_sound (xrd : Xrd) (accept : Crd → Bool) (env : Env World) (plan : Plan) (k : Nat) (w : World)
    (h : (runE (hookSem accept) env plan k (hookCreate xrd) w).2 = some .allowed) :
    validate xrd = [] ∧ ∃ crds, allCrds xrd = .ok crds ∧ ∀ p ∈ crds, accept p.2 = true :=
  (admission_allowed_iff _ _ _).mp (hookCreate_refines h)

/-- EVERY request the webhook issues while it handles a request - under any environment, fault
plan and initial world, whatever the replies - is about a CRD derived from the XRD UNDER REVIEW:
a read of that CRD's name, or a dry-run Update / Create that carries exactly the derived CRD
(never an object derived from another XRD, an earlier request or the old state of the XRD; never
a persisting write). With `webhook_update_sound` / `webhook_create_sound`: what the API server
accepted is what the reviewed XRD derives to. -/
theorem webhook_submits_derived (new old : Xrd) (accept : Crd → Bool) (env : Env World) (plan : Plan) (k : Nat) (w : World) :
    (∀ x ∈ ownE (hookSem accept) env plan k (hookUpdate new old) w, AboutDerived new x.2) ∧
    (∀ x ∈ ownE (hookSem accept) env plan k (hookCreate new) w, AboutDerived new x.2) :=
  ⟨((spec_hookUpdate accept new old).run env plan k w).1, ((spec_hookCreate accept new).run env plan k w).1⟩

/-- hence a validating webhook never persists anything: every call it gets applied is a read or a dry run -/
theorem webhook_never_persists (new old : Xrd) (accept : Crd → Bool) (env : Env World) (plan : Plan) (k : Nat) (w : World) :
    (∀ x ∈ ownE (hookSem accept) env plan k (hookUpdate new old) w, x.2.harmless = true) ∧
    (∀ x ∈ ownE (hookSem accept) env plan k (hookCreate new) w, x.2.harmless = true) :=
  have h := webhook_submits_derived new old accept env plan k w
  ⟨fun x hx => (h.1 x hx).harmless, fun x hx => (h.2 x hx).harmless⟩

/-- colliding claim names are never admitted, by create or by update, under any interleaving -/
theorem claim_collision_never_admitted (xrd old : Xrd) (c : Names) (hc : xrd.claimNames = some c)
    (hcol : claimNamesCollide c xrd.names) (accept : Crd → Bool) (env : Env World) (plan : Plan) (k : Nat) (w : World) :
    (runE (hookSem accept) env plan k (hookCreate xrd) w).2 ≠ some .allowed ∧
    (runE (hookSem accept) env plan k (hookUpdate xrd old) w).2 ≠ some .allowed :=
  ⟨fun h => admission_collide _ xrd c hc hcol accept (hookCreate_refines h),
   fun h => admission_collide _ xrd c hc hcol accept (hookUpdate_refines h)⟩

/-- an update that changes an immutable name is refused before any API call is made: the world is
not even looked at -/
theorem immutable_webhook_no_call (new old : Xrd) (accept : Crd → Bool) (env : Env World) (plan : Plan) (k : Nat) (w : World)
    (h : validateUpdate new old ≠ []) :
    runE (hookSem accept) env plan k (hookUpdate new old) w = (w, some (.invalid (validateUpdate new old))) := by
  simp [hookUpdate, hook, h, runE]

/-- the quiet special case: cache up to date, nobody else writing, no failing call. The call-level
webhook then decides exactly like `admissionUpdate` with the server's verdict as its `server`,
and leaves the world as it was. -/
theorem hook_quiet_update (new old : Xrd) (accept : Crd → Bool) (w : World) (hq : w.quiet) :
    ∃ v, run (hookSem accept) Plan.allOk 0 (hookUpdate new old) w = (w, some v) ∧
         v.abs = admissionUpdate new old accept :=
  hookUpdate_eq new old ▸ quiet_hook accept _ w _ new fun _ _ p _ => quiet_retry accept p.2 _ (by decide) w hq

/-- ... and `hookCreate` like `admissionCreate`, when none of the CRDs exists yet -/
theorem hook_quiet_create (xrd : Xrd) (accept : Crd → Bool) (w : World) (hq : w.quiet)
    (hnew : ∀ crds, allCrds xrd = .ok crds → ∀ p ∈ crds, lookup p.2.name w.live = none) :
    ∃ v, run (hookSem accept) Plan.allOk 0 (hookCreate xrd) w = (w, some v) ∧
         v.abs = admissionCreate xrd accept :=
  hookCreate_eq xrd ▸ quiet_hook accept _ w _ xrd fun crds hc p hp => quiet_create accept p.2 w hq (hnew crds hc p hp)

/-! ## the reconcilers that write the CRDs -/

/-- After a successful pass of the definition / offered reconciler the stored CRD IS the CRD derived
from the current XRD, whatever was stored before (the CRD of an earlier state with a conversion
webhook, short names, more categories, labels, annotations, versions): nothing is left over,
nothing is missing - so every theorem above about `derive` holds of what the cluster serves.
It holds by the definition of `serverUpdate` (the Apply is an Update, which replaces the object): the
content is that modelling decision, argued above `serverUpdate` in Model/C11.lean. -/
theorem reconcile_stores_derived (w : Which) (xrd : Xrd) (stored : Option Crd) (c : Crd)
    (h : reconcileStep w xrd stored = .ok c) : derive w xrd = .ok c :=
  reconcileStep_eq w xrd stored ▸ h

/-- xcrd.IsEstablished answers true exactly when the FIRST condition of type Established has status
True (later conditions of that type, and conditions of other types, are not looked at) -/
theorem established_iff (conds : List (String × String)) :
    isEstablished conds = true ↔
      ∃ pre rest, conds = pre ++ ("Established", "True") :: rest ∧ ∀ c ∈ pre, c.1 ≠ "Established" := by
  simp [isEstablished_iff_find, List.find?_eq_some_iff_append]

/-- the definition / offered reconciler finishes (and starts the controller for the kind) only when the
CRD it applied is established; until then it asks to be called again -/
theorem reconcile_waits_for_establishment (conds : List (String × String)) :
    (reconcileResult conds = "ok" ↔ isEstablished conds = true) ∧
    (reconcileResult conds = "requeue" ↔ isEstablished conds = false) := by
  unfold reconcileResult
  cases isEstablished conds <;> decide

/-! ## the hypotheses are satisfiable (non-vacuity) -/

/-! `exXrd` (Model/C11): two versions; the first one's schema declares `spec.claimRef` and
`status.conditions` as strings, a CEL rule, oneOf, preserve-unknown-fields and a name limit of 30. -/

example : ∃ x c, derive .xr exXrd = .ok x ∧ derive .claim exXrd = .ok c ∧
    x.versions.map (·.storage) = [false, true] ∧ c.versions.map (·.name) = ["v1alpha1", "v1"] :=
  ⟨_, _, rfl, rfl, rfl, rfl⟩

/-- the author's `spec.claimRef : string` did not survive, `spec.region` did -/
example : ∃ x v, derive .xr exXrd = .ok x ∧ x.versions.head? = some v ∧
    (lookup "claimRef" (prop v.schema "spec").props).map (·.type) = some "object" ∧
    (lookup "region" (prop v.schema "spec").props).map (·.type) = some "string" ∧
    (lookup "compositionUpdatePolicy" (prop v.schema "spec").props).map (·.default) = some (some "\"Manual\"") ∧
    (prop (prop v.schema "metadata") "name").maxLength = some 30 := by
  refine ⟨_, _, rfl, rfl, ?_⟩
  decide +kernel

/-- colliding claim names exist and are refused -/
example : ∃ n, derive .claim { exXrd with claimNames := some { kind := "Database", plural := "xdatabases" } } = .error (.conflictingClaimName n) :=
  claim_names_rejected _ _ rfl (.inr (.inl rfl))

/-- an update that only drops the claim names passes, one that renames the kind does not -/
example : validateUpdate { exXrd with claimNames := none } exXrd = [] := by
  simp [validateUpdate, validate, validateConversion, exXrd]
example : validateUpdate { exXrd with names := { exXrd.names with kind := "XDb" } } exXrd = ["spec.names.kind"] := by
  simp [validateUpdate, validate, validateConversion, exXrd]

/-- `exXrd` cut down to what is read is another XRD (its first schema declares `type`s the
derivation never looks at) and derives to the same CRDs (`author_read_exactly`); second example,
labels: spec.metadata wins -/
example : (exXrd.versions.map Version.read).map (fun v => match v.schema with | .ok s => s.type | _ => "") ≠
          exXrd.versions.map (fun v => match v.schema with | .ok s => s.type | _ => "") := by decide

example : ∃ c, derive .claim { exXrd with labels := [("a", "1"), ("b", "2")], metaLabels := [("b", "3")], metaAnnotations := [("n", "v")] } = .ok c ∧
    c.labels = [("a", "1"), ("b", "3")] ∧ c.annotations = [("n", "v")] := ⟨_, rfl, by simp [crdLabels, setAll, setKey], rfl⟩

/-- conditions as the API server writes them while names are being accepted, then established; and a
stale `Established False` in front of a later `True` still counts as not established -/
example : isEstablished [("NamesAccepted", "True"), ("Established", "True")] = true ∧
    isEstablished [("Established", "False"), ("Established", "True")] = false ∧
    reconcileResult [] = "requeue" := by simp [isEstablished, reconcileResult]

/-! the webhook under interference (`exXrd` updated to itself; both CRDs exist and are cached) -/

def exWorld : World := World.initial ["xdatabases.example.org", "databases.example.org"]

example : exWorld.quiet := ⟨rfl, fun _ => rfl⟩

/-- nobody interferes: admitted after Get, Update(dry run) for each of the two CRDs -/
example : (runE (hookSem fun _ => true) Env.none Plan.allOk 0 (hookUpdate exXrd exXrd) exWorld).2 = some .allowed := by decide +kernel

/-- a third party modifies the composite CRD between the webhook's Get and its Update, the cache
catches up: the Conflict is retried and the request admitted -/
example : (runE (hookSem fun _ => true)
    (scriptEnv [(1, .bump "xdatabases.example.org"), (2, .sync "xdatabases.example.org")])
    Plan.allOk 0 (hookUpdate exXrd exXrd) exWorld).2 = some .allowed := by decide +kernel

/-- the cache never catches up: five Conflicts, refused -/
example : (runE (hookSem fun _ => true) (scriptEnv [(0, .bump "xdatabases.example.org")])
    Plan.allOk 0 (hookUpdate exXrd exXrd) exWorld).2 = some (.rejected "xr" .conflict) := by decide +kernel

/-- the claim CRD does not exist when read and is created by somebody else before the webhook's
dry-run Create: AlreadyExists, refused (the other party's CRD was never validated against this XRD) -/
example : (runE (hookSem fun _ => true) (scriptEnv [(3, .create "databases.example.org")])
    Plan.allOk 0 (hookUpdate exXrd exXrd) (World.initial ["xdatabases.example.org"])).2
      = some (.rejected "claim" .alreadyExists) := by decide +kernel

/-- the requests of the undisturbed run: four, each about one of the two CRDs derived from `exXrd` -/
example : (ownE (hookSem fun _ => true) Env.none Plan.allOk 0 (hookUpdate exXrd exXrd) exWorld).map (·.2.name)
    = ["xdatabases.example.org", "xdatabases.example.org", "databases.example.org", "databases.example.org"] := by decide +kernel

/-- the server refuses the claim CRD: refused -/
example : (runE (hookSem fun c => c.scope != "Namespaced") Env.none Plan.allOk 0 (hookUpdate exXrd exXrd) exWorld).2
      = some (.rejected "claim" .invalid) := by decide +kernel

/-- the statement separates Update from a merge patch: with the CRD of an earlier state that had a
conversion webhook stored, a merge patch of the CRD derived now keeps the retired webhook -/
example : ∃ cur old, derive .xr exXrd = .ok cur ∧
    derive .xr { exXrd with conversion := some ⟨"Webhook", true, true, "{}"⟩ } = .ok old ∧
    (reconcileStep .xr exXrd (some old)).toOption.map (·.conversion) = some none ∧
    (serverMergePatch old cur).conversion ≠ cur.conversion := by
  refine ⟨_, _, rfl, rfl, ?_, ?_⟩ <;> decide

end Xp.C11
