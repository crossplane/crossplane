import Xp.Proofs.C14Rev
import Xp.Proofs.C14Req
import Xp.Proofs.C14Steps
import Xp.Gen.PkgNames
import Xp.Gen.C14Skel
/-
C14 — a package has at most one active revision, numbered last; history GC
spares it.  Theorems about the model `Xp.C14.pkgReconcile` (Model/C14.lean, the
reconciler with fixes/D5.diff applied), for ALL fault plans / histories.
-/
namespace Xp.C14

/-! ### at most one Active revision, at every instant -/

/-- At every instant of a reconcile — before/after any API call, whatever fails, and
right after a crash at any call — at most one revision of the package is Active
(and names stay unique), provided this held when the reconcile started. -/
theorem le_one_active_every_prefix (env : Env) (pname : String) (plan : Plan) (k : Nat) (s : Store)
    (hwf : WF s) (h1 : (activeRevs pname s).length ≤ 1) :
    ∀ s' ∈ reach sem plan k (pkgReconcile env pname) s, WF s' ∧ (activeRevs pname s').length ≤ 1 := by
  -- the plain model is the world without interference
  have h : InvL pname s.revs := (InvL_iff pname s).mpr ⟨hwf, h1⟩
  intro s' hs'
  obtain ⟨w, e, _, hw⟩ := (reconcile_world (Rl := Eq) (fun a _ e => e ▸ Quiet.refl a) env pname pname k
    (World.fresh s) rfl h).reach_plain plan _ _ _ ⟨.head, h, trivial⟩ s' hs'
  exact e ▸ (InvL_iff pname w.live).mp hw.1

/-- The same over every history: any sequence of reconciles (each under its own fault plan,
including crashes, and its own registry answers) interleaved with package edits (source/tag,
history limit, activation and pull policy, pause, labels) and revision-controller steps. -/
theorem le_one_active_every_history (pname : String) (h : List (Plan × Step)) (s : Store)
    (hwf : WF s) (h1 : (activeRevs pname s).length ≤ 1) :
    ∀ s' ∈ reachHistory sem (historyProgs pname h) s, WF s' ∧ (activeRevs pname s').length ≤ 1 := by
  refine reachHistory_inv_of sem (Inv pname) _ (fun x hx s hinv => ?_) s ⟨hwf, h1⟩
  obtain ⟨⟨pl, st⟩, _, rfl⟩ := List.mem_map.mp hx
  cases st with
  | reconcile env => exact le_one_active_every_prefix env pname pl 0 s hinv.1 hinv.2
  | envAct a => exact envStep_reach_Inv a pname pl 0 s hinv

/-! ### after a reconcile the current revision exists, is numbered last, is Active -/

/-- If a reconcile runs to completion (under any fault plan), the revision named after the
package's current source exists, belongs to the package, carries a revision number at least
as high as every other revision of the package, has the package's source as image, and is
Active unless the activation policy is Manual. -/
theorem current_exists_highest_active (env : Env) (pname : String) (plan : Plan) (s s' : Store)
    (cur : String) (after : Bool)
    (hrun : run sem plan 0 (pkgReconcile env pname) s = (s', some (.done cur after))) :
    ∃ p, s.pkg = some p ∧ p.name = pname ∧ revisionName env p = .ok cur ∧
      ∃ rev ∈ s'.revs, rev.name = cur ∧ rev.parent = some pname ∧
        (∀ x ∈ s'.revs, labelled pname x = true → x.number ≤ rev.number) ∧
        (p.spec.policy ≠ .manual → rev.state = .active) ∧ rev.image = p.spec.source := by
  obtain ⟨p, hp, hn, hr, hP⟩ := reconcile_post env pname (NumLeO_maxRevision pname _ s.revs) plan s' cur after hrun
  obtain ⟨rev, h⟩ := Post_iff.mp hP
  exact ⟨p, hp, hn, hr, rev, h.mem, h.name, h.parent, h.highest, h.active, h.image⟩

/-- "Numbered last" is strict when the package's revision numbers were distinct to start with:
after a completed reconcile every other revision of the package has a strictly lower number
than the current one. -/
theorem current_strictly_highest (env : Env) (pname : String) (plan : Plan) (s s' : Store)
    (cur : String) (after : Bool)
    (hdist : ∀ x ∈ s.revs, ∀ y ∈ s.revs, labelled pname x = true → labelled pname y = true →
      x.number = y.number → x.name = y.name)
    (hrun : run sem plan 0 (pkgReconcile env pname) s = (s', some (.done cur after))) :
    ∃ rev ∈ s'.revs, rev.name = cur ∧ rev.parent = some pname ∧
      ∀ x ∈ s'.revs, labelled pname x = true → x.name ≠ cur → x.number < rev.number := by
  obtain ⟨p, hp, _, hr, hP⟩ := reconcile_post env pname (strictB_ok env pname s hdist) plan s' cur after hrun
  obtain ⟨rev, h⟩ := Post_iff.mp hP
  refine ⟨rev, h.mem, h.name, h.parent, ?_⟩
  intro x hx lx hne
  have hb := h.others x hx lx hne
  have hnum := h.number
  simp only [strictB, hp, curOf_eq hp hr] at hb
  omega

/-! ### revision names are a function of package name and digest -/

/-- Whenever the registry is consulted, the revision name is `friendlyID name digest`:
it depends on nothing but the package name and the image digest (not on the tag, the
policies, the history, or the store). -/
theorem revision_name_function (env env' : Env) (p p' : Pkg) (d : String)
    (hname : p.name = p'.name)
    (hd : env.head p.spec.source = .digest d) (hd' : env'.head p'.spec.source = .digest d)
    (hp : env.parseOk p.spec.source = true) (hp' : env'.parseOk p'.spec.source = true)
    (hpull : p.spec.pull = .always ∨ p.spec.pull = .unset) (hpull' : p'.spec.pull = .always ∨ p'.spec.pull = .unset) :
    revisionName env p = .ok (friendlyID p.name d) ∧ revisionName env' p' = revisionName env p := by
  have h1 := revisionName_digest hpull hp hd
  exact ⟨h1, by rw [h1, revisionName_digest hpull' hp' hd', hname]⟩

/-- The only revision a reconcile can ever add to the store is the one named after the
current source: at every instant every revision either existed before or bears that name. -/
theorem only_current_revision_is_ever_created (env : Env) (pname : String) (plan : Plan) (k : Nat) (s : Store)
    (p : Pkg) (cur : String) (hp : s.pkg = some p) (hcur : revisionName env p = .ok cur) :
    ∀ s' ∈ reach sem plan k (pkgReconcile env pname) s, ∀ r ∈ s'.revs,
      r.name = cur ∨ ∃ r0 ∈ s.revs, r0.name = r.name := by
  intro s' hs' r hr
  have h := reconcile_reach_names env pname plan k s s' hs' r hr
  exact curOf_eq hp hcur ▸ h

/-- Same name and digest ⇒ same revision name ⇒ no second revision: if a revision named
`friendlyID name digest` already exists, re-resolving that image (via whatever tag) never
creates another revision — at no instant does a revision exist that did not exist before. -/
theorem friendlyID_function (env : Env) (pname : String) (plan : Plan) (k : Nat) (s : Store)
    (p : Pkg) (d : String) (hp : s.pkg = some p)
    (hd : env.head p.spec.source = .digest d) (hpo : env.parseOk p.spec.source = true)
    (hpull : p.spec.pull = .always ∨ p.spec.pull = .unset)
    (hex : ∃ r0 ∈ s.revs, r0.name = friendlyID p.name d) :
    ∀ s' ∈ reach sem plan k (pkgReconcile env pname) s, ∀ r ∈ s'.revs, ∃ r0 ∈ s.revs, r0.name = r.name := by
  intro s' hs' r hr
  have hcur := revisionName_digest hpull hpo hd
  rcases only_current_revision_is_ever_created env pname plan k s p _ hp hcur s' hs' r hr with e | h
  · obtain ⟨r0, h0, e0⟩ := hex
    exact ⟨r0, h0, e0.trans e.symm⟩
  · exact h

/-- The Lean `friendlyID` reproduces `xpkg.FriendlyID` of the current tree on the probe table
regenerated from the source on every run. -/
theorem friendlyID_matches_source_table :
    Xp.Gen.friendlyProbes.all (fun t => friendlyID t.1 t.2.1 == t.2.2) = true := by
  simp only [Xp.Gen.friendlyProbes, List.all_cons, List.all_nil, Bool.and_true, Bool.and_eq_true, beq_iff_eq]
  -- each row by `friendlyID_ofList` on the row's characters (a literal is `String.ofList` of them); what is left is a
  -- closed equation between character lists.  Going through `String.toList` makes the kernel decode UTF-8.
  and_intros <;> (rw [friendlyID_ofList]; exact congrArg String.ofList (by decide +kernel))

/-- the state of harness/main/c14.go `c14SkeletonScn`: one call of every kind is issued -/
def skelStore : Store :=
  { pkg := some { name := "p", uid := "u-p",
                  spec := { source := "xpkg.io/org/pkg:v3", limit := some 1, policy := .unset, pull := .unset, paused := false, labels := [] },
                  status := { curRev := "", curId := "", pausedCond := false } }
    revs := [ { name := "p-1111111111aa", parent := some "p", number := 1, state := .inactive, ctrl := some "u-p", image := "img", labels := [], fin := false, deleting := false },
              { name := "p-2222222222bb", parent := some "p", number := 2, state := .active, ctrl := some "u-p", image := "img", labels := [], fin := false, deleting := false },
              { name := "p-3333333333cc", parent := some "p", number := 3, state := .inactive, ctrl := some "u-p", image := "img", labels := [("a", "1")], fin := false, deleting := false } ] }

def skelEnv : Env := { head := fun _ => .digest "3333333333cc2222222222222222222222222222222222222222222222222222", parseOk := fun _ => true }

/-- The model issues exactly the API calls, in the order, that `Reconciler.Reconcile` of the
current tree issues on the skeleton scenario (regenerated by running the real code on every
check): Get package, List revisions, List ImageConfigs, {Get, Patch} to deactivate, Delete the
collected revision, {Get, Patch} the current revision, Update (labels), Status().Update. -/
theorem call_skeleton_matches_source :
    (applied sem Plan.allOk 0 (pkgReconcile skelEnv "p") skelStore).map Req.tag = Xp.Gen.pkgReconcileSkeleton := by
  -- evaluated on the 12 characters of the digest that matter, not on the 64 of `skelEnv`, to keep the kernel's run short
  rw [show pkgReconcile skelEnv "p" = _ from pkgReconcile_digest_take _ _ _]
  decide +kernel

/-! ### the revisioner: package state × pull policy × fetch outcome -/

/-- `PackageRevisioner.Revision`, for every package state, pull policy and fetch outcome: it
returns the name `cur` (without error) exactly when
(a) the pull policy is Never and `cur` is `FriendlyID(name, spec.package)`, or
(b) the pull policy is IfNotPresent, the recorded `status.currentIdentifier` EQUALS the current
    source, and `cur` is the recorded `status.currentRevision`, or
(c) the registry was asked about the current source (reference parsed) and answered with a nil
    descriptor (`cur = ""`: no name) or with digest `d`, and `cur = FriendlyID(name, d)`. -/
theorem revisioner_characterised (env : Env) (p : Pkg) (cur : String) :
    revisionName env p = .ok cur ↔
      (p.spec.pull = .never ∧ cur = friendlyID p.name p.spec.source) ∨
      (p.spec.pull = .ifNotPresent ∧ p.status.curId = p.spec.source ∧ cur = p.status.curRev) ∨
      (skipsFetch p = false ∧ env.parseOk p.spec.source = true ∧
        ((env.head p.spec.source = .nil ∧ cur = "") ∨
         ∃ d, env.head p.spec.source = .digest d ∧ cur = friendlyID p.name d)) := by
  rcases revisionName_branch p with ⟨h1, hs⟩ | ⟨h1, h2, hs⟩ | ⟨h1, h2, hs⟩
  · rw [revisionName_never env p h1, Except.ok.injEq, eq_comm, hs, h1]
    simp
  · rw [revisionName_recorded env p h1 h2, Except.ok.injEq, eq_comm, hs]
    simp [h2]
  · have hA : ¬(p.spec.pull = .never ∧ cur = friendlyID p.name p.spec.source) := fun h => h1 h.1
    have hB : ¬(p.spec.pull = .ifNotPresent ∧ p.status.curId = p.spec.source ∧ cur = p.status.curRev) :=
      fun h => h2 ⟨h.1, h.2.1⟩
    rw [revisionName_fetched env p h1 h2, or_iff_right hA, or_iff_right hB, and_iff_right hs]
    cases env.parseOk p.spec.source with
    | false => simp
    | true => cases env.head p.spec.source <;> simp [eq_comm]

/-- The revisioner returns a (non-empty) name only if it is the FriendlyID of the digest just
fetched for the CURRENT source, or the recorded current revision when the recorded identifier
equals the current source and the pull policy (IfNotPresent) allows skipping the fetch, or -
pull policy Never - the FriendlyID of the source string itself.  In particular a recorded
current revision is never returned for a source other than the one it was recorded for, and
never after a failed fetch. -/
theorem revisioner_name_sound (env : Env) (p : Pkg) (cur : String)
    (h : revisionName env p = .ok cur) (hne : cur ≠ "") :
    (skipsFetch p = false ∧ env.parseOk p.spec.source = true ∧
      ∃ d, env.head p.spec.source = .digest d ∧ cur = friendlyID p.name d) ∨
    (p.spec.pull = .ifNotPresent ∧ p.status.curId = p.spec.source ∧ cur = p.status.curRev) ∨
    (p.spec.pull = .never ∧ cur = friendlyID p.name p.spec.source) := by
  rcases (revisioner_characterised env p cur).mp h with h | h | ⟨h1, h2, ⟨_, e⟩ | h3⟩
  · exact .inr (.inr h)
  · exact .inr (.inl h)
  · exact absurd e hne
  · exact .inl ⟨h1, h2, h3⟩

/-- `Revision` fails exactly when it has to ask the registry (no pull-policy shortcut applies)
and either the source is not a valid reference or the fetch fails - with an error of ANY class. -/
theorem revisioner_fails_iff (env : Env) (p : Pkg) :
    revisionName env p = .error () ↔
      skipsFetch p = false ∧ (env.parseOk p.spec.source = false ∨ ∃ c, env.head p.spec.source = .err c) := by
  rcases revisionName_branch p with ⟨h1, hs⟩ | ⟨h1, h2, hs⟩ | ⟨h1, h2, hs⟩
  · rw [revisionName_never env p h1, hs]; simp
  · rw [revisionName_recorded env p h1 h2, hs]; simp
  · rw [revisionName_fetched env p h1 h2, and_iff_right hs]
    cases env.parseOk p.spec.source with
    | false => simp
    | true => cases env.head p.spec.source <;> simp

/-- Every fetch error, of every class (opaque, temporary registry error such as 503 /
TOOMANYREQUESTS, permanent registry error such as 401 / 404, context deadline), makes `Revision`
fail whenever the registry has to be asked - whatever the package's recorded current revision
and identifier are. -/
theorem every_fetch_error_fails_revision (env : Env) (p : Pkg) (c : ErrClass)
    (hs : skipsFetch p = false) (hh : env.head p.spec.source = .err c) :
    revisionName env p = .error () :=
  (revisioner_fails_iff env p).mpr ⟨hs, .inr ⟨c, hh⟩⟩

/-- A reconcile whose revisioner fails writes nothing: under every fault plan, at every instant
(including right after a crash at any call) the revisions are exactly those of the start - no
spec.image rewrite, no activation change, no creation, no deletion - and the package keeps its
spec and its recorded currentRevision / currentIdentifier; no revision write is ever applied;
and the reconcile never reports success or a plain requeue (it returns the error whenever the
package is this one and is not paused). -/
theorem failed_revision_reconcile_writes_nothing (env : Env) (pname : String) (plan : Plan) (k : Nat)
    (s : Store) (p : Pkg) (hp : s.pkg = some p) (herr : revisionName env p = .error ()) :
    (∀ s' ∈ reach sem plan k (pkgReconcile env pname) s,
      s'.revs = s.revs ∧ ∃ p', s'.pkg = some p' ∧ p'.name = p.name ∧ p'.spec = p.spec ∧
        p'.status.curRev = p.status.curRev ∧ p'.status.curId = p.status.curId) ∧
    (∀ r ∈ applied sem plan k (pkgReconcile env pname) s, isRevWrite r = false) ∧
    (∀ s' a, run sem plan k (pkgReconcile env pname) s = (s', some a) →
      (∀ c af, a ≠ .done c af) ∧ a ≠ .requeue ∧
      (p.name = pname → p.spec.paused = false → p.status.pausedCond = false → a = .err)) := by
  have ht := reconcile_err_tri env pname s p hp herr
  exact ⟨Tri.reach plan k _ s ⟨rfl, p, hp, rfl, rfl, rfl, rfl⟩ ht, Tri.applied plan k _ s ht,
    fun s' a hr => Tri.run plan k _ s ht s' a hr⟩

/-- ... in particular after a fetch error of any class, for every package state in which the
registry has to be asked (e.g. right after a source edit, whatever revision is recorded as
current): no write to any revision, currentIdentifier does not move. -/
theorem fetch_error_reconcile_writes_nothing (env : Env) (pname : String) (plan : Plan) (k : Nat)
    (s : Store) (p : Pkg) (c : ErrClass) (hp : s.pkg = some p)
    (hs : skipsFetch p = false) (hh : env.head p.spec.source = .err c) :
    (∀ s' ∈ reach sem plan k (pkgReconcile env pname) s,
      s'.revs = s.revs ∧ ∃ p', s'.pkg = some p' ∧ p'.name = p.name ∧ p'.spec = p.spec ∧
        p'.status.curRev = p.status.curRev ∧ p'.status.curId = p.status.curId) ∧
    (∀ r ∈ applied sem plan k (pkgReconcile env pname) s, isRevWrite r = false) :=
  have h := failed_revision_reconcile_writes_nothing env pname plan k s p hp
    (every_fetch_error_fails_revision env p c hs hh)
  ⟨h.1, h.2.1⟩

/-- Every status write a reconcile applies (under any fault plan) either keeps the recorded
(currentRevision, currentIdentifier) pair, or records (name, source) where `name` is the
non-empty name the revisioner resolved for the package's CURRENT source (see
`revisioner_name_sound` for what that can be): the current revision is never recorded for
another source. -/
theorem recorded_current_revision_is_resolved (env : Env) (pname : String) (plan : Plan) (k : Nat)
    (s : Store) (p : Pkg) (hp : s.pkg = some p) (n : String) (st : Status)
    (h : Req.statusPkg n st ∈ applied sem plan k (pkgReconcile env pname) s) :
    (st.curRev = p.status.curRev ∧ st.curId = p.status.curId) ∨
    (st.curId = p.spec.source ∧ st.curRev ≠ "" ∧ revisionName env p = .ok st.curRev) := by
  cases reconcile_applied env pname plan k s _ h with
  | pause b hq => rw [hp] at hq; cases hq; exact .inl ⟨rfl, rfl⟩
  | after hq _ ha =>
    rw [hp] at hq; cases hq
    cases ha with
    | keep => exact .inl ⟨rfl, rfl⟩
    | stage2 hr hne h2 => obtain ⟨e1, e2⟩ := h2.status; exact .inr ⟨e2, e1 ▸ hne, e1 ▸ hr⟩

/-- The error kinds the harness' fake registry answers with carry, in the current tree's
go-containerregistry, the classes the model assigns them (table regenerated on every run from
the real error values: `errors.As(*transport.Error)` + `Temporary()`, context errors), and
every class is exercised. -/
theorem fetch_error_classes_match_source :
    Xp.Gen.fetchErrKinds.all (fun t => errClassOfKind t.1 == ErrClass.ofString t.2) = true ∧
    [ErrClass.plain, .temporary, .permanent, .timeout].all
      (fun c => Xp.Gen.fetchErrKinds.any (fun t => ErrClass.ofString t.2 == c)) = true := by decide +kernel

/-- the seeded trigger (corpus/C14/fetcherr.jsonl): installed at v1 under IfNotPresent, source
edited to v2, the registry answers the HEAD for v2 with a temporary error -/
def hiccupStore : Store :=
  { pkg := some { name := "p", uid := "u-p",
                  spec := { source := "xpkg.io/org/pkg:v2", limit := some 1, policy := .unset, pull := .ifNotPresent, paused := false, labels := [] },
                  status := { curRev := "p-1111111111aa", curId := "xpkg.io/org/pkg:v1", pausedCond := false } }
    revs := [ { name := "p-1111111111aa", parent := some "p", number := 1, state := .active, ctrl := some "u-p",
                image := "xpkg.io/org/pkg:v1", labels := [], fin := false, deleting := false } ] }

def hiccupEnv (c : ErrClass) : Env := { head := fun _ => .err c, parseOk := fun _ => true }

/-- the hypotheses of `fetch_error_reconcile_writes_nothing` are satisfiable, and on the seeded
trigger the model reconcile fails and leaves the store as it was, for each error class -/
example : ∀ c ∈ [ErrClass.plain, .temporary, .permanent, .timeout],
    skipsFetch (hiccupStore.pkg.getD default) = false ∧
    run sem Plan.allOk 0 (pkgReconcile (hiccupEnv c) "p") hiccupStore = (hiccupStore, some .err) := by
  decide +kernel

/-! ### history garbage collection -/

/-- History GC deletes only the oldest non-current revision: under every fault plan, any
revision deleted by a reconcile is a revision of the package, is not the current one, and
has the lowest revision number among the non-current revisions of the package. -/
theorem gc_only_oldest_noncurrent (env : Env) (pname : String) (plan : Plan) (k : Nat) (s : Store) (n : String)
    (h : Req.deleteRev n ∈ applied sem plan k (pkgReconcile env pname) s) :
    ∃ p cur v, s.pkg = some p ∧ revisionName env p = .ok cur ∧
      v ∈ s.revs ∧ v.parent = some pname ∧ v.name = n ∧ n ≠ cur ∧
      ∀ x ∈ s.revs, x.parent = some pname → x.name ≠ cur → v.number ≤ x.number := by
  obtain ⟨p, cur, v, hp, hr, _, hg, hn⟩ := applied_delete env pname plan k s n h
  obtain ⟨_, _, _, _, ho⟩ := gcVictim_some hg
  obtain ⟨h1, h2, h3⟩ := oldestNonCurrent_spec ho
  have hm := List.mem_filter.mp h1
  refine ⟨p, cur, v, hp, hr, hm.1, by simpa [labelled] using hm.2, hn, hn ▸ h2, ?_⟩
  intro x hx hpar hne
  exact h3 x (List.mem_filter.mpr ⟨hx, by simpa [labelled] using hpar⟩) hne

/-- History GC deletes only when more than revisionHistoryLimit+1 revisions of the package exist. -/
theorem gc_only_over_limit (env : Env) (pname : String) (plan : Plan) (k : Nat) (s : Store) (n : String)
    (h : Req.deleteRev n ∈ applied sem plan k (pkgReconcile env pname) s) :
    ∃ p lim, s.pkg = some p ∧ p.spec.limit = some lim ∧
      ((s.revs.filter (labelled pname)).length : Int) > lim + 1 := by
  obtain ⟨p, cur, v, hp, _, _, hg, _⟩ := applied_delete env pname plan k s n h
  obtain ⟨lim, hl, _, hlen, _⟩ := gcVictim_some hg
  exact ⟨p, lim, hp, hl, hlen⟩

/-- History GC never deletes when the limit is 0, nor when it is unset. -/
theorem gc_never_at_zero (env : Env) (pname : String) (plan : Plan) (k : Nat) (s : Store) (p : Pkg)
    (hp : s.pkg = some p) (h0 : p.spec.limit = some 0 ∨ p.spec.limit = none) :
    ∀ n, Req.deleteRev n ∉ applied sem plan k (pkgReconcile env pname) s := by
  intro n h
  obtain ⟨p', _, _, hp', _, _, hg, _⟩ := applied_delete env pname plan k s n h
  obtain ⟨lim, hl, hne, _, _⟩ := gcVictim_some hg
  rw [hp] at hp'
  cases hp'
  rcases h0 with h0 | h0
  · rw [h0] at hl; cases hl; exact hne rfl
  · rw [h0] at hl; cases hl

/-- A reconcile never deletes the current revision. -/
theorem gc_spares_current (env : Env) (pname : String) (plan : Plan) (k : Nat) (s : Store)
    (p : Pkg) (cur : String) (hp : s.pkg = some p) (hcur : revisionName env p = .ok cur) :
    Req.deleteRev cur ∉ applied sem plan k (pkgReconcile env pname) s := by
  intro h
  obtain ⟨p', cur', v, hp', hr', _, _, _, hne, _⟩ := gc_only_oldest_noncurrent env pname plan k s cur h
  rw [hp] at hp'
  cases hp'
  rw [hcur] at hr'
  cases hr'
  exact hne rfl

/-! ### defect D5: the collector of the unfixed tree -/

def d5Rev (name : String) (n : Int) (st : State) : Rev :=
  { name := name, parent := some "p", number := n, state := st, ctrl := some "u-p", image := "img", labels := [],
    fin := false, deleting := false }

/-- a package rolled back to the image of its lowest-numbered revision, limit 1, three revisions -/
def d5Store : Store :=
  { pkg := some { name := "p", uid := "u-p",
                  spec := { source := "xpkg.io/org/pkg:v1", limit := some 1, policy := .unset, pull := .unset, paused := false, labels := [] },
                  status := { curRev := "p-3333333333cc", curId := "xpkg.io/org/pkg:v3", pausedCond := false } }
    revs := [d5Rev "p-1111111111aa" 1 .inactive, d5Rev "p-2222222222bb" 2 .inactive, d5Rev "p-3333333333cc" 3 .active] }

def d5Env : Env := { head := fun _ => .digest "1111111111aa0000", parseOk := fun _ => true }

/-- On the unfixed tree `gc_only_oldest_noncurrent` is FALSE: the collector picks the
lowest-numbered revision even when it is the current one.  Witness (corpus/C14/d5.jsonl):
after a rollback to the oldest of three revisions with limit 1, the reconcile of the unfixed
code deletes the current revision `p-1111111111aa`, which is then gone from the store. -/
theorem gc_only_oldest_noncurrent_fails_on_unfixed_witness :
    (match revisionName d5Env (d5Store.pkg.getD default) with | .ok c => c == "p-1111111111aa" | .error _ => false) = true ∧
    (applied sem Plan.allOk 0 (pkgReconcileUnfixed d5Env "p") d5Store).any
        (fun r => match r with | .deleteRev n => n == "p-1111111111aa" | _ => false) = true ∧
    (findRev "p-1111111111aa" (run sem Plan.allOk 0 (pkgReconcileUnfixed d5Env "p") d5Store).1.revs).isNone = true := by
  decide +kernel

/-- the repaired collector, on the same witness, deletes the oldest NON-current revision and
the current one ends up Active with the highest number -/
theorem d5_witness_repaired :
    (applied sem Plan.allOk 0 (pkgReconcile d5Env "p") d5Store).filterMap
        (fun r => match r with | .deleteRev n => some n | _ => none) = ["p-2222222222bb"] ∧
    ((run sem Plan.allOk 0 (pkgReconcile d5Env "p") d5Store).1.revs.map fun r => (r.name, r.number, r.state))
      = [("p-1111111111aa", 4, .active), ("p-3333333333cc", 3, .inactive)] := by
  decide +kernel

/-! ### the hypotheses are satisfiable by non-trivial states -/

example : WF d5Store ∧ (activeRevs "p" d5Store).length ≤ 1 := by decide

/-- a crash right after the second deactivation-related call still shows at most one Active -/
example : ∀ s' ∈ reach sem (Plan.at 4 .crashAfter) 0 (pkgReconcile d5Env "p") d5Store,
    (activeRevs "p" s').length ≤ 1 :=
  fun s' h => (le_one_active_every_prefix d5Env "p" _ 0 d5Store (by decide) (by decide) s' h).2

example : (run sem Plan.allOk 0 (pkgReconcile d5Env "p") d5Store).2 = some (.done "p-1111111111aa" false) := by
  decide +kernel

/-! ### the world around a reconcile: cached reads, other clients, error classes, other packages

`Model/C14World.lean`: the reconciler's client reads through an informer cache (`View`, a
parameter), other clients act before every API call (`Sched.env`), a failing call fails with an
error class (`Out.fail e`), and the package slot of the store holds whichever package of the
kind is being reconciled. -/

/-- With a fresh cache, nobody else and the error classes of a plain fault plan, the world
semantics IS the plain one: same final store and result, and every instant of the world run is
an instant of the plain run - so every theorem above speaks about this special case of the
world below. -/
theorem world_without_interference_is_plain (plan : Plan) (k : Nat) (pname : String) (env : Env) (s : Store) :
    (runW (Sched.ofPlan plan) k (pkgReconcile env pname) (World.fresh s)).1.live = (run sem plan k (pkgReconcile env pname) s).1 ∧
    (runW (Sched.ofPlan plan) k (pkgReconcile env pname) (World.fresh s)).2 = (run sem plan k (pkgReconcile env pname) s).2 ∧
    ∀ w ∈ reachW (Sched.ofPlan plan) k (pkgReconcile env pname) (World.fresh s),
      w.live ∈ reach sem plan k (pkgReconcile env pname) s :=
  ⟨(runW_fresh plan k _ _ (FreshW_fresh s)).1, (runW_fresh plan k _ _ (FreshW_fresh s)).2,
   fun w hw => (mem_reach_fresh plan k _ _ (FreshW_fresh s) _).mpr ⟨w, hw, rfl⟩⟩

/-- A reconcile of package `q`, started in a world whose revision cache is fresh, under ANY schedule
- any outcome of any API call incl. a crash before/after it, a failure of ANY error class
(NotFound, Conflict, any other) at ANY call except a NotFound answer to the List of revisions
(call 1; see `list_notfound_makes_two_active_witness`), and other clients doing before EVERY call
anything that obeys the rely `Quiet` (editing the package, writing / deactivating / deleting
revisions, creating inactive ones, the cache catching up; `other_clients_obey_the_rely`) -
keeps names unique and at most one revision Active at EVERY instant, for EVERY package `pname`:
the reconciled one (`pname = q`) and every other one (a reconcile never activates a revision
of another package).  The package may be read through a lagging cache (any `view.pkg`). -/
theorem le_one_active_every_instant_under_interference (env : Env) (pname q : String) (sc : Sched)
    (hrely : ∀ k w, Quiet w (sc.env k w)) (hlist : sc.out 1 ≠ .fail .notFound)
    (w0 : World) (hfresh : w0.view.revs = none)
    (hwf : WF w0.live) (h1 : (activeW pname w0).length ≤ 1) :
    ∀ w ∈ reachW sc 0 (pkgReconcile env q) w0, WF w.live ∧ (activeW pname w).length ≤ 1 := by
  intro w hw
  exact (InvL_iff pname w.live).mp
    (reconcile_reachW_InvL env pname q sc hrely hlist w0 hfresh ((InvL_iff pname w0.live).mpr ⟨hwf, h1⟩) w hw)

/-- Every other revision is deactivated, however many were Active to start with: when a reconcile
of `q` runs to completion in such a world (fresh revision cache, any admissible schedule: faults of
every class, other clients obeying the rely), no revision of `q` other than the current one is
Active in the final store. -/
theorem every_other_revision_inactive_after_reconcile (env : Env) (q : String) (sc : Sched)
    (hrely : ∀ k w, Quiet w (sc.env k w)) (hlist : sc.out 1 ≠ .fail .notFound)
    (w0 : World) (hfresh : w0.view.revs = none) (hwf : WF w0.live) (c : String) (a : Bool)
    (hrun : (runW sc 0 (pkgReconcile env q) w0).2 = some (.done c a)) :
    ∀ x ∈ (runW sc 0 (pkgReconcile env q) w0).1.live.revs, isActive q x = true → x.name = c :=
  -- names need not be keys for this: `hwf` is not used
  reconcile_runW_done env q q sc hrely hlist w0 hfresh _ hrun c a rfl rfl

/-- ... in particular in the plain world of the theorems above, under every fault plan. -/
theorem every_other_revision_inactive_after_plain_reconcile (env : Env) (pname : String) (plan : Plan)
    (s s' : Store) (hwf : WF s) (c : String) (a : Bool)
    (hrun : run sem plan 0 (pkgReconcile env pname) s = (s', some (.done c a))) :
    ∀ x ∈ s'.revs, isActive pname x = true → x.name = c := by
  obtain ⟨e2, e1⟩ := runW_of_run hrun
  exact e1 ▸ every_other_revision_inactive_after_reconcile env pname (Sched.ofPlan plan) (fun _ w => Quiet.refl w)
    (ofPlan_out_ne_notFound plan 1) (World.fresh s) rfl hwf c a e2

/-- Every action of another client the harness performs (`Act`: package edit, revision write,
delete, deactivation, creation of a non-Active revision, cache sync), and every sequence of them,
obeys the rely of `le_one_active_every_instant_under_interference`. -/
theorem other_clients_obey_the_rely (acts : Nat → List Act) :
    ∀ k w, Quiet w ((acts k).foldl actW w) := by
  intro k w
  generalize acts k = l
  induction l generalizing w with
  | nil => exact Quiet.refl w
  | cons a rest ih => exact Quiet.trans (actW_quiet w a) (ih _)

/-- one step of a history of the whole kind: a reconcile of package `q` - whose stored version at
that moment is `pk` and whose cached version is `vp`, both arbitrary - under schedule `sc`, or
an action of another client -/
inductive WStep where
  | reconcile (env : Env) (q : String) (pk : Option Pkg) (vp : Option (Option Pkg)) (sc : Sched)
  | act (a : Act)

/-- the schedules the history theorem speaks about -/
def WStep.admissible : WStep → Prop
  | .reconcile _ _ _ _ sc => (∀ k w, Quiet w (sc.env k w)) ∧ sc.out 1 ≠ .fail .notFound
  | .act _ => True

def WStep.start (s : Store) (pk : Option Pkg) (vp : Option (Option Pkg)) : World :=
  { live := { s with pkg := pk }, view := { pkg := vp } }

/-- every store visible during a history (the revision cache is fresh at the start of each reconcile) -/
def histW : List WStep → Store → List Store
  | [], s => [s]
  | .act a :: rest, s => s :: histW rest (actW (World.fresh s) a).live
  | .reconcile env q pk vp sc :: rest, s =>
    (reachW sc 0 (pkgReconcile env q) (WStep.start s pk vp)).map (·.live) ++
      histW rest (runW sc 0 (pkgReconcile env q) (WStep.start s pk vp)).1.live

theorem runW_mem_reachW {α : Type} (sc : Sched) (k : Nat) (p : P α) (w : World) : (runW sc k p w).1 ∈ reachW sc k p w := by
  fun_induction reachW sc k p w with
  | case1 => simp [runW]
  | case2 k r c w ho ih => simp only [runW, ho]; exact List.mem_cons_of_mem _ (List.mem_cons_of_mem _ ih)
  | case3 k r c w e ho ih => simp only [runW, ho]; exact List.mem_cons_of_mem _ ih
  | case4 k r c w ho => simp [runW, ho]
  | case5 k r c w ho => simp [runW, ho]

/-- ... over every history of the whole kind: any sequence of reconciles of ANY packages of the
kind (each with arbitrary package content, arbitrary lag of the package cache, its own registry
answers, its own admissible schedule: faults and crashes of every class, other clients before
every call) interleaved with actions of other clients: at every instant at most one revision
of `pname` is Active and names are unique. -/
theorem le_one_active_every_world_history (pname : String) (h : List WStep) (hadm : ∀ st ∈ h, st.admissible)
    (s : Store) (hwf : WF s) (h1 : (activeRevs pname s).length ≤ 1) :
    ∀ s' ∈ histW h s, WF s' ∧ (activeRevs pname s').length ≤ 1 := by
  have hinv : Inv pname s := ⟨hwf, h1⟩
  clear hwf h1
  induction h generalizing s with
  | nil => intro s' hm; simp [histW] at hm; subst hm; exact hinv
  | cons st rest ih =>
    have hrest : ∀ st' ∈ rest, st'.admissible := fun st' hm => hadm st' (List.mem_cons_of_mem _ hm)
    cases st with
    | act a =>
      intro s' hm
      simp only [histW, List.mem_cons] at hm
      rcases hm with e | hm
      · subst e; exact hinv
      · exact ih hrest _ (hinv.quiet (actW_quiet (World.fresh s) a).2) s' hm
    | reconcile env q pk vp sc =>
      obtain ⟨hr, hl⟩ := hadm _ List.mem_cons_self
      have hall := le_one_active_every_instant_under_interference env pname q sc hr hl (WStep.start s pk vp) rfl hinv.1 hinv.2
      intro s' hm
      simp only [histW, List.mem_append, List.mem_map] at hm
      rcases hm with ⟨w, hw, e⟩ | hm
      · exact e ▸ hall w hw
      · exact ih hrest _ (hall _ (runW_mem_reachW sc 0 _ _)) s' hm

/-- Whatever the cache holds, whatever other clients do and whatever
fails: a Delete the reconcile applies targets a revision of the list the reconciler was SERVED
(`heardCtx`: the package its Get answered, the revisions its List answered), which is not the
current one, has the lowest number among the non-current revisions of that list, and the list is
longer than revisionHistoryLimit+1 of the package it was served, with a limit other than 0. -/
theorem gc_judged_on_served_list_in_every_world (env : Env) (pname : String) (sc : Sched) (w0 : World)
    (x : World × Req × Resp) (n : String)
    (hx : x ∈ ownW sc 0 (pkgReconcile env pname) w0) (hn : x.2.1 = .deleteRev n) :
    ∃ p listed cur lim, heardCtx (heardW sc 0 (pkgReconcile env pname) w0) = some (p, listed) ∧
      revisionName env p = .ok cur ∧ n ≠ cur ∧
      (∃ v ∈ listed, v.name = n ∧ ∀ y ∈ listed, y.name ≠ cur → v.number ≤ y.number) ∧
      p.spec.limit = some lim ∧ lim ≠ 0 ∧ (listed.length : Int) > lim + 1 := by
  obtain ⟨p, listed, cur, v, hc, hr, _, hg, hv⟩ := world_delete_is_heard_victim env pname sc w0 x n hx hn
  obtain ⟨lim, hl, hne, hlen, ho⟩ := gcVictim_some hg
  obtain ⟨h1, h2, h3⟩ := oldestNonCurrent_spec ho
  exact ⟨p, listed, cur, lim, hc, hr, hv ▸ h2, ⟨v, h1, hv, h3⟩, hl, hne, hlen⟩

/-- Whatever the cache holds, whatever
other clients do and whatever fails: if the reconcile applies a write to any revision (create,
patch, update, delete), then the revisioner resolved a non-empty name for the package the
reconciler was served - i.e. (`revisioner_name_sound`) the digest fetched for ITS source, or the
recorded revision of the same identifier under IfNotPresent, or the source string under Never.
In particular a failed fetch of any class is followed by no revision write. -/
theorem revision_write_only_after_name_resolved_in_every_world (env : Env) (pname : String) (sc : Sched) (w0 : World)
    (x : World × Req × Resp)
    (hx : x ∈ ownW sc 0 (pkgReconcile env pname) w0) (hw : isRevWrite x.2.1 = true) :
    ∃ p listed cur, heardCtx (heardW sc 0 (pkgReconcile env pname) w0) = some (p, listed) ∧
      revisionName env p = .ok cur ∧ cur ≠ "" := by
  obtain ⟨p, listed, cur, hc, hr, hne, _⟩ := world_rev_write env pname sc w0 x hx hw
  exact ⟨p, listed, cur, hc, hr, hne⟩

/-! ### findings of the unchanged tree under cache lag and error classes (witnesses by evaluation) -/

def wRev (name : String) (n : Int) (st : State) (img : String) : Rev :=
  { name := name, parent := some "p", number := n, state := st, ctrl := some "u-p", image := img, labels := [],
    fin := false, deleting := false }

/-- corpus/C14/stale-list.jsonl at the moment of the second reconcile: the package was moved
v1 -> v2 (revision ..2222bb created Active, ..1111aa deactivated) and then v2 -> v3 -/
def staleLive : Store :=
  { pkg := some { name := "p", uid := "u-p",
                  spec := { source := "xpkg.io/org/pkg:v3", limit := none, policy := .unset, pull := .unset, paused := false, labels := [] },
                  status := { curRev := "p-2222222222bb", curId := "xpkg.io/org/pkg:v2", pausedCond := false } }
    revs := [wRev "p-1111111111aa" 1 .inactive "xpkg.io/org/pkg:v1", wRev "p-2222222222bb" 2 .active "xpkg.io/org/pkg:v2"] }

/-- ... read through a revision cache that has seen ..1111aa deactivated but not yet ..2222bb created -/
def staleWorld : World :=
  { live := staleLive, view := { revs := some [wRev "p-1111111111aa" 1 .inactive "xpkg.io/org/pkg:v1"] } }

def staleEnv : Env := { head := fun _ => .digest "3333333333cc2222", parseOk := fun _ => true }

def quietSched : Sched := { out := fun _ => .ok, env := fun _ w => w }

/-- Finding (cache lag): `le_one_active_every_instant_under_interference` needs the
fresh revision cache.  When the List of revisions is served by a cache that lags behind the
reconciler's own previous write (two source edits in quick succession), the reconcile of the
UNCHANGED code creates the revision of the new source Active while the previous one is still
Active - two Active revisions - and gives it a number already in use.  Nobody else acts and
nothing fails. -/
theorem stale_revision_list_makes_two_active_witness :
    (activeW "p" staleWorld).length = 1 ∧
    ((reachW quietSched 0 (pkgReconcile staleEnv "p") staleWorld).any fun w => decide ((activeW "p" w).length = 2)) = true ∧
    ((runW quietSched 0 (pkgReconcile staleEnv "p") staleWorld).1.live.revs.map fun r => (r.name, r.number, r.state))
      = [("p-1111111111aa", 1, .inactive), ("p-2222222222bb", 2, .active), ("p-3333333333cc", 2, .active)] := by
  decide +kernel

/-- corpus/C14/list-notfound.jsonl: ..1111aa Active, the package moved to v2 -/
def nfWorld : World :=
  World.fresh
    { pkg := some { name := "p", uid := "u-p",
                    spec := { source := "xpkg.io/org/pkg:v2", limit := none, policy := .unset, pull := .unset, paused := false, labels := [] },
                    status := { curRev := "p-1111111111aa", curId := "xpkg.io/org/pkg:v1", pausedCond := false } }
      revs := [wRev "p-1111111111aa" 1 .active "xpkg.io/org/pkg:v1"] }

def nfEnv : Env := { head := fun _ => .digest "2222222222bb1111", parseOk := fun _ => true }

/-- the List of revisions (API call 1) is answered NotFound -/
def nfSched : Sched := { out := fun k => if k = 1 then .fail .notFound else .ok, env := fun _ w => w }

/-- Finding (error class): `le_one_active_every_instant_under_interference` also needs a List that is not answered NotFound:
`resource.IgnoreNotFound` turns that answer into an empty revision list, and the reconcile of the
UNCHANGED code creates the new revision Active, numbered 1, next to the Active one. -/
theorem list_notfound_makes_two_active_witness :
    ((reachW nfSched 0 (pkgReconcile nfEnv "p") nfWorld).any fun w => decide ((activeW "p" w).length = 2)) = true ∧
    ((runW nfSched 0 (pkgReconcile nfEnv "p") nfWorld).1.live.revs.map fun r => (r.name, r.number, r.state))
      = [("p-1111111111aa", 1, .active), ("p-2222222222bb", 1, .active)] := by
  decide +kernel

/-- the hypotheses of the interference theorem are satisfiable by a non-trivial world and
schedule: another client touches the Active revision between the List and the deactivating
Patch (which then carries a stale resourceVersion): the reconcile requeues with one Active -/
def touchSched : Sched := { out := fun _ => .ok, env := fun k w => if k = 4 then actW w (.touch "p-1111111111aa") else w }

example : (∀ k w, Quiet w (touchSched.env k w)) ∧ touchSched.out 1 ≠ .fail .notFound ∧ nfWorld.view.revs = none ∧
    WF nfWorld.live ∧ (activeW "p" nfWorld).length ≤ 1 := by
  refine ⟨?_, by decide, rfl, by decide, by decide⟩
  intro k w
  simp only [touchSched]
  split
  · exact actW_quiet w _
  · exact Quiet.refl w

set_option maxRecDepth 100000 in
example : (runW touchSched 0 (pkgReconcile nfEnv "p") nfWorld).2 = some .requeue ∧
    ((runW touchSched 0 (pkgReconcile nfEnv "p") nfWorld).1.live.revs.map fun r => (r.name, r.state, r.fin))
      = [("p-1111111111aa", .active, true)] := by
  decide +kernel

/-! ### regenerated call skeletons: the mirrored Go functions still have the modelled shape (tie "a")

`Xp.Gen.c14Skel*` are extracted with go/ast from the CURRENT tree on every check run
(harness/main/c14_dump.go); the declared skeletons sit next to the model definitions that mirror them
(Model/C14.lean), one entry per call with the model step that mirrors it. -/

/-- `Reconciler.Reconcile`: Get, [paused: Status.Update ×2], List, PullSecretFor, Revision, [3 early Status.Update],
the loop (SetDesiredState, Apply), SetRevision, Delete, Apply, Update, pullBasedRequeue, Status.Update -/
theorem skeleton_reconcile : Xp.Gen.c14SkelReconcile = skelReconcile := rfl

/-- `PackageRevisioner.Revision`: pull-policy shortcuts, ParseReference, RefNames, Head, FriendlyID, with its returns -/
theorem skeleton_revision : Xp.Gen.c14SkelRevision = skelRevision := rfl

theorem skeleton_friendly_id : Xp.Gen.c14SkelFriendlyID = skelFriendlyID := rfl

theorem skeleton_to_dns_label : Xp.Gen.c14SkelToDNSLabel = skelToDNSLabel := rfl

/-- `xpkg.K8sFetcher.Head`: keychain, HEAD, and on failure a GET of the same reference whose descriptor is returned
as it is (not an image resolved from it) -/
theorem skeleton_fetcher_head : Xp.Gen.c14SkelFetcherHead = skelFetcherHead := rfl

theorem skeleton_pull_based_requeue : Xp.Gen.c14SkelPullBasedRequeue = skelPullBasedRequeue := rfl

/-- crossplane-runtime `APIPatchingApplicator.Apply` (the module source the harness is linked against):
[Create of a nameless object,] DeepCopy, Get, Create on NotFound, the ApplyOption, Patch — what `applyRev` mirrors -/
theorem skeleton_apply : Xp.Gen.c14SkelApply = skelApply := rfl

/-- crossplane-runtime `resource.MustBeControllableBy`: GetControllerOf and its four verdicts — `controllable` -/
theorem skeleton_must_be_controllable_by : Xp.Gen.c14SkelMustBeControllableBy = skelMustBeControllableBy := rfl

/-- The declared skeleton of `Reconcile` is a function of the model: the entries flagged as lying on the
complete path are — apart from `pkg.Revision`, which is no API call (`revisionName`) — exactly the source calls
(`Req.srcCall`) of the requests `pkgReconcile` applies on the skeleton scenario, in that order. -/
theorem skeleton_reconcile_from_model :
    ((skelReconcileTagged.filter (·.2)).map (·.1)).filter (· ≠ "pkg.Revision") =
      (applied sem Plan.allOk 0 (pkgReconcile skelEnv "p") skelStore).filterMap Req.srcCall := by
  -- on the 12 characters of the digest that matter, as in `call_skeleton_matches_source`
  rw [show pkgReconcile skelEnv "p" = _ from pkgReconcile_digest_take _ _ _]
  decide +kernel

/-- `Apply` as a function of the model: Get then Patch (object exists), Get then Create (NotFound) are the two
request sequences of `applyRev`; the declared skeleton lists Get, Create, Patch after the nameless-object Create
and DeepCopy, with the NotFound test and the ApplyOption between them. -/
theorem skeleton_apply_from_model :
    skelApply.filter (fun c => c = "client.Get" ∨ c = "client.Patch") =
        (applied sem Plan.allOk 0 (applyRev (skelStore.revs.headD newRev) true "u-p") skelStore).map
          (fun r => match r with | .getRev _ => "client.Get" | .patchRev _ => "client.Patch" | _ => "?") ∧
    (skelApply.drop 1).filter (fun c => c = "client.Get" ∨ c = "client.Create") =
        (applied sem Plan.allOk 0 (applyRev { newRev with name := "fresh" } false "u-p") skelStore).map
          (fun r => match r with | .getRev _ => "client.Get" | .createRev _ _ => "client.Create" | _ => "?") := by
  decide +kernel

/-! ### the package's conditions -/

/-- the package is reported Installed=True (Active) exactly when its current revision is Active after the
reconcile - in particular under Manual activation an Inactive current revision reports Installed=False -/
theorem package_installed_iff_current_revision_active (h : Cond) (st : State) :
    (pkgConditions h st).2 = .true ↔ st = .active := by
  unfold pkgConditions; by_cases e : st = .active <;> simp [e]

/-- the package's health is the listed current revision's; a revision that has no Healthy condition yet (a new
one) makes the package's health Unknown - never Healthy -/
theorem package_health_follows_current_revision (h : Cond) (st : State) :
    (h ≠ .unset → (pkgConditions h st).1 = h) ∧ (h = .unset → (pkgConditions h st).1 = .unknown) := by
  unfold pkgConditions; cases h <;> simp

example : pkgConditions .false .inactive = (.false, .false) ∧ pkgConditions .unset .active = (.unknown, .true) := by decide

/-! ### the spec copy package → revision -/

/-- The table of copied fields of the current tree (go/ast: the `pr.SetX(p.GetX())` / `prwr.SetX(pwr.GetX())`
statements of `Reconcile`, in order; the JSON leaves by RUNNING each setter / getter on probe objects) is the
table the model declares: adding, dropping or re-pointing a copy breaks this obligation. -/
theorem copied_fields_match_source : Xp.Gen.c14CopiedFields = copiedFields := rfl

/-- `Rev.extra` / `Spec.extra` hold exactly the revision-side leaves of that table other than the ones `Rev`
models as own fields (image, commonLabels) or leaves out (TLS names). -/
theorem extra_keys_are_the_copied_leaves :
    (∀ k ∈ extraKeys, (copiedFields.any fun t => t.2.2.1.contains k) = true ∧ k ∉ ownLeaves) ∧
    (∀ t ∈ copiedFields, ∀ k ∈ t.2.2.1, k ∈ extraKeys ∨ k ∈ ownLeaves) := by decide +kernel

/-- The spec copy, final state, every fault plan: if a reconcile runs to completion the revision named after
the current source carries the package's image, exactly the package's commonLabels, and EVERY leaf the package
serialises for the other copied fields (pull policy, pull secrets, the two flags, runtime / controller config
reference), with the package's value.  (A leaf the package does NOT serialise is a different matter:
`cleared_field_stays_on_existing_revision_witness`.) -/
theorem current_revision_carries_package_fields (env : Env) (pname : String) (plan : Plan) (s s' : Store)
    (cur : String) (after : Bool)
    (hrun : run sem plan 0 (pkgReconcile env pname) s = (s', some (.done cur after))) :
    ∃ p, s.pkg = some p ∧ ∃ rev ∈ s'.revs, rev.name = cur ∧ rev.image = p.spec.source ∧
      rev.labels = p.spec.labels ∧
      (KeysNodup (copiedExtra p.spec) → ∀ kv ∈ copiedExtra p.spec, getL kv.1 rev.extra = some kv.2) := by
  obtain ⟨p, hp, _, _, hP⟩ := reconcile_post env pname (NumLeO_maxRevision pname _ s.revs) plan s' cur after hrun
  obtain ⟨rev, h⟩ := Post_iff.mp hP
  exact ⟨p, hp, rev, h.mem, h.name, h.image, h.labels, h.leaves⟩

/-- … and what the copy consists of, request by request, for every fault plan: a Create the API server can
accept creates THE desired current revision — image, commonLabels and copied leaves EXACTLY the package's
(nothing more: a fresh revision has no stale leaf), labelled and controlled by the package; a Patch sends that
same object or a listed revision set Inactive (whose copied leaves are the ones it was listed with); an
Update carries the package's commonLabels. -/
theorem revision_writes_carry_the_package_copy (env : Env) (pname : String) (plan : Plan) (k : Nat) (s : Store)
    (p : Pkg) (cur : String) (hp : s.pkg = some p) (hcur : revisionName env p = .ok cur) :
    ∀ r ∈ applied sem plan k (pkgReconcile env pname) s,
      (∀ d, r = .createRev d false →
        d.name = cur ∧ d.parent = some p.name ∧ d.image = p.spec.source ∧ d.labels = p.spec.labels ∧
        d.extra = copiedExtra p.spec) ∧
      (∀ d, r = .patchRev d →
        (d.image = p.spec.source ∧ d.labels = p.spec.labels ∧ d.extra = copiedExtra p.spec) ∨
        ∃ x ∈ s.revs, d = { x with state := .inactive }) ∧
      (∀ d, r = .updateRev d → d.labels = p.spec.labels) := by
  intro r hr
  have key : isRevWrite r = true → Stage2Req (gcVictim p.spec.limit cur (s.revs.filter (labelled pname))) p cur
      (s.revs.filter (labelled pname)) r := by
    intro hw
    obtain ⟨q, c, hq, _, hc, _, h2⟩ := (reconcile_applied env pname plan k s r hr).of_revWrite hw
    rw [hp] at hq; cases hq
    rw [hcur] at hc; cases hc
    exact h2
  refine ⟨?_, ?_, ?_⟩
  · intro d e; subst e
    rw [(key rfl).create]
    exact ⟨rfl, rfl, rfl, rfl, rfl⟩
  · intro d e; subst e
    rcases (key rfl).patch with e' | ⟨x, hx, e'⟩
    · rw [e']; exact .inl ⟨rfl, rfl, rfl⟩
    · exact .inr ⟨x, (List.mem_filter.mp hx).1, e'⟩
  · intro d e; subst e
    exact (key rfl).update

/-- The API server side of the copy (`mergeRev`, crossplane-runtime's Apply sends the WHOLE desired object as a
JSON merge patch): every leaf the desired object serialises is stored, every other leaf stays as stored. -/
theorem merge_patch_stores_serialised_leaves_only (stored d : Rev) (k : String) :
    (KeysNodup d.extra → ∀ v, (k, v) ∈ d.extra → getL k (mergeRev stored d).extra = some v) ∧
    (k ∉ d.extra.map (·.1) → getL k (mergeRev stored d).extra = getL k stored.extra) :=
  ⟨fun hn v h => getL_merge_mem d.extra stored.extra hn (k, v) h, fun h => getL_merge_notin k d.extra stored.extra h⟩

/-- a package whose pull secrets were REMOVED (`extra := []`) after its current revision was created with them -/
def clearedStore : Store :=
  { pkg := some { name := "p", uid := "u-p",
                  spec := { source := "xpkg.io/org/pkg:v1", limit := none, policy := .unset, pull := .unset, paused := false, labels := [], extra := [] },
                  status := { curRev := "p-1111111111aa", curId := "xpkg.io/org/pkg:v1", pausedCond := false } }
    revs := [ { name := "p-1111111111aa", parent := some "p", number := 1, state := .active, ctrl := some "u-p", image := "xpkg.io/org/pkg:v1",
                labels := [], fin := true, deleting := false, extra := [("packagePullSecrets", "s1"), ("skipDependencyResolution", "true")] } ] }

def clearedEnv : Env := { head := fun _ => .digest "1111111111aa0000", parseOk := fun _ => true }

/-- What the copy does NOT do (the code as it is; recorded as an observation, not a clause of C14): a copied
field that is CLEARED on the package (pull secrets removed, a flag unset) is not cleared on the existing current
revision — the desired object does not serialise the empty field (`omitempty`), the merge patch leaves the stored
leaf alone, and only commonLabels get the follow-up Update.  The reconcile completes and the revision keeps
`packagePullSecrets = s1`. -/
theorem cleared_field_stays_on_existing_revision_witness :
    (run sem Plan.allOk 0 (pkgReconcile clearedEnv "p") clearedStore).2 = some (.done "p-1111111111aa" false) ∧
    (run sem Plan.allOk 0 (pkgReconcile clearedEnv "p") clearedStore).1.revs.map (fun r => (r.name, r.extra)) =
      [("p-1111111111aa", [("packagePullSecrets", "s1"), ("skipDependencyResolution", "true")])] := by
  decide +kernel

/-- the hypotheses of the copy theorems are satisfiable by a non-trivial state: a package with a pull policy,
pull secrets and a runtime config whose revision exists with OTHER values; the completed reconcile stores the
package's values -/
def copyStore : Store :=
  { pkg := some { name := "p", uid := "u-p",
                  spec := { source := "xpkg.io/org/pkg:v1", limit := none, policy := .unset, pull := .ifNotPresent, paused := false, labels := [("a", "1")],
                            extra := [("packagePullSecrets", "s2"), ("runtimeConfigRef.name", "rc1")] },
                  status := { curRev := "", curId := "", pausedCond := false } }
    revs := [ { name := "p-1111111111aa", parent := some "p", number := 1, state := .inactive, ctrl := some "u-p", image := "old",
                labels := [], fin := true, deleting := false, extra := [("packagePullSecrets", "s1"), ("skipDependencyResolution", "true")] } ] }

set_option maxRecDepth 100000 in
example : (∀ p, copyStore.pkg = some p → KeysNodup (copiedExtra p.spec)) ∧
    (run sem Plan.allOk 0 (pkgReconcile clearedEnv "p") copyStore).2 = some (.done "p-1111111111aa" false) ∧
    (run sem Plan.allOk 0 (pkgReconcile clearedEnv "p") copyStore).1.revs.map (fun r => (r.image, r.labels, r.extra)) =
      [("xpkg.io/org/pkg:v1", [("a", "1")],
        [("packagePullPolicy", "IfNotPresent"), ("packagePullSecrets", "s2"), ("runtimeConfigRef.name", "rc1"), ("skipDependencyResolution", "true")])] := by
  decide +kernel

example : (applied sem Plan.allOk 0 (pkgReconcile clearedEnv "p") { copyStore with revs := [] }).any
    (fun r => match r with | .createRev d false => d.extra == [("packagePullPolicy", "IfNotPresent"), ("packagePullSecrets", "s2"), ("runtimeConfigRef.name", "rc1")] | _ => false) = true := by
  decide +kernel

end Xp.C14
