import Xp.Proofs.C01QuietPT
import Xp.Proofs.C01Quiet
import Xp.Proofs.C01Stale
import Xp.Gen.C01Skel
/-
C01 — composed resources are never leaked or duplicated, whatever fails mid-reconcile.

The model (Xp/Model/C01.lean) is `Reconciler.Reconcile` with the function composer or
the P&T composer (named templates), call by call, over an abstract API server; a
reconcile runs under an arbitrary fault plan (`Plan`: every call index × {ok, error,
conflict, crash before, crash after}). `reach` is the list of all stores visible at
any instant of that run. The invariant `Good` packs: object keys are unique and
named, NoLeak, "referenced objects have pairwise distinct composition resource
names" (needed because both composers key their observations by that name), and the
frame C02 reads off it: objects controlled by someone else stay exactly as they were.

Informer cache. The reconciler reads composed resources through a cache and repeats a cached
NotFound against the API server (`Req.getCached` / `Req.getObj`). `St.miss` is the set of
composed resources that exist but are missing from the cache while the reconcile runs; no request
writes it. Every theorem below holds FOR EVERY such set: the store `s` (hence `s.miss`) is
universally quantified, and `…_every_miss_set` / `invariant_every_history_every_miss_set` spell the
quantifier out, the latter with a different set for every reconcile of a history. Two hypotheses
mention the cache: `FreshAvoids` (part of `ModeOK`: the name generator does not propose the name of
an object that exists but is missing from the cache — the code probes the cache only and accepts
that risk; `fresh_names_must_avoid_cache_misses_witness`: without it a leak is reachable) and, for
`quiescent_pt` only, that no referenced resource is missing from the cache
(`quiescent_pt_needs_cache_witness` shows the P&T composer is not quiescent otherwise).
-/
namespace Xp.C01

theorem safe_reconcile {s : St} (hg : Good s) (m : Mode) (hm : ModeOK s.miss m) : Safe sem Good (reconcile m) s :=
  reconcileT_one' m ▸ safe_reconcileT_of hg 1 m hm

/-- **At every instant** of a reconcile — after any prefix of its API calls, under any
fault plan (error, conflict, crash before / after the call took effect at any call
index), for every function output / template list, every generated name and every map
iteration order, and whatever composed resources are missing from the informer cache (`s.miss`
is arbitrary) — the invariant holds. -/
theorem invariant_every_instant (s : St) (hg : Good s) (m : Mode) (hm : ModeOK s.miss m) (plan : Plan) :
    ∀ s' ∈ reach sem plan 0 (reconcile m) s, Good s' :=
  reach_safe sem Good plan 0 (reconcile m) s hg (safe_reconcile hg m hm)

/-- NoLeak, spelled out: every live composed resource controlled by the XR is listed in
spec.resourceRefs at every instant, including right after a crash or failed call. -/
theorem noLeak_every_instant (s : St) (hg : Good s) (m : Mode) (hm : ModeOK s.miss m) (plan : Plan) :
    ∀ s' ∈ reach sem plan 0 (reconcile m) s, ∀ o ∈ s'.objs,
      o.ctrl = .xr → o.deleting = false → (⟨o.kind, o.name⟩ : Ref) ∈ s'.refs := by
  intro s' hs' o ho hc hd
  exact (invariant_every_instant s hg m hm plan s' hs').noLeak o ho hc hd

/-- At most one live composed resource per desired resource name, at every instant. -/
theorem at_most_one_per_name_every_instant (s : St) (hg : Good s) (m : Mode) (hm : ModeOK s.miss m) (plan : Plan) :
    ∀ s' ∈ reach sem plan 0 (reconcile m) s, ∀ o1 ∈ s'.objs, ∀ o2 ∈ s'.objs,
      o1.ctrl = .xr → o1.deleting = false → o2.ctrl = .xr → o2.deleting = false →
      o1.annot = o2.annot → o1.annot ≠ "" → o1 = o2 :=
  fun s' hs' => (invariant_every_instant s hg m hm plan s' hs').atMostOne

/-- No API call ever renames an object: whatever is in the store after a call is either
an object that was there before under the same kind/name, or a newly created one. -/
theorem objects_never_renamed (s : St) (r : Req) :
    ∀ o' ∈ (exec s r).1.objs, (∃ o ∈ s.objs, key o = key o') ∨ findObj s.objs o'.kind o'.name = none := by
  intro o' ho'
  by_cases h : ∃ o ∈ s.objs, key o = key o'
  · exact Or.inl h
  · right
    cases hf : findObj s.objs o'.kind o'.name with
    | none => rfl
    | some o =>
      obtain ⟨hm, hk, hn⟩ := findObj_some hf
      exact absurd ⟨o, hm, by simp [key, hk, hn]⟩ h

theorem miss_unchanged (s : St) (m : Mode) (plan : Plan) :
    ∀ s' ∈ reach sem plan 0 (reconcile m) s, s'.miss = s.miss := by
  apply reach_inv sem (fun x => x.miss = s.miss) (fun _ => True)
  · intro s1 r h1 _
    rw [← h1]
    exact exec_miss s1 r
  · exact Issues.any _
  · rfl

/-- The same for every finite history of faulty reconciles (each with its own plan,
function output, names and orders), with controller-local state lost in between
(restart / requeue): the invariant holds at every instant of the whole history. (Here the set
of cache misses is the same — arbitrary — set throughout; `invariant_every_history_every_miss_set`
lets it differ from reconcile to reconcile.) -/
theorem invariant_every_history (h : List (Plan × Mode)) (s : St) (hok : ∀ pm ∈ h, ModeOK s.miss pm.2) (hg : Good s) :
    ∀ s' ∈ reachHistory sem (h.map fun pm => (pm.1, reconcile pm.2)) s, Good s' :=
  -- no reconcile writes the cache misses: the invariant carried along the history is `Good` with the misses of the start
  fun s' hs' => (reachHistory_inv_of sem (fun x => Good x ∧ x.miss = s.miss) _ (fun x hx t ht t' ht' => by
    obtain ⟨pm, hpm, rfl⟩ := List.mem_map.mp hx
    exact ⟨invariant_every_instant t ht.1 pm.2 (ht.2 ▸ hok pm hpm) pm.1 t' ht',
      (miss_unchanged t pm.2 pm.1 t' ht').trans ht.2⟩) s ⟨hg, rfl⟩ s' hs').1

/-- **NoLeak and at-most-one-per-name for every set of cache misses**, spelled out: take any good store
and declare ANY set `miss` of composed resources missing from the informer cache. -/
theorem noLeak_and_unique_every_instant_every_miss_set (s : St) (hg : Good s) (miss : List Ref)
    (m : Mode) (hm : ModeOK miss m) (plan : Plan) :
    ∀ s' ∈ reach sem plan 0 (reconcile m) { s with miss := miss },
      (∀ o ∈ s'.objs, o.ctrl = .xr → o.deleting = false → (⟨o.kind, o.name⟩ : Ref) ∈ s'.refs) ∧
      (∀ o1 ∈ s'.objs, ∀ o2 ∈ s'.objs, o1.ctrl = .xr → o1.deleting = false → o2.ctrl = .xr → o2.deleting = false →
        o1.annot = o2.annot → o1.annot ≠ "" → o1 = o2) := by
  intro s' hs'
  have hg0 : Good { s with miss := miss } := hg.withMiss miss
  exact ⟨noLeak_every_instant _ hg0 m hm plan s' hs',
    at_most_one_per_name_every_instant _ hg0 m hm plan s' hs'⟩

/-- **Histories with a different set of cache misses in every reconcile.** Every reconcile of the
history runs under its own fault plan, with its own inputs and its own set of cache misses
(`reachRounds` sets `St.miss` when the reconcile starts): the invariant — NoLeak, at most one
resource per name, foreign objects untouched — holds at every instant of the whole history. -/
theorem invariant_every_history_every_miss_set (h : List (List Ref × Plan × Mode))
    (hok : ∀ x ∈ h, ModeOK x.1 x.2.2) (s : St) (hg : Good s) :
    ∀ s' ∈ reachRounds h s, Good s' :=
  reachRounds_eq_one h s ▸ reachRoundsT_inv 1 Good ModeOK (fun _ ms hs => hs.withMiss ms)
    (fun s pl m hs hm => reconcileT_one' m ▸ invariant_every_instant s hs m hm pl) h hok s hg

/-- **The live fallback makes the observation complete.** For every set `miss` of cache misses:
on a fault-free run `ObserveComposedResources` hands to its continuation an observation `obs`
(the pure observation of the store, which does not depend on the cache) in which every existing,
referenced composed resource controlled by the XR is recorded under its composition resource name —
in particular the ones missing from the cache — and which records nothing else than existing,
referenced, non-foreign resources; or the store holds a referenced unannotated resource and the
observation errors (also independently of the cache). -/
theorem observation_complete_every_miss_set (s : St) (hg : Good s) (miss : List Ref) (lrv : Nat) (k : Obs → P) :
    (∃ obs, observePure s.objs s.refs [] = some obs ∧
      run sem Plan.allOk 0 (observeFn lrv s.refs [] k) { s with miss := miss } =
        run sem Plan.allOk 0 (k obs) { s with miss := miss } ∧
      (∀ o ∈ s.objs, (⟨o.kind, o.name⟩ : Ref) ∈ s.refs → o.ctrl = .xr →
        o.annot ≠ "" ∧ obsLookup obs o.annot = some o) ∧
      (∀ a o, obsLookup obs a = some o →
        o ∈ s.objs ∧ (⟨o.kind, o.name⟩ : Ref) ∈ s.refs ∧ o.ctrl ≠ .other ∧ o.annot = a ∧ a ≠ "")) ∨
    (observePure s.objs s.refs [] = none ∧
      run sem Plan.allOk 0 (observeFn lrv s.refs [] k) { s with miss := miss } =
        run sem Plan.allOk 0 (onError lrv) { s with miss := miss }) := by
  have hrun := runOk_observeFn_pure { s with miss := miss } lrv k s.refs []
  simp only [runOk] at hrun
  cases hobs : observePure s.objs s.refs [] with
  | none =>
    right
    simp only [hobs] at hrun
    exact ⟨rfl, hrun⟩
  | some obs =>
    left
    simp only [hobs] at hrun
    have hok : ObsOKp s ([] ++ s.refs) obs :=
      observePure_complete hg s.refs [] [] obs (fun _ hr => hr) (by intro r h; cases h) (obsOKp_nil s) hobs
    refine ⟨obs, rfl, hrun, ?_, ?_⟩
    · intro o ho hr hc
      exact hok.observed o ho (by simpa [key] using hr) (by rw [hc]; decide)
    · intro a o hl
      have h := observePure_sound s s.refs [] obs (fun _ hr => hr) (fun _ h => nomatch h) hobs _ (mem_of_obsLookup hl)
      exact ⟨(findObj_some h.found).1, h.ref, h.notForeign, h.annot, h.annotNe⟩

/-- the same at the level of one reference: whatever is missing from the cache, the cached read
or — after a cached NotFound — the live read returns the object the store holds -/
theorem fallback_read_finds_existing (s : St) (kind name : String) (o : CObj)
    (hf : findObj s.objs kind name = some o) :
    exec s (.getCached kind name) = (s, .found o) ∨
    (exec s (.getCached kind name) = (s, .notFound) ∧ exec s (.getObj kind name) = (s, .found o)) := by
  by_cases hm : (⟨kind, name⟩ : Ref) ∈ s.miss
  · exact Or.inr ⟨exec_getCached_miss hm, exec_getObj_some hf⟩
  · exact Or.inl (exec_getCached_some hf hm)

/-- quiescence of the function composer does not depend on the number of tries: no name is generated.
`hv`: the stored references already carry the API version the composition emits (rewriting them
with another version is a real change, `exec` at `.patchRefs`) -/
theorem quiescent_retry (tries : Nat) (s : St) (names : List Named) (h : Settled s names) (ch : Choices) (hc : ChOK ch)
    (hv : ch.ver = s.refsVer) :
    run sem Plan.allOk 0 (reconcileT tries (.fn (fun _ => .desired (names.map (·.d))) ch)) s = (s, some .success) := by
  show runOk _ s = _
  have hg := h.good
  have hobjOf : ∀ o ∈ s.objs, key o ∈ s.refs → ∃ n ∈ names, key o = nkey n ∧ o.annot = n.d.rname ∧ o.ctrl = .xr := by
    intro o ho hk
    rw [h.refs] at hk
    obtain ⟨n, hn, hke⟩ := (mem_refsOf names _).mp hk
    obtain ⟨o2, ho2, hk2, ha2, hc2, _⟩ := h.obj n hn
    have : o = o2 := eq_of_key_eq hg.nodup ho ho2 (by rw [hke, hk2])
    subst this
    exact ⟨n, hn, hk2, ha2, hc2⟩
  have hclean : ∀ o ∈ s.objs, key o ∈ s.refs → o.ctrl ≠ .other → o.annot ≠ "" := by
    intro o ho hk _
    obtain ⟨n, hn, _, ha, _⟩ := hobjOf o ho hk
    rw [ha]; exact h.rnameNe n hn
  rw [reconcileT, runOk_call, exec_getXR, recContT_xr, h.fin, if_pos rfl]
  simp only [bodyT]
  unfold composeFnT
  refine observeFn_rule hg (fun p => runOk p s = (s, some .success)) s.xrRv _ runOk_readThrough_rule ?herr ?_
  case herr =>
    intro ⟨o, ho, hk, hc, ha⟩
    exact absurd ha (hclean o ho hk hc)
  intro obs hsound hobs
  simp only []
  -- every desired resource is observed, as its settled object
  have hlook : ∀ n ∈ names, ∃ o, obsLookup obs n.d.rname = some o ∧ o.name = n.name := by
    intro n hn
    obtain ⟨o, ho, hk, ha, hcx, _⟩ := h.obj n hn
    have hkr : key o ∈ s.refs := by rw [h.refs, hk]; exact (mem_refsOf names _).mpr ⟨n, hn, rfl⟩
    have := (hobs.observed o ho hkr (by rw [hcx]; decide)).2
    rw [ha] at this
    exact ⟨o, this, by have := congrArg Ref.name hk; simpa [key, nkey] using this⟩
  rw [renderFnT_all_observed _ _ _ _ names _ _ (fun n hn => ⟨h.noGen n hn, hlook n hn⟩)]
  simp only [List.reverse_nil, List.nil_append]
  -- nothing to garbage collect
  have hund : (obs.filter fun p => !((names.map (·.d)).any (·.rname = p.1))).map (·.2) = [] := by
    rw [List.map_eq_nil_iff, List.filter_eq_nil_iff]
    intro p hp
    have hp := hsound p hp
    obtain ⟨n, hn, _, han, _⟩ := hobjOf p.2 (findObj_some hp.found).1 hp.ref
    simp only [Bool.not_eq_true', Bool.not_eq_false, List.any_eq_true, List.mem_map, decide_eq_true_eq]
    exact ⟨n.d, ⟨n, hn, rfl⟩, by rw [← hp.annot, han]⟩
  have hgc : ch.gcOrder [] = [] := List.eq_nil_iff_forall_not_mem.mpr (fun x hx => by
    have := (hc.gc [] x).mp hx; cases this)
  rw [hund, hgc]
  simp only [gcFn, wcall]
  -- the references are already the ones the composer would write
  have hpatch : exec s (.patchRefs ch.ver (refsOf names)) = (s, .ok) := by simp [exec, h.refs, hv, h.applied]
  rw [runOk_call, hpatch]
  simp only []
  rw [runOk_applyFn_settled h _ _ _ true (fun n hn => (hc.apply _ _).mp hn)]
  rw [runOk_call, exec_statusPatch]
  simp only [finish]
  rw [runOk_call, exec_statusUpdate_ok]
  rfl

/-- **Quiescence** (function pipeline). Once the composed state matches the desired state —
every desired resource has its object with the desired content under the XR's control and
field manager, and spec.resourceRefs is exactly the sorted list of those objects — a
fault-free reconcile, in whatever order it iterates its maps and whatever composed resources are
missing from the informer cache (`s.miss` is arbitrary: the live fallback read finds them, and no
name is generated, so the cache is asked nothing else), succeeds and changes no
object: the store it leaves is identical (references, objects, the XR's resourceVersion).
(The P&T composer: `quiescent_pt` below.) -/
theorem quiescent (s : St) (names : List Named) (h : Settled s names) (ch : Choices) (hc : ChOK ch)
    (hv : ch.ver = s.refsVer) :
    run sem Plan.allOk 0 (reconcile (.fn (fun _ => .desired (names.map (·.d))) ch)) s = (s, some .success) :=
  reconcileT_one' _ ▸ quiescent_retry 1 s names h ch hc hv

/-- Quiescence of the function composer with the quantifier over the cache misses spelled out. -/
theorem quiescent_every_miss_set (s : St) (names : List Named) (h : Settled s names) (ch : Choices) (hc : ChOK ch)
    (hv : ch.ver = s.refsVer) (miss : List Ref) :
    run sem Plan.allOk 0 (reconcile (.fn (fun _ => .desired (names.map (·.d))) ch)) { s with miss := miss } =
      ({ s with miss := miss }, some .success) :=
  reconcileT_one' _ ▸ quiescent_retry 1 _ names (h.withMiss miss) ch hc hv

/-- **Quiescence** (patch-and-transform templates). Once the composed state matches the
templates — every template has its object (right kind, the referenced name, annotated with
the template name, controlled by the XR, content as rendered) and spec.resourceRefs is exactly
the list of those objects in template order, in the API version the composition emits — a
fault-free reconcile succeeds and changes no object: the store it leaves is identical
(references, objects, the XR's resourceVersion), whatever names `fresh` the generator would
propose (none is probed or consumed). `hcached`: no referenced composed resource is missing from
the informer cache (resources that are not referenced may be). Unlike the function composer the
P&T composer needs this: `quiescent_pt_needs_cache_witness`. -/
theorem quiescent_pt (s : St) (tmpl : List Desired) (names : List String) (h : SettledPT s tmpl names)
    (fresh : List String) (ver : String) (hv : s.refs = [] ∨ ver = s.refsVer)
    (hcached : ∀ r ∈ s.refs, r ∉ s.miss) :
    run sem Plan.allOk 0 (reconcile (.pt tmpl fresh ver)) s = (s, some .success) :=
  QuietPT.quiescent_pt h fresh ver hv hcached

/-! ### the name generator's availability loop (`names.nameGenerator.GenerateName`)

`reconcileT tries` is the reconcile whose name generator probes up to `tries` candidates through the
cache before it gives up (Model/C01.lean `probeName`); the driver runs `reconcileT maxTries`, and
`skeleton_generate_name` ties `maxTries` to the `maxTries := 10` of the source. Every theorem above
is re-stated for EVERY number of tries; `reconcile` is the instance with one try. Of the candidates
the theorems assume that none is empty (`ChOK.fresh`, `TmplOK.fresh`) and `FreshAvoids`: none is the
name of an object that exists but is missing from the cache — that a generated name is free in the CACHE is proved
(`generated_name_free_in_cache`), that it is free in the store follows under `FreshAvoids`
(`generated_name_free_unless_missed`). -/

/-- the reconcile of the theorems above = one try -/
theorem reconcileT_one (m : Mode) : reconcileT 1 m = reconcile m := reconcileT_one' m

/-- **The invariant at every instant, the name generator retrying.** `invariant_every_instant` for
every bound `tries` on the generator's availability loop (the code: 10): after any prefix of the API
calls of a reconcile — the probes of the loop included — under any fault plan, whatever candidates
the generator draws (as long as none is the name of an object missing from the cache), however many
of them are taken by objects the cache shows. -/
theorem invariant_every_instant_retry (tries : Nat) (s : St) (hg : Good s) (m : Mode) (hm : ModeOK s.miss m) (plan : Plan) :
    ∀ s' ∈ reach sem plan 0 (reconcileT tries m) s, Good s' :=
  reach_safe sem Good plan 0 (reconcileT tries m) s hg (safe_reconcileT_of hg tries m hm)

/-- NoLeak and at-most-one-per-name, spelled out, for every number of tries and every set of cache misses -/
theorem noLeak_and_unique_every_instant_retry (tries : Nat) (s : St) (hg : Good s) (miss : List Ref)
    (m : Mode) (hm : ModeOK miss m) (plan : Plan) :
    ∀ s' ∈ reach sem plan 0 (reconcileT tries m) { s with miss := miss },
      (∀ o ∈ s'.objs, o.ctrl = .xr → o.deleting = false → (⟨o.kind, o.name⟩ : Ref) ∈ s'.refs) ∧
      (∀ o1 ∈ s'.objs, ∀ o2 ∈ s'.objs, o1.ctrl = .xr → o1.deleting = false → o2.ctrl = .xr → o2.deleting = false →
        o1.annot = o2.annot → o1.annot ≠ "" → o1 = o2) := by
  intro s' hs'
  have hg' := invariant_every_instant_retry tries _ (hg.withMiss miss) m hm plan s' hs'
  exact ⟨hg'.noLeak, hg'.atMostOne⟩

/-- every finite history of faulty reconciles, each with its own plan, inputs and set of cache
misses, the name generator retrying up to `tries` times in each -/
theorem invariant_every_history_every_miss_set_retry (tries : Nat) (h : List (List Ref × Plan × Mode))
    (hok : ∀ x ∈ h, ModeOK x.1 x.2.2) (s : St) (hg : Good s) :
    ∀ s' ∈ reachRoundsT tries h s, Good s' :=
  reachRoundsT_inv tries Good ModeOK (fun _ ms hs => hs.withMiss ms)
    (fun s pl m hs hm => invariant_every_instant_retry tries s hs m hm pl) h hok s hg

/-- quiescence of the P&T composer, for every number of tries -/
theorem quiescent_pt_retry (tries : Nat) (s : St) (tmpl : List Desired) (names : List String) (h : SettledPT s tmpl names)
    (fresh : List String) (ver : String) (hv : s.refs = [] ∨ ver = s.refsVer)
    (hcached : ∀ r ∈ s.refs, r ∉ s.miss) :
    run sem Plan.allOk 0 (reconcileT tries (.pt tmpl fresh ver)) s = (s, some .success) :=
  QuietPT.quiescent_ptT tries h fresh ver hv hcached

/-- **A generated name is free in the cache.** The fault-free availability loop behaves as the pure
function `probePure` of the store; when it hands a name `n` to the composer, `n` is one of the drawn
candidates, fewer than `tries` candidates were drawn before it, each of those is the name of an
object of that kind the cache shows, and the cache does not show `n`: no such object exists, or it
is missing from the cache. When it gives up, `tries` candidates were all taken (or the candidates
ran out); without a fault it never fails otherwise. -/
theorem generated_name_free_in_cache (s : St) (kind : String) (tries : Nat) (fresh : List String)
    (k : Probed → List String → P) :
    run sem Plan.allOk 0 (probeName kind tries fresh k) s =
      run sem Plan.allOk 0 (k (probePure s kind tries fresh).1 (probePure s kind tries fresh).2) s ∧
    (∀ n rest, probePure s kind tries fresh = (.name n, rest) →
      ∃ skipped, fresh = skipped ++ n :: rest ∧ skipped.length < tries ∧
        (∀ x ∈ skipped, (⟨kind, x⟩ : Ref) ∉ s.miss ∧ (findObj s.objs kind x).isSome) ∧
        ((⟨kind, n⟩ : Ref) ∈ s.miss ∨ findObj s.objs kind n = none)) ∧
    (∀ rest, probePure s kind tries fresh = (.gaveUp, rest) →
      ∃ skipped, fresh = skipped ++ rest ∧ (skipped.length = tries ∨ rest = []) ∧
        (∀ x ∈ skipped, (⟨kind, x⟩ : Ref) ∉ s.miss ∧ (findObj s.objs kind x).isSome)) ∧
    (probePure s kind tries fresh).1 ≠ .failed := by
  obtain ⟨sk, hall, hsp⟩ := probePure_spec (s := s) (kind := kind) tries fresh
  refine ⟨runOk_probeName s kind k tries fresh, probePure_name tries fresh, ?_, ?_⟩
  · intro rest h
    rw [h] at hsp
    exact ⟨sk, hsp.1, hsp.2, hall⟩
  · intro h
    cases hp : probePure s kind tries fresh with
    | mk p rest => rw [hp] at hsp h; cases h; exact hsp

/-- … and free in the store unless it is the name of an object missing from the cache: under
`FreshAvoids` the name the loop hands over is carried by no object of that kind -/
theorem generated_name_free_unless_missed (s : St) (kind : String) (tries : Nat) (fresh : List String)
    (hfm : FreshAvoids s.miss fresh) (n : String) (rest : List String)
    (h : probePure s kind tries fresh = (.name n, rest)) : findObj s.objs kind n = none := by
  obtain ⟨sk, hsk, _, _, hl⟩ := probePure_name tries fresh n rest h
  rcases hl with hm | hn
  · exact absurd rfl (hfm n (by rw [hsk]; simp) ⟨kind, n⟩ hm)
  · exact hn

/-- **At most `tries` probes.** Under every fault plan one name generation issues at most `tries`
API calls (cached Gets) — with `tries = maxTries` the "≤ 10 Gets" of the source -/
theorem at_most_tries_probes (kind : String) (a : Probed → List String → Result) (tries : Nat)
    (fresh : List String) (plan : Plan) (i : Nat) (s : St) :
    calls sem plan i (probeName kind tries fresh fun p r => .ret (a p r)) s ≤ tries :=
  calls_le_of_within sem plan (within_probeName kind a tries fresh) i s

/-- **An existing composed resource keeps its identity.** A desired resource whose name has an
observed resource is rendered under the observed resource's model name — which stands for the
whole identity (namespace, name) of the composed resource: the harness shows namespaced resources
under the qualified name `<name>@<namespace>` — whatever else the function output says (e.g.
another metadata.namespace), no candidate is drawn and no probe is issued for it. This is
`cd.SetNamespace(or.Resource.GetNamespace()); cd.SetName(or.Resource.GetName())` of
FunctionComposer.Compose (skeleton entries `cd.SetNamespace`, `cd.SetName`). -/
theorem observed_identity_inherited (tries lrv : Nat) (obs : Obs) (d : Desired) (ds : List Desired) (fresh : List String)
    (acc : List Named) (k : List Named → P) (o : CObj) (h : obsLookup obs d.rname = some o) :
    renderFnT tries lrv obs (d :: ds) fresh acc k = renderFnT tries lrv obs ds fresh (⟨d, o.name, false⟩ :: acc) k := by
  simp [renderFnT, h]

/-! ### an outdated first read of the XR (lagging informer cache)

`reconcileStaleT tries m fin rv refs` is the reconcile whose first read of the XR returned an EARLIER
version (finalizer `fin`, resourceVersion `rv`, references `refs`) while the store has moved on;
later reads and all writes see the store. The P&T composer persists the references with an
`Update` that carries the resourceVersion it read, and so does `AddFinalizer`; the function composer
persists them with a server-side apply that carries no resourceVersion:
`stale_xr_read_fn_loses_reference_witness` (recorded finding D35, outside the property's quantifier). -/

/-- **The rv-checked Update protects the references (P&T).** From a good store, for ANY templates,
candidate names, cache misses, number of tries and fault plan, and any outdated version of the XR
(its resourceVersion differs from the current one): at every instant of the reconcile the invariant
holds, spec.resourceRefs, the XR's resourceVersion and finalizer are exactly what they were, and no
object was created or modified — objects the outdated references point to may have been garbage
collected (removed, or marked terminating), never one controlled by someone else. -/
theorem stale_xr_read_pt_writes_no_reference (tries : Nat) (s : St) (hg : Good s) (tmpl : List Desired)
    (fresh : List String) (ver : String) (fin : Bool) (rv : Nat) (refs : List Ref) (hrv : rv ≠ s.xrRv) (plan : Plan) :
    ∀ s' ∈ reach sem plan 0 (reconcileStaleT tries (.pt tmpl fresh ver) fin rv refs) s,
      Good s' ∧ s'.refs = s.refs ∧ s'.xrRv = s.xrRv ∧ s'.xrFin = s.xrFin ∧
      (∀ o' ∈ s'.objs, ∃ o ∈ s.objs, key o' = key o ∧ (o'.deleting = false → o' = o)) ∧
      (∀ o ∈ s.objs, o.ctrl = .other → o ∈ s'.objs) := by
  intro s' hs'
  have h := reach_safe sem (StaleInv s) plan 0 _ s (StaleInv.rfl' hg)
    (safe_reconcileStaleT_pt hg tries tmpl fresh ver fin rv refs hrv) s' hs'
  refine ⟨h.sh.good hg, h.sh.refs, h.rv, h.fin, ?_, h.sh.keepForeign⟩
  intro o' ho'
  obtain ⟨o, ho, hk, _, _, hd⟩ := h.sh.sub o' ho'
  exact ⟨o, ho, hk, hd⟩

/-- a "lagging" read that returns the current version is the ordinary reconcile -/
theorem stale_read_of_current_version (tries : Nat) (m : Mode) (s : St) (plan : Plan) (k : Nat) :
    run sem plan k (reconcileStaleT tries m s.xrFin s.xrRv s.refs) s = run sem plan k (reconcileT tries m) s := by
  have hgx : sem.exec s .getXR = (s, .xr s.xrFin s.xrRv s.refs) := exec_getXR s
  have hf : sem.errResp .fail .getXR = .err := rfl
  have hc : sem.errResp .conflict .getXR = .err := rfl
  unfold reconcileStaleT reconcileT
  simp only [run, hgx, hf, hc]

/-- the store of the witness below: `xr-x` referenced, resourceVersion 4 (the outdated version served to the
reconcile: no references yet, resourceVersion 3) -/
def staleStore : St :=
  { xrFin := true, xrRv := 4, refs := [⟨"KA", "xr-x"⟩],
    objs := [⟨"KA", "xr-x", "a", .xr, false, false, 1, true⟩] }

/-- **Without the resourceVersion check a reference is lost (function composer, D35).** The store
holds the composed resource `xr-x` for "a", referenced; the reconcile is served the XR as it was
before that reference was written (`refs = []`, resourceVersion 3 instead of 4). It observes nothing,
generates `xr-y`, server-side applies the references `[xr-y]` — accepted, the apply carries no
resourceVersion — and creates `xr-y`: `xr-x` is live, controlled by the XR and unreferenced, and
"a" has two live resources. The same inputs through the P&T composer leave the store untouched
(`stale_xr_read_pt_writes_no_reference`; here by evaluation). -/
theorem stale_xr_read_fn_loses_reference_witness :
    Good staleStore ∧
    (∃ o ∈ (run sem Plan.allOk 0 (reconcileStaleT maxTries (.fn (fun _ => .desired [⟨"a", "KA", 1, true⟩]) ⟨"v1", ["xr-y"], id, id⟩) true 3 []) staleStore).1.objs,
      o.ctrl = .xr ∧ o.deleting = false ∧
      (⟨o.kind, o.name⟩ : Ref) ∉ (run sem Plan.allOk 0 (reconcileStaleT maxTries (.fn (fun _ => .desired [⟨"a", "KA", 1, true⟩]) ⟨"v1", ["xr-y"], id, id⟩) true 3 []) staleStore).1.refs) ∧
    run sem Plan.allOk 0 (reconcileStaleT maxTries (.pt [⟨"a", "KA", 1, true⟩] ["xr-y"] "v1") true 3 []) staleStore = (staleStore, some .handled) := by
  refine ⟨.of_nodup_annots (by decide) (by decide) (by decide) (by decide) (by decide), ?_, rfl⟩
  · unfold reconcileStaleT recContT composeFnT
    simp only [refsOf_eq_sortRefs]
    exact ⟨⟨"KA", "xr-x", "a", .xr, false, false, 1, true⟩, by decide, rfl, rfl, by decide⟩

/-! ### regenerated call skeletons (tie to the source)

`Xp.Gen.c01Skel*` are extracted with go/ast from the current tree on every run; the right-hand sides
are declared in Model/C01.lean next to the definitions that mirror the functions, entry by entry. -/

theorem skeleton_reconcile : Xp.Gen.c01SkelReconcile = skelReconcile := rfl
theorem skeleton_handle_result : Xp.Gen.c01SkelHandleResult = skelHandleResult := rfl
theorem skeleton_fn_compose : Xp.Gen.c01SkelFnCompose = skelFnCompose := rfl
theorem skeleton_observe : Xp.Gen.c01SkelObserve = skelObserve := rfl
theorem skeleton_gc : Xp.Gen.c01SkelGC = skelGC := rfl
theorem skeleton_update_refs : Xp.Gen.c01SkelUpdateRefs = skelUpdateRefs ∧ Xp.Gen.c01RefsSortLess = skelRefsSortLess := ⟨rfl, rfl⟩
theorem skeleton_upgrade : Xp.Gen.c01SkelUpgrade = skelUpgrade := rfl
theorem skeleton_pt_compose : Xp.Gen.c01SkelPTCompose = skelPTCompose := rfl
theorem skeleton_associate : Xp.Gen.c01SkelAssociate = skelAssociate := rfl
theorem skeleton_render_metadata : Xp.Gen.c01SkelRenderMeta = skelRenderMeta := rfl
theorem skeleton_render_from_json : Xp.Gen.c01SkelRenderFromJSON = skelRenderFromJSON := rfl
/-- the name generator: its calls, its retry bound and the shape of its loop -/
theorem skeleton_generate_name :
    Xp.Gen.c01SkelGenerateName = skelGenerateName ∧ Xp.Gen.c01NameMaxTries = maxTries ∧
    Xp.Gen.c01NameLoop = "for range maxTries" := ⟨rfl, rfl, rfl⟩

/-- **References are persisted before any composed resource is created, and garbage collection runs
before the references are rewritten** — read off the regenerated skeletons themselves (not the
declared ones): in `FunctionComposer.Compose` the first `client.Patch` (the references) comes after
`GarbageCollectComposedResources`/`UpdateResourceRefs` and before the second `client.Patch` (the
apply loop); in `PTComposer.Compose` `client.Update` (the references) precedes the first
`client.Apply`. -/
theorem refs_persisted_before_apply_in_source :
    (Xp.Gen.c01SkelFnCompose.filter fun c => c ∈ ["composite.GenerateName", "composite.GarbageCollectComposedResources", "UpdateResourceRefs", "client.Patch", "client.Status.Patch"]) =
      ["composite.GenerateName", "composite.GarbageCollectComposedResources", "UpdateResourceRefs", "client.Patch", "client.Patch", "client.Status.Patch"] ∧
    (Xp.Gen.c01SkelPTCompose.filter fun c => c ∈ ["composition.AssociateTemplates", "composed.GenerateName", "client.Update", "client.Apply", "client.Create", "client.Patch"]) =
      ["composition.AssociateTemplates", "composed.GenerateName", "client.Update", "client.Apply", "client.Apply"] := by
  decide +kernel

/-! ### the declared skeletons are what the model does

`skel…A` (Model/C01.lean) annotate every skeleton entry with the API calls the mirroring model step
issues on the designated full path. Their first components are the declared skeletons (hence, by
`skeleton_*`, the regenerated ones), and their annotations, concatenated in source order with the
callee skeletons inlined, are exactly the requests the model applies on that path. -/

theorem annotated_skeletons_are_the_declared :
    skelObserveA.map (·.1) = skelObserve ∧ skelGCA.map (·.1) = skelGC ∧ skelGenerateNameA.map (·.1) = skelGenerateName ∧
    skelFnComposeA.map (·.1) = skelFnCompose ∧ skelAssociateA.map (·.1) = skelAssociate ∧
    skelPTComposeA.map (·.1) = skelPTCompose ∧ (∀ c, (skelReconcileA c).map (·.1) = skelReconcile) :=
  ⟨rfl, rfl, rfl, rfl, rfl, rfl, fun _ => rfl⟩

/-- function composer: the calls of the model on its full path = the annotations of
Reconcile ∘ FunctionComposer.Compose ∘ (ObserveComposedResources, GenerateName, GarbageCollect…) -/
theorem model_path_matches_skeleton_fn :
    (applied sem Plan.allOk 0 (reconcileT maxTries pathModeFn) (pathStore "KA")).map reqVerb =
      stepsOf (skelReconcileA (stepsOf skelFnComposeA)) := by
  unfold reconcileT recContT pathModeFn composeFnT
  simp only [refsOf_eq_sortRefs]
  rfl

/-- P&T composer: the same for Reconcile ∘ PTComposer.Compose ∘ (AssociateTemplates, GenerateName) -/
theorem model_path_matches_skeleton_pt :
    (applied sem Plan.allOk 0 (reconcileT maxTries pathModePT) (pathStore "KB")).map reqVerb =
      stepsOf (skelReconcileA (stepsOf skelPTComposeA)) := rfl

/-! ### non-vacuity: the hypotheses are met by non-trivial states and inputs -/

def settledStore : St :=
  { xrFin := true, xrRv := 3,
    refs := [⟨"KA", "xr-abc"⟩, ⟨"KB", "xr-def"⟩],
    objs := [⟨"KB", "xr-def", "b", .xr, true, false, 0, true⟩, ⟨"KA", "xr-abc", "a", .xr, false, false, 1, true⟩] }

example : Settled settledStore [⟨⟨"a", "KA", 1, true⟩, "xr-abc", false⟩, ⟨⟨"b", "KB", 0, false⟩, "xr-def", false⟩] :=
  ⟨.of_nodup_annots (by decide) (by decide) (by decide) (by decide) (by decide), rfl, by decide, by decide, by decide, by decide,
    by decide, by rw [refsOf_eq_sortRefs]; rfl, rfl⟩

/-- two templates of different kinds; the references are in template order (not sorted); the
store also holds a bystander controlled by someone else -/
def settledStorePT : St :=
  { xrFin := true, xrRv := 5,
    refs := [⟨"KB", "xr-def"⟩, ⟨"KA", "xr-abc"⟩],
    objs := [⟨"KA", "xr-abc", "a", .xr, false, false, 1, false⟩, ⟨"KA", "other", "", .other, false, false, 4, false⟩,
      ⟨"KB", "xr-def", "b", .xr, true, false, 0, false⟩] }

def settledTmplPT : List Desired := [⟨"b", "KB", 0, false⟩, ⟨"a", "KA", 1, true⟩]

example : SettledPT settledStorePT settledTmplPT ["xr-def", "xr-abc"] :=
  ⟨rfl, by decide, rfl, by decide, by decide, by decide, by decide, by decide, rfl⟩

/-- the version hypothesis is met too, and the generator's proposals are left untouched -/
example (h : SettledPT settledStorePT settledTmplPT ["xr-def", "xr-abc"]) :
    run sem Plan.allOk 0 (reconcile (.pt settledTmplPT ["xr-new", "xr-new2"] "v1")) settledStorePT =
      (settledStorePT, some .success) :=
  quiescent_pt _ _ _ h _ _ (Or.inr rfl) (by intro r _ h; cases h)

/-- **The P&T composer is not quiescent when a composed resource is missing from the cache.** The
same settled store with `xr-def` missing from the informer cache: AssociateTemplates finds it (live
fallback), but `Apply` reads through the cache only, takes the Create branch, the API server answers
AlreadyExists, and the fault-free reconcile ends in the error epilogue (`handled`: Synced=False is
written to the XR's status) instead of `success`. No composed resource is written. -/
theorem quiescent_pt_needs_cache_witness :
    SettledPT { settledStorePT with miss := [⟨"KB", "xr-def"⟩] } settledTmplPT ["xr-def", "xr-abc"] ∧
    run sem Plan.allOk 0 (reconcile (.pt settledTmplPT [] "v1")) { settledStorePT with miss := [⟨"KB", "xr-def"⟩] } =
      ({ settledStorePT with miss := [⟨"KB", "xr-def"⟩] }, some .handled) ∧
    applied sem Plan.allOk 0 (reconcile (.pt settledTmplPT [] "v1")) { settledStorePT with miss := [⟨"KB", "xr-def"⟩] } =
      [.getXR, .getCached "KB" "xr-def", .getObj "KB" "xr-def", .getCached "KA" "xr-abc",
       .updateXR 5 "v1" [⟨"KB", "xr-def"⟩, ⟨"KA", "xr-abc"⟩],
       .getCached "KB" "xr-def", .create "KB" "xr-def" "b" 0, .statusUpdate (some 5)] :=
  ⟨⟨rfl, by decide, rfl, by decide, by decide, by decide, by decide, by decide, rfl⟩, rfl, rfl⟩

/-- the function composer on its settled store with BOTH composed resources missing from the
cache: every reference is read twice (cache, then live), nothing is written, `success` -/
example : applied sem Plan.allOk 0
      (reconcile (.fn (fun _ => .desired [⟨"a", "KA", 1, true⟩, ⟨"b", "KB", 0, false⟩]) ⟨"v1", [], id, id⟩))
      { settledStore with miss := [⟨"KA", "xr-abc"⟩, ⟨"KB", "xr-def"⟩] } =
    [.getXR, .getCached "KA" "xr-abc", .getObj "KA" "xr-abc", .getCached "KB" "xr-def", .getObj "KB" "xr-def",
     .patchRefs "v1" [⟨"KA", "xr-abc"⟩, ⟨"KB", "xr-def"⟩],
     .apply "KA" "xr-abc" "a" 1, .apply "KB" "xr-def" "b" 0, .statusPatch, .statusUpdate (some 3)] := by
  unfold reconcile composeFn
  simp only [refsOf_eq_sortRefs]
  rfl

/-! ### the hypothesis on generated names is necessary

`xr-x` is the XR's composed resource for "a"; `xr-z` is an unreferenced, uncontrolled left-over that
is missing from the informer cache. Reconcile 1 wants a new resource "c", the generator proposes
`xr-z`, the cache says the name is free, the references `[xr-x, xr-z]` are persisted, and the
process dies. Reconcile 2 (nothing missing from the cache, a really fresh name) observes both
objects under the name "a", keeps the later one, and drops `xr-x` from the references: a leak. -/

def collideStore : St :=
  { xrFin := true, xrRv := 1,
    refs := [⟨"KA", "xr-x"⟩],
    objs := [⟨"KA", "xr-x", "a", .xr, false, false, 1, true⟩, ⟨"KA", "xr-z", "a", .none, false, false, 0, false⟩] }

def collideOut : Obs → FnOut := fun obs =>
  if (obsLookup obs "a").all (·.kind = "KA") ∧ (obsLookup obs "c").all (·.kind = "KA")
  then .desired [⟨"a", "KA", 1, true⟩, ⟨"c", "KA", 0, true⟩] else .failed

def collideHistory : List (List Ref × Plan × Mode) :=
  [([⟨"KA", "xr-z"⟩], Plan.at 3 .crashAfter, .fn collideOut ⟨"v1", ["xr-z"], id, id⟩),
   ([], Plan.allOk, .fn collideOut ⟨"v1", ["xr-n"], id, id⟩)]

theorem collideOut_ok : OutOK collideOut := by
  refine .of_guarded (ds := [⟨"a", "KA", 1, true⟩, ⟨"c", "KA", 0, true⟩]) (by decide) ?_
  intro obs ds h
  unfold collideOut at h
  split at h
  · rename_i hc
    cases h
    exact ⟨rfl, by simpa using hc⟩
  · cases h

/-- **Without `FreshAvoids` NoLeak fails.** Every hypothesis of
`invariant_every_history_every_miss_set` holds of `collideHistory` except that the name generated in
the first reconcile is the name of an object missing from the cache; the history ends in a store
with a live composed resource controlled by the XR that spec.resourceRefs does not list. -/
theorem fresh_names_must_avoid_cache_misses_witness :
    Good collideStore ∧
    (∀ x ∈ collideHistory, match x.2.2 with
      | .fn out ch => OutOK out ∧ ChOK ch
      | .pt tmpl fresh _ => TmplOK tmpl fresh) ∧
    ¬ FreshAvoids [⟨"KA", "xr-z"⟩] ["xr-z"] ∧ FreshAvoids [] ["xr-n"] ∧
    ∃ s' ∈ reachRounds collideHistory collideStore, ∃ o ∈ s'.objs,
      o.ctrl = .xr ∧ o.deleting = false ∧ (⟨o.kind, o.name⟩ : Ref) ∉ s'.refs := by
  refine ⟨?_, ?_, ?_, FreshAvoids.nil _, ?_⟩
  · exact .of_nodup_annots (by decide) (by decide) (by decide) (by decide) (by decide)
  · intro x hx
    simp only [collideHistory, List.mem_cons, List.mem_nil_iff, or_false] at hx
    rcases hx with rfl | rfl
    · exact ⟨collideOut_ok, by decide, fun _ _ => Iff.rfl, fun _ _ => Iff.rfl⟩
    · exact ⟨collideOut_ok, by decide, fun _ _ => Iff.rfl, fun _ _ => Iff.rfl⟩
  · intro h; exact h "xr-z" (by simp) ⟨"KA", "xr-z"⟩ (by simp) rfl
  · refine ⟨_, reachRounds_eq_one _ _ ▸ runRoundsT_mem_reachRoundsT 1 collideHistory collideStore, ?_⟩
    unfold collideHistory
    simp only [runRoundsT]
    unfold reconcileT recContT composeFnT
    simp only [refsOf_eq_sortRefs]
    exact ⟨⟨"KA", "xr-x", "a", .xr, false, false, 1, true⟩, by decide, rfl, rfl, by decide⟩

/-- an XR with one live composed resource `xr-abc` for name "a", one terminating for "b" -/
def exampleStore : St :=
  { xrFin := true, xrRv := 7,
    refs := [⟨"KA", "xr-abc"⟩, ⟨"KB", "xr-def"⟩],
    objs := [⟨"KA", "xr-abc", "a", .xr, false, false, 1, true⟩, ⟨"KB", "xr-def", "b", .xr, true, true, 0, true⟩] }

example : Good exampleStore :=
  .of_nodup_annots (by decide) (by decide) (by decide) (by decide) (by decide)

/-- a pipeline that desires "a" (kept) and a new "c", drops "b" -/
def exampleOut : Obs → FnOut := fun _ => .desired [⟨"a", "KA", 2, true⟩, ⟨"c", "KA", 0, false⟩]

/-- `xr-abc` is missing from the cache; the generated name `xr-new` is not the name of a missed object -/
example : ModeOK [⟨"KA", "xr-abc"⟩] (.fn (fun obs => if (obsLookup obs "a").all (·.kind = "KA") ∧ (obsLookup obs "c").all (·.kind = "KA")
    then exampleOut obs else .failed) ⟨"v1", ["xr-new"], id, id⟩) := by
  refine ⟨.of_guarded (ds := [⟨"a", "KA", 2, true⟩, ⟨"c", "KA", 0, false⟩]) (by decide) ?_,
    ⟨by decide, fun _ _ => Iff.rfl, fun _ _ => Iff.rfl⟩, by unfold FreshAvoids; decide⟩
  intro obs ds h
  split at h
  · rename_i hc
    cases h
    exact ⟨rfl, by simpa using hc⟩
  · cases h

example : ModeOK [⟨"KA", "xr-abc"⟩, ⟨"KB", "xr-def"⟩] (.pt [⟨"a", "KA", 2, true⟩, ⟨"c", "KA", 0, false⟩] ["xr-new"]) :=
  ⟨⟨by decide, by decide⟩, by unfold FreshAvoids; decide⟩

/-- `xr-abc` exists (for "a", kind KA) and the cache shows it; "c" (kind KA) needs a name -/
def retryStore : St :=
  { xrFin := true, xrRv := 2, refs := [⟨"KA", "xr-abc"⟩],
    objs := [⟨"KA", "xr-abc", "a", .xr, false, false, 1, true⟩] }

def retryOut : Obs → FnOut := fun _ => .desired [⟨"a", "KA", 1, true⟩, ⟨"c", "KA", 0, true⟩]

/-- the generator first draws the taken name `xr-abc`, then `xr-new`: with `maxTries` tries the
second candidate is probed and used; the composition succeeds -/
example : applied sem Plan.allOk 0 (reconcileT maxTries (.fn retryOut ⟨"v1", ["xr-abc", "xr-new"], id, id⟩)) retryStore =
    [.getXR, .getCached "KA" "xr-abc", .getCached "KA" "xr-abc", .getCached "KA" "xr-new",
     .patchRefs "v1" [⟨"KA", "xr-abc"⟩, ⟨"KA", "xr-new"⟩],
     .apply "KA" "xr-abc" "a" 1, .apply "KA" "xr-new" "c" 0, .statusPatch, .statusUpdate (some 3)] := by
  unfold reconcileT recContT composeFnT
  simp only [refsOf_eq_sortRefs]
  rfl

/-- with ONE try (`reconcile`) the same inputs end in the error epilogue after the first probe -/
example : applied sem Plan.allOk 0 (reconcile (.fn retryOut ⟨"v1", ["xr-abc", "xr-new"], id, id⟩)) retryStore =
    [.getXR, .getCached "KA" "xr-abc", .getCached "KA" "xr-abc", .statusUpdate (some 2)] :=
  rfl

/-- the hypotheses of the retry theorems are met by this store and these inputs -/
example : Good retryStore ∧ probePure retryStore "KA" maxTries ["xr-abc", "xr-new"] = (.name "xr-new", []) :=
  ⟨.of_nodup_annots (by decide) (by decide) (by decide) (by decide) (by decide), by decide⟩

/-- eleven taken candidates: the generator gives up after ten probes -/
example : (probePure retryStore "KA" maxTries (List.replicate 11 "xr-abc")).1 = .gaveUp ∧
    (probePure retryStore "KA" maxTries (List.replicate 11 "xr-abc")).2 = ["xr-abc"] := by decide

end Xp.C01
