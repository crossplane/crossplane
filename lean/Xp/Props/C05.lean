import Xp.Proofs.C05Compose
import Xp.Proofs.C05Del
/-
C05 (Ready and Synced never overstate; functions cannot forge them): the theorems, with the notions
only their statements need (`readyAt`, `lastClean`, `FnStep.mayReady`, ...); the examples at the end
show that their hypotheses can be met.
-/
namespace Xp.C05

/-! ### the status written after Compose returned -/

/-- Ready=True after a successful reconcile iff the pipeline marked the XR ready, or
did not mark it unready and every desired composed resource is ready. -/
theorem ready_true_iff (old : St) (composed : List Res) (explicit : Option Bool) (fn : List FnCond) (st : St)
    (h : reconcile old composed explicit fn .none = some st) :
    statusOf st.conds "Ready" = some "True" ↔
      (explicit = some true ∨ (explicit = none ∧ ∀ r ∈ composed, r.ready = true)) := by
  obtain rfl : composeOk old composed explicit fn = st := Option.some.inj h
  exact composeOk_ready_true_iff _ _ _ _

/-- Synced=True after a successful reconcile iff every desired composed resource was
rendered and applied successfully (none unsynced). -/
theorem synced_true_iff (old : St) (composed : List Res) (explicit : Option Bool) (fn : List FnCond) (st : St)
    (h : reconcile old composed explicit fn .none = some st) :
    statusOf st.conds "Synced" = some "True" ↔ ∀ r ∈ composed, r.synced = true := by
  obtain rfl : composeOk old composed explicit fn = st := Option.some.inj h
  exact composeOk_synced_true_iff _ _ _ _

/-- Functions cannot forge Ready/Synced: whatever conditions they return, the system
conditions are those of a run in which they returned none. -/
theorem no_forge (old : St) (composed : List Res) (explicit : Option Bool) (fn : List FnCond) (t : String)
    (ht : t = "Ready" ∨ t = "Synced") :
    (reconcile old composed explicit fn .none).map (fun st => statusOf st.conds t) =
    (reconcile old composed explicit [] .none).map (fun st => statusOf st.conds t) := by
  exact congrArg (fun c => some (c.map (·.status))) (findC_composeOk_system t ht old old composed explicit fn [])

/-- A failing reconcile never reports Ready=True on its own account (Ready is left as
it was) and always reports Synced=False; a conflict writes nothing at all. Function
conditions cannot change that either. -/
theorem error_never_overstates (old : St) (composed : List Res) (explicit : Option Bool) (fn : List FnCond) (e : Err)
    (he : e ≠ .none) :
    match reconcile old composed explicit fn e with
    | none => e = .conflict
    | some st => statusOf st.conds "Ready" = statusOf old.conds "Ready" ∧ statusOf st.conds "Synced" = some "False" := by
  have fatal : statusOf (composeError old fn).conds "Ready" = statusOf old.conds "Ready" ∧
      statusOf (composeError old fn).conds "Synced" = some "False" :=
    ⟨by rw [statusOf_eq, statusOf_eq, findC_composeError_ready], composeError_synced_false old fn⟩
  cases e with
  | none => exact absurd rfl he
  | conflict => exact rfl
  | generic => exact fatal
  | invalid => exact fatal

/-- The claim is reported Ready=True only when the XR it observed was Ready=True. -/
theorem claim_ready_only_if_xr_ready (xr : Option String) :
    (claimReady xr).status = "True" → xr = some "True" := by
  unfold claimReady
  split
  · intro _; assumption
  · intro h; simp at h

/-- End to end for the claim reconcile: whatever the claim's previous conditions, whatever
conditions the XR carries and whatever condition types the XR asks to copy to the claim
(even a forged "Ready" entry in status.claimConditionTypes), the claim ends Ready=True iff
the XR it observed is Ready=True. -/
theorem claim_ready_iff (old xrConds : List Cond) (claimTypes : List String) :
    statusOf (claimReconcile old xrConds claimTypes) "Ready" = some "True" ↔ statusOf xrConds "Ready" = some "True" := by
  unfold claimReconcile
  have ht : (claimReady (statusOf xrConds "Ready")).type = "Ready" := by unfold claimReady; split <;> rfl
  have := statusOf_setCond_self
    (claimTypes.foldl (fun acc t => setCond acc (getCond xrConds t)) (setCond old reconcileSuccess))
    (claimReady (statusOf xrConds "Ready"))
  rw [ht] at this
  rw [this, Option.some.injEq]
  exact ⟨claim_ready_only_if_xr_ready _, fun h => by rw [h]; rfl⟩

/-! ### one reconcile in full: every phase, every error class, lost writes -/

/-- `reconcile` is the special case of a Compose failure (or none) with an effective status write. -/
theorem reconcile_eq_call (old : St) (composed : List Res) (explicit : Option Bool) (fn : List FnCond) (e : Err) :
    reconcile old composed explicit fn e =
      reconcileCall old ⟨false, composed, explicit, fn,
        (match e with | .none => none | .generic => some (.compose, .generic)
                      | .invalid => some (.compose, .invalid) | .conflict => some (.compose, .conflict)), false⟩ := by
  cases e <;> rfl

theorem call_clean_eq (old : St) (c : Call) (h : c.clean) :
    reconcileCall old c = some (composeOk old c.composed c.explicit c.fn) := by
  obtain ⟨hw, hp, hf⟩ := c.clean_iff.mp h
  rw [reconcileCall_store, hw, Call.store, hp, hf]
  rfl

/-- A reconcile that completes reports Ready=True iff the pipeline marked the XR ready, or did
not mark it unready and every desired composed resource is ready - whatever was stored before and
whatever conditions the functions returned. -/
theorem call_ready_true_iff (old : St) (c : Call) (hc : c.clean) (st : St) (h : reconcileCall old c = some st) :
    statusOf st.conds "Ready" = some "True" ↔ c.mayReady := by
  rw [call_clean_eq old c hc, Option.some.injEq] at h
  subst h
  exact composeOk_ready_true_iff _ _ _ _

/-- A reconcile that completes reports Synced=True iff every desired composed resource was rendered
and applied successfully in that reconcile. -/
theorem call_synced_true_iff (old : St) (c : Call) (hc : c.clean) (st : St) (h : reconcileCall old c = some st) :
    statusOf st.conds "Synced" = some "True" ↔ c.allSynced := by
  rw [call_clean_eq old c hc, Option.some.injEq] at h
  subst h
  exact composeOk_synced_true_iff _ _ _ _

/-- A reconcile that does not complete - paused, or failing in ANY phase with ANY error class -
either writes nothing or leaves Ready as it was and reports Synced=False. -/
theorem call_failing_never_overstates (old : St) (c : Call) (hc : c.paused = true ∨ c.fault ≠ none) (st : St)
    (h : reconcileCall old c = some st) :
    statusOf st.conds "Ready" = statusOf old.conds "Ready" ∧ statusOf st.conds "Synced" = some "False" := by
  have hnc : ¬ c.clean := fun ⟨_, hp, hf⟩ => hc.elim (fun h => by rw [hp] at h; cases h) (fun h => h hf)
  rw [reconcileCall_eq_callOn old] at h
  cases hw : c.writes <;> rw [hw] at h <;> cases h
  rw [statusOf_eq, statusOf_eq, statusOf_eq, callOn_ready, callOn_synced, if_neg hnc, ite_self, hw, if_pos rfl, if_neg hnc]
  exact ⟨rfl, by cases c.paused <;> rfl⟩

/-- Functions cannot forge: the WHOLE stored Ready and Synced conditions (status and reason) after
any reconcile - completing, paused, failing in any phase with any error class - are those of the
same reconcile with the function conditions removed. -/
theorem call_no_forge (old : St) (c : Call) (t : String) (ht : t = "Ready" ∨ t = "Synced") :
    (reconcileCall old c).map (fun st => findC st.conds t) =
    (reconcileCall old { c with fn := [] }).map (fun st => findC st.conds t) := by
  rw [reconcileCall_eq_callOn old old c, reconcileCall_eq_callOn old old { c with fn := [] },
    show ({ c with fn := [] } : Call).writes = c.writes from rfl]
  cases c.writes
  · -- `rfl` would have the kernel compare the two untaken branches first
    rw [if_neg Bool.false_ne_true, if_neg Bool.false_ne_true]
  · rw [if_pos rfl, if_pos rfl]
    exact congrArg some (callOn_system_congr c t ht old old old old [] rfl fun _ => rfl)

/-- Custom conditions not re-asserted because of a fatal Compose error become Unknown (reason
FatalError): every non-system condition the XR carried for which the functions returned no
condition before the failure. -/
theorem unknown_on_fatal (old : St) (fn : List FnCond) (c : Cond) (hc : c ∈ old.conds)
    (hs : isSystem c.type = false) (hn : lastFn fn c.type = none) :
    findC (composeError old fn).conds c.type = some ⟨c.type, "Unknown", "FatalError"⟩ := by
  rw [findC_composeError, hn]
  exact if_pos ⟨hs, findC_isSome_of_mem _ _ hc⟩

/-- ... and the custom conditions the functions did return before the fatal error keep the
functions' (last) value. -/
theorem reasserted_on_fatal (old : St) (fn : List FnCond) (t : String) (f : Cond) (hl : lastFn fn t = some f) :
    findC (composeError old fn).conds t = some f := by
  rw [findC_composeError, hl]
  rfl

/-- Functions never get a system condition type into status.claimConditionTypes (from where the
claim reconciler copies conditions to the claim), whatever a reconcile does. -/
theorem claim_types_never_system (old : St) (c : Call) (st : St) (h : reconcileCall old c = some st)
    (hold : ∀ t ∈ old.claimTypes, isSystem t = false) : ∀ t ∈ st.claimTypes, isSystem t = false := by
  rw [reconcileCall_store] at h
  cases hw : c.writes <;> rw [hw] at h <;> cases h
  exact fun t ht => (store_claimTypes c old t ht).elim (hold t) id

/-! ### sequences: one long-lived reconciler, several XRs, any interleaving -/

def readyAt (sts : List St) (x : Nat) : Prop := ∃ st, sts[x]? = some st ∧ statusOf st.conds "Ready" = some "True"
def syncedAt (sts : List St) (x : Nat) : Prop := ∃ st, sts[x]? = some st ∧ statusOf st.conds "Synced" = some "True"

/-- the last reconcile of XR `x` in the sequence that completed -/
def lastClean : List Step → Nat → Option Call
  | [], _ => none
  | s :: ss, x =>
    match lastClean ss x with
    | some c => some c
    | none => if s.xr = x ∧ s.call.clean then some s.call else none

/-- the last reconcile of XR `x` in the sequence whose status write took effect -/
def lastWrite : List Step → Nat → Option Call
  | [], _ => none
  | s :: ss, x =>
    match lastWrite ss x with
    | some c => some c
    | none => if s.xr = x ∧ s.call.writes = true then some s.call else none

/-- Isolation: reconciling one XR never changes what is stored for another, however many
reconciles of however many XRs the (long-lived) reconciler has served before. -/
theorem seq_isolation (sts : List St) (s : Step) (j : Nat) (hj : j ≠ s.xr) : (stepSeq sts s).1[j]? = sts[j]? := by
  rw [stepSeq_getElem?]
  simp only [if_neg (Ne.symm hj), Option.map_id']

/-- Over ANY sequence of reconciles of any number of XRs (completing, paused, failing in any phase
with any error class, losing their status write, interleaved in any order), an XR is stored
Ready=True at the end iff its last COMPLETED reconcile had the pipeline mark the XR ready, or not
mark it unready with every desired composed resource ready - or, if none completed, it was
Ready=True to begin with. Nothing else in the history matters. -/
theorem seq_ready_reflects_last_completed (sts : List St) (steps : List Step) (x : Nat) (hx : x < sts.length) :
    readyAt (runSeq sts steps) x ↔
      match lastClean steps x with
      | some c => c.mayReady
      | none => readyAt sts x :=
  runSeq_reflects_last (fun old c => by rw [callOn_ready_true_iff, ite_self]) (fun _ => rfl) (fun _ _ _ => rfl) sts steps x hx

/-- ... and it is stored Synced=True at the end iff the last reconcile whose status write took
effect completed and had every desired composed resource rendered and applied - or, if no write
took effect, it was Synced=True to begin with. -/
theorem seq_synced_reflects_last_write (sts : List St) (steps : List Step) (x : Nat) (hx : x < sts.length) :
    syncedAt (runSeq sts steps) x ↔
      match lastWrite steps x with
      | some c => c.clean ∧ c.allSynced
      | none => syncedAt sts x :=
  runSeq_reflects_last (fun old c => callOn_synced_true_iff old old c) (fun _ => rfl) (fun _ _ _ => rfl) sts steps x hx

/-! ### production of the outcomes by the function pipeline (real FunctionComposer) -/

/-- the desired state of `s` lets the XR be ready -/
def FnStep.mayReady (s : FnStep) : Prop :=
  s.xrReady = some true ∨ (s.xrReady = none ∧ ∀ x ∈ s.res, x.ready = some true)

/-- A pipeline completes iff no step fails or returns a FATAL result; its conditions are those of
all steps in order and its desired state is the LAST step's. -/
theorem runPipe_ok_iff (steps : List FnStep) (acc : List FnCond) (l : Option FnStep) (conds : List FnCond) (last : Option FnStep) :
    runPipe steps acc l = .ok conds last ↔
      (∀ s ∈ steps, s.err = false ∧ s.fatal = false) ∧ conds = acc ++ steps.flatMap (·.conds) ∧
      last = (match steps.getLast? with | some s => some s | none => l) := by
  fun_induction runPipe steps acc l with
  | case1 =>
    constructor
    · intro h
      cases h
      exact ⟨nofun, (List.append_nil _).symm, rfl⟩
    · rintro ⟨_, rfl, rfl⟩
      simp
  | case2 s ss acc l he => simp [he]                       -- a runner error
  | case3 s ss acc l he hf => simp [hf]                    -- a FATAL result
  | case4 s ss acc l he hf ih =>
    rw [ih, List.getLast?_cons]
    simp only [List.mem_cons, forall_eq_or_imp, he, hf, and_self, true_and, List.flatMap_cons, List.append_assoc]
    cases ss.getLast? <;> rfl

/-- The real pipeline, end to end: a reconcile whose pipeline completes, whose connection details
are published and whose final status update takes effect reports Ready=True iff the LAST step's
desired state marks the XR ready, or does not mark it unready and marks every desired resource
READY_TRUE - whatever conditions any step returned, in the response or in the desired XR status. -/
theorem fn_ready_true_iff (old : St) (r : FnRec) (conds : List FnCond) (last : FnStep)
    (hp : runPipe r.steps [] none = .ok conds (some last)) (hpub : r.publish = none) (hl : r.lost = false) :
    statusOf (fnReconcile old r).1.conds "Ready" = some "True" ↔ last.mayReady := by
  rw [fnReconcile_completed old r conds (some last) hp hpub hl]
  refine (composeOk_ready_true_iff _ _ _ _).trans (or_congr Iff.rfl (and_congr Iff.rfl ?_))
  simp [composedOf]

/-- ... and Synced=True iff the API server accepted the apply of every desired resource. -/
theorem fn_synced_true_iff (old : St) (r : FnRec) (conds : List FnCond) (last : FnStep)
    (hp : runPipe r.steps [] none = .ok conds (some last)) (hpub : r.publish = none) (hl : r.lost = false) :
    statusOf (fnReconcile old r).1.conds "Synced" = some "True" ↔ ∀ x ∈ last.res, x.invalid = false := by
  rw [fnReconcile_completed old r conds (some last) hp hpub hl]
  refine (composeOk_synced_true_iff _ _ _ _).trans ?_
  simp [composedOf]

/-- Functions cannot forge, across the REAL pipeline and through BOTH channels: the whole stored
Ready and Synced conditions after any reconcile (completing, FATAL, runner error, publish error of
any class, lost status update) are those of the same reconcile with every condition the functions
returned in their responses and every condition they placed in the desired XR's status removed. -/
theorem fn_no_forge (old : St) (r : FnRec) (t : String) (ht : t = "Ready" ∨ t = "Synced") :
    findC (fnReconcile old r).1.conds t = findC (fnReconcile old r.strip).1.conds t := by
  have hsys : isSystem t = true := ht.elim (· ▸ ready_isSystem) (· ▸ synced_isSystem)
  -- stripping takes the function conditions off the call; the desired status never reaches a system type
  have hm : findC (r.mem old).conds t = findC (r.strip.mem old).conds t :=
    (r.mem_system old t hsys).trans (r.strip.mem_system old t hsys).symm
  rw [fnReconcile_eq_callOn, fnReconcile_eq_callOn, r.strip_call]
  exact callOn_system_congr _ t ht _ _ _ _ [] hm fun e => e ▸ hm

/-- Whatever the functions return and whatever they put into the desired XR's status, an XR is
Ready=True after a reconcile only if it was so before, or the reconcile completed and the last
step's desired state lets the XR be ready. (A pipeline has at least one step.) -/
theorem fn_ready_only_if (old : St) (r : FnRec) (hne : r.steps ≠ [])
    (h : statusOf (fnReconcile old r).1.conds "Ready" = some "True") :
    statusOf old.conds "Ready" = some "True" ∨
      ∃ conds last, runPipe r.steps [] none = .ok conds (some last) ∧ r.publish = none ∧ r.lost = false ∧ last.mayReady := by
  by_cases hc : r.call.clean
  · obtain ⟨conds, z, hp, hpub, hl⟩ := r.call_clean hne hc
    exact Or.inr ⟨conds, z, hp, hpub, hl, (fn_ready_true_iff old r conds z hp hpub hl).mp h⟩
  · rw [statusOf_eq, fnReconcile_eq_callOn, callOn_ready, if_neg hc, ite_self, r.mem_system old "Ready" ready_isSystem] at h
    exact Or.inl h

/-- ... and Synced=True only if it was so before (and nothing was written), or the reconcile
completed and the API server accepted the apply of every desired resource of the last step. -/
theorem fn_synced_only_if (old : St) (r : FnRec) (hne : r.steps ≠ [])
    (h : statusOf (fnReconcile old r).1.conds "Synced" = some "True") :
    (statusOf old.conds "Synced" = some "True" ∧ (fnReconcile old r).2 = false) ∨
      ∃ conds last, runPipe r.steps [] none = .ok conds (some last) ∧ r.publish = none ∧ r.lost = false ∧
        ∀ x ∈ last.res, x.invalid = false := by
  by_cases hc : r.call.clean
  · obtain ⟨conds, z, hp, hpub, hl⟩ := r.call_clean hne hc
    exact Or.inr ⟨conds, z, hp, hpub, hl, (fn_synced_true_iff old r conds z hp hpub hl).mp h⟩
  · rw [fnReconcile_eq_callOn] at h ⊢
    rw [callOn_synced_true_iff] at h
    rw [callOn_writes]
    cases hw : r.call.writes <;> rw [hw] at h
    · rw [if_neg nofun, statusOf_eq, r.mem_system old "Synced" synced_isSystem] at h
      exact Or.inl ⟨h, rfl⟩
    · rw [if_pos rfl] at h
      exact absurd h.1 hc

/-! ### the claim reconcile in full: both syncers, cache lag and misses, interference, every error class -/

theorem getCond_type (cs : List Cond) (t : String) : (getCond cs t).type = t := by
  unfold getCond
  cases hf : cs.find? (·.type = t) with
  | none => rfl
  | some x => simpa using List.find?_some hf

/-- copying the listed XR conditions leaves the claim's Ready as it was, or makes it the XR's -/
theorem statusOf_copy_ready (v : XRView) (base : List Cond) (types : List String) :
    statusOf (types.foldl (fun acc t => setCond acc (getCond v.conds t)) base) "Ready" = statusOf base "Ready" ∨
    statusOf (types.foldl (fun acc t => setCond acc (getCond v.conds t)) base) "Ready" = some (getCond v.conds "Ready").status := by
  induction types generalizing base with
  | nil => exact Or.inl rfl
  | cons t ts ih =>
    simp only [List.foldl_cons]
    rcases ih (setCond base (getCond v.conds t)) with h | h
    · by_cases e : t = "Ready"
      · subst e
        have := statusOf_setCond_self base (getCond v.conds "Ready")
        rw [getCond_type] at this
        right; rw [h, this]
      · left; rw [h, statusOf_setCond_ne _ _ _ (by rw [getCond_type]; exact fun h => e h.symm)]
    · exact Or.inr h

theorem getCond_ready_status (cs : List Cond) (h : statusOf cs "Ready" = some "True") : (getCond cs "Ready").status = "True" := by
  unfold statusOf at h
  unfold getCond
  cases hf : cs.find? (·.type = "Ready") with
  | none => simp [hf] at h
  | some x => simpa [hf] using h

theorem claimPath_ready_exits (xr : XRObj) (c : ClaimCall)
    (h : claimPath xr c = .available ∨ claimPath xr c = .propagateFailed) :
    statusOf (c.decides xr).conds "Ready" = some "True" ∧ xr.present = true ∧ (c.sees xr && c.foreign xr) = false := by
  have key : statusOf (c.decides xr).conds "Ready" = some "True" ∧ (c.sees xr && c.foreign xr) = false := by
    revert h
    fun_cases claimPath xr c
    -- the two ready exits (PropagateConnection failing or not) come with the tests passed before them
    case case8 | case9 => exact fun _ => ⟨by assumption, (Bool.not_eq_true _).mp (by assumption)⟩
    all_goals exact fun h => h.elim nofun nofun
  refine ⟨key.1, ?_, key.2⟩
  -- an XR that does not exist is seen with no condition at all
  cases hp : xr.present
  · have := key.1
    rw [ClaimCall.decides, hp] at this
    cases this
  · rfl

/-- A claim reconcile - either syncer, whatever the cache served or missed, whatever the XR
controller wrote meanwhile, whichever API call failed with whichever error class - stores
Ready=True only if the claim was Ready=True already, or the XR exists, is not bound to another
claim (all four components of the reference compared) and was Ready=True AS STORED WHEN THE
SYNCER'S WRITE RETURNED. -/
theorem claimCall_ready_true_only_if (old : List Cond) (xr : XRObj) (c : ClaimCall) (cs : List Cond)
    (h : claimCall old xr c = some cs) (hr : statusOf cs "Ready" = some "True") :
    statusOf old "Ready" = some "True" ∨
      (statusOf (c.decides xr).conds "Ready" = some "True" ∧ xr.present = true ∧ (c.sees xr && c.foreign xr) = false) := by
  unfold claimCall at h
  split at h
  · cases h
  · cases hp : claimPath xr c <;> rw [hp] at h
    case available => exact Or.inr (claimPath_ready_exits xr c (Or.inl hp))
    case propagateFailed => exact Or.inr (claimPath_ready_exits xr c (Or.inr hp))
    case nothing => cases h
    case waiting =>
      cases h
      rw [statusOf_setCond_self (copied old (c.decides xr)) ⟨"Ready", "False", "Waiting"⟩] at hr
      exact absurd (Option.some.inj hr) status_false_ne_true
    all_goals
      cases h
      exact Or.inl ((statusOf_setCond_ne _ _ _ ready_ne_synced).symm.trans hr)

/-- On the path where nothing fails, the full model is the per-reconcile model `claimReconcile` run
on the view stored when the syncer's write returned: hence (claim_ready_iff) the claim is
Ready=True iff THAT view is - the XR controller's latest word wins over what the reconciler read
earlier, and the lagging cache never decides. -/
theorem claimCall_completing (old : List Cond) (xr : XRObj) (c : ClaimCall)
    (hf : c.fault = none) (hp : c.paused = false) (hb : (c.sees xr && c.foreign xr) = false) (hc : c.csaConflict xr = false) :
    claimCall old xr c = some (claimReconcile old (c.decides xr).conds (c.decides xr).claimTypes) := by
  unfold claimCall claimPath ClaimCall.syncFault
  simp only [hf, hp, hb, hc, Bool.false_eq_true, if_false]
  unfold claimReconcile claimReady
  split <;> rfl

theorem claimCall_completing_ready_iff (old : List Cond) (xr : XRObj) (c : ClaimCall) (cs : List Cond)
    (hf : c.fault = none) (hp : c.paused = false) (hb : (c.sees xr && c.foreign xr) = false) (hc : c.csaConflict xr = false)
    (h : claimCall old xr c = some cs) :
    statusOf cs "Ready" = some "True" ↔ statusOf (c.decides xr).conds "Ready" = some "True" := by
  rw [claimCall_completing old xr c hf hp hb hc, Option.some.injEq] at h
  subst h
  exact claim_ready_iff _ _ _

/-- A client-side sync based on a version of the XR that is no longer the stored one (served by a
lagging cache, or overtaken by the XR controller) never reaches a verdict: nothing is written. -/
theorem claimCall_csa_conflict_writes_nothing (old : List Cond) (xr : XRObj) (c : ClaimCall)
    (hc : c.csaConflict xr = true) (hp : c.paused = false) (hf : c.fault = none) (hb : (c.sees xr && c.foreign xr) = false) :
    claimCall old xr c = none := by
  unfold claimCall claimPath ClaimCall.syncFault
  simp [hf, hp, hb, hc, pathConds]

/-- Isolation on the claim side: a reconcile of one claim never changes the stored conditions of
another, whatever the long-lived reconciler served before. -/
theorem cstep_other_claims_unchanged (w : CWorld) (s : CStep) (j : Nat) (hj : j ≠ s.claim) :
    (cstep w s).1.claims[j]? = w.claims[j]? := by
  unfold cstep
  split
  · simp only []
    split
    · exact List.getElem?_set_ne (Ne.symm hj)
    · rfl
  · rfl

/-! ### when a composed resource counts as ready (P&T readiness checks) -/

/-- A composed resource with readiness checks counts as ready iff EVERY ONE of its checks holds
(no check is invalid, points at a field of the wrong type, or is unmet) - however many checks
there are and in whatever order. -/
theorem checksHold_true_iff (o : RObj) (cs : List RCheck) :
    checksHold o cs = some true ↔ ∀ c ∈ cs, evalCheck o c = some true := by
  -- `checksHold` goes on past a check only if it is `some true`; `none` and `some false` are returned at once
  fun_induction checksHold o cs <;> simp_all

theorem isReady_true_iff (o : RObj) (cs : List RCheck) :
    isReady o cs = some true ↔
      (cs = [] ∧ statusOf o.conds "Ready" = some "True") ∨ (cs ≠ [] ∧ ∀ c ∈ cs, evalCheck o c = some true) := by
  unfold isReady
  cases cs with
  | nil => simp
  | cons c rest =>
    simp only [List.isEmpty_cons, Bool.false_eq_true, if_false]
    rw [checksHold_true_iff]
    simp

/-! ### production of the outcomes by the P&T composer -/

/-- what the third loop of Compose reports: every resource Synced iff every template was rendered
and its apply accepted; every resource Ready iff, in addition, its readiness checks hold -/
theorem ptObserve_all (rs : List PTRes) (composed : List Res) (h : ptObserve rs = some composed) :
    ((∀ c ∈ composed, c.synced = true) ↔ ∀ x ∈ rs, x.observed = true) ∧
    ((∀ c ∈ composed, c.ready = true) ↔ ∀ x ∈ rs, x.observed = true ∧ isReady x.obj x.checks = some true) := by
  rw [ptObserve_eq_map rs composed h]
  simp

instance (r : PTRec) (composed : List Res) : Decidable (r.completes composed) := by
  unfold PTRec.completes; infer_instance

theorem pt_completes_eq (old : St) (r : PTRec) (composed : List Res) (h : r.completes composed) :
    ptReconcile old r = (composeOk (r.patched old) composed none [], true) := by
  obtain ⟨h1, h2, h3, h4, h5⟩ := h
  simp [ptReconcile, h1, h2, h3, h4, h5]

/-- The real P&T composer, end to end: a reconcile that completes reports Ready=True iff EVERY
template was rendered, its apply was accepted by the API server and every one of its readiness
checks holds on the applied resource - whatever a ToCompositeFieldPath patch wrote into the XR's
status.conditions. -/
theorem pt_ready_true_iff (old : St) (r : PTRec) (composed : List Res) (h : r.completes composed) :
    statusOf (ptReconcile old r).1.conds "Ready" = some "True" ↔
      ∀ x ∈ r.effRes, x.rendered = true ∧ x.invalid = false ∧ isReady x.obj x.checks = some true := by
  rw [pt_completes_eq old r composed h, composeOk_ready_true_iff, (ptObserve_all _ _ h.2.1).2]
  simp [PTRes.observed, and_assoc]

/-- ... and Synced=True iff every template was rendered and no apply was rejected. -/
theorem pt_synced_true_iff (old : St) (r : PTRec) (composed : List Res) (h : r.completes composed) :
    statusOf (ptReconcile old r).1.conds "Synced" = some "True" ↔
      ∀ x ∈ r.effRes, x.rendered = true ∧ x.invalid = false := by
  rw [pt_completes_eq old r composed h, composeOk_synced_true_iff, (ptObserve_all _ _ h.2.1).1]
  simp [PTRes.observed]

/-- Which field paths a P&T patch reaches: a ToCompositeFieldPath patch onto
status.conditions[k].status / .reason changes that one field of that one EXISTING entry - it adds
no condition, removes none, renames none, and leaves every other entry alone. -/
theorem patchAt_reach (cs : List Cond) (k : Nat) (f : CField) (v : String) :
    (patchAt cs k f v).map (·.type) = cs.map (·.type) ∧
    (∀ j, j ≠ k → (patchAt cs k f v)[j]? = cs[j]?) ∧
    (∀ c, (patchAt cs k f v)[k]? = some c → ∃ c0, cs[k]? = some c0 ∧ c.type = c0.type ∧
      (f = .status → c.reason = c0.reason) ∧ (f = .reason → c.status = c0.status)) := by
  unfold patchAt
  cases hk : cs[k]? with
  | none => simp [hk]
  | some c0 =>
    have hlt := (List.getElem?_eq_some_iff.mp hk).1
    refine ⟨?_, fun j hj => List.getElem?_set_ne (Ne.symm hj), fun c hc => ?_⟩
    · apply List.ext_getElem?
      intro i
      rw [List.getElem?_map, List.getElem?_map]
      by_cases hi : i = k
      · subst hi
        rw [List.getElem?_set_self hlt, hk]
        cases f <;> rfl
      · rw [List.getElem?_set_ne (Ne.symm hi)]
    · simp only [List.getElem?_set_self hlt, Option.some.injEq] at hc
      subst hc
      exact ⟨c0, rfl, by cases f <;> simp⟩

/-- The system condition Synced is re-asserted on every path that reaches a status update: whatever
the patch wrote into the XR held in memory, the stored Synced condition (status and reason) after
ANY P&T reconcile - completing, failing anywhere with any class, losing its update - is that of the
same reconcile without the patch. -/
theorem pt_synced_patch_independent (old : St) (r : PTRec) :
    findC (ptReconcile old r).1.conds "Synced" = findC (ptReconcile old { r with patch := none }).1.conds "Synced" := by
  -- the two reconciles amount to the same call on XRs that differ in memory only
  rw [ptReconcile_eq_callOn, ptReconcile_eq_callOn]
  exact callOn_system_congr r.call "Synced" (Or.inr rfl) _ _ _ _ r.call.fn rfl fun h => absurd h.symm ready_ne_synced

/-- ... and so is Ready on the path that completes: the stored Ready condition is the one derived
from the resources, whatever the patch wrote. -/
theorem pt_ready_patch_independent_on_completion (old : St) (r : PTRec) (composed : List Res) (h : r.completes composed) :
    findC (ptReconcile old r).1.conds "Ready" = some (readyCond composed none) := by
  rw [pt_completes_eq old r composed h, findC_composeOk_ready]

/-- The precise extent of D26. A P&T reconcile that does NOT complete never derives Ready: the
stored Ready condition is the one of the XR as held in memory when the reconcile gave up - the
previously stored one, except for what the patch wrote into it (`PTRec.patched`: only when the first
template was rendered, applied and observed, and Compose did not fail before that). -/
theorem pt_failing_ready_is_memory (old : St) (r : PTRec) (hf : ∀ composed, ¬ r.completes composed) :
    findC (ptReconcile old r).1.conds "Ready" = findC old.conds "Ready" ∨
    ((ptReconcile old r).2 = true ∧ r.early = none ∧
      findC (ptReconcile old r).1.conds "Ready" = findC (r.patched old).conds "Ready") := by
  have hc : ¬ r.call.clean := fun hc => (r.call_clean hc).elim hf
  rw [ptReconcile_eq_callOn, callOn_ready, callOn_writes, if_neg hc]
  cases r.call.writes
  · exact Or.inl (if_neg nofun)
  · rw [if_pos rfl]
    rcases r.mem_cases old with hm | ⟨he, hm⟩
    · exact Or.inl (by rw [hm])
    · exact Or.inr ⟨rfl, he, by rw [hm]⟩

/-- Without such a patch a P&T reconcile that does not complete leaves Ready as it was. -/
theorem pt_failing_keeps_ready (old : St) (r : PTRec) (hp : r.patch = none) (hf : ∀ composed, ¬ r.completes composed) :
    statusOf (ptReconcile old r).1.conds "Ready" = statusOf old.conds "Ready" := by
  have hpatched : r.patched old = old := by unfold PTRec.patched; rw [hp]
  rw [statusOf_eq, statusOf_eq]
  rcases pt_failing_ready_is_memory old r hf with h | h
  · rw [h]
  · rw [h.2.2, hpatched]

/-- A P&T reconcile whose Compose fails (a failing call of any non-conflict class, or a readiness
check that cannot be run) and whose status update takes effect reports Synced=False; what it stores is
`composeError mem []`, so every custom condition turns Unknown (`unknown_on_fatal`: P&T has no
functions to re-assert them). -/
theorem pt_compose_failure_synced_false (old mem : St) (e : EC) (he : e ≠ .conflict) :
    (composeFail old mem e false).2 = true ∧
    statusOf (composeFail old mem e false).1.conds "Synced" = some "False" := by
  have : (e == EC.conflict) = false := by cases e <;> first | rfl | exact absurd rfl he
  unfold composeFail
  simp only [this, Bool.or_false, Bool.false_eq_true, if_false, true_and]
  exact composeError_synced_false mem []

/-- The unchanged code lets a composition set a system condition through the XR's status: the model of
the existing P&T path on a concrete witness - a ToCompositeFieldPath patch onto
status.conditions[0].status (the stored Ready=False), the only desired resource NOT ready,
PublishConnection failing - stores Ready=True after the reconcile (monitor
`C05:system-condition-set-via-xr-status-patch`, corpus/C05/pt-status-conditions-patch.jsonl). -/
theorem system_condition_via_xr_status_patch_fails_on_unfixed_witness :
    statusOf (ptReconcile ⟨[⟨"Ready", "False", "Creating"⟩], []⟩
      ⟨[⟨"a", true, false, ⟨.absent, .absent, .absent, []⟩, [⟨"NonEmpty", "status.s", "", 0, false, "", ""⟩]⟩],
       some (0, .status, "True"), none, some .generic, false⟩).1.conds "Ready" = some "True" := by
  decide +kernel

/-- ... and the same through the OTHER exits that store the XR held in memory without deriving
Ready: Compose failing after the patch was rendered - here the final Apply of the XR (any
non-conflict class), or a readiness check of a later template that cannot be run. -/
theorem system_condition_via_xr_status_patch_on_compose_failure_witness :
    statusOf (ptReconcile ⟨[⟨"Ready", "False", "Creating"⟩], []⟩
      ⟨[⟨"a", true, false, ⟨.absent, .absent, .absent, []⟩, [⟨"NonEmpty", "status.s", "", 0, false, "", ""⟩]⟩],
       some (0, .status, "True"), some (.xrApply, .forbidden), none, false⟩).1.conds "Ready" = some "True" ∧
    statusOf (ptReconcile ⟨[⟨"Ready", "False", "Creating"⟩], []⟩
      ⟨[⟨"a", true, false, ⟨.absent, .absent, .absent, []⟩, [⟨"None", "", "", 0, false, "", ""⟩]⟩,
        ⟨"b", true, false, ⟨.absent, .absent, .absent, []⟩, [⟨"Bogus", "", "", 0, false, "", ""⟩]⟩],
       some (0, .status, "True"), none, none, false⟩).1.conds "Ready" = some "True" := by
  decide +kernel

/-! ### Compose failing after the function pipeline completed -/

/-- A Compose failure AFTER the pipeline (persisting the resource references, applying a composed
resource with a non-invalid error, applying the desired XR status) never overstates: nothing is
written (conflict, lost update, the XR held by the reconciler outdated by the reference apply or
replaced by the desired XR), or Ready is left as it was, Synced is False, and EVERY custom
condition the XR carried becomes Unknown - the conditions the pipeline returned are dropped with
the rest of the result, however many steps re-asserted them. -/
theorem fnF_fault_never_overstates (old : St) (r : FnRec) (p : FnPoint) (e : EC) (stale : Bool) (h : r.faulted p) :
    fnReconcileF old r (some (p, e)) stale = (old, false) ∨
    ((fnReconcileF old r (some (p, e)) stale).2 = true ∧
     findC (fnReconcileF old r (some (p, e)) stale).1.conds "Ready" = findC old.conds "Ready" ∧
     statusOf (fnReconcileF old r (some (p, e)) stale).1.conds "Synced" = some "False" ∧
     ∀ c ∈ old.conds, isSystem c.type = false →
       findC (fnReconcileF old r (some (p, e)) stale).1.conds c.type = some ⟨c.type, "Unknown", "FatalError"⟩) := by
  rw [fnF_faulted_eq old r p e stale h]
  unfold fnFaultOutcome
  cases p
  case statusPatch => exact Or.inl rfl
  all_goals
    dsimp only [composeFail]
    generalize (e == EC.conflict || _) = b
    cases b
    · exact Or.inr ⟨rfl, findC_composeError_ready _ _, composeError_synced_false _ _,
        fun c hc hs => unknown_on_fatal old [] c hc hs rfl⟩
    · exact Or.inl rfl

/-- a failing apply of a composed resource after the reference apply changed the XR, and a failing
apply of the desired XR status, store NOTHING: the XR keeps whatever it reported before -/
theorem fnF_stale_writes_nothing (old : St) (r : FnRec) (p : FnPoint) (e : EC) (stale : Bool) (h : r.faulted p)
    (hs : p = .statusPatch ∨ (p = .apply ∧ stale = true)) :
    fnReconcileF old r (some (p, e)) stale = (old, false) := by
  rw [fnF_faulted_eq old r p e stale h]
  unfold fnFaultOutcome
  rcases hs with rfl | ⟨rfl, rfl⟩
  · rfl
  · simp [composeFail]

/-- Functions cannot forge through a reconcile whose Compose fails late either: the stored Ready
and Synced conditions are those of the same reconcile with every function-supplied condition
removed (responses and desired XR status). -/
theorem fnF_no_forge (old : St) (r : FnRec) (f : Option (FnPoint × EC)) (stale : Bool) (t : String) (ht : t = "Ready" ∨ t = "Synced") :
    findC (fnReconcileF old r f stale).1.conds t = findC (fnReconcileF old r.strip f stale).1.conds t := by
  have hf := fn_no_forge old r t ht
  rcases f with _ | ⟨p, e⟩
  · rwa [fnF_no_fault, fnF_no_fault]
  · by_cases h : r.faulted p
    · -- the outcome of a late failure depends on nothing the functions returned
      rw [fnF_faulted_eq old r p e stale h, fnF_faulted_eq old r.strip p e stale ((r.faulted_strip p).mpr h)]
      rfl
    · rwa [fnF_not_faulted_eq old r p e stale h, fnF_not_faulted_eq old r.strip p e stale (mt (r.faulted_strip p).mp h)]

/-- With Compose failing anywhere: an XR is Ready=True after a function reconcile only if it was so
before, or the reconcile completed - no late failure was reached - and the last step's desired
state lets the XR be ready. -/
theorem fnF_ready_only_if (old : St) (r : FnRec) (f : Option (FnPoint × EC)) (stale : Bool) (hne : r.steps ≠ [])
    (h : statusOf (fnReconcileF old r f stale).1.conds "Ready" = some "True") :
    statusOf old.conds "Ready" = some "True" ∨
      ((∀ p e, f = some (p, e) → ¬ r.faulted p) ∧
       ∃ conds last, runPipe r.steps [] none = .ok conds (some last) ∧ r.publish = none ∧ r.lost = false ∧ last.mayReady) := by
  cases f with
  | none =>
    rw [fnF_no_fault] at h
    exact (fn_ready_only_if old r hne h).imp id fun h1 => ⟨nofun, h1⟩
  | some pe =>
    obtain ⟨p, e⟩ := pe
    by_cases hf : r.faulted p
    · left
      rcases fnF_fault_never_overstates old r p e stale hf with h1 | h1
      · rw [h1] at h; exact h
      · rw [statusOf_eq, h1.2.1] at h; exact h
    · rw [fnF_not_faulted_eq old r p e stale hf] at h
      exact (fn_ready_only_if old r hne h).imp id fun h1 => ⟨fun p' e' he => by cases he; exact hf, h1⟩

/-- The world around the conditions (resource references, live composed resources) never decides
WHAT a function reconcile stores, only whether a late failure's status update goes through: the
stored state and the write flag of a step of the XR world are those of `fnReconcileF` for some
value of `stale`. All the theorems above therefore hold for every step of every sequence. -/
theorem fnWorldStep_is_reconcileF (x : FnXR) (r : FnRec) (f : Option (FnPoint × EC)) :
    ∃ stale, ((fnWorldStep x r f).1.st, (fnWorldStep x r f).2) = fnReconcileF x.st r f stale := by
  fun_cases fnWorldStep x r f <;> exact ⟨_, rfl⟩

/-! ### the deletion branch

`re`: is Deleting set again after RemoveFinalizer? The tree's value is `reassertsDeleting` / `claimReassertsDeleting`
(counted off the regenerated skeleton, `true` at the pinned commit); Drv/C05 runs the traces with it, no theorem fixes it. -/

/-- An XR being deleted is never SET Ready=True, whatever was stored and wherever the reconcile
fails: every status a (non-paused) reconcile of the deletion branch stores carries
Ready=False/Deleting - or, in the code before fix f96c12b (`re = false`, D39), on the one path where
RemoveFinalizer's Update went through, the Ready condition the XR had before. -/
theorem del_ready_deleting_or_left (re : Bool) (old : St) (fin : Bool) (c : DelCall) (hp : c.paused = false) (st : St)
    (h : reconcileDeleted re old fin c = some st) :
    findC st.conds "Ready" = some deleting ∨
      (re = false ∧ fin = true ∧ c.fault = none ∧ findC st.conds "Ready" = findC old.conds "Ready") := by
  obtain ⟨d, m, rfl, hleft, _⟩ := reconcileDeleted_cases re old fin c st h
  have hr := findC_markDeleted_ready old.conds d m
  cases d
  · exact Or.inr ((hleft rfl).elim (fun h => by rw [hp] at h; cases h) fun ⟨h1, h2, h3⟩ => ⟨h1, h2, h3, hr⟩)
  · exact Or.inl hr

/-- With the Deleting condition set again after RemoveFinalizer (`re = true`: fix f96c12b) an XR being
deleted is NEVER reported Ready=True: every status stored carries Ready=False/Deleting. -/
theorem del_ready_is_deleting (old : St) (fin : Bool) (c : DelCall) (hp : c.paused = false) (st : St)
    (h : reconcileDeleted true old fin c = some st) : findC st.conds "Ready" = some deleting := by
  rcases del_ready_deleting_or_left true old fin c hp st h with h1 | h1
  · exact h1
  · exact absurd h1.1 (by decide)

/-- The code before fix f96c12b keeps Ready=True on an XR being deleted: the model of that deletion
branch (`re = false`) on a concrete witness - a ready XR with a deletion timestamp, held by another finalizer,
UnpublishConnection and RemoveFinalizer succeed - stores Ready=True/Available and Synced=True
(monitor `C05:deleting-condition-lost-on-finalizer-removal`, corpus/C05/deleting-condition-lost.jsonl). -/
theorem deleting_condition_lost_fails_on_unfixed_witness :
    (reconcileDeleted false ⟨[⟨"Ready", "True", "Available"⟩], []⟩ true ⟨false, false, none, false⟩).map
      (fun st => (findC st.conds "Ready", statusOf st.conds "Synced")) =
      some (some ⟨"Ready", "True", "Available"⟩, some "True") := by
  decide +kernel

/-- ... and Synced=True iff the deletion went through. -/
theorem del_synced_true_iff (re : Bool) (old : St) (fin : Bool) (c : DelCall) (hp : c.paused = false) (st : St)
    (h : reconcileDeleted re old fin c = some st) :
    statusOf st.conds "Synced" = some "True" ↔ c.succeeds fin := by
  obtain ⟨d, m, rfl, _, hsucc⟩ := reconcileDeleted_cases re old fin c st h
  exact (markDeleted_synced_true_iff old.conds d m).trans (hsucc hp)

/-- the deletion branch never touches a custom condition, and functions play no part in it -/
theorem del_custom_untouched (re : Bool) (old : St) (fin : Bool) (c : DelCall) (st : St)
    (h : reconcileDeleted re old fin c = some st) (t : String) (ht : t ≠ "Ready" ∧ t ≠ "Synced") :
    findC st.conds t = findC old.conds t ∧ st.claimTypes = old.claimTypes := by
  obtain ⟨d, m, rfl, _⟩ := reconcileDeleted_cases re old fin c st h
  exact ⟨findC_markDeleted_other old.conds d m t ht, rfl⟩

theorem reconcileDeleted_ready_not_true (re : Bool) (old : St) (fin : Bool) (c : DelCall) (st : St)
    (h : reconcileDeleted re old fin c = some st) (h0 : statusOf old.conds "Ready" ≠ some "True") :
    statusOf st.conds "Ready" ≠ some "True" := by
  obtain ⟨d, m, rfl, _⟩ := reconcileDeleted_cases re old fin c st h
  exact mt (markDeleted_ready_true_only_if_before old.conds d m) h0

/-- Through ANY sequence of reconciles of an XR being deleted - paused or not, failing anywhere
with any class, losing status updates, with or without the repair: an XR that was not Ready=True
when its deletion began is never reported Ready=True again. -/
theorem del_trace_ready_never_becomes_true (re : Bool) (x : DelXR) (cs : List DelCall)
    (h0 : statusOf x.st.conds "Ready" ≠ some "True") :
    ∀ p ∈ delTrace re (some x) cs, ∀ st, p.1 = some st → statusOf st.conds "Ready" ≠ some "True" :=
  trace_invariant (trace := delTrace re) (fun _ => rfl) (fun _ _ _ => rfl) (fun _ => rfl) (delStep_cases re)
    (fun x c st h => reconcileDeleted_ready_not_true re x.st x.fin c st h) (some x) (fun _ hz => Option.some.inj hz ▸ h0) cs

/-- ... and with the repair, from the first status update that takes effect on: whatever the XR
reported when its deletion began, every non-paused reconcile that stores a status stores
Ready=False/Deleting. -/
theorem del_step_repaired_ready_is_deleting (x : DelXR) (c : DelCall) (hp : c.paused = false)
    (hw : (delStep true (some x) c).2 = true) :
    ∃ x', (delStep true (some x) c).1 = some x' ∧ findC x'.st.conds "Ready" = some deleting := by
  rcases delStep_cases true x c with h1 | ⟨x', h1, hst⟩ <;> rw [h1] at hw ⊢
  · cases hw
  · obtain ⟨st, hr⟩ := Option.isSome_iff_exists.mp hw
    exact ⟨x', rfl, by rw [hst, hr]; exact del_ready_is_deleting _ _ _ hp _ hr⟩

/-! ### the deletion branch of the claim reconcile -/

/-- A claim being deleted is never SET Ready=True: every status a (non-paused) reconcile of a claim
with a deletion timestamp stores carries Ready=False/Deleting, or leaves Ready as it was - when the
read of the XR failed (ReconcileError before the branch is entered) or, in the code before fix
f96c12b (`re = false`, D39), on the path where RemoveFinalizer's Update went through. -/
theorem cdel_ready_deleting_or_left (re : Bool) (w : CDelWorld) (c : CDelCall) (hp : c.paused = false) (cs : List Cond)
    (h : claimDeleted re w c = some cs) :
    findC cs "Ready" = some deleting ∨
      (findC cs "Ready" = findC w.conds "Ready" ∧ (c.xrReadFails w = true ∨ (re = false ∧ w.fin = true))) := by
  obtain ⟨d, m, rfl, hleft⟩ := claimDeleted_cases re w c cs h
  have hr := findC_markDeleted_ready w.conds d m
  cases d
  · exact Or.inr ⟨hr, (hleft rfl).resolve_left (by rw [hp]; exact nofun)⟩
  · exact Or.inl hr

/-- A reconcile of a claim being deleted never reports Ready=True on its own account, with or
without the repair, whatever fails: Ready=True afterwards means Ready=True before. (The claim clause
of the property - Ready=True only by a reconcile that observed its XR Ready=True - is not weakened by
the deletion branch: it never produces Ready=True.) -/
theorem cdel_ready_true_only_if_before (re : Bool) (w : CDelWorld) (c : CDelCall) (cs : List Cond)
    (h : claimDeleted re w c = some cs) (ht : statusOf cs "Ready" = some "True") :
    statusOf w.conds "Ready" = some "True" := by
  obtain ⟨d, m, rfl, _⟩ := claimDeleted_cases re w c cs h
  exact markDeleted_ready_true_only_if_before w.conds d m ht

/-- With Deleting set again after RemoveFinalizer (`re = true`: fix f96c12b) every status the deletion
branch proper stores - the XR could be read or does not exist - carries Ready=False/Deleting. -/
theorem cdel_ready_is_deleting (w : CDelWorld) (c : CDelCall) (hp : c.paused = false) (hx : c.xrReadFails w = false)
    (cs : List Cond) (h : claimDeleted true w c = some cs) : findC cs "Ready" = some deleting := by
  rcases cdel_ready_deleting_or_left true w c hp cs h with h1 | h1
  · exact h1
  · rcases h1.2 with h2 | h2
    · rw [hx] at h2; cases h2
    · exact absurd h2.1 (by decide)

/-- The code before fix f96c12b keeps Ready=True on a claim being deleted: the model of that branch
(`re = false`) on a concrete witness - a ready claim with a deletion timestamp, held by another finalizer, its XR
deleted, everything succeeds - stores Ready=True/Available and Synced=True (monitor
`C05:claim-deleting-condition-lost-on-finalizer-removal`, corpus/C05/deleting-condition-lost.jsonl). -/
theorem claim_deleting_condition_lost_fails_on_unfixed_witness :
    (claimDeleted false ⟨[⟨"Ready", "True", "Available"⟩], true, true, true⟩ ⟨false, false, none, none, false⟩).map
      (fun cs => (findC cs "Ready", statusOf cs "Synced")) =
      some (some ⟨"Ready", "True", "Available"⟩, some "True") := by
  decide +kernel

/-- Through ANY sequence of reconciles of a claim being deleted: a claim that was not Ready=True
when its deletion began is never reported Ready=True again. -/
theorem cdel_trace_ready_never_becomes_true (re : Bool) (w : CDelWorld) (cs : List CDelCall)
    (h0 : statusOf w.conds "Ready" ≠ some "True") :
    ∀ p ∈ cdelTrace re (some w) cs, ∀ st, p.1 = some st → statusOf st "Ready" ≠ some "True" :=
  trace_invariant (trace := cdelTrace re) (fun _ => rfl) (fun _ _ _ => rfl) (fun _ => rfl) (cdelStep_cases re)
    (fun w c cs h => mt (cdel_ready_true_only_if_before re w c cs h)) (some w) (fun _ hz => Option.some.inj hz ▸ h0) cs

/-! ### the models read the Go functions as they are (regenerated call skeletons)

`rfl` compares string literals syntactically (`decide` would run String equality entry by entry);
`skeleton_reconcile` / `skeleton_claim_reconcile` still evaluate the count behind `reassertsDeleting`, which
only picks which of the two declared forms of the segment after RemoveFinalizer is compared, entries and place, like the rest. -/

theorem skeleton_reconcile : Xp.Gen.c05SkelReconcile = skelReconcile := by rfl
theorem skeleton_update_xr_conditions : Xp.Gen.c05SkelUpdateXRConditions = skelUpdateXRConditions := rfl
theorem skeleton_handle_common : Xp.Gen.c05SkelHandleCommon = skelHandleCommon := rfl
theorem skeleton_fn_compose : Xp.Gen.c05SkelFnCompose = skelFnCompose := rfl
theorem skeleton_remove_system_conditions : Xp.Gen.c05SkelRemoveSystemConditions = skelRemoveSystemConditions := rfl
theorem skeleton_pt_compose : Xp.Gen.c05SkelPTCompose = skelPTCompose := rfl
theorem skeleton_is_ready : Xp.Gen.c05SkelIsReady = skelIsReady := rfl
theorem skeleton_check_is_ready : Xp.Gen.c05SkelCheckIsReady = skelCheckIsReady := rfl
theorem skeleton_check_validate : Xp.Gen.c05SkelCheckValidate = skelCheckValidate := rfl
theorem skeleton_check_from_v1 : Xp.Gen.c05SkelCheckFromV1 = skelCheckFromV1 := rfl
theorem skeleton_checks_from_template : Xp.Gen.c05SkelChecksFromTemplate = skelChecksFromTemplate := rfl
theorem skeleton_claim_reconcile : Xp.Gen.c05SkelClaimReconcile = skelClaimReconcile := by rfl

/-- In the declared skeleton of `Reconcile` - the source's by `skeleton_reconcile`, which lists every
phase the model knows - the conflict-aware phases are exactly those followed by an IsConflict test. -/
theorem skeleton_phase_conflict_tests (p : Phase) (hp : p ≠ .get) :
    (p.skel.take 2 = [p.callName, "kerrors.IsConflict"]) ↔ p.conflictAware = true := by
  -- a phase that is not conflict-aware is followed by the error tail at once
  have tail : ∀ a : String, [a, "xr.SetConditions"] = [a, "kerrors.IsConflict"] ↔ false = true :=
    fun a => ⟨fun h => absurd (List.cons.inj (List.cons.inj h).2).1 (by decide), fun h => nomatch h⟩
  cases p
  case get => exact absurd rfl hp
  case select | fetch | validate => exact tail _
  all_goals exact ⟨fun _ => rfl, fun _ => rfl⟩

/-! ### non-vacuity -/
example : (reconcile ⟨[⟨"Ready", "False", "Creating"⟩], []⟩ [⟨"a", true, true⟩] none
    [⟨⟨"Ready", "True", "Forged"⟩, false⟩] .none).map (fun st => statusOf st.conds "Ready") = some (some "True") := by decide +kernel
example : (reconcile ⟨[], []⟩ [⟨"a", true, false⟩] none
    [⟨⟨"Ready", "True", "Forged"⟩, false⟩] .none).map (fun st => statusOf st.conds "Ready") = some (some "False") := by decide +kernel

/-- two XRs, one long-lived reconciler: XR 0 completes with everything ready, then XR 1 fails in
Compose with a wrapped AlreadyExists while its functions try to forge Ready=True -/
example : (runSeq [⟨[⟨"Ready", "False", "Creating"⟩], []⟩, ⟨[⟨"Ready", "False", "Creating"⟩], []⟩]
    [⟨0, ⟨false, [⟨"a", true, true⟩, ⟨"a", true, true⟩], none, [], none, false⟩⟩,
     ⟨1, ⟨false, [⟨"a", true, true⟩], some true, [⟨⟨"Ready", "True", "Forged"⟩, true⟩], some (.compose, .alreadyExists), false⟩⟩]).map
      (fun st => statusOf st.conds "Ready") = [some "True", some "False"] := by decide +kernel

/-- a claim reconcile overtaken by the XR controller (the XR turns unready between the read and the
server-side syncer's write): the claim waits -/
example : (claimCall [] ⟨true, some ⟨"example.org/v1", "Thing", "ns", "claim"⟩, ⟨[⟨"Ready", "True", "Available"⟩], []⟩⟩
    ⟨true, ⟨"example.org/v1", "Thing", "ns", "claim"⟩, false, false, some ⟨[⟨"Ready", "False", "Creating"⟩], []⟩, none⟩).map
      (fun cs => statusOf cs "Ready") = some (some "False") := by decide +kernel

/-- ... the client-side syncer's write conflicts instead, and nothing is written -/
example : claimCall [] ⟨true, some ⟨"example.org/v1", "Thing", "ns", "claim"⟩, ⟨[⟨"Ready", "True", "Available"⟩], []⟩⟩
    ⟨false, ⟨"example.org/v1", "Thing", "ns", "claim"⟩, false, false, some ⟨[⟨"Ready", "False", "Creating"⟩], []⟩, none⟩ = none := by decide +kernel

/-- the same claim name in another namespace is another claim -/
example : (claimCall [] ⟨true, some ⟨"example.org/v1", "Thing", "ns2", "claim"⟩, ⟨[⟨"Ready", "True", "Available"⟩], []⟩⟩
    ⟨true, ⟨"example.org/v1", "Thing", "ns", "claim"⟩, false, false, none, none⟩).map
      (fun cs => (statusOf cs "Ready", statusOf cs "Synced")) = some (none, some "False") := by decide +kernel

/-- a function that puts Ready=True into the desired XR status while its only resource is unready
and publishing fails: Ready stays as it was -/
example : statusOf (fnReconcile ⟨[⟨"Ready", "False", "Creating"⟩], []⟩
    ⟨[{ conds := [], fatal := false, err := false, res := [⟨"a", some false, false⟩], xrReady := none,
        statusConds := [⟨"Ready", "True", "InStatus"⟩, ⟨"Custom", "True", "InStatus"⟩] }], some .generic, false⟩).1.conds "Ready"
      = some "False" := by decide +kernel

/-- two readiness checks, the second one unmet -/
example : isReady ⟨.str "ok", .absent, .absent, []⟩
    [⟨"MatchString", "status.s", "ok", 0, false, "", ""⟩, ⟨"NonEmpty", "status.n", "", 0, false, "", ""⟩] = some false := by decide +kernel

/-- a P&T reconcile that completes: two templates, the second not rendered -/
example : (⟨[⟨"a", true, false, ⟨.str "ok", .absent, .absent, []⟩, [⟨"MatchString", "status.s", "ok", 0, false, "", ""⟩]⟩,
            ⟨"b", false, false, ⟨.absent, .absent, .absent, []⟩, []⟩], none, none, none, false⟩ : PTRec).completes
          [⟨"a", true, true⟩, ⟨"b", false, false⟩] := by decide +kernel

/-- a P&T reconcile that does not complete (a readiness check of an unknown type) -/
example : ∀ composed, ¬ (⟨[⟨"a", true, false, ⟨.absent, .absent, .absent, []⟩, [⟨"Bogus", "", "", 0, false, "", ""⟩]⟩],
            none, none, none, false⟩ : PTRec).completes composed := by
  intro composed h
  have e : ptObserve (⟨[⟨"a", true, false, ⟨.absent, .absent, .absent, []⟩, [⟨"Bogus", "", "", 0, false, "", ""⟩]⟩],
            none, none, none, false⟩ : PTRec).effRes = none := by decide +kernel
  have := h.2.1
  rw [e] at this
  cases this

/-- a late Compose failure that is reached: one step desiring one resource, its apply forbidden -/
example : (⟨[{ conds := [⟨⟨"Custom", "True", "Fn"⟩, false⟩], fatal := false, err := false, res := [⟨"a", some true, false⟩],
               xrReady := none, statusConds := [] }], none, false⟩ : FnRec).faulted .apply :=
  ⟨_, _, rfl, rfl⟩

example : statusOf (fnReconcileF ⟨[⟨"Custom", "True", "Old"⟩], []⟩
    ⟨[{ conds := [⟨⟨"Custom", "True", "Fn"⟩, false⟩], fatal := false, err := false, res := [⟨"a", some true, false⟩],
        xrReady := some true, statusConds := [] }], none, false⟩ (some (.apply, .forbidden)) false).1.conds "Custom" = some "Unknown" := by decide +kernel

/-- the same failure in the FIRST reconcile of the XR: the reference apply changed the XR, the
reconciler's status update conflicts, nothing is stored -/
example : (fnWorldStep ⟨⟨[⟨"Custom", "True", "Old"⟩], []⟩, [], [], false⟩
    ⟨[{ conds := [⟨⟨"Custom", "True", "Fn"⟩, false⟩], fatal := false, err := false, res := [⟨"a", some true, false⟩],
        xrReady := some true, statusConds := [] }], none, false⟩ (some (.apply, .forbidden))).2 = false := by decide +kernel

/-- deleting: unpublish fails, then everything goes through while another finalizer holds the XR -/
example : (delTrace true (some ⟨⟨[⟨"Ready", "True", "Available"⟩], []⟩, true, true⟩)
    [⟨false, false, some (.unpublish, .generic), false⟩, ⟨false, false, none, false⟩]).map
      (fun p => (p.1.map fun st => (statusOf st.conds "Ready", statusOf st.conds "Synced"), p.2)) =
    [(some (some "False", some "False"), true), (some (some "False", some "True"), true)] := by decide +kernel

/-- without the repair: the same XR, everything going through at once - Ready=True is stored again;
the next reconcile (no finalizer left to remove) stores Deleting -/
example : (delTrace false (some ⟨⟨[⟨"Ready", "True", "Available"⟩], []⟩, true, true⟩)
    [⟨false, false, none, false⟩, ⟨false, false, none, false⟩]).map
      (fun p => (p.1.map fun st => (statusOf st.conds "Ready", statusOf st.conds "Synced"), p.2)) =
    [(some (some "True", some "True"), true), (some (some "False", some "True"), true)] := by decide +kernel

example : (⟨false, false, some (.removeFinalizer, .notFound), false⟩ : DelCall).succeeds true :=
  Or.inr ⟨_, rfl, Or.inr rfl⟩

/-- a claim being deleted, without the repair: the Delete of the XR is forbidden (ReconcileError, Deleting
stored), then everything goes through while another finalizer holds the claim (Deleting is still
there: it was stored) -/
example : (cdelTrace false (some ⟨[⟨"Ready", "True", "Available"⟩], true, true, true⟩)
    [⟨false, false, none, some (.deleteXR, .forbidden), false⟩, ⟨false, false, none, none, false⟩]).map
      (fun p => (p.1.map fun cs => (statusOf cs "Ready", statusOf cs "Synced"), p.2)) =
    [(some (some "False", some "False"), true), (some (some "False", some "True"), true)] := by decide +kernel

end Xp.C05
