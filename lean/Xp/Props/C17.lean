import Xp.Proofs.C17Dag
import Xp.Proofs.C17Ver
import Xp.Proofs.C17Env
import Xp.Proofs.C17Rec
import Xp.Proofs.C17ResF
import Xp.Proofs.C17Glue
import Xp.Proofs.C17Parents
import Xp.Gen.C17Tables
import Xp.Gen.C17Skel
import Xp.Model.C17Skel
/-
C17 property theorems: dependency resolution.

Vocabulary (Xp/Model/C17.lean, Xp/Proofs/C17Init.lean):
* `lockNb pkgs` is the dependency graph read off the lock contents `pkgs`: a lock package
  points at the packages it depends on; a dependency that is not in the lock is a node
  without neighbours ("implied").  `init` (MapDag.Init / MapUpgradingDag.Init) builds a DAG
  whose neighbour function is exactly `lockNb pkgs` (`Proofs.C17Init.init_graph`), so the
  theorems below speak about the lock, not about an internal data structure.
* `Reach nb a b`: `b` is reachable from `a` by at least one edge; `HasCycle nb`: some node
  reaches itself (self loops and cycles through implied nodes included).
* `order` is the iteration order of Go's node map in `Sort`; it is universally quantified.
* `o : Oracle` carries the verdicts of Masterminds/semver and go-containerregistry; every
  theorem holds for every oracle.
-/
namespace Xp.C17

/-- **Sort without any assumption on the identifiers** (the empty string included). Go's `visit`
stores a finished node in the first slot of the pre-sized results slice that still holds "", so
a node whose identifier is "" never occupies a slot (`finish`). For every lock, both DAG
implementations and every iteration order of the node map:
* Sort fails iff the dependency graph has a cycle, with the cycle error naming a node on a cycle
  (the empty identifier does not disturb cycle detection);
* on success there is a duplicate-free, dependencies-first order `full` of ALL nodes such that
  the result is `full` with the empty identifier taken out and "" appended in its place: the
  result still has one entry per node, but the empty identifier, if it is a node, is listed
  last whatever depends on it (`sort_empty_identifier_listed_last_witness`);
* if the empty string is not a node the result is `full` itself (`sort_ok_iff_acyclic`). -/
theorem sort_any_identifier {o : Oracle} {upg : Bool} {pkgs : List Pkg} {d : Dag} {imp : List Dep}
    (h : init o upg pkgs = .ok (d, imp)) (order : List String)
    (hord : ∀ n, n ∈ order ↔ (lockNb pkgs n).isSome = true) :
    ((∃ e, sort d order = .error e) ↔ HasCycle (lockNb pkgs)) ∧
    (∀ e, sort d order = .error e → ∃ c, e = .cycle c ∧ Reach (lockNb pkgs) c c) ∧
    (∀ res, sort d order = .ok res → ∃ full : List String,
      full.Nodup ∧ (∀ n, n ∈ full ↔ (lockNb pkgs n).isSome = true) ∧ DepsFirst (lockNb pkgs) full ∧
      res = noE full ++ List.replicate (full.length - (noE full).length) "" ∧
      (lockNb pkgs "" = none → res = full)) := by
  obtain ⟨nbeq, hks, hnodup, hlen⟩ := init_graph h
  have spec := sortG_spec (lockNb pkgs) d.keys hks (lockNb_closed pkgs) hnodup order
    (fun n => (hord n).trans (hks n))
  unfold sort
  rw [nbeq, ← hlen]
  cases hs : sortG (lockNb pkgs) d.keys.length order with
  | error e =>
    rw [hs] at spec
    obtain ⟨c, rfl, hc⟩ := spec
    refine ⟨⟨fun _ => ⟨c, hc⟩, fun _ => ⟨_, rfl⟩⟩, ?_, ?_⟩
    · intro e he; cases he; exact ⟨c, rfl, hc⟩
    · intro res he; cases he
  | ok res =>
    rw [hs] at spec
    obtain ⟨hac, full, hnd, hmem, hdf, hres⟩ := spec
    refine ⟨⟨(fun ⟨e, he⟩ => by cases he), fun hc => absurd hc hac⟩, (fun e he => by cases he), ?_⟩
    intro r he
    cases he
    refine ⟨full, hnd, fun n => (hmem n).trans (hks n).symm, hdf, hres, ?_⟩
    intro hne
    have hno : "" ∉ full := by
      intro hm
      have := (hks "").2 ((hmem "").1 hm)
      rw [hne] at this
      cases this
    rw [hres, noE_eq_self hno]
    simp

/-- `Sort` (of either DAG implementation, after `Init` on the lock contents `pkgs`), for every
iteration order of the node map:
* it fails iff the dependency graph of the lock has a cycle;
* when it fails, the error is the cycle error and the node it names lies on a cycle
  (never "node does not exist", never out of fuel);
* when it succeeds, the result lists every node of the graph exactly once and every package
  after all the packages it depends on. -/
theorem sort_ok_iff_acyclic {o : Oracle} {upg : Bool} {pkgs : List Pkg} {d : Dag} {imp : List Dep}
    (h : init o upg pkgs = .ok (d, imp)) (order : List String)
    (hord : ∀ n, n ∈ order ↔ (lockNb pkgs n).isSome = true) (hne : lockNb pkgs "" = none) :
    ((∃ e, sort d order = .error e) ↔ HasCycle (lockNb pkgs)) ∧
    (∀ e, sort d order = .error e → ∃ c, e = .cycle c ∧ Reach (lockNb pkgs) c c) ∧
    (∀ res, sort d order = .ok res →
      res.Nodup ∧ (∀ n, n ∈ res ↔ (lockNb pkgs n).isSome = true) ∧ DepsFirst (lockNb pkgs) res) := by
  obtain ⟨hiff, herr, hok⟩ := sort_any_identifier h order hord
  refine ⟨hiff, herr, fun res he => ?_⟩
  obtain ⟨full, hnd, hmem, hdf, _, hfull⟩ := hok res he
  rw [hfull hne]
  exact ⟨hnd, hmem, hdf⟩

/-- `TraceNode id` on the DAG built from the lock returns exactly the packages reachable from
`id` by one or more dependency edges (and fails with "missing node" iff `id` is not a node). -/
theorem trace_is_closure {o : Oracle} {upg : Bool} {pkgs : List Pkg} {d : Dag} {imp : List Dep}
    (h : init o upg pkgs = .ok (d, imp)) (id : String) :
    ((lockNb pkgs id).isSome = true → ∃ t, trace d id = .ok t ∧ ∀ m, m ∈ t ↔ Reach (lockNb pkgs) id m) ∧
    (lockNb pkgs id = none → trace d id = .error .missing) := by
  obtain ⟨nbeq, hks, _, hlen⟩ := init_graph h
  unfold trace
  rw [nbeq, ← hlen]
  refine ⟨fun hid => traceG_spec (lockNb pkgs) d.keys hks (lockNb_closed pkgs) id ((hks id).1 hid), ?_⟩
  intro hnone
  simp [traceG, traceNode, hnone]

/-- MapDag.Init returns as implied exactly the dependencies that are not lock packages, each
once; MapUpgradingDag.Init returns at least those (it also returns present packages whose
version does not satisfy an incoming constraint). -/
theorem implied_eq_missing {o : Oracle} {upg : Bool} {pkgs : List Pkg} {d : Dag} {imp : List Dep}
    (h : init o upg pkgs = .ok (d, imp)) :
    (∀ e ∈ pkgs.flatMap (·.deps), e.pkg ∉ pkgs.map (·.source) → e.pkg ∈ imp.map (·.pkg)) ∧
    (upg = false → (imp.map (·.pkg)).Nodup ∧
      ∀ x, x ∈ imp.map (·.pkg) ↔ (x ∈ (pkgs.flatMap (·.deps)).map (·.pkg) ∧ x ∉ pkgs.map (·.source))) := by
  obtain ⟨_, _, _, hsup, hex⟩ := init_core h
  refine ⟨fun e he hns => ?_, fun hu => ?_⟩
  · obtain ⟨e', he', hpe⟩ := List.mem_map.1 (mem_absentDeps.2 ⟨List.mem_map.2 ⟨e, he, rfl⟩, hns⟩)
    exact List.mem_map.2 ⟨e', hsup e' he', hpe⟩
  · rw [hex hu]
    exact ⟨fresh_nodup _ _, fun x => mem_absentDeps⟩

/-! ### the SemVer precedence order used for "highest" / "lowest" is a total preorder -/

theorem semver_order_total (a b : Ver) : a.le b = true ∨ b.le a = true := Ver.le_total a b

theorem semver_order_trans (a b c : Ver) (h1 : a.le b = true) (h2 : b.le c = true) : a.le c = true :=
  Ver.le_trans h1 h2

/-- regenerated from the library in /repo's module graph on every run: the empty string is not
a semantic version (so "no version selected", which the Go code encodes as "", is unambiguous) -/
theorem semver_rejects_empty : Xp.Gen.c17SemverParsesEmpty = false := rfl

/-! ### findDependencyVersionToInstall -/

/-- A digest constraint pins exactly that digest, whatever the tags are (they are not even
fetched); an unparsable constraint or a failing tag fetch installs nothing. -/
theorem install_guards (o : Oracle) (con : String) (fetch : Option (List String)) :
    (∀ dg, o.digest con = some dg → toInstall o con fetch = .ok dg) ∧
    (o.digest con = none → o.conOk con = false → toInstall o con fetch = .error .invalidConstraint) ∧
    (o.digest con = none → o.conOk con = true → fetch = none → toInstall o con fetch = .error .fetchTags) := by
  refine ⟨?_, ?_, ?_⟩
  · intro dg h; simp [toInstall, h]
  · intro h1 h2; simp [toInstall, h1, h2]
  · intro h1 h2 h3; simp [toInstall, h1, h2, h3]

/-- For a version constraint: the selected version is a tag of the repository, is a semantic
version, satisfies the constraint, and no tag that satisfies the constraint is higher; nothing
is selected (`""`) iff no tag is a semantic version satisfying the constraint. Tags that are
not semantic versions never matter. For every tag list (any order), every `sat`. -/
theorem install_max (o : Oracle) (con : String) (tags : List String) (r : String)
    (hempty : o.ver "" = none) (hd : o.digest con = none)
    (h : toInstall o con (some tags) = .ok r) :
    (r = "" ↔ ∀ t ∈ tags, (o.ver t).isSome = true → o.sat con t = false) ∧
    (r ≠ "" → r ∈ tags ∧ o.sat con r = true ∧ ∃ v, o.ver r = some v ∧
      ∀ t ∈ tags, ∀ w, o.ver t = some w → o.sat con t = true → w.le v = true) := by
  unfold toInstall at h
  rw [hd] at h
  simp only [] at h
  split at h
  · cases h
  · simp only [Except.ok.injEq] at h
    have key := lastSat_spec (o.sat con) (sortTags (parseTags o tags)) "" (sortTags_sorted _)
    rw [h] at key
    rcases key with ⟨hr, none⟩ | ⟨v, hv, hr, hs, hmax⟩
    · refine ⟨⟨fun _ t ht hsome => ?_, fun _ => hr⟩, fun hne => absurd hr hne⟩
      cases hver : o.ver t with
      | none => rw [hver] at hsome; cases hsome
      | some w => exact none ⟨t, w⟩ (mem_sortedTags.2 ⟨ht, hver⟩)
    · obtain ⟨hvt, hvv⟩ := mem_sortedTags.1 hv
      have hrne : r ≠ "" := by
        intro e
        rw [hr] at e
        rw [e, hempty] at hvv
        cases hvv
      refine ⟨⟨fun e => absurd e hrne, fun hall => ?_⟩, fun _ => ?_⟩
      · have := hall v.tag hvt (by rw [hvv]; rfl)
        rw [hs] at this; cases this
      · rw [hr]
        refine ⟨hvt, hs, v.ver, hvv, ?_⟩
        intro t ht w hw hsat
        exact hmax ⟨t, w⟩ (mem_sortedTags.2 ⟨ht, hw⟩) hsat

/-- findDigestToUpdate: a non-empty result means every parent constraint is that same digest;
an empty result means no parent constraint is a digest. (Mixed digests / digest and version
constraints are errors.) -/
theorem update_digest (o : Oracle) (hdig : ∀ c dg, o.digest c = some dg → dg ≠ "")
    (parents : List String) (dg : String) (h : digestToUpdate o parents = .ok dg) :
    (dg ≠ "" → ∀ c ∈ parents, o.digest c = some dg) ∧ (dg = "" → ∀ c ∈ parents, o.digest c = none) := by
  have := digestLoop_spec o hdig parents "" false dg h (by simp)
  exact ⟨fun hne => (this.1 hne).2.2, fun he => (this.2 he).2⟩

/-- Guards of findDependencyVersionToUpdate, in the order of the code: digest errors, pinned
digest, fetch error, unparsable parent constraint, and the `semver.MustParse(insVer)` panic on
an installed identifier that is not a semantic version (an observation: the property does not
demand totality there). -/
theorem update_guards (o : Oracle) (parents : List String) (installed : String) (down : Bool)
    (fetch : Option (List String)) :
    (∀ e, digestToUpdate o parents = .error e → toUpdate o parents installed down fetch = .err e) ∧
    (∀ dg, digestToUpdate o parents = .ok dg → dg ≠ "" → toUpdate o parents installed down fetch = .ok dg) ∧
    (toUpdate o parents installed down fetch = .panic ↔
      digestToUpdate o parents = .ok "" ∧ fetch.isSome = true ∧ parents.all o.conOk = true ∧ o.ver installed = none) := by
  refine ⟨?_, ?_, ?_⟩
  · intro e h; simp [toUpdate, h]
  · intro dg h hne; simp [toUpdate, h, hne]
  · unfold toUpdate
    cases hdg : digestToUpdate o parents with
    | error e => simp
    | ok dg =>
      by_cases hne : dg = ""
      · subst hne
        cases fetch with
        | none => simp
        | some tags =>
          cases hc : parents.all o.conOk with
          | false => simp
          | true =>
            cases hv : o.ver installed with
            | none => simp
            | some cur =>
              simp only [ne_eq, not_true_eq_false, if_false, Bool.not_true, Bool.false_eq_true]
              split <;> simp
      · simp [hne]

/-- With upgrades enabled, no digest pinned and an installed version `cur`: the selected version
is a tag, a semantic version, and satisfies **every** parent constraint; and either
* it is not older than `cur`, and is the lowest such admissible tag, or
* downgrades are enabled, no admissible tag is not-older than `cur`, and it is the highest
  admissible (hence older) tag. -/
theorem update_min_not_older_or_max_older (o : Oracle) (parents : List String) (installed : String)
    (down : Bool) (tags : List String) (cur : Ver) (r : String)
    (hdg : digestToUpdate o parents = .ok "") (hcur : o.ver installed = some cur)
    (h : toUpdate o parents installed down (some tags) = .ok r) :
    r ∈ tags ∧ satAll o parents r = true ∧ ∃ v, o.ver r = some v ∧
      ((cur.le v = true ∧
          ∀ t ∈ tags, ∀ w, o.ver t = some w → satAll o parents t = true → cur.le w = true → v.le w = true) ∨
       (down = true ∧
          (∀ t ∈ tags, ∀ w, o.ver t = some w → satAll o parents t = true → cur.le w = false) ∧
          ∀ t ∈ tags, ∀ w, o.ver t = some w → satAll o parents t = true → w.le v = true)) := by
  unfold toUpdate at h
  rw [hdg] at h
  simp only [ne_eq, not_true_eq_false, if_false] at h
  split at h
  · cases h
  · rw [hcur] at h
    simp only [] at h
    have key := pickUpdate_picked (satAll o parents) cur down (sortTags (parseTags o tags)) none (sortTags_sorted _)
    generalize pickUpdate (satAll o parents) cur down (sortTags (parseTags o tags)) none = res at key h
    cases key with
    | notOlder v hv h1 h2 hmin =>
      obtain ⟨hvt, hvv⟩ := mem_sortedTags.1 hv
      cases h
      exact ⟨hvt, h2, v.ver, hvv, .inl ⟨h1, fun t ht w hw hs hc => hmin ⟨t, w⟩ (mem_sortedTags.2 ⟨ht, hw⟩) hc hs⟩⟩
    | older v hnone hd hv h2 hmax =>
      obtain ⟨hvt, hvv⟩ := mem_sortedTags.1 hv
      cases h
      refine ⟨hvt, h2, v.ver, hvv, .inr ⟨hd, fun t ht w hw hs => ?_,
        fun t ht w hw hs => hmax ⟨t, w⟩ (mem_sortedTags.2 ⟨ht, hw⟩) hs⟩⟩
      exact Bool.eq_false_iff.2 fun hc => by
        have := hnone ⟨t, w⟩ (mem_sortedTags.2 ⟨ht, hw⟩) hc
        rw [hs] at this; cases this
    | kept => cases h

/-- ... and it reports "no valid version" exactly when no tag qualifies: none is admissible and
not older, and (unless downgrades are disabled) none is admissible at all. -/
theorem update_none_iff (o : Oracle) (parents : List String) (installed : String)
    (down : Bool) (tags : List String) (cur : Ver)
    (hdg : digestToUpdate o parents = .ok "") (hcon : parents.all o.conOk = true)
    (hcur : o.ver installed = some cur) :
    toUpdate o parents installed down (some tags) = .err .noValidVersion ↔
      (∀ t ∈ tags, ∀ w, o.ver t = some w → satAll o parents t = true → cur.le w = false ∧ down = false) := by
  unfold toUpdate
  rw [hdg]
  simp only [ne_eq, not_true_eq_false, if_false, hcon, Bool.not_true, Bool.false_eq_true, hcur]
  have key := pickUpdate_picked (satAll o parents) cur down (sortTags (parseTags o tags)) none (sortTags_sorted _)
  generalize pickUpdate (satAll o parents) cur down (sortTags (parseTags o tags)) none = res at key
  cases key with
  | notOlder v hv h1 h2 =>
    obtain ⟨hvt, hvv⟩ := mem_sortedTags.1 hv
    refine ⟨nofun, fun hall => ?_⟩
    have := (hall v.tag hvt v.ver hvv h2).1
    rw [h1] at this; cases this
  | older v _ hd hv h2 =>
    obtain ⟨hvt, hvv⟩ := mem_sortedTags.1 hv
    refine ⟨nofun, fun hall => ?_⟩
    have := (hall v.tag hvt v.ver hvv h2).2
    rw [hd] at this; cases this
  | kept hnone hcond =>
    refine ⟨fun _ t ht w hw hs => ?_, fun _ => rfl⟩
    have hin : (⟨t, w⟩ : VTag) ∈ sortTags (parseTags o tags) := mem_sortedTags.2 ⟨ht, hw⟩
    refine ⟨Bool.eq_false_iff.2 fun hc => ?_, hcond.resolve_right fun hno => ?_⟩
    · have := hnone ⟨t, w⟩ hin hc
      rw [hs] at this; cases this
    · have := hno ⟨t, w⟩ hin
      rw [hs] at this; cases this

/-- The lock reconciler writes no package (neither create nor update) and reports
`Resolved = False` whenever the lock's dependency graph has a cycle (for every iteration
order of the node map) or the DAG cannot be built (duplicate sources): Sort runs before, and
independently of, any version lookup. -/
theorem cycle_blocks_install (o : Oracle) (upg down : Bool) (lock : List Pkg) (order : List String)
    (installed : String → Option String) (fetch : String → Option (List String))
    (hord : ∀ n, n ∈ order ↔ (lockNb lock n).isSome = true) (hne : lockNb lock "" = none)
    (hbroken : HasCycle (lockNb lock) ∨ ∃ e, init o upg lock = .error e) :
    (reconcile o upg down lock order installed fetch).act = .nothing ∧
    (reconcile o upg down lock order installed fetch).resolved = some false := by
  unfold reconcile
  cases hi : init o upg lock with
  | error e => exact ⟨rfl, rfl⟩
  | ok r =>
    obtain ⟨d, imp⟩ := r
    simp only []
    have hcyc : HasCycle (lockNb lock) := by
      rcases hbroken with h | ⟨e, h⟩
      · exact h
      · rw [hi] at h; cases h
    obtain ⟨e, he⟩ := ((sort_ok_iff_acyclic hi order hord hne).1).2 hcyc
    rw [he]
    exact ⟨rfl, rfl⟩

/-- Whatever the reconciler writes is what the two selection functions returned: a created
package carries the (non-empty) result of findDependencyVersionToInstall for the constraint of
the first implied dependency, an updated one the result of findDependencyVersionToUpdate for
the installed version and the node's parent constraints; so `install_max` and
`update_min_not_older_or_max_older` apply to every write. -/
theorem reconcile_writes_selected (o : Oracle) (upg down : Bool) (lock : List Pkg) (order : List String)
    (installed : String → Option String) (fetch : String → Option (List String)) :
    match (reconcile o upg down lock order installed fetch).act with
    | .nothing => True
    | .create id v => ∃ con, toInstall o con (fetch id) = .ok v ∧ v ≠ ""
    | .update id v => ∃ parents ins, upg = true ∧ installed id = some ins ∧ toUpdate o parents ins down (fetch id) = .ok v := by
  fun_cases reconcile o upg down lock order installed fetch with
  | case6 d _ _ dep _ _ _ v ht hv => exact ⟨dep.con, ht, hv⟩  -- the branch `.create depId v`
  | case9 d _ _ dep _ _ ins hinst _ v ht =>  -- the branch `.update depId v`
    cases upg with
    | false => cases hinst
    | true => exact ⟨_, ins, rfl, hinst, ht⟩
  | _ => trivial

/-! ### the lock reconciler next to other clients, behind an informer cache, with failing calls

`Xp/Model/C17Rec.lean`: `reconcileP` is Reconcile call by call (Get of the Lock and List of the
packages answered by the cache; Update / Status().Update / Create answered by the API server with
its resourceVersion check; pull-secret lookup and tag fetch), run by `runE` next to an arbitrary
environment `env` (what other clients, the informer and the registry do right before each call:
only `RelyW` is asked of it — it keeps resourceVersions coherent and cannot touch the ghost record
`seen` of what this Reconcile was served) and under every fault plan; any call can moreover come
back with an error of any class (`inject`, part of the world and set by the environment).
`ownE` lists the calls the API server applied, each with the world at that moment. `reconcile`
(above) is the decision taken on what was served; `Guar` says which served data justify a write. -/

/-- the scripts the harness plays (third-party writes, cache syncs, registry changes, injected
error classes before the k-th call) are environments of the kind quantified over below -/
theorem rec_scripts_obey_the_rely (acts : List (Nat × WAct)) (k : Nat) (w : RWorld) :
    RelyW w (scriptEnvW acts k w) := by
  unfold scriptEnvW
  generalize acts.filter (·.1 = k) = l
  induction l generalizing w with
  | nil => exact RelyW.refl w
  | cons a rest ih => exact (applyWAct_rely w a.2).trans (ih _)

/-- **Every write is justified by what THIS Reconcile was served.** From any coherent world in
which nothing has been served yet, for every environment, every fault plan and every error
class on every call: whenever the API server applies a call of the reconciler, the
resourceVersions are coherent and the guarantee `Guar` holds of the world at that moment — a
package is created / updated only for the first implied node of a sortable DAG of the Lock
served by this Reconcile's Get, with the version the selection functions return on the tag list
served by this Reconcile's fetch, (upgrades) after this Reconcile's List and for the object and
resourceVersion that List served; the Lock is only ever written back as served. When Reconcile
returns, at most one package write was applied, and if it returns no error although a Create was
answered AlreadyExists (`NameOk`), the object that holds the name - as this Reconcile's Get was
served it - is the package (kind, name) of the first implied dependency's own repository
(registry and repository): a name taken by a package of another repository is an error. -/
theorem rec_every_call_justified (cfg : RCfg) (w : RWorld) (hc : Coh w) (hs : w.seen = {})
    (env : Env RWorld) (henv : ∀ k s, RelyW s (env k s)) (plan : Plan) :
    (∀ x ∈ ownE recSem env plan 0 (reconcileP cfg) w, Coh x.1 ∧ Guar cfg x.1 x.2) ∧
    (∀ a, (runE recSem env plan 0 (reconcileP cfg) w).2 = some a →
      Coh (runE recSem env plan 0 (reconcileP cfg) w).1 ∧
      (runE recSem env plan 0 (reconcileP cfg) w).1.seen.writes ≤ 1 ∧
      (a.err = .none → NameOk cfg (runE recSem env plan 0 (reconcileP cfg) w).1.seen)) :=
  wpE_sound recSem RelyW (GuarC cfg) env henv plan 0 (reconcileP cfg) (RPost cfg) w (reconcileP_wp cfg w hc hs)

/-- the coherence of resourceVersions survives a whole Reconcile, also one that crashes -/
theorem rec_keeps_coherence (cfg : RCfg) (w : RWorld) (hc : Coh w)
    (env : Env RWorld) (henv : ∀ k s, RelyW s (env k s)) (plan : Plan) :
    Coh (runE recSem env plan 0 (reconcileP cfg) w).1 := by
  exact runE_inv recSem Coh (fun _ => True) (fun s r h _ => coh_exec h r) env (fun k s h => (henv k s).2 h)
    plan 0 (reconcileP cfg) (Issues.any _) w hc

/-- **A cycle (or a Lock whose DAG cannot be built) stops installation, whatever happens around
the reconciler**: if the API server applied a package create / update of this Reconcile, then
the Lock its Get was served has a DAG that could be built and (no node having the empty
identifier) no dependency cycle. -/
theorem rec_broken_graph_writes_nothing (cfg : RCfg) (w : RWorld) (hc : Coh w) (hs : w.seen = {})
    (env : Env RWorld) (henv : ∀ k s, RelyW s (env k s)) (plan : Plan)
    (x : RWorld × Req) (hx : x ∈ ownE recSem env plan 0 (reconcileP cfg) w) (hw : x.2.isPkgWrite = true) :
    ∃ l d imp, x.1.seen.lock = some l ∧ init cfg.o cfg.upg l.pkgs = .ok (d, imp) ∧
      (lockNb l.pkgs "" = none → ¬ HasCycle (lockNb l.pkgs)) := by
  have hg := ((rec_every_call_justified cfg w hc hs env henv plan).1 x hx).2
  have key : ∀ d dep, ServedDep cfg x.1.seen d dep → ∃ l d imp, x.1.seen.lock = some l ∧
      init cfg.o cfg.upg l.pkgs = .ok (d, imp) ∧ (lockNb l.pkgs "" = none → ¬ HasCycle (lockNb l.pkgs)) := by
    rintro d dep ⟨l, rest, hl, hi, res, hsort⟩
    refine ⟨l, d, dep :: rest, hl, hi, fun hne hcyc => ?_⟩
    have hord : ∀ n, n ∈ d.keys ↔ (lockNb l.pkgs n).isSome = true := fun n => ((init_graph hi).2.1 n).symm
    obtain ⟨e, he⟩ := ((sort_ok_iff_acyclic hi d.keys hord hne).1).2 hcyc
    rw [hsort] at he; cases he
  cases hr : x.2 with
  | createPkg kind name image =>
    rw [hr] at hg; unfold Guar at hg
    obtain ⟨_, d, dep, _, _, hsd, _⟩ := hg
    exact key d dep hsd
  | updatePkg kind name image rv =>
    rw [hr] at hg; unfold Guar at hg
    obtain ⟨_, _, d, dep, _, _, _, _, _, hsd, _⟩ := hg
    exact key d dep hsd
  | _ => rw [hr] at hw; cases hw

/-- **The quiet decision skeleton is the special case**: a justified package write is exactly the
write `reconcile` (of `cycle_blocks_install` and `reconcile_writes_selected` above) decides on
the data this Reconcile was served — the Lock of its Get, the installed version in the list of its
List, the tag list of its fetch. So `install_max`, `update_min_not_older_or_max_older`,
`cycle_blocks_install` and `reconcile_writes_selected` speak about every write under interference,
cache lag and failing calls. -/
theorem rec_write_is_skeleton_decision (cfg : RCfg) (s : RWorld) :
    (∀ kind name image, Guar cfg s (.createPkg kind name image) →
      ∃ (l : LockObj) (d : Dag) (dep : Dep) (ref : RefInfo) (v : String), s.seen.lock = some l ∧ cfg.refOf dep.pkg = some ref ∧ image = fmtImage ref.str v ∧
        kind = cfg.kindOf dep.pkg ∧ name = ref.pkgName ∧
        reconcile cfg.o cfg.upg cfg.down l.pkgs d.keys (servedInstalled cfg s.seen) (fun _ => s.seen.tags)
          = ⟨.create dep.pkg v, .none, some true⟩) ∧
    (∀ kind name image rv, Guar cfg s (.updatePkg kind name image rv) →
      ∃ (l : LockObj) (d : Dag) (dep : Dep) (ref : RefInfo) (v : String) (ps : List PkgObj) (p : PkgObj) (pref : RefInfo), s.seen.lock = some l ∧ cfg.refOf dep.pkg = some ref ∧ image = fmtImage ref.str v ∧
        s.seen.pkgs = some ps ∧ p ∈ ps ∧ p.image.bind cfg.refOf = some pref ∧ pref.repo = ref.repo ∧
        kind = p.kind ∧ name = p.name ∧ rv = p.rv ∧
        reconcile cfg.o cfg.upg cfg.down l.pkgs d.keys (servedInstalled cfg s.seen) (fun _ => s.seen.tags)
          = ⟨.update dep.pkg v, .none, some true⟩) := by
  constructor
  · intro kind name image hg
    unfold Guar at hg
    obtain ⟨_, d, dep, ref, v, ⟨l, rest, hl, hi, res, hsort⟩, href, hk, hn, himg, hv0, hv, hu⟩ := hg
    refine ⟨l, d, dep, ref, v, hl, href, himg, hk, hn, ?_⟩
    have hinst : (if cfg.upg = true then servedInstalled cfg s.seen dep.pkg else none) = none := by
      by_cases hupg : cfg.upg = true
      · obtain ⟨ps, hps, hm⟩ := hu hupg
        simp [hupg, servedInstalled, href, hps, hm]
      · simp [hupg]
    unfold reconcile
    simp only [hi, hsort, hinst, hv, hv0, if_false]
  · intro kind name image rv hg
    unfold Guar at hg
    obtain ⟨_, hupg, d, dep, ref, ps, p, pref, v, ⟨l, rest, hl, hi, res, hsort⟩, href, hps, hm, hk, hn, hrv, himg, hv⟩ := hg
    have hspec := lastMatch_mem hm
    refine ⟨l, d, dep, ref, v, ps, p, pref, hl, href, himg, hps, hspec.1, hspec.2.1, hspec.2.2, hk, hn, hrv, ?_⟩
    have hinst : (if cfg.upg = true then servedInstalled cfg s.seen dep.pkg else none) = some pref.ident := by
      simp [hupg, servedInstalled, href, hps, hm]
    unfold reconcile
    unfold parentsOf at hv
    simp only [hi, hsort, hinst, hv]

/-- **No write based on a stale read lands.** If the API server accepted the reconciler's Update
of a package, then the object stored at that moment IS the object this Reconcile's List served
(same spec.package, so the installed version the selection started from is the version
installed at the moment of the write): an older cached copy, a package changed or re-created by
somebody else between the List and the Update make the Update fail instead. -/
theorem rec_update_lands_on_what_was_served (cfg : RCfg) (w : RWorld) (hc : Coh w) (hs : w.seen = {})
    (env : Env RWorld) (henv : ∀ k s, RelyW s (env k s)) (plan : Plan)
    (x : RWorld × Req) (hx : x ∈ ownE recSem env plan 0 (reconcileP cfg) w)
    (kind name image : String) (rv : Nat) (hr : x.2 = .updatePkg kind name image rv)
    (rv' : Nat) (hok : (execRec x.1 x.2).2 = .ok rv') :
    ∃ ps p, x.1.seen.pkgs = some ps ∧ p ∈ ps ∧ x.1.pkgs.find? (sameKey kind name) = some p := by
  obtain ⟨hcx, hg⟩ := (rec_every_call_justified cfg w hc hs env henv plan).1 x hx
  rw [hr] at hg hok
  unfold Guar at hg
  obtain ⟨_, _, d, dep, ref, ps, p, pref, v, _, _, hps, hm, hk, hn, hrv, _, _⟩ := hg
  have hp : p ∈ ps := (lastMatch_mem hm).1
  refine ⟨ps, p, hps, hp, ?_⟩
  -- the Update was applied, so the stored object carries the resourceVersion it was sent with
  have hstep := exec_step x.1 (.updatePkg kind name image rv)
  generalize (execRec x.1 (.updatePkg kind name image rv)).1 = w', (execRec x.1 (.updatePkg kind name image rv)).2 = resp at hstep hok
  cases hstep with
  | fail | inject => cases hok
  | updated _ _ _ _ q hf hq =>
    rw [hf, hcx.seenPkgEq ps hps p hp q (List.mem_of_find?_eq_some hf) (by rw [hq, hrv])]

/-- **The resolver never modifies the Lock's packages**: whatever the cache served and whatever
the others did, no call of the reconciler the API server applies changes the packages stored in
the Lock (its Update of the finalizer writes the packages back only when nobody wrote the Lock
since it was read; its status updates do not carry packages). -/
theorem rec_never_changes_lock_packages (cfg : RCfg) (w : RWorld) (hc : Coh w) (hs : w.seen = {})
    (env : Env RWorld) (henv : ∀ k s, RelyW s (env k s)) (plan : Plan)
    (x : RWorld × Req) (hx : x ∈ ownE recSem env plan 0 (reconcileP cfg) w) :
    (execRec x.1 x.2).1.lock.map (·.pkgs) = x.1.lock.map (·.pkgs) := by
  obtain ⟨hcx, hg⟩ := (rec_every_call_justified cfg w hc hs env henv plan).1 x hx
  obtain ⟨s, r⟩ := x
  have hstep := exec_step s r
  generalize (execRec s r).1 = s', (execRec s r).2 = resp at hstep
  cases hstep with
  | statusLock c rv l hl => simp only [hl]; rfl
  | updateLock pkgs fin rv l hl hr =>
    -- the Lock is written back as served, and the served copy at that resourceVersion is the stored one
    obtain ⟨l0, hl0, hp, hrv, _⟩ := hg
    rw [hcx.seenLockEq l0 l hl0 hl (by rw [hr, hrv])] at hp
    simp only [hl, hp]; rfl
  | _ => rfl

/-- **The long-lived reconciler carries nothing from one Reconcile to the next**: in every
sequence of Reconciles of the one reconciler (each next to its own environment and fault plan,
each on the world its predecessors and the others left behind), every call the API server applies
is justified by what was served to the Reconcile that issues it (`fresh`: the ghost record starts
empty in every Reconcile) — not by a Lock, a package list or a tag list served earlier. -/
theorem rec_sequence_every_call_justified (cfg : RCfg) (steps : List (Env RWorld × Plan))
    (henv : ∀ st ∈ steps, ∀ k s, RelyW s (st.1 k s)) (w : RWorld) (hc : Coh w) :
    ∀ x ∈ ownSteps cfg steps w, Coh x.1 ∧ Guar cfg x.1 x.2 :=
  rounds_forall (ownSteps cfg) (fun _ _ _ => rfl) Coh _ (fun _ _ _ hx => nomatch hx) steps
    (fun st hst w hw => ⟨(rec_every_call_justified cfg w.fresh hw.fresh rfl st.1 (henv st hst) st.2).1,
      rec_keeps_coherence cfg w.fresh hw.fresh st.1 (henv st hst) st.2⟩) w hc

/-! ### Resolve next to other writers of the Lock

`resolveI retry o upg lock self env` (Model) is Resolve with an environment `env : Interf` that may
replace the stored Lock right before each of Resolve's API calls after its first Get (before
RemoveSelf's Get, before RemoveSelf's Update, before the refreshing Get, before the Update that
adds the revision). A write right before an Update makes that Update fail with a conflict (the
resourceVersion moved); `retry = false` is the code as it is (the conflict error is returned),
`.lock` is the Lock as stored when Resolve returns. -/

/-- With a Lock and no failing call `resolveF` is `resolveI`: the theorems on Resolve below are
the fault-free special case. -/
theorem resolveF_without_faults (o : Oracle) (upg : Bool) (lock : List Pkg) (self : Pkg) (env : Interf) :
    resolveF o upg (some lock) self env none = (resolveI false o upg lock self env).lift := by
  unfold resolveF
  exact restF_nofault ..

/-- **Satisfied is sound next to concurrent writers.** For every lock, revision, DAG
implementation, oracle and EVERY interference `env` (arbitrary lock contents stored by other
writers at each of the four points; only the two writes Resolve reads back must leave the
revision's own entries alone, `EnvWF`): if Resolve returns no error then, in the Lock AS STORED
WHEN RESOLVE RETURNS,
* the revision is recorded with its declared dependencies,
* every direct dependency is a lock package at the pinned digest / an admitted version,
* every package reachable from the revision is a lock package. -/
theorem satisfied_sound_under_interference (o : Oracle) (upg : Bool) (lock : List Pkg) (self : Pkg) (env : Interf)
    (wf : LockWF lock self) (ewf : EnvWF env self)
    (h : (resolveI false o upg lock self env).err = .none) :
    lockNb (resolveI false o upg lock self env).lock self.source = some (self.deps.map (·.pkg)) ∧
    (∀ e ∈ self.deps, ∃ p ∈ (resolveI false o upg lock self env).lock, p.source = e.pkg ∧ VersionOk o e p.version) ∧
    (∀ m, Reach (lockNb (resolveI false o upg lock self env).lock) self.source m →
      m ∈ (resolveI false o upg lock self env).lock.map (·.source)) := by
  have hF := resolveF_without_faults o upg lock self env
  obtain ⟨L, hL, hs⟩ := resolveF_sound (lock := some lock) (f := none) (o := o) (upg := upg) (env := env)
    (fun l1 hr => by
      rcases hr with rfl | ⟨_, hnf, _⟩
      · exact ownEntry_lastRead wf ewf
      · cases hnf)
    (by rw [hF]; exact congrArg ResErrF.res h)
  rw [hF] at hL
  cases hL
  exact hs

/-- ... and the reason: a run that ends without error has no window between its last read and
its write. The stored Lock is exactly what Resolve's last Get returned (`lastRead`) when the
revision was already recorded, and otherwise that plus the revision's entry, in which case
nobody wrote between that Get and the Update (`env.upd = none`). For every `env`, no
assumption on it. -/
theorem satisfied_has_no_stale_window (o : Oracle) (upg : Bool) (lock : List Pkg) (self : Pkg) (env : Interf)
    (h : (resolveI false o upg lock self env).err = .none) :
    ((lastRead lock self env).any (fun lp => lp.name == self.name) = true ∧
      (resolveI false o upg lock self env).lock = lastRead lock self env) ∨
    ((lastRead lock self env).any (fun lp => lp.name == self.name) = false ∧ env.upd = none ∧
      (resolveI false o upg lock self env).lock = lastRead lock self env ++ [self]) := by
  have hp := resolveI_path o upg lock self env
  generalize resolveI false o upg lock self env = out at hp h ⊢
  cases hp with
  | tail d imp _ _ hupd =>
    rw [(resolveTail_spec ..).1]
    cases hpe : (lastRead lock self env).any (fun lp => lp.name == self.name) with
    | true => left; simp
    | false => right; exact ⟨rfl, hupd hpe, by simp⟩
  | _ => cases h

/-- PackageDependencyManager.Resolve (as repaired by fixes/D21.diff) returns no error for an
active revision `self` only if, in the lock it leaves behind,
* the revision is recorded with its declared dependencies,
* every direct dependency is a lock package whose version is the pinned digest, resp. a
  semantic version admitted by the declared constraint, and
* every package reachable from the revision through dependency edges is a lock package
for every well-formed lock (`LockWF`), both DAG implementations, every oracle. -/
theorem satisfied_sound (o : Oracle) (upg : Bool) (lock : List Pkg) (self : Pkg) (wf : LockWF lock self)
    (h : (resolve o upg lock self).err = .none) :
    lockNb (resolve o upg lock self).lock self.source = some (self.deps.map (·.pkg)) ∧
    (∀ e ∈ self.deps, ∃ p ∈ (resolve o upg lock self).lock, p.source = e.pkg ∧ VersionOk o e p.version) ∧
    (∀ m, Reach (lockNb (resolve o upg lock self).lock) self.source m →
      m ∈ (resolve o upg lock self).lock.map (·.source)) := by
  unfold resolve at h ⊢
  rw [← resolveI_quiet false] at h ⊢
  exact satisfied_sound_under_interference o upg lock self _ wf (EnvWF.quiet self) h

def wOracle : Oracle :=
  ⟨fun t => if t == "2.0.1" then some ⟨2, 0, 1, []⟩ else none, fun c => c == "*", fun c t => c == "*" && t == "2.0.1", fun _ => none⟩
def wLock : List Pkg := [⟨"p0", "xpkg.io/o/a", "2.0.1", [], false⟩]
def wSelf : Pkg := ⟨"p0", "xpkg.io/moved/p0", "1.0.0", [⟨"xpkg.io/o/a", "*"⟩], false⟩

/-- D21 witness: before the repair, a revision moved to another repository that depends on its
old location was reported satisfied although the old entry had just been removed from the
lock (the DAG was still the one built before the removal). `resolveG false` is the model of
the unrepaired code; the same input is in corpus/C17. -/
theorem satisfied_sound_fails_on_unfixed_witness :
    LockWF wLock wSelf ∧ (resolveG false wOracle false wLock wSelf).err = .none ∧
    ¬ (∀ e ∈ wSelf.deps, ∃ p ∈ (resolveG false wOracle false wLock wSelf).lock, p.source = e.pkg) := by
  refine ⟨⟨by decide +kernel, by decide +kernel, by decide +kernel⟩, by decide +kernel, by decide +kernel⟩

/-- ... and the repaired code reports the dependency missing on that input -/
example : (resolve wOracle false wLock wSelf).err = .missingDirect := by decide +kernel

/-- Without other writers `resolveI` is `resolve`: the theorems above are the interference-free
special case (for both values of `retry`: no conflict, nothing to retry). -/
theorem resolve_is_interference_free_case (retry : Bool) (o : Oracle) (upg : Bool) (lock : List Pkg) (self : Pkg) :
    resolveI retry o upg lock self Interf.quiet = resolve o upg lock self :=
  resolveI_quiet retry o upg lock self

/-- The conflict is the consequence of the interference: Resolve returns the conflict error iff
another writer stored something right before an Update that Resolve sends on its path (the
Update of RemoveSelf when an entry with the revision's name is there; the Update adding the
revision when the lock as last read does not have it and the DAG could be built). -/
theorem conflict_iff_interference_before_a_write (o : Oracle) (upg : Bool) (lock : List Pkg) (self : Pkg) (env : Interf)
    (hinit : ∀ e, init o upg lock ≠ .error e) :
    (resolveI false o upg lock self env).err = .conflict ↔
      (lock.any (movedEntry self) = true ∧ (env.rmGet.getD lock).any (fun lp => lp.name == self.name) = true ∧
        env.rmUpd.isSome = true) ∨
      ((∀ e, init o upg (lastRead lock self env) ≠ .error e) ∧
        (lastRead lock self env).any (fun lp => lp.name == self.name) = false ∧ env.upd.isSome = true ∧
        (lock.any (movedEntry self) = true → (env.rmGet.getD lock).any (fun lp => lp.name == self.name) = true → env.rmUpd = none)) := by
  have hp := resolveI_path o upg lock self env
  generalize resolveI false o upg lock self env = out at hp
  cases hp with
  | noDag e hi => exact absurd hi (hinit e)
  | removeRefused w hm hn hw => exact ⟨fun _ => .inl ⟨hm, hn, by rw [hw]; rfl⟩, fun _ => rfl⟩
  | noDagAfter e hrm hi =>
    refine ⟨nofun, ?_⟩
    rintro (⟨hm, hn, hu⟩ | ⟨h, _⟩)
    · rw [hrm hm hn] at hu; cases hu
    · exact absurd hi (h e)
  | updateRefused d imp w hrm hi hp hw =>
    exact ⟨fun _ => .inr ⟨fun e h => (by rw [hi] at h; cases h), hp, (by rw [hw]; rfl), hrm⟩, fun _ => rfl⟩
  | tail d imp hrm hi hu =>
    refine ⟨fun h => absurd h (resolveTail_spec ..).2.1, ?_⟩
    rintro (⟨hm, hn, hu'⟩ | ⟨_, hp, hu', _⟩)
    · rw [hrm hm hn] at hu'; cases hu'
    · rw [hu hp] at hu'; cases hu'

/-- On a conflict nothing is claimed and nothing is overwritten: the stored Lock is what the
other writer left, `installed` and `invalid` are 0. -/
theorem conflict_claims_nothing (o : Oracle) (upg : Bool) (lock : List Pkg) (self : Pkg) (env : Interf)
    (h : (resolveI false o upg lock self env).err = .conflict) :
    (env.rmUpd = some (resolveI false o upg lock self env).lock ∨ env.upd = some (resolveI false o upg lock self env).lock) ∧
    (resolveI false o upg lock self env).installed = 0 ∧ (resolveI false o upg lock self env).invalid = 0 := by
  have hp := resolveI_path o upg lock self env
  generalize resolveI false o upg lock self env = out at hp h ⊢
  cases hp with
  | removeRefused w _ _ hw => exact ⟨.inl hw, rfl, rfl⟩
  | updateRefused d imp w _ _ _ hw => exact ⟨.inr hw, rfl, rfl⟩
  | tail => exact absurd h (resolveTail_spec ..).2.1
  | _ => cases h

/-- b is in the lock when the new revision a (depending on b) reads it; b's revision removes
itself before a's Update -/
def iLock : List Pkg := [⟨"pb", "b", "2.0.1", [], false⟩]
def iSelf : Pkg := ⟨"pa", "a", "2.0.1", [⟨"b", "*"⟩], false⟩
def iEnv : Interf := { upd := some [] }

/-- the code as it is returns the conflict error on the trigger ... -/
example : (resolveI false wOracle false iLock iSelf iEnv).err = .conflict := by decide +kernel
example : LockWF iLock iSelf ∧ EnvWF iEnv iSelf :=
  ⟨⟨by decide, by decide, by decide⟩, ⟨fun w h => (by cases h), fun w h => (by cases h)⟩⟩

/-- ... whereas the variant that retries the Update on a conflict (`retry = true`: re-read,
re-append, update again, keep the DAG built from the first read) reports the dependencies
satisfied with the direct dependency b absent from the stored Lock: `satisfied_sound_under_interference`
rests on the conflict ending the call. -/
theorem satisfied_sound_fails_with_conflict_retry_witness :
    LockWF iLock iSelf ∧ EnvWF iEnv iSelf ∧ (resolveI true wOracle false iLock iSelf iEnv).err = .none ∧
    (resolveI true wOracle false iLock iSelf iEnv).installed = (resolveI true wOracle false iLock iSelf iEnv).found ∧
    ¬ (∀ e ∈ iSelf.deps, ∃ p ∈ (resolveI true wOracle false iLock iSelf iEnv).lock, p.source = e.pkg) := by
  refine ⟨⟨by decide +kernel, by decide +kernel, by decide +kernel⟩, ⟨fun w h => (by cases h), fun w h => (by cases h)⟩, by decide +kernel, by decide +kernel, by decide +kernel⟩

/-! #### laws of the interference-free Resolve that do not survive other writers -/

/-- (1) Unless the DAG cannot be built, the revision is recorded in the lock after Resolve. -/
theorem recorded_without_interference (o : Oracle) (upg : Bool) (lock : List Pkg) (self : Pkg)
    (h : (resolve o upg lock self).err ≠ .initDag) : ∃ p ∈ (resolve o upg lock self).lock, p.name = self.name :=
  ((resolve_lock o upg lock self).2.2 h).1

/-- ... next to another writer it is not (conflict on the trigger above) -/
theorem recorded_fails_under_interference_witness :
    (resolveI false wOracle false iLock iSelf iEnv).err ≠ .initDag ∧
    ¬ ∃ p ∈ (resolveI false wOracle false iLock iSelf iEnv).lock, p.name = iSelf.name := by
  refine ⟨by decide +kernel, by decide +kernel⟩

/-- (2) Resolve removes nothing but the revision's own stale entry: every other revision's
entry of the lock it read is in the lock it leaves. (This is the law a cached graph relies on.) -/
theorem frame_without_interference (o : Oracle) (upg : Bool) (lock : List Pkg) (self : Pkg) :
    ∀ p ∈ lock, p.name ≠ self.name → p ∈ (resolve o upg lock self).lock :=
  (resolve_lock o upg lock self).1

def fLock : List Pkg := [⟨"pa", "old/a", "2.0.1", [], false⟩, ⟨"pc", "c", "2.0.1", [], false⟩]
def fSelf : Pkg := ⟨"pa", "a", "2.0.1", [], false⟩
def fEnv : Interf := { refresh := some [] }

/-- ... next to another writer an entry read by Resolve can be gone when Resolve returns, even
when Resolve returns no error (here: the writer empties the lock between RemoveSelf and the
refreshing Get) -/
theorem frame_fails_under_interference_witness :
    LockWF fLock fSelf ∧ EnvWF fEnv fSelf ∧ (resolveI false wOracle false fLock fSelf fEnv).err = .none ∧
    ¬ (∀ p ∈ fLock, p.name ≠ fSelf.name → p ∈ (resolveI false wOracle false fLock fSelf fEnv).lock) := by
  refine ⟨⟨by decide +kernel, by decide +kernel, by decide +kernel⟩, ⟨fun w h => (by cases h), ?_⟩, by decide +kernel, by decide +kernel⟩
  intro w h
  cases h
  exact ⟨fun p hp => (by cases hp), fun p hp => (by cases hp)⟩

/-- (3) "Satisfied" speaks about the lock Resolve was called on: every direct dependency is a
package of that lock (or the revision itself). -/
theorem satisfied_refers_to_lock_read_first (o : Oracle) (upg : Bool) (lock : List Pkg) (self : Pkg) (wf : LockWF lock self)
    (h : (resolve o upg lock self).err = .none) : ∀ e ∈ self.deps, e.pkg ∈ (lock ++ [self]).map (·.source) := by
  intro e he
  obtain ⟨p, hp, hs, _⟩ := (satisfied_sound o upg lock self wf h).2.1 e he
  refine List.mem_map.2 ⟨p, ?_, hs⟩
  exact List.mem_append.2 (((resolve_lock o upg lock self).2.1 p hp).imp_right List.mem_singleton.2)

def rLock : List Pkg := [⟨"pa", "old/a", "2.0.1", [], false⟩]
def rEnv : Interf := { refresh := some [⟨"pb", "b", "2.0.1", [], false⟩] }

/-- ... next to another writer it speaks about the lock as last read: here b is added between
RemoveSelf and the refreshing Get, and Resolve (rightly) reports satisfied although the lock it
was called on does not hold b -/
theorem satisfied_refers_to_lock_read_first_fails_under_interference_witness :
    LockWF rLock iSelf ∧ EnvWF rEnv iSelf ∧ (resolveI false wOracle false rLock iSelf rEnv).err = .none ∧
    ¬ (∀ e ∈ iSelf.deps, e.pkg ∈ (rLock ++ [iSelf]).map (·.source)) := by
  refine ⟨⟨by decide +kernel, by decide +kernel, by decide +kernel⟩, ⟨fun w h => (by cases h), ?_⟩, by decide +kernel, by decide +kernel⟩
  intro w h
  cases h
  exact ⟨by decide +kernel, by decide +kernel⟩

def nLock : List Pkg :=
  [⟨"pa", "old/a", "2.0.1", [], false⟩, ⟨"px", "x", "2.0.1", [⟨"a", "*"⟩], false⟩, ⟨"pb", "b", "2.0.1", [⟨"c", "*"⟩], false⟩]

/-- The assumption of `satisfied_sound_under_interference` on the write read back by the
refreshing Get cannot be dropped: a writer that puts the revision's stale entry back right
after RemoveSelf removed it makes Resolve find "itself" in the lock, skip the Update, trace
from a source that is only an implied node, and report satisfied while the revision is not
recorded under its source (and c, needed by b, is absent). -/
theorem stale_entry_put_back_witness :
    LockWF nLock iSelf ∧ (resolveI false wOracle false nLock iSelf { refresh := some nLock }).err = .none ∧
    lockNb (resolveI false wOracle false nLock iSelf { refresh := some nLock }).lock iSelf.source ≠ some (iSelf.deps.map (·.pkg)) := by
  refine ⟨⟨by decide +kernel, by decide +kernel, by decide +kernel⟩, by decide +kernel, by decide +kernel⟩

/-! ### non-vacuity -/

def o0 : Oracle := ⟨fun _ => none, fun _ => false, fun _ _ => false, fun _ => none⟩

/-- a → b → c → a, plus a dependency on the absent package x -/
def cyc : List Pkg :=
  [⟨"pa", "a", "1.0.0", [⟨"b", "*"⟩], false⟩, ⟨"pb", "b", "1.0.0", [⟨"c", "*"⟩, ⟨"x", "*"⟩], false⟩,
   ⟨"pc", "c", "1.0.0", [⟨"a", "*"⟩], false⟩]

/-- diamond a → {b, c} → d -/
def dia : List Pkg :=
  [⟨"pa", "a", "1.0.0", [⟨"b", "*"⟩, ⟨"c", "*"⟩], false⟩, ⟨"pb", "b", "1.0.0", [⟨"d", "*"⟩], false⟩,
   ⟨"pc", "c", "1.0.0", [⟨"d", "*"⟩], false⟩, ⟨"pd", "d", "1.0.0", [], false⟩]

example : (match init o0 false cyc with
    | .ok (d, imp) => (match sort d ["x", "c", "b", "a"] with | .error (.cycle c) => some c | _ => none, imp.map (·.pkg))
    | .error _ => (none, [])) = (some "c", ["x"]) := by decide +kernel
example : (match init o0 true dia with
    | .ok (d, _) => ((sort d ["c", "a", "d", "b"]).toOption, (trace d "a").toOption)
    | .error _ => (none, none)) = (some ["d", "c", "b", "a"], some ["c", "d", "b"]) := by decide +kernel

/-- package a depends on a package whose identifier is the empty string (absent from the lock) -/
def eLock : List Pkg := [⟨"pa", "a", "1.0.0", [⟨"", "*"⟩, ⟨"b", "*"⟩], false⟩]

/-- the hypotheses of `sort_any_identifier` hold for a lock with the empty identifier, and there
`a` depends on "" and on b, yet Sort lists "" after a: the empty identifier is not listed
dependencies-first (while b is) -/
theorem sort_empty_identifier_listed_last_witness :
    (match init o0 false eLock with
      | .ok (d, imp) => ((sort d ["a", "", "b"]).toOption, (sort d ["b", "", "a"]).toOption, imp.map (·.pkg))
      | .error _ => (none, none, [])) = (some ["b", "a", ""], some ["b", "a", ""], ["", "b"]) ∧
    lockNb eLock "a" = some ["", "b"] ∧ (lockNb eLock "").isSome = true := by decide +kernel

/-- tags 1.0.0, 2.0.0-rc.1, 1.5.0, latest; constraint admits everything below 2.0.0 -/
def o1 : Oracle :=
  { ver := fun t => match t with
      | "1.0.0" => some ⟨1, 0, 0, []⟩ | "1.5.0" => some ⟨1, 5, 0, []⟩
      | "2.0.0-rc.1" => some ⟨2, 0, 0, [.alnum "rc", .num 1]⟩ | "2.0.0" => some ⟨2, 0, 0, []⟩
      | _ => none
    conOk := fun c => c == "<2.0.0" || c == ">=1.0.0"
    sat := fun c t => (c == "<2.0.0" && (t == "1.0.0" || t == "1.5.0")) || (c == ">=1.0.0" && t != "latest")
    digest := fun _ => none }

/-- the same tags parsed and in precedence order (what `sortTags (parseTags o1 ·)` yields) -/
def sorted1 : List VTag :=
  [⟨"1.0.0", ⟨1, 0, 0, []⟩⟩, ⟨"1.5.0", ⟨1, 5, 0, []⟩⟩, ⟨"2.0.0-rc.1", ⟨2, 0, 0, [.alnum "rc", .num 1]⟩⟩, ⟨"2.0.0", ⟨2, 0, 0, []⟩⟩]

example : ∃ r, toInstall o1 "<2.0.0" (some ["1.0.0", "2.0.0-rc.1", "latest", "1.5.0"]) = .ok r := ⟨_, rfl⟩
example : lastSat (o1.sat "<2.0.0") sorted1 "" = "1.5.0" := by decide +kernel
example : digestToUpdate o1 ["<2.0.0", ">=1.0.0"] = .ok "" := rfl
-- stay on the installed version when it is admissible; move up to the lowest admissible otherwise
example : pickUpdate (satAll o1 ["<2.0.0", ">=1.0.0"]) ⟨1, 0, 0, []⟩ false sorted1 none = some "1.0.0" := by decide +kernel
example : pickUpdate (satAll o1 [">=1.0.0"]) ⟨1, 7, 0, []⟩ false sorted1 none = some "2.0.0-rc.1" := by decide +kernel
-- installed 2.0.0-rc.1 violates <2.0.0: highest older one with downgrades, nothing without
example : pickUpdate (satAll o1 ["<2.0.0"]) ⟨2, 0, 0, [.alnum "rc", .num 1]⟩ true sorted1 none = some "1.5.0" := by decide +kernel
example : pickUpdate (satAll o1 ["<2.0.0"]) ⟨2, 0, 0, [.alnum "rc", .num 1]⟩ false sorted1 none = none := by decide +kernel
example : toUpdate o1 [">=1.0.0"] "latest" false (some ["2.0.0"]) = .panic := by decide +kernel
example : (⟨2, 0, 0, [.alnum "rc", .num 1]⟩ : Ver).le ⟨2, 0, 0, []⟩ = true ∧ (⟨2, 0, 0, []⟩ : Ver).le ⟨2, 0, 0, [.alnum "rc", .num 1]⟩ = false := by decide +kernel

/-- a satisfied Resolve: c is in the lock at 2.0.1, b depends on it, the new revision a depends on b -/
example : (resolve wOracle true
    [⟨"pc", "c", "2.0.1", [], false⟩, ⟨"pb", "b", "2.0.1", [⟨"c", "*"⟩], false⟩]
    ⟨"pa", "a", "2.0.1", [⟨"b", "*"⟩], false⟩).err = .none := by decide +kernel
example : LockWF [⟨"pc", "c", "2.0.1", [], false⟩, ⟨"pb", "b", "2.0.1", [⟨"c", "*"⟩], false⟩]
    ⟨"pa", "a", "2.0.1", [⟨"b", "*"⟩], false⟩ := ⟨by decide +kernel, by decide +kernel, by decide +kernel⟩
/-- satisfied next to writers that do not touch the closure: a status write before RemoveSelf's
Get, an unrelated package added before the refreshing Get -/
example : (resolveI false wOracle true rLock iSelf
    { rmGet := some rLock, refresh := some [⟨"pb", "b", "2.0.1", [], false⟩, ⟨"pz", "z", "2.0.1", [], false⟩] }).err = .none := by decide +kernel
example : (reconcile o0 false false cyc ["x", "c", "b", "a"] (fun _ => none) (fun _ => some [])).act = .nothing := by decide +kernel

/-- Without other writers and unless the DAG cannot be built, every entry of the Lock that carries
the revision's name after Resolve is recorded under the revision's source: the entry from before
the revision moved to another repository is gone (other revisions' dependencies on the old
source are then reported missing, not counted as present). -/
theorem moved_entry_is_removed (o : Oracle) (upg : Bool) (lock : List Pkg) (self : Pkg) (wf : LockWF lock self)
    (h : (resolve o upg lock self).err ≠ .initDag) :
    ∀ p ∈ (resolve o upg lock self).lock, p.name = self.name → p.source = self.source :=
  ((resolve_lock o upg lock self).2.2 h).2 wf

/-- No Lock object: Resolve creates it and goes on exactly as on a Lock without packages. -/
theorem absent_lock_is_the_empty_lock (o : Oracle) (upg : Bool) (self : Pkg) (env : Interf) :
    resolveF o upg none self env none = (resolveI false o upg [] self env).lift := by
  unfold resolveF
  simp only [failAt_none]
  exact restF_nofault ..

/-- **Satisfied is sound whichever call fails with whichever class** (and next to the other
writers, and with or without a Lock to begin with): Resolve returns no error only if, in the
Lock as stored when it returns, the revision is recorded with its dependencies, every direct
dependency is a lock package at an admitted version and every reachable package is a lock
package — provided every lock content one of its Gets may have returned holds only the
revision's own entries under its name / source (`OwnEntry`; `readsF` lists them: the Lock as first
read, and what the refreshing Get returns after RemoveSelf did / did not remove an entry). In
particular no error class is mistaken for success: a failed Create, RemoveSelf or Update never
leads to "satisfied". -/
theorem satisfied_sound_with_failing_calls (o : Oracle) (upg : Bool) (lock : Option (List Pkg)) (self : Pkg)
    (env : Interf) (f : Option Fault) (hown : ∀ l1 ∈ readsF lock self env, OwnEntry l1 self)
    (h : (resolveF o upg lock self env f).err = .res .none) :
    ∃ L, (resolveF o upg lock self env f).lock = some L ∧
      lockNb L self.source = some (self.deps.map (·.pkg)) ∧
      (∀ e ∈ self.deps, ∃ p ∈ L, p.source = e.pkg ∧ VersionOk o e p.version) ∧
      (∀ m, Reach (lockNb L) self.source m → m ∈ L.map (·.source)) := by
  refine resolveF_sound (fun l1 hr => hown l1 ?_) h
  unfold readsF
  rcases hr with rfl | ⟨_, _, rfl⟩
  · unfold lastRead; split <;> simp
  · simp

/-- every error class on the first Get but NotFound is "cannot get or create lock"; NotFound while
the Lock exists ends in AlreadyExists from the Create -/
example (o : Oracle) (upg : Bool) (lock : List Pkg) (self : Pkg) (env : Interf) (c : ErrClass) :
    (resolveF o upg (some lock) self env (some ⟨0, c⟩)).err = .getOrCreate (if c = .notFound then .alreadyExists else c) := by
  cases c <;> rfl

/-! ### the lock reconciler's world: non-vacuity and witnesses -/

/-- digests only: package a depends on b pinned to the digest "sha256:d" -/
def oD : Oracle := ⟨fun _ => none, fun _ => false, fun _ _ => false, fun c => if c == "sha256:d" then some "sha256:d" else none⟩
def cfgD (upg : Bool) : RCfg :=
  { o := oD, refOf := fun s => if s == "b" then some ⟨"r/b", "latest", "b", "b"⟩
                               else if s == "b@sha256:old" then some ⟨"r/b", "sha256:old", "b@sha256:old", "b"⟩ else none,
    kindOf := fun _ => "Provider", upg := upg, down := false }
def lockD : LockObj := ⟨[⟨"pa", "a", "1.0.0", [⟨"b", "sha256:d"⟩], false⟩], true, none, 1⟩
/-- quiet: the Lock cached as stored, b not installed -/
def wq : RWorld := { lock := some lockD, clock := some lockD, next := 2 }
def bLive : PkgObj := ⟨"Provider", "b", some "b@sha256:old", 5⟩
def bOld : PkgObj := ⟨"Provider", "b", some "b@sha256:old", 3⟩
/-- b installed; the cache still holds an older copy of it -/
def wStale : RWorld := { lock := some lockD, clock := some lockD, pkgs := [bLive], cpkgs := [bOld], next := 6 }
def wFresh : RWorld := { lock := some lockD, clock := some lockD, pkgs := [bLive], cpkgs := [bLive], next := 6 }

example : Coh wq ∧ wq.seen = {} := ⟨by constructor <;> simp [wq, lockD], rfl⟩
example : Coh wStale ∧ wStale.seen = {} := ⟨by constructor <;> simp [wStale, lockD, bLive, bOld], rfl⟩
example : Coh wFresh ∧ wFresh.seen = {} := ⟨by constructor <;> simp [wFresh, lockD, bLive], rfl⟩

/-- quiet world: the missing dependency is created, one write, no error -/
example : (runE recSem Env.none Plan.allOk 0 (reconcileP (cfgD false)) wq).1.pkgs.map (·.name) = ["b"] ∧
    (runE recSem Env.none Plan.allOk 0 (reconcileP (cfgD false)) wq).1.seen.writes = 1 ∧
    (runE recSem Env.none Plan.allOk 0 (reconcileP (cfgD false)) wq).2 = some ⟨.none, false⟩ := by decide +kernel

/-- upgrades on, cache up to date: the installed b is moved to the pinned digest -/
example : (runE recSem Env.none Plan.allOk 0 (reconcileP (cfgD true)) wFresh).1.pkgs.map (·.rv) = [6] ∧
    (runE recSem Env.none Plan.allOk 0 (reconcileP (cfgD true)) wFresh).2 = some ⟨.none, false⟩ := by decide +kernel

/-- `rec_update_lands_on_what_was_served` at work, cache lag: the List serves an older copy of b;
the Update computed from it is refused (Conflict), b stays as stored -/
theorem rec_stale_cached_package_update_is_refused_witness :
    (runE recSem Env.none Plan.allOk 0 (reconcileP (cfgD true)) wStale).1.pkgs = [bLive] ∧
    (runE recSem Env.none Plan.allOk 0 (reconcileP (cfgD true)) wStale).2 = some ⟨.update .conflict, false⟩ := by decide +kernel

/-- ... and interference: somebody changes b between the reconciler's List (call 1) and its Update
(call 2); the Update is refused, the other writer's b stays -/
theorem rec_package_changed_between_list_and_update_is_refused_witness :
    (runE recSem (scriptEnvW [(2, .setPkg "Provider" "b" (some "b@sha256:other"))]) Plan.allOk 0 (reconcileP (cfgD true)) wFresh).1.pkgs
      = [⟨"Provider", "b", some "b@sha256:other", 6⟩] ∧
    (runE recSem (scriptEnvW [(2, .setPkg "Provider" "b" (some "b@sha256:other"))]) Plan.allOk 0 (reconcileP (cfgD true)) wFresh).2
      = some ⟨.update .conflict, false⟩ := by decide +kernel

def bOther : PkgObj := ⟨"Provider", "b", some "b@sha256:old", 5⟩
def cfgOther : RCfg := { cfgD false with refOf := fun s => if s == "b" then some ⟨"r/b", "latest", "b", "b"⟩
                                                  else if s == "b@sha256:old" then some ⟨"r/other", "sha256:old", "b@sha256:old", "b"⟩ else none }
def wTaken : RWorld := { lock := some lockD, clock := some lockD, pkgs := [bOther], cpkgs := [bOther], next := 6 }

/-- the name b is taken by a package of another repository (r/other): the dependency is not
installed and Reconcile says so (`createTaken`), it does not report success -/
theorem rec_name_taken_by_another_repository_is_an_error_witness :
    (runE recSem Env.none Plan.allOk 0 (reconcileP cfgOther) wTaken).2 = some ⟨.createTaken, false⟩ ∧
    (runE recSem Env.none Plan.allOk 0 (reconcileP cfgOther) wTaken).1.pkgs = [bOther] ∧
    -- ... whereas a package of the dependency's own repository under that name is fine
    (runE recSem Env.none Plan.allOk 0 (reconcileP (cfgD false)) wTaken).2 = some ⟨.none, false⟩ := by decide +kernel

/-- every error class on the Get of the Lock but NotFound is returned; NotFound is not an error -/
example : ∀ e : ErrClass, (runE recSem (scriptEnvW [(0, .err e)]) Plan.allOk 0 (reconcileP (cfgD false)) wq).2
    = some ⟨if e = .notFound then .none else .getLock e, false⟩ := by
  intro e; cases e <;> decide +kernel

/-! ### finding D40: a later duplicate entry of one parent takes no part in the upgrade selection

`LockPackage.AddNeighbors` hands the DAG node the constraint of the FIRST dependency entry with
the neighbour's identifier (`neighborCons`, once per entry), while `isValidConstraints`
(`validCon`) judges every entry by its own constraint. A parent that lists a package twice,
the later entry violated, therefore makes the package "implied" (to be upgraded) but the
selection sees the first constraint only: the package is "moved" to a version that violates a
declared constraint although a tag admitted by every entry exists, and Reconcile reports
Resolved=True — on every Reconcile. Monitor: C17:update-ignores-later-duplicate-constraint. -/

def dupOracle : Oracle :=
  { ver := fun t => match t with
      | "1.0.0" => some ⟨1, 0, 0, []⟩ | "2.0.0" => some ⟨2, 0, 0, []⟩ | _ => none
    conOk := fun c => c == ">=1.0.0" || c == ">=2.0.0"
    sat := fun c t => (c == ">=1.0.0" && (t == "1.0.0" || t == "2.0.0")) || (c == ">=2.0.0" && t == "2.0.0")
    digest := fun _ => none }

/-- a depends on d twice: `>=1.0.0` and `>=2.0.0`; d is installed at 1.0.0 -/
def dupLock : List Pkg :=
  [⟨"pa", "a", "1.0.0", [⟨"d", ">=1.0.0"⟩, ⟨"d", ">=2.0.0"⟩], false⟩, ⟨"pd", "d", "1.0.0", [], false⟩]

/-- the DAG node of d carries `>=1.0.0` twice and `>=2.0.0` not at all, while d is returned as
implied because of `>=2.0.0`; on the tags 1.0.0 < 2.0.0 (in precedence order, what
`sortTags (parseTags · )` yields) the selection for the installed 1.0.0 answers 1.0.0: the
reconciler writes d = 1.0.0 again and reports success (`reconcile`: `.update "d" "1.0.0"`,
observed on the real code, corpus/C17/duplicate_entry_upgrade.jsonl); 1.0.0 violates the declared
`>=2.0.0`, 2.0.0 is admitted by both entries -/
theorem update_satisfies_every_declared_constraint_fails_on_duplicate_entries_witness :
    (match init dupOracle true dupLock with
      | .ok (d, imp) => (parentsOf d "d", imp.map (·.con))
      | .error _ => ([], [])) = ([">=1.0.0", ">=1.0.0"], [">=2.0.0"]) ∧
    digestToUpdate dupOracle [">=1.0.0", ">=1.0.0"] = .ok "" ∧
    pickUpdate (satAll dupOracle [">=1.0.0", ">=1.0.0"]) ⟨1, 0, 0, []⟩ false
      [⟨"1.0.0", ⟨1, 0, 0, []⟩⟩, ⟨"2.0.0", ⟨2, 0, 0, []⟩⟩] none = some "1.0.0" ∧
    dupOracle.sat ">=2.0.0" "1.0.0" = false ∧
    satAll dupOracle [">=1.0.0", ">=2.0.0"] "2.0.0" = true :=
  ⟨by decide +kernel, rfl, by decide +kernel, by decide +kernel, by decide +kernel⟩

/-- **What "every parent's constraint" is, for every lock.** After MapUpgradingDag.Init the
ParentConstraints of the node of a lock package `x` are `lockParents pkgs x`: one contribution
per dependency entry pointing at `x`, in lock order, each the constraint of the FIRST entry of
its parent for `x` (LockPackage.AddNeighbors). As a set: exactly the constraints of the first
entry for `x` of every lock package that depends on `x`. -/
theorem upgrade_parents_of_lock_package {o : Oracle} {pkgs : List Pkg} {d : Dag} {imp : List Dep}
    (h : init o true pkgs = .ok (d, imp)) (x : String) (hx : x ∈ pkgs.map (·.source)) :
    parentsOf d x = lockParents pkgs x ∧
    ∀ c, c ∈ parentsOf d x ↔ ∃ p ∈ pkgs, ∃ e, p.deps.find? (fun e => e.pkg == x) = some e ∧ e.con = c := by
  have hp := init_parents h x hx
  refine ⟨hp, ?_⟩
  intro c
  rw [hp]
  unfold lockParents
  simp only [List.mem_flatMap, List.mem_filter]
  constructor
  · rintro ⟨p, hpm, e0, ⟨he0, hb⟩, hc⟩
    unfold neighborCons pkgNode at hc
    simp only [if_true] at hc
    cases hf : p.deps.find? (fun e => e.pkg == x) with
    | none => rw [hf] at hc; cases hc
    | some e =>
      rw [hf] at hc
      simp only [List.mem_singleton] at hc
      exact ⟨p, hpm, e, hf, hc.symm⟩
  · rintro ⟨p, hpm, e, hf, rfl⟩
    refine ⟨p, hpm, e, ⟨List.mem_of_find?_eq_some hf, by simpa using List.find?_some hf⟩, ?_⟩
    unfold neighborCons pkgNode
    simp only [if_true, hf, List.mem_singleton]

/-- ... hence the version an installed dependency is moved to (no digest pinned) satisfies the
first entry for it of EVERY lock package that depends on it — and only the first entries: the
later entries of a parent that lists it twice take no part
(`update_satisfies_every_declared_constraint_fails_on_duplicate_entries_witness`). -/
theorem update_satisfies_first_entry_of_every_parent {o : Oracle} {pkgs : List Pkg} {d : Dag} {imp : List Dep}
    (hi : init o true pkgs = .ok (d, imp)) (x : String) (hx : x ∈ pkgs.map (·.source))
    (installed : String) (down : Bool) (tags : List String) (cur : Ver) (r : String)
    (hdg : digestToUpdate o (parentsOf d x) = .ok "") (hcur : o.ver installed = some cur)
    (h : toUpdate o (parentsOf d x) installed down (some tags) = .ok r) :
    r ∈ tags ∧ ∀ p ∈ pkgs, ∀ e, p.deps.find? (fun e => e.pkg == x) = some e → o.sat e.con r = true := by
  obtain ⟨hr, hs, _⟩ := update_min_not_older_or_max_older o _ installed down tags cur r hdg hcur h
  refine ⟨hr, ?_⟩
  intro p hp e he
  have hm : e.con ∈ parentsOf d x := ((upgrade_parents_of_lock_package hi x hx).2 e.con).2 ⟨p, hp, e, he, rfl⟩
  unfold satAll at hs
  exact (List.all_eq_true.1 hs) e.con hm

example : (match init dupOracle true dupLock with
    | .ok (d, _) => parentsOf d "d" | .error _ => []) = lockParents dupLock "d" ∧ "d" ∈ dupLock.map (·.source) := by decide +kernel

/-! ### the repository's glue: meta dependsOn ↦ lock dependencies ↦ package objects

`metaToLock` / `metaDepsToLock` mirror the switch at the top of PackageDependencyManager.Resolve,
`selfEntry` the lock entry it records, `parseSource` xpkg.ParsePackageSourceFromReference,
`depKind` / `newPackage` the switch of resolver.NewPackage / NewPackageList (constants regenerated
into Xp.Gen.C17Tables); compared with the real code on the `glue` scenarios. -/

/-- **Every declared constraint is recorded.** When Resolve accepts a package's dependsOn list,
the lock entry holds exactly one dependency per declared entry, in the declared order, each the
conversion of its own entry and carrying its own version constraint: nothing is merged, dropped
or de-duplicated (a package declared twice keeps both constraints, and `checkDeps` checks both). -/
theorem declared_constraints_all_recorded (ms : List MetaDep) (ds : List LockDep)
    (h : metaDepsToLock ms = some ds) :
    ms.map metaToLock = ds.map some ∧ ds.length = ms.length ∧ ds.map (·.con) = ms.map (·.version) := by
  have hm := metaDepsToLock_map ms ds h
  have hl : ds.length = ms.length := by
    have := congrArg List.length hm
    simpa using this.symm
  refine ⟨hm, hl, ?_⟩
  clear hl h
  induction ms generalizing ds with
  | nil => cases ds with
    | nil => rfl
    | cons _ _ => simp at hm
  | cons m ms ih =>
    cases ds with
    | nil => simp at hm
    | cons d ds =>
      simp only [List.map_cons, List.cons.injEq] at hm ⊢
      exact ⟨metaToLock_con hm.1, ih ds hm.2⟩

example : metaDepsToLock [⟨none, none, none, some "xpkg.io/o/a", none, none, ">=1.0.0"⟩,
      ⟨some "pkg.crossplane.io/v1", some "Provider", some "xpkg.io/o/a", none, none, none, "<1.0.0"⟩] =
    some [⟨"xpkg.io/o/a", none, none, some "Provider", ">=1.0.0"⟩,
      ⟨"xpkg.io/o/a", some "pkg.crossplane.io/v1", some "Provider", none, "<1.0.0"⟩] := by decide +kernel

/-- Resolve refuses the list ("encountered an invalid dependency") iff some entry names neither
apiVersion + kind + package nor one of configuration / provider / function. -/
theorem invalid_dependency_iff (ms : List MetaDep) :
    metaDepsToLock ms = none ↔
      ∃ m ∈ ms, (m.apiVersion = none ∨ m.kind = none ∨ m.pkg = none) ∧
        m.configuration = none ∧ m.provider = none ∧ m.function = none := by
  simp only [metaDepsToLock_none_iff, metaToLock_none]

example : metaDepsToLock [⟨some "pkg.crossplane.io/v1", some "Provider", none, none, none, none, "*"⟩] = none := by decide +kernel

/-- **A recorded dependency can always be constructed, as the kind its entry declared.** For
every dependency Resolve records, the switch of NewPackage / NewPackageList (over the kind table
regenerated from the tree) finds an apiVersion and kind: the explicit ones when the entry gave
apiVersion + kind + package, otherwise the package kind named by the deprecated field that was
set (configuration before provider before function). -/
theorem recorded_dependency_is_constructible (m : MetaDep) (d : LockDep) (h : metaToLock m = some d) :
    ∃ a k, depKind Xp.Gen.c17KindTable d.fields = some (a, k) ∧
      (d.type = none → some a = m.apiVersion ∧ some k = m.kind ∧ some d.pkg = m.pkg) ∧
      (∀ t, d.type = some t → k = t ∧
        ((t = "Configuration" ∧ some d.pkg = m.configuration) ∨
         (t = "Provider" ∧ m.configuration = none ∧ some d.pkg = m.provider) ∨
         (t = "Function" ∧ m.configuration = none ∧ m.provider = none ∧ some d.pkg = m.function))) := by
  rcases metaToLock_some h with ⟨a, k, p, ha, hk, hp, rfl⟩ | ⟨t, s, rfl, ht⟩
  · exact ⟨a, k, rfl, fun _ => ⟨ha.symm, hk.symm, hp.symm⟩, fun t ht => by cases ht⟩
  · -- each package type has its row in the kind table, with itself as kind
    have hk : ∃ a, depKind Xp.Gen.c17KindTable ⟨none, none, some t⟩ = some (a, t) := by
      rcases ht with ⟨rfl, _⟩ | ⟨rfl, _⟩ | ⟨rfl, _⟩ <;> exact ⟨_, rfl⟩
    obtain ⟨a, ha⟩ := hk
    refine ⟨a, t, ha, fun h => (by cases h), fun t' ht' => ?_⟩
    cases ht'
    refine ⟨rfl, ?_⟩
    rcases ht with ⟨rfl, h1⟩ | ⟨rfl, h1, h2⟩ | ⟨rfl, h1, h2, h3⟩
    · exact .inl ⟨rfl, h1.symm⟩
    · exact .inr (.inl ⟨rfl, h1, h2.symm⟩)
    · exact .inr (.inr ⟨rfl, h1, h2, h3.symm⟩)

example : newPackage Xp.Gen.c17KindTable ⟨none, none, some "Function"⟩ "v1.2.0" "xpkg.io/o/f" =
    some ("pkg.crossplane.io/v1", "Function", "xpkg.io/o/f:v1.2.0") := by decide +kernel

/-- xpkg.ParsePackageSourceFromReference, for every reference string: the digest is cut off
first, then a tag (a ':' after the last '/'); a reference with neither is kept as it is, a
registry port included; the result never carries a digest. -/
theorem parse_source_spec :
    (∀ repo tag : List Char, '@' ∉ repo → (∀ c ∈ tag, c ≠ ':' ∧ c ≠ '/' ∧ c ≠ '@') →
      parseSourceL (repo ++ ':' :: tag) = repo) ∧
    (∀ x dg : List Char, '@' ∉ x → parseSourceL (x ++ '@' :: dg) = parseSourceL x) ∧
    (∀ s : List Char, '@' ∉ s → lastIdx ':' s ≤ lastIdx '/' s → parseSourceL s = s) ∧
    (∀ s : List Char, '@' ∉ parseSourceL s) :=
  ⟨parseSourceL_tag, parseSourceL_digest, parseSourceL_bare, parseSourceL_no_at⟩

example : parseSource "localhost:5000/o/a:v1.0.0@sha256:aa" = "localhost:5000/o/a" ∧
    parseSource "localhost:5000/a" = "localhost:5000/a" ∧ parseSource "a:1" = "a" := by decide +kernel

/-- **The package created (or updated) for a dependency is a package of that dependency**: its
revision records, as Source, the identifier the dependant declared — for every identifier `r`
without tag and digest and every selected version `v` that is a digest or a tag. (So after the
package manager has installed it the implied node is a lock package: the dependency is no
longer missing, and the next Reconcile moves on.) -/
theorem created_package_records_the_dependency_source (r v : List Char) (hr : '@' ∉ r)
    (hb : lastIdx ':' r ≤ lastIdx '/' r)
    (hv : "sha256:".toList.isPrefixOf v = true ∨ ∀ c ∈ v, c ≠ ':' ∧ c ≠ '/' ∧ c ≠ '@') :
    parseSourceL (fmtImageL r v) = r := by
  unfold fmtImageL
  by_cases hp : "sha256:".toList.isPrefixOf v = true
  · rw [if_pos hp, parseSourceL_digest r v hr]
    exact parseSourceL_bare r hr hb
  · rw [if_neg hp]
    rcases hv with h | h
    · exact absurd h hp
    · exact parseSourceL_tag r v hr h

example : parseSourceL (fmtImageL "reg.io:443/o/a".toList "v1.2.3".toList) = "reg.io:443/o/a".toList ∧
    parseSourceL (fmtImageL "o/a".toList "sha256:ab".toList) = "o/a".toList := by decide +kernel

/-- the hypotheses on the identifier are needed: an identifier that itself carries a tag, pinned
to a digest, or one that carries a digest, yields a package whose source is not the identifier -/
theorem created_package_source_fails_for_tagged_identifier_witness :
    parseSourceL (fmtImageL "xpkg.io/o/a:v1".toList "sha256:ab".toList) ≠ "xpkg.io/o/a:v1".toList ∧
    parseSourceL (fmtImageL "xpkg.io/o/a@sha256:ab".toList "v2".toList) ≠ "xpkg.io/o/a@sha256:ab".toList := by decide +kernel

/-! ### regenerated call skeletons

`Xp.Gen.c17Skel…` is extracted with go/ast from the current tree on every run
(harness/main/c17_dump.go); `skel…` (Model/C17Skel.lean) is the skeleton the model's definitions
mirror, entry by entry. MapDag and MapUpgradingDag share every method but AddEdge and
AddOrUpdateNodes, hence one declared skeleton for both. -/

theorem skeleton_dag_Init : Xp.Gen.c17SkelDagInit = skelInit := rfl
theorem skeleton_upg_Init : Xp.Gen.c17SkelUpgInit = skelInit := rfl
theorem skeleton_dag_AddNodes : Xp.Gen.c17SkelDagAddNodes = skelAddNodes := rfl
theorem skeleton_upg_AddNodes : Xp.Gen.c17SkelUpgAddNodes = skelAddNodes := rfl
theorem skeleton_dag_AddNode : Xp.Gen.c17SkelDagAddNode = skelAddNode := rfl
theorem skeleton_upg_AddNode : Xp.Gen.c17SkelUpgAddNode = skelAddNode := rfl
theorem skeleton_dag_AddOrUpdateNodes : Xp.Gen.c17SkelDagAddOrUpdateNodes = skelDagAddOrUpdateNodes := rfl
theorem skeleton_upg_AddOrUpdateNodes : Xp.Gen.c17SkelUpgAddOrUpdateNodes = skelUpgAddOrUpdateNodes := rfl
theorem skeleton_dag_NodeExists : Xp.Gen.c17SkelDagNodeExists = skelNodeExists := rfl
theorem skeleton_upg_NodeExists : Xp.Gen.c17SkelUpgNodeExists = skelNodeExists := rfl
theorem skeleton_dag_TraceNode : Xp.Gen.c17SkelDagTraceNode = skelTraceNode := rfl
theorem skeleton_upg_TraceNode : Xp.Gen.c17SkelUpgTraceNode = skelTraceNode := rfl
theorem skeleton_dag_traceNode : Xp.Gen.c17SkelDagTraceNodeRec = skelTraceNodeRec := rfl
theorem skeleton_upg_traceNode : Xp.Gen.c17SkelUpgTraceNodeRec = skelTraceNodeRec := rfl
theorem skeleton_dag_GetNode : Xp.Gen.c17SkelDagGetNode = skelGetNode := rfl
theorem skeleton_upg_GetNode : Xp.Gen.c17SkelUpgGetNode = skelGetNode := rfl
theorem skeleton_dag_AddEdges : Xp.Gen.c17SkelDagAddEdges = skelAddEdges := rfl
theorem skeleton_upg_AddEdges : Xp.Gen.c17SkelUpgAddEdges = skelAddEdges := rfl
theorem skeleton_dag_AddEdge : Xp.Gen.c17SkelDagAddEdge = skelDagAddEdge := rfl
theorem skeleton_upg_AddEdge : Xp.Gen.c17SkelUpgAddEdge = skelUpgAddEdge := rfl
theorem skeleton_dag_Sort : Xp.Gen.c17SkelDagSort = skelSort := rfl
theorem skeleton_upg_Sort : Xp.Gen.c17SkelUpgSort = skelSort := rfl
theorem skeleton_dag_visit : Xp.Gen.c17SkelDagVisit = skelVisit := rfl
theorem skeleton_upg_visit : Xp.Gen.c17SkelUpgVisit = skelVisit := rfl
theorem skeleton_isValidConstraints : Xp.Gen.c17SkelIsValidConstraints = skelIsValidConstraints := rfl
theorem skeleton_ToNodes : Xp.Gen.c17SkelToNodes = skelToNodes := rfl
theorem skeleton_LockPackage_Neighbors : Xp.Gen.c17SkelLockPackageNeighbors = skelLockPackageNeighbors := rfl
theorem skeleton_Dependency_Neighbors : Xp.Gen.c17SkelDependencyNeighbors = skelDependencyNeighbors := rfl
theorem skeleton_LockPackage_AddNeighbors : Xp.Gen.c17SkelLockPackageAddNeighbors = skelLockPackageAddNeighbors := rfl
theorem skeleton_Dependency_AddNeighbors : Xp.Gen.c17SkelDependencyAddNeighbors = skelDependencyAddNeighbors := rfl
theorem skeleton_LockPackage_AddParentConstraints : Xp.Gen.c17SkelLockPackageAddParentConstraints = skelAddParentConstraints := rfl
theorem skeleton_Dependency_AddParentConstraints : Xp.Gen.c17SkelDependencyAddParentConstraints = skelAddParentConstraints := rfl
theorem skeleton_Reconcile : Xp.Gen.c17SkelReconcile = skelReconcile := rfl
theorem skeleton_findDependencyVersionToInstall : Xp.Gen.c17SkelFindInstall = skelFindInstall := rfl
theorem skeleton_checkExistingPackage : Xp.Gen.c17SkelCheckExisting = skelCheckExisting := rfl
theorem skeleton_findDependencyVersionToUpdate : Xp.Gen.c17SkelFindUpdate = skelFindUpdate := rfl
theorem skeleton_findDigestToUpdate : Xp.Gen.c17SkelFindDigest = skelFindDigest := rfl
theorem skeleton_NewPackage : Xp.Gen.c17SkelNewPackage = skelNewPackage := rfl
theorem skeleton_NewPackageList : Xp.Gen.c17SkelNewPackageList = skelNewPackageList := rfl
theorem skeleton_Resolve : Xp.Gen.c17SkelResolve = skelResolve := rfl
theorem skeleton_RemoveSelf : Xp.Gen.c17SkelRemoveSelf = skelRemoveSelf := rfl
theorem skeleton_ParsePackageSourceFromReference : Xp.Gen.c17SkelParseSource = skelParseSource := rfl

end Xp.C17
