import Xp.Proofs.C13Inv
import Xp.Proofs.C13History
import Xp.Proofs.C13Gc
import Xp.Proofs.C13Start
import Xp.Proofs.C13Progress
import Xp.Proofs.C13Cache
import Xp.Proofs.C13Runs
import Xp.Model.C13Skel
import Xp.Gen.C13
import Xp.Gen.C13Skel
/-
C13 — dynamic controllers and watches stay consistent under any interleaving.

The theorems about runs quantify over every list of engine calls `ops` (any number of goroutines, any
controllers, any kinds, any watch lists, any XR reference sets) and every state `s` with
`Reachable Cfg.fixed ops s`, i.e. every interleaving of the calls at lock granularity, every
fault of the calls that leave the engine, and every Go map iteration order; where no repair is
needed they hold for any `cfg` (`mutual_exclusion`, `no_deadlock`, `running_iff`,
`controllers_map_iff_history`, `writes_hold_locks`, `error_class_irrelevant`).
Kinds (`Wid.gvk`, the XRs' references, `removeInformer`) and controller names are opaque
numbers: the harness maps every (group, version, kind) triple — also look-alikes that differ in
the version, the API group, the case or by a suffix only — and every controller name to its own
number, so "the same kind" below always means the same group, version AND kind. Every step's
`Choice` carries the class of the error a failing call returns (`error_class_irrelevant`).
A collector call is a thread of its own with the XRs ITS List returned: the theorems about the
collector hold for each call whatever earlier calls of the same (long-lived) collector saw.
`Cfg.fixed` is the tree with fixes/D2.diff, fixes/D3.diff and fixes/D12.diff applied; the
`…_fails_on_unfixed_witness` theorems exhibit, on `Cfg.asFound` (the pinned commit), a
reachable state that breaks the clause.  Data races in the sense of the Go memory model are
outside this model (they are about unsynchronised memory accesses, the model has only the
lock protocol): `writes_hold_locks` is the lock-discipline half of "does not race".
-/
namespace Xp.C13

/-- the generated constants the harness maps to the model's watch types -/
theorem watch_type_table :
    Xp.Gen.c13WatchTypes = ["claim=Claim", "composed=ComposedResource", "rev=CompositionRevision", "xr=CompositeResource"] ∧
    Xp.Gen.c13ComposedWatchType = "ComposedResource" := ⟨rfl, rfl⟩

/-- Mutual exclusion: at no time do two goroutines hold conflicting locks
(`e.mx` or the same controller's `c.mx`, one of them for writing). -/
theorem mutual_exclusion {cfg : Cfg} {ops : List Op} {s : Sys} (h : Reachable cfg ops s)
    {i j : Nat} {ti tj : Thread} (hij : i ≠ j) (hi : s.threads[i]? = some ti) (hj : s.threads[j]? = some tj) :
    ti.pc.held.compat tj.pc.held = true :=
  Mutex_reachable h i j ti tj hij hi hj

/-- No deadlock: in every reachable state in which some call has not returned, some
goroutine can take a step (both code variants). -/
theorem no_deadlock {cfg : Cfg} {ops : List Op} {s : Sys} (h : Reachable cfg ops s)
    (hunfinished : ∃ (i : Nat) (t : Thread), s.threads[i]? = some t ∧ ¬ t.finished) :
    ∃ i ch s', step cfg s i ch = some s' :=
  progress_of_mutex (Mutex_reachable h) hunfinished

/-- Lock order `e.mx ≺ c.mx`: a goroutine that holds a controller's lock never waits. -/
theorem controller_lock_holder_never_waits {cfg : Cfg} {s : Sys} {i : Nat} {t : Thread}
    (hc : t.pc.held.c ≠ none) : ∃ ch r, next cfg s i t ch = some r := by
  apply next_enabled_of_held
  · intro e; rw [e] at hc; exact hc rfl
  · intro n cid hpc; rw [hpc] at hc; exact absurd rfl hc

/-- A goroutine that holds a read lock never waits; hence Go's writer preference (a pending
writer blocks new readers), which the model's plain reader/writer lock omits, cannot
introduce a deadlock. -/
theorem read_sections_never_wait {cfg : Cfg} {s : Sys} {i : Nat} {t : Thread}
    (hr : t.pc.held.e = .r ∨ ∃ cid, t.pc.held.c = some (cid, .r)) : ∃ ch r, next cfg s i t ch = some r := by
  apply next_enabled_of_held
  · intro e; rw [e] at hr
    rcases hr with h | ⟨cid, h⟩ <;> cases h
  · intro n cid hpc; rw [hpc] at hr
    rcases hr with h | ⟨cid, h⟩ <;> cases h

/-- Lock discipline of writes: a step that changes `e.controllers` is taken holding `e.mx`
for writing; a step that changes a controller's sources or stopped flag, or registers a
handler for it, is taken holding that controller's `c.mx` for writing. -/
theorem writes_hold_locks {cfg : Cfg} {s s' : Sys} {i : Nat} {ch : Choice} {t : Thread}
    (ht : s.threads[i]? = some t) (h : step cfg s i ch = some s') :
    (s'.ctrls ≠ s.ctrls → t.pc.held.e = .w) ∧
    (∀ cid, (srcsOf s' cid ≠ srcsOf s cid ∨ stoppedOf s' cid ≠ stoppedOf s cid ∨
        ∃ r ∈ s'.regs, r.cid = cid ∧ r ∉ s.regs) → t.pc.held.c = some (cid, .w)) := by
  obtain ⟨t', pc', act, ht', hn, hs⟩ := step_unpack h
  rw [ht] at ht'; cases ht'
  subst hs
  obtain ⟨hctrls, hctl⟩ := act_frame hn
  refine ⟨fun hne => Decidable.byContradiction fun hw => hne (hctrls hw),
    fun cid htouched => Decidable.byContradiction fun hw => ?_⟩
  obtain ⟨h1, h2, h3⟩ := hctl cid hw
  rcases htouched with h | h | ⟨r, hr, hc, hnr⟩
  · exact h h1
  · exact h h2
  · exact hnr (h3 r hr hc)

/-- `IsRunning n` answers `true` exactly when the last acknowledged `Start n`/`Stop n` before
it (in the linearisation order given by `e.mx`) is a `Start`: for every IsRunning answer in
the history, whatever happened before and after. -/
theorem running_iff {cfg : Cfg} {ops : List Op} {s : Sys} (h : Reachable cfg ops s)
    {later earlier : List Ev} {n : Nat} {b : Bool} (hlog : s.log = later ++ .isRunning n b :: earlier) :
    b = runningPer earlier n := by
  have := (RunInv_reachable h).log
  rw [hlog] at this
  exact LogOk_split this

/-- and the engine's map agrees with that history at every instant -/
theorem controllers_map_iff_history {cfg : Cfg} {ops : List Op} {s : Sys} (h : Reachable cfg ops s) (n : Nat) :
    (aget n s.ctrls).isSome = runningPer s.log n :=
  (RunInv_reachable h).map n

/-- At most one live handler registration per controller object, watch type and kind. -/
theorem one_live_watch {ops : List Op} {s : Sys} (h : Reachable Cfg.fixed ops s)
    {r1 r2 : Reg} (h1 : r1 ∈ s.regs) (h2 : r2 ∈ s.regs) (hc : r1.cid = r2.cid) (hw : r1.wid = r2.wid) : r1 = r2 := by
  have hinv := Inv_reachable h
  have o1 := hinv.own r1 h1
  have o2 := hinv.own r2 h2
  rw [hc, hw, o2] at o1
  exact hinv.regUniq r1 h1 r2 h2 (Option.some.inj o1).symm

/-- Every live registration is the one recorded in its controller's `sources` (what
`GetWatches` reports and what `Stop`/`StopWatches` will remove): no orphaned handler. -/
theorem live_registrations_are_recorded {ops : List Op} {s : Sys} (h : Reachable Cfg.fixed ops s)
    {r : Reg} (hr : r ∈ s.regs) : aget r.wid (srcsOf s r.cid) = some r.id ∧ aget r.wid.gvk s.live = some r.gen :=
  ⟨(Inv_reachable h).own r hr, (Inv_reachable h).regLive r hr⟩

/-- After `Stop` returned nil for a controller object (the `stopOk` step sets `stopped`): it
is cancelled, has no source, no live handler registration is owned by it, `e.controllers` no
longer maps any name to it — at that moment and at every later state, whatever other
goroutines (including a `StartWatches` that looked the controller up before the stop) do. -/
theorem stop_cleans {ops : List Op} {s : Sys} (h : Reachable Cfg.fixed ops s)
    {cid : Nat} {c : Ctl} (hc : s.objs[cid]? = some c) (hs : c.stopped = true) :
    c.cancelled = true ∧ c.sources = [] ∧ (∀ r ∈ s.regs, r.cid ≠ cid) ∧ (∀ n, aget n s.ctrls ≠ some cid) := by
  have hinv := Inv_reachable h
  have hst : stoppedOf s cid = true := (fieldOf_of_some _ _ hc).trans hs
  obtain ⟨h2, h3⟩ := hinv.stopClean cid hst
  refine ⟨?_, (fieldOf_of_some (·.sources) [] hc).symm.trans h2, h3, fun n hn => ?_⟩
  · exact (fieldOf_of_some (·.cancelled) false hc).symm.trans ((hinv.cancelStop cid).trans hst)
  · have := (hinv.ctlValid n cid hn).2
    rw [hst] at this
    cases this

/-- a controller is cancelled only by a successful Stop -/
theorem cancelled_only_by_stop {ops : List Op} {s : Sys} (h : Reachable Cfg.fixed ops s)
    {cid : Nat} {c : Ctl} (hc : s.objs[cid]? = some c) : c.cancelled = c.stopped :=
  (fieldOf_of_some (·.cancelled) false hc).symm.trans
    (((Inv_reachable h).cancelStop cid).trans (fieldOf_of_some (·.stopped) false hc))

/-- the name of a running controller refers to a live (not stopped, not cancelled) object -/
theorem running_controller_not_cancelled {ops : List Op} {s : Sys} (h : Reachable Cfg.fixed ops s)
    {n cid : Nat} (hn : aget n s.ctrls = some cid) : ∃ c, s.objs[cid]? = some c ∧ c.cancelled = false := by
  have hinv := Inv_reachable h
  obtain ⟨hv, hst⟩ := hinv.ctlValid n cid hn
  have hc := List.getElem?_eq_getElem hv
  exact ⟨s.objs[cid], hc, (fieldOf_of_some (·.cancelled) false hc).symm.trans ((hinv.cancelStop cid).trans hst)⟩

/-- The collector's decision, for EVERY list of XRs its List call can return — XRs that are
being deleted (deletionTimestamp set, finalizer pending), paused, without a composition
reference, not ready, not synced, with no references, with duplicate or malformed references,
with references to several versions of one kind: it asks to stop exactly the running watches
(as GetWatches listed them) of type ComposedResource whose kind none of these XRs references.
An XR references a kind as long as it is listed, whatever state it is in. -/
theorem gc_decision (running : List Wid) (xrs : List XR) (w : Wid) :
    w ∈ gcStop Cfg.fixed running (refsOf xrs) ↔
      w ∈ running ∧ w.ty = .composed ∧ ∀ x ∈ xrs, some w.gvk ∉ x.refs := by
  rw [gcStop_fixed_iff]
  simp only [Collectable, mem_refsOf, not_exists, not_and]

/-- The decision depends on the XRs' references only: two lists of XRs that differ in any of
the other fields (deleting, paused, composition reference, composition REVISION reference, ready,
synced) but carry the same references lead to the same decision (both code variants). In
particular the collector may not take one XR as representative of the others on its revision. -/
theorem gc_decision_ignores_xr_state (cfg : Cfg) (running : List Wid) (xrs xrs' : List XR)
    (h : xrs.map (·.refs) = xrs'.map (·.refs)) :
    gcStop cfg running (refsOf xrs) = gcStop cfg running (refsOf xrs') := by
  simp only [refsOf, h]

/-- XRs that share a composition revision are each inspected: a kind that ANY listed XR references is
kept, wherever in the list that XR stands and whatever an earlier XR on the same revision references
(nothing yet, other kinds). Monitors `C13:gc-stopped-referenced-watch`, `C13:gc-wrong-set`. -/
theorem gc_inspects_every_xr_of_a_revision (running : List Wid) (pre mid post : List XR) (x y : XR) (w : Wid)
    (_hrev : x.rev = y.rev) (href : some w.gvk ∈ y.refs) :
    w ∉ gcStop Cfg.fixed running (refsOf (pre ++ x :: mid ++ y :: post)) ∧
    w ∉ gcStop Cfg.fixed running (refsOf (pre ++ y :: mid ++ x :: post)) := by
  have key : ∀ xrs : List XR, y ∈ xrs → w ∉ gcStop Cfg.fixed running (refsOf xrs) :=
    fun xrs hy hw => ((gc_decision running xrs w).1 hw).2.2 y hy href
  exact ⟨key _ (by simp), key _ (by simp)⟩

/-- a new XR without references listed before an XR on the same revision that composes kind 1: the
watch on kind 1 is kept, only the unreferenced kind 2 is stopped -/
example : gcStop Cfg.fixed [⟨.composed, 1⟩, ⟨.composed, 2⟩, ⟨.xr, 9⟩]
    (refsOf [{ deleting := false, paused := false, hasCompositionRef := true, ready := false, synced := true, refs := [], rev := some 1 },
             { deleting := false, paused := false, hasCompositionRef := true, ready := true, synced := true, refs := [some 1], rev := some 1 },
             { deleting := false, paused := false, hasCompositionRef := false, ready := true, synced := true, refs := [none], rev := none }]) =
    [⟨.composed, 2⟩] := by decide

/-- the case the property names: a watch whose kind only a deleting XR references is kept -/
theorem gc_keeps_watch_referenced_by_deleting_xr (running : List Wid) (xrs : List XR) (x : XR) (w : Wid)
    (hx : x ∈ xrs) (_hdel : x.deleting = true) (href : some w.gvk ∈ x.refs) :
    w ∉ gcStop Cfg.fixed running (refsOf xrs) := by
  intro hw
  exact ((gc_decision running xrs w).1 hw).2.2 x hx href

/-- Whatever a step of `GarbageCollectWatchesNow` removes from any controller's sources is a
composed-resource watch on a kind none of the listed XRs (in whatever state) references —
under every interleaving with other calls. -/
theorem gc_only_unreferenced_composed {ops : List Op} {s s' : Sys} (h : Reachable Cfg.fixed ops s)
    {i : Nat} {ch : Choice} {t : Thread} {n : Nat} {xrs : List XR}
    (ht : s.threads[i]? = some t) (hop : t.op = .gc n xrs) (hstep : step Cfg.fixed s i ch = some s')
    {cid : Nat} {w : Wid} {reg : Nat}
    (hbefore : aget w (srcsOf s cid) = some reg) (hafter : aget w (srcsOf s' cid) = none) :
    w.ty = .composed ∧ ∀ x ∈ xrs, some w.gvk ∉ x.refs := by
  have hc := gc_step_removes_collectable (GcInv_reachable h) ht hop hstep cid w reg hbefore hafter
  refine ⟨hc.1, ?_⟩
  intro x hx href
  exact hc.2 ((mem_refsOf xrs w.gvk).2 ⟨x, hx, href⟩)

/-- in particular it never stops the watch on the XRs or on composition revisions -/
theorem gc_never_stops_xr_or_revision_watch {ops : List Op} {s s' : Sys} (h : Reachable Cfg.fixed ops s)
    {i : Nat} {ch : Choice} {t : Thread} {n : Nat} {xrs : List XR}
    (ht : s.threads[i]? = some t) (hop : t.op = .gc n xrs) (hstep : step Cfg.fixed s i ch = some s')
    {cid : Nat} {w : Wid} {reg : Nat} (hw : w.ty = .xr ∨ w.ty = .rev ∨ w.ty = .claim)
    (hbefore : aget w (srcsOf s cid) = some reg) : aget w (srcsOf s' cid) ≠ none := by
  intro hafter
  have := (gc_only_unreferenced_composed h ht hop hstep hbefore hafter).1
  rw [this] at hw
  rcases hw with h | h | h <;> cases h

/-- A collector call acts on the XRs IT listed and on nothing remembered from an earlier call:
kinds that only OTHER lists reference (the XRs an earlier run of the same collector saw, the XRs
of another composite kind, another version / API group / spelling of a kind — every such kind is
a different number) do not keep a watch. A running composed-resource watch whose exact kind none
of the XRs of this call references is in the stop set, whatever else is referenced. -/
theorem gc_reference_to_another_kind_keeps_nothing (running : List Wid) (xrs : List XR) (w : Wid)
    (hrun : w ∈ running) (hty : w.ty = .composed) (hother : ∀ x ∈ xrs, ∀ g, some g ∈ x.refs → g ≠ w.gvk) :
    w ∈ gcStop Cfg.fixed running (refsOf xrs) :=
  (gc_decision running xrs w).2 ⟨hrun, hty, fun x hx href => hother x hx w.gvk href rfl⟩

/-- No step looks at the class of the error a failing call returns (NotFound, Conflict,
AlreadyExists, Invalid, Forbidden, TooManyRequests, NoKindMatch, a Temporary() transport error, a
context deadline or cancellation, anything else): every theorem above that says "for every
fault" holds for every fault of every class, and a failing call has the same effect whatever its
class (both code variants). -/
theorem error_class_irrelevant (cfg : Cfg) (s : Sys) (i : Nat) (ch : Choice) (c : ErrClass) :
    step cfg s i { ch with cls := c } = step cfg s i ch := by
  unfold step
  cases s.threads[i]? with
  | none => rfl
  | some t =>
    have : next cfg s i t { ch with cls := c } = next cfg s i t ch := by
      -- `next` never mentions `ch.cls`: at every pc (at `idle`: for every call) both sides are one term
      obtain ⟨op, pc⟩ := t
      cases pc
      case idle => cases op <;> rfl
      all_goals rfl
    simp only [this]

/-- A collector whose List of the XRs failed — with an error of ANY class, also NotFound or
NoKindMatch ("the XRs' CRD is gone") — has seen no XR and stops nothing: the call ends with that
error and nothing else changes. -/
theorem gc_failed_list_changes_nothing {cfg : Cfg} {s s' : Sys} {i n : Nat} {xrs : List XR} {ch : Choice}
    (ht : s.threads[i]? = some ⟨.gc n xrs, .idle⟩) (hf : ch.fault = true) (h : step cfg s i ch = some s') :
    s' = { s with threads := s.threads.set i ⟨.gc n xrs, .done .err⟩ } := by
  unfold step at h
  rw [ht] at h
  simp only [next, hf, if_true, Option.some.injEq] at h
  exact h.symm

/-- A watch lost with its informer is re-established by the next start request — for a
request that runs without interference: take any reachable state in which a `StartWatches n ws`
call has not begun, controller `n` runs, and no other goroutine holds a lock (others may be
anywhere between their lock sections). Let the call run alone and without faults. It returns
nil, and every requested watch whose kind has no active informer (its informer was removed,
or never existed) — or that has no source yet — then has a live handler registration that is
recorded as the controller's source. (With interference the clause is false: finding D13,
`restart_not_guaranteed_when_informer_shared_witness` below.) -/
theorem restart_after_informer_loss {ops : List Op} {s : Sys} (h : Reachable Cfg.fixed ops s)
    {i n cid : Nat} {ws : List Wid}
    (ht : s.threads[i]? = some ⟨.startWatches n ws, .idle⟩) (hn : aget n s.ctrls = some cid)
    (hquiet : ∀ (j : Nat) (u : Thread), s.threads[j]? = some u → j ≠ i → u.pc.held = ⟨.n, none⟩) :
    ∃ k s', runThread Cfg.fixed s i k = some s' ∧ Reachable Cfg.fixed ops s' ∧
      s'.threads[i]? = some ⟨.startWatches n ws, .done .ok⟩ ∧
      ∀ w ∈ ws, (w.gvk ∉ s.tracked ∨ aget w (srcsOf s cid) = none) →
        ∃ r ∈ s'.regs, r.cid = cid ∧ r.wid = w ∧ aget w.gvk s'.live = some r.gen ∧
          aget w (srcsOf s' cid) = some r.id := by
  have hinv := Inv_reachable h
  obtain ⟨hv, hst⟩ := hinv.ctlValid n cid hn
  obtain ⟨k, s', hrun, hdone, hregs⟩ := sw_alone (s := s) ⟨hquiet, hv, hst⟩ ht hn
  have hr' := reachable_of_runThread h hrun
  refine ⟨k, s', hrun, hr', hdone, ?_⟩
  intro w hw hc
  obtain ⟨r, hr, h1, h2⟩ := hregs w hw (hc.symm)
  have hinv' := Inv_reachable hr'
  refine ⟨r, hr, h1, h2, ?_, ?_⟩
  · rw [← h2]; exact hinv'.regLive r hr
  · rw [← h2, ← h1]; exact hinv'.own r hr

/-! ### the breaks on the pinned commit (negation witnesses) -/

def rep (i k : Nat) : List (Nat × Choice) := List.replicate k (i, {})

/-- D2, concurrent form: two StartWatches calls for the same watch; the second takes its
ActiveInformers snapshot while the first is inside GetInformer. -/
def opsD2 : List Op := [.start 0, .startWatches 0 [cW 0], .startWatches 0 [cW 0], .stop 0]
def schedD2 : List (Nat × Choice) := rep 0 3 ++ rep 1 6 ++ rep 2 3 ++ rep 1 3 ++ rep 2 6
def schedD2stop : List (Nat × Choice) := schedD2 ++ rep 3 2 ++ [(3, { pick := cW 0 })] ++ rep 3 5

theorem one_live_watch_fails_on_unfixed_witness :
    ∃ s, Reachable Cfg.asFound opsD2 s ∧
      ∃ r1 ∈ s.regs, ∃ r2 ∈ s.regs, r1.cid = r2.cid ∧ r1.wid = r2.wid ∧ r1 ≠ r2 := by
  have hrun : (runSched Cfg.asFound (init opsD2) schedD2).map (·.regs) =
      some [⟨1, 0, cW 0, 0⟩, ⟨0, 0, cW 0, 0⟩] := by decide +kernel
  obtain ⟨s, hr, hregs⟩ := exists_reachable_of_runSched hrun
  refine ⟨s, hr, ?_⟩
  rw [hregs]
  exact ⟨⟨1, 0, cW 0, 0⟩, by simp, ⟨0, 0, cW 0, 0⟩, by simp, rfl, rfl, by decide⟩

/-- D2 continued: after `Stop` returned nil one registration of the stopped controller survives. -/
theorem stop_cleans_fails_on_unfixed_witness_D2 :
    ∃ s, Reachable Cfg.asFound opsD2 s ∧
      ∃ cid c, s.objs[cid]? = some c ∧ c.stopped = true ∧ ∃ r ∈ s.regs, r.cid = cid := by
  have hrun : (runSched Cfg.asFound (init opsD2) schedD2stop).map (fun s => (s.objs, s.regs)) =
      some ([⟨0, [], true, true⟩], [⟨0, 0, cW 0, 0⟩]) := by decide +kernel
  obtain ⟨s, hr, hst⟩ := exists_reachable_of_runSched hrun
  obtain ⟨hobjs, hregs⟩ := Prod.mk.inj hst
  refine ⟨s, hr, 0, ⟨0, [], true, true⟩, ?_⟩
  rw [hobjs, hregs]
  exact ⟨rfl, rfl, ⟨0, 0, cW 0, 0⟩, by simp, rfl⟩

/-- D2, sequential form: one call that names the same watch twice (an XR composing two
resources of one kind whose informer is not active yet). -/
def opsDup : List Op := [.start 0, .startWatches 0 [cW 0, cW 0]]
def schedDup : List (Nat × Choice) := rep 0 3 ++ rep 1 11

theorem one_live_watch_fails_on_unfixed_witness_sequential :
    ∃ s, Reachable Cfg.asFound opsDup s ∧
      ∃ r1 ∈ s.regs, ∃ r2 ∈ s.regs, r1.cid = r2.cid ∧ r1.wid = r2.wid ∧ r1 ≠ r2 := by
  have hrun : (runSched Cfg.asFound (init opsDup) schedDup).map (·.regs) =
      some [⟨1, 0, cW 0, 0⟩, ⟨0, 0, cW 0, 0⟩] := by decide +kernel
  obtain ⟨s, hr, hregs⟩ := exists_reachable_of_runSched hrun
  refine ⟨s, hr, ?_⟩
  rw [hregs]
  exact ⟨⟨1, 0, cW 0, 0⟩, by simp, ⟨0, 0, cW 0, 0⟩, by simp, rfl, rfl, by decide⟩

/-- D12: StartWatches looked the controller up, Stop completed, StartWatches then registered
a handler for the stopped controller. -/
def opsD12 : List Op := [.start 0, .startWatches 0 [cW 0], .stop 0]
def schedD12 : List (Nat × Choice) := rep 0 3 ++ rep 1 2 ++ rep 2 5 ++ rep 1 7

theorem stop_cleans_fails_on_unfixed_witness :
    ∃ s, Reachable Cfg.asFound opsD12 s ∧
      ∃ cid c, s.objs[cid]? = some c ∧ c.stopped = true ∧ c.sources ≠ [] ∧ ∃ r ∈ s.regs, r.cid = cid := by
  have hrun : (runSched Cfg.asFound (init opsD12) schedD12).map (fun s => (s.objs, s.regs)) =
      some ([⟨0, [(cW 0, 0)], true, true⟩], [⟨0, 0, cW 0, 0⟩]) := by decide +kernel
  obtain ⟨s, hr, hst⟩ := exists_reachable_of_runSched hrun
  obtain ⟨hobjs, hregs⟩ := Prod.mk.inj hst
  refine ⟨s, hr, 0, ⟨0, [(cW 0, 0)], true, true⟩, ?_⟩
  rw [hobjs, hregs]
  exact ⟨rfl, rfl, by simp, ⟨0, 0, cW 0, 0⟩, by simp, rfl⟩

/-- the same schedule on the fixed code: StartWatches reports that the controller is not running -/
example : (runSched Cfg.fixed (init opsD12) (rep 0 3 ++ rep 1 2 ++ rep 2 5 ++ rep 1 5)).map
    (fun s => (s.regs, s.threads.map (·.pc))) = some ([], [.done .ok, .done .notRunning, .done .ok]) := by decide +kernel

/-- D3: the collector of the pinned commit stops the XR and the CompositionRevision watch. -/
def opsD3 : List Op := [.start 0, .startWatches 0 [⟨.xr, 0⟩, ⟨.rev, 1⟩, cW 1], .gc 0 [xrLive [1]]]
def schedD3 : List (Nat × Choice) :=
  rep 0 3 ++ rep 1 13 ++ rep 2 4 ++ [(2, { perm := [⟨.xr, 0⟩, ⟨.rev, 1⟩] })] ++ rep 2 10

theorem gc_decision_fails_on_unfixed_witness :
    gcStop Cfg.asFound [⟨.xr, 0⟩, ⟨.rev, 1⟩, cW 1] [1] = [⟨.xr, 0⟩, ⟨.rev, 1⟩] := by decide

theorem gc_only_unreferenced_composed_fails_on_unfixed_witness :
    ∃ s, Reachable Cfg.asFound opsD3 s ∧ srcsOf s 0 = [(cW 1, 2)] := by
  exact exists_reachable_of_runSched (sched := schedD3) (f := fun s => srcsOf s 0) (by decide +kernel)

/-- D13 (recorded as a finding, present in the fixed code as well): an informer shared by two
controllers is removed; the first controller to call StartWatches re-creates it; the second
controller's StartWatches then sees "watch exists and informer active", skips, and keeps a
source whose handler died with the old informer. -/
def opsD13 : List Op := [.start 0, .start 1, .startWatches 0 [cW 0], .startWatches 1 [cW 0], .removeInformer 0,
  .startWatches 1 [cW 0], .startWatches 0 [cW 0]]
def schedD13 : List (Nat × Choice) := rep 0 3 ++ rep 1 3 ++ rep 2 10 ++ rep 3 10 ++ rep 4 1 ++ rep 5 10 ++ rep 6 5

theorem restart_not_guaranteed_when_informer_shared_witness :
    ∃ s, Reachable Cfg.fixed opsD13 s ∧ (∀ t ∈ s.threads, t.finished) ∧
      aget (cW 0) (srcsOf s 0) = some 0 ∧ ∀ r ∈ s.regs, r.cid ≠ 0 := by
  have hrun : (runSched Cfg.fixed (init opsD13) schedD13).map (fun s => (s.threads.map (·.pc), srcsOf s 0, s.regs)) =
      some (List.replicate 7 (.done .ok), [(cW 0, 0)], [⟨2, 1, cW 0, 1⟩]) := by decide +kernel
  obtain ⟨s, hr, hst⟩ := exists_reachable_of_runSched hrun
  simp only [Prod.mk.injEq] at hst
  obtain ⟨h1, h2, h3⟩ := hst
  refine ⟨s, hr, ?_, ?_, ?_⟩
  · intro t ht
    have : t.pc ∈ s.threads.map (·.pc) := List.mem_map_of_mem ht
    rw [h1] at this
    exact ⟨.ok, (List.mem_replicate.1 this).2⟩
  · rw [h2]; decide
  · rw [h3]; intro r hr; simp at hr; subst hr; decide

/-! ### non-vacuity: the hypotheses are met by busy states -/

/-- a reachable state of the fixed engine with two controllers, three live registrations on
two informers, after a concurrent mix of calls -/
example : ∃ s, Reachable Cfg.fixed
    [.start 0, .start 1, .startWatches 0 [⟨.xr, 0⟩, cW 1], .startWatches 1 [cW 1], .gc 0 [xrLive [1]]] s ∧
    s.regs.length = 3 ∧ s.ctrls.length = 2 := by
  obtain ⟨s, hr, hst⟩ := exists_reachable_of_runSched (cfg := Cfg.fixed) (f := fun s => (s.regs.length, s.ctrls.length)) (v := (3, 2))
    (ops := [.start 0, .start 1, .startWatches 0 [⟨.xr, 0⟩, cW 1], .startWatches 1 [cW 1], .gc 0 [xrLive [1]]])
    (sched := rep 0 3 ++ rep 1 3 ++ rep 2 12 ++ rep 3 10 ++ rep 4 5) (by decide +kernel)
  exact ⟨s, hr, Prod.mk.inj hst⟩

/-- restart after informer loss, concretely: a controller with two watches (XR and composed) on
one kind loses the informer; one StartWatches call re-establishes both on the new informer
(generation 1), none is skipped because the other one re-created the informer -/
example : (runSched Cfg.fixed
      (init [.start 0, .startWatches 0 [⟨.xr, 0⟩, cW 0], .removeInformer 0, .startWatches 0 [⟨.xr, 0⟩, cW 0]])
      (rep 0 3 ++ rep 1 12 ++ rep 2 1 ++ rep 3 12)).map
    (fun s => (s.regs.map (fun r => (r.wid, r.gen)), s.threads.map (·.pc))) =
    some ([(cW 0, 1), (⟨.xr, 0⟩, 1)], [.done .ok, .done .ok, .done .ok, .done .ok]) := by decide +kernel

/-- the collector with a deleting, paused, unready XR that alone references kind 0, a live XR
referencing version 2 of kind 1 (kind number 1001) and a malformed reference: the watch on kind
0 is kept, the watch on (version 1 of) kind 1 is stopped, the XR watch is kept -/
example : (runSched Cfg.fixed
      (init [.start 0, .startWatches 0 [⟨.xr, 7⟩, cW 0, cW 1],
             .gc 0 [⟨true, true, false, false, false, [some 0, some 0], some 1⟩, ⟨false, false, true, true, true, [some 1001, none], some 1⟩]])
      (rep 0 3 ++ rep 1 14 ++ rep 2 4 ++ [(2, { perm := [cW 1] })] ++ rep 2 8)).map
    (fun s => ((srcsOf s 0).map (·.1), s.threads.map (·.pc))) =
    some ([cW 0, ⟨.xr, 7⟩], [.done .ok, .done .ok, .done (.count 1 true)]) := by decide +kernel

/-- the interleaving of D2 on the fixed engine (whose StartWatches takes one step more, the second
look at the active informers under the lock): the second call finds the kind active and does not
start a second source -/
example : (runSched Cfg.fixed (init opsD2) (rep 0 3 ++ rep 1 7 ++ rep 2 3 ++ rep 1 3 ++ rep 2 5)).map
    (fun s => s.regs.length) = some 1 := by decide +kernel

/-! ### regenerated control-flow skeletons (tie "(a) Regenerated facts" of DESIGN.md 2.3)

`Xp.Gen.c13Flow…` is extracted from the CURRENT source by harness/main/c13_dump.go on every run:
lock operations, deferred unlocks, early returns, loops with their break / continue, the calls that
leave the engine, the writes to the engine's maps and flags, and the text of every condition.
`skeleton_<fn>`: it equals the skeleton declared in Model/C13Skel.lean, where every entry names the
model step that mirrors it. `trace_<fn>`: the sequences of lock operations (DERIVED from `Pc.held`,
the lock state all the theorems above are about), calls and writes that the model performs for that
function — on the longest path, on every early return and on the error paths — are paths of the
regenerated skeleton (`accepts`: deferred calls run last-in-first-out at the return). Moving an
unlock before a call, dropping the re-check under the write lock, releasing `e.mx` early in `Stop`,
swapping two acquisitions, or a new early return between them breaks one of these. -/

theorem skeleton_start : Xp.Gen.c13FlowStart = flowStart := rfl
theorem skeleton_stop : Xp.Gen.c13FlowStop = flowStop := rfl
theorem skeleton_isRunning : Xp.Gen.c13FlowIsRunning = flowIsRunning := rfl
theorem skeleton_startWatches : Xp.Gen.c13FlowStartWatches = flowStartWatches := rfl
theorem skeleton_getWatches : Xp.Gen.c13FlowGetWatches = flowGetWatches := rfl
theorem skeleton_stopWatches : Xp.Gen.c13FlowStopWatches = flowStopWatches := rfl
theorem skeleton_getCached : Xp.Gen.c13FlowGetCached = flowGetter ∧ Xp.Gen.c13FlowGetUncached = flowGetter := ⟨rfl, rfl⟩
theorem skeleton_gcInformers : Xp.Gen.c13FlowGCInformers = flowGCInformers := rfl
theorem skeleton_sourceStart : Xp.Gen.c13FlowSourceStart = flowSourceStart := rfl
theorem skeleton_sourceStop : Xp.Gen.c13FlowSourceStop = flowSourceStop := rfl
theorem skeleton_gcNow : Xp.Gen.c13FlowGCNow = flowGCNow := rfl
theorem skeleton_gcLoop : Xp.Gen.c13FlowGCLoop = flowGCLoop := rfl
theorem skeleton_activeInformers : Xp.Gen.c13FlowActiveInformers = flowActiveInformers := rfl
theorem skeleton_cacheGet : Xp.Gen.c13FlowCacheGet = flowCacheRead preGVK "Get" := rfl
theorem skeleton_cacheList : Xp.Gen.c13FlowCacheList = flowCacheRead preList "List" := rfl
theorem skeleton_cacheGetInformer : Xp.Gen.c13FlowCacheGetInformer = flowCacheRead preGVK "GetInformer" := rfl
theorem skeleton_cacheGetInformerForKind : Xp.Gen.c13FlowCacheGetInformerForKind = flowCacheRead [] "GetInformerForKind" := rfl
theorem skeleton_cacheRemoveInformer : Xp.Gen.c13FlowCacheRemoveInformer = flowCacheRemove := rfl

/-- The anchored callers hand the engine what the scenarios assume: XR and revision watches and the
collector under the controller's own name and XR kind (definition reconciler), claim and XR watches
without a collector (offered reconciler), composed-resource watches only, one per resource
reference (XR reconciler). -/
theorem callers_engine_calls :
    Xp.Gen.c13CallsDefinition = callsDefinition ∧ Xp.Gen.c13CallsDefinitionOptions = callsDefinitionOptions ∧
    Xp.Gen.c13CallsOffered = callsOffered ∧ Xp.Gen.c13CallsComposite = callsComposite :=
  ⟨rfl, rfl, rfl, rfl⟩

/-- the schedules of the `trace_…` theorems (Proofs/C13Runs.lean) end where they should, so the traces
are traces of complete calls -/
example : (runTrace Cfg.fixed (init opsSeq) schedSeq).map (fun r => r.1.threads.map (·.pc)) =
    some [.done .ok, .done .ok, .done .ok, .done (.count 1 true), .done .ok, .done .notRunning, .done .notRunning,
          .done .notRunning, .done .ok, .done .ok, .done (.bool true), .done (.watches []), .done (.count 0 true), .done .ok] := pcs_of_run run_seq
example : (runTrace Cfg.fixed (init opsErr) schedErr).map (fun r => r.1.threads.map (·.pc)) =
    some [.done .err, .done .ok, .done .err, .done .err, .done .ok, .done (.count 0 false), .done (.count 0 false),
          .done .err, .done .err] := pcs_of_run run_err
example : (runTrace Cfg.fixed (init opsStraddle) schedStraddle).map (fun r => r.1.threads.map (·.pc)) =
    some [.done .ok, .done .notRunning, .relE .ok] := pcs_of_run run_straddle
example : (runTrace Cfg.fixed (init opsGc) schedGc).map (fun r => r.1.threads.map (·.pc)) =
    some [.done .ok, .done .ok, .done (.count 1 true), .done .ok, .done .err, .done .err] := pcs_of_run run_gc

/-- `Start`: new controller; already running (early return under the deferred unlock); NewControllerFn fails -/
theorem trace_start :
    isPath skipStart Xp.Gen.c13FlowStart (traceOf Cfg.fixed opsSeq schedSeq 0 .start) = true ∧
    isPath skipStart Xp.Gen.c13FlowStart (traceOf Cfg.fixed opsSeq schedSeq 9 .start) = true ∧
    isPath skipStart Xp.Gen.c13FlowStart (traceOf Cfg.fixed opsErr schedErr 0 .start) = true ∧
    traceOf Cfg.fixed opsSeq schedSeq 0 .start = some ["mx.Lock", "co.nc", "set controllers[]", "mx.Unlock"] := by
  simp only [traceOf_of_run run_seq, traceOf_of_run run_err]
  decide +kernel

/-- `Stop`: `e.mx` then `c.mx`, sources stopped and deleted one by one, cancel / stopped / delete
under both locks, released in reverse order; not running; a failing source Stop returns with the
controller still registered -/
theorem trace_stop :
    isPath [] Xp.Gen.c13FlowStop (traceOf Cfg.fixed opsSeq schedSeq 4 .stop) = true ∧
    isPath [] Xp.Gen.c13FlowStop (traceOf Cfg.fixed opsSeq schedSeq 13 .stop) = true ∧
    isPath [] Xp.Gen.c13FlowStop (traceOf Cfg.fixed opsErr schedErr 7 .stop) = true ∧
    isPath [] Xp.Gen.c13FlowStop (traceOf Cfg.fixed opsErr schedErr 8 .stop) = true ∧
    traceOf Cfg.fixed opsSeq schedSeq 4 .stop =
      some ["mx.Lock", "c.mx.Lock", "w.Stop", "delete c.sources", "c.cancel", "set c.stopped", "delete controllers",
            "c.mx.Unlock", "mx.Unlock"] := by
  simp only [traceOf_of_run run_seq, traceOf_of_run run_err]
  decide +kernel

theorem trace_isRunning :
    isPath [] Xp.Gen.c13FlowIsRunning (traceOf Cfg.fixed opsSeq schedSeq 10 .isRunning) = true ∧
    traceOf Cfg.fixed opsSeq schedSeq 10 .isRunning = some ["mx.RLock", "mx.RUnlock"] := by
  simp only [traceOf_of_run run_seq]
  decide +kernel

/-- `StartWatches`: two watches started and a duplicate skipped; nothing to start (returns after
the read section); not running; D12's re-check under the write lock; the three error returns -/
theorem trace_startWatches :
    isPath skipStartWatches Xp.Gen.c13FlowStartWatches (traceOf Cfg.fixed opsSeq schedSeq 1 .startWatches) = true ∧
    isPath skipStartWatches Xp.Gen.c13FlowStartWatches (traceOf Cfg.fixed opsSeq schedSeq 2 .startWatches) = true ∧
    isPath skipStartWatches Xp.Gen.c13FlowStartWatches (traceOf Cfg.fixed opsSeq schedSeq 5 .startWatches) = true ∧
    isPath skipStartWatches Xp.Gen.c13FlowStartWatches (traceOf Cfg.fixed opsStraddle schedStraddle 1 .startWatches) = true ∧
    isPath skipStartWatches Xp.Gen.c13FlowStartWatches (traceOf Cfg.fixed opsErr schedErr 2 .startWatches) = true ∧
    isPath skipStartWatches Xp.Gen.c13FlowStartWatches (traceOf Cfg.fixed opsErr schedErr 3 .startWatches) = true ∧
    traceOf Cfg.fixed opsSeq schedSeq 1 .startWatches =
      some ["mx.RLock", "mx.RUnlock", "infs.ActiveInformers", "c.mx.RLock", "c.mx.RUnlock", "c.mx.Lock",
            "infs.ActiveInformers", "c.ctrl.Watch", "set c.sources[]", "set started[]", "c.ctrl.Watch",
            "set c.sources[]", "set started[]", "c.mx.Unlock"] ∧
    traceOf Cfg.fixed opsStraddle schedStraddle 1 .startWatches =
      some ["mx.RLock", "mx.RUnlock", "infs.ActiveInformers", "c.mx.RLock", "c.mx.RUnlock", "c.mx.Lock", "c.mx.Unlock"] := by
  simp only [traceOf_of_run run_seq, traceOf_of_run run_straddle, traceOf_of_run run_err]
  decide +kernel

theorem trace_getWatches :
    isPath [] Xp.Gen.c13FlowGetWatches (traceOf Cfg.fixed opsSeq schedSeq 11 .getWatches) = true ∧
    isPath [] Xp.Gen.c13FlowGetWatches (traceOf Cfg.fixed opsSeq schedSeq 7 .getWatches) = true ∧
    isPath [] Xp.Gen.c13FlowGetWatches (traceOf Cfg.fixed opsGc schedGc 2 .getWatches) = true ∧
    isPath [] Xp.Gen.c13FlowGetWatches (traceOf Cfg.fixed opsGc schedGc 4 .getWatches) = true ∧
    traceOf Cfg.fixed opsSeq schedSeq 11 .getWatches = some ["mx.RLock", "mx.RUnlock", "c.mx.RLock", "c.mx.RUnlock"] := by
  simp only [traceOf_of_run run_seq, traceOf_of_run run_gc]
  decide +kernel

/-- `StopWatches`: a watch without source skipped and one stopped; nothing to stop; not running;
the collector's call; a failing source Stop -/
theorem trace_stopWatches :
    isPath [] Xp.Gen.c13FlowStopWatches (traceOf Cfg.fixed opsSeq schedSeq 3 .stopWatches) = true ∧
    isPath [] Xp.Gen.c13FlowStopWatches (traceOf Cfg.fixed opsSeq schedSeq 12 .stopWatches) = true ∧
    isPath [] Xp.Gen.c13FlowStopWatches (traceOf Cfg.fixed opsSeq schedSeq 6 .stopWatches) = true ∧
    isPath [] Xp.Gen.c13FlowStopWatches (traceOf Cfg.fixed opsGc schedGc 2 .stopWatches) = true ∧
    isPath [] Xp.Gen.c13FlowStopWatches (traceOf Cfg.fixed opsErr schedErr 5 .stopWatches) = true ∧
    isPath [] Xp.Gen.c13FlowStopWatches (traceOf Cfg.fixed opsErr schedErr 6 .stopWatches) = true ∧
    traceOf Cfg.fixed opsSeq schedSeq 3 .stopWatches =
      some ["mx.RLock", "mx.RUnlock", "c.mx.RLock", "c.mx.RUnlock", "c.mx.Lock", "w.Stop", "delete c.sources", "c.mx.Unlock"] := by
  simp only [traceOf_of_run run_seq, traceOf_of_run run_gc, traceOf_of_run run_err]
  decide +kernel

/-- `StoppableSource.Start` / `Stop`, as run inside StartWatches, StopWatches and Stop -/
theorem trace_source :
    isPath skipSourceStart Xp.Gen.c13FlowSourceStart (traceOf Cfg.fixed opsErr schedErr 4 .srcStart) = true ∧
    isPath skipSourceStart Xp.Gen.c13FlowSourceStart (traceOf Cfg.fixed opsErr schedErr 2 .srcStart) = true ∧
    isPath skipSourceStart Xp.Gen.c13FlowSourceStart (traceOf Cfg.fixed opsErr schedErr 3 .srcStart) = true ∧
    isPath [] Xp.Gen.c13FlowSourceStop (traceOf Cfg.fixed opsSeq schedSeq 3 .srcStop) = true ∧
    isPath [] Xp.Gen.c13FlowSourceStop (traceOf Cfg.fixed opsSeq schedSeq 4 .srcStop) = true ∧
    isPath [] Xp.Gen.c13FlowSourceStop (traceOf Cfg.fixed opsErr schedErr 5 .srcStop) = true ∧
    isPath [] Xp.Gen.c13FlowSourceStop (traceOf Cfg.fixed opsErr schedErr 6 .srcStop) = true ∧
    traceOf Cfg.fixed opsErr schedErr 4 .srcStart = some ["infs.GetInformer", "i.AddEventHandler", "set reg"] ∧
    traceOf Cfg.fixed opsSeq schedSeq 4 .srcStop = some ["infs.GetInformer", "i.RemoveEventHandler", "set reg"] := by
  simp only [traceOf_of_run run_err, traceOf_of_run run_seq]
  decide +kernel

/-- `GarbageCollectWatchesNow`: List through the cached client, GetWatches, StopWatches; nothing
to stop; GetWatches fails; List fails -/
theorem trace_gcNow :
    isPath skipGCNow Xp.Gen.c13FlowGCNow (traceOf Cfg.fixed opsGc schedGc 2 .gcNow) = true ∧
    isPath skipGCNow Xp.Gen.c13FlowGCNow (traceOf Cfg.fixed opsGc schedGc 3 .gcNow) = true ∧
    isPath skipGCNow Xp.Gen.c13FlowGCNow (traceOf Cfg.fixed opsGc schedGc 4 .gcNow) = true ∧
    isPath skipGCNow Xp.Gen.c13FlowGCNow (traceOf Cfg.fixed opsGc schedGc 5 .gcNow) = true ∧
    traceOf Cfg.fixed opsGc schedGc 2 .gcNow =
      some ["engine.GetCached", "engine.GetCached.List", "engine.GetWatches", "engine.StopWatches"] := by
  simp only [traceOf_of_run run_gc]
  decide +kernel

/-- the interpreter discriminates: `Stop` releasing `e.mx` before `c.mx`, a `Stop` that cancels
before it stopped the source, a StartWatches that does not list the active informers again under
the write lock, and one that keeps holding the read lock while it takes the write lock are NOT
paths of the skeletons -/
example : accepts [] 400 flowStop [] ["mx.Lock", "c.mx.Lock", "w.Stop", "delete c.sources", "c.cancel", "set c.stopped",
    "delete controllers", "mx.Unlock", "c.mx.Unlock"] = false := by decide +kernel
example : accepts [] 400 flowStop [] ["mx.Lock", "c.mx.Lock", "c.cancel", "w.Stop", "delete c.sources", "set c.stopped",
    "delete controllers", "c.mx.Unlock", "mx.Unlock"] = false := by decide +kernel
example : accepts skipStartWatches 400 flowStartWatches [] ["mx.RLock", "mx.RUnlock", "infs.ActiveInformers", "c.mx.RLock",
    "c.mx.RUnlock", "c.mx.Lock", "c.ctrl.Watch", "set c.sources[]", "set started[]", "c.mx.Unlock"] = false := by decide +kernel
example : accepts skipStartWatches 400 flowStartWatches [] ["mx.RLock", "mx.RUnlock", "infs.ActiveInformers", "c.mx.RLock",
    "c.mx.Lock", "c.mx.RUnlock", "c.mx.Unlock"] = false := by decide +kernel

/-- Every step of the model that changes the shared state is an event of some Go function: no
model step is without a counterpart in the skeletons (the ghost log of IsRunning aside). -/
theorem state_changing_steps_are_events {cfg : Cfg} {s : Sys} {i : Nat} {t : Thread} {ch : Choice} {pc' : Pc} {act : Act}
    (h : next cfg s i t ch = some (pc', act)) (hact : act ≠ .nop) (hlog : ∀ e, act ≠ .logEv e) :
    callEvents cfg t pc' act ≠ [] := by
  -- each action is taken at a known pc (`act_at`); there `callEvents` lists its events
  obtain ⟨op, pc⟩ := t
  cases act
  case nop => exact absurd rfl hact
  case logEv e => exact absurd rfl (hlog e)
  case newCtl n => cases (act_at h : pc = _); exact List.cons_ne_nil _ _
  case finishStop n cid => obtain ⟨rfl, _⟩ := act_at h; exact List.cons_ne_nil _ _
  case getInformer g f => cases next_inv h <;> exact List.cons_ne_nil _ _
  case addReg cid wid h' => obtain ⟨_, _, _, rfl, _⟩ := act_at h; exact List.cons_ne_nil _ _
  case delReg cid wid reg =>
    rcases act_at h with ⟨_, _, rfl⟩ | ⟨_, _, _, rfl⟩
    · exact List.cons_ne_nil _ _
    · exact List.cons_ne_nil _ _
  case rmInformer g => obtain ⟨_, rfl⟩ := act_at h; exact List.cons_ne_nil _ _

/-! ### the tracking set is exact at the engine's level -/

/-- `RemoveInformer g` (one step of the engine model; `cache_ops_are_atomic` justifies the single
step): afterwards the kind is not active, its informer is gone and no handler sits on it — so the
next `StartWatches` sees the kind as not active and restarts the watch. Monitors
`C13:removed-informer-still-active`, `C13:removed-informer-still-live` on the real cache. -/
theorem remove_informer_effect {cfg : Cfg} {s s' : Sys} {i g : Nat} {ch : Choice}
    (ht : s.threads[i]? = some ⟨.removeInformer g, .idle⟩) (h : step cfg s i ch = some s') :
    g ∉ s'.tracked ∧ aget g s'.live = none ∧ ∀ r ∈ s'.regs, r.wid.gvk ≠ g := by
  unfold step at h
  simp only [ht, next, Option.some.injEq] at h
  subst h
  refine ⟨?_, ?_, ?_⟩
  · simp [Act.apply]
  · simp only [Act.apply]; exact aget_adel_self g _
  · intro r hr
    simp only [Act.apply, List.mem_filter, decide_eq_true_eq] at hr
    exact hr.2

/-- Get / List / GetInformer / GetInformerForKind through the tracking cache mark the kind active,
also when the wrapped cache fails (cache.go writes `active` before it calls it). Monitor
`C13:read-informer-not-active`. -/
theorem cache_read_marks_active {cfg : Cfg} {s s' : Sys} {i g : Nat} {ch : Choice}
    (ht : s.threads[i]? = some ⟨.cacheRead g, .idle⟩) (h : step cfg s i ch = some s') :
    g ∈ s'.tracked := by
  unfold step at h
  simp only [ht, next, Option.some.injEq] at h
  subst h
  exact (apply_getInformer_tracked g _ _ g).2 (Or.inl rfl)

example : (runSched Cfg.fixed (init [.cacheRead 3, .removeInformer 3, .cacheRead 4]) [(0, {}), (1, {}), (2, { fault := true })]).map
    (fun s => (s.tracked, s.live)) = some ([4], []) := by decide +kernel

/-! ### cache.go at lock granularity: the tracking cache's operations are atomic

Model/C13Cache.lean splits every entry point of InformerTrackingCache at each acquire / release of
the cache's own RW lock (read section, the gap between `RUnlock` and `Lock`, write section that
writes `active` without looking again). The theorems quantify over every initial cache state `b`,
every list of operations `ops` (any number of goroutines, any kinds), every interleaving and every
fault of the wrapped cache. They discharge, inside the model, the assumption under which the
engine model above treats `Act.getInformer` / `Act.rmInformer` / the read of `tracked` as single
steps. -/

/-- no reader and writer, and no two writers, of `active` at the same time -/
theorem cache_mutual_exclusion {b : Sys} {ops : List COp} {s : CSys} (h : CReach b ops s)
    {i j : Nat} {ti tj : CThread} (hij : i ≠ j) (hi : s.threads[i]? = some ti) (hj : s.threads[j]? = some tj) :
    ti.pc.held.compat tj.pc.held = true :=
  (CInv_reach h).mutex i j ti tj hij hi hj

/-- `active` is written only by a goroutine that holds the write lock before and after the write -/
theorem cache_writes_hold_lock {s s' : CSys} {i : Nat} {f : Bool} {t : CThread}
    (ht : s.threads[i]? = some t) (h : cstep s i f = some s') (hw : s'.base.tracked ≠ s.base.tracked) :
    t.pc.held = .w ∧ ∃ t', s'.threads[i]? = some t' ∧ t'.pc.held = .w := by
  obtain ⟨t', pc', b', ht', hn, rfl⟩ := cstep_unpack h
  rw [ht] at ht'; cases ht'
  rcases cnext_tracked hn with htr | hwr
  · exact absurd htr hw
  · exact ⟨by rw [hwr.1]; rfl, { t with pc := pc' }, by simp only [getElem?_set_of_some ht, if_true], hwr.2⟩

/-- The lock dance cannot deadlock: in EVERY state with an unfinished operation some goroutine can
take a step (a holder of the lock never waits; when nobody holds it every waiter may take it). -/
theorem cache_no_deadlock {s : CSys} {k : Nat} {tk : CThread}
    (hk : s.threads[k]? = some tk) (hnd : ∀ f, tk.pc ≠ .done f) :
    ∃ i f s', cstep s i f = some s' := by
  by_cases hh : ∃ (j : Nat) (u : CThread), s.threads[j]? = some u ∧ u.pc.held ≠ .n
  · obtain ⟨j, u, hu, hheld⟩ := hh
    obtain ⟨p, hp⟩ := cnext_enabled (s := s) (i := j) (t := u) (fun f e => hheld (by rw [e]; rfl)) (fun e => absurd e hheld)
    exact ⟨j, false, _, by simp only [cstep, hu, hp]; rfl⟩
  · have hfree : ∀ m, cfree s k m = true := by
      intro m
      rw [cfree_iff]
      intro j u hu _
      have : u.pc.held = .n := Classical.byContradiction fun hn => hh ⟨j, u, hu, hn⟩
      rw [this]; exact Mode.compat_n m
    obtain ⟨p, hp⟩ := cnext_enabled (s := s) (i := k) hnd (fun _ => hfree)
    exact ⟨k, false, _, by simp only [cstep, hk, hp]; rfl⟩

/-- Every step of an entry point either leaves the cache state alone, or is THE step of that call
(it has exactly one: `applied` turns true and never back) and changes the state exactly as the single
step of the engine model does: `Act.getInformer g fault` for Get / List / GetInformer /
GetInformerForKind, `Act.rmInformer g` for RemoveInformer, nothing for ActiveInformers — on the
fast path under the read lock as well as after the upgrade to the write lock, whatever other
goroutines did in the gap. -/
theorem cache_ops_are_atomic {b : Sys} {ops : List COp} {s s' : CSys} (h : CReach b ops s)
    {i : Nat} {f : Bool} {t : CThread} (ht : s.threads[i]? = some t) (hs : cstep s i f = some s') :
    ∃ t', s'.threads[i]? = some t' ∧ t'.op = t.op ∧
      ((t'.pc.applied = t.pc.applied ∧ s'.base = s.base) ∨
       (t.pc.applied = false ∧ t'.pc.applied = true ∧ s'.base = (atomicAct t.op f).apply s.base)) := by
  obtain ⟨t', pc', b', ht', hn, rfl⟩ := cstep_unpack hs
  rw [ht] at ht'; cases ht'
  exact ⟨{ t with pc := pc' }, by simp only [getElem?_set_of_some ht, if_true], rfl, cnext_atomic (CInv_reach h) ht hn⟩

/-- Linearizability: at every moment of every run the state of the cache is the result of applying,
one after the other in some order, the single-step operations of exactly those calls that have
passed their step — each once. -/
theorem cache_linearizable {b : Sys} {ops : List COp} {s : CSys} (h : CReach b ops s) :
    ∃ acts : List (Nat × Bool),
      s.base = applyAll ops b acts ∧ (acts.map (·.1)).Nodup ∧
      ∀ i, i ∈ acts.map (·.1) ↔ ∃ t, s.threads[i]? = some t ∧ t.pc.applied = true := by
  obtain ⟨acts, hl⟩ := Lin_reach h
  exact ⟨acts, hl.base, hl.nodup, hl.applied⟩

/-- a state in which all of this is non-trivial: a reader of an inactive kind sits in the gap
between its two lock sections while a remover of the same kind and a second reader race it -/
def cacheOps : List COp := [.read 0, .remove 0, .read 0, .active, .read 1]
def cacheB0 : Sys := { init [] with tracked := [1], live := [(1, 0)], nextGen := 1 }
def cacheSched : List (Nat × Bool) :=
  [(0, false), (0, false),                         -- reader 0: RLock, sees "inactive", RUnlock  (now in the gap)
   (2, false), (2, false), (2, false), (2, false), (2, false),   -- reader 2 goes all the way: marks kind 0 active, creates the informer
   (1, false), (1, false), (1, false), (1, false), (1, false),   -- the remover sees "active", upgrades, deletes
   (0, false), (0, false), (0, false),             -- reader 0 takes the write lock and marks the kind active again
   (3, false), (3, false),                         -- ActiveInformers
   (4, false), (4, true), (4, false)]              -- fast path, the wrapped call fails
example : (cRunTrace "Get" (cinit cacheB0 cacheOps) cacheSched).map (fun r => (r.1.base.tracked, r.1.base.live, r.1.threads.map (·.pc))) =
    some ([0, 1], [(0, 2), (1, 0)], [.done false, .done false, .done false, .done false, .done true]) := by decide +kernel
def cacheS1 : CSys := ⟨cacheB0, [⟨.read 0, .rd false⟩, ⟨.remove 0, .idle⟩, ⟨.read 0, .idle⟩, ⟨.active, .idle⟩, ⟨.read 1, .idle⟩]⟩
def cacheS2 : CSys := ⟨cacheB0, [⟨.read 0, .gap⟩, ⟨.remove 0, .idle⟩, ⟨.read 0, .idle⟩, ⟨.active, .idle⟩, ⟨.read 1, .idle⟩]⟩
example : CReach cacheB0 cacheOps cacheS2 ∧ cacheS2.threads[0]? = some ⟨.read 0, .gap⟩ ∧ cacheS2.threads[2]? = some ⟨.read 0, .idle⟩ :=
  ⟨.step 0 false (.step (s' := cacheS1) 0 false .init (by decide)) (by decide), by decide, by decide⟩

/-- the model's lock operations, writes and wrapped calls are paths of cache.go: slow path (reader 0,
through the gap), slow path of the remover, fast path with a failing call, ActiveInformers; and the
fast path of the remover (kind not active) -/
theorem trace_cache :
    isPath skipCache Xp.Gen.c13FlowCacheGet (cTraceOf "Get" cacheB0 cacheOps cacheSched 0) = true ∧
    isPath skipCache Xp.Gen.c13FlowCacheList (cTraceOf "List" cacheB0 cacheOps cacheSched 2) = true ∧
    isPath skipCache Xp.Gen.c13FlowCacheGetInformer (cTraceOf "GetInformer" cacheB0 cacheOps cacheSched 4) = true ∧
    isPath skipCache Xp.Gen.c13FlowCacheGetInformerForKind (cTraceOf "GetInformerForKind" cacheB0 cacheOps cacheSched 0) = true ∧
    isPath skipCache Xp.Gen.c13FlowCacheRemoveInformer (cTraceOf "Get" cacheB0 cacheOps cacheSched 1) = true ∧
    isPath skipCache Xp.Gen.c13FlowCacheRemoveInformer
      (cTraceOf "Get" cacheB0 [.remove 5] [(0, false), (0, false), (0, false)] 0) = true ∧
    isPath skipCache Xp.Gen.c13FlowActiveInformers (cTraceOf "Get" cacheB0 cacheOps cacheSched 3) = true ∧
    cTraceOf "Get" cacheB0 cacheOps cacheSched 0 =
      some ["mx.RLock", "mx.RUnlock", "mx.Lock", "set active[]", "Cache.Get", "mx.Unlock"] ∧
    cTraceOf "GetInformer" cacheB0 cacheOps cacheSched 4 = some ["mx.RLock", "Cache.GetInformer", "mx.RUnlock"] := by decide +kernel

/-- a fast path that lets go of the read lock before it calls the wrapped cache is not a path of cache.go -/
example : accepts skipCache 400 (flowCacheRead preGVK "GetInformer") [] ["mx.RLock", "mx.RUnlock", "Cache.GetInformer"] = false := by decide +kernel

end Xp.C13
