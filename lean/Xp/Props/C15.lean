import Xp.Proofs.C15
import Xp.Proofs.C15Lint
import Xp.Proofs.C15Stream
import Xp.Model.C15Skel
/-
C15 — a package revision installs exactly what its image declares, and only
permitted kinds.

The property theorems, what one establish of a history must satisfy (`Installs`), the witness
data, and examples showing that the hypotheses are met by non-trivial states.  `fixed = true` (the tree with
fixes/D6.diff and fixes/D18.diff) everywhere except in the four `…_fails_on_unfixed_…witness` theorems, which
exhibit defects D6 and D18 on the model of the pinned (unrepaired) code, and in the five theorems that hold for
either value of `fixed` (`reconcile_frame`, `reconciles_commute`, `stale_never_establishes`,
`establish_failure_not_healthy`, `healthy_only_via_establish`).

The theorems are per call (`recStep`, `sigStep`) and per history (`World.run`).  A fault plan
`f : Faults` also fixes the class of every API error (`getE`, `fin`, `upd`, `stat`,
`estConflict`) and what a third party did to the revision between the reconciler's read and
its first write (`env`; equivalently a stale cached read).  All theorems quantify over all of it.
-/
namespace Xp.C15

/-! ### the linters as lint.go composes them

The reconciler model lints with `lintS`, computed from the composition of the three
constructors (`Xp.Gen.c15Lint*`, read from the source by go/ast) and the per-check acceptance
tables (`Xp.Gen.c15CheckAccepts`, every exported check called on every scheme kind). -/

/-- Table obligation: every linter has object checks, and what its checks accept – on objects
and on meta objects – is allowed by the specification.  False when a linter loses its object
checks (D7) or an `Or` gains a member that accepts a foreign kind. -/
theorem lint_structure_within_spec (t : PType) :
    objFnsWithin t (specObjKinds t) = true ∧ metaFnsWithin t (specMetaKinds t) = true ∧
    lintPkgFns t = ["OneMeta"] ∧ (lintMetaFns t).contains "PackageValidSemver" = true := by
  refine ⟨?_, ?_, lintPkgFns_eq t, semver_checked t⟩ <;>
  cases t <;> simp [objFnsWithin, metaFnsWithin, lintObjFns, lintMetaFns, disjKinds, accepts, List.lookup,
    specObjKinds, specMetaKinds, Xp.Gen.c15CheckAccepts, Xp.Gen.c15LintProviderObj, Xp.Gen.c15LintProviderMeta,
    Xp.Gen.c15LintConfigurationObj, Xp.Gen.c15LintConfigurationMeta, Xp.Gen.c15LintFunctionObj, Xp.Gen.c15LintFunctionMeta]

/-- The composition read from the source and the whole-linter probe (real parser + real linter
on one stream per scheme kind) agree on every kind of the two schemes: two independent
readings of lint.go. -/
theorem lint_structure_matches_probe (t : PType) :
    Xp.Gen.c15ObjectKinds.all (fun k => objKindOk t k == (lintObjKinds t).contains k) = true ∧
    Xp.Gen.c15MetaKinds.all (fun k => metaKindOk t k == (lintMetaKinds t).contains k) = true :=
  ⟨List.all_eq_true.mpr fun k _ => beq_iff_eq.mpr (lint_structure_eq_probe t k).1,
   List.all_eq_true.mpr fun k _ => beq_iff_eq.mpr (lint_structure_eq_probe t k).2⟩

/-- Every object kind and every meta kind the three real linters accept (tables
`Xp.Gen.c15*Kinds`, regenerated from the tree by running the real parser and the real
linters on one probe per scheme kind) is allowed for that package type by
contributing/specifications/xpkg.md.  False on the pinned tree for Function packages
(D7: `NewFunctionLinter` has no object linter). -/
theorem lint_tables_within_spec (t : PType) :
    (lintObjKinds t).all (fun k => (specObjKinds t).contains k) = true ∧
    (lintMetaKinds t).all (fun k => (specMetaKinds t).contains k) = true := by
  -- what the probe found the linter to accept passes the composition's checks, which accept nothing else
  obtain ⟨ho, hm, _⟩ := lint_structure_within_spec t
  refine ⟨List.all_eq_true.mpr fun k hk => objKindOk_within t _ ho k ?_,
    List.all_eq_true.mpr fun k hk => metaKindOk_within t _ hm k ?_⟩
  · rw [(lint_structure_eq_probe t k).1]
    exact List.contains_iff_mem.mpr hk
  · rw [(lint_structure_eq_probe t k).2]
    exact List.contains_iff_mem.mpr hk

/-- A package the real linter of its type passes is installable as the specification words it. -/
theorem lint_within_spec (t : PType) (p : Pkg) (h : lint t p = true) : specOK t p = true := by
  have ⟨ho, hm⟩ := lint_tables_within_spec t
  simp only [lint, Bool.and_eq_true, List.all_eq_true] at h
  simp only [specOK, Bool.and_eq_true, List.all_eq_true]
  obtain ⟨⟨h1, h2⟩, h3⟩ := h
  refine ⟨⟨h1, ?_⟩, ?_⟩
  · intro m hmm
    have := h2 m hmm
    exact ⟨List.all_eq_true.mp hm _ (by simpa using this.1), this.2⟩
  · intro o hoo
    exact List.all_eq_true.mp ho _ (by simpa using h3 o hoo)

/-- A package the structural linter passes – ANY kinds, not only scheme kinds – is installable
as the specification words it. -/
theorem lintS_within_spec (t : PType) (p : Pkg) (h : lintS t p = true) : specOK t p = true :=
  lint_within_spec t p (lintS_eq_lint t p ▸ h)

/-- Whenever `Establish` is reached, its object list is exactly the object list of the
full package stream of the image – whether the content came from the cache or from the
registry, for every cache state allowed by the invariant (cold, warm, truncated/corrupt
entry) and every fault plan (source failing at any byte, `Store` failing at any byte seen
or unseen by the parser, failing `Get`, failing `Delete`, failing `Update`/`Establish`). -/
theorem installed_eq_declared (feature : Bool) (r : Rev) (f : Faults) (c : Cache) (st : RevSt)
    (hinv : ∀ e, c r.id = some e → EntryOK r e) (objs : List Obj)
    (h : (recStep true feature r f c st).2.2.est = some objs) :
    ∃ p, parse r.docs = some p ∧ objs = p.objs := by
  obtain ⟨_, p, hp, ho, _⟩ := installs_declared hinv (h ▸ Option.some_ne_none objs)
  exact ⟨p, hp, Option.some.inj (h.symm.trans ho)⟩

/-- What one establish of a history must satisfy. -/
def Installs (revs : List Rev) (s : Step) (o : Out) : Prop :=
  ∀ objs, o.est = some objs →
    ∃ r p, revs[s.idx]? = some r ∧ parse r.docs = some p ∧ objs = p.objs ∧
      specOK r.ptype p = true ∧ (r.ignore = true ∨ compatible p = true)

/-- The same over all histories: in every history of reconciles (of any of the
revisions, in any order, each under its own fault plan, interleaved with signature
reconciles, activations, deactivations and deletions) that starts from a cache
satisfying the invariant, every `Establish` installs exactly the declared objects of a
package that is installable per the specification and compatible with the running
Crossplane version (unless told to ignore that). -/
theorem installed_eq_declared_history (feature : Bool) (revs : List Rev) (hc : Compat revs)
    (w : World) (hinv : Inv revs w.cache) (steps : List Step) :
    ∀ so ∈ steps.zip (World.run true feature revs w steps).2, Installs revs so.1 so.2 := by
  refine (run_forall feature revs hc (Installs revs) ?_ steps w hinv).2
  intro w hw s objs hest
  obtain ⟨_, _, _, r, _, _, p, hr, _, hp, ho⟩ := step_est (hest ▸ Option.some_ne_none objs)
  exact ⟨r, p, hr, hp.source.declared (hw r (List.mem_of_getElem? hr)), Option.some.inj (hest.symm.trans ho),
    lintS_within_spec _ _ hp.lint, hp.version⟩

/-- The cache invariant holds after every prefix of every history: an entry that `Has`
reports is the full package stream (or is unreadable, so that nothing is ever installed
from it). -/
theorem cache_entry_complete (feature : Bool) (revs : List Rev) (hc : Compat revs)
    (w : World) (hinv : Inv revs w.cache) (steps : List Step) (n : Nat) :
    Inv revs (World.run true feature revs w (steps.take n)).1.cache :=
  (run_forall feature revs hc (fun _ _ => True) (fun _ _ _ => trivial) (steps.take n) w hinv).1

/-- … in particular a single reconcile, under every fault plan, leaves under the
revision's own name nothing but the full stream or an unreadable file. -/
theorem cache_entry_complete_step (feature : Bool) (r : Rev) (f : Faults) (c : Cache) (st : RevSt)
    (hinv : ∀ e, c r.key = some e → EntryOK r e) :
    ∀ e, (recStep true feature r f c st).1 r.key = some e → EntryOK r e := by
  intro x hx
  obtain ⟨w, y, ho, hw⟩ := recStep_local true feature r f st (c r.id)
  rw [hw c rfl] at hx
  exact (ho.puts.found hx).elim (hinv x) fun h => h.2.2

/-- A reconcile touches no cache path but the two of its own revision (that of its name,
that of its source), under every fault plan. -/
theorem reconcile_frame (fixed feature : Bool) (r : Rev) (f : Faults) (c : Cache) (st : RevSt) (k : String)
    (h1 : k ≠ r.key) (h2 : k ≠ r.id) : (recStep fixed feature r f c st).1 k = c k := by
  obtain ⟨w, y, ho, hw⟩ := recStep_local fixed feature r f st (c r.id)
  rw [hw c rfl]
  exact ho.puts.on_ne h1 h2 c

/-- Reconciles of two revisions whose cache paths are disjoint commute: either order gives
the same outcomes, the same revision states and the same cache.  (`FsPackageCache`
serialises `Get`/`Store`/`Delete` with a mutex and controller-runtime never reconciles one
revision concurrently with itself, so every concurrent schedule of two reconciles is
equivalent to one of the two sequential orders.) -/
theorem reconciles_commute (fixed feature : Bool) (r1 r2 : Rev) (f1 f2 : Faults) (c : Cache) (st1 st2 : RevSt)
    (d1 : r1.key ≠ r2.key) (d2 : r1.key ≠ r2.id) (d3 : r1.id ≠ r2.key) (d4 : r1.id ≠ r2.id) :
    (recStep fixed feature r1 f1 c st1).2 = (recStep fixed feature r1 f1 (recStep fixed feature r2 f2 c st2).1 st1).2 ∧
    (recStep fixed feature r2 f2 c st2).2 = (recStep fixed feature r2 f2 (recStep fixed feature r1 f1 c st1).1 st2).2 ∧
    ∀ k, (recStep fixed feature r2 f2 (recStep fixed feature r1 f1 c st1).1 st2).1 k =
         (recStep fixed feature r1 f1 (recStep fixed feature r2 f2 c st2).1 st1).1 k := by
  -- each reconcile is one write, fixed by what the cache holds under its lookup id, which the other does not touch
  obtain ⟨w1, y1, h1, e1⟩ := recStep_local fixed feature r1 f1 st1 (c r1.id)
  obtain ⟨w2, y2, h2, e2⟩ := recStep_local fixed feature r2 f2 st2 (c r2.id)
  rw [e1 c rfl, e2 c rfl, e1 _ (h2.puts.on_ne d3 d4 c), e2 _ (h1.puts.on_ne d2.symm d4.symm c)]
  refine ⟨rfl, rfl, Write.on_comm (fun k _ _ hk1 hk2 => ?_) c⟩
  rcases h1.puts.path hk1 with rfl | rfl
  · exact (h2.puts.path hk2).elim d1 d2
  · exact (h2.puts.path hk2).elim d3 d4

/-- A package whose stream does not parse, has no or several meta objects, a meta of
another type, malformed constraints, or an object of a kind the specification does not
allow for the revision's type, is never established. -/
theorem lint_gate (feature : Bool) (r : Rev) (f : Faults) (c : Cache) (st : RevSt)
    (hinv : ∀ e, c r.id = some e → EntryOK r e)
    (hbad : ∀ p, parse r.docs = some p → specOK r.ptype p = false) :
    (recStep true feature r f c st).2.2.est = none := by
  refine Decidable.byContradiction fun h => ?_
  obtain ⟨_, p, hp, _, hg⟩ := installs_declared hinv h
  have := hbad p hp
  rw [lintS_within_spec _ _ hg.lint] at this
  cases this

/-- A package whose Crossplane version constraints exclude the running version is never
established unless the revision says to ignore them. -/
theorem version_gate (feature : Bool) (r : Rev) (f : Faults) (c : Cache) (st : RevSt)
    (hinv : ∀ e, c r.id = some e → EntryOK r e) (hign : r.ignore = false)
    (hver : ∀ p, parse r.docs = some p → compatible p = false) :
    (recStep true feature r f c st).2.2.est = none := by
  refine Decidable.byContradiction fun h => ?_
  obtain ⟨_, p, hp, _, hg⟩ := installs_declared hinv h
  rcases hg.version with h | h
  · rw [hign] at h; cases h
  · rw [hver p hp] at h; cases h

/-- With signature verification enabled a revision whose Verified condition is not True
establishes nothing, leaves the cache alone (unless it is being deleted) and does not
become Healthy. -/
theorem verify_gate (r : Rev) (f : Faults) (c : Cache) (st : RevSt) (hv : st.verif.isTrue = false) :
    (recStep true true r f c st).2.2.est = none ∧
    (st.deleting = false → (recStep true true r f c st).1 = c) ∧
    ((recStep true true r f c st).2.1.health = .healthy → st.health = .healthy) := by
  obtain ⟨w, y, h, hw⟩ := recStep_local true true r f st (c r.id)
  rw [hw c rfl]
  obtain ⟨h1, h2, h3⟩ := h.unadmitted fun ha => by rw [ha.verified rfl] at hv; cases hv
  exact ⟨h1, fun hd => by rw [h2 hd]; rfl, h3⟩

/-- When the revision object the reconciler read is not the live one – a third party
(package manager, signature controller, user, restore tool) wrote to it after the read, or
the informer cache served an older version – for ANY such write (`f.env ≠ none`) and every
other fault: `Establish` is not reached and nothing the reconciler writes to the revision
lands (the state it returns is the state it read; the live object is what the third party
made of it, see `World.step`). -/
theorem stale_never_establishes (fixed feature : Bool) (r : Rev) (f : Faults) (c : Cache) (st : RevSt)
    (hs : f.env ≠ .none) :
    (recStep fixed feature r f c st).2.2.est = none ∧ (recStep fixed feature r f c st).2.1 = st :=
  recStep_stale fixed feature r f st c (by simp [Faults.stale, hs])

/-- The verification gate holds for the LIVE object: with verification enabled, if the
revision as the third party left it (`applyEnv f.env st`: status wiped, re-created under the
same name, …) is not Verified, nothing is established – whatever the reconciler read. -/
theorem verify_gate_live (r : Rev) (f : Faults) (c : Cache) (st : RevSt)
    (hv : (applyEnv f.env st).verif.isTrue = false) :
    (recStep true true r f c st).2.2.est = none := by
  by_cases he : f.env = .none
  · rw [he] at hv
    exact (verify_gate r f c st hv).1
  · exact (stale_never_establishes true true r f c st he).1

/-- `Establish` is reached only by a reconcile whose every API call on the revision
succeeded up to there: the read was served and fresh, and the metadata update went through. -/
theorem establish_needs_fresh_object (feature : Bool) (r : Rev) (f : Faults) (c : Cache) (st : RevSt)
    (h : (recStep true feature r f c st).2.2.est ≠ none) :
    f.env = .none ∧ f.getE = .ok ∧ f.upd = .ok ∧ st.present = true ∧ st.deleting = false := by
  obtain ⟨_, p, hr, _⟩ := recStep_est h
  obtain ⟨hs, hu⟩ := updO_ok f hr.update
  refine ⟨?_, hr.admitted.get, hu, hr.admitted.present, hr.admitted.live⟩
  cases he : f.env <;> simp [Faults.stale, he] at hs ⊢

/-- A failed `Establish` – of whatever error class (Conflict is requeued, everything else
reported) – never makes the revision Healthy and never changes its object references. -/
theorem establish_failure_not_healthy (fixed feature : Bool) (r : Rev) (f : Faults) (c : Cache) (st : RevSt)
    (hf : f.est = true) :
    ((recStep fixed feature r f c st).2.1.health = .healthy → st.health = .healthy ∨ (st.active = false ∧ st.refs > 0)) ∧
    (recStep fixed feature r f c st).2.1.refs = st.refs := by
  obtain ⟨w, y, ho, hw⟩ := recStep_local fixed feature r f st (c r.id)
  rw [hw c rfl]
  rcases ho.recorded with ⟨_, h, _⟩ | h
  · rw [hf] at h; cases h
  · exact h

/-- A revision becomes Healthy, or its recorded object references change, only in a
reconcile that reached `Establish` without error on a fresh object and whose status update
landed – or, for Healthy, on the inactive-with-references shortcut. -/
theorem healthy_only_via_establish (fixed feature : Bool) (r : Rev) (f : Faults) (c : Cache) (st : RevSt) :
    ((recStep fixed feature r f c st).2.1.health = .healthy → st.health ≠ .healthy →
      ((recStep fixed feature r f c st).2.2.est ≠ none ∧ f.est = false ∧ f.stat = false ∧ f.env = .none) ∨
      (st.active = false ∧ st.refs > 0)) ∧
    ((recStep fixed feature r f c st).2.1.refs ≠ st.refs →
      (recStep fixed feature r f c st).2.2.est ≠ none ∧ f.est = false ∧ f.stat = false ∧ f.env = .none) := by
  obtain ⟨w, y, ho, hw⟩ := recStep_local fixed feature r f st (c r.id)
  rw [hw c rfl]
  rcases ho.recorded with h | ⟨hh, hr⟩
  · exact ⟨fun _ _ => .inl h, fun _ => h⟩
  · exact ⟨fun h hn => .inr ((hh h).resolve_left hn), fun h => absurd hr h⟩

/-- The signature controller turns Verified to True only when no verification config
matches the image (skipped) or the configured validator accepted the signature – whatever
the read and the status update do. -/
theorem verified_only_by_validation (cfg : SigCfg) (valid : Bool) (sf : SigF) (st : RevSt)
    (h : (sigStep cfg valid sf st).1.verif.isTrue = true) :
    st.verif.isTrue = true ∨ cfg = .none ∨ (cfg = .some ∧ valid = true) :=
  (sigStep_outcome cfg valid sf st).verified h

/-- `ImageVerificationConfigFor` answers "no config" exactly when no ImageConfig that
carries a verification section declares a non-empty prefix of the image … -/
theorem no_config_iff_none_matches (cfgs : List ImgCfg) (image : String) :
    (verifCfgFor cfgs image false).1 = .none ↔
      ∀ c ∈ cfgs, c.verifies = true → ∀ p ∈ c.prefixes, p.isPrefixOf image = true → p.utf8ByteSize = 0 := by
  have hb := bestMatch_spec ImgCfg.verifies image cfgs
  unfold verifCfgFor
  rw [if_neg Bool.false_ne_true]
  cases hc : bestMatch ImgCfg.verifies image cfgs with
  | none =>
    rw [hc] at hb
    exact ⟨fun _ => hb, fun _ => rfl⟩
  | some c =>
    rw [hc] at hb
    obtain ⟨hm, hv, p, hp, hpre, hpos, _⟩ := hb
    refine ⟨fun h => ?_, fun h => absurd (h c hm hv p hp hpre) (Nat.ne_of_gt hpos)⟩
    dsimp only at h
    split at h <;> cases h

/-- … and otherwise selects a config that carries a verification section, matches the
image, and whose matching prefix is at least as long as every matching prefix of every
config with a verification section: the verdict that counts is the best match's. -/
theorem selected_config_is_longest_match (cfgs : List ImgCfg) (image : String) (v : Bool)
    (h : verifCfgFor cfgs image false = (.some, v)) :
    ∃ c ∈ cfgs, c.verif = .cosign ∧ c.ok = v ∧ ∃ p ∈ c.prefixes, p.isPrefixOf image = true ∧
      ∀ c' ∈ cfgs, c'.verifies = true → ∀ p' ∈ c'.prefixes, p'.isPrefixOf image = true →
        p'.utf8ByteSize ≤ p.utf8ByteSize := by
  have hb := bestMatch_spec ImgCfg.verifies image cfgs
  unfold verifCfgFor at h
  rw [if_neg Bool.false_ne_true] at h
  cases hc : bestMatch ImgCfg.verifies image cfgs with
  | none =>
    rw [hc] at h
    cases h
  | some c =>
    rw [hc] at h hb
    obtain ⟨hm, hv, p, hp, hpre, _, hge⟩ := hb
    dsimp only at h
    split at h
    · cases h
    · rename_i hnc
      refine ⟨c, hm, ?_, (Prod.mk.inj h).2, p, hp, hpre, hge⟩
      have hnc' : c.verif ≠ .nocosign := by simpa using hnc
      have hv' : c.verif ≠ .none := by simpa [ImgCfg.verifies] using hv
      cases hcv : c.verif with
      | none => exact absurd hcv hv'
      | cosign => rfl
      | nocosign => exact absurd hcv hnc'

/-- Over all histories with verification enabled, starting with no revision verified –
reconciles of any revisions under any fault plans, third-party writes that wipe the status
or re-create a revision, edits of the ImageConfigs: an `Establish` of revision `i` at step
`n` is preceded by a signature reconcile of `i` that found no matching verification config
among the ImageConfigs of that moment, or whose best match's validator accepted the image. -/
theorem verify_gate_history (revs : List Rev) (w : World)
    (hw : ∀ (i : Nat) (st : RevSt), w.sts[i]? = some st → st.verif.isTrue = false) (steps : List Step) :
    ∀ n s o, steps[n]? = some s → (World.run true true revs w steps).2[n]? = some o → o.est ≠ none →
      ∃ m, m < n ∧ AuthorizedAt revs w steps s.idx m := by
  intro n s o hs ho he
  cases (run_at true true revs w steps n s hs).2.symm.trans ho
  obtain ⟨a, d, _, _, st, _, _, _, hst, hp, _⟩ := step_est he
  exact verified_authorized revs w steps hw n (Nat.le_of_lt (List.getElem?_eq_some_iff.mp hs).1) _ st hst
    (envStep_verif a d st ▸ hp.admitted.verified rfl)

/-- `ImageBackend.Init` hands the parser a stream iff the image has at most `maxLayers`
layers and either exactly ONE layer is annotated `io.crossplane.xpkg: base` and that layer's
tarball holds package.yaml – the stream is that file, whatever the other layers hold – or NO
layer is annotated and the flattened file system holds package.yaml (the last layer's that has
one).  Two annotated layers, too many layers, no package.yaml: an error. -/
theorem init_selects (ls : List Layer) (ds : List Doc) :
    initSel ls = some ds ↔
      ls.length ≤ maxLayers ∧
      ((∃ l, ls.filter Layer.isBase = [l] ∧ l.file = some ds) ∨
       (ls.filter Layer.isBase = [] ∧ flatFile ls = some ds)) := by
  unfold initSel
  rw [scanBase_spec]
  simp only [Option.toList_none, List.nil_append]
  by_cases hl : ls.length > maxLayers
  · simp only [hl, if_true]
    constructor
    · intro h; cases h
    · intro h; omega
  · simp only [hl, if_false]
    have hl' : ls.length ≤ maxLayers := by omega
    match hf : ls.filter Layer.isBase with
    | [] => simp [hl']
    | [l] => simp [hl']
    | l1 :: l2 :: rest => simp

/-- The stream taken from a tarball is the content of its FIRST entry named exactly
`package.yaml`; no entry before it has that name. -/
theorem tar_lookup_exact (es : List (String × List Doc)) (ds : List Doc) (h : tarFind es = some ds) :
    ∃ a b, es = a ++ (streamFile, ds) :: b ∧ ∀ e ∈ a, e.1 ≠ streamFile := by
  rw [tarFind_eq, Option.map_eq_some_iff] at h
  obtain ⟨⟨n, d⟩, hf, rfl⟩ := h
  obtain ⟨hn, a, b, hab, hne⟩ := List.find?_eq_some_iff_append.mp hf
  have hn' : n = streamFile := beq_iff_eq.mp hn
  subst hn'
  exact ⟨a, b, hab, fun e he => by simpa using hne e he⟩

/-- Entries of any other name – `.package.yaml`, `..package.yaml`, `package.yaml.bak`,
`dir/package.yaml`, wherever they stand in the tarball and whatever they hold – do not
matter: removing them all leaves the selected stream, hence what `ImageBackend.Init` selects
from the whole image, unchanged. -/
theorem tar_lookup_ignores_lookalikes (es : List (String × List Doc)) :
    tarFind (es.filter fun e => e.1 == streamFile) = tarFind es := by
  rw [tarFind_eq, tarFind_eq, List.find?_filter]
  simp only [and_self, beq_iff_eq]
  rfl

theorem init_ignores_lookalikes (ls : List (Ann × List (String × List Doc))) :
    initSel (ls.map fun l => Layer.ofTar l.1 (l.2.filter fun e => e.1 == streamFile)) =
    initSel (ls.map fun l => Layer.ofTar l.1 l.2) := by
  simp only [Layer.ofTar, tar_lookup_ignores_lookalikes]

/-- look-alikes in front of the real file, in the annotated base layer -/
example : initSel [Layer.ofTar .base [("README.md", [.bad]), (".package.yaml", [.empty]), ("package.yaml.bak", [.empty]),
    ("dir/package.yaml", [.empty]), ("package.yaml", [])]] = some [] := by decide
/-- nothing but look-alikes: rejected -/
example : initSel [Layer.ofTar .base [(".package.yaml", [.empty]), ("../package.yaml", [.empty])]] = none := by decide

/-- What a revision declares is the stream `Init` selects from its image. -/
theorem declared_is_selected_stream (r : Rev) (h : r.imgOk = true) : initSel r.layers = some r.docs := by
  unfold Rev.imgOk at h
  unfold Rev.docs
  cases hi : initSel r.layers with
  | none => rw [hi] at h; cases h
  | some ds => rfl

/-- An image the specification calls invalid (two base layers, more than `maxLayers` layers,
no package.yaml where it has to be) is never installed from: with nothing cached, under every
fault plan, `Establish` is not reached and the cache stays as it is. -/
theorem invalid_image_never_installed (feature : Bool) (r : Rev) (f : Faults) (c : Cache) (st : RevSt)
    (himg : initSel r.layers = none) (hcold : c r.id = none) :
    (recStep true feature r f c st).2.2.est = none ∧
    (st.deleting = false → ∀ k, (recStep true feature r f c st).1 k = c k) := by
  have hok : r.imgOk = false := by simp [Rev.imgOk, himg]
  -- `fetch` finds nothing under the lookup id and no stream in the image: it stops without a write
  have hf : ∀ {w x}, FetchOutcome true r f (c r.id) w x → w = .keep ∧ ∀ p, x ≠ .parsed (some p) := by
    intro w x hf
    cases hf with
    | stopped => exact ⟨rfl, nofun⟩
    | dropped he | content he _ | broken he =>
      rw [hcold] at he
      cases he
    | pulled _ _ hi _ =>
      rw [hok] at hi
      cases hi
  obtain ⟨w, y, ho, hw⟩ := recStep_local true feature r f st (c r.id)
  rw [hw c rfl]
  cases ho with
  | quiet _ => exact ⟨rfl, fun _ _ => rfl⟩
  | deleted hd _ => exact ⟨rfl, fun hd' => absurd hd (Bool.eq_false_iff.mp hd')⟩
  | fetched _ hx _ =>
    rw [(hf hx).1]
    exact ⟨rfl, fun _ _ => rfl⟩
  | failed hr _ | done hr _ _ => exact absurd rfl ((hf hr.source).2 _)

/-- `Establish` is reached only if `PullSecretFor` succeeded, an inactive revision released
its objects, and – when dependencies are resolved – `lock.Resolve` succeeded: a failure of any
collaborator in front of it, of whatever error class, stops the reconcile. -/
theorem establish_needs_every_step (feature : Bool) (r : Rev) (f : Faults) (c : Cache) (st : RevSt)
    (h : (recStep true feature r f c st).2.2.est ≠ none) :
    f.pullCfg = false ∧ (st.active = false → f.rel = .ok) ∧ (r.resolve = true → f.dep = .ok) := by
  obtain ⟨_, p, hr, _⟩ := recStep_est h
  exact ⟨(early_none f st hr.early).1, (early_none f st hr.early).2, hr.deps⟩

/-! ### the tee into the cache (`teeReadCloser`, reader.go)

For every source script (bytes and ok / EOF / failure per read, in any order), every byte at
which the writer – the pipe into `cache.Store` – starts failing, and every consumer (any
number of reads, also one that overlooks errors and reads on, as the YAML line reader does). -/

/-- Once a read reported a failure – of the source or of the writer – every later read reports
the same failure and hands out nothing: a consumer that overlooks the error cannot carry on
with the rest of the stream, nor see a clean EOF. -/
theorem tee_error_sticky (t : Tee) (h : t.err = none) (he : (t.read true).1.2.isErr = true) (n : Nat) :
    ∀ r ∈ (Tee.reads true n (t.read true).2).1, r = ([], (t.read true).1.2) := by
  rcases read_cases t h with ⟨hc, _⟩ | ⟨_, hs⟩
  · rw [hc] at he; cases he
  · exact (reads_of_err _ _ hs n).2

/-- The consumer is handed exactly the bytes the writer accepted, read by read (also by the
reader without the fix). -/
theorem tee_seen_eq_written (sticky : Bool) (n : Nat) (t : Tee) :
    (Tee.reads sticky n t).2.out = t.out ++ seenBytes (Tee.reads sticky n t).1 := by
  induction n generalizing t with
  | zero => simp [Tee.reads, seenBytes]
  | succ n ih =>
    rw [reads_succ]
    simp only [seenBytes, List.flatMap_cons]
    rw [ih, read_out]
    simp [seenBytes, List.append_assoc]

/-- A consumer that reaches a clean EOF with its `k+1`-th read was handed – and the cache was
handed – exactly the bytes of the first `k+1` reads of the source, none of which failed: the
parser ends normally only on the whole stream, whatever it overlooked on the way. -/
theorem tee_clean_eof_complete (k : Nat) (t : Tee) (h : t.err = none) (d : List Nat)
    (hl : (Tee.reads true (k + 1) t).1.getLast? = some (d, .eof)) :
    seenBytes (Tee.reads true (k + 1) t).1 = srcBytes (t.src.take (k + 1)) ∧
    (Tee.reads true (k + 1) t).2.out = t.out ++ srcBytes (t.src.take (k + 1)) ∧
    (∀ e ∈ t.src.take (k + 1), e.res.isErr = false) := by
  obtain ⟨h1, h2⟩ := reads_eof k t h d hl
  exact ⟨h1, by rw [tee_seen_eq_written, h1], h2⟩

/-- a five-byte stream in two reads and an EOF, the writer failing at its third byte -/
def wTee : Tee := { src := [⟨[1, 2, 3], .ok⟩, ⟨[4, 5], .ok⟩, ⟨[], .eof⟩], cap := some 2 }

/-- D18 on the model of the reader without the fix: a consumer that overlooks the write error
twice reaches a clean EOF having seen two of five bytes; with the fix its third read still
reports the write error. -/
theorem tee_clean_eof_fails_on_unfixed_witness :
    (Tee.reads false 3 wTee).1.getLast? = some ([], .eof) ∧ seenBytes (Tee.reads false 3 wTee).1 = [1, 2] ∧
    (Tee.reads true 3 wTee).1.getLast? = some ([], .writeErr) := by decide

/-- the hypotheses are met: a clean EOF after three reads of an unfailing writer -/
example : (Tee.reads true 3 { wTee with cap := none }).1.getLast? = some ([], .eof) ∧
    seenBytes (Tee.reads true 3 { wTee with cap := none }).1 = [1, 2, 3, 4, 5] := by decide
example : ((wTee.read true).1.2.isErr = true) := by decide

/-! ### how the stream falls into documents (YAML reader + `isEmptyYAML`)

The revisions of the correspondence run get their document list from the LINES of the rendered
stream (`docsOfLines`, classified by a tokenizer of the harness that knows nothing of how the
stream was rendered). -/

/-- At a separator line the reader hands out the lines it collected – one document – and
starts afresh with what follows. -/
theorem split_at_separator (tbl : List Doc) (g b : List Line) (p : Bool)
    (hg : ∀ l ∈ g, l.isSep = false) (hne : g ≠ []) :
    docsOfLines tbl (g ++ .sep p :: b) =
      (docsOfLines tbl b).map fun ds => (if chunkEmpty g then [] else [docOfChunk tbl g]) ++ ds := by
  unfold docsOfLines
  rw [chunks_at_sep g b [] p hg (by simpa using hne)]
  cases chunks b [] with
  | none => rfl
  | some cs => by_cases he : chunkEmpty g <;> simp [he]

/-- Lines that are only blanks and comments are no document. -/
theorem split_skips_empty (tbl : List Doc) (cs : List Line) (h : ∀ l ∈ cs, l = .comment ∨ l = .blank) :
    docsOfLines tbl cs = some [] := by
  rw [docs_nosep tbl cs (blank_noSep h), blank_chunkEmpty h]
  rfl

/-- The payload lines of document `i`, with comments and blank lines among them, are document `i`. -/
theorem split_one_document (tbl : List Doc) (c : List Line) (i : Nat)
    (hc : ∀ l ∈ c, l = .comment ∨ l = .blank ∨ l = .body i) (hb : Line.body i ∈ c) :
    docsOfLines tbl c = some [(tbl[i]?).getD .bad] := by
  obtain ⟨hce, hdoc⟩ := docOfChunk_one tbl c i hc hb
  rw [docs_nosep tbl c (by intro l hl; rcases hc l hl with rfl | rfl | rfl <;> rfl), hce, hdoc]
  rfl

/-- Hence a document of blanks and comments between two documents never changes what is parsed. -/
theorem parse_ignores_empty_documents (tbl : List Doc) (g cs b : List Line) (p q : Bool)
    (hg : ∀ l ∈ g, l.isSep = false) (hne : g ≠ [])
    (h : ∀ l ∈ cs, l = .comment ∨ l = .blank) (hcs : cs ≠ []) :
    parseLines tbl (g ++ .sep p :: (cs ++ .sep q :: b)) = parseLines tbl (g ++ .sep p :: b) := by
  unfold parseLines
  rw [split_at_separator tbl g _ p hg hne, split_at_separator tbl g b p hg hne,
    split_at_separator tbl cs b q (blank_noSep h) hcs]
  cases docsOfLines tbl b <;> simp [blank_chunkEmpty h]

/-- a malformed separator makes the whole stream undecodable -/
theorem split_bad_separator (tbl : List Doc) (a b : List Line) (h : ∀ l ∈ a, l.isSep = false) :
    parseLines tbl (a ++ .badsep :: b) = none := by
  have : chunks (a ++ .badsep :: b) [] = none := by
    rw [chunks_nosep_append a _ [] h]
    simp [chunks]
  simp [parseLines, docsOfLines, this]

/-- a stream with a leading bare separator and comment, a doubled separator, a comment-only
document and a trailing separator: two documents -/
example : docsOfLines [.md ⟨"m", "a", .none⟩, .ob ⟨"k", "b"⟩]
    [.sep true, .comment, .body 0, .body 0, .sep true, .sep true, .blank, .comment, .sep false, .body 1, .sep true] =
    some [.md ⟨"m", "a", .none⟩, .ob ⟨"k", "b"⟩] := by decide

/-- What the code does with a separator line that carries a comment and has nothing in front of
it (first line of the stream, or behind another separator): the reader collects the line itself,
`isEmptyYAML` does not pass over it, and when only comments follow the chunk does not decode –
the package fails to parse (it fails closed). -/
theorem commented_separator_before_comments_is_undecodable :
    parseLines [.md ⟨"m", "a", .none⟩] [.sep false, .comment, .sep true, .body 0] = none ∧
    parseLines [.md ⟨"m", "a", .none⟩] [.sep true, .comment, .sep true, .body 0] = some ⟨[⟨"m", "a", .none⟩], []⟩ := by
  decide

/-! ### the call skeletons the model mirrors are those of the current tree

`Xp.Gen.c15Skel*` are regenerated from the Go source on every run (go/ast,
harness/main/c15_dump.go); the right-hand sides are declared in Xp/Model/C15Skel.lean with,
per entry, the model step that mirrors it. -/

/-- revision `Reconciler.Reconcile`: Get, pause, deletion (cache.Delete, RemoveSelf, RemoveFinalizer),
verification gate, AddFinalizer, PullSecretFor, deactivation + inactive shortcut, cache.Has/Get/Delete,
backend.Init, tee into cache.Store, Parse, CloseWithError, Delete, Lint, one-meta, Update, version gate,
Resolve, hooks, Establish, SetObjects, Healthy -/
theorem skeleton_reconcile : Xp.Gen.c15SkelReconcile = skelReconcile := rfl
theorem skeleton_deactivate : Xp.Gen.c15SkelDeactivate = skelDeactivate := rfl
/-- `ImageBackend.Init`: layer limit, one annotated base layer or the flattened file system, package.yaml -/
theorem skeleton_image_init : Xp.Gen.c15SkelImageInit = skelImageInit := rfl
theorem skeleton_cache_has : Xp.Gen.c15SkelCacheHas = skelCacheHas := rfl
theorem skeleton_cache_get : Xp.Gen.c15SkelCacheGet = skelCacheGet := rfl
theorem skeleton_cache_store : Xp.Gen.c15SkelCacheStore = skelCacheStore := rfl
theorem skeleton_cache_delete : Xp.Gen.c15SkelCacheDelete = skelCacheDelete := rfl
theorem skeleton_gzip_reader : Xp.Gen.c15SkelGzipReadCloser = skelGzipReadCloser ∧
    Xp.Gen.c15SkelGzipRead = skelGzipRead ∧ Xp.Gen.c15SkelGzipClose = skelGzipClose := ⟨rfl, rfl, rfl⟩
/-- `teeReadCloser`: Read returns a recorded error first (sticky), Close closes source then writer -/
theorem skeleton_tee : Xp.Gen.c15SkelTeeNew = skelTeeNew ∧ Xp.Gen.c15SkelTeeRead = skelTeeRead ∧
    Xp.Gen.c15SkelTeeClose = skelTeeClose := ⟨rfl, rfl, rfl⟩
theorem skeleton_sig_reconcile : Xp.Gen.c15SkelSigReconcile = skelSigReconcile := rfl
theorem skeleton_config_store : Xp.Gen.c15SkelVerifCfgFor = skelVerifCfgFor ∧
    Xp.Gen.c15SkelBestMatch = skelBestMatch := ⟨rfl, rfl⟩
/-- the checks the version / constraint gates are made of -/
theorem skeleton_lint_checks : Xp.Gen.c15SkelOneMeta = skelOneMeta ∧ Xp.Gen.c15SkelCompatible = skelCompatible ∧
    Xp.Gen.c15SkelValidSemver = skelValidSemver ∧ Xp.Gen.c15SkelTryConvert = skelTryConvert ∧
    Xp.Gen.c15SkelTryConvertToPkg = skelTryConvertToPkg ∧ Xp.Gen.c15SkelInConstraints = skelInConstraints :=
  ⟨rfl, rfl, rfl, rfl, rfl, rfl⟩
/-- every conversion of package metadata goes to hubs allocated at the call site -/
theorem hubs_are_fresh_literals : Xp.Gen.c15HubArgs = hubArgs := rfl

/-! ### the pinned tree (without fixes/D6.diff and fixes/D18.diff) violates the property -/

def wCRD : String := "apiextensions.k8s.io/v1/CustomResourceDefinition"

/-- a Provider package declaring four CRDs -/
def wRev : Rev :=
  { ptype := .provider, key := "/cache/pkg-d6.gz", skey := "/cache/src.gz",
    layers := [⟨.base, some [.md ⟨"meta.pkg.crossplane.io/v1/Provider", "pkg", .none⟩,
             .ob ⟨wCRD, "a"⟩, .ob ⟨wCRD, "b"⟩, .ob ⟨wCRD, "c"⟩, .ob ⟨wCRD, "d"⟩]⟩],
    never := false, ignore := false }

/-- first pull: the registry connection breaks on the document boundary in front of the
third CRD; second reconcile: no fault at all -/
def wSteps : List Step :=
  [.reconcile 0 true false { read := true, cut := wRev.docs.take 3 },
   .reconcile 0 true false {}]

def wWorld : World := { cache := Cache.empty, sts := [{}] }

/-- D6 on the model of the pinned reconciler: the second, fault-free reconcile
establishes two of the four declared CRDs, reports success (Healthy), … -/
theorem installed_eq_declared_fails_on_unfixed_witness :
    (World.run false false [wRev] wWorld wSteps).2.map (fun o => (o.res, o.est.map List.length)) =
      [("err:parse", none), ("ok", some 2)] ∧
    ((World.run false false [wRev] wWorld wSteps).1.sts.map (·.health)) = [.healthy] := by
  decide +kernel

/-- … and the cache entry that `Has` reports after the failed first pull is not the full stream. -/
theorem cache_entry_complete_fails_on_unfixed_witness :
    (World.run false false [wRev] wWorld (wSteps.take 1)).1.cache wRev.key = some (.content (wRev.docs.take 3)) ∧
    wRev.docs.take 3 ≠ wRev.docs := by
  decide +kernel

/-- D18 on the model of the pinned tree: the cache write fails while the last chunk is
copied, the parser overlooks the error and ends on a stream that lacks the last two
CRDs; the reconcile establishes two of four and reports success. -/
theorem installed_eq_declared_fails_on_unfixed_store_witness :
    (recStep false false wRev { store := true, seen := true, lost := some (wRev.docs.take 3) } Cache.empty {}).2.2.est.map List.length = some 2 ∧
    (recStep false false wRev { store := true, seen := true, lost := some (wRev.docs.take 3) } Cache.empty {}).2.1.health = .healthy ∧
    (recStep true false wRev { store := true, seen := true, lost := some (wRev.docs.take 3) } Cache.empty {}).2.2 = { res := "err:parse" } := by
  decide +kernel

/-- the same history on the fixed reconciler: nothing is kept after the failed pull, the
second reconcile pulls again and establishes all four -/
theorem fixed_on_witness :
    (World.run true false [wRev] wWorld wSteps).2.map (fun o => (o.res, o.est.map List.length)) =
      [("err:parse", none), ("ok", some 4)] ∧
    (World.run true false [wRev] wWorld (wSteps.take 1)).1.cache wRev.key = none := by
  decide +kernel

/-! ### the hypotheses are satisfiable by non-trivial states -/

/-- cold cache -/
example (revs : List Rev) : Inv revs Cache.empty := by intro r _ e he; cases he

/-- warm cache, and a truncated entry for a second revision sharing the cache -/
example : Inv [wRev, { wRev with key := "/cache/other.gz" }]
    ((Cache.empty.put wRev.key (.content wRev.docs)).put "/cache/other.gz" (.broken true)) := by
  intro r hr e he
  simp only [List.mem_cons, List.not_mem_nil, or_false] at hr
  rcases hr with rfl | rfl
  · simp [Rev.id, wRev, Cache.put] at he; subst he; exact Or.inl rfl
  · simp [Rev.id, wRev, Cache.put] at he; subst he; exact Or.inr ⟨_, rfl⟩

example : Compat [wRev, { wRev with key := "/cache/other.gz" }] := by
  intro r hr r' hr' _ hk
  simp only [List.mem_cons, List.not_mem_nil, or_false] at hr hr'
  rcases hr with rfl | rfl <;> rcases hr' with rfl | rfl <;> simp_all [Rev.id, wRev]

/-- `Establish` is reached from a cold cache, from a warm cache, and after a failed pull -/
example : ((recStep true false wRev {} Cache.empty {}).2.2.est.map List.length) = some 4 := by decide +kernel
example : ((recStep true false wRev {} (Cache.empty.put wRev.key (.content wRev.docs)) {}).2.2.est.map List.length) = some 4 := by decide +kernel
/-- with verification enabled: not before, but after a signature reconcile that finds no
verification config for the image -/
example : ((World.run true true [wRev] wWorld [.reconcile 0 true false {}, .verify 0 {}, .reconcile 0 true false {}]).2.map
    (fun o => o.est.map List.length)) = [none, none, some 4] := by decide +kernel
/-- a third party wipes the status between the read and the metadata update: nothing is
established, and the next reconcile waits for verification again -/
example : ((World.run true true [wRev] { wWorld with sts := [{ verif := .skipped }] }
    [.reconcile 0 true false { env := .wipe }, .reconcile 0 true false {}]).2.map
    (fun o => (o.res, o.est.map List.length))) = [("requeue", none), ("ok", none)] := by decide +kernel

example : (recStep true false wRev { pullCfg := true } Cache.empty {}).2.2 = { res := "err:pullcfg" } := by decide
example : (recStep true false wRev { rel := .conflict } Cache.empty { active := false }).2.2 = { res := "requeue" } := by decide
example : (recStep true false { wRev with resolve := true } { dep := .err } Cache.empty {}).2 =
    ({ finalizer := true, health := .unknown }, { res := "err:deps" }) := by decide +kernel
/-- an annotated base layer LAST, behind unannotated layers that carry other package.yaml files -/
example : initSel [⟨.none, some [.bad]⟩, ⟨.other, some []⟩, ⟨.base, some [.empty]⟩] = some [.empty] := by decide
example : initSel [⟨.none, some [.bad]⟩, ⟨.other, some [.empty]⟩, ⟨.none, none⟩] = some [.empty] := by decide
example : initSel [⟨.base, some [.bad]⟩, ⟨.base, some []⟩] = none := by decide

/-- the structural linter passes an installable Provider package -/
example : lintS .provider ⟨[⟨"meta.pkg.crossplane.io/v1/Provider", "p", .none⟩], [⟨wCRD, "a"⟩]⟩ = true := by decide +kernel
example : lintS .function ⟨[⟨"meta.pkg.crossplane.io/v1/Function", "p", .none⟩], [⟨"apiextensions.crossplane.io/v1/Composition", "a"⟩]⟩ = false := by decide +kernel
/-- the witness revision's image is valid: one annotated base layer holding package.yaml -/
example : wRev.imgOk = true ∧ (parse wRev.docs).isSome = true := by decide
example : tarFind [(".package.yaml", [.bad]), ("package.yaml", [.empty]), ("package.yaml", [])] = some [.empty] := by decide
end Xp.C15
