import Xp.Proofs.C08Live
import Xp.Proofs.C08Worlds
import Xp.Gen.C08Skel
/-
C08 — teardown happens in dependency order.

LOCAL theorems (`*_after_*`, `*_before_*`, `usage_waits_using`): about ONE reconcile
of one controller, for every server semantics `sm` (so also a server whose store is
changed by others between two calls), every fault plan (error, conflict, crash
before/after at any call index) and every start store: a teardown write is issued
only after the reconcile has itself seen the reply that licenses it.  `h` is the
history of (request, reply) pairs the reconcile had seen when it issued the request.

TRACE theorems (`trace_*`): about every configuration reachable in the interleaved
system `Sys` (any number of reconciles of the six controllers in flight, each taking
its next API call with any fault outcome, each read answered by the API server or by an
informer cache that lags behind by any number of steps, interleaved with user
deletions, third-party edits of claims / XRs / Usages, garbage collection steps,
third-party finalizer removals and process crashes): at the moment a controller's
teardown write is applied, the state-based ordering constraint holds.
The alphabet of the `trace_*` theorems contains the deletion branches only (no creation
of objects); the `trace_*_all` theorems add every creation (users, and the creating writes
of the live branches of the same reconcilers) and hold for every schedule outside the
windows of the recorded findings (`Calm`).  `WF st0` says that the resourceVersions of the
initial store were issued before the next one.

SKELETON theorems (`skeleton_*`): the Go functions the programs mirror still make exactly
the declared calls in the declared order (regenerated from the source on every run), and
the programs issue exactly the marked requests along their designated paths.
-/
namespace Xp.C08
open Xp.Gen

/-- On every path of every modelled reconcile (every possible reply to every call),
each request is issued only when its guard holds of what was seen so far. -/
theorem every_path_guarded (c : Ctl) (n : String) : Always (guardH c n) [] (program c n) :=
  always_program c n

/-- The claim finalizer is removed only in a reconcile that read the claim and then read
its XR as NotFound (or the claim references none), or — policy not Foreground — had its
Delete(XR) acknowledged. With Foreground only the NotFound read counts. The removal is
issued under the resourceVersion of the claim as read (`rv = cm.rv`): if anybody edited
the claim since, it is rejected (`stale_write_not_applied`). -/
theorem claim_fin_after_xr (sm : Sem St Req Resp) (plan : Plan) (s : St) (n : String)
    (h : Hist) (k : Key) (rv : Nat)
    (hi : (h, Req.removeFin k rv c08ClaimFinalizer) ∈ issued sm plan 0 [] (claimRec n) s) :
    ∃ cm, (Req.get ⟨.claim, n⟩, Resp.obj cm) ∈ h ∧ rv = cm.rv ∧
      (cm.ref = "" ∨ (Req.get ⟨.xr, cm.ref⟩, Resp.notFound) ∈ h ∨
        (cm.flag = false ∧ ((Req.delete ⟨.xr, cm.ref⟩ false, Resp.ok) ∈ h ∨
                            (Req.delete ⟨.xr, cm.ref⟩ false, Resp.notFound) ∈ h))) :=
  (issued_guarded sm plan s .claim n _ hi rfl).2

/-- The definition controller deletes a CRD only after, in the same reconcile and in this
order, List(XR) returned no instance and engine.Stop(composite controller) returned nil. -/
theorem crd_after_instances_and_stop (sm : Sem St Req Resp) (plan : Plan) (s : St) (n : String)
    (h : Hist) (crd : String) (fg : Bool)
    (hi : (h, Req.delete ⟨.crd, crd⟩ fg) ∈ issued sm plan 0 [] (definedRec n) s) :
    Before h (Req.list .xr, Resp.list []) (Req.stop (compositeCtrl n), Resp.ok) :=
  issued_guarded sm plan s .defined n _ hi rfl

/-- The offered controller deletes a CRD only after, in the same reconcile and in this
order, List(claims) returned no instance and engine.Stop(claim controller) returned nil. -/
theorem crd_after_instances_and_stop_offered (sm : Sem St Req Resp) (plan : Plan) (s : St) (n : String)
    (h : Hist) (crd : String) (fg : Bool)
    (hi : (h, Req.delete ⟨.crd, crd⟩ fg) ∈ issued sm plan 0 [] (offeredRec n) s) :
    Before h (Req.list .claim, Resp.list []) (Req.stop (claimCtrl n), Resp.ok) :=
  issued_guarded sm plan s .offered n _ hi rfl

/-- engine.Stop is only ever asked for this XRD's composite controller, and — unless the
reconcile read the CRD as NotFound or as not controlled by this XRD — only after
List(XR) returned no instance. -/
theorem stop_after_instances (sm : Sem St Req Resp) (plan : Plan) (s : St) (n : String)
    (h : Hist) (ctl : String)
    (hi : (h, Req.stop ctl) ∈ issued sm plan 0 [] (definedRec n) s) :
    ctl = compositeCtrl n ∧ ∃ d, (Req.get ⟨.xrd, n⟩, Resp.obj d) ∈ h ∧
      (CRDNotOursSeen h d.ref d.uid ∨ (Req.list .xr, Resp.list []) ∈ h) :=
  issued_guarded sm plan s .defined n _ hi

theorem stop_after_instances_offered (sm : Sem St Req Resp) (plan : Plan) (s : St) (n : String)
    (h : Hist) (ctl : String)
    (hi : (h, Req.stop ctl) ∈ issued sm plan 0 [] (offeredRec n) s) :
    ctl = claimCtrl n ∧ ∃ d, (Req.get ⟨.xrd, n⟩, Resp.obj d) ∈ h ∧
      (CRDNotOursSeen h d.of d.uid ∨ (Req.list .claim, Resp.list []) ∈ h) :=
  issued_guarded sm plan s .offered n _ hi

/-- The XRD's `defined` finalizer is removed only in a reconcile that read the composite
CRD as NotFound or as not controlled by this XRD. -/
theorem xrd_fin_after_crd (sm : Sem St Req Resp) (plan : Plan) (s : St) (n : String)
    (h : Hist) (k : Key) (rv : Nat)
    (hi : (h, Req.removeFin k rv c08DefinedFinalizer) ∈ issued sm plan 0 [] (definedRec n) s) :
    ∃ d, (Req.get ⟨.xrd, n⟩, Resp.obj d) ∈ h ∧ CRDNotOursSeen h d.ref d.uid :=
  (issued_guarded sm plan s .defined n _ hi rfl).2

theorem xrd_fin_after_crd_offered (sm : Sem St Req Resp) (plan : Plan) (s : St) (n : String)
    (h : Hist) (k : Key) (rv : Nat)
    (hi : (h, Req.removeFin k rv c08OfferedFinalizer) ∈ issued sm plan 0 [] (offeredRec n) s) :
    ∃ d, (Req.get ⟨.xrd, n⟩, Resp.obj d) ∈ h ∧ CRDNotOursSeen h d.of d.uid :=
  (issued_guarded sm plan s .offered n _ hi rfl).2

/-- A deleted package revision removes its finalizer only in a reconcile that saw that it
is not in the Lock: the Lock was NotFound, or was read without it, or the update that
removes it was acknowledged. This holds whatever revision object the reconcile read — in
particular for every value of `spec.desiredState` (`inactive`) and
`spec.skipDependencyResolution` (`skipDeps`): the licence comes from the Lock, never from
the revision's own spec. -/
theorem rev_lock_before_fin (sm : Sem St Req Resp) (plan : Plan) (s : St) (n : String)
    (h : Hist) (k : Key) (rv : Nat)
    (hi : (h, Req.removeFin k rv c08RevisionFinalizer) ∈ issued sm plan 0 [] (revRec n) s) :
    (Req.get lockKey, Resp.notFound) ∈ h ∨ (∃ l, (Req.get lockKey, Resp.obj l) ∈ h ∧ n ∉ l.pkgs) ∨
      ∃ rv' l, (Req.lockRemove rv' n, Resp.obj l) ∈ h :=
  (issued_guarded sm plan s .rev n _ hi rfl).2

/-- The deletion branch of the revision reconciler does not depend on the revision's
`desiredState` / `skipDependencyResolution`: after reading the revision it continues in
exactly the same way whatever those two fields are. -/
theorem rev_deletion_ignores_spec (n : String) (pr : Obj) (a b : Bool) :
    ∃ f, revRec n = .call (.get ⟨.rev, n⟩) f ∧
      f (.obj { pr with inactive := a, skipDeps := b }) = f (.obj pr) :=
  ⟨_, rfl, rfl⟩

/-- The claim reconciler looks its XR up by NAME: after reading the claim it continues in
exactly the same way whatever API version, group or kind `spec.resourceRef` carries
(`refVer`: the same as the controller's XR kind, another version of it — the XRD's
referenceable version changed since the reference was written —, or another kind).  A claim
whose reference is stale in that sense still deletes its XR before it is finalized
(`claim_fin_after_xr` quantifies over every claim object, hence over every `refVer`). -/
theorem claim_lookup_ignores_ref_version (n : String) (cm : Obj) (v : String) :
    ∃ f, claimRec n = .call (.get ⟨.claim, n⟩) f ∧ f (.obj { cm with refVer := v }) = f (.obj cm) :=
  ⟨_, rfl, rfl⟩

/-- a claim with a stale reference version is torn down like any other: XR deleted, then finalized -/
example : (let w : St := { claimWorld false with objs := (claimWorld false).objs.map fun o => { o with refVer := "old" } }
    let s := reach w [.spawn .claim "ns/c", .step 0 .ok, .step 0 .ok, .step 0 .ok, .step 0 .ok]
    ((find s.st ⟨.claim, "ns/c"⟩).isNone, (find s.st ⟨.xr, "x"⟩).map (·.del))) = (true, some true) := by decide +kernel

/-- A Usage that is part of a composition (carries the composite label and names a using
resource) removes its finalizer only in a reconcile that read the using resource — the
object of exactly the API group, kind and name `spec.by` gives — as NotFound, and under
the resourceVersion of the Usage as read. -/
theorem usage_waits_using (sm : Sem St Req Resp) (plan : Plan) (s : St) (n : String)
    (h : Hist) (k : Key) (rv : Nat)
    (hi : (h, Req.removeFin k rv c08UsageFinalizer) ∈ issued sm plan 0 [] (usageRec n) s) :
    ∃ u, (Req.get ⟨.usage, n⟩, Resp.obj u) ∈ h ∧ rv = u.rv ∧
      (u.ref = "" ∨ u.flag = false ∨ (Req.get ⟨u.refKind, u.ref⟩, Resp.notFound) ∈ h) :=
  (issued_guarded sm plan s .usage n _ hi rfl).2

/-- A write that carries the resourceVersion of a copy read earlier (finalizer removal,
status update, Lock update, label removal) is not applied when the stored object has
another resourceVersion: the store is unchanged and the reply is Conflict. -/
theorem stale_write_not_applied (s : St) (k : Key) (rv : Nat) (f : Obj → Obj) (o : Obj)
    (ho : find s k = some o) (hrv : o.rv ≠ rv) : withObj s k rv f = (s, .conflict) := by
  simp [withObj, ho, hrv]

/-! ## regenerated facts: the modelled Go functions still have the modelled call skeleton

`Xp.Gen.c08Skel…` is extracted from the current source tree by go/ast on every check run;
`skel…` is declared in Xp/Model/C08.lean next to the programs, one entry per call with the
model step that mirrors it.  `skeleton_X`: the Go function has exactly the declared calls
in the declared order.  `skeleton_X_paths`: the requests the model's program issues along
each of its designated paths are exactly the declared entries marked with that path, in source
order — the declared skeleton is a function of the `Prog` tree on those paths. -/

theorem skeleton_claim : Xp.Gen.c08SkelClaim = calls skelClaim := rfl
theorem skeleton_xr : Xp.Gen.c08SkelXR = calls skelXR := rfl
theorem skeleton_defined : Xp.Gen.c08SkelDefined = calls skelDefined := rfl
theorem skeleton_offered : Xp.Gen.c08SkelOffered = calls skelOffered := rfl
theorem skeleton_revision : Xp.Gen.c08SkelRevision = calls skelRevision := rfl
theorem skeleton_remove_self : Xp.Gen.c08SkelRemoveSelf = calls skelRemoveSelf := rfl
theorem skeleton_resolve : Xp.Gen.c08SkelResolve = calls skelResolve := rfl
theorem skeleton_usage : Xp.Gen.c08SkelUsage = calls skelUsage := rfl
theorem skeleton_sel_resolve : Xp.Gen.c08SkelSelResolve = calls skelSelResolve := rfl
theorem skeleton_sel_resolve_one : Xp.Gen.c08SkelSelResolveOne = calls skelSelResolveOne := rfl
theorem skeleton_engine_stop : Xp.Gen.c08SkelEngineStop = calls skelEngineStop := rfl
theorem skeleton_engine_start : Xp.Gen.c08SkelEngineStart = calls skelEngineStart := rfl

/-- claim, Background with a bound XR: Get, Get(XR), Delete(XR), RemoveFinalizer, Status().Update;
Foreground with a terminating XR: Get, Get(XR), Status().Update -/
theorem skeleton_claim_paths :
    pathTags (claimRec "n") claimPaths 0 = onPath 0 skelClaim ∧
    pathTags (claimRec "n") claimPaths 1 = onPath 1 skelClaim := by decide +kernel

theorem skeleton_xr_paths :
    pathTags (xrRec "n") xrPaths 0 = onPath 0 skelXR ∧ pathTags (xrRec "n") xrPaths 1 = onPath 1 skelXR := by decide +kernel

/-- definition, CRD ours and no XR left: Get, Status().Update, Get(CRD), DeleteAllOf, List,
Stop, Delete(CRD); CRD gone: Get, Status().Update, Get(CRD), Stop, RemoveFinalizer -/
theorem skeleton_defined_paths :
    pathTags (definedRec "n") definedPaths 0 = onPath 0 skelDefined ∧
    pathTags (definedRec "n") definedPaths 1 = onPath 1 skelDefined := by decide +kernel

theorem skeleton_offered_paths :
    pathTags (offeredRec "n") offeredPaths 0 = onPath 0 skelOffered ∧
    pathTags (offeredRec "n") offeredPaths 1 = onPath 1 skelOffered ∧
    pathTags (offeredRec "n") offeredPaths 2 = onPath 2 skelOffered := by decide +kernel

/-- revision: Get, cache.Delete, [RemoveSelf: Get(Lock), Update(Lock)], RemoveFinalizer -/
theorem skeleton_revision_paths :
    pathTags (revRec "n") revPaths 0 =
      (onPath 0 skelRevision).flatMap (fun t => if t = "RemoveSelf" then onPath 0 skelRemoveSelf else [t]) := by decide +kernel

theorem skeleton_usage_paths :
    pathTags (usageRec "n") usagePaths 0 = onPath 0 skelUsage ∧
    pathTags (usageRec "n") usagePaths 1 = onPath 1 skelUsage ∧
    pathTags (usageRec "n") usagePaths 2 = onPath 2 skelUsage ∧
    pathTags (usageRec "n") usagePaths 2 = ["get"] ++ onPath 2 skelSelResolve ∧
    onPath 2 skelSelResolve = onPath 2 skelSelResolveOne := by decide +kernel

/-- the designated paths are real: each one ends in a teardown write or a wait -/
example : pathTags (definedRec "n") definedPaths 0 = ["get", "setStatus", "get", "deleteAll", "list", "stop", "delete"] ∧
    pathTags (claimRec "n") claimPaths 0 = ["get", "get", "delete", "removeFin", "setStatus"] ∧
    pathTags (revRec "n") revPaths 0 = ["get", "cacheDelete", "get", "lockRemove", "removeFin"] ∧
    pathTags (usageRec "n") usagePaths 0 = ["get", "get", "get", "listUsagesOf", "unlabel", "removeFin"] :=
  -- the marked entries of the declared skeletons, read off
  ⟨skeleton_defined_paths.1.trans rfl, skeleton_claim_paths.1.trans rfl, skeleton_revision_paths.trans rfl,
    skeleton_usage_paths.1.trans rfl⟩

/-- General form: in every reachable configuration the next request of every in-flight
reconcile satisfies `safeReq` in the current store. -/
theorem trace_order (st0 : St) (hw : WF st0) (acts : List Act) (hn : NoCreate acts) (t : Thread) (r : Req) (k : Resp → P)
    (ht : t ∈ (reach st0 acts).ths) (hp : t.prog = .call r k) :
    safeReq (reach st0 acts).st t.ctl t.name r = true :=
  safe_calm st0 hw acts (calm_of_noCreate _ rfl acts hn) t r k ht hp

/-- What a lagging informer cache can show: every store in `past` of a reachable
configuration is an earlier store of the same run, i.e. the current store is a teardown
successor of it (nothing was created, no deletionTimestamp unset, no controller started,
the Lock only lost packages since). This is why a decision taken on a stale read is still
right when the write it licenses is applied. -/
theorem lagged_reads_show_earlier_stores (st0 : St) (hw : WF st0) (acts : List Act) (hn : NoCreate acts) :
    ∀ p ∈ (reach st0 acts).past, Le p (reach st0 acts).st :=
  (ordered_run _ acts (ordered_init st0 hw)).past_le (noBirths_run _ rfl acts hn)

/-- When a claim reconcile is about to remove the claim finalizer and the removal will be
applied (the stored claim still has the resourceVersion the request carries), the XR the
stored claim references — by its CURRENT `spec.resourceRef`, under its CURRENT delete
policy — is gone, or — policy not Foreground — is already being deleted. -/
theorem trace_claim_fin_after_xr (st0 : St) (hw : WF st0) (acts : List Act) (hn : NoCreate acts) (t : Thread) (kk : Key) (rv : Nat) (k : Resp → P)
    (ht : t ∈ (reach st0 acts).ths) (hc : t.ctl = .claim)
    (hp : t.prog = .call (.removeFin kk rv c08ClaimFinalizer) k)
    (cm : Obj) (hcm : find (reach st0 acts).st kk = some cm) (hrv : cm.rv = rv) (href : cm.ref ≠ "")
    (x : Obj) (hx : find (reach st0 acts).st ⟨.xr, cm.ref⟩ = some x) :
    x.del = true ∧ cm.flag = false :=
  safeReq_claim_fin hc (trace_order st0 hw acts hn t _ k ht hp) hcm hrv href hx

/-- When the definition reconcile of XRD `n` is about to delete a CRD, no XR exists and
the composite controller of `n` is not running. -/
theorem trace_crd_after_instances_and_stop (st0 : St) (hw : WF st0) (acts : List Act) (hn : NoCreate acts) (t : Thread) (crd : String) (fg : Bool) (k : Resp → P)
    (ht : t ∈ (reach st0 acts).ths) (hc : t.ctl = .defined)
    (hp : t.prog = .call (.delete ⟨.crd, crd⟩ fg) k) :
    (∀ o ∈ (reach st0 acts).st.objs, o.key.kind ≠ .xr) ∧ compositeCtrl t.name ∉ (reach st0 acts).st.running :=
  safeReq_crd_delete hc rfl (trace_order st0 hw acts hn t _ k ht hp)

theorem trace_crd_after_instances_and_stop_offered (st0 : St) (hw : WF st0) (acts : List Act) (hn : NoCreate acts) (t : Thread) (crd : String) (fg : Bool) (k : Resp → P)
    (ht : t ∈ (reach st0 acts).ths) (hc : t.ctl = .offered)
    (hp : t.prog = .call (.delete ⟨.crd, crd⟩ fg) k) :
    (∀ o ∈ (reach st0 acts).st.objs, o.key.kind ≠ .claim) ∧ claimCtrl t.name ∉ (reach st0 acts).st.running :=
  safeReq_crd_delete hc rfl (trace_order st0 hw acts hn t _ k ht hp)

/-- When the definition reconcile is about to stop the composite controller while the
XRD still exists, either the CRD is gone or not controlled by the XRD ("never ours"), or
no XR exists. -/
theorem trace_stop_after_instances (st0 : St) (hw : WF st0) (acts : List Act) (hn : NoCreate acts) (t : Thread) (ctl : String) (k : Resp → P)
    (ht : t ∈ (reach st0 acts).ths) (hc : t.ctl = .defined) (hp : t.prog = .call (.stop ctl) k)
    (d : Obj) (hd : find (reach st0 acts).st ⟨.xrd, t.name⟩ = some d) :
    crdNotOurs (reach st0 acts).st d.ref d.uid = true ∨ ∀ o ∈ (reach st0 acts).st.objs, o.key.kind ≠ .xr :=
  safeReq_xrd_stop hc rfl (trace_order st0 hw acts hn t _ k ht hp) hd

theorem trace_stop_after_instances_offered (st0 : St) (hw : WF st0) (acts : List Act) (hn : NoCreate acts) (t : Thread) (ctl : String) (k : Resp → P)
    (ht : t ∈ (reach st0 acts).ths) (hc : t.ctl = .offered) (hp : t.prog = .call (.stop ctl) k)
    (d : Obj) (hd : find (reach st0 acts).st ⟨.xrd, t.name⟩ = some d) :
    crdNotOurs (reach st0 acts).st d.of d.uid = true ∨ ∀ o ∈ (reach st0 acts).st.objs, o.key.kind ≠ .claim :=
  safeReq_xrd_stop hc rfl (trace_order st0 hw acts hn t _ k ht hp) hd

/-- When an XRD finalizer is about to be removed, the corresponding CRD is gone or not
controlled by the stored XRD. -/
theorem trace_xrd_fin_after_crd (st0 : St) (hw : WF st0) (acts : List Act) (hn : NoCreate acts) (t : Thread) (kk : Key) (rv : Nat) (k : Resp → P)
    (ht : t ∈ (reach st0 acts).ths) (hc : t.ctl = .defined)
    (hp : t.prog = .call (.removeFin kk rv c08DefinedFinalizer) k)
    (d : Obj) (hd : find (reach st0 acts).st kk = some d) :
    crdNotOurs (reach st0 acts).st d.ref d.uid = true :=
  safeReq_xrd_fin hc rfl (by rfl) (trace_order st0 hw acts hn t _ k ht hp) hd

theorem trace_xrd_fin_after_crd_offered (st0 : St) (hw : WF st0) (acts : List Act) (hn : NoCreate acts) (t : Thread) (kk : Key) (rv : Nat) (k : Resp → P)
    (ht : t ∈ (reach st0 acts).ths) (hc : t.ctl = .offered)
    (hp : t.prog = .call (.removeFin kk rv c08OfferedFinalizer) k)
    (d : Obj) (hd : find (reach st0 acts).st kk = some d) :
    crdNotOurs (reach st0 acts).st d.of d.uid = true :=
  safeReq_xrd_fin hc rfl (by rfl) (trace_order st0 hw acts hn t _ k ht hp) hd

/-- When a revision's finalizer is about to be removed, the Lock (if any) does not list it. -/
theorem trace_rev_lock_before_fin (st0 : St) (hw : WF st0) (acts : List Act) (hn : NoCreate acts) (t : Thread) (kk : Key) (rv : Nat) (k : Resp → P)
    (ht : t ∈ (reach st0 acts).ths) (hc : t.ctl = .rev)
    (hp : t.prog = .call (.removeFin kk rv c08RevisionFinalizer) k)
    (l : Obj) (hl : find (reach st0 acts).st lockKey = some l) : kk.name ∉ l.pkgs :=
  safeReq_rev_fin hc (trace_order st0 hw acts hn t _ k ht hp) hl

/-- When the finalizer of a composed Usage that names a using resource is about to be
removed and the removal will be applied, that using resource (of the API group and kind
the stored Usage names) is gone. -/
theorem trace_usage_waits_using (st0 : St) (hw : WF st0) (acts : List Act) (hn : NoCreate acts) (t : Thread) (kk : Key) (rv : Nat) (k : Resp → P)
    (ht : t ∈ (reach st0 acts).ths) (hc : t.ctl = .usage)
    (hp : t.prog = .call (.removeFin kk rv c08UsageFinalizer) k)
    (u : Obj) (hu : find (reach st0 acts).st kk = some u) (hrv : u.rv = rv) (hf : u.flag = true) (hr : u.ref ≠ "") :
    find (reach st0 acts).st ⟨u.refKind, u.ref⟩ = none :=
  safeReq_usage_fin hc (trace_order st0 hw acts hn t _ k ht hp) hu hrv hf hr

/-! ## every schedule, creations included, minus the windows

The live (not deleted) branches of the same `Reconcile` functions create things: a live
claim creates / binds its XR (`Live.syncXR`), a live XRD applies its CRD and starts its
controller (`Live.applyCRD`, `Live.start`), a live revision adds itself to the Lock
(`Live.lockAdd`), every live object gets its finalizer (`Live.addFin`), a live Usage its
owner reference and the used resource its label (`Live.usageOwn`, `Live.usageLabel`); users
create anything (`Act.create`).  These steps are part of the alphabet below, at any moment.
`Calm` (Xp/Model/C08.lean) excludes exactly this: a creating step taken while an in-flight
reconcile holds a fact its births threaten (`Birth.threatens`: an object appearing under a
key read as NotFound / a kind listed as empty; a controller started after it was stopped;
the owner references of a CRD read as "not ours" replaced; a package added to a Lock read
without it), and a read answered from a cache older than such a birth.  Those are the
windows of the recorded findings and their analogues; everything else is inside. -/

/-- General form for ALL schedules: in every configuration reachable by any schedule that
stays outside the windows — creations by users and creating writes of the live branches
included — the next request of every in-flight reconcile satisfies `safeReq`. -/
theorem trace_order_all (st0 : St) (hw : WF st0) (acts : List Act) (hc : Calm { st := st0, ths := [] } acts)
    (t : Thread) (r : Req) (k : Resp → P)
    (ht : t ∈ (reach st0 acts).ths) (hp : t.prog = .call r k) :
    safeReq (reach st0 acts).st t.ctl t.name r = true :=
  safe_calm st0 hw acts hc t r k ht hp

/-- `trace_order_all` generalises `trace_order`: a creation-free schedule is calm. -/
theorem creation_free_is_calm (st0 : St) (acts : List Act) (hn : NoCreate acts) : Calm { st := st0, ths := [] } acts :=
  calm_of_noCreate _ rfl acts hn

/-- Adding a finalizer, labelling the used resource and updating a status bring nothing into the
world that any fact is about: these live steps are calm wherever a schedule takes them. -/
theorem finalizer_and_label_steps_always_calm (s : Sys) (l : Live)
    (hl : (∃ k fin, l = .addFin k fin) ∨ (∃ u, l = .usageLabel u) ∨ (∃ k cs, l = .status k cs)) : s.calm (.live l) := by
  have hb : (Act.live l).births s = [] := by
    rcases hl with ⟨k, fin, rfl⟩ | ⟨u, rfl⟩ | ⟨k, cs, rfl⟩ <;> rfl
  refine ⟨?_, fun i j h => by cases h⟩
  intro t _ _ f _ b hbm; rw [hb] at hbm; cases hbm

/-- What ONE whole live reconcile (`liveActs`) can bring into the world, per controller: a
live claim only an XR; a live XRD (either controller) only a CRD (new, or with replaced owner
references) and its own controller; a live revision only the Lock and itself in it; a live
Usage only an owner reference on itself; the XR reconciler nothing.  Hence the only windows
a live reconcile can open are about exactly these (`Birth.threatens`), whatever the store. -/
theorem live_reconcile_births (s : St) (c : Ctl) (n : String) (l : Live) (hl : l ∈ liveActs s c n)
    (st : St) (b : Birth) (hb : b ∈ l.births st) :
    match c with
    | .claim => ∃ x, b = .obj ⟨.xr, x⟩
    | .xr => False
    | .defined => (∃ k : Key, k.kind = .crd ∧ (b = .obj k ∨ b = .owners k)) ∨ b = .start (ctrlOf n false)
    | .offered => (∃ k : Key, k.kind = .crd ∧ (b = .obj k ∨ b = .owners k)) ∨ b = .start (ctrlOf n true)
    | .rev => b = .obj lockKey ∨ b = .lock n
    | .usage => b = .owners ⟨.usage, n⟩ := by
  cases c <;> exact births_of _ n l (liveActs_of s _ n l hl) st b hb

/-- the live reconciles do create things (claim: its XR; revision: its Lock entry) -/
example : (liveActs (claimWorld false) .claim "ns/c").length = 3 ∧
    (let s := reach { missWorld with objs := missWorld.objs.map fun o => { o with del := false } } [.live (.addFin ⟨.claim, "ns/c"⟩ c08ClaimFinalizer), .live (.syncXR "ns/c" "x")]
     (find s.st ⟨.xr, "x"⟩).map (·.ref)) = some "ns/c" ∧
    (let s := reach revWorld [.live (.lockAdd "p3")]; (find s.st lockKey).map (·.pkgs)) = some ["p1", "p2", "p3"] := by decide +kernel

/-- A creating step threatens only the facts about what it creates: a live claim creating
XR `x` is calm unless an in-flight reconcile has read `x` as NotFound / had Delete(`x`)
acknowledged / read `x` itself / listed the XRs as empty. -/
theorem sync_xr_window (s : Sys) (c x : String)
    (h : ∀ t ∈ s.ths, t.inFlight = true → ∀ f ∈ facts t.hist,
      f ≠ .gone ⟨.xr, x⟩ ∧ f ≠ .goneOrDel ⟨.xr, x⟩ ∧ f ≠ .noneOf .xr ∧ (∀ a, f ≠ .immut ⟨.xr, x⟩ a)) :
    s.calm (.live (.syncXR c x)) := by
  refine ⟨?_, fun i j h => by cases h⟩
  intro t ht hfl f hf b hbm
  simp only [Act.births, Live.births, List.mem_singleton] at hbm
  subst hbm
  obtain ⟨h1, h2, h3, h4⟩ := h t ht hfl f hf
  cases f with
  | gone k => exact decide_eq_false fun e => h1 (by rw [e])
  | goneOrDel k => exact decide_eq_false fun e => h2 (by rw [e])
  | noneOf kd => exact decide_eq_false fun e => h3 (by rw [← e])
  | immut k a => exact decide_eq_false fun e => h4 a (by rw [e])
  | stopped c => rfl
  | pkgsSub ps => simp [Birth.threatens, lockKey]
  | notInLock n => simp [Birth.threatens, lockKey]

/-! The nine readings of `trace_order_all`: the statements of the `trace_*` theorems above, for
every calm schedule. Each `trace_X` is `trace_X_all` at `creation_free_is_calm`; both are one line from the same
`safeReq_*` reading, and the documents of the property name both sets; the `_all` form is the general one. -/

theorem trace_claim_fin_after_xr_all (st0 : St) (hw : WF st0) (acts : List Act) (hc : Calm { st := st0, ths := [] } acts)
    (t : Thread) (kk : Key) (rv : Nat) (k : Resp → P)
    (ht : t ∈ (reach st0 acts).ths) (hct : t.ctl = .claim)
    (hp : t.prog = .call (.removeFin kk rv c08ClaimFinalizer) k)
    (cm : Obj) (hcm : find (reach st0 acts).st kk = some cm) (hrv : cm.rv = rv) (href : cm.ref ≠ "")
    (x : Obj) (hx : find (reach st0 acts).st ⟨.xr, cm.ref⟩ = some x) :
    x.del = true ∧ cm.flag = false :=
  safeReq_claim_fin hct (trace_order_all st0 hw acts hc t _ k ht hp) hcm hrv href hx

theorem trace_crd_after_instances_and_stop_all (st0 : St) (hw : WF st0) (acts : List Act) (hc : Calm { st := st0, ths := [] } acts)
    (t : Thread) (crd : String) (fg : Bool) (k : Resp → P)
    (ht : t ∈ (reach st0 acts).ths) (hct : t.ctl = .defined)
    (hp : t.prog = .call (.delete ⟨.crd, crd⟩ fg) k) :
    (∀ o ∈ (reach st0 acts).st.objs, o.key.kind ≠ .xr) ∧ compositeCtrl t.name ∉ (reach st0 acts).st.running :=
  safeReq_crd_delete hct rfl (trace_order_all st0 hw acts hc t _ k ht hp)

theorem trace_crd_after_instances_and_stop_offered_all (st0 : St) (hw : WF st0) (acts : List Act) (hc : Calm { st := st0, ths := [] } acts)
    (t : Thread) (crd : String) (fg : Bool) (k : Resp → P)
    (ht : t ∈ (reach st0 acts).ths) (hct : t.ctl = .offered)
    (hp : t.prog = .call (.delete ⟨.crd, crd⟩ fg) k) :
    (∀ o ∈ (reach st0 acts).st.objs, o.key.kind ≠ .claim) ∧ claimCtrl t.name ∉ (reach st0 acts).st.running :=
  safeReq_crd_delete hct rfl (trace_order_all st0 hw acts hc t _ k ht hp)

theorem trace_stop_after_instances_all (st0 : St) (hw : WF st0) (acts : List Act) (hc : Calm { st := st0, ths := [] } acts)
    (t : Thread) (ctl : String) (k : Resp → P)
    (ht : t ∈ (reach st0 acts).ths) (hct : t.ctl = .defined) (hp : t.prog = .call (.stop ctl) k)
    (d : Obj) (hd : find (reach st0 acts).st ⟨.xrd, t.name⟩ = some d) :
    crdNotOurs (reach st0 acts).st d.ref d.uid = true ∨ ∀ o ∈ (reach st0 acts).st.objs, o.key.kind ≠ .xr :=
  safeReq_xrd_stop hct rfl (trace_order_all st0 hw acts hc t _ k ht hp) hd

theorem trace_stop_after_instances_offered_all (st0 : St) (hw : WF st0) (acts : List Act) (hc : Calm { st := st0, ths := [] } acts)
    (t : Thread) (ctl : String) (k : Resp → P)
    (ht : t ∈ (reach st0 acts).ths) (hct : t.ctl = .offered) (hp : t.prog = .call (.stop ctl) k)
    (d : Obj) (hd : find (reach st0 acts).st ⟨.xrd, t.name⟩ = some d) :
    crdNotOurs (reach st0 acts).st d.of d.uid = true ∨ ∀ o ∈ (reach st0 acts).st.objs, o.key.kind ≠ .claim :=
  safeReq_xrd_stop hct rfl (trace_order_all st0 hw acts hc t _ k ht hp) hd

theorem trace_xrd_fin_after_crd_all (st0 : St) (hw : WF st0) (acts : List Act) (hc : Calm { st := st0, ths := [] } acts)
    (t : Thread) (kk : Key) (rv : Nat) (k : Resp → P)
    (ht : t ∈ (reach st0 acts).ths) (hct : t.ctl = .defined)
    (hp : t.prog = .call (.removeFin kk rv c08DefinedFinalizer) k)
    (d : Obj) (hd : find (reach st0 acts).st kk = some d) :
    crdNotOurs (reach st0 acts).st d.ref d.uid = true :=
  safeReq_xrd_fin hct rfl (by rfl) (trace_order_all st0 hw acts hc t _ k ht hp) hd

theorem trace_xrd_fin_after_crd_offered_all (st0 : St) (hw : WF st0) (acts : List Act) (hc : Calm { st := st0, ths := [] } acts)
    (t : Thread) (kk : Key) (rv : Nat) (k : Resp → P)
    (ht : t ∈ (reach st0 acts).ths) (hct : t.ctl = .offered)
    (hp : t.prog = .call (.removeFin kk rv c08OfferedFinalizer) k)
    (d : Obj) (hd : find (reach st0 acts).st kk = some d) :
    crdNotOurs (reach st0 acts).st d.of d.uid = true :=
  safeReq_xrd_fin hct rfl (by rfl) (trace_order_all st0 hw acts hc t _ k ht hp) hd

theorem trace_rev_lock_before_fin_all (st0 : St) (hw : WF st0) (acts : List Act) (hc : Calm { st := st0, ths := [] } acts)
    (t : Thread) (kk : Key) (rv : Nat) (k : Resp → P)
    (ht : t ∈ (reach st0 acts).ths) (hct : t.ctl = .rev)
    (hp : t.prog = .call (.removeFin kk rv c08RevisionFinalizer) k)
    (l : Obj) (hl : find (reach st0 acts).st lockKey = some l) : kk.name ∉ l.pkgs :=
  safeReq_rev_fin hct (trace_order_all st0 hw acts hc t _ k ht hp) hl

theorem trace_usage_waits_using_all (st0 : St) (hw : WF st0) (acts : List Act) (hc : Calm { st := st0, ths := [] } acts)
    (t : Thread) (kk : Key) (rv : Nat) (k : Resp → P)
    (ht : t ∈ (reach st0 acts).ths) (hct : t.ctl = .usage)
    (hp : t.prog = .call (.removeFin kk rv c08UsageFinalizer) k)
    (u : Obj) (hu : find (reach st0 acts).st kk = some u) (hrv : u.rv = rv) (hf : u.flag = true) (hr : u.ref ≠ "") :
    find (reach st0 acts).st ⟨u.refKind, u.ref⟩ = none :=
  safeReq_usage_fin hct (trace_order_all st0 hw acts hc t _ k ht hp) hu hrv hf hr

/-- `Calm` is satisfiable by schedules that do create things while a teardown is in flight:
the XRD teardown of `xrdWorld` interleaved with a finalizer added to the XR, a package
joining a newly created Lock, another XRD's controller being started and a live claim
getting its XR — up to the point where the definition reconcile lists the XRs. -/
example : Calm { st := { xrdWorld with objs := xrdWorld.objs ++ [{ mk ⟨.claim, "ns/c"⟩ 4 [] false with ref := "y" }], nextRv := 5 }, ths := [] }
    [.spawn .defined "xs.example.org", .step 0 .ok, .live (.addFin ⟨.xr, "x"⟩ "example.com/hold"), .step 0 .ok,
     .live (.lockAdd "p9"), .step 0 .ok, .live (.start "other.example.org" false), .live (.syncXR "ns/c" "y"), .step 0 .ok] :=
  calm_of_calmRun _ _ (by decide +kernel)

/-- The recreation finding through the live branch itself: the definition reconcile has
listed the XRs as empty; the LIVE claim `ns/c` then syncs (creates) its XR `x`
(`Live.syncXR`); the reconcile goes on to stop the controller, and to delete the CRD, with
an instance present.  The step is outside `Calm` (it threatens the fact `noneOf xr` the
in-flight reconcile holds), which is why `trace_order_all` does not apply. -/
theorem trace_stop_after_instances_fails_with_live_claim_witness :
    (reach raceWorld [.spawn .defined "xs.example.org", .step 0 .ok, .step 0 .ok, .step 0 .ok, .step 0 .ok, .step 0 .ok,
      .live (.syncXR "ns/c" "x")]).violatesAt 0 = true ∧
    (reach raceWorld [.spawn .defined "xs.example.org", .step 0 .ok, .step 0 .ok, .step 0 .ok, .step 0 .ok, .step 0 .ok,
      .live (.syncXR "ns/c" "x"), .step 0 .ok]).violatesAt 0 = true ∧
    ((reach raceWorld [.spawn .defined "xs.example.org", .step 0 .ok, .step 0 .ok, .step 0 .ok, .step 0 .ok, .step 0 .ok]).ths.all
      fun t => (facts t.hist).any fun f => (Birth.obj ⟨.xr, "x"⟩).threatens f) = true := by decide +kernel

/-- The analogous windows of the other births, which need two reconciles of one key at a
time or a restart in the middle of a teardown: a live definition reconcile of the same XRD
(working on a copy older than the deletion) starts the controller again after the teardown
reconcile stopped it and before it deletes the CRD. -/
theorem trace_crd_after_stop_fails_with_restart_witness :
    (reach { xrdWorld with objs := xrdWorld.objs.take 2 }
      [.spawn .defined "xs.example.org", .step 0 .ok, .step 0 .ok, .step 0 .ok, .step 0 .ok, .step 0 .ok, .step 0 .ok,
       .live (.start "xs.example.org" false)]).violatesAt 0 = true := by decide +kernel

/-- The definition reconcile reads "no XR left"; a reconcile of the still-live claim then
re-creates the claim's XR (modelled as a creation step; reproduced on the real claim
reconciler, see corpus/C08/recreate-race.jsonl); the definition reconcile goes on
to stop the composite controller although an instance exists and the CRD is ours. The
same happens for Delete(crd) one call later. This is why the `trace_*` theorems assume
`NoCreate` (and the `trace_*_all` theorems `Calm`) — and a genuine time-of-check/time-of-use window of the unchanged code. -/
theorem trace_stop_after_instances_fails_with_recreation_witness :
    (reach raceWorld [.spawn .defined "xs.example.org", .step 0 .ok, .step 0 .ok, .step 0 .ok, .step 0 .ok, .step 0 .ok,
      .create (mk ⟨.xr, "x"⟩ 9 [] false)]).violatesAt 0 = true ∧
    (reach raceWorld [.spawn .defined "xs.example.org", .step 0 .ok, .step 0 .ok, .step 0 .ok, .step 0 .ok, .step 0 .ok,
      .create (mk ⟨.xr, "x"⟩ 9 [] false), .step 0 .ok]).violatesAt 0 = true := by decide +kernel

/-- without the creation step the same schedule is safe at both points -/
example :
    (reach raceWorld [.spawn .defined "xs.example.org", .step 0 .ok, .step 0 .ok, .step 0 .ok, .step 0 .ok, .step 0 .ok]).violatesAt 0 = false ∧
    (reach raceWorld [.spawn .defined "xs.example.org", .step 0 .ok, .step 0 .ok, .step 0 .ok, .step 0 .ok, .step 0 .ok, .step 0 .ok]).violatesAt 0 = false :=
  -- creation-free, hence calm
  ⟨violatesAt_calm _ (by decide) _ (calm_of_noCreate _ rfl _ (by decide)) 0,
    violatesAt_calm _ (by decide) _ (calm_of_noCreate _ rfl _ (by decide)) 0⟩

/-- The same restriction is what makes lagging caches harmless: a cache that is OLDER than
the creation of an object ("the informer has not seen the XR yet") answers NotFound for an
object that exists. Here the XR is created (step 0), the claim reconcile reads the claim
and then reads the XR from the cache as it was before step 0: it goes on to remove the
claim's finalizer although the XR exists and is not being deleted (reproduced on the real
claim reconciler: corpus/C08/cache-miss.jsonl, recorded finding
C08:claim-finalized-xr-missing-from-cache). Without the creation step — whatever the lag —
`trace_order` applies. -/
theorem trace_claim_fin_fails_with_cache_miss_witness :
    (reach missWorld [.create { mk ⟨.xr, "x"⟩ 9 [c08XRFinalizer] false with ref := "ns/c" },
      .spawn .claim "ns/c", .step 0 .ok, .lagStep 0 0]).violatesAt 0 = true := by decide +kernel

/-- with a fresh read at the same point the reconcile deletes the XR first -/
example :
    (reach missWorld [.create { mk ⟨.xr, "x"⟩ 9 [c08XRFinalizer] false with ref := "ns/c" },
      .spawn .claim "ns/c", .step 0 .ok, .step 0 .ok]).violatesAt 0 = false := by decide

/-- the hypothesis `WF` holds of the example worlds (and of every store the harness builds:
object i carries resourceVersion i+1, the next one is n+1) -/
example : WF raceWorld ∧ WF (claimWorld true) ∧ WF xrdWorld ∧ WF revWorld ∧ WF usageWorld ∧ WF missWorld := by
  decide

/-- Background claim: the reconcile read the claim, read the XR, had Delete(XR)
acknowledged; then a third party switches the claim to Foreground. The pending finalizer
removal carries the old resourceVersion: it is safe (it will not be applied), the API
server answers Conflict and the claim keeps its finalizer while the XR exists. -/
example : (let s := reach (claimWorld false) [.spawn .claim "ns/c", .step 0 .ok, .step 0 .ok, .step 0 .ok,
      .edit ⟨.claim, "ns/c"⟩ .flip]
    let s' := s.act (.step 0 .ok)
    (s.violatesAt 0, (find s'.st ⟨.claim, "ns/c"⟩).map (fun c => (c.flag, c.fins)), (find s'.st ⟨.xr, "x"⟩).isSome)) =
    (false, some (true, [c08ClaimFinalizer]), true) := by decide +kernel

/-- a Usage reconcile that reads its using resource from a cache lagging behind the
resource's deletion waits once more (stale, but safe) -/
example : (let s := reach usageWorld [.del ⟨.res, "using"⟩, .spawn .usage "u", .step 0 .ok, .lagStep 0 0]
    ((find s.st ⟨.res, "using"⟩).isNone, (s.ths[0]?).map (fun t => match t.prog with | .ret r => r == .requeue | _ => false))) =
    (true, some true) := by decide

/-- the using resource is looked up under the API group and kind `spec.by` names: an object
of another kind with the same name does not make the Usage wait, nor does its absence
release a Usage whose own using resource exists -/
example : (let w : St := { usageWorld with objs := usageWorld.objs ++ [mk ⟨.res2, "using"⟩ 7 [] false], nextRv := 8 }
    let s := reach w [.del ⟨.res2, "using"⟩, .spawn .usage "u", .step 0 .ok, .step 0 .ok]
    (s.ths[0]?).map (fun t => match t.prog with | .ret r => r == .requeue | _ => false)) = some true := by decide

/-! ## non-vacuity: the guarded writes do happen -/

/-- Background: get claim, get XR, delete XR, remove finalizer: the claim is gone, the XR is terminating. -/
example : (let s := reach (claimWorld false) [.spawn .claim "ns/c", .step 0 .ok, .step 0 .ok, .step 0 .ok, .step 0 .ok]
    ((find s.st ⟨.claim, "ns/c"⟩).isNone, (find s.st ⟨.xr, "x"⟩).map (·.del))) = (true, some true) := by decide +kernel

/-- Foreground: the first reconcile deletes the XR and waits; the claim keeps its finalizer
until the XR reconciler and the garbage collector have removed the XR. -/
example : (let s := reach (claimWorld true) [.spawn .claim "ns/c", .step 0 .ok, .step 0 .ok, .step 0 .ok]
    ((find s.st ⟨.claim, "ns/c"⟩).map (·.fins), (find s.st ⟨.xr, "x"⟩).map (·.fins))) =
    (some [c08ClaimFinalizer], some [c08XRFinalizer, fgFin]) := by decide +kernel

example : (let s := reach (claimWorld true) [.spawn .claim "ns/c", .step 0 .ok, .step 0 .ok, .step 0 .ok,
      .spawn .xr "x", .step 1 .ok, .step 1 .ok, .gc,
      .spawn .claim "ns/c", .step 2 .ok, .step 2 .ok, .step 2 .ok]
    ((find s.st ⟨.claim, "ns/c"⟩).isNone, (find s.st ⟨.xr, "x"⟩).isNone)) = (true, true) := by decide +kernel

/-- XRD teardown: first reconcile deletes the instance and waits; after the XR reconciler
finalized it the second reconcile stops the controller and deletes the CRD; the third
removes the finalizer. -/
example : (let s := reach xrdWorld [.spawn .defined "xs.example.org", .step 0 .ok, .step 0 .ok, .step 0 .ok, .step 0 .ok, .step 0 .ok,
      .spawn .xr "x", .step 1 .ok, .step 1 .ok,
      .spawn .defined "xs.example.org", .step 2 .ok, .step 2 .ok, .step 2 .ok, .step 2 .ok, .step 2 .ok, .step 2 .ok, .step 2 .ok,
      .spawn .defined "xs.example.org", .step 3 .ok, .step 3 .ok, .step 3 .ok, .step 3 .ok, .step 3 .ok]
    (s.st.objs.length, s.st.running)) = (0, []) := by decide +kernel

/-- an Inactive, skipDependencyResolution revision that is still in the Lock leaves it before it is finalized -/
example : (let s := reach staleRevWorld [.spawn .rev "p1", .step 0 .ok, .step 0 .ok, .step 0 .ok, .step 0 .ok, .step 0 .ok]
    ((find s.st ⟨.rev, "p1"⟩).isNone, (find s.st lockKey).map (·.pkgs))) = (true, some ["p2"]) := by decide +kernel

example : (let s := reach revWorld [.spawn .rev "p1", .step 0 .ok, .step 0 .ok, .step 0 .ok, .step 0 .ok, .step 0 .ok]
    ((find s.st ⟨.rev, "p1"⟩).isNone, (find s.st lockKey).map (·.pkgs))) = (true, some ["p2"]) := by decide +kernel

/-- the Usage waits while the using resource exists, and is finalized once it is gone -/
example : (let s := reach usageWorld [.spawn .usage "u", .step 0 .ok, .step 0 .ok, .del ⟨.res, "using"⟩,
      .spawn .usage "u", .step 1 .ok, .step 1 .ok, .step 1 .ok, .step 1 .ok, .step 1 .ok, .step 1 .ok]
    ((s.ths[0]?).map (fun t => match t.prog with | .ret r => r == .requeue | _ => false),
     (find s.st ⟨.usage, "u"⟩).isNone, (find s.st ⟨.res, "used"⟩).map (·.inuse))) = (some true, true, some false) := by decide +kernel

end Xp.C08
