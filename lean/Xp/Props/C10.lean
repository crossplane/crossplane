import Xp.Proofs.C10Apply
import Xp.Proofs.C10Meta
import Xp.Proofs.C10World
import Xp.Proofs.C10Str
import Xp.Model.C10Skel
import Xp.Gen.C10Skel
/-
C10 property theorems: Patch & Transform rendering is total, deterministic and never applies a
half-rendered resource. The general lemmas the proofs rest on are in Xp/Proofs/C10*.lean.

`apply p xr cd only` models composite.Apply (all patch types, the `only` filter), `resolve`
composite.Resolve, `composePT` the render and apply loops of PTComposer.Compose.
-/
namespace Xp.C10

/-! ### optional / required policies -/

/-- FromCompositeFieldPath / ToCompositeFieldPath with an Optional (or absent) policy whose source
path is missing: no error and neither object changes – whatever the transforms, destination path,
merge options and the `only` filter are. -/
theorem optional_missing_noop (p : Patch) (xr cd : V) (only : List String) (fp : Path)
    (ht : p.getType = "FromCompositeFieldPath" ∨ p.getType = "ToCompositeFieldPath")
    (hf : p.fromPath = some fp) (hopt : p.optional = true)
    (hmiss : getPath (sourceOf p xr cd) fp = .error .notFound) :
    apply p xr cd only = ⟨xr, cd, none⟩ := by
  cases hfl : filtered p only
  · rw [apply_missing p xr cd only fp ht hfl hf hmiss, hopt]
    rfl
  · exact apply_filtered xr cd hfl

/-- The same for the Combine patch types: as soon as one variable is missing (all earlier ones
being readable) an optional patch does nothing. -/
theorem optional_missing_noop_combine (p : Patch) (xr cd : V) (only : List String) (c : Combine) (tp : Path)
    (pre post : List Path) (v : Path)
    (ht : p.getType = "CombineFromComposite" ∨ p.getType = "CombineToComposite")
    (hc : p.combine = some c) (hto : p.toPath = some tp) (hopt : p.optional = true)
    (hvars : c.variables = pre ++ v :: post)
    (hpre : ∀ u ∈ pre, ∃ x, getPath (sourceOf p xr cd) u = .ok x)
    (hmiss : getPath (sourceOf p xr cd) v = .error .notFound) :
    apply p xr cd only = ⟨xr, cd, none⟩ := by
  cases hfl : filtered p only
  · rw [apply_missing_combine p xr cd only c tp pre post v ht hfl hc hto hvars hpre hmiss, hopt]
    rfl
  · exact apply_filtered xr cd hfl

/-- A Required patch (policy present and not "Optional") that is not filtered out and whose source
path is missing is an error, and neither object changes. -/
theorem required_missing_error (p : Patch) (xr cd : V) (only : List String) (fp : Path)
    (ht : p.getType = "FromCompositeFieldPath" ∨ p.getType = "ToCompositeFieldPath")
    (hnf : filtered p only = false)
    (hf : p.fromPath = some fp) (hreq : p.optional = false)
    (hmiss : getPath (sourceOf p xr cd) fp = .error .notFound) :
    apply p xr cd only = ⟨xr, cd, some .notFound⟩ := by
  rw [apply_missing p xr cd only fp ht hnf hf hmiss, hreq]
  rfl

theorem required_missing_error_combine (p : Patch) (xr cd : V) (only : List String) (c : Combine) (tp : Path)
    (pre post : List Path) (v : Path)
    (ht : p.getType = "CombineFromComposite" ∨ p.getType = "CombineToComposite")
    (hnf : filtered p only = false)
    (hc : p.combine = some c) (hto : p.toPath = some tp) (hreq : p.optional = false)
    (hvars : c.variables = pre ++ v :: post)
    (hpre : ∀ u ∈ pre, ∃ x, getPath (sourceOf p xr cd) u = .ok x)
    (hmiss : getPath (sourceOf p xr cd) v = .error .notFound) :
    apply p xr cd only = ⟨xr, cd, some .notFound⟩ := by
  rw [apply_missing_combine p xr cd only c tp pre post v ht hnf hc hto hvars hpre hmiss, hreq]
  rfl

/-! ### patches never modify their source -/

/-- Whatever the patch, the objects and the filter: the object the patch reads from comes out of
`Apply` exactly as it went in (also on every error path); an unknown patch type changes nothing. -/
theorem source_unchanged (p : Patch) (xr cd : V) (only : List String) :
    ((p.getType = "FromCompositeFieldPath" ∨ p.getType = "CombineFromComposite") → (apply p xr cd only).xr = xr) ∧
    ((p.getType = "ToCompositeFieldPath" ∨ p.getType = "CombineToComposite") → (apply p xr cd only).cd = cd) ∧
    ((p.getType ≠ "FromCompositeFieldPath" ∧ p.getType ≠ "CombineFromComposite" ∧
      p.getType ≠ "ToCompositeFieldPath" ∧ p.getType ≠ "CombineToComposite") →
        (apply p xr cd only).xr = xr ∧ (apply p xr cd only).cd = cd) := by
  unfold apply
  fun_cases applyWith selectGroup p xr cd only with
  | case1 | case6 => exact ⟨fun _ => rfl, fun _ => rfl, fun _ => ⟨rfl, rfl⟩⟩   -- filtered out; an unknown type
  | case2 | case4 =>
    -- a from-XR type: the XR is kept, the other two clauses speak of other types
    rename_i ht _
    exact ⟨fun _ => rfl, fun h => by simp [ht] at h, fun h => by simp [ht] at h⟩
  | case3 | case5 =>
    -- a to-XR type: the composed resource is kept
    rename_i ht _
    exact ⟨fun h => by simp [ht] at h, fun _ => rfl, fun h => by simp [ht] at h⟩

/-- Rendering all from-XR patches of a template leaves the composite resource untouched. -/
theorem render_source_unchanged (ps : List Patch) : ∀ (xr cd : V), (renderFromXR xr cd ps).xr = xr := by
  intro xr cd
  fun_induction renderFromXR xr cd ps with
  | case1 => rfl
  | case2 xr cd p => exact apply_fromXR_xr p xr cd                         -- the first patch fails: the loop ends
  | case3 xr cd p ps r hr ih => exact ih.trans (apply_fromXR_xr p xr cd)   -- it does not: the later patches

/-! ### a patch writes what it read -/

/-- Paved.SetValue followed by GetValue on the same (non-empty) path returns the value that was
written, as normalised by the JSON round trip – for every object, path (creating intermediate
objects and arrays, growing arrays) and value. -/
theorem set_then_get (root : V) (segs : List Seg) (v r : V) (hne : segs ≠ [])
    (h : setValue root segs v = .ok r) : ∃ v', norm v = .ok v' ∧ getValue r segs = .ok v' := by
  obtain ⟨v', hv, hs⟩ := setValue_ok h
  refine ⟨v', hv, ?_⟩
  cases segs with
  | nil => exact absurd rfl hne
  | cons s ss => exact getIn_setIn _ root v' r hne hs

/-- Field paths are identified segment by segment by the EXACT key: Paved.SetValue below `pre.k`
leaves whatever GetValue reads through `pre.k'` untouched whenever k' ≠ k as strings – a key that
is a string prefix of k (`tags` / `tagsExtra`), a case variant (`tags` / `Tags`), a key containing
the separator (`a.b` next to the nested `a`, `b`) – for every object, common field prefix `pre`,
continuation of either path and value. -/
theorem set_leaves_sibling_paths (root : V) (pre : List String) (k k' : String) (rest qs : List Seg) (v r : V)
    (hk : k ≠ k') (h : setValue root (pre.map Seg.field ++ Seg.field k :: rest) v = .ok r) :
    getValue r (pre.map Seg.field ++ Seg.field k' :: qs) = getValue root (pre.map Seg.field ++ Seg.field k' :: qs) := by
  obtain ⟨v', _, hs⟩ := setValue_ok h
  have e : ∀ x, getValue x (pre.map Seg.field ++ Seg.field k' :: qs) = getIn x (pre.map Seg.field ++ Seg.field k' :: qs) := by
    intro x; cases pre <;> rfl
  rw [e, e]
  exact getIn_setIn_sibling k k' hk rest qs pre root v' r hs

/-! ### totality: nothing in the modelled rendering path can panic -/

/-- The regexp transform returns the "no match" error for every group index outside
[0, len groups), negative ones included, and the selected group otherwise. -/
theorem group_index_guard (groups : List String) (g : Int) :
    ((g < 0 ∨ g ≥ groups.length) → selectGroup groups g = .error .noMatch) ∧
    ((0 ≤ g ∧ g < groups.length) → ∃ s, selectGroup groups g = .ok s ∧ groups[g.toNat]? = some s) :=
  ⟨selectGroup_out_of_range groups g, fun h => selectGroup_in_range groups g h.1 h.2⟩

/-- The guard as written at the pinned commit lets a negative index through to `groups[g]`:
the defect D1 (corpus/C10/d1-negative-group.jsonl, fixes/D1.diff). -/
theorem group_index_guard_fails_on_unfixed_witness :
    selectGroupUnfixed ["abc-def", "abc", "def"] (-1) = .error .panic := by rfl

/-- No transform, for any configuration (nil configs, unknown types, any group index, any oracle
answers) and any input value, ends in the panic outcome. -/
theorem resolve_never_panics (t : Xf) (input : V) : resolve t input ≠ .error .panic :=
  (resolve_np selectGroup_np t input).ne

/-- `Apply` on two objects never ends in the panic outcome: in particular `array[i] = v` in
Paved.setValue is never reached with an index out of range, for any path, value and object. -/
theorem apply_never_panics (p : Patch) (mx mc : List (String × V)) (only : List String) :
    (apply p (.obj mx) (.obj mc) only).err ≠ some .panic :=
  (applyWith_np selectGroup_np p mx mc only).ne

/-! ### transforms agree with their documented meaning: clamps -/

/-- "ClampMax makes sure that the value is not bigger than the given value": for every int64 input
the result is the input when it is within the bound and the bound otherwise. -/
theorem clamp_max_int (o : Orc) (m : MathCfg) (mx i : Int) (ht : m.type = "ClampMax") (hm : m.clampMax = some mx) :
    resolveMath o m (.num i) = .ok (.num (if i > mx then mx else i)) ∧ (if i > mx then mx else i) ≤ mx := by
  obtain ⟨ty, mul, cmin, cmax⟩ := m
  subst ht hm
  refine ⟨?_, by split <;> omega⟩
  -- with a literal type the validation and the dispatch compute
  show (if i > mx then Except.ok (V.num mx) else Except.ok (V.num i)) = _
  split <;> rfl

/-- "ClampMin makes sure that the value is not smaller than the given value". -/
theorem clamp_min_int (o : Orc) (m : MathCfg) (mn i : Int) (ht : m.type = "ClampMin") (hm : m.clampMin = some mn) :
    resolveMath o m (.num i) = .ok (.num (if i < mn then mn else i)) ∧ mn ≤ (if i < mn then mn else i) := by
  obtain ⟨ty, mul, cmin, cmax⟩ := m
  subst ht hm
  refine ⟨?_, by split <;> omega⟩
  show (if i < mn then Except.ok (V.num mn) else Except.ok (V.num i)) = _
  split <;> rfl

/-- For a float64 input the comparison itself is library behaviour (the oracle's `gtMax` is
`f > float64(clampMax)`); the model fixes what is done with the verdict: the bound when the
input exceeds it, the input unchanged otherwise – no truncation in between. -/
theorem clamp_max_float (o : Orc) (m : MathCfg) (mx : Int) (r : String) (gt : Bool)
    (ht : m.type = "ClampMax") (hm : m.clampMax = some mx)
    (ho : orcVal o (.flt r) "gtMax" = .ok (.bool gt)) :
    resolveMath o m (.flt r) = .ok (if gt then .num mx else .flt r) := by
  simp only [resolveMath, MathCfg.valid, MathCfg.getType, ht, hm, ho]
  cases gt <;> simp

theorem clamp_min_float (o : Orc) (m : MathCfg) (mn : Int) (r : String) (lt : Bool)
    (ht : m.type = "ClampMin") (hm : m.clampMin = some mn)
    (ho : orcVal o (.flt r) "ltMin" = .ok (.bool lt)) :
    resolveMath o m (.flt r) = .ok (if lt then .num mn else .flt r) := by
  simp only [resolveMath, MathCfg.valid, MathCfg.getType, ht, hm, ho]
  cases lt <;> simp

/-- The code at the pinned commit truncates the float to int64 before comparing: 2.9 (truncated
to 2) passes a ClampMax of 2 unchanged although 2.9 > 2 – defect D17
(corpus/C10/d17-float-clamp.jsonl, fixes/D17.diff). -/
theorem clamp_float_fails_on_unfixed_witness :
    (clampMaxFloatUnfixed 2 2 (.flt "2.9") == .flt "2.9") = true := by decide

/-! ### conversions round-trip -/

/-- int64 → string → int64 is the identity on every int64 (decimal printing and parsing modelled;
the two conversions are looked up in the table regenerated from `conversions`). -/
theorem convert_roundtrip_int_string (o1 o2 : Orc) (i : Int) (h : fits64 i = true) :
    (resolveConvert o1 ⟨"string", none⟩ (.num i)).bind (resolveConvert o2 ⟨"int64", none⟩) = .ok (.num i) := by
  -- with literal type names both calls compute down to the table's functions
  show (match parseInt (fmtInt i) with
    | some i => Except.ok (V.num i)
    | none => Except.error E.convParse) = _
  rw [parseInt_fmtInt i h]

/-- bool → string → bool is the identity. -/
theorem convert_roundtrip_bool_string (o1 o2 : Orc) (b : Bool) :
    (resolveConvert o1 ⟨"string", none⟩ (.bool b)).bind (resolveConvert o2 ⟨"bool", none⟩) = .ok (.bool b) := by
  cases b <;> rfl

/-- bool → int64 → bool is the identity. -/
theorem convert_roundtrip_bool_int (o1 o2 : Orc) (b : Bool) :
    (resolveConvert o1 ⟨"int64", none⟩ (.bool b)).bind (resolveConvert o2 ⟨"bool", none⟩) = .ok (.bool b) := by
  cases b <;> rfl

/-- int64 → bool → int64 is the identity exactly on {0, 1}. -/
theorem convert_roundtrip_int_bool (o1 o2 : Orc) (i : Int) :
    (resolveConvert o1 ⟨"bool", none⟩ (.num i)).bind (resolveConvert o2 ⟨"int64", none⟩) =
      .ok (.num (if i = 1 then 1 else 0)) := by
  show Except.ok (V.num (if (i == 1) = true then 1 else 0)) = _
  simp only [beq_iff_eq]

/-- The string side does not round-trip in general (documented behaviour, not a defect): "+7"
and "007" both parse to 7, which prints as "7". -/
theorem convert_string_int_string_not_identity :
    parseInt (String.ofList ['+', '7']) = some 7 ∧ parseInt (String.ofList ['0', '0', '7']) = some 7 := by
  refine ⟨?_, ?_⟩
  · simp only [parseInt, String.toList_ofList]
    decide
  · simp only [parseInt, String.toList_ofList]
    decide

/-! ### determinism -/

/-- Apart from the generated name, rendering a template is a function of the XR, the template and
the existing resource only: two runs that differ in nothing but the name generator's answer agree
on whether the base parses and on the rendered object up to `metadata.name`. -/
theorem render_deterministic (xr : V) (t : Tpl) (g1 g2 : NameGen) :
    (renderTpl xr { t with nameGen := g1 }).map (fun r => removeMeta r.cd "name") =
    (renderTpl xr { t with nameGen := g2 }).map (fun r => removeMeta r.cd "name") := by
  unfold renderTpl
  dsimp only
  split
  · rfl
  · rename_i o _
    simp only [Option.map_some, Option.some.injEq]
    generalize (renderMeta (renderFromXR xr o t.patches).cd xr (t.name.getD "")).1 = cd2
    by_cases hskip : (getMetaStr cd2 "name" != "" || getMetaStr cd2 "generateName" == "") = true
    · simp [hskip]
    · simp only [hskip, Bool.false_eq_true, if_false]
      -- a name is generated only under a generateName, so `metadata` is an object and setting then
      -- removing the name is removing it
      have hgn : getMetaStr cd2 "generateName" ≠ "" := by
        intro he
        apply hskip
        simp [he]
      obtain ⟨m, md, rfl, hmd⟩ := metaObj_of_getMetaStr hgn
      cases g1 <;> cases g2 <;> simp [removeMeta_setMeta m md _ _ hmd]

/-! ### a half-rendered resource is never applied -/

/-- A template is unrendered as soon as one from-XR patch, the metadata rendering or the name
generation failed. -/
theorem unrendered_of_failure (xr : V) (t : Tpl) (o : V) (r : Rendered)
    (ho : renderFromJSON t.refKind t.refApiVersion t.refName "" t.base = .ok o)
    (hr : renderTpl xr t = some r)
    (hfail : (renderFromXR xr o t.patches).err.isSome = true ∨
             (renderMeta (renderFromXR xr o t.patches).cd xr (t.name.getD "")).2.isSome = true ∨
             (getMetaStr (renderMeta (renderFromXR xr o t.patches).cd xr (t.name.getD "")).1 "name" = "" ∧
              getMetaStr (renderMeta (renderFromXR xr o t.patches).cd xr (t.name.getD "")).1 "generateName" ≠ "" ∧
              t.nameGen = .fail)) :
    r.rendered = false := by
  unfold renderTpl at hr
  rw [ho] at hr
  simp only [Option.some.injEq] at hr
  subst hr
  rcases hfail with h | h | ⟨h1, h2, h3⟩
  · cases he : (renderFromXR xr o t.patches).err with
    | none => rw [he] at h; cases h
    | some e => simp
  · cases he : (renderMeta (renderFromXR xr o t.patches).cd xr (t.name.getD "")).2 with
    | none => rw [he] at h; cases h
    | some e => simp
  · simp [h1, h2, h3]

/-- If the base of any template cannot be parsed nothing at all is written. -/
theorem parse_failure_writes_nothing (xr : V) (tpls : List Tpl) (uf : Bool)
    (h : renderAll xr tpls = none) : (composePT xr tpls uf).writes = [] := by
  simp [composePT, h]

/-- In one reconcile no write (create, update or patch, successful or not) is addressed to the
resource of a template that failed to render – whatever happens to the other templates, the XR
update and the API server's answers. -/
theorem unrendered_not_applied (xr : V) (tpls : List Tpl) (uf : Bool) (rs : List Rendered)
    (hr : renderAll xr tpls = some rs) (i : Nat) (hi : i < rs.length) (hun : rs[i].rendered = false) :
    ∀ w ∈ (composePT xr tpls uf).writes, w.idx ≠ some i := by
  exact (composePT_around xr tpls uf rs hr).unrendered applyQ_write i hi hun

/-- … while the others still are: when the reconcile completes, every template that did render
has a write addressed to its resource. -/
theorem rendered_are_applied (xr : V) (tpls : List Tpl) (uf : Bool) (rs : List Rendered)
    (hr : renderAll xr tpls = some rs) (hok : (composePT xr tpls uf).err = "")
    (j : Nat) (hj : j < rs.length) (hrend : rs[j].rendered = true) :
    ∃ w ∈ (composePT xr tpls uf).writes, w.idx = some j := by
  have hlen := (renderAll_get xr tpls rs hr).1
  exact (composePT_around xr tpls uf rs hr).rendered_written applyQ_write hok j (hlen ▸ hj) hj hrend
    (applyQ_write_of_passes _ _ _)

/-- … and its reference is kept: whenever the references are persisted there is exactly one per
template, in template order, and it is the reference to the object as rendered so far (whose
name RenderFromJSON restored from the existing reference). -/
theorem references_kept (xr : V) (tpls : List Tpl) (uf : Bool) (rs : List Rendered)
    (hr : renderAll xr tpls = some rs) :
    (composePT xr tpls uf).refs = rs.map (fun r => (kindOf r.cd, getMetaStr r.cd "name")) ∧
    (composePT xr tpls uf).refs.length = tpls.length := by
  have hlen := (renderAll_get xr tpls rs hr).1
  have h1 : (composePT xr tpls uf).refs = rs.map (fun r => (kindOf r.cd, getMetaStr r.cd "name")) := by
    rw [composePT_eq xr tpls uf rs hr, finish_refs]
  exact ⟨h1, by rw [h1]; simp [hlen]⟩

/-- RenderFromJSON restores the name of the existing resource into the freshly parsed base
(whenever the base's metadata can hold it), so an existing resource's reference survives the
re-rendering of its template. -/
theorem render_keeps_existing_name (k a n : String) (base : Option V) (o : V) (hn : n ≠ "")
    (h : renderFromJSON k a n "" base = .ok o)
    (hmeta : ∀ m, base = some (.obj m) → ∀ x, V.lookup "metadata" m = some x → ∃ md, x = .obj md) :
    getMetaStr o "name" = n := by
  revert h
  fun_cases renderFromJSON k a n "" base with
  | case3 m b hk o' hc =>
    -- the base parses and keeps its kind: `o` is the base with the name set and the namespace removed
    intro h
    rw [← Except.ok.inj h]
    unfold o' b
    simp only [setOrRemoveMeta, hn, beq_iff_eq, if_false, if_true]
    rw [getMetaStr_removeMeta_ne _ _ _ (by decide), getMetaStr_setMeta m _ _ (hmeta m rfl)]
  | _ => nofun

/-! ### the apply step is a function of the template's own data -/

/-- Whatever list of templates is being composed, whatever happens to the XR update and whatever
the API server answers: every object sent for the composed resource of template j (the object
created, or the JSON merge-patch body left by the apply options) and the object the API server
then holds are `sentFor` of template j alone – its own patches, merge options and existing
resource – applied to its own rendered resource `renderTpl xr tpls[j]`, which is a function of
the XR and template j. No other template of the composition enters. -/
theorem sent_of_own_template (xr : V) (tpls : List Tpl) (uf : Bool) (s : Sent)
    (hs : s ∈ (composePT xr tpls uf).sent) :
    ∃ (h : s.idx < tpls.length) (r : Rendered), renderTpl xr tpls[s.idx] = some r ∧ r.rendered = true ∧
      sentFor tpls[s.idx] r.cd = .ok (s.body, s.stored) := by
  cases hr : renderAll xr tpls with
  | none => simp [composePT, hr] at hs
  | some rs =>
    obtain ⟨ht, hr', hrend, h2⟩ :=
      (composePT_around xr tpls uf rs hr).sent_own (fun _ _ _ _ h => (applyQ_sent _ _ _ _ h).1) hs
    exact ⟨ht, rs[s.idx], (renderAll_get xr tpls rs hr).2 s.idx ht hr', hrend, (applyQ_sent _ _ _ _ h2).2⟩

/-- Purity of the apply loop, for every two lists of templates (in particular the composition as
written and the one-template composition made of template j alone): if the same template sits
at position j of the one and at position j' of the other, then what is sent for it, and what the
API server holds afterwards, is the same in both reconciles of the same XR – the merge options
and patches of the other templates, their number and order, the XR-update fault and the API
server's answers make no difference. -/
theorem apply_independent_of_other_templates (xr : V) (tpls tpls' : List Tpl) (uf uf' : Bool) (s s' : Sent)
    (hs : s ∈ (composePT xr tpls uf).sent) (hs' : s' ∈ (composePT xr tpls' uf').sent)
    (hsame : ∀ (h : s.idx < tpls.length) (h' : s'.idx < tpls'.length), tpls[s.idx] = tpls'[s'.idx]) :
    s.body = s'.body ∧ s.stored = s'.stored := by
  obtain ⟨h, r, hr, _, hsf⟩ := sent_of_own_template xr tpls uf s hs
  obtain ⟨h', r', hr', _, hsf'⟩ := sent_of_own_template xr tpls' uf' s' hs'
  have ht := hsame h h'
  rw [ht] at hr hsf
  rw [hr'] at hr
  simp only [Option.some.injEq] at hr
  subst hr
  rw [hsf'] at hsf
  simp only [Except.ok.injEq, Prod.mk.injEq] at hsf
  exact ⟨hsf.1.symm, hsf.2.symm⟩

/-- A template whose patches carry no policy contributes no apply option: what is sent for its
existing resource is the rendered resource itself (every patched field REPLACES the stored one). -/
theorem no_policy_replaces (t : Tpl) (cd : V) (hex : t.refName ≠ "")
    (hnp : ∀ p ∈ t.patches, p.policy = none) :
    sentFor t cd = .ok (cd, mergePatchV (t.cur.getD .null) cd) := by
  unfold sentFor
  have hne : (t.refName == "") = false := by simpa using hex
  rw [hne]
  simp [applyOpts_no_policy t.patches _ cd hnp]

/-! ### the long-lived composer in a world that interferes

`composeW xr tpls w` is one call of PTComposer.Compose in the world `w` (Model/C10World.lean): for every
template position, what the applicator's Get answers (`got`), what the API server holds for the name when
the write arrives (`live`) and the class of the error the write is answered with (`fault`); and whether
the two writes of the composite itself fail. The theorems quantify over every such world. The model is per
call: the harness drives ONE long-lived composer through sequences of composites and revisions and
compares every call. -/

/-- The world in which nobody interferes is the single-call model: with a fresh cache, no third
party and the scenario's answers, the apply loop writes, sends and marks as applied exactly what
`applyLoop` does – so every theorem about `composePT` above is the quiet special case. -/
theorem world_quiet (xr : V) (tpls : List Tpl) (uf : Bool) (rs : List Rendered) (hlen : rs.length = tpls.length)
    (hctl : ∀ t ∈ tpls, t.refName ≠ "" → notControllable (getMetaStr xr "uid") (t.cur.getD .null) = false) :
    (applyLoopW (getMetaStr xr "uid") (World.quiet tpls uf).env 0 (tpls.zip rs)).writes = (applyLoop 0 (tpls.zip rs)).1 ∧
    (applyLoopW (getMetaStr xr "uid") (World.quiet tpls uf).env 0 (tpls.zip rs)).sent = (applyLoop 0 (tpls.zip rs)).2.1 ∧
    (applyLoopW (getMetaStr xr "uid") (World.quiet tpls uf).env 0 (tpls.zip rs)).applied = (applyLoop 0 (tpls.zip rs)).2.2.1 ∧
    (applyLoopW (getMetaStr xr "uid") (World.quiet tpls uf).env 0 (tpls.zip rs)).aborted = (applyLoop 0 (tpls.zip rs)).2.2.2 := by
  rw [applyLoopW_eq, applyLoop_eq, steps_congr _ applyQ]
  · exact ⟨rfl, rfl, rfl, rfl⟩
  · intro j h
    have hj : j < tpls.length := by simp at h; omega
    have he : (World.quiet tpls uf).env j = Env.quiet tpls[j] := by simp [World.quiet, hj]
    simp only [Nat.zero_add, List.getElem_zip, he]
    exact applyW_quiet _ _ _ _ (hctl tpls[j] (List.getElem_mem hj))

/-- In every world – whatever the cache serves, whatever third parties do, whatever class of error
any call is answered with – no write is addressed to the resource of a template that failed to
render. -/
theorem unrendered_not_applied_world (xr : V) (tpls : List Tpl) (w : World) (rs : List Rendered)
    (hr : renderAll xr tpls = some rs) (i : Nat) (hi : i < rs.length) (hun : rs[i].rendered = false) :
    ∀ wr ∈ (composeW xr tpls w).writes, wr.idx ≠ some i := by
  exact (composeW_around xr tpls w rs hr).unrendered (applyW_write _ w.env) i hi hun

/-- … while the others still are: when the reconcile reports no error, every rendered template
whose resource the applicator could read (an object or NotFound) has a write addressed to it –
an Invalid answer for one resource, a cache miss, a stale read or a third party's action on
another do not keep it from being applied. -/
theorem rendered_are_applied_world (xr : V) (tpls : List Tpl) (w : World) (rs : List Rendered)
    (hr : renderAll xr tpls = some rs) (hok : (composeW xr tpls w).err = "")
    (j : Nat) (hj : j < rs.length) (hrend : rs[j].rendered = true) (hgot : ∀ c, (w.env j).got ≠ .err c) :
    ∃ wr ∈ (composeW xr tpls w).writes, wr.idx = some j := by
  have hlen := (renderAll_get xr tpls rs hr).1
  exact (composeW_around xr tpls w rs hr).rendered_written (applyW_write _ w.env) hok j (hlen ▸ hj) hj
    hrend (applyW_write_of_got _ j _ (w.env j) _ hgot)

/-- No composed resource is written twice in one reconcile: there is no second attempt after a
failed one, so nothing is ever re-sent on the strength of an earlier read. -/
theorem one_write_per_resource_world (xr : V) (tpls : List Tpl) (w : World) (i : Nat) :
    ((composeW xr tpls w).writes.filter fun wr => wr.idx == some i).length ≤ 1 := by
  cases hr : renderAll xr tpls with
  | none => simp [composeW, hr]
  | some rs => exact (composeW_around xr tpls w rs hr).one_write (applyW_write _ w.env) i

/-- Purity in every world: whatever is sent for the composed resource of template j is `bodyW` of
template j's own rendering and own merge options against the object the applicator's Get returned
IN THIS CALL (the rendered object itself if it answered NotFound), and what the API server then
holds is that body merged (RFC 7386) into what the server held when the write arrived. Neither
the other templates, nor their worlds, nor the class of any error, nor anything an earlier call of
the same composer saw enters. -/
theorem sent_of_own_template_world (xr : V) (tpls : List Tpl) (w : World) (s : Sent)
    (hs : s ∈ (composeW xr tpls w).sent) :
    ∃ (h : s.idx < tpls.length) (r : Rendered), renderTpl xr tpls[s.idx] = some r ∧ r.rendered = true ∧
      bodyW tpls[s.idx] r.cd (w.env s.idx).got = some s.body ∧ s.stored = storedW (w.env s.idx) s.body := by
  cases hr : renderAll xr tpls with
  | none => simp [composeW, hr] at hs
  | some rs =>
    obtain ⟨ht, hr', hrend, h2⟩ :=
      (composeW_around xr tpls w rs hr).sent_own (fun _ _ _ _ h => (applyW_sent _ _ _ _ _ _ h).1) hs
    exact ⟨ht, rs[s.idx], (renderAll_get xr tpls rs hr).2 s.idx ht hr', hrend, (applyW_sent _ _ _ _ _ _ h2).2⟩

/-- … hence two reconciles – other templates around it, another world for them, other faults,
another call of the same long-lived composer – in which the same template meets the same composite
and the same answer of the applicator's Get send the same body for it. -/
theorem apply_independent_of_world (xr : V) (tpls tpls' : List Tpl) (w w' : World) (s s' : Sent)
    (hs : s ∈ (composeW xr tpls w).sent) (hs' : s' ∈ (composeW xr tpls' w').sent)
    (hsame : ∀ (h : s.idx < tpls.length) (h' : s'.idx < tpls'.length), tpls[s.idx] = tpls'[s'.idx])
    (hgot : (w.env s.idx).got = (w'.env s'.idx).got) :
    s.body = s'.body := by
  obtain ⟨h, r, hr, _, hb, _⟩ := sent_of_own_template_world xr tpls w s hs
  obtain ⟨h', r', hr', _, hb', _⟩ := sent_of_own_template_world xr tpls' w' s' hs'
  have ht := hsame h h'
  rw [ht] at hr hb
  rw [hr'] at hr
  simp only [Option.some.injEq] at hr
  subst hr
  rw [hgot, hb'] at hb
  simp only [Option.some.injEq] at hb
  exact hb.symm

/-- Error classes: a write addressed to the resource of template k means that the Apply of every
rendered template before it was accepted or answered with the one tolerated class, Invalid. An
error of ANY other class – NotFound, AlreadyExists, Conflict, Forbidden, a timeout, a transport
error, a context deadline, NotControllable, a failing merge option –, raised by the Get, the create
or the patch, ends the loop: none is swallowed, none is retried. -/
theorem only_invalid_is_tolerated (xr : V) (tpls : List Tpl) (w : World) (rs : List Rendered)
    (hr : renderAll xr tpls = some rs) (wr : Write) (k : Nat)
    (hw : wr ∈ (composeW xr tpls w).writes) (hk : wr.idx = some k)
    (j : Nat) (hjk : j < k) (hj : j < rs.length) (hjt : j < tpls.length) (hrend : rs[j].rendered = true) :
    (applyW (getMetaStr xr "uid") j tpls[j] (w.env j) rs[j].cd).outcome = none ∨
    (applyW (getMetaStr xr "uid") j tpls[j] (w.env j) rs[j].cd).outcome = some "invalid" := by
  obtain ⟨_, _, _, _, hb⟩ := (composeW_around xr tpls w rs hr).written (applyW_write _ w.env) hw hk
  exact (ApplyRes.passes_iff _).mp (hb j hjt hj hjk hrend)

/-- A resource is reported synced only if the API server accepted its write in this reconcile. -/
theorem synced_only_if_accepted (xr : V) (tpls : List Tpl) (w : World) (rs : List Rendered)
    (hr : renderAll xr tpls = some rs) (j : Nat) (hj : j < rs.length) (hjt : j < tpls.length)
    (hs : (composeW xr tpls w).synced.getD j false = true) :
    rs[j].rendered = true ∧ (applyW (getMetaStr xr "uid") j tpls[j] (w.env j) rs[j].cd).outcome = none := by
  obtain ⟨_, _, h⟩ := (composeW_around xr tpls w rs hr).synced_accepted hs
  exact h

/-- A cache miss never turns into an unread overwrite: when the applicator's Get answers NotFound
the only write is a CREATE of the rendered resource, and if the API server does hold a resource of
that name (the cache had not seen it, or a third party created it meanwhile) the answer is
AlreadyExists – an error that ends the reconcile – and the stored resource stays as it was. -/
theorem miss_creates_and_fails_if_present (uid : String) (i : Nat) (t : Tpl) (e : Env) (cd l : V)
    (hg : e.got = .notFound) (hl : e.live = some l) (hf : e.fault = none) :
    (applyW uid i t e cd).write = some ⟨"create", some i⟩ ∧
    (applyW uid i t e cd).sent = some ⟨i, cd, cd⟩ ∧
    (applyW uid i t e cd).outcome = some "alreadyExists" ∧ tolerated "alreadyExists" = false := by
  obtain ⟨got, live, fault⟩ := e
  dsimp only at hg hl hf
  subst hg hl hf
  -- with the world given, the Apply computes: a create without injected fault of a name that is live
  exact ⟨rfl, rfl, rfl, rfl⟩

/-- A resource deleted by a third party between the applicator's Get and its patch: the patch is
answered NotFound, which ends the reconcile (nothing is re-created from the stale read). -/
theorem deleted_under_patch_fails (uid : String) (i : Nat) (t : Tpl) (e : Env) (cd cur d : V)
    (hg : e.got = .found cur) (hc : notControllable uid cur = false) (hopt : applyOpts cur cd t.patches = .ok d)
    (hl : e.live = none) (hf : e.fault = none) :
    (applyW uid i t e cd).write = some ⟨"patch", some i⟩ ∧
    (applyW uid i t e cd).outcome = some "notFound" ∧ tolerated "notFound" = false := by
  obtain ⟨got, live, fault⟩ := e
  dsimp only at hg hl hf
  subst hg hl hf
  have h : applyW uid i t ⟨.found cur, none, none⟩ cd =
      ⟨some ⟨"patch", some i⟩, some ⟨i, d, .null⟩, some "notFound", cur⟩ := by
    simp only [applyW, hc, hopt, Bool.false_eq_true, if_false]
    rfl
  rw [h]
  exact ⟨rfl, rfl, rfl⟩

/-! ### patch sets: exact names -/

/-- A template without PatchSet patches is rendered from its own patches, whatever patch sets the
revision defines. -/
theorem inline_plain (pss : List PatchSet) (ps : List Patch) (h : ∀ p ∈ ps, p.type ≠ "PatchSet") :
    inlinePatches pss ps = some ps := by
  fun_induction inlinePatches pss ps with
  | case1 => rfl
  | case2 p ps ht => exact absurd ht (h p List.mem_cons_self)
  | case3 p ps ht => exact absurd ht (h p List.mem_cons_self)
  | case4 p ps ht => exact absurd ht (h p List.mem_cons_self)
  | case5 p ps ht ih =>
    rw [ih fun q hq => h q (List.mem_cons_of_mem _ hq)]
    rfl

/-- Patch sets are identified by their EXACT name: everything the inlining puts into a template
is one of the template's own patches or a patch of a patch set whose name equals – as a string: no
prefix, no case folding, no trimming – the name one of the template's PatchSet patches gives. -/
theorem inline_by_exact_name (pss : List PatchSet) (ps qs : List Patch) (h : inlinePatches pss ps = some qs)
    (q : Patch) (hq : q ∈ qs) :
    (q ∈ ps ∧ q.type ≠ "PatchSet") ∨
      ∃ s ∈ pss, q ∈ s.patches ∧ ∃ p ∈ ps, p.type = "PatchSet" ∧ p.setName = some s.name := by
  fun_induction inlinePatches pss ps generalizing qs with
  | case1 =>
    cases h
    cases hq
  | case2 p ps ht hn => cases h
  | case3 p ps ht n hn hl => cases h
  | case4 p ps ht n hn ss hl ih =>
    obtain ⟨rs, hr, rfl⟩ := Option.map_eq_some_iff.mp h
    rcases List.mem_append.mp hq with hq | hq
    · obtain ⟨s, hs, h1, rfl⟩ := lookupSet_some n pss ss hl
      exact .inr ⟨s, hs, hq, p, List.mem_cons_self, ht, by rw [hn, h1]⟩
    · -- what holds of the tail's patches holds with `p` in front
      exact (ih rs hr hq).imp (.imp_left (List.mem_cons_of_mem _))
        fun ⟨s, hs, h1, p', hp', h2⟩ => ⟨s, hs, h1, p', List.mem_cons_of_mem _ hp', h2⟩
  | case5 p ps ht ih =>
    obtain ⟨rs, hr, rfl⟩ := Option.map_eq_some_iff.mp h
    rcases List.mem_cons.mp hq with rfl | hq
    · exact .inl ⟨List.mem_cons_self, ht⟩
    · exact (ih rs hr hq).imp (.imp_left (List.mem_cons_of_mem _))
        fun ⟨s, hs, h1, p', hp', h2⟩ => ⟨s, hs, h1, p', List.mem_cons_of_mem _ hp', h2⟩

/-- A PatchSet patch that names no defined patch set – a look-alike of a defined name included –
or names none at all is an error: nothing is rendered, nothing written. -/
theorem inline_undefined_is_error (xr : V) (sets : List PatchSet) (tpls : List Tpl) (inl : List (List Patch)) (w : World)
    (t : Tpl) (ht : t ∈ tpls) (p : Patch) (hp : p ∈ t.patches) (hty : p.type = "PatchSet")
    (hund : p.setName = none ∨ ∃ n, p.setName = some n ∧ ∀ s ∈ sets, s.name ≠ n) :
    (stepW xr sets tpls inl w).err = "inline" ∧ (stepW xr sets tpls inl w).writes = [] := by
  have hnone : inlineAll sets (tpls.map (·.patches)) = none := by
    unfold inlineAll
    split
    · exact inlineEach_none_of_mem sets t.patches (inlinePatches_none_of_mem sets p hty hund _ hp) _
        (List.mem_map.mpr ⟨t, ht, rfl⟩)
    · rfl
  simp [stepW, hnone]

/-! ### transforms agree with their documented meaning: computed string and integer transforms

These functions are computed by the model, not taken from an oracle table, and compared with the
real code on every scenario, so their documented meaning is a theorem about the function the
correspondence ties to the code. -/

/-- "Multiply the value": on int64 the product wraps around exactly like Go's `i * *t.Multiply` – the
result always fits int64, is congruent to the true product modulo 2^64 and IS the true product
whenever that fits. An empty type means Multiply (MathTransform.GetType). -/
theorem multiply_int_wraps (o : Orc) (m : MathCfg) (k i : Int) (ht : m.type = "Multiply" ∨ m.type = "")
    (hm : m.multiply = some k) :
    resolveMath o m (.num i) = .ok (.num (wrap64 (i * k))) ∧ fits64 (wrap64 (i * k)) = true ∧
      (wrap64 (i * k) - i * k) % 2 ^ 64 = 0 ∧ (fits64 (i * k) = true → wrap64 (i * k) = i * k) := by
  obtain ⟨ty, mul, cmin, cmax⟩ := m
  refine ⟨?_, wrap64_fits _, wrap64_sub_mod _, wrap64_id _⟩
  -- with either literal type the validation and the dispatch compute
  rcases ht with ht | ht
  · subst ht hm
    rfl
  · subst ht hm
    rfl

example := multiply_int_wraps .null ⟨"", some 4, none, none⟩ 4 4611686018427387904 (Or.inr rfl) rfl
example : wrap64 (4611686018427387904 * 4) = 0 ∧ wrap64 (9223372036854775807 * 2) = -2 := by decide

/-- "TrimPrefix: trims the prefix from the input": an input that starts with the prefix loses exactly it. -/
theorem trim_prefix_removes (pre s : List Char) :
    trimPrefix (String.ofList (pre ++ s)) (String.ofList pre) = String.ofList s := by
  simp [trimPrefix]

/-- … and an input that does not start with it is returned unchanged (no cut-set semantics). -/
theorem trim_prefix_other (s pre : String) (h : pre.toList.isPrefixOf s.toList = false) : trimPrefix s pre = s := by
  simp [trimPrefix, h]

/-- "TrimSuffix: trims the suffix from the input". -/
theorem trim_suffix_removes (s suf : List Char) :
    trimSuffix (String.ofList (s ++ suf)) (String.ofList suf) = String.ofList s := by
  simp [trimSuffix]

theorem trim_suffix_other (s suf : String) (h : suf.toList.reverse.isPrefixOf s.toList.reverse = false) :
    trimSuffix s suf = s := by
  simp [trimSuffix, h]

example : trimPrefix "aab" "a" = "ab" ∧ trimPrefix "xab" "a" = "xab" ∧ trimSuffix "abb" "b" = "ab" := by decide
example : ("a".toList.isPrefixOf "xab".toList) = false := by decide

/-- The string Format transform with the plain verbs: `%s` of a string is the string, `%d` of an
integer its decimal text (strconv.FormatInt), whatever the oracle says. -/
theorem format_plain_verbs (o : Orc) (s : String) (i : Int) :
    fmtStr o "%s" (.str s) = .ok s ∧ fmtStr o "%d" (.num i) = .ok (fmtInt i) ∧ fmtStr o "%v" .null = .ok "<nil>" := by
  simp [fmtStr, sprintfLite]

/-- A format without verbs and without operands is printed as it is. -/
theorem sprintf_literal (cs : List Char) (h : '%' ∉ cs) : sprintfLite cs [] = some cs := by
  induction cs with
  | nil => rfl
  | cons c rest ih =>
    have hc : c ≠ '%' := fun e => h (e ▸ List.mem_cons_self)
    -- the last equation of sprintfLite: a character is copied when no verb pattern applies
    rw [sprintfLite, ih fun e => h (List.mem_cons_of_mem _ e)]
    · rfl
    -- every verb pattern starts with '%'
    all_goals
      intros
      exact hc ‹c = '%'›

/-- Purity: on the computed fragment the result of the Format transform does not depend on anything
but the format and the input (no oracle, no earlier call). -/
theorem format_computed_ignores_oracle (o1 o2 : Orc) (f : String) (x : V) (cs : List Char)
    (h : sprintfLite f.toList [x] = some cs) : fmtStr o1 f x = fmtStr o2 f x := by
  simp [fmtStr, h]

example : sprintfLite "pre-%s".toList [.str "x"] = some "pre-x".toList := by decide

/-- A combine patch with the string strategy and the format `%s-%s` over two string variables
yields the two values joined by a dash. -/
theorem combine_two_strings (c : Combine) (a b : String) (hs : c.strategy = "string") (hf : c.fmt = some "%s-%s") :
    combineVals c [.str a, .str b] = .ok (.str (a ++ "-" ++ b)) := by
  -- the format is in the computed fragment: both verbs take a string operand
  have hfmt : sprintfLite "%s-%s".toList [.str a, .str b] = some (a.toList ++ ('-' :: (b.toList ++ []))) := rfl
  have htext : String.ofList (a.toList ++ ('-' :: (b.toList ++ []))) = a ++ "-" ++ b := by
    apply String.ext
    simp
  unfold combineVals
  simp only [hs, hf, hfmt, htext, beq_self_eq_true, if_true]

example := combine_two_strings ⟨[], "string", some "%s-%s", .null⟩ "eu" "1" rfl rfl

/-- ToUpper / ToLower on ASCII text are computed (no oracle): the letters a–z / A–Z are shifted,
everything else is kept. -/
theorem upper_lower_ascii (o : Orc) (s : String) (h : isAsciiStr s = true) :
    stringConvert o "ToUpper" (.str s) = .ok (asciiUpper s) ∧ stringConvert o "ToLower" (.str s) = .ok (asciiLower s) := by
  simp [stringConvert, upperOf, lowerOf, fmtV, h]

/-- case mapping keeps the length … -/
theorem ascii_upper_length (s : String) : (asciiUpper s).toList.length = s.toList.length := by
  simp [asciiUpper]

/-- … and lower-casing forgets an earlier upper-casing (ToLower ∘ ToUpper = ToLower on ASCII text). -/
theorem lower_of_upper (s : String) (h : isAsciiStr s = true) : asciiLower (asciiUpper s) = asciiLower s :=
  asciiLower_asciiUpper s

example : isAsciiStr "aZ-9 z{`" = true ∧ asciiUpper "aZ-9 z{`" = "AZ-9 Z{`" ∧ asciiLower "aZ-9 Z[@" = "az-9 z[@" := by decide

/-! ### regenerated facts: the modelled Go functions still have the skeleton the model was written against

`Xp.Gen.c10Skel…` is extracted from the CURRENT tree by harness/main/c10_dump.go on every run (case
labels, if-conditions, ranges, calls, and the returns of the small predicate/arithmetic functions and
of the `conversions` table, in source order); `skel…` (Model/C10Skel.lean) is what the model mirrors,
entry by entry. -/

theorem skeleton_apply : Xp.Gen.c10SkelApply = skelApply := rfl
theorem skeleton_apply_to_objects : Xp.Gen.c10SkelApplyToObjects = skelApplyToObjects := rfl
theorem skeleton_filter_patch : Xp.Gen.c10SkelFilterPatch = skelFilterPatch := rfl
theorem skeleton_resolve_transforms : Xp.Gen.c10SkelResolveTransforms = skelResolveTransforms := rfl
theorem skeleton_patch_to_multiple : Xp.Gen.c10SkelPatchToMultiple = skelPatchToMultiple := rfl
theorem skeleton_apply_from_field_path : Xp.Gen.c10SkelApplyFromFieldPath = skelApplyFromFieldPath := rfl
theorem skeleton_apply_combine : Xp.Gen.c10SkelApplyCombine = skelApplyCombine := rfl
theorem skeleton_is_optional : Xp.Gen.c10SkelIsOptional = skelIsOptional := rfl
theorem skeleton_combine : Xp.Gen.c10SkelCombine = skelCombine := rfl
theorem skeleton_combine_string : Xp.Gen.c10SkelCombineString = skelCombineString := rfl
theorem skeleton_composed_templates : Xp.Gen.c10SkelComposedTemplates = skelComposedTemplates := rfl
theorem skeleton_merge_path : Xp.Gen.c10SkelMergePath = skelMergePath := rfl
theorem skeleton_merge_replace : Xp.Gen.c10SkelMergeReplace = skelMergeReplace := rfl
theorem skeleton_with_merge_options : Xp.Gen.c10SkelWithMergeOptions = skelWithMergeOptions := rfl
theorem skeleton_merge_options : Xp.Gen.c10SkelMergeOptions = skelMergeOptions := rfl
theorem skeleton_patch_to_object : Xp.Gen.c10SkelPatchToObject = skelPatchToObject := rfl
theorem skeleton_resolve : Xp.Gen.c10SkelResolve = skelResolve := rfl
theorem skeleton_resolve_math : Xp.Gen.c10SkelResolveMath = skelResolveMath := rfl
theorem skeleton_math_multiply : Xp.Gen.c10SkelMathMultiply = skelMathMultiply := rfl
theorem skeleton_math_clamp : Xp.Gen.c10SkelMathClamp = skelMathClamp := rfl
theorem skeleton_resolve_map : Xp.Gen.c10SkelResolveMap = skelResolveMap := rfl
theorem skeleton_resolve_match : Xp.Gen.c10SkelResolveMatch = skelResolveMatch := rfl
theorem skeleton_matches : Xp.Gen.c10SkelMatches = skelMatches := rfl
theorem skeleton_matches_literal : Xp.Gen.c10SkelMatchesLiteral = skelMatchesLiteral := rfl
theorem skeleton_matches_regexp : Xp.Gen.c10SkelMatchesRegexp = skelMatchesRegexp := rfl
theorem skeleton_unmarshal_json : Xp.Gen.c10SkelUnmarshalJSON = skelUnmarshalJSON := rfl
theorem skeleton_resolve_string : Xp.Gen.c10SkelResolveString = skelResolveString := rfl
theorem skeleton_string_convert : Xp.Gen.c10SkelStringConvert = skelStringConvert := rfl
theorem skeleton_string_hash : Xp.Gen.c10SkelStringHash = skelStringHash := rfl
theorem skeleton_string_trim : Xp.Gen.c10SkelStringTrim = skelStringTrim := rfl
theorem skeleton_string_regexp : Xp.Gen.c10SkelStringRegexp = skelStringRegexp := rfl
theorem skeleton_string_join : Xp.Gen.c10SkelStringJoin = skelStringJoin := rfl
theorem skeleton_resolve_convert : Xp.Gen.c10SkelResolveConvert = skelResolveConvert := rfl
theorem skeleton_get_conversion_func : Xp.Gen.c10SkelGetConversionFunc = skelGetConversionFunc := rfl
theorem skeleton_render_from_json : Xp.Gen.c10SkelRenderFromJSON = skelRenderFromJSON := rfl
theorem skeleton_render_from_xr : Xp.Gen.c10SkelRenderFromXR = skelRenderFromXR := rfl
theorem skeleton_render_to_xr : Xp.Gen.c10SkelRenderToXR = skelRenderToXR := rfl
theorem skeleton_render_meta : Xp.Gen.c10SkelRenderMeta = skelRenderMeta := rfl
theorem skeleton_compose : Xp.Gen.c10SkelCompose = skelCompose := rfl
theorem skeleton_to_xr_patches_from_tas : Xp.Gen.c10SkelToXRPatchesFromTAs = skelToXRPatchesFromTAs := rfl
theorem skeleton_filter_patches : Xp.Gen.c10SkelFilterPatches = skelFilterPatches := rfl
theorem skeleton_patch_get_type : Xp.Gen.c10SkelPatchGetType = skelPatchGetType := rfl
theorem skeleton_math_get_type : Xp.Gen.c10SkelMathGetType = skelMathGetType := rfl
theorem skeleton_math_validate : Xp.Gen.c10SkelMathValidate = skelMathValidate := rfl
theorem skeleton_convert_get_format : Xp.Gen.c10SkelConvertGetFormat = skelConvertGetFormat := rfl
theorem skeleton_convert_validate : Xp.Gen.c10SkelConvertValidate = skelConvertValidate := rfl
theorem skeleton_io_type_is_valid : Xp.Gen.c10SkelIOTypeIsValid = skelIOTypeIsValid := rfl
theorem skeleton_format_is_valid : Xp.Gen.c10SkelFormatIsValid = skelFormatIsValid := rfl
theorem skeleton_generate_name : Xp.Gen.c10SkelGenerateName = skelGenerateName := rfl
theorem skeleton_conversions : Xp.Gen.c10SkelConversions = skelConversions := rfl

/-- the string values of the API constants the model's `match`es are written against -/
theorem consts_tied : Xp.Gen.c10Consts = declaredConsts := rfl

/-- the patch-type filters of the two render loops and of the apply options (composite.go) -/
theorem patch_type_filters_tied :
    patchTypesFromXR = Xp.Gen.c10PatchTypesFromXR ∧ patchTypesToXR = Xp.Gen.c10PatchTypesToXR := ⟨rfl, rfl⟩

/-! ### non-vacuity: the hypotheses are satisfiable by non-trivial states -/

/-- an optional patch (no policy) whose source is missing -/
example : apply { type := "", fromPath := some ⟨"spec.missing", some [.field "spec", .field "missing"]⟩, toPath := none,
                      combine := none, xfs := [], policy := none, mergeOrc := [] }
    (.obj [("spec", .obj [("a", .num 1)])]) (.obj [("kind", .str "Thing")]) [] =
    ⟨.obj [("spec", .obj [("a", .num 1)])], .obj [("kind", .str "Thing")], none⟩ := by
  apply optional_missing_noop _ _ _ _ ⟨"spec.missing", some [.field "spec", .field "missing"]⟩
  · left; rfl
  · rfl
  · rfl
  · rfl

/-- a patch that does copy a value (the model is not the constant function) -/
example : ((apply { type := "", fromPath := some ⟨"spec.a", some [.field "spec", .field "a"]⟩, toPath := none,
                      combine := none, xfs := [], policy := none, mergeOrc := [] }
    (.obj [("spec", .obj [("a", .num 1)])]) (.obj [("kind", .str "Thing")]) []).cd ==
    .obj [("kind", .str "Thing"), ("spec", .obj [("a", .num 1)])]) = true := by decide

/-- two templates, the first of which cannot be rendered (its required patch fails), the second is
created -/
example :
    let xr : V := .obj [("apiVersion", .str "example.org/v1"), ("kind", .str "XThing"),
      ("metadata", .obj [("name", .str "my-xr"), ("uid", .str "u"), ("labels", .obj [("crossplane.io/composite", .str "my-xr")])])]
    let base : V := .obj [("apiVersion", .str "example.org/v1"), ("kind", .str "Thing")]
    let bad : Patch := { type := "FromCompositeFieldPath", fromPath := some ⟨"spec.missing", some [.field "spec", .field "missing"]⟩,
                         toPath := none, combine := none, xfs := [], policy := some ⟨some "Required", none⟩, mergeOrc := [] }
    let t1 : Tpl := { name := some "a", base := some base, patches := [bad], refKind := "", refApiVersion := "", refName := "",
                       nameGen := .name "gen-0", applyOutcome := .ok }
    let t2 : Tpl := { t1 with name := some "b", patches := [], nameGen := .name "gen-1" }
    ((composePT xr [t1, t2] false).writes.map (·.target)) = ["xr", "1", "xr"] ∧
    (composePT xr [t1, t2] false).rendered = [false, true] := by decide +kernel

/-- Two templates write `spec.forProvider.groups` of resources that both exist and hold the stale
list [a, stale] while the XR now says [a]: the first carries `appendSlice` (mergo's verdict for its
operands is in its own oracle table), the second carries no policy. What is sent – and what the
API server then holds – keeps `stale` for the first and replaces the list for the second: the
first template's merge option does not reach the second one. -/
example :
    let xr : V := .obj [("apiVersion", .str "example.org/v1"), ("kind", .str "XThing"),
      ("metadata", .obj [("name", .str "my-xr"), ("uid", .str "u"), ("labels", .obj [("crossplane.io/composite", .str "my-xr")])]),
      ("spec", .obj [("groups", .arr [.str "a"])])]
    let base : V := .obj [("apiVersion", .str "example.org/v1"), ("kind", .str "Thing")]
    let cur : V := .obj [("apiVersion", .str "example.org/v1"), ("kind", .str "Thing"), ("metadata", .obj [("name", .str "cd")]),
      ("spec", .obj [("forProvider", .obj [("groups", .arr [.str "a", .str "stale"])])])]
    let orc : V := .obj [("dst", .arr [.str "a", .str "stale"]), ("src", .arr [.str "a"]), ("out", .arr [.str "a", .str "stale"])]
    let to : List Seg := [.field "spec", .field "forProvider", .field "groups"]
    let pA : Patch := { type := "FromCompositeFieldPath", fromPath := some ⟨"spec.groups", some [.field "spec", .field "groups"]⟩,
                        toPath := some ⟨"spec.forProvider.groups", some to⟩, combine := none, xfs := [],
                        policy := some ⟨none, some ⟨none, some true⟩⟩, mergeOrc := [], applyOrc := [orc] }
    let pR : Patch := { pA with policy := none, applyOrc := [] }
    let t1 : Tpl := { name := some "primary", base := some base, patches := [pA], refKind := "Thing", refApiVersion := "example.org/v1",
                      refName := "cd-0", nameGen := .keep, applyOutcome := .ok, cur := some cur }
    let t2 : Tpl := { t1 with name := some "replica", patches := [pR], refName := "cd-1" }
    let is (o : V) (want : V) : Bool := match getValue o to with
      | .ok v => v == want
      | .error _ => false
    let r := composePT xr [t1, t2] false
    (r.sent.map fun s => (s.idx, is s.body (.arr [.str "a", .str "stale"]), is s.body (.arr [.str "a"]))) = [(0, true, false), (1, false, true)] ∧
    (r.stored.map fun o => (is o (.arr [.str "a", .str "stale"]), is o (.arr [.str "a"]))) = [(true, false), (false, true)] ∧
    r.writes.map (·.target) = ["xr", "0", "1", "xr"] := by decide +kernel

/-- an apply option that fails (mergo refuses to merge a list into a string) abandons the apply of
that resource before anything is sent, and the reconcile with it -/
example :
    let xr : V := .obj [("apiVersion", .str "example.org/v1"), ("kind", .str "XThing"),
      ("metadata", .obj [("name", .str "my-xr"), ("uid", .str "u"), ("labels", .obj [("crossplane.io/composite", .str "my-xr")])]),
      ("spec", .obj [("groups", .arr [.str "a"])])]
    let base : V := .obj [("apiVersion", .str "example.org/v1"), ("kind", .str "Thing")]
    let cur : V := .obj [("apiVersion", .str "example.org/v1"), ("kind", .str "Thing"), ("metadata", .obj [("name", .str "cd")]),
      ("spec", .obj [("groups", .str "scalar")])]
    let orc : V := .obj [("dst", .str "scalar"), ("src", .arr [.str "a"])]
    let pA : Patch := { type := "FromCompositeFieldPath", fromPath := some ⟨"spec.groups", some [.field "spec", .field "groups"]⟩,
                        toPath := none, combine := none, xfs := [], policy := some ⟨none, some ⟨some true, none⟩⟩, mergeOrc := [], applyOrc := [orc] }
    let pB : Patch := { pA with toPath := some ⟨"spec.groups", some [.field "spec", .field "groups"]⟩ }
    let t1 : Tpl := { name := some "a", base := some base, patches := [pB], refKind := "Thing", refApiVersion := "example.org/v1",
                      refName := "cd-0", nameGen := .keep, applyOutcome := .ok, cur := some cur }
    let r := composePT xr [t1] false
    r.err = "apply" ∧ r.sent.length = 0 ∧ r.writes.map (·.target) = ["xr"] ∧
    -- without a toFieldPath the patch contributes no apply option: the rendered resource is sent as it is
    (composePT xr [{ t1 with patches := [pA] }] false).err = "" := by decide +kernel

/-- The world: two templates whose resources exist. The cache serves an OLD version of the first
(list [a, stale]) while a third party has meanwhile emptied the list in the API server; the merge
option (appendSlice, verdict in the patch's own table) runs against what was READ, and the patch
is merged into what the server HOLDS. The second resource's patch is answered Invalid: tolerated,
reported unsynced. With a Conflict instead the reconcile ends there and the third template, which
would have been created, is not touched. -/
example :
    let xr : V := .obj [("apiVersion", .str "example.org/v1"), ("kind", .str "XThing"),
      ("metadata", .obj [("name", .str "my-xr"), ("uid", .str "u"), ("labels", .obj [("crossplane.io/composite", .str "my-xr")])]),
      ("spec", .obj [("groups", .arr [.str "a"])])]
    let base : V := .obj [("apiVersion", .str "example.org/v1"), ("kind", .str "Thing")]
    let old : V := .obj [("apiVersion", .str "example.org/v1"), ("kind", .str "Thing"), ("metadata", .obj [("name", .str "cd-0")]),
      ("spec", .obj [("forProvider", .obj [("groups", .arr [.str "a", .str "stale"])]), ("other", .str "o")])]
    let now : V := .obj [("apiVersion", .str "example.org/v1"), ("kind", .str "Thing"), ("metadata", .obj [("name", .str "cd-0")]),
      ("spec", .obj [("forProvider", .obj [("groups", .arr [])]), ("other", .str "edited")])]
    let orc : V := .obj [("dst", .arr [.str "a", .str "stale"]), ("src", .arr [.str "a"]), ("out", .arr [.str "a", .str "stale"])]
    let to : List Seg := [.field "spec", .field "forProvider", .field "groups"]
    let pA : Patch := { type := "FromCompositeFieldPath", fromPath := some ⟨"spec.groups", some [.field "spec", .field "groups"]⟩,
                        toPath := some ⟨"spec.forProvider.groups", some to⟩, combine := none, xfs := [],
                        policy := some ⟨none, some ⟨none, some true⟩⟩, mergeOrc := [], applyOrc := [orc] }
    let t1 : Tpl := { name := some "a", base := some base, patches := [pA], refKind := "Thing", refApiVersion := "example.org/v1",
                      refName := "cd-0", nameGen := .keep, applyOutcome := .ok }
    let t2 : Tpl := { t1 with name := some "a-", patches := [], refName := "cd-1" }
    let t3 : Tpl := { t1 with name := some "A", patches := [], refName := "", refKind := "", refApiVersion := "", nameGen := .name "gen-2" }
    let env (second : String) : Nat → Env := fun i =>
      if i = 0 then { got := .found old, live := some now }
      else if i = 1 then { got := .found now, live := some now, fault := some second }
      else {}
    let is (o : V) (p : List Seg) (want : V) : Bool := match getValue o p with
      | .ok v => v == want
      | .error _ => false
    let r := composeW xr [t1, t2, t3] { env := env "invalid" }
    let r' := composeW xr [t1, t2, t3] { env := env "conflict" }
    r.err = "" ∧ r.writes.map (·.target) = ["xr", "0", "1", "2", "xr"] ∧ r.synced = [true, false, true] ∧
    (r.sent.map fun s => is s.body to (.arr [.str "a", .str "stale"])) = [true, false, false] ∧
    (r.stored.map fun o => (is o to (.arr [.str "a", .str "stale"]), is o [.field "spec", .field "other"] (.str "edited"))) = [(true, true), (false, false)] ∧
    r'.err = "apply" ∧ r'.writes.map (·.target) = ["xr", "0", "1"] := by decide +kernel

/-- A cache that has not seen the existing resource: the applicator tries to create it, the API
server answers AlreadyExists, the reconcile ends – nothing is overwritten unread. -/
example :
    let xr : V := .obj [("apiVersion", .str "example.org/v1"), ("kind", .str "XThing"),
      ("metadata", .obj [("name", .str "my-xr"), ("uid", .str "u"), ("labels", .obj [("crossplane.io/composite", .str "my-xr")])])]
    let base : V := .obj [("apiVersion", .str "example.org/v1"), ("kind", .str "Thing")]
    let now : V := .obj [("apiVersion", .str "example.org/v1"), ("kind", .str "Thing"), ("metadata", .obj [("name", .str "cd-0")])]
    let t1 : Tpl := { name := some "a", base := some base, patches := [], refKind := "Thing", refApiVersion := "example.org/v1",
                      refName := "cd-0", nameGen := .keep, applyOutcome := .ok }
    let r := composeW xr [t1] { env := fun _ => { got := .notFound, live := some now } }
    r.err = "apply" ∧ r.writes = [⟨"update", none⟩, ⟨"create", some 0⟩] ∧ r.stored = [] := by decide +kernel

/-- Patch sets with look-alike names: `common`, `common-` and `Common` are three different sets; a
reference to `Common-` names none of them. -/
example :
    let p (to : String) : Patch := { type := "FromCompositeFieldPath", fromPath := some ⟨"spec.a", some [.field "spec", .field "a"]⟩,
                                     toPath := some ⟨to, some [.field "spec", .field to]⟩, combine := none, xfs := [], policy := none, mergeOrc := [] }
    let ref (n : String) : Patch := { type := "PatchSet", fromPath := none, toPath := none, combine := none, xfs := [], policy := none,
                                      mergeOrc := [], setName := some n }
    let sets : List PatchSet := [⟨"common", [p "x"]⟩, ⟨"common-", [p "y"]⟩, ⟨"Common", [p "z"]⟩]
    ((inlinePatches sets [p "own", ref "common-", ref "Common"]).map fun l => l.map fun q => q.toPath.map (·.raw)) =
      some [some "own", some "y", some "z"] ∧
    (inlinePatches sets [ref "Common-"]).isNone = true ∧ (inlinePatches sets [ref "commo"]).isNone = true := by decide

end Xp.C10
