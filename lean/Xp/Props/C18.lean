import Xp.Proofs.C18Sound
import Xp.Proofs.C18Interf
import Xp.Proofs.C18Render
import Xp.Base.Str
import Xp.Model.C18Skel
import Xp.Gen.C18Skel
/-
C18 property theorems: the RBAC manager grants nothing beyond what is allowed.
-/
namespace Xp.C18
open Xp.Gen

/-! ### requests are granted only if covered by the allow list

Full statement (FALSE on the unchanged tree, see the witnesses below):

    theorem tree_sound (A : List PolicyRule) (s : Sub) : granted A s = true → covers A s = true
-/

/-- **tree ⊑ Kubernetes covers.** For every allow list and every granular request: if the
rule tree grants it, Kubernetes' `ruleCovers` finds an allow-list rule covering it.
Excluded: an allow list with the literal resource name `*` (D8) or the empty non-resource
URL, a request for the empty non-resource URL (each refuted below); allow-list URL rules
carry no resource names (what the API server's ValidatePolicyRule enforces). -/
theorem tree_sound_partial (A : List PolicyRule) (s : Sub)
    (hStar : NoLiteralStar A) (hEmpty : NoEmptyURL A) (hValid : URLRulesNameless A) (hDom : s.InDomain) :
    granted A s = true → covers A s = true := fun hg =>
  let ⟨o, ho, hgr⟩ := (granted_iff A s hEmpty hDom).1 hg
  List.any_eq_true.2 ⟨o, ho, ruleGrants_covers o s (hStar o ho) (hValid o ho) hgr⟩

/-- **tree ⊑ authorizer.** Whatever request attributes the granted sub-rule would allow,
some allow-list rule already allows (RuleAllows). No well-formedness of the allow list is
needed beyond the two excluded shapes. -/
theorem tree_sound_semantic_partial (A : List PolicyRule) (s : Sub)
    (hStar : NoLiteralStar A) (hEmpty : NoEmptyURL A) (hDom : s.InDomain)
    (hg : granted A s = true) (a : Attr) :
    ruleAllows s.asRule a = true → ∃ o ∈ A, ruleAllows o a = true := fun ha =>
  let ⟨o, ho, hgr⟩ := (granted_iff A s hEmpty hDom).1 hg
  ⟨o, ho, ruleGrants_allows o s (hStar o ho) hgr a ha⟩

/-- **What the tree decides, exactly**: a granular request is granted iff one single
allow-list rule lists each of its components literally or as `*` (an empty name list
counting as `*`). This is the behaviour as it is, D8 included; the only exclusion is the
empty non-resource URL. -/
theorem tree_decision_exact (A : List PolicyRule) (s : Sub) (hEmpty : NoEmptyURL A) (hDom : s.InDomain) :
    granted A s = A.any (ruleGrants · s) := by
  rw [Bool.eq_iff_iff, List.any_eq_true]
  exact granted_iff A s hEmpty hDom

/-- The validator as a whole: when it rejects nothing, every granular sub-rule
(Kubernetes' BreakdownRule) of every request is covered by the allow list, i.e.
Kubernetes' `Covers(allow, requests)` holds. -/
theorem nothing_rejected_means_covered_partial (A reqs : List PolicyRule)
    (hStar : NoLiteralStar A) (hEmpty : NoEmptyURL A) (hValid : URLRulesNameless A)
    (h : validate A reqs = []) :
    ∀ q ∈ reqs, ∀ s ∈ breakdown q, s.InDomain → covers A s = true :=
  fun q hq s hs hd =>
    tree_sound_partial A s hStar hEmpty hValid hd (granted_of_validate_nil A reqs h q hq s hs)

/-- D8: the literal resource name `*` in the allow list (in Kubernetes: the object named
`*`) is treated as "all names"; a request for all names is granted although no allow-list
rule covers it, and the authorizer would refuse the allow list's holder that access. -/
theorem tree_sound_fails_on_unfixed_witness :
    let A : List PolicyRule := [⟨["get"], ["g"], ["r"], ["*"], []⟩]
    let s : Sub := .res "g" "r" none "get"
    granted A s = true ∧ covers A s = false ∧
      ruleAllows s.asRule (.res "get" "g" "r" "" "some-object") = true ∧
      A.all (fun o => !ruleAllows o (.res "get" "g" "r" "" "some-object")) = true := by decide

/-- second excluded shape, allow side: an allow-list rule for the empty non-resource URL
becomes the *resource* path `resource/""/""/""/verb` (Rule.path tests `NonResourceURL != ""`). -/
theorem tree_sound_fails_on_empty_allow_url_witness :
    let A : List PolicyRule := [⟨["get"], [], [], [], [""]⟩]
    let s : Sub := .res "" "" (some "") "get"
    granted A s = true ∧ covers A s = false := by decide

/-- second excluded shape, request side: a request for the empty non-resource URL is
looked up as a resource rule and granted by a resource wildcard. -/
theorem tree_sound_fails_on_empty_request_url_witness :
    let A : List PolicyRule := [⟨["*"], ["*"], ["*"], [], []⟩]
    let s : Sub := .url "" "get"
    granted A s = true ∧ covers A s = false := by decide

/-- why `URLRulesNameless` is assumed for `covers`: Kubernetes' ruleCovers refuses a URL
sub-rule against an owner rule that also lists resource names (a rule the API server does
not store); the authorizer-level statement needs no such assumption. -/
theorem covers_needs_valid_url_rules_witness :
    let A : List PolicyRule := [⟨["get"], [], [], ["n"], ["/x"]⟩]
    let s : Sub := .url "/x" "get"
    granted A s = true ∧ covers A s = false ∧ ruleAllows (A.head!) (.nonres "get" "/x") = true := by decide

/-- **A done context grants nothing.** Called with a context that is already done (deadline
exceeded, cancelled), the validator – with or without an allow-list – answers "nothing is
rejected" only when nothing at all was requested; otherwise it fails (and the reconciler
writes no role). Without a done context it is `validate` / `expand`. -/
theorem ctx_done_grants_nothing (allow requests : List PolicyRule) :
    (validateCtx true allow requests = some [] → expand requests = []) ∧
    (expandCtx true requests = some [] → expand requests = []) ∧
    validateCtx false allow requests = some (validate allow requests) ∧
    expandCtx false requests = some (expand requests) := by
  have hs : ∀ rs l, expandCtx true rs = some l → expand rs = [] := by
    intro rs l h
    unfold expandCtx at h
    split at h
    · cases h
    · rename_i hc
      simpa using hc
  refine ⟨fun h => ?_, hs requests [], by simp [validateCtx, expandCtx], by simp [expandCtx]⟩
  unfold validateCtx at h
  split at h
  · exact hs requests _ ‹_›
  · cases h

/-! non-vacuity: the hypotheses are met by an ordinary allow list, and both verdicts occur -/
example : let A : List PolicyRule := [⟨["get", "list"], ["g"], ["*"], [], []⟩, ⟨["get"], [], [], [], ["/metrics"]⟩]
    granted A (.res "g" "widgets" (some "x") "get") = true ∧ granted A (.res "g" "widgets" none "delete") = false ∧
    granted A (.url "/metrics" "get") = true ∧ granted A (.url "/healthz" "get") = false := by decide
example : NoLiteralStar [⟨["get"], ["g"], ["*"], ["a"], []⟩] := by
  intro o ho; simp at ho; subst ho; decide

/-! ### a rejected request means no role at all -/

/-- Every write the provider-revision reconciler applies, under every fault plan, creates or
updates a role rendered for the live (not paused, not deleted) revision of that name from
the resources of the store it read, and only when every request was granted; it never
writes a binding. -/
theorem writes_only_rendered (cfg : Cfg) (plan : Plan) (s : Store) (name : String) :
    ∀ r ∈ applied sem plan 0 (reconcile cfg name) s, RoleWrites (Grantable cfg s name) r :=
  fun _ hr =>
  let ⟨_, hq⟩ := applied_of_ownOnly (reconcile_ownOnly cfg name) plan 0 s hr
  hq.imp fun _ => OnReads.plain grantable_of_justified

/-- **Early return.** If the configured validator does not return an empty rejected list
for the revision's requests — some granular request is not allowed by the tree, or the
allow-list role cannot be read — then under EVERY fault plan the reconcile applies no
write, and the store is the same at every instant and at the end. -/
theorem reject_means_no_role (cfg : Cfg) (plan : Plan) (s : Store) (name : String)
    (h : ∀ p, s.prs.find? (·.name = name) = some p → rejectedIn cfg s p ≠ some []) :
    (∀ r ∈ applied sem plan 0 (reconcile cfg name) s, r.isWrite = false) ∧
    (∀ s' ∈ reach sem plan 0 (reconcile cfg name) s, s' = s) ∧
    (run sem plan 0 (reconcile cfg name) s).1 = s := by
  have happ : ∀ r ∈ applied sem plan 0 (reconcile cfg name) s, r.isWrite = false := fun r hr =>
    Bool.eq_false_iff.2 fun hwr => by
      obtain ⟨_, p, hf, _, _, hrej, _⟩ := (writes_only_rendered cfg plan s name r hr).of_write hwr
      exact h p hf hrej
  have hreach := reach_of_inert sem plan 0 _ s fun r hr => exec_read s r (happ r hr)
  exact ⟨happ, hreach, hreach _ (run_mem_reach sem plan 0 _ s)⟩

/-- ... and therefore no history of retries ever creates or updates a role while a request
stays rejected. -/
theorem reject_means_no_role_ever (cfg : Cfg) (plans : List Plan) (s : Store) (name : String)
    (h : ∀ p, s.prs.find? (·.name = name) = some p → rejectedIn cfg s p ≠ some []) :
    runPlans cfg name plans s = s := by
  induction plans with
  | nil => rfl
  | cons pl rest ih =>
    simp only [runPlans]
    rw [(reject_means_no_role cfg pl s name h).2.2]
    exact ih

/-- **Role contents.** Every rule of every role the reconciler writes (edit, view, system) is
one of: a rule over resources (and their `/status`) of ONE group, all defined by the CRDs in
`resourcesFor` (verbs from the edit/view/system tables); the `*/finalizers` update rule over
groups in which such a resource is defined; a rule of the baseline table; or one of the
revision's permission requests verbatim — and then every request was granted. -/
theorem system_role_contents (cfg : Cfg) (plan : Plan) (s : Store) (name : String) (x : Role)
    (hw : Req.createRole x ∈ applied sem plan 0 (reconcile cfg name) s ∨
          ∃ rv, Req.updateRole x rv ∈ applied sem plan 0 (reconcile cfg name) s) :
    ∃ p, s.prs.find? (·.name = name) = some p ∧ rejectedIn cfg s p = some [] ∧
      x.ctrl = some p.uid ∧
      ∀ ρ ∈ x.rules,
        IsResourceRule (resourcesFor s p) provVerbsEdit ρ ∨ IsResourceRule (resourcesFor s p) provVerbsView ρ ∨
        IsResourceRule (resourcesFor s p) provVerbsSystem ρ ∨ IsFinalizersRule (resourcesFor s p) ρ ∨
        ρ ∈ rulesSystemExtra ∨ ρ ∈ p.requests := by
  have hg : Grantable cfg s name x :=
    hw.elim (writes_only_rendered cfg plan s name (.createRole x)) fun ⟨rv, hw⟩ =>
      writes_only_rendered cfg plan s name (.updateRole x rv) hw
  obtain ⟨p, hf, _, _, hrej, hx⟩ := hg
  exact ⟨p, hf, hrej, renderRoles_ctrl p _ x hx, fun ρ hρ => renderRoles_rules p _ x hx ρ hρ⟩

/-- the baseline table is the fixed one: secrets, config maps, events, leases of the core
and coordination groups, no URLs (stated over the table regenerated from roles.go) -/
theorem baseline_is_fixed :
    ∀ ρ ∈ rulesSystemExtra,
      (∀ g ∈ ρ.apiGroups, g ∈ ["", "coordination.k8s.io"]) ∧
      (∀ r ∈ ρ.resources, r ∈ ["secrets", "configmaps", "events", "leases"]) ∧
      ρ.nonResourceURLs = [] := by decide

/-- the verb tables grant what their names say -/
theorem verb_tables :
    (∀ v ∈ provVerbsView ++ xrdVerbsView ++ xrdVerbsBrowse, v ∈ ["get", "list", "watch"]) ∧
    (∀ v ∈ provVerbsSystem, v ∈ ["get", "list", "watch", "update", "patch", "create"]) ∧
    provVerbsUpdate = ["update"] ∧ xrdVerbsUpdate = ["update"] ∧
    provVerbsEdit = ["*"] ∧ xrdVerbsEdit = ["*"] :=
  ⟨by decide, by decide, rfl, rfl, rfl, rfl⟩

/-- **Family members need the same registry and org.** A resource handed to the renderer is
defined by a CRD the revision itself references, or by a CRD referenced by ANOTHER revision
carrying the same (non-empty) family label whose package parses to the same registry and
organisation as the revision's own (both parsable). -/
theorem family_needs_same_org (s : Store) (p : PR) (x : Resource) (hx : x ∈ resourcesFor s p) :
    x ∈ definedResources p.refs ∨
    (p.family ≠ "" ∧ ∃ m ∈ s.prs, m.family = p.family ∧ m.uid ≠ p.uid ∧
      (∃ o, p.org = some o ∧ m.org = some o) ∧ x ∈ definedResources m.refs) :=
  (resourcesOf_origin p _ x (resourcesFor_eq s p ▸ hx)).imp id fun ⟨hfam, m, hm, h⟩ =>
    ⟨hfam, m, (List.mem_filter.1 hm).1, of_decide_eq_true (List.mem_filter.1 hm).2, h⟩

/-- **Requests are granted only if covered** (end to end): whenever the reconciler applies
any role write, every granular sub-rule of every permission request of the revision is
covered by the allow-list role it read (and without an allow-list role there is no
granular request at all). Same exclusions as `tree_sound_partial`. -/
theorem granted_requests_are_covered_partial (cfg : Cfg) (plan : Plan) (s : Store) (name : String)
    (r : Req) (hr : r ∈ applied sem plan 0 (reconcile cfg name) s) (hwr : r.isWrite = true) :
    ∃ p, s.prs.find? (·.name = name) = some p ∧
      match cfg.allowRole with
      | none => ∀ q ∈ p.requests, breakdown q = []
      | some a => ∃ ar, s.roles.find? (·.name = a) = some ar ∧
          (NoLiteralStar ar.rules → NoEmptyURL ar.rules → URLRulesNameless ar.rules →
            ∀ q ∈ p.requests, ∀ sub ∈ breakdown q, sub.InDomain → covers ar.rules sub = true) := by
  obtain ⟨_, p, hf, _, _, hrej, _⟩ := (writes_only_rendered cfg plan s name r hr).of_write hwr
  refine ⟨p, hf, ?_⟩
  unfold rejectedIn at hrej
  cases ha : cfg.allowRole with
  | none =>
    simp only [ha, Option.some.injEq] at hrej
    intro q hq
    refine List.eq_nil_iff_forall_not_mem.2 fun sub hsub => ?_
    have hm := (mem_expand _ _).2 ⟨q, hq, toRule_mem_expandOne q sub hsub⟩
    rw [hrej] at hm
    cases hm
  | some a =>
    simp only [ha] at hrej
    cases hfr : s.roles.find? (·.name = a) with
    | none => simp [hfr] at hrej
    | some ar =>
      simp only [hfr, Option.map_some, Option.some.injEq] at hrej
      exact ⟨ar, hfr, fun h1 h2 h4 => nothing_rejected_means_covered_partial ar.rules p.requests h1 h2 h4 hrej⟩

/-- **If any request is not covered, no role at all is created or updated** (the property's
sentence, end to end): with an allow-list role `ar` in the store, one granular sub-rule of
one permission request that Kubernetes' ruleCovers does not find covered by `ar` is enough
for the reconcile to apply no write, under every fault plan. Same exclusions as
`tree_sound_partial`. -/
theorem uncovered_request_means_no_role_partial (a : String) (plan : Plan) (s : Store) (name : String)
    (p : PR) (ar : Role) (hp : s.prs.find? (·.name = name) = some p)
    (har : s.roles.find? (·.name = a) = some ar)
    (hStar : NoLiteralStar ar.rules) (hEmpty : NoEmptyURL ar.rules) (hValid : URLRulesNameless ar.rules)
    (q : PolicyRule) (hq : q ∈ p.requests) (sub : Sub) (hsub : sub ∈ breakdown q) (hDom : sub.InDomain)
    (hnc : covers ar.rules sub = false) :
    (∀ r ∈ applied sem plan 0 (reconcile ⟨some a⟩ name) s, r.isWrite = false) ∧
    (run sem plan 0 (reconcile ⟨some a⟩ name) s).1 = s := by
  have h : ∀ p', s.prs.find? (·.name = name) = some p' → rejectedIn ⟨some a⟩ s p' ≠ some [] := by
    intro p' hp' hrej
    obtain rfl : p = p' := Option.some.inj (hp.symm.trans hp')
    simp only [rejectedIn, har, Option.map_some, Option.some.injEq] at hrej
    exact Bool.false_ne_true
      (hnc ▸ nothing_rejected_means_covered_partial _ _ hStar hEmpty hValid hrej q hq sub hsub hDom)
  exact ⟨(reject_means_no_role ⟨some a⟩ plan s name h).1, (reject_means_no_role ⟨some a⟩ plan s name h).2.2⟩

/-- **XRD roles grant exactly the composite and claim resources.** Every rule of every role
derived for an XRD is over the XRD's group only and names only its composite plural or its
claim plural (with `/status`, or `/finalizers` with verb update); no names, no URLs. -/
theorem xrd_roles_exact (d : XRD) (x : Role) (hx : x ∈ renderXRDRoles d) (ρ : PolicyRule)
    (hρ : ρ ∈ x.rules) : IsXRDRule d ρ := by
  have own : d.plural = d.plural ∨ d.claim = some d.plural := .inl rfl
  revert x ρ
  cases hc : d.claim with
  | none =>
    simp only [renderXRDRoles, hc, List.append_nil, List.forall_mem_cons, List.not_mem_nil, false_imp_iff,
      implies_true, and_true]
    exact ⟨⟨.main own (.inl rfl), .fin own⟩, .main own (.inl rfl), .main own (.inr (.inl rfl)),
      .main own (.inr (.inr rfl))⟩
  | some c =>
    have cl : c = d.plural ∨ d.claim = some c := .inr hc
    simp only [renderXRDRoles, hc, List.cons_append, List.nil_append, List.forall_mem_cons, List.not_mem_nil,
      false_imp_iff, implies_true, and_true]
    exact ⟨⟨.main own (.inl rfl), .fin own, .main cl (.inl rfl), .fin cl⟩,
      ⟨.main own (.inl rfl), .main cl (.inl rfl)⟩,
      ⟨.main own (.inr (.inl rfl)), .main cl (.inr (.inl rfl))⟩, .main own (.inr (.inr rfl))⟩

/-- ... and they do grant them: each of the four roles carries the composite rule, the first
three the claim rule when there is a claim, finalizers only in the first (system) role, and
the browse role never names the claim. -/
theorem xrd_roles_cover_composite_and_claim (d : XRD) :
    (renderXRDRoles d).length = 4 ∧
    (∀ x ∈ renderXRDRoles d, ∃ ρ ∈ x.rules, ρ.resources = [d.plural, d.plural ++ xrd_suffixStatus]) ∧
    (∀ c, d.claim = some c → ∀ x ∈ (renderXRDRoles d).take 3,
        ∃ ρ ∈ x.rules, ρ.resources = [c, c ++ xrd_suffixStatus]) ∧
    (∀ x ∈ (renderXRDRoles d).drop 3, ∀ ρ ∈ x.rules,
        ρ.resources = [d.plural, d.plural ++ xrd_suffixStatus] ∧ ρ.verbs = xrdVerbsBrowse) ∧
    (∀ x ∈ (renderXRDRoles d).drop 1, ∀ ρ ∈ x.rules, ρ.verbs ≠ xrdVerbsUpdate) := by
  have hne : xrdVerbsEdit ≠ xrdVerbsUpdate ∧ xrdVerbsView ≠ xrdVerbsUpdate ∧ xrdVerbsBrowse ≠ xrdVerbsUpdate := by
    decide
  obtain ⟨h1, h2, h3⟩ := hne
  refine ⟨rfl, ?_, fun c hc => ?_, ?_, ?_⟩
  · simp only [renderXRDRoles, List.forall_mem_cons, List.not_mem_nil, false_imp_iff, implies_true, and_true]
    exact ⟨⟨_, .head _, rfl⟩, ⟨_, .head _, rfl⟩, ⟨_, .head _, rfl⟩, ⟨_, .head _, rfl⟩⟩
  · simp only [renderXRDRoles, hc, List.take, List.forall_mem_cons, List.not_mem_nil, false_imp_iff, implies_true,
      and_true]
    exact ⟨⟨_, .tail _ (.tail _ (.head _)), rfl⟩, ⟨_, .tail _ (.head _), rfl⟩, ⟨_, .tail _ (.head _), rfl⟩⟩
  · simp only [renderXRDRoles, List.drop, List.forall_mem_cons, List.not_mem_nil, false_imp_iff, implies_true,
      and_true]
  · cases hc : d.claim with
    | none =>
      simp only [renderXRDRoles, hc, List.drop, List.append_nil, List.forall_mem_cons, List.not_mem_nil,
        false_imp_iff, implies_true, and_true]
      exact ⟨h1, h2, h3⟩
    | some c =>
      simp only [renderXRDRoles, hc, List.drop, List.cons_append, List.nil_append, List.forall_mem_cons,
        List.not_mem_nil, false_imp_iff, implies_true, and_true]
      exact ⟨⟨h1, h1⟩, ⟨h2, h2⟩, h3⟩

/-- every write the XRD reconciler applies, under every fault plan, is one of the roles
rendered for the live XRD of that name -/
theorem xrd_writes_only_rendered (plan : Plan) (s : Store) (name : String) :
    ∀ r ∈ applied sem plan 0 (reconcileXRD name) s, RoleWrites (GrantableXRD s name) r := fun _ hr =>
  let ⟨_, hq⟩ := applied_of_ownOnly (reconcileXRD_ownOnly name) plan 0 s hr
  hq.imp fun _ => OnReads.plain grantableXRD_of_justified

/-- every write the binding reconciler applies, under every fault plan, is the one binding
named after the live revision's system role, referring to that very role, controlled by the
revision, whose subjects are computed from the deployments in the store; it never writes a role -/
theorem binding_exact (plan : Plan) (s : Store) (name : String) :
    ∀ r ∈ applied sem plan 0 (reconcileBinding name) s, BindingWrites (GrantableBinding s name) r := fun _ hr =>
  let ⟨_, hq⟩ := applied_of_ownOnly (reconcileBinding_ownOnly name) plan 0 s hr
  grantableBinding_of_bindingQ _ (trail_reads List.prefix_rfl hq.1) hq.2

/-- ... and each subject is the service account of a deployment that carries an owner
reference with the revision's UID -/
theorem binding_subjects_owned (uid : String) (ds : List Deployment) (sj : Subject)
    (h : sj ∈ subjectsFor uid ds) : ∃ d ∈ ds, uid ∈ d.owners ∧ sj = ⟨d.ns, d.sa⟩ := by
  simp only [subjectsFor, List.mem_flatMap, List.mem_map, List.mem_filter, decide_eq_true_eq] at h
  obtain ⟨d, hd, o, ⟨ho, rfl⟩, rfl⟩ := h
  exact ⟨d, hd, ho, rfl⟩

/-! ### non-vacuity: a store on which the reconciler does write, and one on which it is refused -/

example : ((applied sem Plan.allOk 0 (reconcile ⟨some "allow"⟩ "p") (exStore [⟨["get"], ["g"], ["r"], ["n"], []⟩])).filter Req.isWrite).length = 3 := exStore_granted_writes
example : ((applied sem Plan.allOk 0 (reconcile ⟨some "allow"⟩ "p") (exStore [⟨["get", "list"], ["g"], ["r"], [], []⟩])).filter Req.isWrite).length = 0 := by decide
example : rejectedIn ⟨some "allow"⟩ (exStore [⟨["get", "list"], ["g"], ["r"], [], []⟩]) (exPR [⟨["get", "list"], ["g"], ["r"], [], []⟩]) ≠ some [] := by decide

/-- **Every expanded request is looked up, and judged independently of the others.** The
rejected list is exactly the expanded requests the tree refuses, in request order, and the
verdict on a list of requests is the concatenation of the verdicts on its parts: no request is
skipped, de-duplicated or influenced by another one. -/
theorem every_request_is_judged (A : List PolicyRule) :
    (∀ reqs r, r ∈ validate A reqs ↔ r ∈ expand reqs ∧ (tree A).allowed r.path = false) ∧
    (∀ reqs, validate A reqs = [] ↔ ∀ r ∈ expand reqs, (tree A).allowed r.path = true) ∧
    (∀ r1 r2, validate A (r1 ++ r2) = validate A r1 ++ validate A r2) ∧
    (∀ q reqs, validate A (q :: reqs) = validate A [q] ++ validate A reqs) := by
  refine ⟨?_, ?_, ?_, ?_⟩
  · intro reqs r
    simp [validate, List.mem_filter]
  · intro reqs
    simp [validate, List.filter_eq_nil_iff]
  · intro r1 r2
    simp [validate, expand, List.flatMap_append, List.filter_append]
  · intro q reqs
    simp [validate, expand, List.flatMap_cons, List.filter_append]

/-- **The verdict does not depend on the order (or multiplicity) of the allow-list rules or of the
requests**: allow lists with the same rules build trees that allow the same paths, and request
lists with the same requests have the same set of rejected rules – in particular the same
"nothing rejected" decision the reconciler acts on. (The seeded change C18-6 breaks exactly this:
swapping two requests changes its verdict.) -/
theorem verdict_is_order_independent (A A' reqs reqs' : List PolicyRule)
    (hA : ∀ o, o ∈ A ↔ o ∈ A') (hR : ∀ q, q ∈ reqs ↔ q ∈ reqs') :
    (∀ p, (tree A).allowed p = (tree A').allowed p) ∧
    (∀ r, r ∈ validate A reqs ↔ r ∈ validate A' reqs') ∧
    (validate A reqs = [] ↔ validate A' reqs' = []) := by
  have h1 : ∀ p, (tree A).allowed p = (tree A').allowed p := fun p => by
    rw [tree_allowed, tree_allowed]
    exact any_congr_mem _ _ _ fun r => by simp only [mem_expand, hA]
  have h2 : ∀ r, r ∈ validate A reqs ↔ r ∈ validate A' reqs' := fun r => by
    simp only [validate, List.mem_filter, h1, mem_expand, hR]
  refine ⟨h1, h2, ?_⟩
  simp only [List.eq_nil_iff_forall_not_mem, h2]

example : (∀ q : PolicyRule, q ∈ [⟨["get"], ["g"], ["r"], [], []⟩, ⟨["list"], ["g"], ["r"], [], []⟩] ↔
      q ∈ [⟨["list"], ["g"], ["r"], [], []⟩, ⟨["get"], ["g"], ["r"], [], []⟩, ⟨["list"], ["g"], ["r"], [], []⟩]) := by
  intro q
  simp only [List.mem_cons, List.not_mem_nil, or_false]
  exact ⟨fun h => h.elim (.inr ∘ .inl) .inl, fun h => h.elim .inr id⟩

/-- **The tree path identifies the granular rule**: two rules Expand produces (from whatever
PolicyRules) with the same path are the same rule – the path, as a LIST of components, is a faithful
key; no two different requested rules share a tree lookup. (A key that joins the components into one
string is not: seeded C18-6.) -/
theorem path_identifies_rule (X Y : List PolicyRule) (r1 r2 : Rule)
    (h1 : r1 ∈ expand X) (h2 : r2 ∈ expand Y) (hp : r1.path = r2.path) : r1 = r2 :=
  path_injective r1 r2 (expand_normal X r1 h1) (expand_normal Y r2 h2) hp

example : (⟨"", "pods", "exec/*", "", "create"⟩ : Rule).path ≠ (⟨"", "pods/exec", "*", "", "create"⟩ : Rule).path ∧
    "/".intercalate (⟨"", "pods", "exec/*", "", "create"⟩ : Rule).path = "/".intercalate (⟨"", "pods/exec", "*", "", "create"⟩ : Rule).path := by
  decide +kernel

/-- the two requests of the seeded change C18-6 (`pods` named `exec/*`, and `pods/exec`) are
different rules with different paths; with only the first one allowed the second is rejected,
in either order -/
example :
    let A : List PolicyRule := [⟨["create"], [""], ["pods"], ["exec/*"], []⟩]
    let q1 : PolicyRule := ⟨["create"], [""], ["pods"], ["exec/*"], []⟩
    let q2 : PolicyRule := ⟨["create"], [""], ["pods/exec"], [], []⟩
    validate A [q1, q2] = [⟨"", "pods/exec", "*", "", "create"⟩] ∧
    validate A [q2, q1] = [⟨"", "pods/exec", "*", "", "create"⟩] ∧ validate A [q1] = [] := by decide

/-- **DefinedResources, exactly.** A resource (group, plural) is handed on iff some reference has
kind CustomResourceDefinition, an apiVersion that is literally `apiextensions.k8s.io/<version>`
(one '/', nothing else: neither a longer group nor a second '/'), and the name
`<plural>.<group>` where `<plural>` is everything before the FIRST '.'. -/
theorem defined_resources_exact (refs : List Ref) (x : Resource) :
    x ∈ definedResources refs ↔
      ∃ ref ∈ refs, ref.kind = "CustomResourceDefinition" ∧
        (∃ v : String, ref.apiVersion = crdGroupName ++ "/" ++ v ∧ '/' ∉ v.toList) ∧
        ref.name = x.plural ++ "." ++ x.group ∧ '.' ∉ x.plural.toList := by
  have hne : crdGroupName ≠ "" := by decide
  have hns : '/' ∉ crdGroupName.toList := by decide
  simp only [definedResources, List.mem_filterMap]
  constructor
  · rintro ⟨ref, href, h⟩
    split at h
    · cases h
    · rename_i hc
      have hc' := not_or.1 hc
      obtain ⟨v, hv, _, hnv⟩ := (groupOfAPIVersion_eq _ _ hne).1 (Classical.not_not.1 hc'.1)
      cases hcd : cutDot ref.name with
      | none => simp [hcd] at h
      | some pg =>
        obtain ⟨p, g⟩ := pg
        simp only [hcd, Option.map_some, Option.some.injEq] at h
        subst h
        obtain ⟨hn, hp⟩ := (cutDot_eq _ _ _).1 hcd
        exact ⟨ref, href, Classical.not_not.1 hc'.2, ⟨v, hv, hnv⟩, hn, hp⟩
  · rintro ⟨ref, href, hk, ⟨v, hv, hnv⟩, hn, hp⟩
    refine ⟨ref, href, ?_⟩
    have hg : groupOfAPIVersion ref.apiVersion = crdGroupName :=
      (groupOfAPIVersion_eq _ _ hne).2 ⟨v, hv, hns, hnv⟩
    have hcd : cutDot ref.name = some (x.plural, x.group) := (cutDot_eq _ _ _).2 ⟨hn, hp⟩
    simp [hg, hk, hcd]

example : definedResources [⟨"apiextensions.k8s.io/v1", "CustomResourceDefinition", "widgets.acme.example.org"⟩,
    ⟨"apiextensions.k8s.io/v1/x", "CustomResourceDefinition", "a.b"⟩, ⟨"v1", "CustomResourceDefinition", "a.b"⟩,
    ⟨"apiextensions.k8s.io.evil/v1", "CustomResourceDefinition", "a.b"⟩, ⟨"apiextensions.k8s.io/v1", "CustomResourceDefinition", "nodot"⟩]
    = [⟨"acme.example.org", "widgets"⟩] := by
  simp only [definedResources, filterMap_cons_toList, List.filterMap_nil]
  repeat rw [groupOfAPIVersion_ofList]
  repeat rw [cutDot_ofList]
  simp only [Str.ofList_eq, Xp.Gen.crdGroupName, ne_eq]
  repeat rw [String.toList_ofList]
  decide +kernel

/-- **The organisation is the first element of the repository path** (`strings.Split(repo, "/")[0]`). -/
theorem org_is_first_path_element (repo : String) :
    '/' ∉ (firstSeg repo).toList ∧
    (firstSeg repo = repo ∨ ∃ rest : String, repo = firstSeg repo ++ "/" ++ rest) ∧
    ('/' ∉ repo.toList → firstSeg repo = repo) ∧
    (∀ org rest : String, '/' ∉ org.toList → repo = org ++ "/" ++ rest → firstSeg repo = org) :=
  ⟨(firstSeg_spec repo).1, (firstSeg_spec repo).2, firstSeg_of_no_slash repo,
   fun org rest h e => e ▸ firstSeg_of_slash org rest h⟩

/-- **OrgDiffer.Differs, exactly**, over the parser's answers: two packages do NOT differ iff both
references parse, the registry strings are equal, and the first elements of the repository paths
are equal – and this is the `orgDiffers` on (registry, organisation) pairs the reconciler model
(`memberResources`) uses. -/
theorem org_differs_exact (a b : Option Parsed) :
    (orgDiffersParsed a b = false ↔
      ∃ x y, a = some x ∧ b = some y ∧ x.registry = y.registry ∧ firstSeg x.repo = firstSeg y.repo) ∧
    orgDiffersParsed a b = orgDiffers (a.map Parsed.orgKey) (b.map Parsed.orgKey) :=
  ⟨orgDiffersParsed_false a b, orgDiffersParsed_eq a b⟩

/-- **Family members need the same registry and first path element**, over the parsed references:
when the revisions' `org` fields are what the parser's answers give (`Parsed.orgKey`), a resource
handed to the renderer is the revision's own or comes from another member of the family whose
reference parsed to the same registry and to a repository with the same first path element. -/
theorem family_needs_same_org_parsed (s : Store) (p : PR) (parsed : PR → Option Parsed)
    (hparsed : ∀ q, q = p ∨ q ∈ s.prs → q.org = (parsed q).map Parsed.orgKey)
    (x : Resource) (hx : x ∈ resourcesFor s p) :
    x ∈ definedResources p.refs ∨
    (p.family ≠ "" ∧ ∃ m ∈ s.prs, m.family = p.family ∧ m.uid ≠ p.uid ∧
      (∃ a b, parsed p = some a ∧ parsed m = some b ∧ a.registry = b.registry ∧ firstSeg a.repo = firstSeg b.repo) ∧
      x ∈ definedResources m.refs) := by
  rcases family_needs_same_org s p x hx with h | ⟨hf, m, hm, hfam, huid, ⟨o, hpo, hmo⟩, hxm⟩
  · exact Or.inl h
  · refine Or.inr ⟨hf, m, hm, hfam, huid, ?_, hxm⟩
    have h1 := hparsed p (Or.inl rfl)
    have h2 := hparsed m (Or.inr hm)
    have hd : orgDiffersParsed (parsed p) (parsed m) = false := by
      rw [orgDiffersParsed_eq, ← h1, ← h2, hpo, hmo]
      simp [orgDiffers]
    exact (orgDiffersParsed_false _ _).1 hd

/-- the hypothesis of `family_needs_same_org_parsed` is met by the example store: its revision's
`org` is what the parser's answer (registry r, repository o/x) gives -/
example : ∀ q, q = exPR [] ∨ q ∈ (exStore []).prs →
    q.org = ((fun _ : PR => some (⟨"r", "o/x"⟩ : Parsed)) q).map Parsed.orgKey := by
  intro q h
  have : q = exPR [] := by
    rcases h with h | h
    · exact h
    · simpa [exStore] using h
  subst this
  decide

example : orgDiffersParsed (some ⟨"xpkg.upbound.io", "acme/provider-a"⟩) (some ⟨"xpkg.upbound.io", "acme/nested/provider-d"⟩) = false ∧
    orgDiffersParsed (some ⟨"xpkg.upbound.io", "acme/provider-a"⟩) (some ⟨"xpkg.upbound.io", "acme-evil/provider-a"⟩) = true ∧
    orgDiffersParsed (some ⟨"xpkg.upbound.io", "acme/provider-a"⟩) (some ⟨"xpkg.upbound.io:443", "acme/provider-a"⟩) = true ∧
    orgDiffersParsed (some ⟨"ghcr.io", "provider-x"⟩) (some ⟨"ghcr.io", "provider-y"⟩) = true ∧
    orgDiffersParsed (some ⟨"ghcr.io", "provider-x"⟩) none = true := by
  simp only [orgDiffersParsed]
  repeat rw [firstSeg_ofList]
  simp only [Str.ofList_bne, String.toList_ofList]
  decide +kernel

/-! ### RenderClusterRoles: the grants do not depend on the order sort.Slice leaves -/

theorem render_is_ordered (p : PR) (rs : List Resource) :
    renderRoles p rs = if rs.isEmpty then [] else renderRolesOrdered p (isort resourceLT rs) := rfl

/-- **Set semantics of the rendered rules.** Whatever order the sort leaves the resources in
(stable or not, any permutation – indeed any list with the same members), the three roles have
the same names, labels and controller, and the RBAC authorizer (RuleAllows over the role's rules)
gives the same answer for EVERY request attribute: no assumption on sort.Slice is needed for what
a provider is granted. In particular `renderRoles` grants exactly what rendering the unsorted
list grants. -/
theorem render_grants_order_independent (p : PR) (l1 l2 : List Resource) (h : ∀ x, x ∈ l1 ↔ x ∈ l2) :
    (renderRolesOrdered p l1).map (fun x => (x.name, x.labels, x.ctrl)) =
      (renderRolesOrdered p l2).map (fun x => (x.name, x.labels, x.ctrl)) ∧
    ∀ a : Attr, (renderRolesOrdered p l1).map (fun x => rulesAllow x.rules a) =
      (renderRolesOrdered p l2).map (fun x => rulesAllow x.rules a) := by
  refine ⟨rfl, fun a => ?_⟩
  simp only [renderRolesOrdered, List.map_cons, List.map_nil, groupRules_allow_congr l1 l2 h,
    systemRules_allow_congr p l1 l2 h]

theorem render_grants_sort_independent (p : PR) (rs : List Resource) (hne : rs.isEmpty = false) (a : Attr) :
    (renderRoles p rs).map (fun x => rulesAllow x.rules a) =
      (renderRolesOrdered p rs).map (fun x => rulesAllow x.rules a) := by
  rw [render_is_ordered, hne]
  exact (render_grants_order_independent p _ rs (fun x => mem_isort _ x rs)).2 a

def exRes : List Resource := [⟨"g", "b"⟩, ⟨"h", "a"⟩, ⟨"g", "a"⟩]
example : (∀ x, x ∈ exRes.reverse ↔ x ∈ exRes) ∧
    renderRolesOrdered (exPR []) exRes ≠ renderRolesOrdered (exPR []) exRes.reverse ∧
    (renderRolesOrdered (exPR []) exRes).map (fun x => rulesAllow x.rules (.res "get" "h" "a" "status" "n")) = [true, true, true] ∧
    (renderRolesOrdered (exPR []) exRes).map (fun x => rulesAllow x.rules (.res "delete" "h" "a" "" "n")) = [true, false, false] :=
  ⟨fun _ => List.mem_reverse,
   -- the resources of group `g` come in the order of the input: compare those only
   fun h => absurd (congrArg (fun l => l.map fun x => x.rules.map (·.resources)) h) (by decide),
   by decide, by decide⟩

/-! ### regenerated facts: the modelled Go functions still have the modelled call skeleton

`Xp.Gen.c18Skel*` are extracted from the CURRENT tree with go/ast on every run
(harness/main/c18_skel.go); the right-hand sides are declared, entry by entry with the model step
that mirrors each call, in Xp/Model/C18Skel.lean. -/

theorem skeleton_reconcile : Xp.Gen.c18SkelReconcile = skelReconcile := rfl
theorem skeleton_reconcile_xrd : Xp.Gen.c18SkelReconcileXRD = skelReconcileXRD := rfl
theorem skeleton_reconcile_binding : Xp.Gen.c18SkelReconcileBinding = skelReconcileBinding := rfl
theorem skeleton_new_reconciler : Xp.Gen.c18SkelNewReconciler = skelNewReconciler := rfl
theorem skeleton_apply : Xp.Gen.c18SkelApply = skelApply := rfl
theorem skeleton_defined_resources : Xp.Gen.c18SkelDefinedResources = skelDefinedResources := rfl
theorem skeleton_cluster_roles_differ :
    Xp.Gen.c18SkelClusterRolesDiffer = skelClusterRolesDiffer ∧
    Xp.Gen.c18SkelXRDClusterRolesDiffer = skelClusterRolesDiffer := ⟨rfl, rfl⟩
theorem skeleton_bindings_differ : Xp.Gen.c18SkelBindingsDiffer = skelBindingsDiffer := rfl
theorem skeleton_org_differs : Xp.Gen.c18SkelOrgDiffers = skelOrgDiffers := rfl
theorem skeleton_validate : Xp.Gen.c18SkelValidate = skelValidate := rfl
theorem skeleton_very_secure : Xp.Gen.c18SkelVerySecure = skelVerySecure := rfl
theorem skeleton_expand : Xp.Gen.c18SkelExpand = skelExpand := rfl
theorem skeleton_node_allow : Xp.Gen.c18SkelNodeAllow = skelNodeAllow := rfl
theorem skeleton_node_allowed : Xp.Gen.c18SkelNodeAllowed = skelNodeAllowed := rfl
theorem skeleton_rule_path : Xp.Gen.c18SkelRulePath = skelRulePath := rfl
theorem skeleton_render_cluster_roles : Xp.Gen.c18SkelRenderClusterRoles = skelRenderClusterRoles := rfl
theorem skeleton_with_verbs : Xp.Gen.c18SkelWithVerbs = skelWithVerbs := rfl
theorem skeleton_render_xrd_roles : Xp.Gen.c18SkelRenderXRDRoles = skelRenderXRDRoles := rfl

/-! #### the API-level entries of the declared skeletons are the steps of the model programs -/

/-- a revision in a family, an allow-list role, one family member; an XRD; a deployment -/
def exWorld : Store :=
  { prs := [{ exPR [⟨["get"], ["g"], ["r"], ["n"], []⟩] with family := "f" },
            { exPR [] with name := "q", uid := "v", family := "f" }],
    xrds := [⟨"x", "ux", false, "g", "xs", some "cs"⟩],
    deploys := [⟨"ns", "d", "sa", ["u"]⟩],
    roles := [⟨"allow", [], [⟨["get"], ["g"], ["r"], [], []⟩], none⟩], bindings := [] }

/-- `Reconcile` (provider roles): Get, List, ValidatePermissionRequests, Apply(×3) are the requests
`reconcile` issues on `exWorld` (a granted revision with a family) without faults: getPR, listPRs,
getRole allow, then per role getRole + createRole -/
theorem skeleton_reconcile_from_model :
    collapse ((applied sem Plan.allOk 0 (reconcile ⟨some "allow"⟩ "p") exWorld).map (stepOf (some "allow")))
      = apiSteps skelReconcile ∧
    ((applied sem Plan.allOk 0 (reconcile ⟨some "allow"⟩ "p") exWorld).filter Req.isWrite).length = 3 := by decide +kernel

theorem skeleton_reconcile_xrd_from_model :
    collapse ((applied sem Plan.allOk 0 (reconcileXRD "x") exWorld).map (stepOf none)) = apiSteps skelReconcileXRD ∧
    ((applied sem Plan.allOk 0 (reconcileXRD "x") exWorld).filter Req.isWrite).length = 4 := by decide +kernel

theorem skeleton_reconcile_binding_from_model :
    collapse ((applied sem Plan.allOk 0 (reconcileBinding "p") exWorld).map (stepOf none)) = apiSteps skelReconcileBinding ∧
    ((applied sem Plan.allOk 0 (reconcileBinding "p") exWorld).filter Req.isWrite).length = 1 := by decide +kernel

/-- `APIUpdatingApplicator.Apply` = [the nameless-object Create,] Get + Create (NotFound), Get +
Update (found, controllable, differs): the two paths of one `applyRoles` step -/
theorem skeleton_apply_from_model :
    let r : Role := ⟨"r", [], [], some "u"⟩
    let s0 : Store := { exWorld with roles := [] }
    let s1 : Store := { exWorld with roles := [⟨"r", [("k", "v")], [], some "u"⟩] }
    (skelApply.filter (fun c => c == "client.Get" || c == "client.Create" || c == "client.Update")).drop 1 =
      (applied sem Plan.allOk 0 (applyRoles "u" [r]) s0).filterMap applyStepOf ++
      ((applied sem Plan.allOk 0 (applyRoles "u" [r]) s1).filterMap applyStepOf).drop 1 := by decide +kernel

/-! ### other writers, a lagging informer cache, error classes

Everything above is the `World.plain` case (`world_plain_is_run`); the statements about a
reconciler there and here come from the one walk of that reconciler (`*_ownOnly`,
Proofs/C18Interf).  In a `World` other clients change the store right before ANY API call
(`env`), every read is answered from whatever the informer cache serves at that moment (`view`:
fresh, older, lacking objects), and any call may fail with any error class (`inj`: NotFound,
AlreadyExists, Conflict, other).  The statements are about the program's own applied calls
`ownW` – each paired with the store it was answered from – and say that every write is
justified by what the reads of THIS reconcile were served. -/

/-- the plain world (no other writer, fresh cache, no injected class) is `run`/`applied` -/
theorem world_plain_is_run (plan : Plan) (p : P) (s : Store) :
    runW (World.plain plan) 0 p s = run sem plan 0 p s ∧
    (ownW (World.plain plan) 0 p s).map (·.2) = applied sem plan 0 p s :=
  ⟨runW_plain plan 0 p s, by rw [ownW_plain, trail_map_snd]⟩

/-- **Every role write is justified by this reconcile's own reads, in every world.** Whatever
other writers do between any two calls, whatever the cache serves and whichever calls fail
with whichever class: a Create/Update of a role `x` by the provider-revision reconciler
happens only after a `getPR` was served a live revision `p`, `x` is rendered for `p` from its
own CRD references plus those of the members a `listPRs` of its family was served, and (with
an allow-list configured) only after a read of the allow-list role was served a version under
which no request of `p` is rejected; an Update moreover carries the resourceVersion of a
served version of that role that `p` may control and that differed (no retry on a decision
made for another version). No binding is ever written. -/
theorem writes_justified_by_reads_interf (cfg : Cfg) (name : String) (w : World) (s : Store)
    (pre : Hist) (x : Store × Req) (post : Hist)
    (h : ownW w 0 (reconcile cfg name) s = pre ++ x :: post) :
    RoleQ (Justified cfg name) pre x.2 :=
  RoleQ.mono (fun _ => OnReads.weaken (justified_mono cfg name)) (ownW_ownOnly (reconcile_ownOnly cfg name) w 0 s h)

/-- **If every allow-list version this reconcile is served leaves some request rejected – or
none is served at all (NotFound, Forbidden, timeout, a cache miss …) – no role is created or
updated**, in every world. -/
theorem uncovered_means_no_role_interf (a : String) (name : String) (w : World) (s : Store)
    (hrej : ∀ s1 p s3 ar, (s1, Req.getPR name) ∈ ownW w 0 (reconcile ⟨some a⟩ name) s →
        s1.prs.find? (·.name = name) = some p →
        (s3, Req.getRole a) ∈ ownW w 0 (reconcile ⟨some a⟩ name) s →
        s3.roles.find? (·.name = a) = some ar → validate ar.rules p.requests ≠ []) :
    ∀ x ∈ ownW w 0 (reconcile ⟨some a⟩ name) s, x.2.isWrite = false := by
  refine no_write_of_unjustified _ _ (writes_justified_by_reads_interf ⟨some a⟩ name w s) ?_
  intro pre r sub ⟨p, ⟨s1, h1, hf⟩, _, _, _, s3, ar, h3, hfa, hval⟩
  exact hrej s1 p s3 ar (sub h1) hf (sub h3) hfa hval

/-- ... and without an allow-list a revision with any granular request never gets a role. -/
theorem requests_without_allow_list_mean_no_role_interf (name : String) (w : World) (s : Store)
    (hreq : ∀ s1 p, (s1, Req.getPR name) ∈ ownW w 0 (reconcile ⟨none⟩ name) s →
        s1.prs.find? (·.name = name) = some p → expand p.requests ≠ []) :
    ∀ x ∈ ownW w 0 (reconcile ⟨none⟩ name) s, x.2.isWrite = false := by
  refine no_write_of_unjustified _ _ (writes_justified_by_reads_interf ⟨none⟩ name w s) ?_
  intro pre r sub ⟨p, ⟨s1, h1, hf⟩, _, _, _, hv⟩
  exact hreq s1 p (sub h1) hf hv

/-- **Role contents in every world.** Every rule of a role written in any world is a
resource rule over CRDs referenced by the served revision `p` or by a member `m` of the served
family list with another UID and the same (parsable) registry and organisation, the
finalizers rule of those groups, the baseline table, or a request of `p` verbatim; the role
is controlled by `p`. -/
theorem role_contents_interf (cfg : Cfg) (name : String) (h : Hist) (x : Role) (hj : Justified cfg name h x) :
    ∃ p ms, (∃ s1, (s1, Req.getPR name) ∈ h ∧ s1.prs.find? (·.name = name) = some p) ∧
      (p.family = "" ∨ ∃ s2, (s2, Req.listPRs p.family) ∈ h ∧ ms = s2.prs.filter (·.family = p.family)) ∧
      x.ctrl = some p.uid ∧
      (∀ ρ ∈ x.rules,
        IsResourceRule (resourcesOf p ms) provVerbsEdit ρ ∨ IsResourceRule (resourcesOf p ms) provVerbsView ρ ∨
        IsResourceRule (resourcesOf p ms) provVerbsSystem ρ ∨ IsFinalizersRule (resourcesOf p ms) ρ ∨
        ρ ∈ rulesSystemExtra ∨ ρ ∈ p.requests) ∧
      (∀ res ∈ resourcesOf p ms, res ∈ definedResources p.refs ∨
        (p.family ≠ "" ∧ ∃ m ∈ ms, m.uid ≠ p.uid ∧ (∃ o, p.org = some o ∧ m.org = some o) ∧
          res ∈ definedResources m.refs)) := by
  obtain ⟨p, h1, _, _, ⟨ms, hms, hx⟩, _⟩ := hj
  exact ⟨p, ms, h1, hms, renderRoles_ctrl p _ x hx, fun ρ hρ => renderRoles_rules p _ x hx ρ hρ,
    fun res hres => resourcesOf_origin p ms res hres⟩

/-- **Requests are granted only if covered, in every world**: a justified role means some
served version of the allow-list role covers every granular sub-rule of every request of the
served revision (same exclusions as `tree_sound_partial`). -/
theorem granted_requests_are_covered_interf_partial (a : String) (name : String) (h : Hist) (x : Role)
    (hj : Justified ⟨some a⟩ name h x) :
    ∃ p s3 ar, (s3, Req.getRole a) ∈ h ∧ s3.roles.find? (·.name = a) = some ar ∧
      (NoLiteralStar ar.rules → NoEmptyURL ar.rules → URLRulesNameless ar.rules →
        ∀ q ∈ p.requests, ∀ sub ∈ breakdown q, sub.InDomain → covers ar.rules sub = true) ∧
      (∃ s1, (s1, Req.getPR name) ∈ h ∧ s1.prs.find? (·.name = name) = some p) := by
  obtain ⟨p, h1, _, _, _, hv⟩ := hj
  simp only [] at hv
  obtain ⟨s3, ar, h3, hfa, hval⟩ := hv
  exact ⟨p, s3, ar, h3, hfa,
    fun a1 a2 a3 => nothing_rejected_means_covered_partial ar.rules p.requests a1 a2 a3 hval, h1⟩

/-- the XRD reconciler in every world: every role write is a role rendered for the live XRD a
`getXRD` was served (hence `xrd_roles_exact` applies to it); Updates carry a checked version -/
theorem xrd_writes_justified_by_reads_interf (name : String) (w : World) (s : Store)
    (pre : Hist) (x : Store × Req) (post : Hist)
    (h : ownW w 0 (reconcileXRD name) s = pre ++ x :: post) :
    RoleQ (JustifiedXRD name) pre x.2 :=
  RoleQ.mono (fun _ => OnReads.weaken (justifiedXRD_mono name)) (ownW_ownOnly (reconcileXRD_ownOnly name) w 0 s h)

/-- the binding reconciler in every world: the only write is THE binding of the live revision
it was served, to its own system role, with the service accounts of the deployments it was
served that carry an owner reference with the revision's UID; Updates carry a checked version -/
theorem binding_writes_justified_by_reads_interf (name : String) (w : World) (s : Store)
    (pre : Hist) (x : Store × Req) (post : Hist)
    (h : ownW w 0 (reconcileBinding name) s = pre ++ x :: post) :
    BindingQ name pre x.2 :=
  (ownW_ownOnly (reconcileBinding_ownOnly name) w 0 s h).2

/-! non-vacuity: a world in which the allow-list is narrowed right before the validator's read
(call 1) refuses the roles the plain world writes -/
example : ((ownW (World.plain Plan.allOk) 0 (reconcile ⟨some "allow"⟩ "p") (exStore [⟨["get"], ["g"], ["r"], ["n"], []⟩])).filter (·.2.isWrite)).length = 3 :=
  (ownW_plain_writes ..).trans exStore_granted_writes
example : ((ownW ⟨Plan.allOk, fun k s => if k = 1 then applyEdit s (.setRole ⟨"allow", [], [], none⟩) else s, fun _ s => s, fun _ => none⟩
    0 (reconcile ⟨some "allow"⟩ "p") (exStore [⟨["get"], ["g"], ["r"], ["n"], []⟩])).filter (·.2.isWrite)).length = 0 := by decide

end Xp.C18
