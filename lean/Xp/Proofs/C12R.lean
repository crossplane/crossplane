import Xp.Proofs.C12F
/-
The revision controller in the logic of `Proofs/C12L.lean`. `SafeR` is `Wp` with fresh replies, any error class, a rely `R`
and the guarantee `Keeps`; the two loops turn on `Adopted` (what the adoption loop hands on) and `RI` (the invariant of the
renumbering loop). The loops and the tail `recTail` of the repaired `Reconcile` are walked once, for any rely `R` within
`RelyT` (`adopt_safeR`, `renum_safeR`, `recTail_safeR`, with the `Update` rule `safeR_update`). Read on runs: `R := Eq` gives
the interference-free `reconcile_sound`; `R := RelyT D` gives `reconcile_good_of_relyT` (third parties: everybody who is not
a revision controller; any error class; lists read fresh: with a lagging list it is false, finding D22, for whose witness
`no_strict_max_of_tie` is there). Then one event (a reconcile, a fetch, an environment action) and whole histories: their
visible stores form a `Chain (WF H D) Le` (`reachEv_ok`, `reachHist_ok`).
-/
namespace Xp.C12

variable {H : Naming} {D : Content → Prop}

/-- the reconcile after its `Get` returned Composition `c`: the text of that branch of `reconcile` (Model/C12.lean) once
more, so that the walks have a name for it; `reconcile_eq` (by `rfl`) stops holding when the two part -/
def recTail (H : Naming) (c : Comp) : P Res :=
  if c.deleting then .ret .done else
  .call (.listRevs [] c.name) fun
  | .revs l =>
    adoptLoop c.uid l fun l' =>
      let latest := latestNum c.uid l'
      renumLoop (H.hash c.content) latest l' 0 fun ex =>
        if ex > 0 then .ret .done
        else .call (.createRev (newRev H c (latest + 1))) fun
          | .ok => .ret .created
          | _ => .ret .err
  | _ => .ret .err

theorem reconcile_eq (H : Naming) (name : String) :
    reconcile H name = .call (.getComp name) fun
      | .comp c => recTail H c
      | .notFound => .ret .done
      | _ => .ret .err := by
  unfold reconcile recTail
  rfl

section Rely
variable (R : Store → Store → Prop)

/-- nobody else acts on the store -/
def Exact : Prop := ∀ s s', R s s' → s' = s

theorem Exact.eq {R : Store → Store → Prop} (ex : Exact R) {s s' : Store} (h : R s s') : s' = s := ex s s' h

/-- the held revision `r` is, up to owner and resourceVersion, a revision of the store — and
the stored revision itself when nobody else acts -/
def Held (s : Store) (r : Rev) : Prop := (∃ x ∈ s.revs, er x = er r) ∧ (Exact R → r ∈ s.revs)

variable {R}

/-- the guarantee of the revision controller -/
@[reducible] def Keeps (H : Naming) (D : Content → Prop) (s : Store) (r : Req) : Prop :=
  WF H D (exec s r).1 ∧ Le s (exec s r).1

/-- `Wp` in the world of the revision controller: fresh replies, any error class, the others act within `R` -/
abbrev SafeR {α : Type} (H : Naming) (D : Content → Prop) (R : Store → Store → Prop) (Post : Bool → α → Store → Prop) :
    Bool → P α → Store → Prop :=
  Wp sem Fresh (·.isErr = true) R (Keeps H D) Post

theorem safeR_call {α : Type} {Post : Bool → α → Store → Prop} {b : Bool} {r : Req} {c : Resp → P α} {s : Store} :
    SafeR H D R Post b (.call r c) s ↔ ∀ s', R s s' →
      WF H D (exec s' r).1 ∧ Le s' (exec s' r).1 ∧ SafeR H D R Post b (c (exec s' r).2) (exec s' r).1 ∧
      ∀ e : Resp, e.isErr = true → SafeR H D R Post false (c e) s' :=
  wp_call_fresh.trans (forall₂_congr fun _ _ => and_assoc)

/-- an `Update` of the held revision `r`. `exec` itself may answer `notFound` or `conflict`, which the continuation
takes like an injected error reply (`herr`); not so with `b = true`: then nobody else acts (`Exact R`), the stored
revision is the one that was read, and `exec` answers neither. Otherwise `r` is replaced in the store the others
left (`happ`). -/
theorem safeR_update (hR : ∀ s s', WF H D s → R s s' → RelyT D s s') {α : Type} {Post : Bool → α → Store → Prop}
    (b : Bool) (hb : b = true → Exact R) {s : Store} (w : WF H D s) {r r1 : Rev} (hn : r1.name = r.name)
    (hmem : Exact R → r ∈ s.revs) {c : Resp → P α}
    (herr : ∀ e s', e.isErr = true → SafeR H D R Post false (c e) s')
    (happ : ∀ s', R s s' → RelyT D s s' → WF H D s' → r ∈ s'.revs →
      WF H D { s' with revs := replaceRev { r1 with rv := r.rv + 1 } s'.revs } ∧
      Le s' { s' with revs := replaceRev { r1 with rv := r.rv + 1 } s'.revs } ∧
      SafeR H D R Post b (c (.rev { r1 with rv := r.rv + 1 }))
        { s' with revs := replaceRev { r1 with rv := r.rv + 1 } s'.revs }) :
    SafeR H D R Post b (.call (.updateRev r r1) c) s := by
  refine safeR_call.mpr fun s' hrel => ?_
  have rt := hR s s' w hrel
  have w' : WF H D s' := rt.wf w
  have execErr : ∀ q : Resp, q.isErr = true → exec s' (.updateRev r r1) = (s', q) → SafeR H D R Post b (c q) s' := by
    intro q hq e
    cases b with
    | false => exact herr q s' hq
    | true =>
      have hm : r ∈ s'.revs := (hb rfl).eq hrel ▸ hmem (hb rfl)
      rw [exec_updateRev_present w'.names hm hn] at e
      have hq' : q = .rev _ := (congrArg Prod.snd e).symm
      rw [hq'] at hq
      cases hq
  rcases exec_updateRev_cases s' r r1 with e | e | ⟨hm, e⟩
  · rw [e]; exact ⟨w', Le.refl _, execErr _ rfl e, fun q hq => herr q s' hq⟩
  · rw [e]; exact ⟨w', Le.refl _, execErr _ rfl e, fun q hq => herr q s' hq⟩
  · rw [e]
    obtain ⟨h1, h2, h3⟩ := happ s' hrel rt w' hm
    exact ⟨h1, h2, h3, fun q hq => herr q s' hq⟩

/-- what the adoption loop, started with the list `l` in store `s`, hands to its continuation: the controller
holds `l'`, which is `l` up to owner / resourceVersion, all controlled; the store `s'` still is `s` up to owners /
resourceVersions; when nobody else acts the held revisions are the stored ones and no other revision was touched
(which is what keeps an adopted head in the store through the rest of the loop: `Adopted.cons`) -/
structure Adopted (R : Store → Store → Prop) (uid : Nat) (l : List Rev) (s : Store) (l' : List Rev) (s' : Store) : Prop where
  store : s'.revs.map er = s.revs.map er
  held : l'.map er = l.map er
  ctrl : ∀ x ∈ l', x.ctrl = some uid
  exact : Exact R → (∀ x ∈ l', x ∈ s'.revs) ∧ ∀ x ∈ s.revs, (∀ y ∈ l, y.name ≠ x.name) → x ∈ s'.revs

theorem Adopted.nil {uid : Nat} {s : Store} : Adopted R uid [] s [] s :=
  ⟨rfl, rfl, fun _ h => (nomatch h), fun _ => ⟨fun _ h => (nomatch h), fun _ hx _ => hx⟩⟩

theorem Adopted.cons {uid : Nat} {r r1 : Rev} {rs l' : List Rev} {s s1 s3 : Store} (e0 : s1.revs.map er = s.revs.map er)
    (her : er r1 = er r) (hc : r1.ctrl = some uid)
    (hx : Exact R → r1 ∈ s1.revs ∧ (∀ y ∈ rs, y.name ≠ r.name) ∧ ∀ x ∈ s.revs, x.name ≠ r.name → x ∈ s1.revs)
    (a : Adopted R uid rs s1 l' s3) : Adopted R uid (r :: rs) s (r1 :: l') s3 := by
  refine ⟨a.store.trans e0, by simp [a.held, her], List.forall_mem_cons.mpr ⟨hc, a.ctrl⟩, fun ex => ?_⟩
  obtain ⟨h1, hne, hfr⟩ := hx ex
  refine ⟨List.forall_mem_cons.mpr ⟨(a.exact ex).2 r1 h1 fun y hy e => hne y hy (e.trans (er_name her)), (a.exact ex).1⟩,
    fun x hx hn => ?_⟩
  exact (a.exact ex).2 x (hfr x hx fun e => hn r List.mem_cons_self e.symm) fun y hy => hn y (List.mem_cons_of_mem _ hy)

-- The two side hypotheses serve the interference-free reading: when nobody else acts (`Exact R`) the list is of stored
-- revisions with distinct names (`Adopted.exact` needs it); with `b = true` no listed revision has another owner (`case3`).
theorem adopt_safeR (hR : ∀ s s', WF H D s → R s s' → RelyT D s s') (uid : Nat) {Post : Bool → Res → Store → Prop}
    (hq : ∀ s, Post false .err s) (b : Bool) (hb : b = true → Exact R) (l : List Rev) (k : List Rev → P Res) :
    ∀ (s : Store), WF H D s →
      (Exact R → (∀ r ∈ l, r ∈ s.revs) ∧ l.Pairwise (fun a b => a.name ≠ b.name)) →
      (b = true → ∀ r ∈ l, r.ctrl = none ∨ r.ctrl = some uid) →
      (∀ l' s', WF H D s' → Adopted R uid l s l' s' → SafeR H D R Post b (k l') s') →
      SafeR H D R Post b (adoptLoop uid l k) s := by
  fun_induction adoptLoop uid l k with
  | case1 k => exact fun s w _ _ hk => hk [] s w .nil
  | case2 r rs k hctrl ih =>
    intro s w hex hown hk
    refine ih s w (fun ex => ⟨fun x hx => (hex ex).1 x (List.mem_cons_of_mem _ hx), (List.pairwise_cons.mp (hex ex).2).2⟩)
      (fun hb x hx => hown hb x (List.mem_cons_of_mem _ hx)) fun l' s3 w3 a => hk _ s3 w3 (a.cons rfl rfl hctrl fun ex => ?_)
    exact ⟨(hex ex).1 r List.mem_cons_self, fun y hy e => (List.pairwise_cons.mp (hex ex).2).1 y hy e.symm, fun x hx _ => hx⟩
  | case3 r rs k hc1 hc2 =>  -- controlled by somebody else: impossible on the fault-free path by assumption
    intro s _ _ hown _
    cases b with
    | false => exact hq s
    | true =>
      rcases hown rfl r List.mem_cons_self with h | h
      · rw [h] at hc2; cases hc2
      · exact absurd h hc1
  | case4 r rs k _ _ ih =>
    intro s w hex hown hk
    have hne : Exact R → ∀ y ∈ rs, y.name ≠ r.name :=
      fun ex y hy e => (List.pairwise_cons.mp (hex ex).2).1 y hy e.symm
    refine safeR_update hR b hb w (r := r) (r1 := { r with ctrl := some uid }) rfl (fun ex => (hex ex).1 r List.mem_cons_self)
      (fun e _ he => by cases e <;> first | exact hq _ | cases he) (fun s' hrel rt w' hm => ?_)
    have her : er ({ r with ctrl := some uid, rv := r.rv + 1 } : Rev) = er r := by simp [er]
    -- the adoption changes what a third party may change: owner and resourceVersion
    have rt1 : RelyT D s' { s' with revs := replaceRev { r with ctrl := some uid, rv := r.rv + 1 } s'.revs } :=
      ⟨replaceRev_er w'.names hm rfl her, w'.comps⟩
    refine ⟨rt1.wf w', rt1.le, ih _ _ (rt1.wf w') (fun ex => ⟨fun x hx => ?_, (List.pairwise_cons.mp (hex ex).2).2⟩)
      (fun hb x hx => hown hb x (List.mem_cons_of_mem _ hx))
      fun l' s3 w3 a => hk _ s3 w3 (a.cons (rt1.1.trans rt.1) her rfl fun ex => ?_)⟩
    · exact mem_replaceRev_of_ne (ex.eq hrel ▸ (hex ex).1 x (List.mem_cons_of_mem _ hx)) (hne ex x hx)
    · exact ⟨mem_replaceRev_self hm rfl, hne ex, fun x hx hn => mem_replaceRev_of_ne (ex.eq hrel ▸ hx) hn⟩

/-- the current hash `h` of composition `cn` is matched by a revision with the strictly highest
number of `cn`'s revisions; it is controlled by `uid` as long as nobody else acts (a backup tool
may strip the owner reference again at any moment) -/
def GoodH (R : Store → Store → Prop) (cn h : String) (uid : Nat) (s : Store) : Prop :=
  ∃ r ∈ s.revs, r.comp = cn ∧ r.hash = h ∧ (Exact R → r.ctrl = some uid) ∧
    ∀ x ∈ s.revs, x.comp = cn → x.name ≠ r.name → x.num < r.num

/-- two revisions tie at the top (finding D22): then none has the strictly highest number -/
theorem no_strict_max_of_tie {l : List Rev} {a b : String} {n : Nat}
    (hl : ∀ p ∈ l.map (fun r => (r.name, r.num)), p.2 ≤ n) (ha : (a, n) ∈ l.map (fun r => (r.name, r.num)))
    (hb : (b, n) ∈ l.map (fun r => (r.name, r.num))) (hab : a ≠ b) :
    ¬ ∃ r ∈ l, ∀ r' ∈ l, r'.name ≠ r.name → r'.num < r.num := by
  rintro ⟨r, hr, h⟩
  obtain ⟨ra, hra, ea⟩ := List.mem_map.mp ha
  obtain ⟨rb, hrb, eb⟩ := List.mem_map.mp hb
  have hrn : r.num ≤ n := hl _ (List.mem_map_of_mem hr)
  -- whichever of the two `r` is not, it is not below `r`
  have key : ∀ x ∈ l, x.num = n → x.name = r.name := fun x hx hn =>
    Decidable.by_contra fun ne => Nat.lt_irrefl n (Nat.lt_of_lt_of_le (hn ▸ h x hx ne) hrn)
  have e1 := key ra hra (congrArg Prod.snd ea)
  have e2 := key rb hrb (congrArg Prod.snd eb)
  exact hab ((congrArg Prod.fst ea).symm.trans (e1.trans (e2.symm.trans (congrArg Prod.fst eb))))

/-- loop invariant of the renumbering loop, two phases. Nothing matched yet (`ex = 0`): the numbers
of `cn` are at most `latest`, every stored revision of `cn` with hash `h` is still to come, and the
revisions to come are held and controlled. Or one matched (`1 ≤ ex`): none of those to come carries
`h`, and the match has the highest number (`GoodH`). -/
inductive RI (R : Store → Store → Prop) (cn h : String) (uid latest : Nat) (rem : List Rev) (s : Store) : Nat → Prop where
  | todo : (∀ x ∈ s.revs, x.comp = cn → x.num ≤ latest) →
      (∀ x ∈ s.revs, x.comp = cn → x.hash = h → ∃ y ∈ rem, er y = er x) →
      (∀ r ∈ rem, r.comp = cn ∧ r.ctrl = some uid ∧ Held R s r) → RI R cn h uid latest rem s 0
  | found {ex : Nat} : (∀ r ∈ rem, r.hash ≠ h) → 1 ≤ ex → GoodH R cn h uid s → RI R cn h uid latest rem s ex

theorem RI.skip {cn h : String} {uid latest : Nat} {r : Rev} {rs : List Rev} {s : Store} {ex : Nat} (hne : r.hash ≠ h)
    (hri : RI R cn h uid latest (r :: rs) s ex) : RI R cn h uid latest rs s ex := by
  cases hri with
  | found b1 b2 b3 => exact .found (fun x hx => b1 x (List.mem_cons_of_mem _ hx)) b2 b3
  | todo a1 a2 a3 =>
    refine .todo a1 (fun x hx hxc hxh => ?_) fun x hx => a3 x (List.mem_cons_of_mem _ hx)
    obtain ⟨y, hy, ey⟩ := a2 x hx hxc hxh
    rcases List.mem_cons.mp hy with e | hy'
    · exact absurd ((er_hash (e ▸ ey)).trans hxh) hne
    · exact ⟨y, hy', ey⟩

/-- the head of the list carries the hash: nothing matched before; it stands for a stored revision, and no later
revision of the list carries the hash (it would be the same stored object) -/
theorem RI.head (hi : H.Inj D) {cn h : String} {uid latest : Nat} {r : Rev} {rs : List Rev} {s : Store} {ex : Nat} (w : WF0 H D s)
    (hpw : (r :: rs).Pairwise (fun a b => a.name ≠ b.name)) (hh : r.hash = h) (hri : RI R cn h uid latest (r :: rs) s ex) :
    (∀ x ∈ s.revs, x.comp = cn → x.num ≤ latest) ∧ r.comp = cn ∧ r.ctrl = some uid ∧ (Exact R → r ∈ s.revs) ∧
    (∀ x ∈ rs, x.hash ≠ h) ∧ ∃ x0 ∈ s.revs, er x0 = er r := by
  cases hri with
  | found b1 _ _ => exact absurd hh (b1 r List.mem_cons_self)
  | todo a1 _ a3 => ?_
  obtain ⟨hrc, hru, ⟨x0, hx0, e0⟩, hrex⟩ := a3 r List.mem_cons_self
  refine ⟨a1, hrc, hru, hrex, fun x hx e => ?_, x0, hx0, e0⟩
  obtain ⟨hxc, _, ⟨y0, hy0, ey⟩, _⟩ := a3 x (List.mem_cons_of_mem _ hx)
  have := w.eq_of_hash hi hy0 hx0 (((er_comp ey).trans hxc).trans ((er_comp e0).trans hrc).symm)
    (((er_hash ey).trans e).trans ((er_hash e0).trans hh).symm)
  exact (List.pairwise_cons.mp hpw).1 x hx ((er_name e0).symm.trans ((congrArg Rev.name this).symm.trans (er_name ey)))

theorem Adopted.ri {cn h : String} {uid : Nat} {s' s2 : Store} {l' : List Rev}
    (hn : s'.revs.Pairwise (fun a b => a.name ≠ b.name))
    (a : Adopted R uid (s'.revs.filter fun r => decide (r.comp = cn)) s' l' s2) :
    l'.Pairwise (fun a b => a.name ≠ b.name) ∧ RI R cn h uid (latestNum uid l') l' s2 0 := by
  -- every revision of the composition in the store corresponds to a held one
  have hcover : ∀ x ∈ s2.revs, x.comp = cn → ∃ z ∈ l', er z = er x := by
    intro x hx hxc
    obtain ⟨y, hy, e⟩ := mem_of_map_er a.store hx
    have hyl : y ∈ s'.revs.filter fun r => decide (r.comp = cn) :=
      List.mem_filter.mpr ⟨hy, decide_eq_true ((er_comp e).trans hxc)⟩
    obtain ⟨z, hz, ez⟩ := List.mem_map.mp (a.held ▸ List.mem_map_of_mem hyl : er y ∈ l'.map er)
    exact ⟨z, hz, ez.trans e⟩
  refine ⟨pairwise_names_of_map (names_of_map_er a.held) (hn.sublist List.filter_sublist),
    .todo (fun x hx hxc => ?_) (fun x hx hxc _ => hcover x hx hxc) fun z hz => ?_⟩
  · obtain ⟨z, hz, ez⟩ := hcover x hx hxc
    rw [← er_num ez]
    exact latestNum_ge uid l' z hz (a.ctrl z hz)
  · obtain ⟨y, hy, e⟩ := mem_of_map_er a.held hz
    obtain ⟨x, hx, ex⟩ := mem_of_map_er a.store.symm (List.mem_filter.mp hy).1
    exact ⟨(er_comp e).symm.trans (of_decide_eq_true (List.mem_filter.mp hy).2), a.ctrl z hz, ⟨x, hx, ex.trans e⟩,
      fun exa => (a.exact exa).1 z hz⟩

theorem renum_safeR (hR : ∀ s s', WF H D s → R s s' → RelyT D s s') (hi : H.Inj D) (cn h : String) (uid latest : Nat)
    {Post : Bool → Res → Store → Prop} (hqe : ∀ s, Post false .err s) (hqr : ∀ s, Post false .requeue s)
    (b : Bool) (hb : b = true → Exact R) (rem : List Rev) (ex : Nat) (k : Nat → P Res) :
    ∀ (s : Store), WF H D s → rem.Pairwise (fun a b => a.name ≠ b.name) → RI R cn h uid latest rem s ex →
      (∀ ex' s', WF H D s' → RI R cn h uid latest [] s' ex' → SafeR H D R Post b (k ex') s') →
      SafeR H D R Post b (renumLoop h latest rem ex k) s := by
  fun_induction renumLoop h latest rem ex k with
  | case1 ex k => exact fun s w _ hri hk => hk ex s w hri
  | case2 r rs ex k hne ih => exact fun s w hpw hri hk => ih s w (List.pairwise_cons.mp hpw).2 (hri.skip hne) hk
  | case3 r rs ex k hh hnum ih =>  -- the hash matches and the revision already carries `latest`: it is the highest
    intro s w hpw hri hk
    have hh : r.hash = h := Decidable.of_not_not hh
    obtain ⟨a1, hrc, hru, hrex, huniq, x0, hx0, e0⟩ := hri.head hi w.toWF0 hpw hh
    have hx0c : x0.comp = cn := (er_comp e0).trans hrc
    have hpos : 1 ≤ r.num := by rw [← er_num e0]; exact w.pos x0 hx0
    refine ih s w (List.pairwise_cons.mp hpw).2 (.found huniq hpos ⟨x0, hx0, hx0c, (er_hash e0).trans hh, fun exa => ?_, ?_⟩) hk
    · rw [eq_of_name_eq w.names hx0 (hrex exa) (er_name e0)]; exact hru
    · intro x hx hxc hxn
      have h1 : x.num ≤ x0.num := by rw [er_num e0, hnum]; exact a1 x hx hxc
      have h2 : x.num ≠ x0.num := fun e => hxn (w.nums x hx x0 hx0 (hxc.trans hx0c.symm) e)
      exact Nat.lt_of_le_of_ne h1 h2
  | case4 r rs ex k hh _ ih =>  -- the hash matches: renumber to `latest + 1`
    intro s w hpw hri hk
    have hh : r.hash = h := Decidable.of_not_not hh
    obtain ⟨a1, hrc, hru, hrex, huniq, _⟩ := hri.head hi w.toWF0 hpw hh
    refine safeR_update hR b hb w (r := r) (r1 := { r with num := latest + 1 }) rfl hrex
      (fun e _ he => by cases e <;> first | exact hqe _ | exact hqr _ | cases he) (fun s' hrel rt w' hm => ?_)
    have a1' := rt.num_le a1
    have hlt : ∀ x ∈ s'.revs, x.comp = cn → x.num < latest + 1 := fun x hx hxc => Nat.lt_succ_of_le (a1' x hx hxc)
    obtain ⟨w1, le1⟩ := update_ok w' hm (r1 := { r with num := latest + 1, rv := r.rv + 1 })
      ⟨rfl, rfl, rfl, rfl, rfl, Nat.le_succ_of_le (a1' r hm hrc)⟩
      (fun x hx hc hn => absurd hn (Nat.ne_of_lt (hlt x hx (hc.trans hrc))))
    refine ⟨w1, le1, ih _ w1 (List.pairwise_cons.mp hpw).2
      (.found huniq (w'.pos r hm) ⟨_, mem_replaceRev_self hm rfl, hrc, hh, fun _ => hru, fun x hx hxc hxn => ?_⟩) hk⟩
    rcases mem_replaceRev hx with e' | hx'
    · exact absurd (e' ▸ rfl) hxn
    · exact hlt x hx' hxc

/-- what a successful reconcile establishes for the Composition it read, whatever the others did
meanwhile: the revision of that content exists, is faithful, and has the strictly highest number
among the revisions of that Composition; it is controlled by it as long as nobody else acts -/
def Good (R : Store → Store → Prop) (H : Naming) (c : Comp) (s : Store) : Prop :=
  ∃ r ∈ s.revs, r.comp = c.name ∧ r.hash = H.hash c.content ∧ r.spec = toRevisionSpec c.content.spec ∧
    r.labels = c.content.labels ∧ (Exact R → r.ctrl = some c.uid) ∧
    ∀ x ∈ s.revs, x.comp = c.name → x.name ≠ r.name → x.num < r.num

/-- `Post` of the reconcile of `c`: on the path without error reply it returns without error;
whenever it returns without error, and `c` is not being deleted, the current content's revision is the highest -/
@[reducible] def TailPost (R : Store → Store → Prop) (H : Naming) (c : Comp) : Bool → Res → Store → Prop :=
  fun b res s => (b = true → res = .done ∨ res = .created) ∧
    ((res = .done ∨ res = .created) → c.deleting = false → Good R H c s)

theorem tailPost_failed {c : Comp} {res : Res} (h : res = .err ∨ res = .requeue) (s : Store) : TailPost R H c false res s :=
  ⟨fun h' => (nomatch h'), fun h' => by rcases h with rfl | rfl <;> rcases h' with h' | h' <;> cases h'⟩

theorem RI.good (hi : H.Inj D) {c : Comp} (hD : D c.content) {latest ex : Nat} {s : Store} (w : WF0 H D s) (hex : 0 < ex)
    (hri : RI R c.name (H.hash c.content) c.uid latest [] s ex) : Good R H c s := by
  cases hri with
  | todo => exact absurd hex (Nat.lt_irrefl 0)
  | found _ _ g =>
    -- the matching revision is faithful to a content with the hash of `c`'s: that content
    obtain ⟨r, hr, hc, hh, hu, hmax⟩ := g
    obtain ⟨c', d', _, h2, h3, h4⟩ := w.faithful r hr
    have : c' = c.content := hi.hash _ _ d' hD (h2 ▸ hh)
    exact ⟨r, hr, hc, hh, this ▸ h3, this ▸ h4, hu, hmax⟩

/-- the loop is over, none matched, and the others have acted once more (`rt`): both facts only speak of what
third parties leave alone -/
theorem RI.nomatch {cn h : String} {uid latest ex : Nat} {s s' : Store} (hex : ¬ 0 < ex) (rt : RelyT D s s')
    (hri : RI R cn h uid latest [] s ex) :
    (∀ x ∈ s'.revs, x.comp = cn → x.num ≤ latest) ∧ ∀ x ∈ s'.revs, x.comp = cn → x.hash ≠ h := by
  cases hri with
  | found _ b' _ => exact absurd (Nat.lt_of_lt_of_le Nat.zero_lt_one b') hex
  | todo a1 a2 _ =>
    refine ⟨rt.num_le a1, fun x hx hc hh => ?_⟩
    obtain ⟨y, hy, ey⟩ := mem_of_map_er rt.1 hx
    obtain ⟨_, hz, _⟩ := a2 y hy ((er_comp ey).trans hc) ((er_hash ey).trans hh)
    cases hz

/-- `b = true` additionally needs: nobody else acts, and no revision of the Composition is controlled by
somebody else (otherwise every reconcile fails by design) -/
theorem recTail_safeR (hR : ∀ s s', WF H D s → R s s' → RelyT D s s') (hi : H.Inj D) (c : Comp) (hD : D c.content)
    (b : Bool) (hb : b = true → Exact R) (s : Store) (w : WF H D s)
    (hown : b = true → ∀ x ∈ s.revs, x.comp = c.name → x.ctrl = none ∨ x.ctrl = some c.uid) :
    SafeR H D R (TailPost R H c) b (recTail H c) s := by
  have hqe : ∀ s', TailPost R H c false .err s' := tailPost_failed (.inl rfl)
  have hqr : ∀ s', TailPost R H c false .requeue s' := tailPost_failed (.inr rfl)
  unfold recTail
  split
  · rename_i hdel
    exact ⟨fun _ => Or.inl rfl, fun _ hd => by rw [hdel] at hd; cases hd⟩
  · refine safeR_call.mpr fun s' hrel => ?_
    have rt := hR s s' w hrel
    have w' : WF H D s' := rt.wf w
    rw [exec_listRevs_nil]
    refine ⟨w', Le.refl _, ?_, fun e he => by cases e <;> first | exact hqe _ | cases he⟩
    apply adopt_safeR hR c.uid hqe b hb _ _ s' w' (fun _ => ⟨fun r hr => (List.mem_filter.mp hr).1, w'.names.sublist List.filter_sublist⟩)
    · intro hb' r hr
      obtain ⟨hr1, hr2⟩ := List.mem_filter.mp hr
      exact hown hb' r ((hb hb').eq hrel ▸ hr1) (of_decide_eq_true hr2)
    intro l' s2 w2 a
    obtain ⟨hl'pw, hri⟩ := a.ri (h := H.hash c.content) w'.names
    apply renum_safeR hR hi c.name (H.hash c.content) c.uid (latestNum c.uid l') hqe hqr b hb l' 0 _ s2 w2 hl'pw hri
    intro ex s3 w3 hri
    split
    · -- a matching revision exists
      rename_i hex
      exact ⟨fun _ => Or.inl rfl, fun _ _ => hri.good hi hD w3.toWF0 hex⟩
    · -- none matched: create revision latest+1
      rename_i hex
      refine safeR_call.mpr fun s4 hrel4 => ?_
      have rt4 := hR s3 s4 w3 hrel4
      have w4 : WF H D s4 := rt4.wf w3
      obtain ⟨hle, hnomatch⟩ := hri.nomatch hex rt4
      have hlt : ∀ x ∈ s4.revs, x.comp = c.name → x.num < latestNum c.uid l' + 1 :=
        fun x hx hxc => Nat.lt_succ_of_le (hle x hx hxc)
      -- the name is free: a revision of that name would be the (absent) matching one
      have hname' : ∀ x ∈ s4.revs, x.name ≠ (newRev H c (latestNum c.uid l' + 1)).name := by
        intro x hx e
        obtain ⟨cx, dx, n1, h1, _, _⟩ := w4.faithful x hx
        have e' : H.name x.comp cx = H.name c.name c.content := n1.symm.trans e
        obtain ⟨ec, ecx⟩ := hi.name _ _ _ _ dx hD e'
        exact hnomatch x hx ec (h1.trans (ecx ▸ rfl))
      rw [exec_createRev_absent hname']
      obtain ⟨w5, le5⟩ := create_ok w4 (r := newRev H c (latestNum c.uid l' + 1)) ⟨c.content, hD, rfl, rfl, rfl, rfl⟩
        (Nat.succ_le_succ (Nat.zero_le _)) hname' (fun x hx hc => Nat.ne_of_lt (hlt x hx hc))
      refine ⟨w5, le5, ⟨fun _ => Or.inr rfl, fun _ _ => ?_⟩, fun e he => by cases e <;> first | exact hqe _ | cases he⟩
      refine ⟨newRev H c (latestNum c.uid l' + 1), mem_insertRev.mpr (Or.inl rfl), rfl, rfl, rfl, rfl, fun _ => rfl, ?_⟩
      intro x hx hxc hxn
      rcases mem_insertRev.mp hx with e | hx'
      · exact absurd (e ▸ rfl) hxn
      · exact hlt x hx' hxc

end Rely

theorem exact_eq : Exact (Eq : Store → Store → Prop) := fun _ _ h => h.symm

/-- `TailPost` for the Composition the first `Get` finds in `s0` -/
@[reducible] def RecPost (H : Naming) (s0 : Store) (name : String) : Bool → Res → Store → Prop :=
  fun b res s' => ∀ c, s0.comps.find? (·.name = name) = some c → TailPost Eq H c b res s'

/-- The runs of the whole reconcile without interference, under every fault plan; `hown` as in `recTail_safeR`. The
logic is used for the error replies of the plain fault model only (`PlainErr`): answered `notFound` by injection, the
first `Get` would end the reconcile with `done`, and `RecPost` would be false. -/
theorem reconcile_sound (hi : H.Inj D) (name : String) {s : Store} (w : WF H D s) (b : Bool)
    (hown : b = true → ∀ c, s.comps.find? (·.name = name) = some c →
      ∀ x ∈ s.revs, x.comp = c.name → x.ctrl = none ∨ x.ctrl = some c.uid) (plan : Plan) :
    Chain (WF H D) Le s (reach sem plan 0 (reconcile H name) s) (run sem plan 0 (reconcile H name) s).1 ∧
    ∀ res, (run sem plan 0 (reconcile H name) s).2 = some res →
      ∃ b', RecPost H s name b' res (run sem plan 0 (reconcile H name) s).1 ∧ (plan = Plan.allOk → b' = b) := by
  refine wp_sound_plain (G := Keeps H D) Le.refl Le.trans (fun _ _ _ h => h) plan 0 w ?_
  have err : Wp sem Fresh PlainErr Eq (Keeps H D) (RecPost H s name) false (.ret .err : P Res) s :=
    fun _ _ => tailPost_failed (.inl rfl) _
  rw [reconcile_eq, wp_call_plain]
  refine ⟨⟨w, Le.refl s⟩, ?_, err, err⟩
  simp only [exec]
  cases hfind : s.comps.find? (fun c => decide (c.name = name)) with
  | none => exact fun c hc => by rw [hfind] at hc; cases hc
  | some c =>
    exact Wp.mono (fun _ => PlainErr.isErr) (fun _ _ _ h c' hc' => by rw [hfind] at hc'; cases hc'; exact h) _ _ _
      (recTail_safeR (fun _ _ w' e => e ▸ ⟨rfl, w'.comps⟩) hi c (w.comps c (List.mem_of_find?_eq_some hfind)) b
        (fun _ => exact_eq) s w (fun hb => hown hb c hfind))

/-- The rely is asked of well-formed stores only, so that no interference, and the environment actions of the
histories (`envStep_relyT`), are cases of it; `current_is_highest_under_interference` asks it of every store. -/
theorem reconcile_good_of_relyT (hi : H.Inj D) {s : Store} (w : WF H D s) {env : Env Store}
    (henv : ∀ k s, WF H D s → RelyT D s (env k s)) {plan : FPlan} (hplan : plan.errOnly) (hp0 : plan 0 = .out .ok)
    {comp : String} {c : Comp} (hc : (env 0 s).comps.find? (·.name = comp) = some c) (hd : c.deleting = false) {res : Res}
    (hres : (runX (fun _ => sem) env plan 0 (reconcile H comp) s).2 = some res) (hr : res = .done ∨ res = .created) :
    Good (RelyT D) H c (runX (fun _ => sem) env plan 0 (reconcile H comp) s).1 := by
  -- the `Get` (answered, `hp0`) is taken by hand; from the store it saw, `recTail_safeR` at `R := RelyT D`, `b := false`,
  -- read on the run by `wp_sound`
  have w1 : WF H D (env 0 s) := (henv 0 s w).wf w
  have e0 : sem.exec (env 0 s) (.getComp comp) = (env 0 s, .comp c) := by simp only [sem, exec, hc]
  rw [reconcile_eq, runX_ok _ _ _ hp0, e0] at hres ⊢
  obtain ⟨_, hb, _⟩ := (wp_sound Le.refl Le.trans (realises_fresh errResp_isErr hplan henv)
    (fun k s w => ⟨(henv k s w).wf w, (henv k s w).le⟩) (fun _ _ _ h => h) (recTail H c) false 1 (env 0 s) w1
    (recTail_safeR (fun _ _ _ h => h) hi c (w1.comps c (List.mem_of_find?_eq_some hc)) false (fun h => nomatch h)
      (env 0 s) w1 (fun h => nomatch h))).2.2 res hres
  exact hb.2 hr hd

theorem reachEv_ok (hi : H.Inj D) {s : Store} (w : WF H D s) (e : Ev) (he : EvOK D e) :
    Chain (WF H D) Le s (reachEv H s e) (stepEv H s e) := by
  have envEv : Chain (WF H D) Le s [s, envStep s e] (envStep s e) :=
    have rt := envStep_relyT w.comps e he
    .cons Le.refl Le.trans w rt.le (.cons Le.refl Le.trans (rt.wf w) (Le.refl _) (.nil Le.refl (rt.wf w)))
  cases e with
  | reconcile comp plan => exact (reconcile_sound hi comp w false (fun h => nomatch h) plan).1
  | fetch xr plan =>
    exact And.left <| wp_sound_plain Le.refl Le.trans
      (fun _ _ wt hq => ⟨(exec_reads_relyT wt.comps hq).wf wt, (exec_reads_relyT wt.comps hq).le⟩) plan 0 w
      (wp_of_issues (fetch_reads xr) false s)
  | putComp c => exact envEv
  | setCtrl names v => exact envEv
  | putXR x => exact envEv

theorem reachHist_ok (hi : H.Inj D) :
    ∀ (h : List Ev) (s : Store), WF H D s → (∀ e ∈ h, EvOK D e) →
      Chain (WF H D) Le s (reachHist H h s) (runHist H h s)
  | [], s, w, _ => .cons Le.refl Le.trans w (Le.refl s) (.nil Le.refl w)
  | e :: es, s, w, hev =>
    have a := reachEv_ok hi w e (hev e List.mem_cons_self)
    a.append Le.trans (reachHist_ok hi es (stepEv H s e) a.last fun x hx => hev x (List.mem_cons_of_mem _ hx))

end Xp.C12
