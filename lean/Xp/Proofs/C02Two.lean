import Xp.Model.C02Two
import Xp.Base.List
/-
C02, two XRs and one composed-resource name (`Xp.Model.C02Two`): the API server's merge keeps what
another manager applied (`mergeRefs_keeps`), so an apply onto an object that another XR controls
through another field manager is refused (`applySSA_refused`); `WF` (references are tagged with
their appliers' managers) and unique names are kept by every apply (`applySSA_wf`, `applySSA_names`).
-/
namespace Xp.C02Two

/-- every controller reference was applied by the manager of the XR it names -/
def WF (mgr : Nat → String) (s : St) : Prop := ∀ o ∈ s.objs, ∀ r ∈ o.refs, r.2 = mgr r.1

theorem mem_mergeRefs {refs : List (Nat × String)} {x : Nat} {m : String} {r : Nat × String}
    (h : r ∈ mergeRefs refs x m) : r ∈ refs ∨ r = (x, m) := by
  unfold mergeRefs at h
  split at h
  · exact Or.inl (List.mem_filter.mp h).1
  · rcases List.mem_append.mp h with h1 | h1
    · exact Or.inl (List.mem_filter.mp h1).1
    · simp at h1; exact Or.inr h1

theorem mergeRefs_keeps {refs : List (Nat × String)} {x : Nat} {m : String} {r : Nat × String}
    (h : r ∈ refs) (hm : r.2 ≠ m) : r ∈ mergeRefs refs x m := by
  have hk : r ∈ refs.filter (fun r => r.2 ≠ m ∨ r.1 = x) := List.mem_filter.mpr ⟨h, by simp [hm]⟩
  unfold mergeRefs
  split
  · exact hk
  · exact List.mem_append_left _ hk

theorem applySSA_wf (mgr : Nat → String) (objs : List Obj) (n : String) (x c : Nat)
    (h : ∀ o ∈ objs, ∀ r ∈ o.refs, r.2 = mgr r.1) :
    ∀ o ∈ (applySSA objs n x (mgr x) c).1, ∀ r ∈ o.refs, r.2 = mgr r.1 := by
  fun_cases applySSA objs n x (mgr x) c with
  | case1 =>                                     -- no such object: created with the one reference `(x, mgr x)`
    intro o ho r hr
    rcases List.mem_append.mp ho with h1 | h1
    · exact h o h1 r hr
    · rw [List.mem_singleton.mp h1] at hr
      rw [List.mem_singleton.mp hr]
  | case2 o0 hf =>                               -- merged
    intro o ho r hr
    obtain ⟨p, hp, rfl⟩ := List.mem_map.mp ho
    split at hr
    · rcases mem_mergeRefs hr with h1 | h1
      · exact h o0 (List.mem_of_find?_eq_some hf) r h1
      · subst h1; rfl
    · exact h p hp r hr
  | case3 => exact h                             -- refused

theorem applySSA_refused (mgr : Nat → String) (objs : List Obj) (n : String) (x y c : Nat) (o : Obj)
    (hwf : ∀ o ∈ objs, ∀ r ∈ o.refs, r.2 = mgr r.1)
    (hf : objs.find? (·.name = n) = some o) (hy : o.ctrl = some y) (hxy : y ≠ x) (hm : mgr y ≠ mgr x) :
    applySSA objs n x (mgr x) c = (objs, false) := by
  have h0 := List.mem_of_find?_eq_some hf
  -- the head reference names y and was applied by mgr y
  obtain ⟨r0, rest, hr0, hr0y⟩ : ∃ r0 rest, o.refs = r0 :: rest ∧ r0.1 = y := by
    unfold Obj.ctrl at hy
    cases hrf : o.refs with
    | nil => rw [hrf] at hy; cases hy
    | cons r0 rest => rw [hrf] at hy; exact ⟨r0, rest, rfl, Option.some.inj hy⟩
  have hr0m : r0.2 = mgr y := by
    have := hwf o h0 r0 (by rw [hr0]; exact List.mem_cons_self ..)
    rw [hr0y] at this; exact this
  have hkeep : r0 ∈ mergeRefs o.refs x (mgr x) :=
    mergeRefs_keeps (by rw [hr0]; exact List.mem_cons_self ..) (by rw [hr0m]; exact hm)
  have hnot : ((mergeRefs o.refs x (mgr x)).all fun r => decide (r.1 = x)) = false := by
    apply Bool.eq_false_iff.mpr
    intro hall
    exact hxy (hr0y.symm.trans (of_decide_eq_true (List.all_eq_true.mp hall r0 hkeep)))
  unfold applySSA
  rw [hf]
  simp only [hnot, Bool.false_eq_true, if_false]

theorem applySSA_other_name (objs : List Obj) (n : String) (x : Nat) (m : String) (c : Nat) (o : Obj)
    (ho : o ∈ objs) (hn : o.name ≠ n) : o ∈ (applySSA objs n x m c).1 := by
  fun_cases applySSA objs n x m c with
  | case1 => exact List.mem_append_left _ ho
  | case2 => exact List.mem_map.mpr ⟨o, ho, by simp [hn]⟩
  | case3 => exact ho

theorem find_of_mem_name (objs : List Obj) (hnd : (objs.map (·.name)).Nodup) (o : Obj) (ho : o ∈ objs) :
    objs.find? (·.name = o.name) = some o :=
  find?_of_nodup_map hnd ho fun _ => decide_eq_true_iff

theorem applySSA_names (objs : List Obj) (n : String) (x : Nat) (m : String) (c : Nat)
    (hnd : (objs.map (·.name)).Nodup) : ((applySSA objs n x m c).1.map (·.name)).Nodup := by
  fun_cases applySSA objs n x m c with
  | case1 hf =>                                  -- created: the name was not in use
    rw [List.map_append, List.nodup_append]
    refine ⟨hnd, by simp, ?_⟩
    intro a ha b hb
    simp at hb; subst hb
    obtain ⟨o, ho, rfl⟩ := List.mem_map.mp ha
    intro he
    have := List.find?_eq_none.mp hf o ho
    simp [he] at this
  | case2 =>                                     -- merged: the object applied keeps its name
    rw [List.map_map, List.map_congr_left (g := (·.name)) fun p _ => ?_]
    · exact hnd
    · show (if p.name = n then (⟨n, _, c⟩ : Obj) else p).name = p.name
      split
      · exact (‹p.name = n›).symm
      · rfl
  | case3 => exact hnd

end Xp.C02Two
