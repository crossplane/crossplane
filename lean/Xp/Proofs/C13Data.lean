import Xp.Model.C13
import Xp.Base.List
/-
C13: the basic facts about the model's data, needed by the engine model's proofs and the cache model's
alike: association lists, what the loops of StartWatches / StopWatches pick, replacing one entry of a
thread list (`forall_set`, `mutex_set`), lock modes and holdings, `free`.
-/
namespace Xp.C13

-- `aset k v m` is `(k, v) :: adel k m` (the binding goes first, every other binding of `k` is filtered out): no
-- `Keyed` of Base/List (replace in place or append), but `aget` is a `Lookup` and `adel` a filter on the keys
section alist
variable {α β : Type} [DecidableEq α]

theorem lookupA : Lookup (@aget α β _) := ⟨fun _ => rfl, fun _ _ _ _ => rfl⟩

@[simp] theorem aget_nil (k : α) : aget k ([] : List (α × β)) = none := rfl

theorem aget_cons (k k' : α) (v : β) (m : List (α × β)) :
    aget k ((k', v) :: m) = if k' = k then some v else aget k m := rfl

theorem aget_adel_self (k : α) (m : List (α × β)) : aget k (adel k m) = none :=
  (lookupA.get_filter_key (fun x => decide (x ≠ k)) k m).trans (if_neg (by simp))

theorem aget_adel_ne {k k' : α} (h : k' ≠ k) (m : List (α × β)) : aget k (adel k' m) = aget k m :=
  (lookupA.get_filter_key (fun x => decide (x ≠ k')) k m).trans (if_pos (by simpa using h.symm))

theorem aget_aset_self (k : α) (v : β) (m : List (α × β)) : aget k (aset k v m) = some v := by
  simp [aset, aget_cons]

theorem aget_aset_ne {k k' : α} (h : k' ≠ k) (v : β) (m : List (α × β)) : aget k (aset k' v m) = aget k m := by
  simp [aset, aget_cons, h, aget_adel_ne h]

theorem aget_some_mem {k : α} {v : β} {m : List (α × β)} (h : aget k m = some v) : (k, v) ∈ m :=
  lookupA.mem_of_get h

theorem adel_eq_nil_of_nil (k : α) : adel k ([] : List (α × β)) = [] := rfl

end alist

theorem swNext_some {srcs : List (Wid × Nat)} {a : List Nat} {st : List Wid} {ws : List Wid} {w : Wid} {rest : List Wid}
    (h : swNext srcs a st ws = some (w, rest)) : ¬((aget w srcs).isSome = true ∧ (w.gvk ∈ a ∨ w ∈ st)) := by
  fun_induction swNext srcs a st ws with
  | case1 => cases h                      -- no watch left
  | case2 x xs hx ih => exact ih h        -- `x` is skipped: it has a source, and its kind is in `a` or it is in `st`
  | case3 x xs hx =>                      -- `x` is picked
    cases h
    simpa [List.contains_iff_mem] using hx

theorem swNext_none {srcs : List (Wid × Nat)} {a : List Nat} {st : List Wid} {ws : List Wid}
    (h : swNext srcs a st ws = none) : ∀ w ∈ ws, (aget w srcs).isSome = true ∧ (w.gvk ∈ a ∨ w ∈ st) := by
  fun_induction swNext srcs a st ws with
  | case1 => nofun                        -- no watch left
  | case2 x xs hx ih =>                   -- `x` is skipped: it has a source, and its kind is in `a` or it is in `st`
    intro w hw
    rcases List.mem_cons.1 hw with rfl | hw'
    · simpa [List.contains_iff_mem] using hx
    · exact ih h w hw'
  | case3 => cases h                      -- `x` is picked

theorem xwNext_some {srcs : List (Wid × Nat)} {ws : List Wid} {w : Wid} {reg : Nat} {rest : List Wid}
    (h : xwNext srcs ws = some (w, reg, rest)) : aget w srcs = some reg ∧ w ∈ ws ∧ ∀ x ∈ rest, x ∈ ws := by
  fun_induction xwNext srcs ws with
  | case1 => cases h                      -- no watch left
  | case2 x xs r hx =>                    -- `x` has a source: picked
    cases h
    exact ⟨hx, List.mem_cons_self, fun y hy => List.mem_cons_of_mem _ hy⟩
  | case3 x xs hx ih =>                   -- `x` has none: skipped
    obtain ⟨h0, h1, h2⟩ := ih h
    exact ⟨h0, List.mem_cons_of_mem _ h1, fun y hy => List.mem_cons_of_mem _ (h2 y hy)⟩

theorem getElem?_set_of_some {α : Type} {l : List α} {i : Nat} {t : α} (ht : l[i]? = some t) (x : α) (j : Nat) :
    (l.set i x)[j]? = if j = i then some x else l[j]? := by
  simp only [List.getElem?_set, (List.getElem?_eq_some_iff.1 ht).1, if_true, @eq_comm _ i j]

theorem forall_set {α : Type} {P : Nat → α → Prop} {l : List α} {i : Nat} {x : α}
    (hself : P i x) (hother : ∀ (j : Nat) (u : α), j ≠ i → l[j]? = some u → P j u) :
    ∀ (j : Nat) (u : α), (l.set i x)[j]? = some u → P j u := by
  intro j u hj
  rcases getElem?_set_eq_some hj with ⟨rfl, rfl⟩ | ⟨e, hu⟩
  · exact hself
  · exact hother j u e hu

/-- Why a step keeps mutual exclusion: what entry `i` holds afterwards was free, or is no more than it held
before. `held`, `compat`, `le` are the engine's (`Held`) or the cache's (`Mode`). -/
theorem mutex_set {T H : Type} {held : T → H} {compat : H → H → Bool} {le : H → H → Prop}
    (comm : ∀ a b, compat a b = compat b a)
    (mono : ∀ {a b x}, le a b → compat b x = true → compat a x = true)
    {l : List T} {i : Nat} {t x : T} (ht : l[i]? = some t)
    (hm : ∀ (a b : Nat) (ta tb : T), a ≠ b → l[a]? = some ta → l[b]? = some tb → compat (held ta) (held tb) = true)
    (hx : (∀ (j : Nat) (u : T), l[j]? = some u → j ≠ i → compat (held x) (held u) = true) ∨ le (held x) (held t)) :
    ∀ (a b : Nat) (ta tb : T), a ≠ b → (l.set i x)[a]? = some ta → (l.set i x)[b]? = some tb →
      compat (held ta) (held tb) = true := by
  have hnew : ∀ (j : Nat) (u : T), j ≠ i → l[j]? = some u → compat (held x) (held u) = true := by
    intro j u hj hu
    rcases hx with hf | hle
    · exact hf j u hu hj
    · exact mono hle (hm i j t u (fun e => hj e.symm) ht hu)
  intro a b ta tb hab ha hb
  rcases getElem?_set_eq_some ha with ⟨ea, rfl⟩ | ⟨ea, ha'⟩ <;>
    rcases getElem?_set_eq_some hb with ⟨eb, rfl⟩ | ⟨eb, hb'⟩
  · exact absurd (ea.trans eb.symm) hab
  · exact hnew b tb eb hb'
  · exact (comm _ _).trans (hnew a ta ea ha')
  · exact hm a b ta tb hab ha' hb'

theorem Mode.compat_comm (a b : Mode) : a.compat b = b.compat a := by
  cases a <;> cases b <;> rfl

theorem Held.compat_comm (a b : Held) : a.compat b = b.compat a := by
  obtain ⟨ae, ac⟩ := a
  obtain ⟨be, bc⟩ := b
  simp only [Held.compat, Mode.compat_comm ae be]
  congr 1
  cases ac with
  | none => cases bc <;> rfl
  | some p =>
    cases bc with
    | none => rfl
    | some q =>
      obtain ⟨c1, m1⟩ := p
      obtain ⟨c2, m2⟩ := q
      simp only [Mode.compat_comm m1 m2]
      rw [bne_comm]

def Mode.le : Mode → Mode → Bool
  | .n, _ => true
  | .r, .r => true
  | .r, .w => true
  | .w, .w => true
  | _, _ => false

/-- `a` holds no more than `b`: a step that does not acquire keeps a controller's lock as it is
or drops it -/
def Held.le (a b : Held) : Prop := a.e.le b.e = true ∧ (a.c = none ∨ a.c = b.c)

theorem Mode.compat_of_le {a b x : Mode} (h : a.le b = true) (hc : b.compat x = true) : a.compat x = true := by
  cases a <;> cases b <;> cases x <;> first | rfl | (cases hc; done) | (cases h; done)

theorem Held.compat_of_le {a b x : Held} (h : a.le b) (hc : b.compat x = true) : a.compat x = true := by
  obtain ⟨he, hcl⟩ := h
  simp only [Held.compat, Bool.and_eq_true] at hc ⊢
  refine ⟨Mode.compat_of_le he hc.1, ?_⟩
  rcases hcl with h0 | h1
  · rw [h0]
  · rw [h1]; exact hc.2

theorem Mode.compat_n (a : Mode) : a.compat .n = true := by cases a <;> rfl

theorem Held.compat_nothing (a : Held) : a.compat ⟨.n, none⟩ = true := by
  obtain ⟨e, c⟩ := a
  cases e <;> cases c <;> rfl

theorem freeAux_iff (want : Held) (i : Nat) (us : List Thread) (j0 : Nat) :
    freeAux want i j0 us = true ↔
      ∀ k u, us[k]? = some u → j0 + k ≠ i → want.compat u.pc.held = true := by
  induction us generalizing j0 with
  | nil => simp [freeAux]
  | cons u us ih =>
    simp only [freeAux, Bool.and_eq_true, Bool.or_eq_true, beq_iff_eq, ih]
    constructor
    · rintro ⟨h0, hr⟩ k u' hk hne
      cases k with
      | zero =>
        simp at hk; subst hk
        cases h0 with
        | inl e => exact absurd (by simpa using e) hne
        | inr c => exact c
      | succ k =>
        simp at hk
        exact hr k u' hk (by omega)
    · intro h
      refine ⟨?_, ?_⟩
      · by_cases e : j0 = i
        · exact Or.inl e
        · exact Or.inr (h 0 u (by simp) (by simpa using e))
      · intro k u' hk hne
        exact h (k + 1) u' (by simpa using hk) (by omega)

theorem free_iff (s : Sys) (i : Nat) (want : Held) :
    free s i want = true ↔ ∀ j u, s.threads[j]? = some u → j ≠ i → want.compat u.pc.held = true := by
  simp [free, freeAux_iff]

theorem acquire_some {s : Sys} {i : Nat} {pc pc' : Pc} {a act : Act} (h : acquire s i pc a = some (pc', act)) :
    pc' = pc ∧ act = a ∧ free s i pc.held = true := by
  unfold acquire at h
  split at h
  · rename_i hf; cases h; exact ⟨rfl, rfl, hf⟩
  · cases h

end Xp.C13
