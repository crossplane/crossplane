import Xp.Proofs.C01Prog
/-
C01, the name generator's availability loop (`probeName`) and the two render loops that call it, walked once
for any walker: they only read. `Cands` is what the composers' safety assumes of the candidates. Fault-free
the availability loop is a function of the store (`probePure`), which hands over a candidate the cache does
not show (`probePure_spec`); it is at most `tries` calls deep (`within_probeName`).
-/
namespace Xp.C01

namespace Walker
variable {W : P → St → Prop} {Ok : St → Req → Prop} (hW : Walker W Ok)
include hW

/-- The availability loop only reads. `C` is what the caller knows of the candidates not drawn yet. -/
theorem probeName {s : St} (kind : String) (k : Probed → List String → P)
    (C : List String → Prop) (htail : ∀ x xs, C (x :: xs) → C xs)
    (hname : ∀ n rest, C (n :: rest) → exec s (.getCached kind n) = (s, .notFound) → W (k (.name n) rest) s)
    (hgave : ∀ rest, C rest → W (k .gaveUp rest) s)
    (hfail : ∀ rest, C rest → W (k .failed rest) s) :
    ∀ (tries : Nat) (fresh : List String), C fresh → W (probeName kind tries fresh k) s := by
  intro tries
  induction tries with
  | zero => intro fresh hc; simp only [C01.probeName]; exact hgave fresh hc
  | succ t ih =>
    intro fresh hc
    cases fresh with
    | nil => simp only [C01.probeName]; exact hgave [] hc
    | cons nm rest =>
      have hc' := htail _ _ hc
      simp only [C01.probeName]
      refine hW.call (hW.quiet (.inl rfl)) ?_ (hfail rest hc') (hfail rest hc')
      rcases exec_getCached_resp s kind nm with e | ⟨o, _, e⟩
      · rw [e]; exact hname nm rest hc e
      · rw [e]; exact ih rest hc'

/-! The two render loops map over their input in order and write nothing. `E` is what follows for an entry
from how its name was decided; the continuation sees the entries in the order of the input. -/

theorem renderFnT {s : St} (tries lrv : Nat) (obs : Obs) (ds0 : List Desired) (fresh0 : List String) (k : List Named → P)
    (C : List String → Prop) (htail : ∀ x xs, C (x :: xs) → C xs) (hc0 : C fresh0) (E : Named → Prop)
    (hinh : ∀ d ∈ ds0, ∀ o, obsLookup obs d.rname = some o → E ⟨d, o.name, false⟩)
    (hgen : ∀ d n rest, obsLookup obs d.rname = none → C (n :: rest) → exec s (.getCached d.kind n) = (s, .notFound) →
      E ⟨d, n, true⟩)
    (hk : ∀ named, (∀ n ∈ named, E n) → named.map (·.d) = ds0 → W (k named) s) :
    W (renderFnT tries lrv obs ds0 fresh0 [] k) s := by
  -- `acc` holds the entries of the resources done, newest first
  suffices h : ∀ (ds : List Desired) (fresh : List String) (acc : List Named), C fresh →
      (∀ n ∈ acc, E n) → acc.reverse.map (·.d) ++ ds = ds0 →
      W (C01.renderFnT tries lrv obs ds fresh acc k) s from h ds0 fresh0 [] hc0 nofun rfl
  intro ds
  induction ds with
  | nil =>
    intro fresh acc _ he hds
    simp only [C01.renderFnT]
    exact hk _ (fun n hn => he n (List.mem_reverse.mp hn)) (by simpa using hds)
  | cons d ds ih =>
    intro fresh acc hc he hds
    have step : ∀ (nm : Named), nm.d = d → E nm → ∀ fresh', C fresh' →
        W (C01.renderFnT tries lrv obs ds fresh' (nm :: acc) k) s := by
      intro nm hnd hent fresh' hc'
      exact ih fresh' (nm :: acc) hc' (List.forall_mem_cons.mpr ⟨hent, he⟩) (by simpa [hnd] using hds)
    simp only [C01.renderFnT]
    cases hl : obsLookup obs d.rname with
    | some o =>
      simp only []
      exact step ⟨d, o.name, false⟩ rfl (hinh d (hds ▸ List.mem_append_right _ (List.mem_cons_self ..)) o hl) fresh hc
    | none =>
      simp only []
      refine hW.probeName d.kind _ C htail ?_ ?_ ?_ tries fresh hc
      · intro n rest hc' e
        exact step ⟨d, n, true⟩ rfl (hgen d n rest hl hc' e) rest (htail _ _ hc')
      · intro rest _; exact hW.onErrorO _ _
      · intro rest _; exact hW.onErrorO _ _

theorem renderPTT {s : St} (tries lrv : Nat) (a : Assoc) (tmpl : List Desired) (fresh0 : List String) (k : List Rendered → P)
    (C : List String → Prop) (htail : ∀ x xs, C (x :: xs) → C xs) (hc0 : C fresh0) (E : Rendered → Prop)
    (hinh : ∀ d r, assocLookup a d.rname = some r → r.kind = d.kind → E ⟨d, r.name, true⟩)
    (hgen : ∀ d n rest, assocLookup a d.rname = none → C (n :: rest) → exec s (.getCached d.kind n) = (s, .notFound) →
      E ⟨d, n, true⟩)
    (hun : ∀ d, assocLookup a d.rname = none → E ⟨d, "", false⟩)
    (hk : ∀ rs, (∀ e ∈ rs, E e) → rs.map (·.d) = tmpl → W (k rs) s) :
    W (renderPTT tries lrv a tmpl fresh0 [] k) s := by
  suffices h : ∀ (ds : List Desired) (fresh : List String) (acc : List Rendered), C fresh →
      (∀ e ∈ acc, E e) → acc.reverse.map (·.d) ++ ds = tmpl →
      W (C01.renderPTT tries lrv a ds fresh acc k) s from h tmpl fresh0 [] hc0 nofun rfl
  intro ds
  induction ds with
  | nil =>
    intro fresh acc _ he hds
    simp only [C01.renderPTT]
    exact hk _ (fun e he' => he e (List.mem_reverse.mp he')) (by simpa using hds)
  | cons d ds ih =>
    intro fresh acc hc he hds
    have step : ∀ (nm : Rendered), nm.d = d → E nm → ∀ fresh', C fresh' →
        W (C01.renderPTT tries lrv a ds fresh' (nm :: acc) k) s := by
      intro nm hnd hent fresh' hc'
      exact ih fresh' (nm :: acc) hc' (List.forall_mem_cons.mpr ⟨hent, he⟩) (by simpa [hnd] using hds)
    simp only [C01.renderPTT]
    cases hl : assocLookup a d.rname with
    | some r =>
      simp only []
      by_cases hkd : r.kind = d.kind
      · simp only [hkd, if_true]
        exact step ⟨d, r.name, true⟩ rfl (hinh d r hl hkd) fresh hc
      · simp only [hkd, if_false]; exact hW.onErrorO _ _
    | none =>
      simp only []
      refine hW.probeName d.kind _ C htail ?_ ?_ ?_ tries fresh hc
      · intro n rest hc' e
        exact step ⟨d, n, true⟩ rfl (hgen d n rest hl hc' e) rest (htail _ _ hc')
      -- without a name the template stays unrendered
      · intro rest hc'; exact step ⟨d, "", false⟩ rfl (hun d hl) rest hc'
      · intro rest hc'; exact step ⟨d, "", false⟩ rfl (hun d hl) rest hc'

end Walker

/-- what the render loops assume of the candidates the generator has not drawn yet -/
structure Cands (miss : List Ref) (fresh : List String) : Prop where
  ne : ∀ x ∈ fresh, x ≠ ""
  avoids : FreshAvoids miss fresh

theorem Cands.tail {miss : List Ref} {x : String} {xs : List String} (h : Cands miss (x :: xs)) : Cands miss xs :=
  ⟨fun y hy => h.ne y (List.mem_cons_of_mem _ hy), h.avoids.tail⟩

theorem Cands.free {s : St} {k n : String} {rest : List String} (hc : Cands s.miss (n :: rest))
    (h : exec s (.getCached k n) = (s, .notFound)) : findObj s.objs k n = none ∧ n ≠ "" := by
  refine ⟨?_, hc.ne n (List.mem_cons_self ..)⟩
  cases hf : findObj s.objs k n with
  | none => rfl
  | some o => rw [exec_getCached_some hf (hc.avoids.head k)] at h; cases h

theorem within_probeName (kind : String) (a : Probed → List String → Result) :
    ∀ (tries : Nat) (fresh : List String), Within tries (probeName kind tries fresh fun p r => .ret (a p r)) := by
  intro tries
  induction tries with
  | zero => exact fun _ => .ret _ _
  | succ t ih =>
    intro fresh
    cases fresh with
    | nil => exact .ret _ _
    | cons n rest =>
      refine .call _ _ _ fun x => ?_
      cases x with
      | found _ => exact ih rest
      | _ => exact .ret _ _

/-- the fault-free loop as a function of the store: outcome and candidates left -/
def probePure (s : St) (kind : String) : Nat → List String → Probed × List String
  | 0, fresh => (.gaveUp, fresh)
  | _ + 1, [] => (.gaveUp, [])
  | t + 1, n :: rest =>
    if (⟨kind, n⟩ : Ref) ∈ s.miss then (.name n, rest)
    else match findObj s.objs kind n with
      | none => (.name n, rest)
      | some _ => probePure s kind t rest

theorem runOk_probeName (s : St) (kind : String) (k : Probed → List String → P) :
    ∀ (tries : Nat) (fresh : List String),
      runOk (probeName kind tries fresh k) s = runOk (k (probePure s kind tries fresh).1 (probePure s kind tries fresh).2) s := by
  intro tries
  induction tries with
  | zero => intro fresh; simp [probeName, probePure]
  | succ t ih =>
    intro fresh
    cases fresh with
    | nil => simp [probeName, probePure]
    | cons n rest =>
      simp only [probeName, probePure]
      rw [runOk_call]
      by_cases hm : (⟨kind, n⟩ : Ref) ∈ s.miss
      · simp only [exec_getCached_miss hm, hm, if_true]
      · simp only [hm, if_false]
        cases hfo : findObj s.objs kind n with
        | none => simp only [exec_getCached_none hfo]
        | some o => simp only [exec_getCached_some hfo hm]; exact ih rest

/-- what the outcome of the fault-free loop says of the candidates `skipped` before it -/
def ProbeSpec (s : St) (kind : String) (tries : Nat) (fresh skipped : List String) : Probed × List String → Prop
  | (.name n, rest) => fresh = skipped ++ n :: rest ∧ skipped.length < tries ∧
      ((⟨kind, n⟩ : Ref) ∈ s.miss ∨ findObj s.objs kind n = none)
  | (.gaveUp, rest) => fresh = skipped ++ rest ∧ (skipped.length = tries ∨ rest = [])
  | (.failed, _) => False

theorem probePure_spec {s : St} {kind : String} : ∀ (tries : Nat) (fresh : List String),
    ∃ skipped, (∀ x ∈ skipped, (⟨kind, x⟩ : Ref) ∉ s.miss ∧ (findObj s.objs kind x).isSome) ∧
      ProbeSpec s kind tries fresh skipped (probePure s kind tries fresh) := by
  intro tries
  induction tries with
  | zero => intro fresh; exact ⟨[], nofun, rfl, Or.inl rfl⟩
  | succ t ih =>
    intro fresh
    cases fresh with
    | nil => exact ⟨[], nofun, rfl, Or.inr rfl⟩
    | cons c cs =>
      simp only [probePure]
      by_cases hm : (⟨kind, c⟩ : Ref) ∈ s.miss
      · rw [if_pos hm]; exact ⟨[], nofun, rfl, Nat.succ_pos _, Or.inl hm⟩
      · rw [if_neg hm]
        cases hfo : findObj s.objs kind c with
        | none => exact ⟨[], nofun, rfl, Nat.succ_pos _, Or.inr hfo⟩
        | some o =>
          obtain ⟨sk, hall, hsp⟩ := ih cs
          refine ⟨c :: sk, ?_, ?_⟩
          · intro x hx
            rcases List.mem_cons.mp hx with rfl | hx
            · exact ⟨hm, by simp [hfo]⟩
            · exact hall x hx
          · simp only []
            cases hp : probePure s kind t cs with
            | mk p rest =>
              rw [hp] at hsp
              cases p with
              | name n => exact ⟨by rw [hsp.1]; rfl, Nat.succ_lt_succ hsp.2.1, hsp.2.2⟩
              | gaveUp => exact ⟨by rw [hsp.1]; rfl, hsp.2.imp (congrArg (· + 1)) id⟩
              | failed => exact hsp

theorem probePure_name {s : St} {kind : String} (tries : Nat) (fresh : List String) (n : String) (rest : List String)
    (h : probePure s kind tries fresh = (.name n, rest)) :
    ∃ skipped, fresh = skipped ++ n :: rest ∧ skipped.length < tries ∧
      (∀ x ∈ skipped, (⟨kind, x⟩ : Ref) ∉ s.miss ∧ (findObj s.objs kind x).isSome) ∧
      ((⟨kind, n⟩ : Ref) ∈ s.miss ∨ findObj s.objs kind n = none) := by
  obtain ⟨sk, hall, hsp⟩ := probePure_spec (s := s) (kind := kind) tries fresh
  rw [h] at hsp
  exact ⟨sk, hsp.1, hsp.2.1, hall, hsp.2.2⟩

end Xp.C01
