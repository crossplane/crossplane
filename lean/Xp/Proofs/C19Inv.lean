import Xp.Proofs.C19Store
/-
C19 — the store invariant (`StoreInv`) and the conditions under which a Usage may be stored
(`UsageOk`); preservation by the store mutators and by every effect of the environment (`EnvEff`).
-/
namespace Xp.C19

/-- holds of every store the plain world reaches, whatever reconciles run and whatever fails (`SysInv.run` of C19Sys).
`born` is the model's ghost record of creations; `owned` over it is what `owned_by_using` of Props/C19 states. -/
structure StoreInv (s : Store) : Prop where
  usageUniq : ∀ x ∈ s.usages, ∀ y ∈ s.usages, x.name = y.name → x = y
  resUniq : ∀ x ∈ s.res, ∀ y ∈ s.res, x.group = y.group → x.kind = y.kind → x.name = y.name → x = y
  rvU : ∀ u ∈ s.usages, u.rv < s.nextRv
  delFin : ∀ u ∈ s.usages, u.deleting = true → u.fin = true
  readyOf : ∀ u ∈ s.usages, u.ready = true → u.of.name ≠ ""
  readyBy : ∀ u ∈ s.usages, u.ready = true → ∀ b, u.by_ = some b → b.name ≠ ""
  resName : ∀ r ∈ s.res, r.name ≠ ""
  born : ∀ r ∈ s.res, (r.uid, r.group, r.kind, r.name) ∈ s.born
  owned : ∀ u ∈ s.usages, u.ready = true → ∀ b, u.by_ = some b →
    ∃ o ∈ u.owners, (o.uid, groupOf b.av, b.kind, b.name) ∈ s.born

theorem StoreInv.empty : StoreInv Store.empty := by
  constructor <;> simp [Store.empty]

/-- conditions under which a usage value may be (re)stored -/
structure UsageOk (s : Store) (n : Usage) : Prop where
  delFin : n.deleting = true → n.fin = true
  readyOf : n.ready = true → n.of.name ≠ ""
  readyBy : n.ready = true → ∀ b, n.by_ = some b → b.name ≠ ""
  owned : n.ready = true → ∀ b, n.by_ = some b → ∃ o ∈ n.owners, (o.uid, groupOf b.av, b.kind, b.name) ∈ s.born

theorem StoreInv.usageOk {s : Store} (h : StoreInv s) {u : Usage} (hu : u ∈ s.usages) : UsageOk s u :=
  ⟨h.delFin u hu, h.readyOf u hu, h.readyBy u hu, h.owned u hu⟩

theorem UsageOk.mono {s s' : Store} {u : Usage} (h : UsageOk s u) (hb : ∀ e ∈ s.born, e ∈ s'.born) : UsageOk s' u :=
  ⟨h.delFin, h.readyOf, h.readyBy, fun hr b hbb => by
    obtain ⟨o, ho, hm⟩ := h.owned hr b hbb
    exact ⟨o, ho, hb _ hm⟩⟩

theorem UsageOk.withRv {s : Store} {n : Usage} (h : UsageOk s n) (rv : Nat) : UsageOk s { n with rv := rv } :=
  ⟨h.delFin, h.readyOf, h.readyBy, h.owned⟩

theorem StoreInv.getU_of_mem {s : Store} (h : StoreInv s) {y : Usage} (hy : y ∈ s.usages) : s.getU y.name = some y := by
  cases hx : s.getU y.name with
  | none => exact absurd rfl (getU_none hx y hy)
  | some x => rw [h.usageUniq x (getU_some hx).1 y hy (getU_some hx).2]

theorem StoreInv.res_inj {s : Store} (h : StoreInv s) {x y : Res} (hx : x ∈ s.res) (hy : y ∈ s.res) (e : x.key = y.key) :
    x = y :=
  let ⟨h1, h2, h3⟩ := Res.key_eq.mp e
  h.resUniq x hx y hy h1 h2 h3

theorem StoreInv.born_of_get {s : Store} (h : StoreInv s) {g k n : String} {r : Res} (hg : s.getR g k n = some r) :
    (r.uid, g, k, n) ∈ s.born := by
  obtain ⟨hr, hk⟩ := getR_some hg
  cases hk
  exact h.born r hr

theorem StoreInv.sub {s s' : Store} (h : StoreInv s) (hu : ∀ u ∈ s'.usages, u ∈ s.usages)
    (hr : ∀ r ∈ s'.res, r ∈ s.res) (hrv : s.nextRv ≤ s'.nextRv) (hb : ∀ e ∈ s.born, e ∈ s'.born) : StoreInv s' :=
  ⟨fun x hx y hy => h.usageUniq x (hu x hx) y (hu y hy),
   fun x hx y hy => h.resUniq x (hr x hx) y (hr y hy),
   fun u hu' => Nat.lt_of_lt_of_le (h.rvU u (hu u hu')) hrv,
   fun u hu' => h.delFin u (hu u hu'),
   fun u hu' => h.readyOf u (hu u hu'),
   fun u hu' => h.readyBy u (hu u hu'),
   fun r hr' => h.resName r (hr r hr'),
   fun r hr' => hb _ (h.born r (hr r hr')),
   fun u hu' hrd b hbb => let ⟨o, ho, hm⟩ := h.owned u (hu u hu') hrd b hbb; ⟨o, ho, hb _ hm⟩⟩

theorem StoreInv.bump {s : Store} (h : StoreInv s) : StoreInv s.bump :=
  h.sub (fun _ hu => hu) (fun _ hr => hr) (Nat.le_succ _) (fun _ hb => hb)

theorem StoreInv.dropU {s : Store} (h : StoreInv s) (nm : String) : StoreInv (s.dropU nm) :=
  h.sub (fun _ hu => (mem_dropU.mp hu).1) (fun _ hr => hr) (Nat.le_refl _) (fun _ hb => hb)

theorem StoreInv.dropR {s : Store} (h : StoreInv s) (g k n : String) : StoreInv (s.dropR g k n) :=
  h.sub (fun _ hu => hu) (fun _ hr => (mem_dropR.mp hr).1) (Nat.le_refl _) (fun _ hb => hb)

theorem StoreInv.with_usage {s s' : Store} (h : StoreInv s) {n : Usage} (hres : s'.res = s.res)
    (hborn : s'.born = s.born) (hclock : s.nextRv ≤ s'.nextRv) (hrv : n.rv < s'.nextRv) (hok : UsageOk s n)
    (mem : ∀ y ∈ s'.usages, (y ∈ s.usages ∧ y.name ≠ n.name) ∨ y = n) : StoreInv s' := by
  refine ⟨fun x hx y hy hxy => ?_, hres ▸ h.resUniq, fun u hu => ?_, fun u hu => ?_, fun u hu => ?_, fun u hu => ?_,
    hres ▸ h.resName, hres ▸ hborn ▸ h.born, fun u hu => ?_⟩
  · rcases mem x hx with ⟨hx, hxn⟩ | ex <;> rcases mem y hy with ⟨hy, hyn⟩ | ey
    · exact h.usageUniq x hx y hy hxy
    · exact absurd (ey ▸ hxy) hxn
    · exact absurd (ex ▸ hxy.symm) hyn
    · exact ex.trans ey.symm
  · rcases mem u hu with ⟨hu, _⟩ | e
    · exact Nat.lt_of_lt_of_le (h.rvU u hu) hclock
    · exact e ▸ hrv
  · exact (mem u hu).elim (fun hu => h.delFin u hu.1) (fun e => e ▸ hok.delFin)
  · exact (mem u hu).elim (fun hu => h.readyOf u hu.1) (fun e => e ▸ hok.readyOf)
  · exact (mem u hu).elim (fun hu => h.readyBy u hu.1) (fun e => e ▸ hok.readyBy)
  · exact hborn ▸ (mem u hu).elim (fun hu => h.owned u hu.1) (fun e => e ▸ hok.owned)

theorem StoreInv.putU_bump {s : Store} (h : StoreInv s) {n : Usage}
    (hrv : n.rv = s.nextRv) (hok : UsageOk s n) : StoreInv (s.putU n).bump :=
  h.with_usage rfl rfl (Nat.le_succ _) (hrv ▸ Nat.lt_succ_self _) hok
    (fun _ hy => (mem_putU.mp hy).imp_right (·.1))

theorem StoreInv.with_res {s s' : Store} (h : StoreInv s) {n : Res} (husages : s'.usages = s.usages)
    (hclock : s.nextRv ≤ s'.nextRv) (hb : ∀ e ∈ s.born, e ∈ s'.born) (hname : n.name ≠ "")
    (hborn : (n.uid, n.group, n.kind, n.name) ∈ s'.born)
    (mem : ∀ r ∈ s'.res, (r ∈ s.res ∧ r.key ≠ n.key) ∨ r = n) : StoreInv s' := by
  refine ⟨husages ▸ h.usageUniq, fun a ha b hb' h1 h2 h3 => ?_,
    fun u hu => Nat.lt_of_lt_of_le (h.rvU u (husages ▸ hu)) hclock, husages ▸ h.delFin, husages ▸ h.readyOf,
    husages ▸ h.readyBy, fun r hr => ?_, fun r hr => ?_, fun u hu hr b hbb => ?_⟩
  · rcases mem a ha with ⟨ha, han⟩ | ea <;> rcases mem b hb' with ⟨hb', hbn⟩ | eb
    · exact h.resUniq a ha b hb' h1 h2 h3
    · exact absurd (eb ▸ Res.key_eq.mpr ⟨h1, h2, h3⟩) han
    · exact absurd (ea ▸ Res.key_eq.mpr ⟨h1.symm, h2.symm, h3.symm⟩) hbn
    · exact ea.trans eb.symm
  · exact (mem r hr).elim (fun hr => h.resName r hr.1) (fun e => e ▸ hname)
  · exact (mem r hr).elim (fun hr => hb _ (h.born r hr.1)) (fun e => e ▸ hborn)
  · obtain ⟨o, ho, hm⟩ := h.owned u (husages ▸ hu) hr b hbb
    exact ⟨o, ho, hb _ hm⟩

theorem StoreInv.putR_bump {s : Store} (h : StoreInv s) {x n : Res} (hx : x ∈ s.res) (hk : x.key = n.key)
    (hu : n.uid = x.uid) : StoreInv (s.putR n).bump :=
  let ⟨hg, hk, hn⟩ := Res.key_eq.mp hk
  h.with_res rfl (Nat.le_succ _) (fun _ hb => hb) (hn ▸ h.resName x hx)
    (by rw [← hg, ← hk, ← hn, hu]; exact h.born x hx) (fun _ hr => (mem_putR.mp hr).imp_right (·.1))

theorem StoreInv.updR {s s' : Store} (hs : StoreInv s) {r : Res} {resp : Resp} (spec : UpdRSpec s r s' resp) :
    StoreInv s' := by
  cases spec with
  | put x hg _ =>
    exact hs.putR_bump (getR_some hg).1 (getR_some hg).2 rfl
  | _ => exact hs

theorem UpdRSpec.written {s s' : Store} (hs : StoreInv s) {q r : Res} (spec : UpdRSpec s q s' (.res r)) :
    (∃ r' ∈ s'.res, r'.key = q.key) ∧ ∀ r' ∈ s'.res, r'.key = q.key → r'.inUse = q.inUse := by
  cases spec with
  | noop _ hg hx hon =>
    obtain ⟨hrm, hrk⟩ := getR_some hg
    refine ⟨⟨r, hrm, hrk⟩, fun r' hr' h => ?_⟩
    rw [hs.res_inj hr' hrm (h.trans hrk.symm), hon]
  | put x hg hx =>
    obtain ⟨hxm, hxk⟩ := getR_some hg
    refine ⟨⟨_, mem_putR.mpr (.inr ⟨rfl, x, hxm, hxk⟩), rfl⟩, fun r' hr' h => ?_⟩
    rcases mem_putR.mp hr' with ⟨_, hdiff⟩ | ⟨rfl, _⟩
    · exact absurd h hdiff
    · rfl

theorem deleteUsage_deleting {s : Store} (hs : StoreInv s) (nm : String) :
    ∀ y ∈ (s.deleteUsage nm).1.usages, y.name = nm → y.deleting = true := by
  fun_cases Store.deleteUsage s nm with
  | case1 hg => exact fun y hy hyn => absurd hyn (getU_none hg y hy)
  | case2 x hg _ hdel =>
    exact fun y hy hyn => hs.usageUniq y hy x (getU_some hg).1 (hyn.trans (getU_some hg).2.symm) ▸ hdel
  | case3 x hg _ _ =>
    intro y hy hyn
    rcases mem_putU.mp hy with ⟨_, hne⟩ | ⟨rfl, _⟩
    · exact absurd (hyn.trans (getU_some hg).2.symm) hne
    · rfl
  | case4 x hg _ => exact fun y hy hyn => absurd hyn (mem_dropU.mp hy).2

theorem StoreInv.env {s s' : Store} (h : StoreInv s) (e : EnvEff s s') : StoreInv s' := by
  cases e with
  | same => exact h
  | addRes r hg hne hu =>
    refine h.with_res (n := r) rfl (Nat.le_succ _) (fun _ hb => List.mem_cons_of_mem _ hb) hne
      (hu ▸ List.mem_cons_self) (fun a ha => ?_)
    rcases List.mem_append.mp ha with ha | ha
    · exact .inl ⟨ha, getR_none hg a ha⟩
    · exact .inr (List.mem_singleton.mp ha)
  | addUsage u hg hrv hf hd hr =>
    -- the new Usage is not ready and not terminating: nothing is claimed about it
    refine h.with_usage (n := u) rfl rfl (Nat.le_succ _) (hrv ▸ Nat.lt_succ_self _)
      ⟨fun h' => absurd (hd.symm.trans h') Bool.false_ne_true, fun h' => absurd (hr.symm.trans h') Bool.false_ne_true,
        fun h' => absurd (hr.symm.trans h') Bool.false_ne_true, fun h' => absurd (hr.symm.trans h') Bool.false_ne_true⟩
      (fun y hy => ?_)
    rcases List.mem_append.mp hy with hy | hy
    · exact .inl ⟨hy, getU_none hg y hy⟩
    · exact .inr (List.mem_singleton.mp hy)
  | editR x n hg hu _ =>
    exact h.putR_bump (getR_some hg).1 (getR_some hg).2 hu
  | dropR g k n r _ _ => exact h.dropR g k n
  | editU x n hg hu hrv hof hby hfin hrd hdel hown =>
    have hx := (getU_some hg).1
    refine h.putU_bump hrv ⟨fun hd => ?_, fun hr => hof ▸ h.readyOf x hx (hrd ▸ hr),
      fun hr => hby ▸ h.readyBy x hx (hrd ▸ hr), fun hr b hb => ?_⟩
    · rcases hdel with e | ⟨_, e⟩
      · exact hfin.trans (h.delFin x hx (e ▸ hd))
      · exact hfin.trans e
    · obtain ⟨o, ho, hm⟩ := h.owned x hx (hrd ▸ hr) b (hby ▸ hb)
      rcases hown with e | e
      · exact ⟨o, e ▸ ho, hm⟩
      · rw [e] at ho; cases ho
  | dropU x _ _ => exact h.dropU x.name

end Xp.C19
