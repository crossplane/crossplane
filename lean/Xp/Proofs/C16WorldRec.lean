import Xp.Proofs.C16World
import Xp.Proofs.C16Release
/-
C16: one reconcile and histories — in the world of `Model/C16World.lean`, with the desired
state as the string it is, under establish-phase interference only (`reconcileRevI`, the
case `World := { e := tp }`), and when nobody interferes (`reconcileRev`, the case `Interf.none`).

`Good`: every controller reference and the very existence of an object are accounted for by the
initial store, by a revision reconciled as active, or by a third-party put. It is kept by third-party
writes, by Establish (`OriginV`) and by ReleaseObjects (`RGood`), hence by a reconcile
(`reconcileRevV_cases`, `reconcileRevV_ind`: a reconcile is at most one ReleaseObjects and then at
most one Establish), hence by every history. What nobody interfering adds is that nothing is deleted
and no owner entry dropped (`Kept`).
-/
namespace Xp.C16

variable (sys : Sys) (r : Rev) (e : Env) (w : World)

/-- per object: every controller reference and the very existence of the object are
accounted for by the initial store `l₀`, by a revision reconciled as active (`A`), or
by a third-party put (`P`) -/
structure Good (l₀ : List Obj) (A : Nat → Prop) (P : Obj → Prop) (o' : Obj) : Prop where
  ctrls : ∀ u, ctrl o'.owners u →
    (∃ o ∈ l₀, o.key = o'.key ∧ ctrl o.owners u) ∨ A u ∨ (∃ a, P a ∧ a.key = o'.key ∧ ctrl a.owners u)
  origin : (∃ o ∈ l₀, o.key = o'.key) ∨ (∃ a, P a ∧ a.key = o'.key) ∨ (∃ u, A u ∧ hasUid o'.owners u)

structure GInv (l₀ : List Obj) (A : Nat → Prop) (P : Obj → Prop) (s : Store) : Prop where
  wf : WF s
  good : ∀ o' ∈ s.objs, Good l₀ A P o'

theorem Good.ofPut {l₀ : List Obj} {A : Nat → Prop} {P : Obj → Prop} {o' : Obj} (h : PutBy P o') : Good l₀ A P o' := by
  obtain ⟨a, ha, hk, ho, _⟩ := h
  exact ⟨fun u hu => Or.inr (Or.inr ⟨a, ha, hk.symm, ho ▸ hu⟩), Or.inr (Or.inl ⟨a, ha, hk.symm⟩)⟩

theorem Good.rewrite {l₀ : List Obj} {A : Nat → Prop} {P : Obj → Prop} {o o' : Obj} (h : Good l₀ A P o)
    (hk : o'.key = o.key) (hu : ∀ u, hasUid o.owners u → hasUid o'.owners u)
    (hc : ∀ u, ctrl o'.owners u → ctrl o.owners u ∨ A u) : Good l₀ A P o' := by
  refine ⟨fun u hcu => ?_, ?_⟩
  · rcases hc u hcu with h1 | h1
    · rw [hk]; exact h.ctrls u h1
    · exact Or.inr (Or.inl h1)
  · rw [hk]
    rcases h.origin with h1 | h1 | ⟨u, hA, hh⟩
    · exact Or.inl h1
    · exact Or.inr (Or.inl h1)
    · exact Or.inr (Or.inr ⟨u, hA, hu u hh⟩)

theorem Good.inactive {l₀ : List Obj} {P : Obj → Prop} {o' : Obj} (g : Good l₀ (fun _ => False) P o') :
    ((∃ o ∈ l₀, o.key = o'.key) ∨ (∃ a, P a ∧ a.key = o'.key)) ∧
    ∀ u, ctrl o'.owners u →
      (∃ o ∈ l₀, o.key = o'.key ∧ ctrl o.owners u) ∨ (∃ a, P a ∧ a.key = o'.key ∧ ctrl a.owners u) :=
  ⟨g.origin.imp id fun h => h.elim id fun ⟨_, hf, _⟩ => hf.elim,
   fun u hu => (g.ctrls u hu).imp id fun h => h.elim False.elim id⟩

theorem GInv.init (s : Store) (A : Nat → Prop) (P : Obj → Prop) (hw : WF s) : GInv s.objs A P s :=
  ⟨hw, fun o' ho' => ⟨fun _ hu => Or.inl ⟨o', ho', rfl, hu⟩, Or.inl ⟨o', ho', rfl⟩⟩⟩

theorem GInv.acts {l₀ : List Obj} {A : Nat → Prop} {P : Obj → Prop} {s : Store} (hi : GInv l₀ A P s)
    (as : List Act) (hP : ∀ o, Act.put o ∈ as → P o) : GInv l₀ A P (applyActs s as) :=
  ⟨applyActs_wf s as hi.wf, applyActs_objs _ P s as hP (fun o _ h => Good.ofPut ⟨o, h, rfl, rfl, rfl⟩) hi.good⟩

theorem GInv.establishV {l₀ : List Obj} {A : Nat → Prop} {P : Obj → Prop} {s : Store} (hi : GInv l₀ A P s)
    (rejects : Obj → Bool) (fault : Fault) (vi : VInterf) (tp : Interf) (p : Parent) (control : Bool)
    (objs : List Desired) (vorder eorder : List Nat)
    (hst : StaleOK s vi (pick objs vorder))
    (hA : control = true → A p.uid) (hP : ∀ a, EPuts vi tp a → P a) :
    GInv l₀ A P (establishV rejects fault vi tp p control s objs vorder eorder).1 := by
  have h := establishV_inv rejects fault vi tp p control s objs vorder eorder hi.wf hst
  have hrw : ∀ {o o' : Obj}, Good l₀ A P o → QE p control o o' → Good l₀ A P o' := by
    intro o o' g q
    refine g.rewrite q.key q.uids fun u hu => ?_
    rcases q.ctrls u hu with h1 | ⟨hc, e⟩
    · exact Or.inl h1
    · exact Or.inr (e ▸ hA hc)
  refine ⟨h.wf, fun o' ho' => ?_⟩
  cases h.objs o' ho' with
  | same hs => exact hi.good o' hs
  | rewritten o ho hk q => exact hrw (hi.good o ho) q
  | created c =>
    exact ⟨fun u hu => Or.inr (Or.inl ((c.ctrls u hu) ▸ hA c.active)),
      Or.inr (Or.inr ⟨p.uid, hA c.active, asController p, c.mine, rfl⟩)⟩
  | third t => exact Good.ofPut (t.mono hP)
  | rethird o ho hk q => exact hrw (Good.ofPut (ho.mono hP)) q

theorem GInv.releaseV {l₀ : List Obj} {A : Nat → Prop} {P : Obj → Prop} {s : Store} (hi : GInv l₀ A P s)
    (rejects : Obj → Bool) (fault : Fault) (ri : RInterf) (p : Parent) (ran : Nat → Bool) (refs : List Ref)
    (order : List Nat) (hP : ∀ a, ri.Puts a → P a) :
    GInv l₀ A P (releaseV rejects fault ri p ran s refs order).1 := by
  have h := releaseV_inv rejects fault ri p ran s refs order hi.wf
  refine ⟨h.wf, fun o' ho' => ?_⟩
  obtain ⟨b, hb, hr⟩ := h.objs o' ho'
  have gb : Good l₀ A P b := by
    rcases hb with hb | hb
    · exact hi.good b hb
    · exact Good.ofPut (hb.mono hP)
  rcases hr with e | q
  · subst e; exact gb
  · exact gb.rewrite q.key q.uids fun u hu => Or.inl (q.ctrls u hu)

theorem establishAndRecordV_store (sys : Sys) (s : Store) (r : Rev) (e : Env) (w : World) :
    (establishAndRecordV sys s r e w).1.store =
      (establishV e.rejects e.fault w.v w.e r.parent r.active s r.objs e.vorder e.eorder).1 := by
  unfold establishAndRecordV
  split <;> rename_i heq <;> rw [heq]

/-- the third party's puts during one reconcile -/
def World.Puts (w : World) (a : Obj) : Prop := w.v.Puts a ∨ w.e.Puts a ∨ w.r.Puts a

theorem RInterf.puts_none (a : Obj) : ¬ RInterf.none.Puts a :=
  fun ⟨_, h⟩ => by rcases h with h | h <;> cases h

theorem World.puts_e (tp : Interf) (a : Obj) (h : ({ e := tp } : World).Puts a) : tp.Puts a := by
  rcases h with ⟨_, h⟩ | h | h
  · rcases h with h | h <;> cases h
  · exact h
  · exact absurd h (RInterf.puts_none a)

theorem establishAndRecordV_refs (sys : Sys) (s : Store) (r : Rev) (e : Env) (w : World) :
    ((establishAndRecordV sys s r e w).2 ≠ .ok () → (establishAndRecordV sys s r e w).1.refs = sys.refs) ∧
    ∀ v, v ≠ r.parent.uid → (establishAndRecordV sys s r e w).1.refs v = sys.refs v := by
  unfold establishAndRecordV
  split
  · exact ⟨fun h => absurd rfl h, fun v hv => by simp [setRefs, hv]⟩
  · exact ⟨fun _ => rfl, fun _ _ => rfl⟩
  · exact ⟨fun _ => rfl, fun _ _ => rfl⟩

/-- the initial store, or the one the ReleaseObjects call of the reconcile ended in (inactive
revisions only; over the recorded or the stale list) -/
def AfterRelease (s : Store) : Prop :=
  s = sys.store ∨ r.active = false ∧
    ∃ refs, s = (releaseV e.rejects e.fault w.r r.parent e.ran sys.store refs e.rorder).1

theorem reconcileRevV_cases :
    (∃ s1 x, reconcileRevV sys r e w = (⟨s1, sys.refs⟩, x) ∧ AfterRelease sys r e w s1 ∧
      (x = .ok () → w.staleRefs = none ∧
        releaseV e.rejects e.fault w.r r.parent e.ran sys.store (sys.refs r.parent.uid) e.rorder = (s1, .ok ()))) ∨
    (w.staleRefs = none ∧ ∃ s, reconcileRevV sys r e w = establishAndRecordV sys s r e w ∧ AfterRelease sys r e w s ∧
      (r.active = false → (sys.refs r.parent.uid).length = 0 ∧
        releaseV e.rejects e.fault w.r r.parent e.ran sys.store (sys.refs r.parent.uid) e.rorder = (s, .ok ()))) := by
  fun_cases reconcileRevV sys r e w with
  | case1 => exact Or.inl ⟨_, _, rfl, Or.inl rfl, nofun⟩      -- stale read, active
  | case2 listed _ ha s1 h | case3 listed _ ha s1 _ h | case4 listed _ ha s1 h =>      -- stale read, inactive
    exact Or.inl ⟨_, _, rfl, Or.inr ⟨eq_false_of_ne_true ha, listed, by rw [h]⟩, nofun⟩
  | case5 hn ha => exact Or.inr ⟨hn, _, rfl, Or.inl rfl, fun hf => by rw [hf] at ha; cases ha⟩      -- active
  | case6 hn ha s1 h =>      -- inactive, a list that is not empty: the reconcile ends after a successful ReleaseObjects
    exact Or.inl ⟨_, _, rfl, Or.inr ⟨eq_false_of_ne_true ha, _, by rw [h]⟩, fun _ => ⟨hn, h⟩⟩
  | case7 hn ha s1 h hl =>      -- inactive, nothing recorded: Establish follows
    exact Or.inr ⟨hn, _, rfl, Or.inr ⟨eq_false_of_ne_true ha, _, by rw [h]⟩, fun _ => ⟨Nat.eq_zero_of_not_pos hl, h⟩⟩
  | case8 hn ha s1 _ h | case9 hn ha s1 h =>      -- inactive, ReleaseObjects failed
    exact Or.inl ⟨_, _, rfl, Or.inr ⟨eq_false_of_ne_true ha, _, by rw [h]⟩, nofun⟩

theorem reconcileRevV_ind (I : Store → Prop) (sys : Sys) (r : Rev) (e : Env) (w : World) (hw : WF sys.store)
    (h0 : I sys.store)
    (hrel : r.active = false → ∀ refs, I (releaseV e.rejects e.fault w.r r.parent e.ran sys.store refs e.rorder).1)
    (hest : ∀ s, WF s → Frozen sys.store s → I s →
      I (establishV e.rejects e.fault w.v w.e r.parent r.active s r.objs e.vorder e.eorder).1) :
    I (reconcileRevV sys r e w).1.store := by
  have hI : ∀ s, AfterRelease sys r e w s → WF s ∧ Frozen sys.store s ∧ I s := by
    rintro s (rfl | ⟨ha, refs, rfl⟩)
    · exact ⟨hw, Frozen.refl _, h0⟩
    · have hr := releaseV_inv e.rejects e.fault w.r r.parent e.ran sys.store refs e.rorder hw
      exact ⟨hr.wf, hr.frozen, hrel ha refs⟩
  rcases reconcileRevV_cases sys r e w with ⟨s1, x, h, hs, _⟩ | ⟨_, s, h, hs, _⟩ <;> rw [h]
  · exact (hI _ hs).2.2
  · rw [establishAndRecordV_store]
    exact hest _ (hI _ hs).1 (hI _ hs).2.1 (hI _ hs).2.2

theorem GInv.reconcileV {l₀ : List Obj} {A : Nat → Prop} {P : Obj → Prop} {sys : Sys} (hi : GInv l₀ A P sys.store)
    (hst : StaleOK sys.store w.v (pick r.objs e.vorder))
    (hA : r.active = true → A r.parent.uid) (hP : ∀ a, w.Puts a → P a) :
    GInv l₀ A P (reconcileRevV sys r e w).1.store :=
  reconcileRevV_ind (GInv l₀ A P) sys r e w hi.wf hi
    (fun _ refs => hi.releaseV _ _ _ _ _ refs _ fun a h => hP a (Or.inr (Or.inr h)))
    fun _ _ hf h => h.establishV _ _ _ _ _ _ _ _ _ (hst.mono hf) hA
      fun a h => hP a (h.elim Or.inl fun h => Or.inr (Or.inl h))

theorem GInv.release {l₀ : List Obj} {A : Nat → Prop} {P : Obj → Prop} {s : Store} (hi : GInv l₀ A P s)
    (rejects : Obj → Bool) (fault : Fault) (p : Parent) (ran : Nat → Bool) (refs : List Ref) (order : List Nat) :
    GInv l₀ A P (release rejects fault p ran s refs order).1 := by
  rw [← releaseV_none]
  exact hi.releaseV rejects fault RInterf.none p ran refs order fun a h => absurd h (RInterf.puts_none a)

theorem GInv.reconcile {l₀ : List Obj} {A : Nat → Prop} {P : Obj → Prop} {sys : Sys} (hi : GInv l₀ A P sys.store)
    (r : Rev) (e : Env) (tp : Interf) (hA : r.active = true → A r.parent.uid) (hP : ∀ a, tp.Puts a → P a) :
    GInv l₀ A P (reconcileRevI sys r e tp).1.store := by
  rw [← reconcileRevV_none]
  exact hi.reconcileV r e { e := tp } (StaleOK.none _ _) hA fun a h => hP a (World.puts_e tp a h)

/-- `ActiveIn` for histories under interference (`ActiveInV`: in the world) -/
def ActiveInI (h : List HStep) (u : Nat) : Prop := ∃ x ∈ h, x.rev.active = true ∧ x.rev.parent.uid = u

/-- the objects a third party put at some point of the history (`PutsInV`, `PutsInS`: in the world) -/
def PutsIn (h : List HStep) (a : Obj) : Prop := ∃ x ∈ h, Act.put a ∈ x.before ∨ x.tp.Puts a

def ActiveInV (h : List WStep) (u : Nat) : Prop := ∃ x ∈ h, x.rev.active = true ∧ x.rev.parent.uid = u

def PutsInV (h : List WStep) (a : Obj) : Prop := ∃ x ∈ h, Act.put a ∈ x.before ∨ x.w.Puts a

/-- every stale read of the history serves a version handed out before its reconcile started -/
def WorldOK : Sys → List WStep → Prop
  | _, [] => True
  | sys, x :: rest =>
    StaleOK (applyActs sys.store x.before) x.w.v (pick x.rev.objs x.env.vorder) ∧
    WorldOK (reconcileRevV ⟨applyActs sys.store x.before, sys.refs⟩ x.rev x.env x.w).1 rest

theorem runHistoryV_ginv (l₀ : List Obj) (A : Nat → Prop) (P : Obj → Prop) (h : List WStep) (hok : WorldOK sys h)
    (hA : ∀ u, ActiveInV h u → A u) (hP : ∀ a, PutsInV h a → P a) (hi : GInv l₀ A P sys.store) :
    GInv l₀ A P (runHistoryV sys h).store := by
  induction h generalizing sys with
  | nil => exact hi
  | cons x rest ih =>
    unfold runHistoryV
    obtain ⟨hok1, hok2⟩ := hok
    have h0 : GInv l₀ A P (⟨applyActs sys.store x.before, sys.refs⟩ : Sys).store :=
      hi.acts x.before fun o ho => hP o ⟨x, List.mem_cons_self, Or.inl ho⟩
    have h1 := h0.reconcileV x.rev x.env x.w hok1
      (fun ha => hA _ ⟨x, List.mem_cons_self, ha, rfl⟩)
      (fun a ha => hP a ⟨x, List.mem_cons_self, Or.inr ha⟩)
    exact ih _ hok2 (fun u ⟨y, hy, hp⟩ => hA u ⟨y, List.mem_cons_of_mem _ hy, hp⟩)
      (fun a ⟨y, hy, hp⟩ => hP a ⟨y, List.mem_cons_of_mem _ hy, hp⟩) h1

theorem worldOK_none (h : List HStep) : WorldOK sys (h.map fun x => ⟨x.before, x.rev, x.env, { e := x.tp }⟩) := by
  induction h generalizing sys with
  | nil => trivial
  | cons x rest ih => exact ⟨StaleOK.none _ _, ih _⟩

theorem runHistoryI_ginv (l₀ : List Obj) (A : Nat → Prop) (P : Obj → Prop) (h : List HStep)
    (hA : ∀ u, ActiveInI h u → A u) (hP : ∀ a, PutsIn h a → P a) (hi : GInv l₀ A P sys.store) :
    GInv l₀ A P (runHistoryI sys h).store := by
  rw [← runHistoryV_none]
  refine runHistoryV_ginv sys l₀ A P _ (worldOK_none sys h) (fun u ⟨y, hy, hp⟩ => ?_) (fun a ⟨y, hy, hp⟩ => ?_) hi
  · obtain ⟨x, hx, rfl⟩ := List.mem_map.mp hy
    exact hA u ⟨x, hx, hp⟩
  · obtain ⟨x, hx, rfl⟩ := List.mem_map.mp hy
    exact hP a ⟨x, hx, hp.imp id (World.puts_e x.tp a)⟩

theorem reconcileRevV_refs :
    ((reconcileRevV sys r e w).2 ≠ .ok () → (reconcileRevV sys r e w).1.refs = sys.refs) ∧
    (w.staleRefs.isSome = true → (reconcileRevV sys r e w).2 ≠ .ok () ∧ (reconcileRevV sys r e w).1.refs = sys.refs) ∧
    ∀ v, v ≠ r.parent.uid → (reconcileRevV sys r e w).1.refs v = sys.refs v := by
  rcases reconcileRevV_cases sys r e w with ⟨s1, x, h, _, hs⟩ | ⟨hn, s, h, _⟩ <;> rw [h]
  · refine ⟨fun _ => rfl, fun hst => ⟨fun hx => ?_, rfl⟩, fun _ _ => rfl⟩
    rw [(hs hx).1] at hst
    cases hst
  · refine ⟨(establishAndRecordV_refs sys s r e w).1, fun hst => ?_, (establishAndRecordV_refs sys s r e w).2⟩
    rw [hn] at hst
    cases hst

theorem reconcileRevI_refs (tp : Interf) :
    ((reconcileRevI sys r e tp).2 ≠ .ok () → (reconcileRevI sys r e tp).1.refs = sys.refs) ∧
    ∀ v, v ≠ r.parent.uid → (reconcileRevI sys r e tp).1.refs v = sys.refs v := by
  rw [← reconcileRevV_none]
  exact ⟨(reconcileRevV_refs sys r e { e := tp }).1, (reconcileRevV_refs sys r e { e := tp }).2.2⟩

theorem reconcileRev_refs :
    ((reconcileRev sys r e).2 ≠ .ok () → (reconcileRev sys r e).1.refs = sys.refs) ∧
    ∀ v, v ≠ r.parent.uid → (reconcileRev sys r e).1.refs v = sys.refs v := by
  rw [← reconcileRevI_none]
  exact reconcileRevI_refs sys r e Interf.none

theorem GInv.reconcileS {l₀ : List Obj} {A : Nat → Prop} {P : Obj → Prop} {sys : Sys} (hi : GInv l₀ A P sys.store)
    (p : Parent) (objs : List Desired) (ds : String) (e : Env) (w : World)
    (hst : StaleOK sys.store w.v (pick objs e.vorder))
    (hA : ds = activeState → A p.uid) (hP : ∀ a, w.Puts a → P a) :
    GInv l₀ A P (reconcileState sys p objs ds e w).1.store := by
  fun_cases reconcileState sys p objs ds e w with
  | case1 => exact hi.reconcileV ⟨p, false, objs⟩ e w hst nofun hP      -- exactly `Inactive`
  | case2 _ h2 => exact hi.reconcileV ⟨p, true, objs⟩ e w hst (fun _ => hA h2) hP      -- exactly `Active`
  | case3 => exact hi      -- anything else, a stale read
  | case4 =>      -- anything else: Establish without control
    rw [establishAndRecordV_store]
    exact hi.establishV _ _ _ _ _ _ _ _ _ hst nofun fun a h => hP a (h.elim Or.inl fun h => Or.inr (Or.inl h))

theorem reconcileRevV_log_inactive (hw : WF sys.store)
    (hr : r.active = false) : LogExt false sys.store.log (reconcileRevV sys r e w).1.store.log := by
  obtain ⟨p, active, objs⟩ := r
  cases hr
  exact reconcileRevV_ind (fun s => LogExt false sys.store.log s.log) sys ⟨p, false, objs⟩ e w hw (LogExt.refl _ _)
    (fun _ refs => releaseV_log _ _ _ _ _ _ refs _)
    fun s hws _ h => h.trans (establishV_log e.rejects e.fault w.v w.e p false s objs e.vorder e.eorder hws)

theorem reconcileState_log (sys : Sys) (p : Parent) (objs : List Desired) (ds : String) (e : Env) (w : World)
    (hw : WF sys.store) (hds : ds ≠ activeState) :
    LogExt false sys.store.log (reconcileState sys p objs ds e w).1.store.log := by
  fun_cases reconcileState sys p objs ds e w with
  | case1 => exact reconcileRevV_log_inactive sys ⟨p, false, objs⟩ e w hw rfl      -- exactly `Inactive`
  | case2 _ h2 => exact absurd h2 hds
  | case3 => exact LogExt.refl _ _      -- anything else, a stale read
  | case4 =>      -- anything else: Establish without control
    rw [establishAndRecordV_store]
    exact establishV_log e.rejects e.fault w.v w.e p false sys.store objs e.vorder e.eorder hw

/-- the revisions that some step of the history reconciles with desired state exactly `Active` -/
def ActiveInS (h : List SStep) (u : Nat) : Prop := ∃ x ∈ h, x.state = activeState ∧ x.parent.uid = u

def PutsInS (h : List SStep) (a : Obj) : Prop := ∃ x ∈ h, Act.put a ∈ x.before ∨ x.w.Puts a

def WorldOKS : Sys → List SStep → Prop
  | _, [] => True
  | sys, x :: rest =>
    StaleOK (applyActs sys.store x.before) x.w.v (pick x.objs x.env.vorder) ∧
    WorldOKS (reconcileState ⟨applyActs sys.store x.before, sys.refs⟩ x.parent x.objs x.state x.env x.w).1 rest

/-- `runHistoryV_ginv` again, for steps that carry the desired state as a string (`SStep`): `GInv.reconcileS` adds
the two branches `reconcileState` has beyond `reconcileRevV` (a state that is neither `Active` nor `Inactive`). -/
theorem runHistoryS_ginv (l₀ : List Obj) (A : Nat → Prop) (P : Obj → Prop) (h : List SStep) (hok : WorldOKS sys h)
    (hA : ∀ u, ActiveInS h u → A u) (hP : ∀ a, PutsInS h a → P a) (hi : GInv l₀ A P sys.store) :
    GInv l₀ A P (runHistoryS sys h).store := by
  induction h generalizing sys with
  | nil => exact hi
  | cons x rest ih =>
    unfold runHistoryS
    obtain ⟨hok1, hok2⟩ := hok
    have h0 : GInv l₀ A P (⟨applyActs sys.store x.before, sys.refs⟩ : Sys).store :=
      hi.acts x.before fun o ho => hP o ⟨x, List.mem_cons_self, Or.inl ho⟩
    have h1 := h0.reconcileS x.parent x.objs x.state x.env x.w hok1
      (fun ha => hA _ ⟨x, List.mem_cons_self, ha, rfl⟩)
      (fun a ha => hP a ⟨x, List.mem_cons_self, Or.inr ha⟩)
    exact ih _ hok2 (fun u ⟨y, hy, hp⟩ => hA u ⟨y, List.mem_cons_of_mem _ hy, hp⟩)
      (fun a ⟨y, hy, hp⟩ => hP a ⟨y, List.mem_cons_of_mem _ hy, hp⟩) h1

theorem establishAndRecord_store (sys : Sys) (s : Store) (r : Rev) (e : Env) :
    (establishAndRecord sys s r e).1.store =
      (establish e.rejects e.fault r.parent r.active s r.objs e.vorder e.eorder).1 := by
  unfold establishAndRecord
  split <;> rename_i heq <;> rw [heq]

theorem reconcileRev_good (hw : WF sys.store) (A : Nat → Prop) (hA : r.active = true → A r.parent.uid) :
    ∀ o' ∈ (reconcileRev sys r e).1.store.objs, Good sys.store.objs A (fun _ => False) o' := by
  rw [← reconcileRevI_none]
  exact ((GInv.init sys.store A _ hw).reconcile r e Interf.none hA fun a h => Interf.puts_none a h).good

theorem reconcileRev_kept (hw : WF sys.store) :
    Kept sys.store.objs (reconcileRev sys r e).1.store.objs ∧ WF (reconcileRev sys r e).1.store := by
  rw [← reconcileRevI_none, ← reconcileRevV_none]
  refine reconcileRevV_ind (fun s => Kept sys.store.objs s.objs ∧ WF s) sys r e _ hw ⟨Kept.refl _, hw⟩
    (fun _ refs => ?_) fun s hws _ h => ?_
  · have hi := release_inv e.rejects e.fault r.parent e.ran sys.store refs e.rorder hw
    rw [← releaseV_none] at hi
    exact ⟨hi.ev.kept fun _ _ q => q.uids, hi.wf⟩
  · have hi := establish_inv e.rejects e.fault r.parent r.active s r.objs e.vorder e.eorder hws
    rw [← establishI_none, ← establishV_none] at hi
    exact ⟨h.1.trans (hi.ev.kept fun _ _ q => q.uids), hi.wf⟩

/-- the revisions that some step of the history reconciles as active -/
def ActiveIn (h : List (Rev × Env)) (u : Nat) : Prop := ∃ x ∈ h, x.1.active = true ∧ x.1.parent.uid = u

theorem runHistory_kept (h : List (Rev × Env)) (hw : WF sys.store) :
    Kept sys.store.objs (runHistory sys h).store.objs ∧ WF (runHistory sys h).store := by
  induction h generalizing sys with
  | nil => exact ⟨Kept.refl _, hw⟩
  | cons x rest ih =>
    have h1 := reconcileRev_kept sys x.1 x.2 hw
    have h2 := ih (reconcileRev sys x.1 x.2).1 h1.2
    exact ⟨h1.1.trans h2.1, h2.2⟩

theorem runHistory_ginv (l₀ : List Obj) (A : Nat → Prop) (h : List (Rev × Env))
    (hA : ∀ u, ActiveIn h u → A u) (hi : GInv l₀ A (fun _ => False) sys.store) :
    GInv l₀ A (fun _ => False) (runHistory sys h).store := by
  rw [← runHistoryI_none]
  refine runHistoryI_ginv sys l₀ A _ _ (fun u ⟨y, hy, hp⟩ => ?_) (fun a ⟨y, hy, hp⟩ => ?_) hi
  · obtain ⟨x, hx, rfl⟩ := List.mem_map.mp hy
    exact hA u ⟨x, hx, hp⟩
  · obtain ⟨x, hx, rfl⟩ := List.mem_map.mp hy
    exact hp.elim (fun h => nomatch h) (Interf.puts_none a)

end Xp.C16
