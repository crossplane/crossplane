import Xp.Proofs.C20Inv
/-
C20: the CA bundle and who keeps it; CoreCRDs and WebhookConfigurations – one Apply moves the store to the `upsert`
of the component (`applyCrd_moves`, `applyWhc_moves`), a completed run establishes that every declared object is a
fixpoint of its own patch and carries the bundle, and such a state is a fixpoint of the step.
-/
namespace Xp.C20
open Xp

variable {α β : Type}

/-- `cb` is what the step injects: tls.crt of the referenced secret (non-empty), or nothing without a reference -/
def BundleIs (ref : Option String) (cb : Blob) (s : Store) : Prop :=
  match ref with
  | none => cb = .empty
  | some r => ∃ sec, findSecret s r = some sec ∧ sec.crt = cb ∧ cb ≠ .empty

/-- the secret called `name` is only ever updated from a version without material -/
def SafeFor (name : String) : Req → Prop := OnUpdate fun old new => new.name = name → hasMaterial old = false

theorem exec_safeFor {s : Store} {name : String} {sec : Secret} {r : Req}
    (h : findSecret s name = some sec) (hm : hasMaterial sec = true) (hq : SafeFor name r) :
    findSecret (exec s r).1 name = some sec :=
  exec_secret_kept h fun new hn e => by
    rw [hq _ _ e (hn.symm.trans (find_name h))] at hm
    cases hm

theorem bundleIs_safeFor {s : Store} {ref : Option String} {cb : Blob} {r : Req} (h : BundleIs ref cb s)
    (hq : ∀ x, ref = some x → SafeFor x r) : BundleIs ref cb (exec s r).1 := by
  cases ref with
  | none => exact h
  | some x =>
    obtain ⟨sec, h1, h2, h3⟩ := h
    refine ⟨sec, exec_safeFor h1 ?_ (hq x rfl), h2, h3⟩
    have : sec.crt ≠ .empty := h2 ▸ h3
    simp [hasMaterial, this]

theorem getBundle_reads (ref : String) (s : Store) :
    Fixes (getBundle ref) s (match findSecret s ref with
      | some sec => if sec.crt = .empty then none else some sec.crt
      | none => none) := by
  refine moves_read (exec_getSecret s ref) ?_
  cases findSecret s ref with
  | none => exact moves_ret _ s
  | some sec => dsimp only; split <;> exact moves_ret _ s

theorem getBundle_fixes {ref : String} {cb : Blob} {s : Store} (h : BundleIs (some ref) cb s) :
    Fixes (getBundle ref) s (some cb) := by
  obtain ⟨sec, hs, hc, hne⟩ := h
  have := getBundle_reads ref s
  simp only [hs, hc, hne, ↓reduceIte] at this
  exact this

theorem bundleIs_evalOk {c : Comp} (hc : c ≠ .secrets) {p : P α} (hp : Issues (Only c) p) {ref : String} {cb : Blob}
    {s t : Store} {a : α} (he : evalOk p s = (t, a)) (h : BundleIs (some ref) cb s) : BundleIs (some ref) cb t := by
  have := evalOk_inv (BundleIs (some ref) cb) (Only c)
    (fun x r hx hr => bundleIs_safeFor hx fun _ _ => onUpdate_of_comp (only_comp_ne hr hc.symm)) p hp s h
  rwa [he] at this

theorem getBundle_wp (e : Err) (R : Store → Store → Prop) (ref : String) (s : Store) :
    WpE (semK e) R (fun _ _ => True) (getBundle ref) (fun t b => ∀ cb, b = some cb → BundleIs (some ref) cb t) s := by
  intro s' _
  refine ⟨trivial, ?_, nofun, nofun⟩
  show WpE (semK e) _ _ (match (exec s' (.getSecret ref)).2 with
    | .secret x => if x.crt = .empty then (.ret none : P (Option Blob)) else .ret (some x.crt)
    | _ => .ret none) _ (exec s' (.getSecret ref)).1
  rw [exec_getSecret]
  cases hf : findSecret s' ref with
  | none => exact nofun
  | some sec =>
    dsimp only
    split
    · exact nofun
    · rename_i hne
      intro cb h
      cases h
      exact ⟨sec, hf, rfl, hne⟩

theorem getBundle_evalOk {ref : String} {s : Store} {cb : Blob} (h : (evalOk (getBundle ref) s).2 = some cb) :
    BundleIs (some ref) cb s := by
  have h1 : ∀ a, (run sem Plan.allOk 0 (getBundle ref) s).2 = some a → ∀ cb, a = some cb →
      BundleIs (some ref) cb (run sem Plan.allOk 0 (getBundle ref) s).1 := ((getBundle_wp .other Eq ref s).run Plan.allOk 0).2
  rw [run_allOk, (getBundle_reads ref s).1] at h1
  exact h1 _ rfl cb (by rw [← h, (getBundle_reads ref s).1])

/-- every stored CRD named like the file is a fixpoint of the file's patch (and one exists): it unfolds to
`FixL (·.name = f.name) (patchCrdWith f cb) s.crds` of C20List and is passed as that (`WhcFix` likewise) -/
def CrdFix (f : CrdFile) (cb : Blob) (s : Store) : Prop :=
  (∃ c, findCrd s f.name = some c) ∧ ∀ c ∈ s.crds, c.name = f.name → patchCrdWith f cb c = c

def CrdsDone (ref : Option String) (d : Dir) (s : Store) : Prop :=
  ∃ cb, BundleIs ref cb s ∧ d.parseErr = false ∧
    ∀ o ∈ d.objs, ∃ f, o = .crd f ∧ ¬ (f.conv = true ∧ cb = .empty) ∧ CrdFix f cb s

theorem patchCrdWith_idem (f : CrdFile) (cb : Blob) (c : Crd) :
    patchCrdWith f cb (patchCrdWith f cb c) = patchCrdWith f cb c := by
  simp only [patchCrdWith]
  cases c.conv <;> cases f.conv <;> simp

theorem patchCrdWith_new (f : CrdFile) (cb : Blob) : patchCrdWith f cb (newCrd f cb) = newCrd f cb := by
  simp only [patchCrdWith, newCrd]
  cases f.conv <;> simp

@[simp] theorem patchCrdWith_name (f : CrdFile) (cb : Blob) (c : Crd) : (patchCrdWith f cb c).name = c.name := rfl

theorem applyCrd_moves (f : CrdFile) (cb : Blob) (s : Store) : Moves (applyCrd f cb) s
    { s with crds := upsert (fun c => c.name = f.name) (newCrd f cb) (patchCrdWith f cb) s.crds } .ok := by
  unfold applyCrd upsert
  cases hf : findCrd s f.name with
  | none =>
    rw [show s.crds.find? _ = none from hf]
    exact moves_read (x := .err .notFound) (by simp only [exec, hf])
      (moves_write (x := .ok) (by simp only [exec, show (newCrd f cb).name = f.name from rfl, hf]) (moves_ret _ _))
  | some c =>
    rw [show s.crds.find? _ = some c from hf]
    exact moves_read (x := .crd c) (by simp only [exec, hf]) (moves_write (x := .ok) (by simp only [exec, hf]) (moves_ret _ _))

theorem applyCrd_fix (f : CrdFile) (cb : Blob) (s : Store) (h : CrdFix f cb s) : Fixes (applyCrd f cb) s .ok :=
  (applyCrd_moves f cb s).fixes (congrArg (fun l => { s with crds := l }) (FixL.upsert_eq (fun c : Crd => c.name = f.name) h))

theorem applyCrd_eval (f : CrdFile) (cb : Blob) (s : Store) :
    CrdFix f cb (evalOk (applyCrd f cb) s).1 ∧
    ∀ f' cb', f'.name ≠ f.name → CrdFix f' cb' s → CrdFix f' cb' (evalOk (applyCrd f cb) s).1 := by
  rw [(applyCrd_moves f cb s).1]
  refine ⟨?_, fun f' cb' hne h => ?_⟩
  · exact upsert_fix (key := fun c : Crd => c.name = f.name) (new := newCrd f cb) (patch := patchCrdWith f cb) (fun _ => Iff.rfl) rfl (patchCrdWith_new f cb)
      (patchCrdWith_idem f cb) _
  · exact upsert_other (key := fun c : Crd => c.name = f.name) (new := newCrd f cb) (patch := patchCrdWith f cb) (key' := fun c : Crd => c.name = f'.name)
      (fun _ => Iff.rfl) rfl (fun x e e' => hne (e'.symm.trans e)) _ h

-- `StepHyp` and `InitHyp`, the hypotheses of `step_idempotent` and `init_idempotent` in Props/C20, are stated over this
-- recursion (and `whcKeys` below); the proofs go through the `filterMap` form, `objNames_eq`
def objNames : List FileObj → List String
  | [] => []
  | .crd f :: rest => f.name :: objNames rest
  | _ :: rest => objNames rest

/-- the name CoreCRDs applies a file object under -/
def crdKey : FileObj → Option String
  | .crd f => some f.name
  | _ => none

theorem objNames_eq (objs : List FileObj) : objNames objs = objs.filterMap crdKey := by
  induction objs with
  | nil => rfl
  | cons o rest ih => cases o <;> simp [objNames, crdKey, List.filterMap_cons, ih]

theorem crdBody_ok {cb : Blob} {o : FileObj} {s t : Store} (h : evalOk (crdBodyFn cb o) s = (t, .ok)) :
    ∃ f, o = .crd f ∧ ¬ (f.conv = true ∧ cb = .empty) ∧ t = (evalOk (applyCrd f cb) s).1 := by
  cases o with
  | crd f =>
    simp only [crdBodyFn] at h
    split at h
    · cases h
    · rename_i hg
      exact ⟨f, rfl, by simpa using hg, by rw [h]⟩
  | whc f => cases h
  | other => cases h

theorem crdLoop_establishes {cb : Blob} {objs : List FileObj} (hnd : (objNames objs).Nodup) {s t : Store}
    (h : evalOk (forEach (crdBodyFn cb) objs) s = (t, .ok)) :
    ∀ o ∈ objs, ∃ f, o = .crd f ∧ ¬ (f.conv = true ∧ cb = .empty) ∧ CrdFix f cb t := by
  rw [objNames_eq, List.Nodup, List.pairwise_filterMap] at hnd
  refine (forEach_chain h).done (Done := fun o t => ∃ f, o = .crd f ∧ ¬ (f.conv = true ∧ cb = .empty) ∧ CrdFix f cb t)
    ?_ ?_ hnd
  · intro o s t ho
    obtain ⟨f, rfl, hg, rfl⟩ := crdBody_ok ho
    exact ⟨f, rfl, hg, (applyCrd_eval f cb s).1⟩
  · rintro o o' s t hne ho' ⟨f, rfl, hg, hfix⟩
    obtain ⟨f', rfl, _, rfl⟩ := crdBody_ok ho'
    exact ⟨f, rfl, hg, (applyCrd_eval f' cb s).2 f cb (hne f.name rfl f'.name rfl) hfix⟩

theorem crdLoop_fix (cb : Blob) (objs : List FileObj) (s : Store)
    (h : ∀ o ∈ objs, ∃ f, o = .crd f ∧ ¬ (f.conv = true ∧ cb = .empty) ∧ CrdFix f cb s) :
    Fixes (forEach (crdBodyFn cb) objs) s .ok := by
  refine fixes_forEach fun o ho => ?_
  obtain ⟨f, rfl, hg, hfix⟩ := h o ho
  have : (f.conv && decide (cb = .empty)) = false := by
    cases hc : f.conv <;> simp
    intro e; exact hg ⟨hc, e⟩
  simp only [crdBodyFn, this]
  exact applyCrd_fix f cb s hfix

theorem crds_fix (ref : Option String) (d : Dir) (s : Store) (h : CrdsDone ref d s) : Fixes (crdsStep ref d) s .ok := by
  obtain ⟨cb, hb, hp, hobjs⟩ := h
  have hl := crdLoop_fix cb d.objs s hobjs
  unfold crdsStep
  cases ref with
  | none =>
    simp only [BundleIs] at hb
    subst hb
    simp only [crdsBody_eq, hp, Bool.false_eq_true, if_false]
    exact hl
  | some r =>
    refine moves_bind (getBundle_fixes hb) ?_
    simp only [crdsBody_eq, hp, Bool.false_eq_true, if_false]
    exact hl

theorem crds_establishes (ref : Option String) (d : Dir) (hnd : (objNames d.objs).Nodup) (s t : Store)
    (h : evalOk (crdsStep ref d) s = (t, .ok)) : CrdsDone ref d t := by
  have body : ∀ cb, evalOk (crdsBody d cb) s = (t, .ok) →
      d.parseErr = false ∧ ∀ o ∈ d.objs, ∃ f, o = .crd f ∧ ¬ (f.conv = true ∧ cb = .empty) ∧ CrdFix f cb t := by
    intro cb hb
    rw [crdsBody_eq] at hb
    split at hb
    · cases hb
    · rename_i hp
      exact ⟨by simpa using hp, crdLoop_establishes hnd hb⟩
  cases ref with
  | none => exact ⟨.empty, rfl, body _ h⟩
  | some r =>
    have hs := fun cb => bundleIs_evalOk (c := .crds) nofun (crdsStep_issues (some r) d) (ref := r) (cb := cb) h
    unfold crdsStep at h
    rw [evalOk_bind, congrArg Prod.fst (getBundle_reads r s).1] at h
    cases hb : (evalOk (getBundle r) s).2 with
    | none => rw [hb] at h; cases h
    | some cb =>
      rw [hb] at h
      exact ⟨cb, hs cb (getBundle_evalOk hb), body cb h⟩

def WhcFix (f : WhcFile) (cb : Blob) (svc : Svc) (s : Store) : Prop :=
  (∃ w, findWhc s f.kind (whcName f) = some w) ∧
  ∀ w ∈ s.whcs, w.kind = f.kind ∧ w.name = whcName f → patchWhcWith (desiredHooks f cb svc) w = w

def WhcsDone (ref : String) (svc : Svc) (d : Dir) (s : Store) : Prop :=
  ∃ cb, BundleIs (some ref) cb s ∧ d.parseErr = false ∧ ∀ o ∈ d.objs, ∃ f, o = .whc f ∧ WhcFix f cb svc s

theorem patchWhcWith_idem (h : List Hook) (w : Whc) : patchWhcWith h (patchWhcWith h w) = patchWhcWith h w := by
  unfold patchWhcWith
  split <;> simp_all

theorem patchWhcWith_new (k : WKind) (n : String) (h : List Hook) : patchWhcWith h ⟨k, n, h, 0⟩ = ⟨k, n, h, 0⟩ := by
  unfold patchWhcWith
  split <;> rfl

theorem applyWhc_moves (f : WhcFile) (cb : Blob) (svc : Svc) (s : Store) : Moves (applyWhc f cb svc) s
    { s with whcs := upsert (fun w => w.kind = f.kind ∧ w.name = whcName f)
                        ⟨f.kind, whcName f, desiredHooks f cb svc, 0⟩ (patchWhcWith (desiredHooks f cb svc)) s.whcs } .ok := by
  unfold applyWhc upsert
  cases hf : findWhc s f.kind (whcName f) with
  | none =>
    rw [show s.whcs.find? _ = none from hf]
    exact moves_read (x := .err .notFound) (by simp only [exec, hf])
      (moves_write (x := .ok) (by simp only [exec, hf]) (moves_ret _ _))
  | some w =>
    rw [show s.whcs.find? _ = some w from hf]
    exact moves_read (x := .whc w) (by simp only [exec, hf]) (moves_write (x := .ok) (by simp only [exec, hf]) (moves_ret _ _))

theorem applyWhc_fix (f : WhcFile) (cb : Blob) (svc : Svc) (s : Store) (h : WhcFix f cb svc s) :
    Fixes (applyWhc f cb svc) s .ok :=
  (applyWhc_moves f cb svc s).fixes
    (congrArg (fun l => { s with whcs := l }) (FixL.upsert_eq (fun w : Whc => w.kind = f.kind ∧ w.name = whcName f) h))

theorem applyWhc_eval (f : WhcFile) (cb : Blob) (svc : Svc) (s : Store) :
    WhcFix f cb svc (evalOk (applyWhc f cb svc) s).1 ∧
    ∀ f' cb' svc', (f'.kind, whcName f') ≠ (f.kind, whcName f) → WhcFix f' cb' svc' s →
      WhcFix f' cb' svc' (evalOk (applyWhc f cb svc) s).1 := by
  rw [(applyWhc_moves f cb svc s).1]
  have hk : ∀ x : Whc, (patchWhcWith (desiredHooks f cb svc) x).kind = f.kind ∧ (patchWhcWith (desiredHooks f cb svc) x).name = whcName f ↔
      x.kind = f.kind ∧ x.name = whcName f := fun x => by simp
  refine ⟨?_, fun f' cb' svc' hne h => ?_⟩
  · exact upsert_fix (key := fun w : Whc => w.kind = f.kind ∧ w.name = whcName f) hk ⟨rfl, rfl⟩ (patchWhcWith_new _ _ _)
      (patchWhcWith_idem _) _
  · exact upsert_other (fun w : Whc => w.kind = f.kind ∧ w.name = whcName f)
      (key' := fun w : Whc => w.kind = f'.kind ∧ w.name = whcName f') hk ⟨rfl, rfl⟩
      (fun x e e' => hne (by rw [← e'.1, ← e'.2, e.1, e.2])) _ h

def whcKeys : List FileObj → List (WKind × String)
  | [] => []
  | .whc f :: rest => (f.kind, whcName f) :: whcKeys rest
  | _ :: rest => whcKeys rest

/-- the kind and name WebhookConfigurations applies a file object under -/
def whcKey : FileObj → Option (WKind × String)
  | .whc f => some (f.kind, whcName f)
  | _ => none

theorem whcKeys_eq (objs : List FileObj) : whcKeys objs = objs.filterMap whcKey := by
  induction objs with
  | nil => rfl
  | cons o rest ih => cases o <;> simp [whcKeys, whcKey, List.filterMap_cons, ih]

theorem whcBody_ok {cb : Blob} {svc : Svc} {o : FileObj} {s t : Store} (h : evalOk (whcBodyFn cb svc o) s = (t, .ok)) :
    ∃ f, o = .whc f ∧ t = (evalOk (applyWhc f cb svc) s).1 := by
  cases o with
  | whc f => exact ⟨f, rfl, by rw [show evalOk (applyWhc f cb svc) s = _ from h]⟩
  | crd f => cases h
  | other => cases h

theorem whcLoop_establishes {cb : Blob} {svc : Svc} {objs : List FileObj} (hnd : (whcKeys objs).Nodup) {s t : Store}
    (h : evalOk (forEach (whcBodyFn cb svc) objs) s = (t, .ok)) : ∀ o ∈ objs, ∃ f, o = .whc f ∧ WhcFix f cb svc t := by
  rw [whcKeys_eq, List.Nodup, List.pairwise_filterMap] at hnd
  refine (forEach_chain h).done (Done := fun o t => ∃ f, o = .whc f ∧ WhcFix f cb svc t) ?_ ?_ hnd
  · intro o s t ho
    obtain ⟨f, rfl, rfl⟩ := whcBody_ok ho
    exact ⟨f, rfl, (applyWhc_eval f cb svc s).1⟩
  · rintro o o' s t hne ho' ⟨f, rfl, hfix⟩
    obtain ⟨f', rfl, rfl⟩ := whcBody_ok ho'
    exact ⟨f, rfl, (applyWhc_eval f' cb svc s).2 f cb svc (hne _ rfl _ rfl) hfix⟩

theorem whcLoop_fix (cb : Blob) (svc : Svc) (objs : List FileObj) (s : Store)
    (h : ∀ o ∈ objs, ∃ f, o = .whc f ∧ WhcFix f cb svc s) : Fixes (forEach (whcBodyFn cb svc) objs) s .ok := by
  refine fixes_forEach fun o ho => ?_
  obtain ⟨f, rfl, hfix⟩ := h o ho
  exact applyWhc_fix f cb svc s hfix

theorem whcs_fix (ref : String) (svc : Svc) (d : Dir) (s : Store) (h : WhcsDone ref svc d s) :
    Fixes (whcsStep ref svc d) s .ok := by
  obtain ⟨cb, hb, hp, hobjs⟩ := h
  rw [whcsStep_eq]
  refine moves_bind (getBundle_fixes hb) ?_
  simp only [hp, Bool.false_eq_true, if_false]
  exact whcLoop_fix cb svc d.objs s hobjs

theorem whcs_establishes (ref : String) (svc : Svc) (d : Dir) (hnd : (whcKeys d.objs).Nodup) (s t : Store)
    (h : evalOk (whcsStep ref svc d) s = (t, .ok)) : WhcsDone ref svc d t := by
  have hs := fun cb => bundleIs_evalOk (c := .whcs) nofun (whcsStep_issues ref svc d) (ref := ref) (cb := cb) h
  rw [whcsStep_eq, evalOk_bind, congrArg Prod.fst (getBundle_reads ref s).1] at h
  cases hb : (evalOk (getBundle ref) s).2 with
  | none => rw [hb] at h; cases h
  | some cb =>
    rw [hb] at h
    dsimp only at h
    split at h
    · cases h
    · rename_i hp
      exact ⟨cb, hs cb (getBundle_evalOk hb), by simpa using hp, whcLoop_establishes hnd h⟩

end Xp.C20
