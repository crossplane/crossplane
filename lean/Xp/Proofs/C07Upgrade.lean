import Xp.Model.C07Upgrade
import Xp.Base.Str
import Xp.Base.List
/-
C07, the managed-fields upgrader: what its scan of the manager names finds (`scan_found`; `scan_idx`: the LAST
before-first-apply entry, by `last_index_loop` of Base/List, which holds of any loop of that shape), what removing
the entry at one position leaves (`perm_cons_eraseIdx`: the same managers but that one), and its path test on the
characters of a path (`bookkeepingPath_ofList`).
-/
namespace Xp.C07
open Xp

theorem perm_cons_eraseIdx {α} (b : α) : ∀ (l : List α) (j : Nat), l[j]? = some b → l.Perm (b :: l.eraseIdx j) := by
  intro l
  induction l with
  | nil => intro j h; simp at h
  | cons a l ih =>
    intro j h
    cases j with
    | zero =>
      simp only [List.getElem?_cons_zero, Option.some.injEq] at h
      subst h
      exact List.Perm.refl _
    | succ j =>
      simp only [List.getElem?_cons_succ] at h
      simp only [List.eraseIdx_cons_succ]
      exact ((ih j h).cons a).trans (List.Perm.swap b a _)

theorem bfaManager_eq : bfaManager = "before-first-apply" := rfl

theorem bookkeepingPath_ofList (l : List Char) :
    bookkeepingPath (String.ofList l) =
      ("/metadata/managedFields".toList.isPrefixOf l || l == "/metadata/resourceVersion".toList) := by
  rw [bookkeepingPath, String.toList_ofList (l := l), Str.ofList_beq]

theorem scan_found (ssa : String) : ∀ (mf : List String) (i : Nat) (a : Scan),
    (scan ssa mf i a).foundSSA = (a.foundSSA || mf.contains ssa) ∧
    (scan ssa mf i a).foundBFA = (a.foundBFA || mf.contains bfaManager) := by
  intro mf
  induction mf with
  | nil => intro i a; simp [scan]
  | cons m rest ih =>
    intro i a
    simp only [scan, ih, List.contains_cons, Bool.or_assoc, BEq.comm (a := m), and_self]

theorem scan_idx (ssa : String) : ∀ (mf : List String) (i : Nat) (a : Scan),
    (bfaManager ∉ mf → (scan ssa mf i a).idxBFA = a.idxBFA) ∧
    (bfaManager ∈ mf →
      ∃ j, (scan ssa mf i a).idxBFA = i + j ∧ mf[j]? = some bfaManager ∧
        ∀ j', j < j' → mf[j']? ≠ some bfaManager) :=
  last_index_loop bfaManager id Scan.idxBFA (scan ssa) (fun _ _ => rfl) fun _ _ _ _ => ⟨_, rfl, rfl⟩

end Xp.C07
