import Xp.Proofs.C17Res
/-
C17, Resolve next to other writers of the Lock (`resolveI`, `Interf`): the paths of `resolveI`
(`ResolvePath`, `resolveI_path`); the lock as last read holds only the revision's own entries
(`ownEntry_lastRead`); without other writers `resolveI` is `resolve` (`resolveI_quiet`), and what it
leaves in the lock (`resolve_lock`).
-/
namespace Xp.C17

/-- the Update of RemoveSelf, if Resolve sent it, was not refused -/
def RemoveOk (lock : List Pkg) (self : Pkg) (env : Interf) : Prop :=
  lock.any (movedEntry self) = true → (env.rmGet.getD lock).any (fun lp => lp.name == self.name) = true → env.rmUpd = none

/-- One constructor per way `resolveI false` comes out; `lastRead` is what its last Get returned. -/
inductive ResolvePath (o : Oracle) (upg : Bool) (lock : List Pkg) (self : Pkg) (env : Interf) : ResOut → Prop
  | noDag (e : DagErr) (hi : init o upg lock = .error e) : ResolvePath o upg lock self env ⟨self.deps.length, 0, 0, .initDag, lock⟩
  | removeRefused (w : List Pkg) (hm : lock.any (movedEntry self) = true)
      (hn : (env.rmGet.getD lock).any (fun lp => lp.name == self.name) = true) (hw : env.rmUpd = some w) :
      ResolvePath o upg lock self env ⟨self.deps.length, 0, 0, .conflict, w⟩
  | noDagAfter (e : DagErr)
      (hrm : RemoveOk lock self env)
      (hi : init o upg (lastRead lock self env) = .error e) :
      ResolvePath o upg lock self env ⟨self.deps.length, 0, 0, .initDag, lastRead lock self env⟩
  | updateRefused (d : Dag) (imp : List Dep) (w : List Pkg)
      (hrm : RemoveOk lock self env)
      (hi : init o upg (lastRead lock self env) = .ok (d, imp))
      (hp : (lastRead lock self env).any (fun lp => lp.name == self.name) = false) (hw : env.upd = some w) :
      ResolvePath o upg lock self env ⟨self.deps.length, 0, 0, .conflict, w⟩
  | tail (d : Dag) (imp : List Dep)
      (hrm : RemoveOk lock self env)
      (hi : init o upg (lastRead lock self env) = .ok (d, imp))
      (hu : (lastRead lock self env).any (fun lp => lp.name == self.name) = false → env.upd = none) :
      ResolvePath o upg lock self env (resolveTail o upg self (lastRead lock self env) d imp)

theorem resolveI_path (o : Oracle) (upg : Bool) (lock : List Pkg) (self : Pkg) (env : Interf) :
    ResolvePath o upg lock self env (resolveI false o upg lock self env) := by
  -- the last step: `resolveTailI` on the lock as last read
  have tailI : ∀ d imp,
      RemoveOk lock self env →
      init o upg (lastRead lock self env) = .ok (d, imp) →
      ResolvePath o upg lock self env (resolveTailI false o upg self (lastRead lock self env) d imp env.upd) := by
    intro d imp hrm hi
    unfold resolveTailI
    cases hpe : (lastRead lock self env).any (fun lp => lp.name == self.name) with
    | true => exact .tail d imp hrm hi (fun h => by rw [hpe] at h; cases h)
    | false =>
      cases hu : env.upd with
      | none => exact .tail d imp hrm hi (fun _ => hu)
      | some w => exact .updateRefused d imp w hrm hi hpe hu
  unfold resolveI
  cases hi0 : init o upg lock with
  | error e => exact .noDag e hi0
  | ok r0 =>
    dsimp only
    cases hm : lock.any (movedEntry self) with
    | false =>
      have hl : lastRead lock self env = lock := by unfold lastRead; rw [hm]; rfl
      have := tailI r0.1 r0.2 (fun h => by rw [hm] at h; cases h) (by rw [hl]; exact hi0)
      rw [hl] at this
      exact this
    | true =>
      have hl : lastRead lock self env = env.refresh.getD (removeSelf (env.rmGet.getD lock) self.name) := by
        unfold lastRead; rw [hm]; rfl
      rw [if_pos rfl]
      cases hw : (if (env.rmGet.getD lock).any (fun lp => lp.name == self.name) = true then env.rmUpd else none) with
      | some w =>
        by_cases hn : (env.rmGet.getD lock).any (fun lp => lp.name == self.name) = true
        · rw [if_pos hn] at hw; exact .removeRefused w hm hn hw
        · rw [if_neg hn] at hw; cases hw
      | none =>
        have hrm : RemoveOk lock self env := fun _ hn => by rw [if_pos hn] at hw; exact hw
        dsimp only
        rw [← hl]
        cases hi1 : init o upg (lastRead lock self env) with
        | error e => exact .noDagAfter e hrm hi1
        | ok r1 => exact tailI r1.1 r1.2 hrm hi1

theorem ownEntry_removeSelf {l : List Pkg} {self : Pkg} (wf : LockWF l self) : OwnEntry (removeSelf l self.name) self :=
  ⟨fun p hp hs => wf.own p (removeSelf_sub _ _ _ hp) hs,
   fun q hq hqn => absurd hqn (removeSelf_name l self.name wf.names q hq)⟩

theorem ownEntry_of_not_moved {lock : List Pkg} {self : Pkg} (wf : LockWF lock self)
    (hm : lock.any (movedEntry self) = false) : OwnEntry lock self := by
  refine ⟨wf.own, fun q hq hqn => Decidable.byContradiction fun hs => ?_⟩
  have : lock.any (movedEntry self) = true :=
    List.any_eq_true.2 ⟨q, hq, by simp [movedEntry, hqn, wf.untyped q hq hqn, hs]⟩
  rw [hm] at this; cases this

theorem ownEntry_lastRead {lock : List Pkg} {self : Pkg} {env : Interf} (wf : LockWF lock self) (ewf : EnvWF env self) :
    OwnEntry (lastRead lock self env) self := by
  unfold lastRead
  cases hm : lock.any (movedEntry self) with
  | false => exact ownEntry_of_not_moved wf hm
  | true =>
    rw [if_pos rfl]
    cases hr : env.refresh with
    | some w => exact ewf.refresh w hr
    | none =>
      cases hg : env.rmGet with
      | none => exact ownEntry_removeSelf wf
      | some w => exact ownEntry_removeSelf (ewf.rmGet w hg)

theorem resolveTailI_quiet (retry : Bool) (o : Oracle) (upg : Bool) (self : Pkg) (lock1 : List Pkg) (d : Dag)
    (implied : List Dep) : resolveTailI retry o upg self lock1 d implied none = resolveTail o upg self lock1 d implied := by
  unfold resolveTailI
  split <;> rfl

theorem resolveI_quiet (retry : Bool) (o : Oracle) (upg : Bool) (lock : List Pkg) (self : Pkg) :
    resolveI retry o upg lock self Interf.quiet = resolveG true o upg lock self := by
  unfold resolveI resolveG Interf.quiet
  cases hi0 : init o upg lock with
  | error e => rfl
  | ok r0 =>
    obtain ⟨d0, imp0⟩ := r0
    simp only [Option.getD_none, ite_self, Bool.and_true]
    cases hm : lock.any (movedEntry self) with
    | false =>
      simp only [Bool.false_eq_true, if_false]
      exact resolveTailI_quiet ..
    | true =>
      simp only [if_true]
      cases hi1 : init o upg (removeSelf lock self.name) with
      | error e => rfl
      | ok r1 =>
        obtain ⟨d1, imp1⟩ := r1
        exact resolveTailI_quiet ..

theorem EnvWF.quiet (self : Pkg) : EnvWF Interf.quiet self := ⟨nofun, nofun⟩

theorem resolve_lock (o : Oracle) (upg : Bool) (lock : List Pkg) (self : Pkg) :
    (∀ p ∈ lock, p.name ≠ self.name → p ∈ (resolveG true o upg lock self).lock) ∧
    (∀ p ∈ (resolveG true o upg lock self).lock, p ∈ lock ∨ p = self) ∧
    ((resolveG true o upg lock self).err ≠ .initDag →
      (∃ p ∈ (resolveG true o upg lock self).lock, p.name = self.name) ∧
      (LockWF lock self → ∀ p ∈ (resolveG true o upg lock self).lock, p.name = self.name → p.source = self.source)) := by
  rw [← resolveI_quiet false]
  have hsub : ∀ q ∈ lastRead lock self Interf.quiet, q ∈ lock := by
    intro q hq
    unfold lastRead at hq
    split at hq
    · exact removeSelf_sub _ _ _ hq
    · exact hq
  have hkeep : ∀ p ∈ lock, p.name ≠ self.name → p ∈ lastRead lock self Interf.quiet := by
    intro p hp hn
    unfold lastRead
    split
    · exact mem_removeSelf_of_ne hn lock hp
    · exact hp
  have hp := resolveI_path o upg lock self Interf.quiet
  generalize resolveI false o upg lock self Interf.quiet = out at hp
  cases hp with
  | noDag => exact ⟨fun p hp _ => hp, fun p hp => .inl hp, fun h => absurd rfl h⟩
  | removeRefused _ _ _ hw => cases hw
  | updateRefused _ _ _ _ _ _ hw => cases hw
  | noDagAfter => exact ⟨hkeep, fun p hp => .inl (hsub p hp), fun h => absurd rfl h⟩
  | tail d imp =>
    rw [(resolveTail_spec ..).1]
    cases hpe : (lastRead lock self Interf.quiet).any (fun lp => lp.name == self.name) with
    | true =>
      obtain ⟨q, hq, hqn⟩ := List.any_eq_true.1 hpe
      exact ⟨hkeep, fun p hp => .inl (hsub p hp), fun _ => ⟨⟨q, hq, by simpa using hqn⟩,
        fun wf => (ownEntry_lastRead wf (EnvWF.quiet self)).named⟩⟩
    | false =>
      refine ⟨fun p hp hn => List.mem_append_left _ (hkeep p hp hn), fun p hp => ?_,
        fun _ => ⟨⟨self, by simp, rfl⟩, fun wf p hp hn => ?_⟩⟩
      · exact (List.mem_append.1 hp).imp (hsub p) List.mem_singleton.1
      · rcases List.mem_append.1 hp with hp | hp
        · exact (ownEntry_lastRead wf (EnvWF.quiet self)).named p hp hn
        · rw [List.mem_singleton.1 hp]

end Xp.C17
