import Xp.Model.C14World
import Xp.Proofs.C14
/-
C14 in the world of Model/C14World.lean (lagging cache, other clients, error classes).  Fresh cache + nobody else +
plain fault plan is `Xp.run sem`, result and instants (`runW_fresh`, `mem_reach_fresh`).  `TriA` / `TriAt` are a
rely/guarantee Hoare calculus over every schedule (every error class, other clients obeying a rely before every
call); what a triple says of the fresh world is read in the plain model (`TriAt.reach_plain`, `TriAt.run_plain`).
The rely `Quiet` is `QuietR` (Proofs/C14.lean) of the stored revisions and "a fresh revision cache stays fresh";
every action of another client obeys it (`actW_quiet`).
-/
namespace Xp.C14

/-! ### fresh cache, nobody else, plain fault plan: `Xp.run sem` -/

/-- nothing distinguishes this world from the plain one: fresh cache, nothing moved on -/
def FreshW (w : World) : Prop := w.view.revs = none ∧ w.view.pkg = none ∧ w.dirty = [] ∧ w.pkgDirty = false

theorem FreshW_fresh (s : Store) : FreshW (World.fresh s) := ⟨rfl, rfl, rfl, rfl⟩

theorem exec_getRev (s : Store) (n : String) :
    exec s (.getRev n) = (s, match findRev n s.revs with | some r => .rev r | none => .err .notFound) := by
  simp only [exec]
  cases findRev n s.revs <;> rfl

theorem execW_fresh (w : World) (r : Req) (h : FreshW w) :
    (execW w r).1.live = (exec w.live r).1 ∧ (execW w r).2 = (exec w.live r).2 ∧ FreshW (execW w r).1 := by
  obtain ⟨h1, h2, h3, h4⟩ := h
  cases r with
  | getPkg n => simp [execW, FreshW, h1, h2, h3, exec_getPkg_store]
  | statusPkg n st => simp [execW, liftW, FreshW, h1, h2, h3, h4]
  | listRevs par => simp [execW, cachedRevs, FreshW, h1, h2, h3, h4, exec]
  | listImageConfigs => simp [execW, FreshW, h1, h2, h3, h4, exec]
  | getRev n =>
    simp only [execW, cachedRevs, h1, Option.getD_none, exec_getRev]
    cases findRev n w.live.revs <;> simp [FreshW, h1, h2, h3, h4]
  | createRev d b =>
    simp only [execW, wrote, liftW]
    split <;> simp [FreshW, undirty, h1, h2, h3, h4]
  | patchRev d =>
    simp only [execW]
    cases hf : findRev d.name w.live.revs with
    | none => simp [exec, hf, FreshW, h1, h2, h3, h4]
    | some c =>
      simp only [h3, List.not_mem_nil, and_false, if_false, wrote, liftW]
      split <;> simp [FreshW, undirty, h1, h2, h4]
  | updateRev d =>
    simp only [execW]
    cases hf : findRev d.name w.live.revs with
    | none => simp [exec, hf, FreshW, h1, h2, h3, h4]
    | some c =>
      simp only [h3, List.not_mem_nil, if_false, wrote, liftW]
      split <;> simp [FreshW, undirty, h1, h2, h4]
  | deleteRev n => simp [execW, liftW, FreshW, h1, h2, h3, h4]
  | env a => simp [execW, liftW, FreshW, h1, h2, h3, h4]

variable {α : Type}
section eqns
variable (sc : Sched) (k : Nat) (r : Req) (c : Resp → P α) (w : World)
theorem heardW_crashBefore (h : sc.out k = .crashBefore) : heardW sc k (.call r c) w = [] := by
  simp [heardW, h]
theorem heardW_crashAfter (h : sc.out k = .crashAfter) : heardW sc k (.call r c) w = [] := by
  simp [heardW, h]
end eqns

theorem failResp_other (r : Req) : failResp .other r = errResp .fail r := by
  simp [failResp, errResp]

theorem failResp_conflict (r : Req) : failResp .conflict r = errResp .conflict r := by
  unfold failResp errResp
  cases h : isWrite r <;> simp [h]

theorem ofPlan_env (plan : Plan) (k : Nat) (w : World) : (Sched.ofPlan plan).env k w = w := rfl

theorem ofPlan_out (plan : Plan) (k : Nat) : (Sched.ofPlan plan).out k =
    match plan k with
    | .ok => .ok
    | .fail => .fail .other
    | .conflict => .fail .conflict
    | .crashBefore => .crashBefore
    | .crashAfter => .crashAfter := rfl

theorem runW_fresh (plan : Plan) (k : Nat) (p : P α) (w : World) (h : FreshW w) :
    (runW (Sched.ofPlan plan) k p w).1.live = (run sem plan k p w.live).1 ∧
    (runW (Sched.ofPlan plan) k p w).2 = (run sem plan k p w.live).2 := by
  induction p generalizing k w with
  | ret a => exact ⟨rfl, rfl⟩
  | call r c ih =>
    obtain ⟨e1, e2, e3⟩ := execW_fresh w r h
    simp only [runW, Xp.run, ofPlan_out, ofPlan_env, sem]
    cases plan k <;> simp only [failResp_other, failResp_conflict]
    · rw [← e2, ← e1]; exact ih _ (k+1) _ e3
    · exact ih _ (k+1) w h
    · exact ih _ (k+1) w h
    · exact ⟨trivial, trivial⟩
    · exact ⟨e1, trivial⟩

theorem runW_of_run {plan : Plan} {k : Nat} {p : P α} {s s' : Store} {a : α} (hr : run sem plan k p s = (s', some a)) :
    (runW (Sched.ofPlan plan) k p (World.fresh s)).2 = some a ∧ (runW (Sched.ofPlan plan) k p (World.fresh s)).1.live = s' :=
  have ⟨e1, e2⟩ := runW_fresh plan k p (World.fresh s) (FreshW_fresh s)
  ⟨e2.trans (congrArg Prod.snd hr), e1.trans (congrArg Prod.fst hr)⟩

theorem mem_reach_fresh (plan : Plan) (k : Nat) (p : P α) (w : World) (h : FreshW w) (s' : Store) :
    s' ∈ reach sem plan k p w.live ↔ ∃ w' ∈ reachW (Sched.ofPlan plan) k p w, w'.live = s' := by
  induction p generalizing k w with
  | ret a => simp [reachW, Xp.reach, eq_comm]
  | call r c ih =>
    obtain ⟨e1, e2, e3⟩ := execW_fresh w r h
    have hstart : ∀ (q : P α), w.live ∈ reach sem plan (k+1) q w.live := fun q => by
      obtain ⟨l, hl⟩ := start_mem_reach sem plan (k+1) q w.live
      rw [hl]; exact List.mem_cons_self
    have hcons : ∀ (a : World) (l : List World),
        (∃ w' ∈ a :: l, w'.live = s') ↔ s' = a.live ∨ ∃ w' ∈ l, w'.live = s' := by
      intro a l
      simp only [List.mem_cons, exists_eq_or_imp]
      exact or_congr eq_comm Iff.rfl
    cases hk : plan k with
    | ok =>
      -- the world lists `w` twice (nobody acts before the call), then goes on as the plain run
      simp only [reachW, ofPlan_out, hk, ofPlan_env]
      rw [reach_ok sem plan k r c w.live hk, hcons, hcons, ← ih _ (k+1) _ e3, e1, e2, List.mem_cons, or_self_left]
      rfl
    | fail =>
      -- the world lists `w`, the plain run goes on from the same store, where it lists it first
      simp only [reachW, ofPlan_out, hk, ofPlan_env]
      rw [reach_fail sem plan k r c w.live hk, hcons, failResp_other, ← ih _ (k+1) _ h]
      exact (or_iff_right_of_imp fun e => by rw [e]; exact hstart _).symm
    | conflict =>
      simp only [reachW, ofPlan_out, hk, ofPlan_env]
      rw [reach_conflict sem plan k r c w.live hk, hcons, failResp_conflict, ← ih _ (k+1) _ h]
      exact (or_iff_right_of_imp fun e => by rw [e]; exact hstart _).symm
    | crashBefore =>
      simp only [reachW, ofPlan_out, hk, ofPlan_env]
      rw [reach_crashBefore sem plan k r c w.live hk, hcons, hcons]
      simp
    | crashAfter =>
      simp only [reachW, ofPlan_out, hk, ofPlan_env]
      rw [reach_crashAfter sem plan k r c w.live hk, hcons, hcons, hcons, e1]
      simp only [List.mem_cons, List.not_mem_nil, or_false, or_self_left, false_and, exists_false]
      rfl

theorem ofPlan_out_ne_notFound (plan : Plan) (k : Nat) : (Sched.ofPlan plan).out k ≠ .fail .notFound := by
  rw [ofPlan_out]
  cases plan k <;> simp

variable {β : Type}

/-! ### a rely/guarantee calculus over every schedule -/

/-- `TriA Rl I Q p w`: running `p` from `w` under ANY schedule - any outcome and error class of
any call, other clients moving the world along `Rl` before every call - every world that becomes
visible satisfies `I`, and if the program returns `a` in world `w'` then `Q w' a`. -/
def TriA (Rl : World → World → Prop) (I : World → Prop) (Q : World → α → Prop) : P α → World → Prop
  | .ret a, w => Q w a
  | .call r c, w => ∀ w', Rl w w' →
      I w' ∧ I (execW w' r).1 ∧ TriA Rl I Q (c (execW w' r).2) (execW w' r).1 ∧
      ∀ e, TriA Rl I Q (c (failResp e r)) w'

/-- `TriA` from call index `k` on, for the schedules whose failures are among `Fl` (`Fl i e`: call `i` may fail
with an error of class `e`) -/
def TriAt (Fl : Nat → Err → Prop) (Rl : World → World → Prop) (I : World → Prop) (Q : World → α → Prop) :
    Nat → P α → World → Prop
  | _, .ret a, w => Q w a
  | k, .call r c, w => ∀ w', Rl w w' →
      I w' ∧ I (execW w' r).1 ∧ TriAt Fl Rl I Q (k+1) (c (execW w' r).2) (execW w' r).1 ∧
      ∀ e, Fl k e → TriAt Fl Rl I Q (k+1) (c (failResp e r)) w'

theorem TriA.at {Fl : Nat → Err → Prop} {Rl : World → World → Prop} {I : World → Prop} {Q : World → α → Prop}
    (k : Nat) (p : P α) (w : World) (h : TriA Rl I Q p w) : TriAt Fl Rl I Q k p w := by
  induction p generalizing k w with
  | ret a => exact h
  | call r c ih =>
    intro w' hr
    obtain ⟨h1, h2, h3, h4⟩ := h w' hr
    exact ⟨h1, h2, ih _ _ _ h3, fun e _ => ih _ _ _ (h4 e)⟩

section sched
variable {Fl : Nat → Err → Prop} {Rl : World → World → Prop} {I : World → Prop} {Q : World → α → Prop}
  (sc : Sched) (henv : ∀ k w, Rl w (sc.env k w)) (hfl : ∀ k e, sc.out k = .fail e → Fl k e)
include henv hfl

theorem TriAt.reach (k : Nat) (p : P α) (w : World) (hw : I w) (h : TriAt Fl Rl I Q k p w) :
    ∀ w' ∈ reachW sc k p w, I w' := by
  fun_induction reachW sc k p w with
  | case1 => exact fun w' hm => List.mem_singleton.mp hm ▸ hw
  | case2 k r c w _ ih => -- applied
    obtain ⟨h1, h2, h3, _⟩ := h _ (henv k w)
    exact List.forall_mem_cons.mpr ⟨hw, List.forall_mem_cons.mpr ⟨h1, ih h2 h3⟩⟩
  | case3 k r c w e ho ih => -- failed
    obtain ⟨h1, _, _, h4⟩ := h _ (henv k w)
    exact List.forall_mem_cons.mpr ⟨hw, ih h1 (h4 e (hfl k e ho))⟩
  | case4 k r c w => -- crash before
    obtain ⟨h1, _⟩ := h _ (henv k w)
    simpa using ⟨hw, h1⟩
  | case5 k r c w => -- crash after
    obtain ⟨h1, h2, _⟩ := h _ (henv k w)
    simpa using ⟨hw, h1, h2⟩

theorem TriAt.run (k : Nat) (p : P α) (w : World) (h : TriAt Fl Rl I Q k p w) (a : α)
    (hr : (runW sc k p w).2 = some a) : Q (runW sc k p w).1 a := by
  fun_induction runW sc k p w with
  | case1 => cases hr; exact h
  | case2 k r c w _ ih => exact ih (h _ (henv k w)).2.2.1 hr
  | case3 k r c w e ho ih => exact ih ((h _ (henv k w)).2.2.2 e (hfl k e ho)) hr
  | case4 => cases hr
  | case5 => cases hr

end sched

theorem TriA.bind {Rl : World → World → Prop} {I : World → Prop} {Q' : World → α → Prop} {Q : World → β → Prop}
    (p : P α) (f : α → P β) (w : World) (h : TriA Rl I Q' p w)
    (hf : ∀ w a, Q' w a → TriA Rl I Q (f a) w) : TriA Rl I Q (Prog.bind p f) w := by
  induction p generalizing w with
  | ret a => exact hf _ _ h
  | call r c ih =>
    intro w' hr
    obtain ⟨h1, h2, h3, h4⟩ := h w' hr
    exact ⟨h1, h2, ih _ _ h3, fun e => ih _ _ (h4 e)⟩

/-- the verdict on a completed reconcile of `q`: no revision of `pname` (= `q`) other than the
current one is Active -/
def QDone (pname q : String) (w : World) (r : Res) : Prop :=
  ∀ c a, r = .done c a → q = pname → NoOther pname c w.live.revs


theorem QDone_err (pname q : String) (w : World) : QDone pname q w .err := fun _ _ e => by cases e
theorem QDone_requeue (pname q : String) (w : World) : QDone pname q w .requeue := fun _ _ e => by cases e
theorem QDone_paused (pname q : String) (w : World) : QDone pname q w .paused := fun _ _ e => by cases e
theorem QDone_gone (pname q : String) (w : World) : QDone pname q w .gone := fun _ _ e => by cases e

/-! ### the world's API server, request by request -/

/-- the world after a Patch or Update of revision `n` answered with the object `m` -/
def patched (a : World) (n : String) (m : Rev) : World :=
  undirty n { a with live := { a.live with revs := setRev m a.live.revs } }

/-- the world after a Create of revision `n` answered with the object `m` -/
def created (a : World) (n : String) (m : Rev) : World :=
  undirty n { a with live := { a.live with revs := insertRev m a.live.revs } }

theorem patched_view (a : World) (n : String) (m : Rev) : (patched a n m).view = a.view := rfl
theorem created_view (a : World) (n : String) (m : Rev) : (created a n m).view = a.view := rfl

theorem execW_getRev (a : World) (n : String) (hf : a.view.revs = none) :
    execW a (.getRev n) = (a, match findRev n a.live.revs with | some r => .rev r | none => .err .notFound) := by
  simp only [execW, cachedRevs, hf, Option.getD_none]
  cases findRev n a.live.revs <;> rfl

theorem execW_patchRev (a : World) (d : Rev) :
    (∃ e, execW a (.patchRev d) = (a, .err e)) ∨
    ∃ c, findRev d.name a.live.revs = some c ∧
      execW a (.patchRev d) = (patched a d.name (mergeRev c d), .rev (mergeRev c d)) := by
  cases hf : findRev d.name a.live.revs with
  | none => exact .inl ⟨.notFound, by simp [execW, hf]⟩
  | some c =>
    by_cases hd : d.name ∈ a.listed ∧ d.name ∈ a.dirty
    · exact .inl ⟨.conflict, by simp [execW, hf, hd]⟩
    · exact .inr ⟨c, rfl, by simp only [execW, hf, if_neg hd, wrote, liftW, exec, patched]⟩

theorem execW_createRev (a : World) (d : Rev) (b : Bool) :
    (∃ e, execW a (.createRev d b) = (a, .err e)) ∨
    (findRev d.name a.live.revs = none ∧ b = false ∧
      execW a (.createRev d b) = (created a d.name { d with deleting := false }, .rev { d with deleting := false })) := by
  cases hf : findRev d.name a.live.revs with
  | some c => exact .inl ⟨.other, by simp [execW, wrote, liftW, exec, hf]⟩
  | none =>
    cases b with
    | true => exact .inl ⟨.other, by simp [execW, wrote, liftW, exec, hf]⟩
    | false => exact .inr ⟨rfl, rfl, by simp [execW, wrote, liftW, exec, hf, created]⟩

theorem execW_updateRev (a : World) (d : Rev) :
    (∃ e, execW a (.updateRev d) = (a, .err e)) ∨
    ∃ c, findRev d.name a.live.revs = some c ∧
      execW a (.updateRev d) = (patched a d.name { d with deleting := c.deleting }, .rev { d with deleting := c.deleting }) := by
  cases hf : findRev d.name a.live.revs with
  | none => exact .inl ⟨.notFound, by simp [execW, hf]⟩
  | some c =>
    by_cases hd : d.name ∈ a.dirty
    · exact .inl ⟨.conflict, by simp [execW, hf, hd]⟩
    · exact .inr ⟨c, rfl, by simp only [execW, hf, if_neg hd, wrote, liftW, exec, patched]⟩

theorem execW_statusPkg_revs (a : World) (n : String) (st : Status) :
    (execW a (.statusPkg n st)).1.live.revs = a.live.revs ∧ (execW a (.statusPkg n st)).1.view = a.view := by
  simp only [execW]
  split
  · exact ⟨rfl, rfl⟩
  · exact ⟨exec_statusPkg_revs _ _ _, rfl⟩

theorem execW_statusPkg_resp (a : World) (n : String) (st : Status) :
    (execW a (.statusPkg n st)).2 = .ok ∨ ∃ e, (execW a (.statusPkg n st)).2 = .err e := by
  simp only [execW]
  split
  · exact .inr ⟨_, rfl⟩
  · rcases exec_statusPkg_resp a.live n st with e | e
    · exact .inl e
    · exact .inr ⟨_, e⟩

theorem failResp_write (e : Err) (r : Req) (h : isWrite r = true) : failResp e r = .err e := by
  simp [failResp, h]

theorem execW_getPkg_same (a : World) (n : String) :
    (execW a (.getPkg n)).1.live = a.live ∧ (execW a (.getPkg n)).1.view = a.view := by
  simp only [execW]
  split
  · exact ⟨rfl, rfl⟩
  · exact ⟨rfl, rfl⟩
  · split <;> exact ⟨rfl, rfl⟩

theorem execW_getPkg_pkg (a : World) (n : String) (p : Pkg) (h : (execW a (.getPkg n)).2 = .pkg p) : p.name = n := by
  simp only [execW] at h
  split at h
  · exact (exec_getPkg_pkg h).2
  · cases h
  · split at h
    · rename_i q hn; cases h; exact hn
    · cases h

/-! ### schedules whose List is not answered NotFound, and the plain model read off a triple over them -/

/-- the List of revisions (the second call of a reconcile that starts at call `k0`) is not answered NotFound -/
def ListOk (k0 k : Nat) (e : Err) : Prop := k = k0 + 1 → e ≠ .notFound

theorem listOk_of {sc : Sched} {k0 : Nat} (hlist : sc.out (k0 + 1) ≠ .fail .notFound) :
    ∀ k e, sc.out k = .fail e → ListOk k0 k e := by
  intro k e ho hk he
  subst hk; subst he
  exact hlist ho

section bridge
variable {I : World → Prop} {Q : World → α → Prop} (plan : Plan) (k : Nat) (p : P α) (s : Store)
  (h : TriAt (ListOk k) Eq I Q k p (World.fresh s))
include h

theorem TriAt.reach_plain (hI : I (World.fresh s)) : ∀ s' ∈ Xp.reach sem plan k p s, ∃ w, w.live = s' ∧ I w := fun s' hs' =>
  have ⟨w, hw, e⟩ := (mem_reach_fresh plan k p (World.fresh s) (FreshW_fresh s) s').mp hs'
  ⟨w, e, TriAt.reach (Sched.ofPlan plan) (fun _ _ => rfl) (listOk_of (ofPlan_out_ne_notFound plan (k + 1))) k p _ hI h w hw⟩

theorem TriAt.run_plain (s' : Store) (a : α) (hr : Xp.run sem plan k p s = (s', some a)) : ∃ w, w.live = s' ∧ Q w a :=
  ⟨_, (runW_of_run hr).2,
    TriAt.run (Sched.ofPlan plan) (fun _ _ => rfl) (listOk_of (ofPlan_out_ne_notFound plan (k + 1))) k p _ h a (runW_of_run hr).1⟩

end bridge

/-! ### the rely: what other clients do between two calls -/

/-- Other clients never add an Active revision of any package (they may edit the package,
write, deactivate, delete or create-inactive revisions, let the cache catch up), keep names
unique, and never make a fresh revision cache lag. -/
def Quiet (a b : World) : Prop :=
  (a.view.revs = none → b.view.revs = none) ∧
  ((a.live.revs.map (·.name)).Nodup → (b.live.revs.map (·.name)).Nodup) ∧
  ∀ pn, ActSub pn b.live.revs a.live.revs

theorem Quiet.refl (a : World) : Quiet a a := ⟨id, id, fun pn => ActSub_refl pn _⟩

theorem Quiet.trans {a b c : World} (h1 : Quiet a b) (h2 : Quiet b c) : Quiet a c :=
  ⟨fun h => h2.1 (h1.1 h), fun h => h2.2.1 (h1.2.1 h), fun pn => ActSub_trans (h2.2.2 pn) (h1.2.2 pn)⟩

theorem actW_quiet (w : World) (a : Act) : Quiet w (actW w a) := by
  fun_cases actW w a with
  | case2 => exact ⟨id, id, fun pn => ActSub_refl pn _⟩ -- the package's spec is edited
  | case4 n c hf => -- touch: the revision gets its finalizer
    exact ⟨id, quietR_setRev (findRev_some hf).1 rfl fun pn ax => by simpa [isActive, labelled] using ax⟩
  | case7 n c hf => -- delete of a revision held by a finalizer: marked
    exact ⟨id, quietR_setRev (findRev_some hf).1 rfl fun pn ax => by simpa [isActive, labelled] using ax⟩
  | case8 => exact ⟨id, quietR_filter _ _⟩ -- delete: removed
  | case11 n c hf => -- deactivated
    exact ⟨id, quietR_setRev (findRev_some hf).1 rfl fun pn ax => by simp [isActive] at ax⟩
  | case14 r hf => -- created: stored Inactive if it was to be Active, else with its own state
    refine ⟨id, nodup_insertRev (findRev_none hf), fun pn => ActSub_insertRev ?_⟩
    simp only [isActive, Bool.and_eq_false_iff, decide_eq_false_iff_not]
    right
    by_cases hs : r.state = .active
    · rw [if_pos hs]; exact fun h => nomatch h
    · rw [if_neg hs]; exact hs
  | case15 => exact ⟨fun _ => rfl, id, fun pn => ActSub_refl pn _⟩ -- the cache catches up
  | _ => exact Quiet.refl w -- nothing changes

end Xp.C14
