import Xp.Proofs.C07SSA
/-
C07, the client-side syncer at the value level: what the merge patch stores and leaves alone, the claim it binds
(`csaBound_*`), the status and spec it merges back (`csaMergeStatus_machinery`, `alookup_csaClaimSpec_filtered/_rev`),
and the sync as a whole: it fails in the status merge or stores `csaLast` (`syncCSA_cases`, with `syncCSA_st`,
`syncCSA_ok`, `csaApplied_cases`).
-/
namespace Xp.C07
open Xp

theorem mergePatchXR_spec_untouched (x d : KObj) (pf : AL J) (k : String)
    (hp : d.spec = some (.obj pf)) (hk : alookup k pf = none) :
    alookup k (mergePatchXR x d).specFields = alookup k x.specFields := by
  simp only [mergePatchXR, KObj.specFields, hp, mpV, objFields]
  exact mpF_untouched k pf _ hk

theorem mergePatchXR_status (x d : KObj) : (mergePatchXR x d).status = x.status := rfl

theorem mergePatch_keeps_owned (c : Cfg) (gen : String) (rcm : KObj) (rxr : Option KObj) (cs : AL J)
    (cur : KObj) (hv : ClaimValid cs) :
    let y := mergePatchXR cur (csaDesired c gen rcm rxr cs)
    (∀ k, XrOwned k → alookup k y.specFields = alookup k cur.specFields) ∧ y.status = cur.status :=
  ⟨fun k hk => mergePatchXR_spec_untouched cur _ _ k rfl (specToXR_not_owned c rcm _ hv hk), rfl⟩

theorem mergePatchXR_anns (x p : KObj) : (mergePatchXR x p).anns = addAll x.anns p.anns := by
  unfold mergePatchXR KObj.anns
  cases p.annotations <;> rfl

theorem mergePatchXR_labels_untouched (x d : KObj) (k : String) (h : alookup k d.labels = alookup k x.labels)
    (hnd : NoDup d.labels) : alookup k (mergePatchXR x d).labels = alookup k x.labels :=
  alookup_addAll_same _ _ k h hnd

theorem mergePatchXR_anns_untouched (x d : KObj) (k : String) (h : alookup k d.anns = alookup k x.anns)
    (hnd : NoDup d.anns) : alookup k (mergePatchXR x d).anns = alookup k x.anns := by
  rw [mergePatchXR_anns]
  exact alookup_addAll_same _ _ k h hnd

theorem NoDup_csaDesired_anns (c : Cfg) (gen : String) (cm : KObj) (xr : Option KObj) (cs : AL J)
    (hc : NoDup cm.anns) (hx : NoDup (xr.getD { name := "" }).anns) : NoDup (csaDesired c gen cm xr cs).anns := by
  have h1 := NoDup_addAnn _ _ hx (by rw [getD_unreserved]; exact NoDup_filter _ _ hc)
  simp only [csaDesired, KObj.anns]
  split
  · rw [getD_setAnn]
    exact NoDup_aset _ _ _ h1
  · exact h1

theorem csaMergeStatus_machinery (a b st' : Option J) (h : csaMergeStatus a b = .ok st') (k : String)
    (hk : statusMachinery k = true) : alookup k (objFields st') = alookup k (objFields a) := by
  unfold csaMergeStatus at h
  split at h
  · cases h; rfl
  · cases h; rfl
  · cases h
    simp only [objFields]
    apply mergeF_untouched
    rw [alookup_withoutKeys, statusProps_contains, hk]; rfl
  · cases h

theorem csaMergeStatus_err_ne (a b : Option J) (e : String) (h : csaMergeStatus a b = .error e) : e ≠ "" := by
  unfold csaMergeStatus at h
  split at h <;> first | (cases h; done) | (cases h; decide)

theorem alookup_csaClaimSpec_filtered (cs xs : AL J) (k : String) (hk : owner k = .xrOnly ∨ owner k = .eachSide) :
    alookup k (csaClaimSpec cs xs) = alookup k cs := by
  have hf : xrFilter.contains k = true := by
    rw [xrFilter_contains]; rcases hk with h | h <;> rw [h]
  have hne : k ≠ revKey := fun e => by
    rw [e, owner_revKey] at hk; rcases hk with h | h <;> cases h
  unfold csaClaimSpec
  simp only []
  rw [mergeF_untouched]
  · split
    · exact alookup_aset_ne _ _ _ hne _
    · rfl
  · rw [alookup_withoutKeys, hf]; rfl

/-- The explicit null (Automatic, the XR has no revision) is what the API server prunes after the sync
(`dropNullSpec`). -/
theorem alookup_csaClaimSpec_rev (cs xs : AL J) :
    alookup revKey (csaClaimSpec cs xs) =
      if policyOf xs = some "Automatic" then some ((alookup revKey xs).getD .null)
      else alookup revKey cs := by
  have hf : xrFilter.contains revKey = true := by
    rw [xrFilter_contains, owner_revKey]
  unfold csaClaimSpec
  simp only []
  rw [mergeF_untouched]
  · by_cases hp : policyOf xs = some "Automatic"
    · simp only [hp, beq_self_eq_true, if_true]
      exact alookup_aset_self _ _ _
    · have : (policyOf xs == some "Automatic") = false := by simpa using hp
      simp only [this, hp, if_false]
      rfl
  · rw [alookup_withoutKeys, hf]; rfl

theorem csaBound_status (c : Cfg) (gen : String) (s : St) (cs : AL J) :
    (csaBound c gen s cs).status = s.cm.status := by
  unfold csaBound
  simp only []
  split <;> rfl

theorem csaBound_spec (c : Cfg) (gen : String) (s : St) (cs : AL J) (h : s.cm.spec = some (.obj cs)) :
    (csaBound c gen s cs).spec = some (.obj (csaBound c gen s cs).specFields) ∧
      ∀ k, k ≠ "resourceRef" → alookup k (csaBound c gen s cs).specFields = alookup k cs := by
  unfold csaBound
  simp only []
  split
  · refine ⟨?_, fun _ _ => ?_⟩ <;> simp only [KObj.specFields, h, objFields]
  · exact ⟨rfl, fun k hk => alookup_aset_ne _ _ _ hk _⟩

theorem csaBound_meta (c : Cfg) (gen : String) (s : St) (cs : AL J) :
    ClaimMetaOf s.cm "" (csaBound c gen s cs) := by
  unfold csaBound
  simp only []
  split
  · exact ClaimMetaOf_self _
  · exact ClaimMetaOf_self _

/-- the body of the client-side syncer's last Update, which is also the claim it leaves in the store -/
def csaLast (cm1 xrA : KObj) (st' : Option J) : KObj :=
  { cm1 with
    annotations := if extName (some xrA) != "" then setAnn cm1.annotations extNameKey (extName (some xrA))
      else cm1.annotations
    spec := some (.obj (csaClaimSpec cm1.specFields xrA.specFields))
    status := st' }

theorem csaLast_specFields (cm1 xrA : KObj) (st' : Option J) :
    (csaLast cm1 xrA st').specFields = csaClaimSpec cm1.specFields xrA.specFields := rfl

theorem csaLast_status (cm1 xrA : KObj) (st' : Option J) : (csaLast cm1 xrA st').status = st' := rfl

theorem csaBack_eq (c : Cfg) (cm1 xrA : KObj) (s1 : St) (w : List Write)
    (h : cm1.spec = some (.obj cm1.specFields)) :
    csaBack c cm1 xrA s1 w =
      match csaMergeStatus cm1.status xrA.status with
      | .error e => { st := s1, writes := w, err := e }
      | .ok st' =>
        { st := { s1 with cm := csaLast cm1 xrA st', xr := some xrA }
          writes := w ++ [.claimStatus { cm1 with status := st' }, .claimUpdate (csaLast cm1 xrA st')] } := by
  unfold csaBack
  cases csaMergeStatus cm1.status xrA.status with
  | error e => rfl
  | ok st' =>
    simp only [storeClaimStatus, storeClaimUpdate]
    rw [h]
    simp only [csaLast, List.append_assoc, List.cons_append, List.nil_append]

/-- `csaBack`'s third way out, "mergeSpec", does not occur: the bound claim's spec is an object (`csaBound_spec`).
`cm1`, `xrA` only abbreviate the two terms in the statement (callers pass `_ _ rfl rfl`). -/
theorem syncCSA_cases (c : Cfg) (gen : String) (s : St) (cs : AL J) (h : s.cm.spec = some (.obj cs))
    (cm1 xrA : KObj) (h1 : cm1 = csaBound c gen s cs) (hA : xrA = csaApplied c gen s cs) :
    ∃ w, (∀ x ∈ w, x.isXR = false → x.body = csaBind c (csaDesired c gen s.cm s.xr cs).name s.cm cs) ∧
      syncCSA c gen s =
        match csaMergeStatus cm1.status xrA.status with
        | .error e => { st := { s with cm := cm1, xr := some xrA }, writes := w, err := e }
        | .ok st' =>
          { st := { s with cm := csaLast cm1 xrA st', xr := some xrA }
            writes := w ++ [.claimStatus { cm1 with status := st' }, .claimUpdate (csaLast cm1 xrA st')] } := by
  subst h1 hA
  refine ⟨_, fun x hx hxr => ?_, by unfold syncCSA; rw [h]; exact csaBack_eq c _ _ _ _ (csaBound_spec c gen s cs h).1⟩
  rcases List.mem_append.mp hx with hx | hx
  · split at hx
    · cases hx
    · rw [List.mem_singleton.mp hx]; rfl
  · -- the second group holds writes of the XR only
    have : x.isXR = true := by
      split at hx
      · rw [List.mem_singleton.mp hx]; rfl
      · split at hx
        · cases hx
        · rw [List.mem_singleton.mp hx]; rfl
    rw [this] at hxr
    cases hxr

theorem csaBack_st (c : Cfg) (cm1 xrA : KObj) (s1 : St) (w : List Write) (h : s1.xr = some xrA) :
    (csaBack c cm1 xrA s1 w).st.xr = some xrA ∧ (csaBack c cm1 xrA s1 w).st.prev = s1.prev := by
  unfold csaBack
  split
  · exact ⟨h, rfl⟩
  · simp only []
    split <;> exact ⟨rfl, rfl⟩

theorem syncCSA_st (c : Cfg) (gen : String) (s : St) (cs : AL J) (h : s.cm.spec = some (.obj cs)) :
    (syncCSA c gen s).st.xr = some (csaApplied c gen s cs) ∧ (syncCSA c gen s).st.prev = s.prev := by
  unfold syncCSA
  rw [h]
  exact csaBack_st _ _ _ _ _ rfl

theorem syncCSA_ok (c : Cfg) (gen : String) (s : St) (cs : AL J) (h : s.cm.spec = some (.obj cs))
    (herr : (syncCSA c gen s).err = "") :
    ∃ st', csaMergeStatus (csaBound c gen s cs).status (csaApplied c gen s cs).status = .ok st' ∧
      (syncCSA c gen s).st.cm = csaLast (csaBound c gen s cs) (csaApplied c gen s cs) st' := by
  obtain ⟨w, -, e⟩ := syncCSA_cases c gen s cs h _ _ rfl rfl
  rw [e] at herr ⊢
  cases hm : csaMergeStatus (csaBound c gen s cs).status (csaApplied c gen s cs).status with
  | error e' =>
    rw [hm] at herr
    exact absurd herr (csaMergeStatus_err_ne _ _ e' hm)
  | ok st' => exact ⟨st', rfl, rfl⟩

theorem csaApplied_cases (c : Cfg) (gen : String) (s : St) (cs : AL J) (x : KObj) (hx : s.xr = some x) :
    csaApplied c gen s cs = x ∨ csaApplied c gen s cs = mergePatchXR x (csaDesired c gen s.cm (some x) cs) := by
  unfold csaApplied
  simp only [hx]
  split
  · exact .inl rfl
  · exact .inr rfl

end Xp.C07
