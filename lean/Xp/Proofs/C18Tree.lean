import Xp.Model.C18
/-
What the rule tree of C18 decides.

`tree_allowed`: a path is allowed by the tree built from an allow list iff some expanded
allow rule's path matches it component-wise, each component being equal or the wildcard
(`pathMatches`).  Nothing in that is specific to RBAC: it is a statement about the trie.
Then the paths that go into it: what `expand` produces, and that `Rule.path` tells two such rules apart.
-/
namespace Xp.C18
open Xp.Gen

/-- an inserted path `q` matches (a prefix of) the requested path `p`, component-wise,
each component of `q` being equal to the requested one or the wildcard -/
def pathMatches : Path → Path → Bool
  | [], _ => true
  | _ :: _, [] => false
  | a :: q, b :: p => (a == b || a == wildcard) && pathMatches q p

theorem lookup_upsert (x k : String) (f : Node → Node) (cs : List (String × Node)) :
    lookup x (upsert k f cs) =
      if k = x then some (f ((lookup k cs).getD Node.empty)) else lookup x cs := by
  induction cs with
  | nil =>
    by_cases h : k = x
    · simp [upsert, lookup, h]
    · simp [upsert, lookup, h]
  | cons c rest ih =>
    obtain ⟨k', c⟩ := c
    by_cases hk : k' = k
    · subst hk
      by_cases hx : k' = x
      · simp [upsert, lookup, hx]
      · simp [upsert, lookup, hx]
    · by_cases hx : k' = x
      · subst hx
        simp [upsert, lookup, hk, Ne.symm hk]
      · simp [upsert, lookup, hk, hx, ih]

theorem allowed_nil (n : Node) : n.allowed [] = false := by
  cases n; rfl

theorem allowed_cons (k : String) (p : Path) (a : Bool) (cs : List (String × Node)) :
    (Node.mk a cs).allowed (k :: p) =
      (look (Node.allowed p) cs k || look (Node.allowed p) cs wildcard) := rfl

theorem allowed_empty (p : Path) : Node.empty.allowed p = false := by
  cases p with
  | nil => rfl
  | cons k p => simp [Node.empty, allowed_cons, look, lookup]

theorem isAllowed_allow (q : Path) (n : Node) :
    (n.allow q).isAllowed = (n.isAllowed || q.isEmpty) := by
  cases n with
  | mk a cs =>
    cases q with
    | nil => simp [Node.allow, Node.isAllowed]
    | cons k q => simp [Node.allow, Node.isAllowed]

theorem allowed_allow (q p : Path) (n : Node) :
    (n.allow q).allowed p = (n.allowed p || (!q.isEmpty && pathMatches q p)) := by
  induction q generalizing n p with
  | nil =>
    cases n with
    | mk a cs =>
      cases p with
      | nil => simp [Node.allow, allowed_nil]
      | cons j p => simp [Node.allow, allowed_cons]
  | cons k q ih =>
    cases n with
    | mk a cs =>
      cases p with
      | nil => simp [allowed_nil, pathMatches]
      | cons j p =>
        simp only [Node.allow, allowed_cons]
        have hl : ∀ x : String, look (Node.allowed p) (upsert k (Node.allow q) cs) x =
            (look (Node.allowed p) cs x || (k == x && pathMatches q p)) := by
          intro x
          simp only [look, lookup_upsert]
          by_cases hx : k = x
          · subst hx
            simp only [if_true, beq_self_eq_true, Bool.true_and]
            rw [isAllowed_allow, ih]
            cases hq : lookup k cs with
            | none =>
              have he : Node.empty.isAllowed = false := rfl
              simp only [Option.getD_none, allowed_empty, he, Bool.false_or]
              cases q <;> simp [pathMatches]
            | some c =>
              simp only [Option.getD_some]
              cases q with
              | nil => simp [pathMatches]
              | cons _ _ => simp [Bool.or_assoc]
          · have : (k == x) = false := by simp [hx]
            simp [hx, this]
        -- what was allowed under `j` or under the wildcard before, or the inserted path through `k`
        have hbool : ∀ a b kj kw m : Bool, ((a || kj && m) || (b || kw && m)) = ((a || b) || (kj || kw) && m) := by
          intro a b kj kw m
          rw [Bool.and_or_distrib_right]
          ac_rfl
        rw [hl j, hl wildcard]
        simp only [pathMatches, List.isEmpty_cons, Bool.not_false, Bool.true_and]
        exact hbool ..

theorem foldl_allow_allowed (qs : List Path) (n : Node) (p : Path) :
    (qs.foldl (fun t q => t.allow q) n).allowed p =
      (n.allowed p || qs.any (fun q => !q.isEmpty && pathMatches q p)) := by
  induction qs generalizing n with
  | nil => simp
  | cons q qs ih =>
    simp only [List.foldl_cons, List.any_cons]
    rw [ih, allowed_allow, Bool.or_assoc]

theorem path_ne_nil (r : Rule) : r.path.isEmpty = false := by
  unfold Rule.path; split <;> rfl

theorem tree_allowed (allow : List PolicyRule) (p : Path) :
    (tree allow).allowed p = (expand allow).any (fun r => pathMatches r.path p) := by
  unfold tree
  have h : ∀ (rs : List Rule) (n : Node),
      rs.foldl (fun t r => t.allow r.path) n = (rs.map Rule.path).foldl (fun t q => t.allow q) n := by
    intro rs
    induction rs with
    | nil => intro n; rfl
    | cons r rs ih => intro n; simp only [List.foldl_cons, List.map_cons]; exact ih _
  rw [h, foldl_allow_allowed, allowed_empty, Bool.false_or, List.any_map]
  congr 1
  funext r
  simp [path_ne_nil]

theorem mem_expandOne (o : PolicyRule) (r : Rule) :
    r ∈ expandOne o ↔
      (∃ u ∈ o.nonResourceURLs, ∃ v ∈ o.verbs, r = ⟨"", "", "", u, v⟩) ∨
      (∃ g ∈ o.apiGroups, ∃ rs ∈ o.resources,
        ∃ n ∈ (if o.resourceNames.isEmpty then [wildcard] else o.resourceNames),
        ∃ v ∈ o.verbs, r = ⟨g, rs, n, "", v⟩) := by
  simp only [expandOne, List.mem_append, List.mem_flatMap, List.mem_map, eq_comm (a := r)]

theorem mem_expand (A : List PolicyRule) (r : Rule) :
    r ∈ expand A ↔ ∃ o ∈ A, r ∈ expandOne o := by
  simp [expand, List.mem_flatMap]

/-- the shape of every rule Expand produces: a URL rule carries no group / resource / name -/
def Rule.Normal (r : Rule) : Prop :=
  r.nonResourceURL ≠ "" → r.apiGroup = "" ∧ r.resource = "" ∧ r.resourceName = ""

theorem expand_normal (X : List PolicyRule) (r : Rule) (h : r ∈ expand X) : r.Normal := by
  obtain ⟨o, _, ho⟩ := (mem_expand X r).1 h
  rcases (mem_expandOne o r).1 ho with ⟨u, _, v, _, rfl⟩ | ⟨g, _, rs, _, n, _, v, _, rfl⟩
  · intro _; exact ⟨rfl, rfl, rfl⟩
  · intro hne; exact absurd rfl hne

theorem path_injective (r1 r2 : Rule) (h1 : r1.Normal) (h2 : r2.Normal) (hp : r1.path = r2.path) : r1 = r2 := by
  obtain ⟨g1, s1, n1, u1, v1⟩ := r1
  obtain ⟨g2, s2, n2, u2, v2⟩ := r2
  simp only [Rule.Normal] at h1 h2
  by_cases e1 : u1 = "" <;> by_cases e2 : u2 = ""
  · -- two resource paths: group, resource, name and verb are components of the path
    subst e1; subst e2
    simp only [Rule.path, ne_eq, not_true_eq_false, if_false, List.cons.injEq, and_true, true_and] at hp
    obtain ⟨rfl, rfl, rfl, rfl⟩ := hp
    rfl
  · -- a resource path and a URL path differ in their first component
    subst e1
    simp [Rule.path, e2] at hp
  · subst e2
    simp [Rule.path, e1] at hp
  · -- two URL paths: URL and verb are components, the other fields are empty
    obtain ⟨rfl, rfl, rfl⟩ := h1 e1
    obtain ⟨rfl, rfl, rfl⟩ := h2 e2
    simp only [Rule.path, ne_eq, e1, e2, not_false_eq_true, if_true, List.cons.injEq, and_true, true_and] at hp
    obtain ⟨rfl, rfl⟩ := hp
    rfl

end Xp.C18
