import Xp.Proofs.C19Inv
/-
C19 — what an in-flight reconcile knows (thread invariant), its preservation by the environment and
by other threads (each case an instance of `ThreadBase.of_usages`: what somebody else's change of the
Usages has to respect), and that the continuations the decision trees lead to satisfy it (`AfterOk`,
`after…_ok`).
-/
namespace Xp.C19

def usedKey (used : Res) (u : Usage) : Prop :=
  used.group = groupOf u.of.av ∧ used.kind = u.of.kind ∧ used.name = u.of.name

theorem usedKey.key {used : Res} {u : Usage} (h : usedKey used u) : used.key = ofKeyOf u := Res.key_eq.mpr h

/-- what the ghost snapshot taken at the reconcile's List says -/
structure SeenFacts (uname : String) (u : Usage) (seen : List Usage) : Prop where
  only : ∀ y ∈ seen, y.indexedBy (indexValue u.of.av u.of.kind u.of.name) = true → y.name = uname
  self : ∃ x ∈ seen, x.name = uname ∧ x.deleting = true ∧ x.of = u.of

def byResolved (u : Usage) : Prop := ∀ b, u.by_ = some b → b.name ≠ ""

def ownerBorn (s : Store) (u : Usage) : Prop :=
  ∀ b, u.by_ = some b → ∃ o ∈ u.owners, (o.uid, groupOf b.av, b.kind, b.name) ∈ s.born

/-- what the branches taken on the way to a program counter established about the reconcile's copy of the
Usage -/
def pcFacts (s : Store) (uname : String) (u : Usage) (seen : List Usage) : Pc → Prop
  | .getUsage => True
  | .ofList => u.of.name = ""
  | .ofUpdate pick => u.of.name = "" ∧ pick ≠ ""
  | .byList => u.of.name ≠ "" ∧ ∀ b, u.by_ = some b → b.name = ""
  | .byUpdate pick => u.of.name ≠ "" ∧ pick ≠ "" ∧ ∀ b, u.by_ = some b → b.name = ""
  | .dGetUsing => u.deleting = true ∧ u.of.name ≠ ""
  | .dGetUsed => u.deleting = true ∧ u.of.name ≠ ""
  | .dRemoveFin => u.deleting = true ∧ u.of.name ≠ ""
  | .dList used => u.deleting = true ∧ u.of.name ≠ "" ∧ usedKey used u
  | .dUnlabel used => u.deleting = true ∧ u.of.name ≠ "" ∧ usedKey used u ∧ SeenFacts uname u seen
  | .addFin => u.deleting = false ∧ u.of.name ≠ "" ∧ byResolved u
  | .addDetails => u.deleting = false ∧ u.of.name ≠ "" ∧ byResolved u ∧ u.fin = true
  | .getUsed => u.deleting = false ∧ u.of.name ≠ "" ∧ byResolved u ∧ u.fin = true
  | .getUsing => u.deleting = false ∧ u.of.name ≠ "" ∧ byResolved u ∧ u.fin = true ∧ ∃ b, u.by_ = some b
  | .label used => u.deleting = false ∧ u.of.name ≠ "" ∧ byResolved u ∧ u.fin = true ∧ usedKey used u
  | .addOwner ref => u.deleting = false ∧ u.of.name ≠ "" ∧ byResolved u ∧ u.fin = true ∧
      ∃ b, u.by_ = some b ∧ (ref.uid, groupOf b.av, b.kind, b.name) ∈ s.born
  | .status => u.deleting = false ∧ u.of.name ≠ "" ∧ byResolved u ∧ u.fin = true ∧ ownerBorn s u

def PcFacts (s : Store) (t : Thread) : Prop := pcFacts s t.uname t.u t.seen t.pc

def Pc.isGet : Pc → Bool
  | .getUsage => true
  | _ => false

structure ThreadBase (s : Store) (t : Thread) : Prop where
  name : t.u.name = t.uname
  rvb : t.u.rv < s.nextRv
  /-- the resourceVersion determines the content -/
  same : ∀ x ∈ s.usages, x.name = t.uname → x.rv = t.u.rv → x = t.u
  /-- a Usage holding the finalizer stays in the store with its spec.of -/
  hold : t.u.fin = true →
    ∃ x ∈ s.usages, x.name = t.uname ∧ x.fin = true ∧ x.of = t.u.of ∧ (t.u.deleting = true → x.deleting = true)
  ok : UsageOk s t.u

def TInv (s : Store) (t : Thread) : Prop := t.pc.isGet = true ∨ (ThreadBase s t ∧ PcFacts s t)

theorem Pc.eq_getUsage {pc : Pc} (h : pc.isGet = true) : pc = .getUsage := by
  cases pc <;> first | rfl | cases h

theorem Pc.isGet_false {pc : Pc} (h : pc ≠ .getUsage) : pc.isGet = false := by
  cases pc <;> first | rfl | exact absurd rfl h

theorem TInv.facts {s : Store} {t : Thread} (h : TInv s t) (hp : t.pc.isGet = false) : ThreadBase s t ∧ PcFacts s t := by
  rcases h with h | h
  · rw [hp] at h; cases h
  · exact h

theorem TInv.at_pc {s : Store} {t : Thread} {pc : Pc} (h : TInv s t) (hpc : t.pc = pc) (hg : pc.isGet = false) :
    ThreadBase s t ∧ pcFacts s t.uname t.u t.seen pc := by
  subst hpc; exact h.facts hg

/-- a change of the store that touches no Usage (a resource written or dropped, a read): what
`ThreadBase` survives as it is (`ThreadBase.sameUsages`) -/
structure SameUsages (s s' : Store) : Prop where
  usages : s'.usages = s.usages
  rv : s.nextRv ≤ s'.nextRv
  born : ∀ e ∈ s.born, e ∈ s'.born

theorem PcFacts.mono {s s' : Store} {t : Thread} (h : PcFacts s t) (hb : ∀ e ∈ s.born, e ∈ s'.born) : PcFacts s' t := by
  unfold PcFacts at h ⊢
  generalize t.pc = pc at h ⊢
  -- only two program counters know something about the record of births
  cases pc with
  | addOwner ref =>
    obtain ⟨h1, h2, h3, h4, b, hb1, hb2⟩ := h
    exact ⟨h1, h2, h3, h4, b, hb1, hb _ hb2⟩
  | status =>
    obtain ⟨h1, h2, h3, h4, h5⟩ := h
    refine ⟨h1, h2, h3, h4, fun b hbb => ?_⟩
    obtain ⟨o, ho, hm⟩ := h5 b hbb
    exact ⟨o, ho, hb _ hm⟩
  | _ => exact h

theorem ThreadBase.of_usages {s s' : Store} {t : Thread} (h : ThreadBase s t) (hrv : s.nextRv ≤ s'.nextRv)
    (hb : ∀ e ∈ s.born, e ∈ s'.born)
    (hsame : ∀ x ∈ s'.usages, x.name = t.uname → x.rv = t.u.rv → x ∈ s.usages)
    (hhold : ∀ x ∈ s.usages, x.name = t.uname → x.fin = true →
      ∃ x' ∈ s'.usages, x'.name = t.uname ∧ x'.fin = true ∧ x'.of = x.of ∧ (x.deleting = true → x'.deleting = true)) :
    ThreadBase s' t := by
  refine ⟨h.name, Nat.lt_of_lt_of_le h.rvb hrv, fun x hx hxn hxr => h.same x (hsame x hx hxn hxr) hxn hxr,
    fun hf => ?_, h.ok.mono hb⟩
  obtain ⟨x, hx, h1, h2, h3, h4⟩ := h.hold hf
  obtain ⟨x', hx', k1, k2, k3, k4⟩ := hhold x hx h1 h2
  exact ⟨x', hx', k1, k2, k3.trans h3, fun hd => k4 (h4 hd)⟩

theorem ThreadBase.sameUsages {s s' : Store} {t : Thread} (h : ThreadBase s t) (e : SameUsages s s') : ThreadBase s' t :=
  h.of_usages e.rv e.born (fun _ hx _ _ => e.usages ▸ hx) (fun x hx h1 h2 => ⟨x, e.usages ▸ hx, h1, h2, rfl, id⟩)

theorem SameUsages.refl (s : Store) : SameUsages s s := ⟨rfl, Nat.le_refl _, fun _ h => h⟩

theorem SameUsages.putR_bump (s : Store) (n : Res) : SameUsages s (s.putR n).bump :=
  ⟨rfl, by simp, fun _ h => h⟩

theorem SameUsages.dropR (s : Store) (g k n : String) : SameUsages s (s.dropR g k n) :=
  ⟨rfl, by simp, fun _ h => h⟩

theorem ThreadBase.putU_other {s : Store} {t : Thread} (h : ThreadBase s t) {n : Usage} (hne : n.name ≠ t.uname) :
    ThreadBase (s.putU n).bump t := by
  refine h.of_usages (Nat.le_succ _) (fun _ hb => hb) (fun x hx hxn _ => ?_)
    (fun x hx h1 h2 => ⟨x, mem_putU.mpr (.inl ⟨hx, fun e => hne (e ▸ h1)⟩), h1, h2, rfl, id⟩)
  rcases mem_putU.mp hx with ⟨hx, _⟩ | ⟨rfl, _⟩
  · exact hx
  · exact absurd hxn hne

theorem ThreadBase.dropU_other {s : Store} {t : Thread} (h : ThreadBase s t) {nm : String} (hne : nm ≠ t.uname) :
    ThreadBase (s.dropU nm).bump t :=
  h.of_usages (Nat.le_succ _) (fun _ hb => hb) (fun _ hx _ _ => (mem_dropU.mp hx).1)
    (fun x hx h1 h2 => ⟨x, mem_dropU.mpr ⟨hx, fun e => hne (e ▸ h1)⟩, h1, h2, rfl, id⟩)

theorem ThreadBase.edit {s : Store} (hs : StoreInv s) {t : Thread} (h : ThreadBase s t) {x n : Usage}
    (hx : x ∈ s.usages) (hn : n.name = x.name) (hrv : n.rv = s.nextRv) (hf : n.fin = x.fin) (ho : n.of = x.of)
    (hd : x.deleting = true → n.deleting = true) : ThreadBase (s.putU n).bump t := by
  by_cases hne : x.name = t.uname
  · refine h.of_usages (Nat.le_succ _) (fun _ hb => hb) (fun y hy _ hyr => ?_) (fun w hw h1 h2 => ?_)
    · rcases mem_putU.mp hy with ⟨hy, _⟩ | ⟨rfl, _⟩
      · exact hy
      · exact absurd (hrv.symm.trans hyr) (Nat.ne_of_gt h.rvb)
    · -- the Usage the reconcile holds the finalizer of is the rewritten one
      cases hs.usageUniq w hw x hx (h1.trans hne.symm)
      exact ⟨n, mem_putU.mpr (.inr ⟨rfl, x, hx, hn.symm⟩), hn.trans h1, hf.trans h2, ho, hd⟩
  · exact h.putU_other (n := n) (by rw [hn]; exact hne)

/-- a rewrite of a stored Usage (fresh rv) that keeps name, finalizer, spec.of and deletion state -/
theorem ThreadBase.rewrite {s : Store} (hs : StoreInv s) {t : Thread} (h : ThreadBase s t) {x n : Usage}
    (hx : x ∈ s.usages) (hn : n.name = x.name) (hrv : n.rv = s.nextRv) (hf : n.fin = x.fin) (ho : n.of = x.of)
    (hd : n.deleting = x.deleting) : ThreadBase (s.putU n).bump t :=
  h.edit hs hx hn hrv hf ho (fun hx' => hd.trans hx')

theorem ThreadBase.dropNoFin {s : Store} (hs : StoreInv s) {t : Thread} (h : ThreadBase s t) {x : Usage}
    (hx : x ∈ s.usages) (hf : x.fin = false) : ThreadBase (s.dropU x.name) t := by
  refine h.of_usages (Nat.le_refl _) (fun _ hb => hb) (fun y hy _ _ => (mem_dropU.mp hy).1)
    (fun w hw h1 h2 => ⟨w, mem_dropU.mpr ⟨hw, fun e => ?_⟩, h1, h2, rfl, id⟩)
  cases hs.usageUniq w hw x hx e
  rw [hf] at h2; cases h2

theorem ThreadBase.env {s s' : Store} (hs : StoreInv s) {t : Thread} (h : ThreadBase s t) (e : EnvEff s s') :
    ThreadBase s' t := by
  cases e with
  | same => exact h
  | addRes r _ _ _ => exact h.sameUsages ⟨rfl, Nat.le_succ _, fun _ h => List.mem_cons_of_mem _ h⟩
  | editR x n _ _ _ => exact h.sameUsages (.putR_bump s n)
  | dropR g k n r _ _ => exact h.sameUsages (.dropR s g k n)
  | addUsage u hg hrv _ _ _ =>
    refine h.of_usages (Nat.le_succ _) (fun _ h => h) (fun y hy _ hrv' => ?_)
      (fun x hx h1 h2 => ⟨x, List.mem_append_left _ hx, h1, h2, rfl, id⟩)
    rcases List.mem_append.mp hy with hy | hy
    · exact hy
    · cases List.mem_singleton.mp hy
      exact absurd (hrv.symm.trans hrv') (Nat.ne_of_gt h.rvb)
  | editU x n hg _ hrv hof _ hfin _ hdel _ =>
    obtain ⟨hx, hn⟩ := getU_some hg
    refine h.edit hs hx hn.symm hrv hfin hof (fun hx' => ?_)
    rcases hdel with e | ⟨e, _⟩
    · exact e.trans hx'
    · exact e
  | dropU x hg hf => exact h.dropNoFin hs (getU_some hg).1 hf

theorem TInv.env {s s' : Store} (hs : StoreInv s) {t : Thread} (h : TInv s t) (e : EnvEff s s') : TInv s' t := by
  rcases h with h | ⟨h1, h2⟩
  · exact .inl h
  · exact .inr ⟨h1.env hs e, h2.mono e.born⟩

/-- the continuation of a step is again a thread of the same Usage satisfying the thread invariant -/
def AfterOk (s : Store) (nm : String) : After → Prop
  | .cont t' => t'.uname = nm ∧ TInv s t'
  | .done _ => True

theorem ThreadBase.goto {s : Store} {t : Thread} (h : ThreadBase s t) (pc : Pc) (seen : List Usage) :
    ThreadBase s { t with pc := pc, seen := seen } := ⟨h.name, h.rvb, h.same, h.hold, h.ok⟩

theorem goto_ok {s : Store} {t : Thread} (h : ThreadBase s t) (pc : Pc) (hf : pcFacts s t.uname t.u t.seen pc) :
    AfterOk s t.uname (t.goto pc) := by
  exact ⟨rfl, .inr ⟨h.goto pc t.seen, hf⟩⟩

theorem afterOwner_ok {s : Store} {t : Thread} (h : ThreadBase s t)
    (hf : t.u.deleting = false ∧ t.u.of.name ≠ "" ∧ byResolved t.u ∧ t.u.fin = true ∧ ownerBorn s t.u) :
    AfterOk s t.uname t.afterOwner := by
  fun_cases Thread.afterOwner t with
  | case1 => exact goto_ok h .status hf
  | case2 => trivial

theorem afterLabel_ok {s : Store} {t : Thread} (h : ThreadBase s t)
    (hf : t.u.deleting = false ∧ t.u.of.name ≠ "" ∧ byResolved t.u ∧ t.u.fin = true) :
    AfterOk s t.uname t.afterLabel := by
  fun_cases Thread.afterLabel t with
  | case1 hb => exact afterOwner_ok h ⟨hf.1, hf.2.1, hf.2.2.1, hf.2.2.2, fun b hbb => by rw [hb] at hbb; cases hbb⟩
  | case2 b hb => exact goto_ok h .getUsing ⟨hf.1, hf.2.1, hf.2.2.1, hf.2.2.2, b, hb⟩

theorem afterFin_ok {s : Store} {t : Thread} (h : ThreadBase s t)
    (hf : t.u.deleting = false ∧ t.u.of.name ≠ "" ∧ byResolved t.u ∧ t.u.fin = true) :
    AfterOk s t.uname t.afterFin := by
  fun_cases Thread.afterFin t with
  | case1 => exact goto_ok h .addDetails hf
  | case2 => exact goto_ok h .getUsed hf

theorem afterResolve_ok {s : Store} {t : Thread} (h : ThreadBase s t)
    (hf : t.u.of.name ≠ "" ∧ byResolved t.u) : AfterOk s t.uname t.afterResolve := by
  fun_cases Thread.afterResolve t with
  | case1 hd _ => exact goto_ok h .dGetUsing ⟨hd, hf.1⟩
  | case2 hd _ => exact goto_ok h .dGetUsed ⟨hd, hf.1⟩
  | case3 hd hfin => exact afterFin_ok h ⟨by simpa using hd, hf.1, hf.2, hfin⟩
  | case4 hd _ => exact goto_ok h .addFin ⟨by simpa using hd, hf.1, hf.2⟩

theorem afterOf_ok {s : Store} {t : Thread} (h : ThreadBase s t) (hf : t.u.of.name ≠ "") :
    AfterOk s t.uname t.afterOf := by
  fun_cases Thread.afterOf t with
  | case1 hb => exact afterResolve_ok h ⟨hf, fun b hbb => by rw [hb] at hbb; cases hbb⟩
  | case2 => trivial
  | case3 b hb hn _ _ => exact goto_ok h .byList ⟨hf, fun b' hb' => by rw [hb] at hb'; cases hb'; exact hn⟩
  | case4 b hb hn => exact afterResolve_ok h ⟨hf, fun b' hb' => by rw [hb] at hb'; cases hb'; exact hn⟩

theorem afterGet_ok {s : Store} {t : Thread} (h : ThreadBase s t) : AfterOk s t.uname t.afterGet := by
  fun_cases Thread.afterGet t with
  | case1 | case2 => trivial
  | case3 _ _ hn _ _ => exact goto_ok h .ofList hn
  | case4 _ _ hn => exact afterOf_ok h hn

theorem afterUnlabel_ok {s : Store} {t : Thread} (h : ThreadBase s t)
    (hf : t.u.deleting = true ∧ t.u.of.name ≠ "") : AfterOk s t.uname t.afterUnlabel := by
  fun_cases Thread.afterUnlabel t with
  | case1 => exact goto_ok h .dRemoveFin hf
  | case2 => trivial

theorem ThreadBase.hit {s : Store} {t : Thread} (hb : ThreadBase s t) {nm : String} {x : Usage}
    (hg : s.getU nm = some x) (hname : nm = t.uname) (hrv : x.rv = t.u.rv) : x = t.u ∧ t.u ∈ s.usages := by
  have hx := getU_some hg
  have : x = t.u := hb.same x hx.1 (by rw [hx.2, hname]) hrv
  exact ⟨this, this ▸ hx.1⟩

theorem sole_listed {s : Store} {t : Thread} (hb : ThreadBase s t) (hdel : t.u.deleting = true)
    (hne : t.u.of.name ≠ "") (hlt : s.countU (indexValue t.u.of.av t.u.of.kind t.u.of.name) < 2) :
    ∀ y ∈ s.usages, y.indexedBy (indexValue t.u.of.av t.u.of.kind t.u.of.name) = true → y.name = t.uname := by
  intro y hy hyi
  obtain ⟨x, hx, hxn, _, hxo, _⟩ := hb.hold (hb.ok.delFin hdel)
  have hxi : x.indexedBy (indexValue t.u.of.av t.u.of.kind t.u.of.name) = true := by
    rw [Usage.indexedBy_iff, hxo]; exact ⟨hne, rfl⟩
  rw [countU_lt_two hlt hy hx hyi hxi]; exact hxn

theorem UpdRSpec.sameUsages {s s' : Store} {r : Res} {resp : Resp} (spec : UpdRSpec s r s' resp) : SameUsages s s' := by
  cases spec with
  | put x _ _ => exact .putR_bump s _
  | _ => exact .refl s

end Xp.C19
