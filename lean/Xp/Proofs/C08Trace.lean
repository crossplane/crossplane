import Xp.Proofs.C08Store
import Xp.Base.List
/-
C08, from what a reconcile has seen to the state: what a reply teaches (`learn`) holds of the
store the reply came from (`learn_sound`) and of every later store in the teardown order, up to
births that threaten it (`LeUpTo.holds`, `Fact.holds_le`); while it holds, the local guard of a request implies the
state-based ordering constraint `safeReq` (`safe_of_guard`); what `safeReq = true` says of each
guarded write (`safeReq_claim_fin` … `safeReq_usage_fin`, used by the trace theorems of Props).
-/
namespace Xp.C08
open Xp.Gen

/-- `s'` keeps every fact of `s` that none of the births `bs` threatens -/
def Succ (bs : List Birth) (s s' : St) : Prop :=
  ∀ f : Fact, (∀ b ∈ bs, b.threatens f = false) → f.holds s → f.holds s'

theorem LeUpTo.holds {bs : List Birth} {s s' : St} (h : LeUpTo bs s s') : Succ bs s s' := by
  intro f hb hf
  -- each fact reads the part of `LeUpTo` about what it talks of; the exemption for something born
  -- would be a birth among `bs` that threatens it
  have no : ∀ {b : Birth}, b ∈ bs → b.threatens f = true → False := fun hm ht => by rw [hb _ hm] at ht; cases ht
  cases f with
  | gone k =>
    show find s' k = none
    cases hk : find s' k with
    | none => rfl
    | some o' =>
      rcases h.obj k o' hk with hm | ⟨o, ho, _⟩
      · exact (no hm (decide_eq_true rfl)).elim
      · rw [show find s k = none from hf] at ho; cases ho
  | goneOrDel k =>
    intro o' hk
    rcases h.obj k o' hk with hm | ⟨o, ho, m⟩
    · exact (no hm (decide_eq_true rfl)).elim
    · exact m.rest.del (hf o ho)
  | noneOf kd =>
    intro x hx hk
    rcases h.keys x hx with hm | ⟨y, hy, e⟩
    · exact no hm (decide_eq_true hk)
    · exact hf y hy (e ▸ hk)
  | stopped c =>
    intro hc
    rcases h.run c hc with hc | hm
    · exact hf hc
    · exact no hm (decide_eq_true rfl)
  | immut k a =>
    intro o' hk
    rcases h.obj k o' hk with hm | ⟨o, ho, ⟨m, how, _⟩⟩
    · exact (no hm (decide_eq_true rfl)).elim
    · have hs := hf o ho
      have how : o'.owners = o.owners := how.elim id fun hm => (no hm (decide_eq_true (find_key ho))).elim
      exact ⟨Nat.le_trans hs.rv m.rv, m.uid.trans hs.uid, m.of_.trans hs.of_, how.trans hs.owners,
        m.refKind.trans hs.refKind, m.ofKind.trans hs.ofKind, same_trans hs.rv m.rv hs.same (find_key ho ▸ m.same)⟩
  | pkgsSub ps =>
    intro l' hk p hp
    rcases h.obj lockKey l' hk with hm | ⟨l, hl, m⟩
    · exact (no hm (decide_eq_true (rfl : lockKey = _))).elim
    · rcases m.pkgs p hp with hq | hm
      · exact hf l hl p hq
      · exact Classical.byContradiction fun hn => no hm (by simpa [Birth.threatens] using hn)
  | notInLock n =>
    intro l' hk hp
    rcases h.obj lockKey l' hk with hm | ⟨l, hl, m⟩
    · exact (no hm (decide_eq_true (rfl : lockKey = _))).elim
    · rcases m.pkgs n hp with hq | hm
      · exact hf l hl hq
      · exact no hm (decide_eq_true rfl)

theorem Fact.holds_le {s s' : St} (hle : Le s s') (f : Fact) (hf : f.holds s) : f.holds s' :=
  (LeUpTo.of_le hle []).holds f (fun _ hb => nomatch hb) hf

theorem facts_append (h : Hist) (r : Req) (x : Resp) : facts (h ++ [(r, x)]) = facts h ++ learn r x := by
  simp [facts]

theorem mem_facts {h : Hist} {r : Req} {x : Resp} {f : Fact} (hm : (r, x) ∈ h) (hf : f ∈ learn r x) : f ∈ facts h := by
  simp only [facts, List.mem_flatMap]
  exact ⟨(r, x), hm, hf⟩

theorem learn_err (r : Req) : learn r .err = [] := by cases r <;> rfl

theorem learn_conflict (r : Req) : learn r .conflict = [] := by cases r <;> rfl

theorem learn_errResp (o : Outcome) (r : Req) : learn r (errResp o r) = [] := by
  unfold errResp
  cases o with
  | conflict =>
    simp only []
    split
    · exact learn_conflict r
    · exact learn_err r
  | _ => exact learn_err r

theorem sortByName_perm (l : List Obj) : (sortByName l).Perm l :=
  perm_insertionSort insertByName (fun _ => rfl) (fun x y ys => by rw [insertByName]; split <;> simp)
    rfl (fun _ _ => rfl) l

theorem ofKind_nil {s : St} {kd : Kind} (h : ofKind s kd = []) : ∀ o ∈ s.objs, o.key.kind ≠ kd := by
  intro o ho hk
  have : o ∈ ofKind s kd := (sortByName_perm _).mem_iff.mpr (List.mem_filter.mpr ⟨ho, by simpa using hk⟩)
  rw [h] at this
  cases this

theorem deleteObj_del (s : St) (o : Obj) (fg : Bool) (ho : find s o.key = some o) (c : Obj)
    (hc : find (deleteObj s o fg) o.key = some c) : c.del = true := by
  unfold deleteObj deleteWith at hc
  generalize (if (fg && !o.fins.contains fgFin) = true then o.fins ++ [fgFin] else o.fins) = fins at hc
  split at hc
  · rw [find_erase, if_pos rfl] at hc; cases hc
  · split at hc
    · rename_i hd
      rw [ho] at hc; cases hc
      exact (Bool.and_eq_true_iff.mp hd).1
    · rw [find_put, if_pos rfl, find_nextRv, ho] at hc
      cases hc
      rfl

theorem exec_read (s : St) (r : Req) (h : r.isRead = true) : (exec s r).1 = s := by
  cases r with
  | get k => rfl
  | list kd => rfl
  | listUsagesOf kd n => rfl
  | listSel kd n => rfl
  | _ => cases h

theorem learn_sound (s : St) (r : Req) : ∀ f ∈ learn r (exec s r).2, f.holds (exec s r).1 := by
  cases r with
  | get k =>
    simp only [exec]
    cases h : find s k with
    | none => intro f hf; rw [List.mem_singleton.mp hf]; exact h
    | some o =>
      intro f hf
      rcases List.mem_cons.mp hf with rfl | hf
      · intro o' ho'
        rw [h] at ho'
        cases ho'
        exact ⟨Nat.le_refl _, rfl, rfl, rfl, rfl, rfl, fun _ => ⟨rfl, rfl⟩⟩
      · split at hf
        · rename_i hk
          rw [List.mem_singleton.mp hf]
          intro l hl p hp
          rw [← hk, h] at hl
          cases hl
          exact hp
        · cases hf
  | list kd =>
    simp only [exec]
    cases h : ofKind s kd with
    | nil => intro f hf; rw [List.mem_singleton.mp hf]; exact ofKind_nil h
    | cons a b => intro f hf; cases hf
  | delete k fg =>
    simp only [exec]
    cases h : find s k with
    | none => intro f hf; rw [List.mem_singleton.mp hf]; exact h
    | some o =>
      intro f hf
      rw [List.mem_singleton.mp hf]
      intro c hc
      rw [← find_key h] at hc
      exact deleteObj_del s o fg (find_self h) c hc
  | stop c =>
    intro f hf
    rw [List.mem_singleton.mp hf]
    exact fun hc => of_decide_eq_true (List.mem_filter.mp hc).2 rfl
  | lockRemove rv n =>
    simp only [exec, withObj]
    cases h : find s lockKey with
    | none => intro f hf; cases hf
    | some l =>
      simp only []
      split
      · intro f hf; cases hf
      · intro f hf
        rw [List.mem_singleton.mp hf]
        -- the stored Lock is the old one (then the filter removed nothing) or the filtered one
        intro c hc hn
        rw [← find_key h] at hc
        rcases (commit_spec l { l with pkgs := l.pkgs.filter (· ≠ n) } (find_self h) rfl).2.2.1 c hc with ⟨rfl, e⟩ | rfl
        · have e' : c.pkgs.filter (· ≠ n) = c.pkgs := congrArg Obj.pkgs e
          have hm : n ∈ c.pkgs.filter (· ≠ n) := e'.symm ▸ hn
          simp at hm
        · simp at hn
  | _ => intro f hf; cases hf

theorem noneOf_iff {s : St} {kd : Kind} : noneOf s kd = true ↔ ∀ o ∈ s.objs, o.key.kind ≠ kd := by
  simp [noneOf]

/-! `safeReq` and the predicates it is built from are made of `a != b || x` (`bne_or_iff`) and
`match find s k with | none => true | some o => P o` (`find_all_iff`), read here as propositions. -/

theorem bne_or_iff {α : Type} [DecidableEq α] {a b : α} {x : Bool} : (a != b || x) = true ↔ (a = b → x = true) := by
  by_cases e : a = b <;> simp [e]

theorem find_all_iff {s : St} {k : Key} {P : Obj → Bool} :
    (match find s k with | none => true | some o => P o) = true ↔ ∀ o, find s k = some o → P o = true := by
  cases find s k with
  | none => exact ⟨(fun _ _ h => nomatch h), fun _ => rfl⟩
  | some o => exact ⟨(fun h _ e => Option.some.inj e ▸ h), fun h => h o rfl⟩

section seen
variable {s : St} {h : Hist} (hf : ∀ f ∈ facts h, f.holds s)
include hf

theorem gone_of_seen {k : Key} (hm : (Req.get k, Resp.notFound) ∈ h) : find s k = none :=
  hf (.gone k) (mem_facts hm (.head _))

theorem same_of_seen {k : Key} {a : Obj} (hm : (Req.get k, Resp.obj a) ∈ h) : ∀ o, find s k = some o → Obj.Same k a o :=
  hf (.immut k a) (mem_facts hm (.head _))

theorem noneOf_of_seen {kd : Kind} (hm : (Req.list kd, Resp.list []) ∈ h) : noneOf s kd = true :=
  noneOf_iff.mpr (hf (.noneOf kd) (mem_facts hm (.head _)))

theorem stopped_of_seen {c : String} (hm : (Req.stop c, Resp.ok) ∈ h) : s.running.contains c = false := by
  have := hf (.stopped c) (mem_facts hm (.head _))
  simpa [Fact.holds] using this

theorem crdNotOurs_of_seen {crd : String} {uid : Nat} (hx : CRDNotOursSeen h crd uid) : crdNotOurs s crd uid = true := by
  refine find_all_iff.mpr fun c' hfd => ?_
  rcases hx with hx | ⟨c, hc, hn⟩
  · rw [gone_of_seen hf hx] at hfd; cases hfd
  · unfold Obj.controlledBy at hn ⊢
    rw [(same_of_seen hf hc c' hfd).owners, hn]; rfl

theorem claimXRGone_of_seen {cm0 cm : Obj} (hr : cm.ref = cm0.ref) (hfl : cm.flag = cm0.flag)
    (hx : XRGoneSeen h cm0) : claimXRGone s cm = true := by
  unfold claimXRGone
  rw [hr, hfl]
  rcases hx with hx | hx | ⟨hfl, hx | hx⟩
  · simp [hx]
  · rw [gone_of_seen hf hx]; simp
  · have := hf (.goneOrDel ⟨.xr, cm0.ref⟩) (mem_facts hx (.head _))
    cases hfd : find s ⟨.xr, cm0.ref⟩ with
    | none => simp
    | some x => simp [this x hfd, hfl]
  · have := hf (.gone ⟨.xr, cm0.ref⟩) (mem_facts hx (.head _))
    simp only [Fact.holds] at this
    rw [this]; simp

theorem notInLock_of_seen {n : String} (hx : NotInLockSeen h n) : ∀ l, find s lockKey = some l → n ∉ l.pkgs := by
  intro l hfd
  rcases hx with hx | ⟨l0, hl0, hn⟩ | ⟨rv, l0, hl0⟩
  · rw [gone_of_seen hf hx] at hfd; cases hfd
  · exact fun hm => hn (hf (.pkgsSub l0.pkgs) (mem_facts hl0 (by simp [learn])) l hfd n hm)
  · exact hf (.notInLock n) (mem_facts hl0 (.head _)) l hfd

end seen

theorem Before.mem {h : Hist} {a b : Req × Resp} (hb : Before h a b) : a ∈ h ∧ b ∈ h := by
  obtain ⟨h1, h2, h3, rfl⟩ := hb
  constructor <;> simp

theorem safe_of_guard (s : St) (c : Ctl) (n : String) (h : Hist) (r : Req)
    (hg : guardH c n h r) (hf : ∀ f ∈ facts h, f.holds s) : safeReq s c n r = true := by
  -- the stored XRD is a later version of the one the reconcile read (same uid, same CRD names):
  -- a CRD seen as not the read one's is not the stored one's
  have ours : ∀ {d0 d : Obj}, (Req.get ⟨.xrd, n⟩, Resp.obj d0) ∈ h → find s ⟨.xrd, n⟩ = some d →
      (CRDNotOursSeen h d0.ref d0.uid → crdNotOurs s d.ref d.uid = true) ∧
      (CRDNotOursSeen h d0.of d0.uid → crdNotOurs s d.of d.uid = true) := fun hget hfd => by
    have hs := same_of_seen hf hget _ hfd
    rw [hs.uid, (hs.same (.inr rfl)).1, hs.of_]
    exact ⟨crdNotOurs_of_seen hf, crdNotOurs_of_seen hf⟩
  cases r with
  | removeFin k rv fin =>
    cases c with
    | claim =>
      refine bne_or_iff.mpr fun hfin => find_all_iff.mpr fun cm hfd => bne_or_iff.mpr fun hr => ?_
      obtain ⟨rfl, cm0, hget, hrv, hx⟩ := hg hfin
      have hsm := (same_of_seen hf hget cm hfd).same (.inl (hr.trans hrv))
      exact claimXRGone_of_seen hf hsm.1 hsm.2 hx
    | xr => rfl
    | defined =>
      refine bne_or_iff.mpr fun hfin => find_all_iff.mpr fun d hfd => ?_
      obtain ⟨rfl, d0, hget, hx⟩ := hg hfin
      exact (ours hget hfd).1 hx
    | offered =>
      refine bne_or_iff.mpr fun hfin => find_all_iff.mpr fun d hfd => ?_
      obtain ⟨rfl, d0, hget, hx⟩ := hg hfin
      exact (ours hget hfd).2 hx
    | rev =>
      refine bne_or_iff.mpr fun hfin => ?_
      obtain ⟨rfl, hx⟩ := hg hfin
      exact find_all_iff.mpr fun l hl => by simpa using notInLock_of_seen hf hx l hl
    | usage =>
      refine bne_or_iff.mpr fun hfin => find_all_iff.mpr fun u hfd => ?_
      rw [Bool.or_assoc]
      refine bne_or_iff.mpr fun hr => ?_
      obtain ⟨rfl, u0, hget, hrv, hx⟩ := hg hfin
      have hs := same_of_seen hf hget u hfd
      have hsm := hs.same (.inl (hr.trans hrv))
      rw [hsm.1, hsm.2, hs.refKind]
      rcases hx with hx | hx | hx
      · simp [hx]
      · simp [hx]
      · simp [present, gone_of_seen hf hx]
  | delete k fg =>
    have crd : ∀ {kd : Kind} {ctl : String}, Before h (Req.list kd, Resp.list []) (Req.stop ctl, Resp.ok) →
        (noneOf s kd && !s.running.contains ctl) = true := fun hb =>
      Bool.and_eq_true_iff.mpr ⟨noneOf_of_seen hf hb.mem.1, by rw [stopped_of_seen hf hb.mem.2]; rfl⟩
    cases c with
    | defined => exact bne_or_iff.mpr fun hk => crd (hg hk)
    | offered => exact bne_or_iff.mpr fun hk => crd (hg hk)
    | _ => rfl
  | stop ctl =>
    cases c with
    | defined =>
      obtain ⟨_, d0, hget, hx⟩ := hg
      exact find_all_iff.mpr fun d hfd => Bool.or_eq_true_iff.mpr (hx.imp (ours hget hfd).1 (noneOf_of_seen hf))
    | offered =>
      obtain ⟨_, d0, hget, hx⟩ := hg
      exact find_all_iff.mpr fun d hfd => Bool.or_eq_true_iff.mpr (hx.imp (ours hget hfd).2 (noneOf_of_seen hf))
    | _ => rfl
  | _ => rfl

section readings
variable {s : St} {c : Ctl} {n : String} {kk : Key} {rv : Nat}

theorem safeReq_claim_fin (hc : c = .claim)
    (h : safeReq s c n (.removeFin kk rv c08ClaimFinalizer) = true)
    {cm : Obj} (hcm : find s kk = some cm) (hrv : cm.rv = rv) (href : cm.ref ≠ "")
    {x : Obj} (hx : find s ⟨.xr, cm.ref⟩ = some x) : x.del = true ∧ cm.flag = false := by
  subst hc
  unfold safeReq at h
  have := bne_or_iff.mp (find_all_iff.mp (bne_or_iff.mp h rfl) cm hcm) hrv
  simpa [claimXRGone, hx, href] using this

/-! The definition and the offered controller: `c0` is the controller, `kd` the kind of its
instances, `ctl` its controller's name, `crd` the field naming its CRD; `hs` says what `safeReq`
is for it. -/

theorem safeReq_crd_delete {c0 : Ctl} {kd : Kind} {ctl crd : String} {fg : Bool} (hc : c = c0)
    (hs : safeReq s c0 n (.delete ⟨.crd, crd⟩ fg) = (noneOf s kd && !s.running.contains ctl))
    (h : safeReq s c n (.delete ⟨.crd, crd⟩ fg) = true) :
    (∀ o ∈ s.objs, o.key.kind ≠ kd) ∧ ctl ∉ s.running := by
  rw [hc, hs] at h
  have := Bool.and_eq_true_iff.mp h
  exact ⟨noneOf_iff.mp this.1, by simpa using this.2⟩

theorem safeReq_xrd_stop {c0 : Ctl} {kd : Kind} {crd : Obj → String} {ctl : String} (hc : c = c0)
    (hs : safeReq s c0 n (.stop ctl) =
      match find s ⟨.xrd, n⟩ with | none => true | some d => crdNotOurs s (crd d) d.uid || noneOf s kd)
    (h : safeReq s c n (.stop ctl) = true) {d : Obj} (hd : find s ⟨.xrd, n⟩ = some d) :
    crdNotOurs s (crd d) d.uid = true ∨ ∀ o ∈ s.objs, o.key.kind ≠ kd := by
  rw [hc, hs] at h
  exact (Bool.or_eq_true_iff.mp (find_all_iff.mp h d hd)).imp_right noneOf_iff.mp

theorem safeReq_xrd_fin {c0 : Ctl} {crd : Obj → String} {fin fin0 : String} (hc : c = c0) (hfin : fin = fin0)
    (hs : safeReq s c0 n (.removeFin kk rv fin) =
      (fin != fin0 || match find s kk with | none => true | some d => crdNotOurs s (crd d) d.uid))
    (h : safeReq s c n (.removeFin kk rv fin) = true) {d : Obj} (hd : find s kk = some d) :
    crdNotOurs s (crd d) d.uid = true := by
  rw [hc, hs] at h
  exact find_all_iff.mp (bne_or_iff.mp h hfin) d hd

theorem safeReq_rev_fin (hc : c = .rev)
    (h : safeReq s c n (.removeFin kk rv c08RevisionFinalizer) = true) {l : Obj} (hl : find s lockKey = some l) :
    kk.name ∉ l.pkgs := by
  subst hc
  unfold safeReq at h
  simpa using find_all_iff.mp (bne_or_iff.mp h rfl) l hl

theorem safeReq_usage_fin (hc : c = .usage)
    (h : safeReq s c n (.removeFin kk rv c08UsageFinalizer) = true)
    {u : Obj} (hu : find s kk = some u) (hrv : u.rv = rv) (hf : u.flag = true) (hr : u.ref ≠ "") :
    find s ⟨u.refKind, u.ref⟩ = none := by
  subst hc
  unfold safeReq at h
  have := find_all_iff.mp (bne_or_iff.mp h rfl) u hu
  rw [Bool.or_assoc] at this
  simpa [present, hf, hr] using bne_or_iff.mp this hrv

end readings

end Xp.C08
