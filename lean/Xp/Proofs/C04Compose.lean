import Xp.Model.C04Compose
/-
Characterisations of the functions of Xp/Model/C04Compose.lean: an iteration of the observer's
loop (`observeStep_some`, with what it keeps and adds; `foldlM_some_invariant` for the fold around
it), `upsert` as a map update (`mem_upsert`, `lookup_upsert`), `xtrace` over an appended / extended
trace and what its entries are.
-/
namespace Xp.C04

theorem foldlM_some_invariant {α β : Type} {f : β → α → Option β} {P : β → Prop} :
    ∀ (l : List α) (b out : β), P b → (∀ a ∈ l, ∀ b b', P b → f b a = some b' → P b') →
      l.foldlM f b = some out → P out := by
  intro l
  induction l with
  | nil => intro b out hb _ h; cases h; exact hb
  | cons a l ih =>
    intro b out hb hstep h
    rw [List.foldlM_cons] at h
    cases hf : f b a with
    | none => rw [hf] at h; cases h
    | some b' =>
      rw [hf] at h
      exact ih b' out (hstep a (List.mem_cons_self ..) b b' hb hf) (fun a' ha' => hstep a' (List.mem_cons_of_mem _ ha')) h

theorem observeStep_some {s : SecretStore} {objs : List CObj} {acc acc' : List ORes} {x : String × String}
    (h : observeStep s objs acc x = some acc') :
    (acc' = acc ∧ ((x.2 == "") = true ∨ objs.find? (fun o => o.kind == x.1 && o.name == x.2) = none ∨
      ∃ o, objs.find? (fun o => o.kind == x.1 && o.name == x.2) = some o ∧ (o.ctrl == "other") = true)) ∨
    ∃ o c, (x.2 == "") = false ∧ objs.find? (fun o => o.kind == x.1 && o.name == x.2) = some o ∧
      (o.ctrl == "other") = false ∧ (o.annot == "") = false ∧ fetchConnection s o.connRef = some c ∧
      acc' = acc.filter (·.res.rname != o.annot) ++ [⟨⟨o.annot, o.kind, o.name, o.content, false⟩, c⟩] := by
  revert h
  fun_cases observeStep s objs acc x with
  | case1 hx => exact fun h => .inl ⟨(Option.some.inj h).symm, .inl hx⟩  -- nameless reference
  | case2 hx hfind => exact fun h => .inl ⟨(Option.some.inj h).symm, .inr (.inl hfind)⟩  -- NotFound twice
  | case3 hx o hfind hctrl =>  -- controlled by someone else
    exact fun h => .inl ⟨(Option.some.inj h).symm, .inr (.inr ⟨o, hfind, hctrl⟩)⟩
  | case4 => exact fun h => nomatch h  -- errAnonymousCD
  | case5 => exact fun h => nomatch h  -- FetchConnection failed
  | case6 hx o hfind hctrl hannot c hconn =>  -- observed
    exact fun h => .inr ⟨o, c, (Bool.not_eq_true _).mp hx, hfind, (Bool.not_eq_true _).mp hctrl,
      (Bool.not_eq_true _).mp hannot, hconn, (Option.some.inj h).symm⟩

theorem observeStep_keeps (s : SecretStore) (objs : List CObj) (acc acc' : List ORes) (x : String × String)
    (h : observeStep s objs acc x = some acc') (n : String) (hn : hasName acc n) : hasName acc' n := by
  rcases observeStep_some h with ⟨rfl, _⟩ | ⟨o, c, _, _, _, _, _, rfl⟩
  · exact hn
  · obtain ⟨r, hr, hrn⟩ := hn
    by_cases he : r.res.rname = o.annot
    · exact ⟨_, List.mem_append_right _ (List.mem_singleton.mpr rfl), by rw [← hrn, he]⟩
    · exact ⟨r, List.mem_append_left _ (List.mem_filter.mpr ⟨hr, by simpa using he⟩), hrn⟩

theorem observeStep_adds (s : SecretStore) (objs : List CObj) (acc acc' : List ORes) (x : String × String) (o : CObj)
    (h : observeStep s objs acc x = some acc') (hx : (x.2 == "") = false)
    (hfind : objs.find? (fun o => o.kind == x.1 && o.name == x.2) = some o) (hctrl : (o.ctrl == "other") = false) :
    hasName acc' o.annot := by
  rcases observeStep_some h with ⟨_, hx' | hnone | ⟨o', hfind', hctrl'⟩⟩ | ⟨o', c, _, hfind', _, _, _, rfl⟩
  · rw [hx] at hx'; cases hx'
  · rw [hfind] at hnone; cases hnone
  · rw [hfind] at hfind'; cases hfind'; rw [hctrl] at hctrl'; cases hctrl'
  · rw [hfind] at hfind'; cases hfind'
    exact ⟨_, List.mem_append_right _ (List.mem_singleton.mpr rfl), rfl⟩

theorem observe_fold_keeps (s : SecretStore) (objs : List CObj) (rs : List (String × String)) (acc out : List ORes)
    (h : rs.foldlM (observeStep s objs) acc = some out) (n : String) (hn : hasName acc n) : hasName out n := by
  exact foldlM_some_invariant (P := (hasName · n)) rs acc out hn
    (fun x _ b b' hb hstep => observeStep_keeps s objs b b' x hstep n hb) h

theorem mem_upsert {β : Type} (l : List (String × β)) (k : String) (v : β) (p : String × β) (h : p ∈ upsert l k v) :
    p ∈ l ∨ p = (k, v) := by
  unfold upsert at h
  split at h
  · obtain ⟨q, hq, rfl⟩ := List.mem_map.mp h
    by_cases hk : (q.1 == k) = true
    · simp [hk]
    · simp [hk, hq]
  · rcases List.mem_append.mp h with h | h
    · exact Or.inl h
    · exact Or.inr (by simpa using h)

theorem lookup_cons_ne {β : Type} (n a1 : String) (a2 : β) (l : List (String × β)) (h : ¬n = a1) :
    List.lookup n ((a1, a2) :: l) = List.lookup n l := by
  simp [List.lookup, beq_false_of_ne h]

theorem lookup_map_upsert {β : Type} (l : List (String × β)) (k : String) (v : β) (n : String) :
    (l.map (fun p => if p.1 == k then (k, v) else p)).lookup n =
      if n = k then (if l.any (·.1 == k) then some v else none) else l.lookup n := by
  induction l with
  | nil => simp
  | cons a l ih =>
    obtain ⟨a1, a2⟩ := a
    simp only [List.map_cons, List.any_cons]
    by_cases hak : a1 = k
    · subst hak
      simp only [BEq.rfl, if_true, Bool.true_or]
      by_cases hn : n = a1
      · subst hn; simp only [List.lookup_cons_self, if_true]
      · rw [lookup_cons_ne _ _ _ _ hn, ih, lookup_cons_ne _ _ _ _ hn]; simp only [hn, if_false]
    · simp only [beq_false_of_ne hak, Bool.false_eq_true, if_false, Bool.false_or]
      by_cases hna : n = a1
      · subst hna
        simp only [List.lookup_cons_self, hak, if_false]
      · rw [lookup_cons_ne _ _ _ _ hna, ih, lookup_cons_ne _ _ _ _ hna]

theorem lookup_append_single {β : Type} (l : List (String × β)) (k : String) (v : β) (n : String) :
    (l ++ [(k, v)]).lookup n = match l.lookup n with
      | some x => some x
      | none => if n = k then some v else none := by
  rw [List.lookup_append]
  cases l.lookup n with
  | some x => rfl
  | none =>
    by_cases h : n = k
    · subst h; simp [List.lookup]
    · simp [List.lookup, beq_false_of_ne h, h]

theorem lookup_none_of_not_any {β : Type} (l : List (String × β)) (k : String) (h : l.any (·.1 == k) = false) :
    l.lookup k = none := by
  rw [List.lookup_eq_none_iff]
  intro p hp
  have := List.any_eq_false.mp h p hp
  simp only [beq_iff_eq] at this
  simp only [bne_iff_ne, ne_eq]
  exact fun e => this e.symm

-- not through `Keyed` of Base/List.lean, whose `set` replaces the first binding of a key: `upsert` rewrites every one
theorem lookup_upsert {β : Type} (l : List (String × β)) (k : String) (v : β) (n : String) :
    (upsert l k v).lookup n = if n = k then some v else l.lookup n := by
  unfold upsert
  by_cases ha : l.any (·.1 == k) = true
  · simp only [ha, if_true, lookup_map_upsert]
  · have ha' : l.any (·.1 == k) = false := (Bool.not_eq_true _).mp ha
    simp only [ha', Bool.false_eq_true, if_false, lookup_append_single]
    by_cases hn : n = k
    · subst hn; simp [lookup_none_of_not_any l n ha']
    · simp only [hn, if_false]; cases l.lookup n <;> rfl

theorem xtrace_append (s : SecretStore) (o : ObservedState) (steps : List XStep) (t₁ t₂ : List (Nat × Request)) :
    xtrace s o steps (t₁ ++ t₂) = xtrace s o steps t₁ ++ xtrace s o steps t₂ :=
  List.filterMap_append

theorem xtrace_cons {s : SecretStore} {o : ObservedState} {steps : List XStep} {k : Nat} {xs : XStep}
    {i : Bool × String} {cd : List (String × KV)} (hk : steps[k]? = some xs) (hp : prepare s xs = some (i, cd))
    (q : Request) (t : List (Nat × Request)) :
    xtrace s o steps ((k, q) :: t) = (k, embed o i cd q) :: xtrace s o steps t := by
  simp only [xtrace, List.filterMap_cons, hk, hp]

theorem mem_xtrace {s : SecretStore} {o : ObservedState} {steps : List XStep} {tr : List (Nat × Request)}
    {k : Nat} {xq : XRequest} (h : (k, xq) ∈ xtrace s o steps tr) :
    ∃ q xs i cd, (k, q) ∈ tr ∧ steps[k]? = some xs ∧ prepare s xs = some (i, cd) ∧ xq = embed o i cd q := by
  unfold xtrace at h
  obtain ⟨p, hp, hsome⟩ := List.mem_filterMap.mp h
  cases hx : steps[p.1]? with
  | none => simp [hx] at hsome
  | some xs =>
    cases hprep : prepare s xs with
    | none => simp [hx, hprep] at hsome
    | some icd =>
      simp only [hx, hprep, Option.some.injEq, Prod.mk.injEq] at hsome
      obtain ⟨rfl, rfl⟩ := hsome
      exact ⟨p.2, xs, icd.1, icd.2, hp, hx, hprep, rfl⟩

end Xp.C04
