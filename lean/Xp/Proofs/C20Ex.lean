import Xp.Model.C20
/-
C20: the data of the examples of Props/C20.lean – a concrete installation, concrete peers, concrete other writers.
-/
namespace Xp.C20

/-- a small installation: webhooks on, one CRD with webhook conversion, two webhook configurations, a
host-qualified provider that is already installed under a custom name, a partially initialised
cluster (CA present, server certificate missing) -/
def exCfg : Cfg :=
  { ns := "crossplane-system", sa := "crossplane", webhook := true, svcName := "crossplane-webhooks",
    svcNs := "crossplane-system", svcPort := 9443, ca := "crossplane-root-ca", server := "crossplane-tls-server",
    client := "crossplane-tls-client", ess := "ess-server",
    p := [⟨"xpkg.upbound.io/crossplane/provider-aws:v1.1.0", some ⟨"xpkg.upbound.io", "crossplane/provider-aws", "v1.1.0", false,
      "xpkg.upbound.io/crossplane/provider-aws:v1.1.0", "xpkg.upbound.io/crossplane/provider-aws"⟩⟩],
    c := [], f := [],
    crdDir := ⟨false, [.crd ⟨"locks.pkg.crossplane.io", 2, [("v1beta1", true), ("v1alpha1", false)], true⟩]⟩,
    whcDir := ⟨false, [.whc ⟨.validating, "validating-webhook-configuration", ["a.crossplane.io"]⟩,
                       .whc ⟨.mutating, "mutating-webhook-configuration", ["b.crossplane.io"]⟩]⟩ }

def exStore : Store :=
  { secrets := [⟨"crossplane-root-ca", .cert ⟨1, 1, ["crossplane-root-ca"], true⟩, .key 1, .empty, 0, 0⟩],
    pkgs := [⟨.provider, "my-aws", "xpkg.upbound.io/crossplane/provider-aws:v1.0.0",
      some ⟨"xpkg.upbound.io", "crossplane/provider-aws", "v1.0.0", false,
        "xpkg.upbound.io/crossplane/provider-aws:v1.0.0", "xpkg.upbound.io/crossplane/provider-aws"⟩, 3⟩],
    crds := [⟨"locks.pkg.crossplane.io", 1, [("v1alpha1", true)], false, .empty, ["v1alpha1"], 7⟩],
    whcs := [], crs := [⟨"locks.pkg.crossplane.io", "lock", 0⟩], lock := some 2, sc := none, drc := none }

/-- the TLS step of core.initCommand.Run with webhooks enabled -/
def pxSteps : List Step :=
  [.tls "crossplane-root-ca"
    (some ⟨"crossplane-tls-server", ["crossplane-webhooks", "crossplane-webhooks.crossplane-system", "crossplane-webhooks.crossplane-system.svc"]⟩)
    (some ⟨"crossplane-tls-client", ["crossplane.crossplane-system"]⟩)]

/-- a cluster without any TLS secret -/
def pxFresh : Store := ⟨[], [], [], [], [], none, none, none⟩

/-- pod B: the same initialisation (key pairs 500, 501, 502), run to completion right before OUR call 1 –
our Create of the CA secret, after our Get (call 0) was answered NotFound -/
def pxPeer : Env Store := peerInit stdGen pxSteps 500 1

/-- a peer that obeys the rely but is not an initialiser: it drops a certificate of a foreign authority
into the server secret if that secret does not exist -/
def pxForeign : Env Store := fun k s =>
  if k = 0 ∧ findSecret s "crossplane-tls-server" = none then
    { s with secrets := s.secrets ++ [⟨"crossplane-tls-server", .cert ⟨9, 9, ["old.example.org"], false⟩, .key 9,
        .cert ⟨9, 9, ["crossplane-root-ca"], true⟩, 0, 0⟩] }
  else s

/-- a peer that breaks the rely: before our call 1 it overwrites the CA secret -/
def pxRogue : Env Store := fun k s =>
  if k = 1 then upsertSecret s ⟨"crossplane-root-ca", .cert ⟨7, 7, ["crossplane-root-ca"], true⟩, .key 7, .empty, 0, 0⟩ else s

/-- a cluster whose CA secret is complete -/
def pxWithCA : Store :=
  ⟨[⟨"crossplane-root-ca", .cert ⟨1, 1, ["crossplane-root-ca"], true⟩, .key 1, .empty, 0, 0⟩], [], [], [], [], none, none, none⟩

def wxR0 : Ref := ⟨"xpkg.upbound.io", "crossplane/provider-aws", "v1.0.0", false,
  "xpkg.upbound.io/crossplane/provider-aws:v1.0.0", "xpkg.upbound.io/crossplane/provider-aws"⟩
def wxR1 : Ref := ⟨"xpkg.upbound.io", "crossplane/provider-aws", "v1.1.0", false,
  "xpkg.upbound.io/crossplane/provider-aws:v1.1.0", "xpkg.upbound.io/crossplane/provider-aws"⟩

/-- somebody installs the requested provider under a name of their own right before our call `k0` -/
def wxUser (k0 : Nat) : Env Store := fun k s =>
  if k = k0 then applyOp s (.putPkg ⟨.provider, "their-own", wxR0.str, some wxR0, 2⟩) else s

def wxEmpty : Store := ⟨[], [], [], [], [], none, none, none⟩

def reqLineTag : Req → String
  | .getLock => "getLock"
  | .createLock => "createLock"
  | .patchLock => "patchLock"
  | .createSc _ => "createSc"
  | .createDrc => "createDrc"
  | _ => "other"

end Xp.C20
