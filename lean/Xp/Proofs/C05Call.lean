import Xp.Proofs.C05
/-
One call of `Reconcile`: `reconcileCall` is "whether it writes" (`Call.writes`) and "what it stores"
(`Call.store`), hence the stored Ready and Synced conditions as functions of the call's control part
(`callOn`: by a reconciler that holds one XR in memory while the API server has another), and after
any sequence of calls what the last call that counts decided (`runSeq_reflects_last`).
-/
namespace Xp.C05

/-- the reconcile completes: it fails nowhere, is not paused and its status update takes effect -/
def Call.clean (c : Call) : Prop := c.lost = false ∧ c.paused = false ∧ c.fault = none

instance (c : Call) : Decidable c.clean := by unfold Call.clean; infer_instance

/-- whether a status write takes effect depends on the call alone, never on what is stored -/
def Call.writes (c : Call) : Bool :=
  !c.lost && match c.fault with
    | some (.get, _) => false
    | some (p, e) => c.paused || !(p.conflictAware && e == .conflict)
    | none => true

/-- the pipeline marked the XR ready, or did not mark it unready and every desired resource is ready -/
def Call.mayReady (c : Call) : Prop :=
  c.explicit = some true ∨ (c.explicit = none ∧ ∀ r ∈ c.composed, r.ready = true)

/-- every desired composed resource was rendered and applied successfully -/
def Call.allSynced (c : Call) : Prop := ∀ r ∈ c.composed, r.synced = true

/-- what a call stores when its status update takes effect (`Call.writes` says whether it does) -/
def Call.store (c : Call) (m : St) : St :=
  if c.paused then { m with conds := setCond m.conds reconcilePaused }
  else match c.fault with
    | none => composeOk m c.composed c.explicit c.fn
    | some (p, _) =>
      if p == .compose then composeError m c.fn else { m with conds := setCond m.conds reconcileError }

theorem reconcileCall_store (m : St) (c : Call) : reconcileCall m c = if c.writes then some (c.store m) else none := by
  unfold reconcileCall Call.writes Call.store
  cases c.lost with
  | true => rfl
  | false =>
    rcases c.fault with _ | ⟨p, e⟩
    · cases c.paused <;> rfl
    · cases c.paused with
      | true => cases p <;> rfl
      | false =>
        cases p with
        | get | select | fetch | validate => rfl
        | _ => cases e <;> rfl

theorem Call.clean_iff (c : Call) : c.clean ↔ c.writes = true ∧ c.paused = false ∧ c.fault = none := by
  unfold Call.clean Call.writes
  constructor
  · rintro ⟨h1, h2, h3⟩
    rw [h1, h3]
    exact ⟨rfl, h2, rfl⟩
  · rintro ⟨h1, h2, h3⟩
    refine ⟨?_, h2, h3⟩
    cases hl : c.lost
    · rfl
    · rw [hl] at h1; cases h1

theorem store_claimTypes (c : Call) (m : St) (t : String) (h : t ∈ (c.store m).claimTypes) :
    t ∈ m.claimTypes ∨ isSystem t = false := by
  unfold Call.store at h
  cases hp : c.paused <;> rw [hp] at h
  case true => exact Or.inl h
  rcases hf : c.fault with _ | ⟨p, e⟩ <;> rw [hf] at h
  · exact applyFnConds_claimTypes m c.fn t h
  · dsimp only at h
    cases hc : p == Phase.compose <;> rw [hc] at h
    · exact Or.inl h
    · exact applyFnConds_claimTypes { m with conds := setCond m.conds reconcileError } c.fn t h

/-- One call of `Reconcile` by a reconciler that holds the XR `mem` in memory while the API server
has `stored`: what is stored afterwards, and whether the status update took effect. -/
def callOn (stored mem : St) (c : Call) : St × Bool :=
  ((reconcileCall mem c).getD stored, (reconcileCall mem c).isSome)

theorem callOn_eq (s m : St) (c : Call) : callOn s m c = if c.writes then (c.store m, true) else (s, false) := by
  unfold callOn
  rw [reconcileCall_store]
  cases c.writes <;> rfl

theorem callOn_writes (s m : St) (c : Call) : (callOn s m c).2 = c.writes := by
  rw [callOn_eq]
  cases c.writes <;> rfl

theorem reconcileCall_isSome (m : St) (c : Call) : (reconcileCall m c).isSome = c.writes := callOn_writes m m c

theorem reconcileCall_eq_callOn (s m : St) (c : Call) :
    reconcileCall m c = if c.writes then some (callOn s m c).1 else none := by
  rw [reconcileCall_store, callOn_eq]
  cases c.writes <;> rfl

theorem callOn_ready (s m : St) (c : Call) :
    findC (callOn s m c).1.conds "Ready" =
      if c.clean then some (readyCond c.composed c.explicit)
      else if c.writes then findC m.conds "Ready" else findC s.conds "Ready" := by
  rw [callOn_eq]
  simp only [c.clean_iff]
  unfold Call.store
  cases c.writes
  · rw [if_neg (c := _ ∧ _) (fun h => nomatch h.1)]; rfl
  cases c.paused
  case true => exact (findC_setCond_ne _ _ _ ready_ne_synced).trans (if_neg (c := _ ∧ _) (fun h => nomatch h.2.1)).symm
  rcases c.fault with _ | ⟨p, e⟩
  · exact (findC_composeOk_ready _ _ _ _).trans (if_pos ⟨rfl, rfl, rfl⟩).symm
  · rw [if_neg (c := _ ∧ _) (fun h => nomatch h.2.2)]
    dsimp only
    cases p == Phase.compose
    · exact findC_setCond_ne _ _ _ ready_ne_synced
    · exact findC_composeError_ready _ _

theorem callOn_synced (s m : St) (c : Call) :
    findC (callOn s m c).1.conds "Synced" =
      if c.writes then
        some (if c.clean then syncedCond c.composed else if c.paused then reconcilePaused else reconcileError)
      else findC s.conds "Synced" := by
  rw [callOn_eq]
  simp only [c.clean_iff]
  unfold Call.store
  cases c.writes
  · rfl
  cases c.paused
  case true =>
    exact (findC_setCond_self _ _).trans (by rw [if_pos rfl, if_neg (c := _ ∧ _) (fun h => nomatch h.2.1)]; rfl)
  rcases c.fault with _ | ⟨p, e⟩
  · exact (findC_composeOk_synced _ _ _ _).trans (by rw [if_pos rfl, if_pos ⟨rfl, rfl, rfl⟩])
  · rw [if_pos rfl, if_neg (c := _ ∧ _) (fun h => nomatch h.2.2)]
    dsimp only
    cases p == Phase.compose
    · exact findC_setCond_self _ _
    · exact findC_composeError_synced _ _

theorem callOn_ready_true_iff (s m : St) (c : Call) :
    statusOf (callOn s m c).1.conds "Ready" = some "True" ↔
      if c.clean then c.mayReady else statusOf (if c.writes then m else s).conds "Ready" = some "True" := by
  rw [statusOf_eq, callOn_ready]
  by_cases hc : c.clean
  · rw [if_pos hc, if_pos hc, Option.map_some, Option.some.injEq]
    exact readyCond_true_iff _ _
  · rw [if_neg hc, if_neg hc]
    cases c.writes <;> exact Iff.rfl

theorem callOn_synced_true_iff (s m : St) (c : Call) :
    statusOf (callOn s m c).1.conds "Synced" = some "True" ↔
      if c.writes then c.clean ∧ c.allSynced else statusOf s.conds "Synced" = some "True" := by
  rw [statusOf_eq, callOn_synced]
  cases c.writes
  · exact Iff.rfl
  · rw [if_pos rfl, if_pos rfl, Option.map_some, Option.some.injEq]
    by_cases hc : c.clean
    · rw [if_pos hc]
      exact (syncedCond_true_iff _).trans ⟨fun h => ⟨hc, h⟩, (·.2)⟩
    · rw [if_neg hc]
      -- the mark of a call that does not complete, ReconcilePaused or ReconcileError, is False
      cases c.paused <;> exact ⟨fun h => absurd h status_false_ne_true, fun h => absurd h.1 hc⟩

theorem callOn_system_congr (c : Call) (t : String) (ht : t = "Ready" ∨ t = "Synced") (s s' m m' : St) (fn' : List FnCond)
    (hs : findC s.conds t = findC s'.conds t) (hm : t = "Ready" → findC m.conds "Ready" = findC m'.conds "Ready") :
    findC (callOn s m c).1.conds t = findC (callOn s' m' { c with fn := fn' }).1.conds t := by
  rcases ht with rfl | rfl
  · rw [callOn_ready, callOn_ready, hm rfl, hs]
    rfl
  · rw [callOn_synced, callOn_synced, hs]
    rfl

theorem stepSeq_length (sts : List St) (s : Step) : (stepSeq sts s).1.length = sts.length := by
  fun_cases stepSeq sts s <;> simp

theorem stepSeq_getElem? (sts : List St) (s : Step) (x : Nat) :
    (stepSeq sts s).1[x]? = sts[x]?.map fun old => if s.xr = x then (callOn old old s.call).1 else old := by
  unfold callOn
  by_cases e : s.xr = x
  · subst e
    simp only [if_pos]
    fun_cases stepSeq sts s
    case case1 h0 => rw [h0]; rfl                                      -- no such XR
    case case2 st h0 h1 => rw [h0, Option.map_some, h1]; rfl           -- nothing written
    case case3 st h0 st1 h1 =>
      rw [h0, Option.map_some, h1]
      exact List.getElem?_set_self (List.getElem?_eq_some_iff.mp h0).1
  · simp only [if_neg e, Option.map_id']
    fun_cases stepSeq sts s
    case case3 => exact List.getElem?_set_ne e
    all_goals rfl

/-- Whatever one call decides about the stored XR by "if the call is selected, a verdict of the call,
else as before", any interleaving of calls on any XRs decides by the last selected call on that XR.
`last` is any function with the two equations of `lastClean` / `lastWrite` (in Props/C05.lean). -/
theorem runSeq_reflects_last {Q : St → Prop} {sel V : Call → Prop} [DecidablePred sel]
    (hcall : ∀ old c, Q (callOn old old c).1 ↔ if sel c then V c else Q old)
    {last : List Step → Nat → Option Call} (hnil : ∀ x, last [] x = none)
    (hcons : ∀ s ss x, last (s :: ss) x =
      match last ss x with
      | some c => some c
      | none => if s.xr = x ∧ sel s.call then some s.call else none)
    (sts : List St) (steps : List Step) (x : Nat) (hx : x < sts.length) :
    (∃ st, (runSeq sts steps)[x]? = some st ∧ Q st) ↔
      match last steps x with
      | some c => V c
      | none => ∃ st, sts[x]? = some st ∧ Q st := by
  induction steps generalizing sts with
  | nil => rw [hnil]; exact Iff.rfl
  | cons s ss ih =>
    rw [hcons, runSeq, ih _ (stepSeq_length sts s ▸ hx)]
    cases last ss x with
    | some c => rfl
    | none =>
      dsimp only
      rw [stepSeq_getElem?, List.getElem?_eq_getElem hx, Option.map_some]
      simp only [Option.some.injEq, exists_eq_left']
      by_cases hsx : s.xr = x
      · rw [if_pos hsx, hcall]
        by_cases hc : sel s.call
        · rw [if_pos hc, if_pos ⟨hsx, hc⟩]
        · rw [if_neg hc, if_neg fun h => hc h.2]
      · rw [if_neg hsx, if_neg fun h => hsx h.1]

end Xp.C05
