import Xp.Model.C16World
/-
C16: the three layers of the model are one. With nobody interfering and an up-to-date cache the
world's definitions (`…V`, Model/C16World.lean) are those under establish-phase interference
(`…I`), and these with `Interf.none` are the plain ones. Facts about a plain or `…I` definition are
read off the `…V` fact where its statement specialises; the classification `OriginV` does not — it
has a case (`rethird`) that `Origin` lacks and that it cannot exclude at `VInterf.none`.
-/
namespace Xp.C16

variable (rejects : Obj → Bool) (fault : Fault) (tp : Interf) (p : Parent) (control : Bool) (ran : Nat → Bool)
  (s : Store) (i : Nat) (objs : List Desired) (vorder eorder : List Nat) (sys : Sys) (r : Rev) (e : Env)

theorem establishOneI_none (cd : CD) :
    establishOneI rejects fault Interf.none p control s i cd = establishOne rejects fault p control s i cd := rfl

theorem establishAllI_none (ys : List (Nat × CD)) :
    establishAllI rejects fault Interf.none p control s ys = establishAll rejects fault p control s ys := by
  induction ys generalizing s with
  | nil => rfl
  | cons y rest ih =>
    unfold establishAllI establishAll
    simp only [establishOneI_none, ih]

theorem establishI_none :
    establishI rejects fault Interf.none p control s objs vorder eorder =
      establish rejects fault p control s objs vorder eorder := by
  unfold establishI establish establishCoreI establishCore
  simp only [establishAllI_none]
  rfl

theorem reconcileRevI_none :
    reconcileRevI sys r e Interf.none = reconcileRev sys r e := by
  unfold reconcileRevI reconcileRev establishAndRecordI establishAndRecord
  simp only [establishI_none]

theorem runHistoryI_none (h : List (Rev × Env)) :
    runHistoryI sys (h.map fun x => ⟨[], x.1, x.2, Interf.none⟩) = runHistory sys h := by
  induction h generalizing sys with
  | nil => rfl
  | cons x rest ih =>
    simp only [List.map_cons, runHistoryI, runHistory, reconcileRevI_none]
    exact ih _

theorem validateOneV_none (d : Desired) :
    validateOneV rejects fault VInterf.none p control s i d = validateOne rejects fault p control s i d := rfl

theorem validateAllV_none (xs : List (Nat × Desired)) :
    validateAllV rejects fault VInterf.none p control s xs = validateAll rejects fault p control s xs := by
  induction xs generalizing s with
  | nil => rfl
  | cons x rest ih =>
    unfold validateAllV validateAll
    simp only [validateOneV_none, ih]
    rfl

theorem establishV_none :
    establishV rejects fault VInterf.none tp p control s objs vorder eorder =
      establishI rejects fault tp p control s objs vorder eorder := by
  unfold establishV establishI establishCoreV establishCoreI
  simp only [validateAllV_none]
  rfl

theorem releaseOneV_none (ref : Ref) :
    releaseOneV rejects fault RInterf.none p ran s i ref = releaseOne rejects fault p ran s i ref := rfl

theorem releaseAllV_none (xs : List (Nat × Ref)) :
    releaseAllV rejects fault RInterf.none p ran s xs = releaseAll rejects fault p ran s xs := by
  induction xs generalizing s with
  | nil => rfl
  | cons x rest ih =>
    unfold releaseAllV releaseAll
    simp only [releaseOneV_none, ih]
    rfl

theorem releaseV_none (refs : List Ref) (order : List Nat) :
    releaseV rejects fault RInterf.none p ran s refs order = release rejects fault p ran s refs order :=
  releaseAllV_none rejects fault p ran s _

theorem reconcileRevV_none :
    reconcileRevV sys r e { e := tp } = reconcileRevI sys r e tp := by
  have hv : ∀ s, establishV e.rejects e.fault ({} : VInterf) tp r.parent r.active s r.objs e.vorder e.eorder =
      establishI e.rejects e.fault tp r.parent r.active s r.objs e.vorder e.eorder :=
    fun s => establishV_none _ _ _ _ _ _ _ _ _
  have hr : releaseV e.rejects e.fault ({} : RInterf) r.parent e.ran sys.store (sys.refs r.parent.uid) e.rorder =
      release e.rejects e.fault r.parent e.ran sys.store (sys.refs r.parent.uid) e.rorder :=
    releaseV_none _ _ _ _ _ _ _
  unfold reconcileRevV reconcileRevI establishAndRecordV establishAndRecordI
  simp only [hv, hr]
  rfl

theorem runHistoryV_none (h : List HStep) :
    runHistoryV sys (h.map fun x => ⟨x.before, x.rev, x.env, { e := x.tp }⟩) = runHistoryI sys h := by
  induction h generalizing sys with
  | nil => rfl
  | cons x rest ih =>
    simp only [List.map_cons, runHistoryV, runHistoryI, reconcileRevV_none]
    exact ih _

end Xp.C16
