import Xp.Proofs.C07CSA
/-
The call-level world model of the claim syncers (Xp/Model/C07World.lean). In the quiet world it
is `syncSSA` / `syncCSA`. In every world a sync is a run of API calls: `Run` collects what holds
of every outcome (what reaches the XR, what a stale copy of the claim does, which calls can have
failed, what the applied configuration can be afterwards: `PrevFrom`), `Run.fail / done / env /
claimWrite / reheld` are the ways a run goes on, and `syncSSAW_run` / `syncCSAW_run` follow the two functions once.
-/
namespace Xp.C07
open Xp

@[simp] theorem applyActs_nil (s : Srv) : applyActs s [] = s := rfl

@[simp] theorem quiet_acts (k : Nat) : World.quiet.acts k = [] := rfl
@[simp] theorem quiet_inj (k : Nat) : World.quiet.inj k = none := rfl
@[simp] theorem quiet_getLive : World.quiet.getLive = true := rfl

/-- what an accepted write of the claim tells (`claimWrite_ok`) -/
structure ClaimWritten (inj : Option String) (held : Nat) (s : Srv) (f : KObj → KObj) (s' : Srv) : Prop where
  noFailure : inj = none
  current : held = s.cmV
  cm : s'.cm = f s.cm
  xr : s'.xr = s.xr
  xrV : s'.xrV = s.xrV
  prev : s'.prev = s.prev

theorem claimWrite_ok (inj : Option String) (held : Nat) (s : Srv) (f : KObj → KObj) (s' : Srv)
    (h : claimWrite inj held s f = .ok s') : ClaimWritten inj held s f s' := by
  unfold claimWrite at h
  cases inj with
  | some e => simp at h
  | none =>
    simp only [] at h
    split at h
    · simp at h
    · rename_i hv
      have hv' : held = s.cmV := by simpa using hv
      simp only [Except.ok.injEq] at h
      subst h
      exact ⟨rfl, hv', rfl, rfl, rfl, rfl⟩

theorem claimWrite_ok_eq (held : Nat) (s : Srv) (f : KObj → KObj) (h : held = s.cmV) :
    claimWrite none held s f = .ok { s with cm := f s.cm, cmV := bump (!kobjSame s.cm (f s.cm)) s.cmV } := by
  subst h
  simp [claimWrite]

theorem claimWrite_error (inj : Option String) (held : Nat) (s : Srv) (f : KObj → KObj) (e : String)
    (h : claimWrite inj held s f = .error e) :
    (∃ cls, inj = some cls ∧ e = apiErr cls) ∨ (inj = none ∧ held ≠ s.cmV ∧ e = apiErr "conflict") := by
  unfold claimWrite at h
  cases inj with
  | some cls =>
    simp only [Except.error.injEq] at h
    exact Or.inl ⟨cls, rfl, h.symm⟩
  | none =>
    simp only [] at h
    split at h
    · rename_i hv
      simp only [Except.error.injEq] at h
      exact Or.inr ⟨rfl, by simpa using hv, h.symm⟩
    · simp at h

theorem apiErr_ne_empty (cls : String) : apiErr cls ≠ "" := by
  simp [apiErr]

theorem claimWrite_err_ne {inj : Option String} {held : Nat} {s : Srv} {f : KObj → KObj} {e : String}
    (h : claimWrite inj held s f = .error e) : e ≠ "" := by
  rcases claimWrite_error _ _ _ _ _ h with ⟨_, _, rfl⟩ | ⟨_, _, rfl⟩ <;> exact apiErr_ne_empty _

theorem claimWrite_stale (inj : Option String) (held : Nat) (s : Srv) (f : KObj → KObj) (h : held ≠ s.cmV) :
    ∃ e, claimWrite inj held s f = .error e ∧ e ≠ "" := by
  cases hw : claimWrite inj held s f with
  | error e => exact ⟨e, rfl, claimWrite_err_ne hw⟩
  | ok s' => exact absurd (claimWrite_ok _ _ _ _ _ hw).current h

theorem syncSSAW_quiet (c : Cfg) (gen : String) (s : Srv) :
    let o := syncSSAW c gen World.quiet s.cm s.cmV s.xr s
    o.srv.toSt = (syncSSA c gen s.toSt).st ∧ o.writes = (syncSSA c gen s.toSt).writes ∧
      o.err = (syncSSA c gen s.toSt).err := by
  unfold syncSSAW syncSSA
  simp only [Srv.toSt]
  cases hcs : s.cm.spec with
  | none => exact ⟨rfl, rfl, rfl⟩
  | some v =>
    cases v with
    | obj cs =>
      simp only [quiet_acts, applyActs_nil, quiet_inj, claimWrite_ok_eq _ _ _ rfl]
      cases hst : (applySSA s.xr s.prev (ssaPatch c gen s.cm s.xr cs)).status with
      | none => exact ⟨rfl, rfl, rfl⟩
      | some st =>
        cases st with
        | obj xst =>
          simp only [claimWrite, bne_self_eq_false, Bool.false_eq_true, if_false]
          exact ⟨trivial, trivial, trivial⟩
        | _ => exact ⟨rfl, rfl, rfl⟩
    | _ => exact ⟨rfl, rfl, rfl⟩

theorem csaBackW_quiet (c : Cfg) (cm1 xrA : KObj) (k : Nat) (s : Srv) (ws : List Write)
    (hcm : s.cm = cm1) (hx : s.xr = some xrA) :
    let o := csaBackW World.quiet k cm1 s.cmV xrA s ws
    let o' := csaBack c cm1 xrA s.toSt ws
    o.srv.toSt = o'.st ∧ o.writes = o'.writes ∧ o.err = o'.err := by
  subst hcm
  unfold csaBackW csaBack
  simp only [Srv.toSt]
  cases hm : csaMergeStatus s.cm.status xrA.status with
  | error e => exact ⟨rfl, rfl, rfl⟩
  | ok st' =>
    simp only [quiet_acts, applyActs_nil, quiet_inj, claimWrite, bne_self_eq_false, Bool.false_eq_true, if_false,
      storeClaimStatus]
    cases hsp : s.cm.spec with
    | none => exact ⟨by simp [hx], rfl, rfl⟩
    | some v =>
      cases v with
      | obj cs =>
        exact ⟨by simp [hx, storeClaimUpdate], by simp, rfl⟩
      | _ => exact ⟨by simp [hx], rfl, rfl⟩

theorem csaApplyW_quiet (c : Cfg) (k : Nat) (d : KObj) (s : Srv) (ws : List Write)
    (hp : s.xr = none → s.prev = none) :
    let o := csaApplyW World.quiet k d s.xr s.xrV s.cm s.cmV s ws
    let xrA := (match s.xr with
      | none => d
      | some cur => if kobjEqv cur d then cur else mergePatchXR cur d)
    let w2 := (match s.xr with
      | none => [Write.xrCreate d]
      | some cur => if kobjEqv cur d then [] else [Write.xrPatch d])
    let o' := csaBack c s.cm xrA { cm := s.cm, xr := some xrA, prev := s.prev } (ws ++ w2)
    o.srv.toSt = o'.st ∧ o.writes = o'.writes ∧ o.err = o'.err := by
  obtain ⟨cm, cmV, xr, xrV, prev⟩ := s
  unfold csaApplyW csaGet
  simp only [quiet_acts, applyActs_nil, quiet_inj, quiet_getLive, if_true]
  cases xr with
  | none =>
    simp only [Option.map_none, csaAfterGet, quiet_acts, applyActs_nil, quiet_inj, Option.isSome_none,
      Bool.false_eq_true, if_false]
    have hprev : prev = none := hp rfl
    subst hprev
    simpa [Srv.toSt] using csaBackW_quiet c cm d (k + 2) ⟨cm, cmV, some d, xrV + 1, none⟩ (ws ++ [.xrCreate d]) rfl rfl
  | some cur =>
    simp only [Option.map_some, csaAfterGet, quiet_acts, applyActs_nil, quiet_inj, Option.isSome_some,
      Bool.true_and, beq_self_eq_true]
    by_cases heq : kobjEqv cur d = true
    · simp only [heq, if_true, List.append_nil]
      simpa [Srv.toSt] using csaBackW_quiet c cm cur (k + 1) ⟨cm, cmV, some cur, xrV, prev⟩ ws rfl rfl
    · have heq' : kobjEqv cur d = false := by simpa using heq
      simp only [heq', Bool.false_eq_true, if_false, bne_self_eq_false]
      simpa [Srv.toSt] using csaBackW_quiet c cm (mergePatchXR cur d) (k + 2)
        ⟨cm, cmV, some (mergePatchXR cur d), bump (!kobjSame cur (mergePatchXR cur d)) xrV, prev⟩
        (ws ++ [.xrPatch d]) rfl rfl

/-- `hp`: a pair without an XR has nothing applied by the claim controller's field manager. -/
theorem syncCSAW_quiet (c : Cfg) (gen : String) (s : Srv) (hp : s.xr = none → s.prev = none) :
    let o := syncCSAW c gen World.quiet s.cm s.cmV s.xr s.xrV s
    o.srv.toSt = (syncCSA c gen s.toSt).st ∧ o.writes = (syncCSA c gen s.toSt).writes ∧
      o.err = (syncCSA c gen s.toSt).err := by
  unfold syncCSAW syncCSA
  simp only [Srv.toSt]
  cases hcs : s.cm.spec with
  | none => exact ⟨rfl, rfl, rfl⟩
  | some v =>
    cases v with
    | obj cs =>
      simp only []
      by_cases href : refIs c (csaDesired c gen s.cm s.xr cs).name cs = true
      · simp only [href, if_true, List.nil_append]
        have := csaApplyW_quiet c 0 (csaDesired c gen s.cm s.xr cs) s [] hp
        simp only [List.nil_append] at this
        have hb : csaBound c gen { cm := s.cm, xr := s.xr, prev := s.prev } cs = s.cm := by
          simp [csaBound, href]
        simp only [hb, csaApplied]
        exact this
      · have href' : refIs c (csaDesired c gen s.cm s.xr cs).name cs = false := by simpa using href
        simp only [href', Bool.false_eq_true, if_false, quiet_acts, applyActs_nil, quiet_inj, claimWrite,
          bne_self_eq_false]
        have hb : csaBound c gen { cm := s.cm, xr := s.xr, prev := s.prev } cs =
            storeClaimUpdate s.cm (csaBind c (csaDesired c gen s.cm s.xr cs).name s.cm cs) := by
          simp [csaBound, href']
        simp only [hb, csaApplied]
        have := csaApplyW_quiet c 1 (csaDesired c gen s.cm s.xr cs)
          { s with cm := storeClaimUpdate s.cm (csaBind c (csaDesired c gen s.cm s.xr cs).name s.cm cs),
                   cmV := bump (!kobjSame s.cm (storeClaimUpdate s.cm (csaBind c (csaDesired c gen s.cm s.xr cs).name s.cm cs))) s.cmV }
          [Write.claimUpdate (csaBind c (csaDesired c gen s.cm s.xr cs).name s.cm cs)] hp
        exact this
    | _ => exact ⟨rfl, rfl, rfl⟩

/-- the configuration last applied by the claim controller's field manager mentions no key the XR
side owns -/
def PrevOK (s : Srv) : Prop := ∀ q, s.prev = some q → ∀ k, XrOwned k → alookup k q.specFields = none

theorem applyActs_prev (l : List Act) : ∀ s, (applyActs s l).prev = s.prev ∨ (applyActs s l).prev = none := by
  induction l with
  | nil => intro s; exact .inl rfl
  | cons a rest ih =>
    intro s
    have ha : (applyAct s a).prev = s.prev ∨ (applyAct s a).prev = none := by
      cases a with
      | editClaim d => exact .inl rfl
      | xrCtl d => unfold applyAct; cases s.xr <;> exact .inl rfl
      | deleteXR => exact .inr rfl
      | createXR x =>
        unfold applyAct
        cases s.xr
        · exact .inr rfl
        · exact .inl rfl
    rcases ih (applyAct s a) with e | e
    · exact ha.imp e.trans e.trans
    · exact .inr e

theorem ClaimByEnv.refl (s : Srv) : ClaimByEnv s s := ⟨[], rfl, rfl⟩

theorem applyActs_cmV_le (l : List Act) : ∀ s, s.cmV ≤ (applyActs s l).cmV := by
  induction l with
  | nil => intro s; exact Nat.le_refl _
  | cons a rest ih =>
    intro s
    refine Nat.le_trans ?_ (ih (applyAct s a))
    cases a with
    | editClaim d => simp only [applyAct, bump]; split <;> omega
    | xrCtl d => unfold applyAct; cases s.xr <;> simp
    | deleteXR => simp [applyAct]
    | createXR y => unfold applyAct; cases s.xr <;> simp

theorem applyActs_claim_congr (l : List Act) : ∀ (a b : Srv), a.cm = b.cm → a.cmV = b.cmV →
    (applyActs a l).cm = (applyActs b l).cm ∧ (applyActs a l).cmV = (applyActs b l).cmV := by
  induction l with
  | nil => intro a b h1 h2; exact ⟨h1, h2⟩
  | cons x rest ih =>
    intro a b h1 h2
    have : (applyAct a x).cm = (applyAct b x).cm ∧ (applyAct a x).cmV = (applyAct b x).cmV := by
      cases x with
      | editClaim d => simp [applyAct, h1, h2]
      | deleteXR => exact ⟨h1, h2⟩
      | xrCtl d => unfold applyAct; cases a.xr <;> cases b.xr <;> exact ⟨h1, h2⟩
      | createXR y => unfold applyAct; cases a.xr <;> cases b.xr <;> exact ⟨h1, h2⟩
    exact ih _ _ this.1 this.2

theorem ClaimByEnv.trans (s a b : Srv) (h : ClaimByEnv s a) (h' : ClaimByEnv a b) : ClaimByEnv s b := by
  obtain ⟨l0, e1, e2⟩ := h
  obtain ⟨l1, f1, f2⟩ := h'
  obtain ⟨g1, g2⟩ := applyActs_claim_congr l1 (applyActs s l0) a e1 e2
  have happ : applyActs s (l0 ++ l1) = applyActs (applyActs s l0) l1 := List.foldl_append
  exact ⟨l0 ++ l1, by rw [happ]; exact g1.trans f1, by rw [happ]; exact g2.trans f2⟩

theorem ClaimByEnv.step (s : Srv) (l : List Act) : ClaimByEnv s (applyActs s l) := ⟨l, rfl, rfl⟩

theorem ClaimByEnv.acts (s s' : Srv) (l : List Act) (h : ClaimByEnv s s') : ClaimByEnv s (applyActs s' l) :=
  ClaimByEnv.trans s s' _ h (ClaimByEnv.step s' l)

theorem ClaimByEnv.cmV_le (s s' : Srv) (h : ClaimByEnv s s') : s.cmV ≤ s'.cmV := by
  obtain ⟨l, _, e2⟩ := h
  rw [← e2]; exact applyActs_cmV_le l s

theorem syncSSAW_stale_claim (c : Cfg) (gen : String) (w : World) (rcm : KObj) (rcmV : Nat) (rxr : Option KObj)
    (s : Srv) (cs : AL J) (hcs : rcm.spec = some (.obj cs))
    (hstale : rcmV ≠ (applyActs s (w.acts 0)).cmV) :
    let o := syncSSAW c gen w rcm rcmV rxr s
    o.err ≠ "" ∧ o.srv = applyActs s (w.acts 0) ∧ o.calls = 1 ∧ (∀ wr ∈ o.writes, wr.isXR = false) := by
  unfold syncSSAW
  rw [hcs]
  simp only []
  obtain ⟨e, he, hne⟩ := claimWrite_stale (w.inj 0) rcmV (applyActs s (w.acts 0))
    (fun st => storeClaimUpdate st (ssaClaim c (ssaPatch c gen rcm rxr cs).name rcm rxr cs)) hstale
  rw [he]
  refine ⟨hne, rfl, rfl, ?_⟩
  intro wr hwr
  simp only [List.mem_singleton] at hwr
  subst hwr; rfl

theorem csaGet_err_ne (w : World) (k : Nat) (rxr : Option KObj) (rxrV : Nat) (sg : Srv) (e : String)
    (h : csaGet w k rxr rxrV sg = .error e) : e ≠ "" := by
  unfold csaGet at h
  cases hi : w.inj k with
  | none => simp only [hi] at h; split at h <;> cases h
  | some cls =>
    simp only [hi] at h
    split at h
    · cases h
    · simp only [Except.error.injEq] at h; subst h; exact apiErr_ne_empty _

/-- the store moved on without the claim controller writing the claim: third parties acted, the
XR was written -/
def Moved (Q : Write → Prop) (s s' : Srv) : Prop := ClaimByEnv s s' ∧ PrevFrom Q s.prev s'.prev

section
variable {Q : Write → Prop}

theorem Moved.refl (s : Srv) : Moved Q s s := ⟨ClaimByEnv.refl s, .inl rfl⟩

theorem Moved.trans {s a b : Srv} (h : Moved Q s a) (h' : Moved Q a b) : Moved Q s b :=
  ⟨ClaimByEnv.trans _ _ _ h.1 h'.1, h.2.trans h'.2⟩

theorem Moved.acts (s : Srv) (l : List Act) : Moved Q s (applyActs s l) :=
  ⟨ClaimByEnv.step s l, (applyActs_prev l s).imp_right .inl⟩

theorem Moved.xr (s : Srv) (x : Option KObj) (v : Nat) (p : Option KObj) (hp : PrevFrom Q s.prev p) :
    Moved Q s { s with xr := x, xrV := v, prev := p } :=
  ⟨⟨[], rfl, rfl⟩, hp⟩

end

/-- What every outcome `o` of a part of a sync has in common. The part starts with API
call `k` on the store `s`, the syncer holding version `held` of the claim; `ws` are the writes so
far, `Q` what a further write may be, `A` the calls that may answer NotFound without ending the sync. -/
structure Run (w : World) (A : Nat → Prop) (Q : Write → Prop) (k held : Nat) (s : Srv) (ws : List Write)
    (o : OutW) : Prop where
  writes : ∀ wr ∈ o.writes, wr ∈ ws ∨ Q wr
  prev : PrevFrom Q s.prev o.srv.prev
  stale : held < s.cmV → o.err ≠ "" ∧ ClaimByEnv s o.srv
  okCalls : o.err = "" → ∀ j, k ≤ j → j < o.calls → ∀ e, w.inj j = some e → A j ∧ e = "notFound"

section
variable {w : World} {A : Nat → Prop} {Q : Write → Prop} {k held : Nat} {s : Srv} {ws : List Write}

theorem mem_append_or (cws : List Write) (h : ∀ wr ∈ cws, Q wr) : ∀ wr ∈ ws ++ cws, wr ∈ ws ∨ Q wr :=
  fun wr hm => (List.mem_append.mp hm).imp_right (h wr)

theorem Run.fail (s' : Srv) (ws' : List Write) (e : String) (n : Nat) (he : e ≠ "") (hs : Moved Q s s')
    (hw : ∀ wr ∈ ws', wr ∈ ws ∨ Q wr) :
    Run w A Q k held s ws { srv := s', writes := ws', err := e, calls := n } :=
  ⟨hw, hs.2, fun _ => ⟨he, hs.1⟩, fun h => absurd h he⟩

theorem Run.done (ws' : List Write) (hh : s.cmV ≤ held) (hw : ∀ wr ∈ ws', wr ∈ ws ∨ Q wr) :
    Run w A Q k held s ws { srv := s, writes := ws', calls := k } :=
  ⟨hw, .inl rfl, fun h => absurd h (Nat.not_lt.mpr hh), fun _ _ hk hj => absurd hj (Nat.not_lt.mpr hk)⟩

/-- calls `k … k'-1` went through while the store moved from `s` to `s'` without a claim write -/
theorem Run.env {k' : Nat} {s' : Srv} {ws' : List Write} {o : OutW} (hs : Moved Q s s')
    (hw : ∀ wr ∈ ws', wr ∈ ws ∨ Q wr)
    (hk : ∀ j, k ≤ j → j < k' → ∀ e, w.inj j = some e → A j ∧ e = "notFound")
    (next : Run w A Q k' held s' ws' o) : Run w A Q k held s ws o where
  writes wr h := (next.writes wr h).elim (hw wr) .inr
  prev := hs.2.trans next.prev
  stale h :=
    have h' := next.stale (Nat.lt_of_lt_of_le h (ClaimByEnv.cmV_le _ _ hs.1))
    ⟨h'.1, ClaimByEnv.trans _ _ _ hs.1 h'.2⟩
  okCalls hok j hkj hj e he :=
    if hlt : j < k' then hk j hkj hlt e he else next.okCalls hok j (Nat.le_of_not_lt hlt) hj e he

/-- call `k`, a write of the claim, went through: the copy was current, whatever version it holds next -/
theorem Run.claimWrite {f : KObj → KObj} {s' : Srv} {held' : Nat} {o : OutW}
    (h : claimWrite (w.inj k) held (applyActs s (w.acts k)) f = .ok s')
    (next : Run w A Q (k + 1) held' s' ws o) : Run w A Q k held s ws o := by
  have hi := (claimWrite_ok _ _ _ _ _ h).noFailure
  have hv := (claimWrite_ok _ _ _ _ _ h).current
  have hp : PrevFrom Q s.prev s'.prev := by
    rw [(claimWrite_ok _ _ _ _ _ h).prev]
    exact (applyActs_prev _ s).imp_right .inl
  refine ⟨next.writes, hp.trans next.prev, fun hlt => ?_, fun hok j hkj hj e he => ?_⟩
  · have := applyActs_cmV_le (w.acts k) s
    omega
  · by_cases hjk : j = k
    · rw [hjk, hi] at he; cases he
    · exact next.okCalls hok j (by omega) hj e he

/-- a copy that is current may be exchanged for any other -/
theorem Run.reheld {held' : Nat} {o : OutW} (hh : s.cmV ≤ held) (next : Run w A Q k held' s ws o) :
    Run w A Q k held s ws o :=
  { next with stale := fun h => absurd h (Nat.not_lt.mpr hh) }

/-- what the client-side syncer may write: any claim write; to the XR the create or the merge patch of `d` -/
def csaMay (d : KObj) (wr : Write) : Prop := wr.isXR = true → wr = .xrCreate d ∨ wr = .xrPatch d

/-- status merge, Status().Update, Update -/
theorem csaBackW_run (d : KObj) (k : Nat) (cm1 : KObj) (cmV : Nat) (xrA : KObj) (s : Srv) (ws : List Write) :
    Run w A (csaMay d) k cmV s ws (csaBackW w k cm1 cmV xrA s ws) := by
  -- everything written here is a write of the claim
  have claims : ∀ cws : List Write, (∀ wr ∈ cws, wr.isXR = false) → ∀ wr ∈ ws ++ cws, wr ∈ ws ∨ csaMay d wr :=
    fun cws h => mem_append_or cws fun wr hwr hx => by rw [h wr hwr] at hx; cases hx
  -- `s2`, `h2`: the Status().Update went through; the names skipped are the parts of the Update's body
  fun_cases csaBackW w k cm1 cmV xrA s ws
  case case1 e he => -- the status merge fails
    exact Run.fail s ws e k (csaMergeStatus_err_ne _ _ e he) (Moved.refl s) fun _ h => .inl h
  case case2 e he => -- the Status().Update fails
    exact Run.fail _ _ e _ (claimWrite_err_ne he) (Moved.acts s _) (claims _ (by simp [Write.isXR]))
  case case3 s2 h2 _ _ _ _ _ _ _ _ e he => -- the Update fails
    exact Run.claimWrite (held' := s2.cmV) h2
      (Run.fail _ _ e _ (claimWrite_err_ne he) (Moved.acts s2 _) (claims _ (by simp [Write.isXR])))
  case case4 s2 h2 _ _ _ _ _ _ _ _ s3 h3 => -- both went through
    exact Run.claimWrite (held' := s2.cmV) h2
      (Run.claimWrite (held' := s3.cmV) h3 (Run.done _ (Nat.le_refl _) (claims _ (by simp [Write.isXR]))))
  case case5 s2 h2 _ _ => -- "mergeSpec"
    exact Run.claimWrite (held' := s2.cmV) h2
      (Run.fail s2 _ _ _ (by simp) (Moved.refl s2) (claims _ (by simp [Write.isXR])))

theorem csaGet_ok {k : Nat} {rxr : Option KObj} {rxrV : Nat} {sg : Srv} {got : Option (KObj × Nat)}
    (h : csaGet w k rxr rxrV sg = .ok got) :
    (w.inj k = none ∨ w.inj k = some "notFound") ∧ (got.isSome → w.inj k = none) := by
  unfold csaGet at h
  cases hi : w.inj k with
  | none => exact ⟨.inl rfl, fun _ => rfl⟩
  | some cls =>
    simp only [hi] at h
    split at h
    · rename_i hc
      cases h
      exact ⟨.inr (by simpa using hc), fun h' => by cases h'⟩
    · cases h

/-- crossplane-runtime's Apply from call `k` (its Get, which may answer NotFound), then the rest -/
theorem csaApplyW_run (hA : A k) (d : KObj) (rxr : Option KObj) (rxrV : Nat) (cm1 : KObj) (cmV : Nat)
    (s : Srv) (ws : List Write) :
    Run w A (csaMay d) k cmV s ws (csaApplyW w k d rxr rxrV cm1 cmV s ws) := by
  have e1 : Moved (csaMay d) s _ := Moved.acts s (w.acts k)
  have e2 := e1.trans (Moved.acts _ (w.acts (k + 1)))
  have own : ∀ wr ∈ ws, wr ∈ ws ∨ csaMay d wr := fun _ h => .inl h
  have sent : ∀ x ∈ [Write.xrCreate d, .xrPatch d], ∀ wr ∈ ws ++ [x], wr ∈ ws ∨ csaMay d wr :=
    fun x hx => mem_append_or _ fun wr h _ => by rw [List.mem_singleton.mp h]; simpa using hx
  fun_cases csaApplyW w k d rxr rxrV cm1 cmV s ws
  case case1 e he => exact Run.fail _ ws e _ (csaGet_err_ne _ _ _ _ _ e he) e1 own -- the Get fails
  case case2 sg got hg =>
    obtain ⟨hk0, hk1⟩ := csaGet_ok hg
    -- calls `k` (the Get) and `k + 1` (Create / Patch) when the latter went through
    have two : w.inj (k + 1) = none →
        ∀ j, k ≤ j → j < k + 2 → ∀ e, w.inj j = some e → A j ∧ e = "notFound" := by
      intro h1 j hkj hj e he
      have : j = k ∨ j = k + 1 := by omega
      rcases this with rfl | rfl
      · rcases hk0 with h0 | h0 <;> rw [h0] at he <;> cases he
        exact ⟨hA, rfl⟩
      · rw [h1] at he; cases he
    -- three ways on to the claim; every other exit is a Create / Patch that was sent and failed
    fun_cases csaAfterGet w k d rxr rxrV cm1 cmV sg ws got
    case case4 => -- created
      exact Run.env (e2.trans (Moved.xr _ _ _ _ (.inr (.inl rfl)))) (sent _ (by simp)) (two ‹_›)
        (csaBackW_run d _ _ _ _ _ _)
    case case5 => -- the Get answered the desired XR: nothing is sent
      refine Run.env e1 own (fun j hkj hj e he => ?_) (csaBackW_run d _ _ _ _ _ _)
      have : j = k := by omega
      rw [this, hk1 rfl] at he; cases he
    case case9 => -- patched
      exact Run.env (e2.trans (Moved.xr _ _ _ _ (.inl rfl))) (sent _ (by simp)) (two ‹_›)
        (csaBackW_run d _ _ _ _ _ _)
    all_goals exact Run.fail _ _ _ _ (apiErr_ne_empty _) e2 (sent _ (by simp))

/-- the whole client-side sync: only the Get inside Apply (call 0 or 1) may answer NotFound -/
theorem syncCSAW_run (c : Cfg) (gen : String) (rcm : KObj) (rcmV : Nat) (rxr : Option KObj) (rxrV : Nat)
    (s : Srv) :
    Run w (· ≤ 1) (csaMay (csaDesired c gen rcm rxr rcm.specFields)) 0 rcmV s []
      (syncCSAW c gen w rcm rcmV rxr rxrV s) := by
  fun_cases syncCSAW c gen w rcm rcmV rxr rxrV s
  case case4 => exact Run.fail s [] _ 0 (by simp) (Moved.refl s) (by simp) -- the spec is no object
  all_goals rw [specFields_eq ‹rcm.spec = _›]
  case case1 => -- the claim is bound already
    exact csaApplyW_run (A := (· ≤ 1)) (k := 0) (Nat.zero_le 1) _ _ _ _ _ _ _
  case case2 e he => -- the binding Update fails
    exact Run.fail _ _ e _ (claimWrite_err_ne he) (Moved.acts s _) (by simp [csaMay, Write.isXR])
  case case3 s0 h0 =>
    exact Run.claimWrite h0 (Run.env (Moved.refl s0) (ws' := [.claimUpdate _]) (by simp [csaMay, Write.isXR])
      (fun j h1 h2 => absurd h2 (Nat.not_lt.mpr h1))
      (csaApplyW_run (A := (· ≤ 1)) (k := 1) (Nat.le_refl 1) _ _ _ _ _ _ _))

end

/-- what the server-side syncer may write: to the XR the apply of `p`; to the claim a body with the
metadata of the claim as read and the external name `en` -/
def ssaMay (p rcm : KObj) (en : String) (wr : Write) : Prop :=
  if wr.isXR then wr = .xrApply p else ClaimMetaOf rcm en wr.body

/-- Update(claim), Patch(XR, Apply), Status().Update(claim): no call may fail -/
theorem syncSSAW_run {w : World} (c : Cfg) (gen : String) (rcm : KObj) (rcmV : Nat) (rxr : Option KObj) (s : Srv) :
    Run w (fun _ => False) (ssaMay (ssaPatch c gen rcm rxr rcm.specFields) rcm (extName rxr)) 0 rcmV s []
      (syncSSAW c gen w rcm rcmV rxr s) := by
  unfold syncSSAW
  split
  case h_2 => exact Run.fail s [] _ 0 (by simp) (Moved.refl s) (by simp)
  rename_i cs hcs
  rw [specFields_eq hcs]
  simp only []
  have base := ssaClaim_meta c (ssaPatch c gen rcm rxr cs).name rcm rxr cs
  -- nothing below depends on what the body applied and the claim body are
  generalize ssaPatch c gen rcm rxr cs = p at base ⊢
  generalize ssaClaim c p.name rcm rxr cs = b0 at base ⊢
  -- the writes so far, as lists: the claim update; then the apply; then a status update with the claim's metadata
  have w0 : ∀ wr ∈ [Write.claimUpdate b0], wr ∈ ([] : List Write) ∨ ssaMay p rcm (extName rxr) wr := by
    simpa [ssaMay, Write.isXR, Write.body] using base
  have w1 : ∀ wr ∈ [Write.claimUpdate b0, Write.xrApply p],
      wr ∈ ([] : List Write) ∨ ssaMay p rcm (extName rxr) wr := by
    simpa [ssaMay, Write.isXR, Write.body] using base
  have w2 : ∀ b, ClaimMetaOf rcm (extName rxr) b →
      ∀ wr ∈ [Write.claimUpdate b0, Write.xrApply p] ++ [Write.claimStatus b],
        wr ∈ ([] : List Write) ∨ ssaMay p rcm (extName rxr) wr := by
    intro b hb
    simpa [ssaMay, Write.isXR, Write.body] using And.intro base hb
  split
  · rename_i e he
    exact Run.fail _ _ e _ (claimWrite_err_ne he) (Moved.acts s _) w0
  · rename_i s0 h0
    -- the syncer's copy of the claim is the server's answer to the Update: the body sent, with the stored status
    have hst : ∀ st, ClaimMetaOf rcm (extName rxr) { s0.cm with status := st } := by
      intro st
      rw [(claimWrite_ok _ _ _ _ _ h0).cm]
      exact base
    refine Run.claimWrite (held' := s0.cmV) h0 ?_
    have e1 : Moved (ssaMay p rcm (extName rxr)) s0 _ := Moved.acts s0 (w.acts 1)
    split
    · exact Run.fail _ _ _ _ (apiErr_ne_empty _) e1 w1
    · rename_i hi1
      have one : ∀ j, 1 ≤ j → j < 2 → ∀ e, w.inj j = some e → False ∧ e = "notFound" := by
        intro j h1 h2 e he
        have : j = 1 := by omega
        rw [this, hi1] at he; cases he
      -- the apply: the body sent becomes the applied configuration
      have e2 : ∀ x v, Moved (ssaMay p rcm (extName rxr)) s0
          { applyActs s0 (w.acts 1) with xr := x, xrV := v, prev := some p } :=
        fun x v => e1.trans (Moved.xr _ x v _ (.inr (.inr ⟨.xrApply p, by simp [ssaMay, Write.isXR], rfl, rfl⟩)))
      split
      · -- no status to copy: the sync ends without looking at the claim again
        exact Run.reheld (held' := (applyActs s0 (w.acts 1)).cmV) (Nat.le_refl _)
          (Run.env (e2 _ _) (fun _ h => .inl h) one
            (Run.done _ (Nat.le_refl _) w1))
      · split
        · rename_i e he
          exact Run.env (e2 _ _) (fun _ h => .inl h) one
            (Run.fail _ _ e _ (claimWrite_err_ne he) (Moved.acts _ _) (w2 _ (hst _)))
        · rename_i s2 h2
          exact Run.env (e2 _ _) (fun _ h => .inl h) one
            (Run.claimWrite (held' := s2.cmV) h2
              (Run.done _ (Nat.le_refl _) (w2 _ (hst _))))
      · exact Run.fail _ _ _ _ (by simp) (e2 _ _) w1

end Xp.C07
