import Xp.Proofs.C07List
/-
C07, which keys: the generated key tables are the partition `owner` (`owner_cases`, `tables_owner`), so the spec
both syncers hand to the XR, `specToXR`, has the bindings `specToXR_partition` gives; the reserved-key filter, on
the characters of a key (`reservedL`, `reserved_toList`: how closed facts about `reserved` are evaluated), with the
three facts about `takeWhile` / `dropWhile` at one character that Props' `reserved_iff` needs.
-/
namespace Xp.C07
open Xp

/-- every top-level spec key either side treats specially -/
def machineryKeys : List String :=
  ["resourceRef", "compositeDeletePolicy", "claimRef", "resourceRefs", "writeConnectionSecretToRef",
   "publishConnectionDetailsTo", "compositionRef", "compositionSelector", "compositionUpdatePolicy",
   "compositionRevisionSelector", "compositionRevisionRef"]

/-- The proof compares no literals: it uses only the order of the tests of `owner`. -/
theorem owner_cases (k : String) :
    (owner k = .claimOnly ∧ (k = "resourceRef" ∨ k = "compositeDeletePolicy")) ∨
    (owner k = .xrOnly ∧ (k = "claimRef" ∨ k = "resourceRefs")) ∨
    (owner k = .eachSide ∧ (k = "writeConnectionSecretToRef" ∨ k = "publishConnectionDetailsTo")) ∨
    (owner k = .shared ∧ (k = "compositionRef" ∨ k = "compositionSelector" ∨ k = "compositionUpdatePolicy" ∨
      k = "compositionRevisionSelector")) ∨
    (owner k = .revision ∧ k = "compositionRevisionRef") ∨
    (owner k = .user ∧ k ∉ machineryKeys) := by
  by_cases h1 : k = "resourceRef" ∨ k = "compositeDeletePolicy"
  · exact .inl ⟨if_pos h1, h1⟩
  by_cases h2 : k = "claimRef" ∨ k = "resourceRefs"
  · exact .inr (.inl ⟨(if_neg h1).trans (if_pos h2), h2⟩)
  by_cases h3 : k = "writeConnectionSecretToRef" ∨ k = "publishConnectionDetailsTo"
  · exact .inr (.inr (.inl ⟨(if_neg h1).trans ((if_neg h2).trans (if_pos h3)), h3⟩))
  by_cases h4 : k = "compositionRef" ∨ k = "compositionSelector" ∨ k = "compositionUpdatePolicy" ∨
      k = "compositionRevisionSelector"
  · exact .inr (.inr (.inr (.inl ⟨(if_neg h1).trans ((if_neg h2).trans ((if_neg h3).trans (if_pos h4))), h4⟩)))
  by_cases h5 : k = "compositionRevisionRef"
  · exact .inr (.inr (.inr (.inr (.inl
      ⟨(if_neg h1).trans ((if_neg h2).trans ((if_neg h3).trans ((if_neg h4).trans (if_pos h5)))), h5⟩))))
  · refine .inr (.inr (.inr (.inr (.inr
      ⟨(if_neg h1).trans ((if_neg h2).trans ((if_neg h3).trans ((if_neg h4).trans (if_neg h5)))), ?_⟩))))
    simp [machineryKeys, h1, h2, h3, h4, h5]

theorem owner_xrOnly {k : String} (h : owner k = .xrOnly) : k = "claimRef" ∨ k = "resourceRefs" := by
  simpa [h] using owner_cases k

theorem owner_eachSide {k : String} (h : owner k = .eachSide) :
    k = "writeConnectionSecretToRef" ∨ k = "publishConnectionDetailsTo" := by
  simpa [h] using owner_cases k

theorem owner_resourceRef : owner "resourceRef" = .claimOnly := by simp [owner]
theorem owner_claimRef : owner "claimRef" = .xrOnly := by simp [owner]
theorem owner_resourceRefs : owner "resourceRefs" = .xrOnly := by simp [owner]

/-- the key of the revision clause -/
abbrev revKey : String := "compositionRevisionRef"

theorem owner_revKey : owner revKey = .revision := by simp [owner, revKey]

theorem owner_revision_iff (k : String) : owner k = .revision ↔ k = revKey := by
  refine ⟨fun h => ?_, fun h => h ▸ owner_revKey⟩
  simpa [h] using owner_cases k

theorem tables_owner (k : String) :
    Xp.Gen.specPropsClaim.contains k =
      (owner k == .shared || owner k == .revision || owner k == .claimOnly || owner k == .eachSide) ∧
    Xp.Gen.specPropsXR.contains k =
      (owner k == .shared || owner k == .revision || owner k == .xrOnly || owner k == .eachSide) ∧
    Xp.Gen.propagateSpecProps.contains k = (owner k == .shared) := by
  rcases owner_cases k with ⟨h, hk⟩ | ⟨h, hk⟩ | ⟨h, hk⟩ | ⟨h, hk⟩ | ⟨h, hk⟩ | ⟨h, hk⟩ <;> rw [h]
  · rcases hk with rfl | rfl <;> simp [Xp.Gen.specPropsClaim, Xp.Gen.specPropsXR, Xp.Gen.propagateSpecProps]
  · rcases hk with rfl | rfl <;> simp [Xp.Gen.specPropsClaim, Xp.Gen.specPropsXR, Xp.Gen.propagateSpecProps]
  · rcases hk with rfl | rfl <;> simp [Xp.Gen.specPropsClaim, Xp.Gen.specPropsXR, Xp.Gen.propagateSpecProps]
  · rcases hk with rfl | rfl | rfl | rfl <;>
      simp [Xp.Gen.specPropsClaim, Xp.Gen.specPropsXR, Xp.Gen.propagateSpecProps]
  · subst hk; simp [Xp.Gen.specPropsClaim, Xp.Gen.specPropsXR, Xp.Gen.propagateSpecProps]
  · simp [machineryKeys] at hk
    simp [Xp.Gen.specPropsClaim, Xp.Gen.specPropsXR, Xp.Gen.propagateSpecProps, hk]

theorem statusProps_contains (k : String) : Xp.Gen.statusProps.contains k = statusMachinery k := by
  simp only [Xp.Gen.statusProps, statusMachinery, List.contains_eq_mem, List.mem_cons, List.not_mem_nil, or_false]
  refine decide_eq_decide.mpr ⟨fun h => ?_, fun h => ?_⟩
  · rcases h with h | h | h
    · exact .inr (.inr h)
    · exact .inl h
    · exact .inr (.inl h)
  · rcases h with h | h | h
    · exact .inr (.inl h)
    · exact .inr (.inr h)
    · exact .inl h

theorem contains_filter (l : List String) (p : String → Bool) (k : String) :
    (l.filter p).contains k = (l.contains k && p k) := by
  simp [List.mem_filter]

theorem claimFilter_contains (manual : Bool) (k : String) :
    (claimFilter manual).contains k =
      match owner k with
      | .claimOnly | .eachSide => true
      | .revision => !manual
      | _ => false := by
  have hr : (k == Xp.Gen.compositionRevisionRefKey) = (owner k == .revision) := by
    rw [Bool.eq_iff_iff, beq_iff_eq, beq_iff_eq, owner_revision_iff]; rfl
  simp only [claimFilter, contains_filter, (tables_owner _).1, (tables_owner _).2.2, hr]
  cases owner k <;> cases manual <;> rfl

theorem xrFilter_contains (k : String) :
    xrFilter.contains k =
      match owner k with
      | .xrOnly | .eachSide | .revision => true
      | _ => false := by
  simp only [xrFilter, contains_filter, (tables_owner _).2.1, (tables_owner _).2.2]
  cases owner k <;> rfl

theorem alookup_specToXR (c : Cfg) (cm : KObj) (manual : Bool) (cs : AL J) (k : String) :
    alookup k (specToXR c cm manual cs) =
      if k = "claimRef" then some (claimRefJ c cm)
      else match owner k with
        | .claimOnly | .eachSide => none
        | .revision => if manual then alookup k cs else none
        | _ => alookup k cs := by
  unfold specToXR
  rw [alookup_aset, alookup_withoutKeys, claimFilter_contains]
  by_cases h : k = "claimRef"
  · simp [h]
  · simp only [h, if_false]
    cases owner k <;> cases manual <;> simp

/-- `ssaPatch` and `csaDesired` have `specToXR` as their spec by definition: this is the spec law of both syncers. -/
theorem specToXR_partition (c : Cfg) (cm : KObj) (manual : Bool) (cs : AL J) (k : String) :
    (owner k = .user ∨ owner k = .shared → alookup k (specToXR c cm manual cs) = alookup k cs) ∧
    (owner k = .claimOnly ∨ owner k = .eachSide → alookup k (specToXR c cm manual cs) = none) ∧
    (owner k = .revision →
      alookup k (specToXR c cm manual cs) = if manual then alookup k cs else none) ∧
    (k = "claimRef" → alookup k (specToXR c cm manual cs) = some (claimRefJ c cm)) ∧
    (owner k = .xrOnly → k ≠ "claimRef" → alookup k (specToXR c cm manual cs) = alookup k cs) := by
  rw [alookup_specToXR]
  by_cases hk : k = "claimRef"
  · subst hk; simp [owner_claimRef]
  · simp only [hk, if_false]
    cases owner k <;> simp

theorem specToXR_not_owned (c : Cfg) (cm : KObj) (manual : Bool) {cs : AL J} (hv : ClaimValid cs)
    {k : String} (hk : XrOwned k) : alookup k (specToXR c cm manual cs) = none := by
  have h := specToXR_partition c cm manual cs k
  rcases hk with hk | rfl
  · exact h.2.1 (.inr hk)
  · rw [h.2.2.2.2 owner_resourceRefs (by simp)]
    exact hv _ owner_resourceRefs

theorem NoDup_specToXR (c : Cfg) (cm : KObj) (manual : Bool) (cs : AL J) (h : NoDup cs) :
    NoDup (specToXR c cm manual cs) := by
  unfold specToXR withoutKeys
  exact NoDup_aset _ _ _ (NoDup_filter _ cs h)

/-- `reserved` on the characters of a key: closed facts `reserved "lit" = b` are rewritten to it
(`reserved_toList`, then `String.toList_ofList`, a literal being `String.ofList` of its characters) before the
kernel evaluates them; on `reserved "lit"` itself it decodes the key's UTF-8 bytes, at many times the cost. -/
def reservedL (l : List Char) : Bool :=
  let p := l.takeWhile (· != '/')
  "kubernetes.io".toList.isSuffixOf p || "k8s.io".toList.isSuffixOf p

theorem reserved_toList (k : String) : reserved k = reservedL k.toList := by
  simp only [reserved, firstPart, Xp.Gen.c07ReservedSuffixes, List.any, show reservedSep = '/' from rfl, Bool.or_false]
  rfl

theorem reserved_own_keys : reserved extNameKey = false ∧ reserved Xp.Gen.labelKeyClaimName = false ∧
    reserved Xp.Gen.labelKeyClaimNamespace = false := by
  simp only [reserved_toList, extNameKey, Xp.Gen.annotationKeyExternalName, Xp.Gen.labelKeyClaimName,
    Xp.Gen.labelKeyClaimNamespace]
  rw [String.toList_ofList, String.toList_ofList, String.toList_ofList]
  decide +kernel

theorem reserved_extName : reserved extNameKey = false := reserved_own_keys.1

theorem ne_of_reserved {k k' : String} (hk : reserved k = true) (hk' : reserved k' = false) : k ≠ k' :=
  fun e => by rw [e, hk'] at hk; cases hk

theorem claimLabelKeys_ne : Xp.Gen.labelKeyClaimName ≠ Xp.Gen.labelKeyClaimNamespace := by
  simp [Xp.Gen.labelKeyClaimName, Xp.Gen.labelKeyClaimNamespace]

theorem takeWhile_ne_append (c : Char) (p r : List Char) (hp : c ∉ p) (hr : r = [] ∨ r.head? = some c) :
    (p ++ r).takeWhile (· != c) = p := by
  have hp' : ∀ a ∈ p, (a != c) = true := fun a ha => bne_iff_ne.mpr fun e => hp (e ▸ ha)
  cases r with
  | nil => rw [List.takeWhile_append_of_pos hp', List.takeWhile_nil, List.append_nil]
  | cons a r' =>
    cases hr.resolve_left (List.cons_ne_nil a r')
    exact takeWhile_append_cons hp' (bne_self_eq_false c)

theorem not_mem_takeWhile_ne (c : Char) (l : List Char) : c ∉ l.takeWhile (· != c) := fun h => by
  simpa using List.all_eq_true.mp (List.all_takeWhile (p := (· != c)) (l := l)) c h

theorem dropWhile_ne_head (c : Char) (l : List Char) :
    l.dropWhile (· != c) = [] ∨ (l.dropWhile (· != c)).head? = some c := by
  have := List.head?_dropWhile_not (· != c) l
  cases h : l.dropWhile (· != c) with
  | nil => exact .inl rfl
  | cons a r => rw [h] at this; exact .inr (by simpa using this)

end Xp.C07
