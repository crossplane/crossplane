import Xp.Model.C10
import Xp.Base.List
/-
Helper lemmas for C10: what it is for a result not to be the panic outcome (`NP`);
Paved.setValue never indexes out of range (the `panic` branch of the model's setIn is unreachable
from an object root) and keeps an object an object; association lists under setKey / eraseKey;
reading a path back after writing it or a sibling.
-/
namespace Xp.C10
open V (lookup setKey eraseKey)

/-- the error a result carries (`none`: a value) is not `panic`; computes to `True` on `none` and on a literal
error other than `panic`, so a branch that ends in one of these is closed by `trivial` -/
def NPo : Option E → Prop
  | some .panic => False
  | _ => True

/-- `r` is not the panic outcome -/
def NP {α} (r : Except E α) : Prop :=
  NPo (match r with
    | .ok _ => none
    | .error e => some e)

theorem NPo.ne {x : Option E} (h : NPo x) : x ≠ some .panic := by
  intro hx
  rw [hx] at h
  exact h

theorem NP.ne {α} {r : Except E α} (h : NP r) : r ≠ .error .panic := by
  intro hr
  rw [hr] at h
  exact h

/-- stated on the error alone: it is handed on as `.error e` and as the `err` of an `Out` -/
theorem NP.of_eq {α} {r : Except E α} {e : E} (he : r = .error e) (h : NP r) : NPo (some e) := by
  rw [he] at h
  exact h

/-- a value is ready for segment `nx` when an array it holds is long enough for the index -/
def ready (c : V) : Seg → Prop
  | .index n => ∀ l, c = .arr l → n < l.length
  | .field _ => True

theorem ready_fresh (nx : Seg) : ready (fresh nx) nx := by
  cases nx with
  | field k => trivial
  | index n =>
    intro l h
    simp only [fresh, V.arr.injEq] at h
    subst h
    simp

theorem ready_grow (c : V) (nx : Seg) : ready (grow c nx) nx := by
  cases nx with
  | field k => trivial
  | index n =>
    intro l h
    cases c with
    | arr l0 =>
      simp only [grow] at h
      split at h
      · rename_i hlt
        cases V.arr.inj h
        exact hlt
      · cases V.arr.inj h
        simp only [List.length_append, List.length_replicate]
        omega
    | _ => simp [grow] at h

theorem ready_prepField (m : List (String × V)) (k : String) (nx : Seg) : ready (prepField m k nx) nx := by
  unfold prepField
  split
  · exact ready_fresh nx
  · exact ready_grow _ nx

theorem ready_prepElem (e : V) (nx : Seg) : ready (prepElem e nx) nx := by
  unfold prepElem
  split
  · exact ready_fresh nx
  · exact ready_grow _ nx

theorem ready_obj (m : List (String × V)) (nx : Seg) : ready (.obj m) nx := by
  cases nx with
  | field k => trivial
  | index n => intro l h; cases h

/-- setIn never reaches the out-of-range branch when the value is ready for the first segment: every
recursive call is made on a value prepared for the next one. The cases of `fun_induction setIn` named below:
below a field (3, 4) or an index (7, 8) the rest of the path succeeded or failed; 9 is the index out of range. -/
theorem setIn_no_panic (it : V) (segs : List Seg) (v : V) :
    (∀ nx rest, segs = nx :: rest → ready it nx) → NP (setIn it segs v) := by
  fun_induction setIn it segs v with
  | case3 | case7 =>
    rw [‹setIn _ _ _ = _›]
    exact fun _ => trivial
  | case4 k v m nx tail e h ih =>
    rw [h]
    exact fun _ => NP.of_eq h (ih fun _ _ h => by cases h; exact ready_prepField _ k _)
  | case8 n v l hlt nx tail e h ih =>
    rw [h]
    exact fun _ => NP.of_eq h (ih fun _ _ h => by cases h; exact ready_prepElem _ _)
  | case9 n rest v l hlt => exact fun hr => absurd (hr _ _ rfl l rfl) hlt
  | _ => exact fun _ => trivial

theorem setValue_ok {root : V} {segs : List Seg} {v r : V} :
    setValue root segs v = .ok r → ∃ v', norm v = .ok v' ∧ setIn root segs v' = .ok r := by
  fun_cases setValue root segs v with
  | case3 => exact fun h => ⟨_, ‹_›, h⟩                  -- the value is valid JSON, no index is too big: `setIn`
  | _ => nofun

theorem setValue_obj_no_panic (m : List (String × V)) (segs : List Seg) (v : V) : NP (setValue (.obj m) segs v) := by
  fun_cases setValue (.obj m) segs v with
  | case3 => exact setIn_no_panic _ segs _ fun nx _ _ => ready_obj m nx   -- the call of `setIn`
  | _ => trivial

theorem keyed : Keyed lookup setKey :=
  ⟨⟨fun _ => rfl, fun _ _ _ _ => rfl⟩, fun _ _ => rfl, fun _ _ _ _ _ => rfl⟩

theorem lookup_setKey_self (k : String) (v : V) (l : List (String × V)) : lookup k (setKey k v l) = some v :=
  keyed.get_set_self k v l

theorem lookup_setKey_ne (k k' : String) (v : V) (l : List (String × V)) (h : k ≠ k') :
    lookup k' (setKey k v l) = lookup k' l :=
  keyed.get_set_ne h.symm v l

theorem eraseKey_setKey (k : String) (v : V) (l : List (String × V)) : eraseKey k (setKey k v l) = eraseKey k l := by
  fun_induction setKey k v l with
  | case1 => simp [eraseKey]
  | case2 => simp [eraseKey]
  | case3 k' v' rest h ih => simp [eraseKey, h, ih]

theorem setKey_setKey (k : String) (a b : V) (l : List (String × V)) : setKey k a (setKey k b l) = setKey k a l := by
  fun_induction setKey k b l with
  | case1 => simp [setKey]
  | case2 => simp [setKey]
  | case3 k' v' rest h ih => simp [setKey, h, ih]

theorem lookup_eraseKey_ne (k k' : String) (l : List (String × V)) (h : k' ≠ k) : lookup k' (eraseKey k l) = lookup k' l :=
  keyed.get_erase_ne (fun _ => rfl) (fun _ _ _ _ => rfl) h l

theorem setIn_field_ok {it : V} {k : String} {rest : List Seg} {v r : V} (h : setIn it (.field k :: rest) v = .ok r) :
    ∃ m c, it = .obj m ∧ r = .obj (setKey k c m) ∧
      ((rest = [] ∧ c = v) ∨ ∃ nx rest', rest = nx :: rest' ∧ setIn (prepField m k nx) rest v = .ok c) := by
  unfold setIn at h
  split at h
  · rename_i m
    split at h
    · exact ⟨m, v, rfl, (Except.ok.inj h).symm, .inl ⟨rfl, rfl⟩⟩
    · split at h
      · rename_i c hc
        exact ⟨m, c, rfl, (Except.ok.inj h).symm, .inr ⟨_, _, rfl, hc⟩⟩
      · cases h
  · cases h

theorem setIn_obj_shape (m : List (String × V)) (segs : List Seg) (v r : V)
    (h : setIn (.obj m) segs v = .ok r) : ∃ m', r = .obj m' := by
  match segs with
  | [] => exact ⟨m, (Except.ok.inj h).symm⟩
  | .field k :: rest =>
    obtain ⟨_, c, hm, rfl, _⟩ := setIn_field_ok h
    exact ⟨_, rfl⟩
  | .index n :: rest => cases h

theorem setIn_index_ok {it : V} {n : Nat} {rest : List Seg} {v r : V} (h : setIn it (.index n :: rest) v = .ok r) :
    ∃ l c, it = .arr l ∧ n < l.length ∧ r = .arr (l.set n c) ∧
      ((rest = [] ∧ c = v) ∨ ∃ nx rest', rest = nx :: rest' ∧ setIn (prepElem (l.getD n .null) nx) rest v = .ok c) := by
  unfold setIn at h
  split at h
  · rename_i l
    split at h
    · rename_i hlt
      split at h
      · exact ⟨l, v, rfl, hlt, (Except.ok.inj h).symm, .inl ⟨rfl, rfl⟩⟩
      · split at h
        · rename_i c hc
          exact ⟨l, c, rfl, hlt, (Except.ok.inj h).symm, .inr ⟨_, _, rfl, hc⟩⟩
        · cases h
    · cases h
  · cases h

theorem getIn_field (m : List (String × V)) (k : String) (c : V) (rest : List Seg) :
    getIn (.obj (setKey k c m)) (.field k :: rest) = getIn c rest := by
  simp only [getIn, stepGet, lookup_setKey_self]

theorem getIn_setIn (segs : List Seg) : ∀ (it v r : V), segs ≠ [] → setIn it segs v = .ok r → getIn r segs = .ok v := by
  induction segs with
  | nil => intro it v r h; exact absurd rfl h
  | cons s rest ih =>
    intro it v r _ hset
    cases s with
    | field k =>
      obtain ⟨m, c, rfl, rfl, ⟨rfl, rfl⟩ | ⟨nx, rest', rfl, hc⟩⟩ := setIn_field_ok hset
      · rw [getIn_field]; rfl
      · rw [getIn_field]; exact ih _ v c (List.cons_ne_nil _ _) hc
    | index n =>
      obtain ⟨l, c, rfl, hlt, rfl, ⟨rfl, rfl⟩ | ⟨nx, rest', rfl, hc⟩⟩ := setIn_index_ok hset
      · simp only [getIn, stepGet, List.getElem?_set_self hlt]
      · simp only [getIn, stepGet, List.getElem?_set_self hlt]
        exact ih _ v c (List.cons_ne_nil _ _) hc

theorem getIn_setIn_sibling (k k' : String) (hk : k ≠ k') (rest qs : List Seg) :
    ∀ (pre : List String) (it v r : V),
      setIn it (pre.map Seg.field ++ Seg.field k :: rest) v = .ok r →
      getIn r (pre.map Seg.field ++ Seg.field k' :: qs) = getIn it (pre.map Seg.field ++ Seg.field k' :: qs) := by
  intro pre
  induction pre with
  | nil =>
    intro it v r hset
    obtain ⟨m, c, rfl, rfl, _⟩ := setIn_field_ok hset
    simp [getIn, stepGet, lookup_setKey_ne k k' _ m hk]
  | cons k0 pre ih =>
    intro it v r hset
    obtain ⟨m, c, rfl, rfl, ⟨hnil, _⟩ | ⟨nx, rest', hrest, hc⟩⟩ := setIn_field_ok hset
    · cases pre <;> cases hnil
    · simp only [List.map_cons, List.cons_append, getIn_field]
      rw [ih _ v c hc]
      -- the next segment of both paths is a field: nothing grows, a missing key gives an empty object
      have hnx : ∃ kk, nx = Seg.field kk := by
        cases pre with
        | nil => exact ⟨k, (List.cons.inj hrest).1.symm⟩
        | cons p ps => exact ⟨p, (List.cons.inj hrest).1.symm⟩
      obtain ⟨kk, rfl⟩ := hnx
      unfold prepField
      cases hl : lookup k0 m with
      | none => cases pre <;> simp [fresh, getIn, stepGet, lookup, hl]
      | some c => simp [grow, getIn, stepGet, hl]

end Xp.C10
