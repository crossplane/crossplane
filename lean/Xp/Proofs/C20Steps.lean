import Xp.Proofs.C20Base
/-
C20: which component of the store a request writes (`Req.comp`), what a request can do (`Eff`, `exec_eff`), and for
every step of the initializer the exact set of requests it can issue. Every other request class used later (`SafeReq`,
`TlsKeep`, `PkgReq`, `BundleReq`, …) is implied by one of these. (The programs of the TLS step and `getBundle` are
walked once more for their post-conditions, under any rely: Proofs/C20Tls.lean, Proofs/C20Crds.lean.)
-/
namespace Xp.C20
open Xp

variable {α β : Type}

inductive Comp where
  | secrets | pkgs | crds | whcs | lock | sc | drc
  deriving DecidableEq, Repr

/-- the component a request writes (none: a read, or a write that cannot change anything) -/
def Req.comp : Req → Option Comp
  | .createSecret _ => some .secrets
  | .updateSecret _ _ => some .secrets
  | .createPkg _ => some .pkgs
  | .patchPkg _ _ _ => some .pkgs
  | .createCrd _ => some .crds
  | .patchCrd _ _ => some .crds
  | .patchCrdStored _ _ => some .crds
  | .createWhc _ => some .whcs
  | .patchWhc _ _ _ => some .whcs
  | .createLock => some .lock
  | .createSc _ => some .sc
  | .createDrc => some .drc
  | _ => none

/-- What a request can do. A read or a refused write leaves the store as it is; a write that is applied is the Create
of an absent object or the Update / Patch of every object with the key, and is answered `ok`. Every invariant of the
initializer is proved against this relation (`exec_eff`), not by unfolding `exec`. -/
inductive Eff (s : Store) : Req → Store × Resp → Prop where
  | read (r : Req) (x : Resp) : r.comp = none → Eff s r (s, x)
  | refused (r : Req) (e : Err) : Eff s r (s, .err e)
  | createSecret (x : Secret) : findSecret s x.name = none → Eff s (.createSecret x) ({ s with secrets := s.secrets ++ [x] }, .ok)
  | updateSecret (old new : Secret) : findSecret s new.name = some old →
      Eff s (.updateSecret old new) ({ s with secrets := s.secrets.map fun x => if x.name = new.name then new else x }, .ok)
  | createPkg (p : Pkg) : findPkg s p.kind p.name = none → Eff s (.createPkg p) ({ s with pkgs := s.pkgs ++ [p] }, .ok)
  | patchPkg (k : PKind) (n : String) (r : Ref) (q : Pkg) : findPkg s k n = some q →
      Eff s (.patchPkg k n r)
        ({ s with pkgs := s.pkgs.map fun p => if p.kind = k ∧ p.name = n then { p with raw := r.str, ref := some r } else p }, .ok)
  | createCrd (c : Crd) : findCrd s c.name = none → Eff s (.createCrd c) ({ s with crds := s.crds ++ [c] }, .ok)
  | patchCrd (f : CrdFile) (cb : Blob) (c : Crd) : findCrd s f.name = some c →
      Eff s (.patchCrd f cb) ({ s with crds := s.crds.map fun c => if c.name = f.name then patchCrdWith f cb c else c }, .ok)
  | patchCrdStored (n : String) (vs : List String) (c : Crd) : findCrd s n = some c →
      Eff s (.patchCrdStored n vs) ({ s with crds := s.crds.map fun c => if c.name = n then { c with stored := vs } else c }, .ok)
  | createWhc (w : Whc) : findWhc s w.kind w.name = none → Eff s (.createWhc w) ({ s with whcs := s.whcs ++ [w] }, .ok)
  | patchWhc (k : WKind) (n : String) (hooks : List Hook) (w : Whc) : findWhc s k n = some w →
      Eff s (.patchWhc k n hooks)
        ({ s with whcs := s.whcs.map fun w => if w.kind = k ∧ w.name = n then patchWhcWith hooks w else w }, .ok)
  | createLock : s.lock = none → Eff s .createLock ({ s with lock := some 0 }, .ok)
  | createSc (scope : String) : s.sc = none → Eff s (.createSc scope) ({ s with sc := some (scope, 0) }, .ok)
  | createDrc : s.drc = none → Eff s .createDrc ({ s with drc := some 0 }, .ok)

theorem exec_eff (s : Store) (r : Req) : Eff s r (exec s r) := by
  -- branch by branch of `exec`: a read, a refusal, or the applied write of that request with the lookup at hand
  fun_cases exec s r
  all_goals first | exact .read _ _ rfl | exact .refused _ _ | (constructor; assumption)

section frames
variable (s : Store) (r : Req)
theorem frame_secrets (h : r.comp ≠ some .secrets) : (exec s r).1.secrets = s.secrets := by
  have he := exec_eff s r
  generalize exec s r = y at he ⊢
  cases he <;> first | rfl | exact absurd rfl h
theorem frame_pkgs (h : r.comp ≠ some .pkgs) : (exec s r).1.pkgs = s.pkgs := by
  have he := exec_eff s r
  generalize exec s r = y at he ⊢
  cases he <;> first | rfl | exact absurd rfl h
theorem frame_whcs (h : r.comp ≠ some .whcs) : (exec s r).1.whcs = s.whcs := by
  have he := exec_eff s r
  generalize exec s r = y at he ⊢
  cases he <;> first | rfl | exact absurd rfl h
theorem frame_crs : (exec s r).1.crs = s.crs := by
  have he := exec_eff s r
  generalize exec s r = y at he ⊢
  cases he <;> rfl
end frames

/-- requests that write at most component `c` -/
def Only (c : Comp) (r : Req) : Prop := r.comp = none ∨ r.comp = some c

theorem only_comp_ne {c c' : Comp} {r : Req} (h : Only c r) (hc : c' ≠ c) : r.comp ≠ some c' := by
  rcases h with e | e <;> rw [e]
  · exact fun e' => by cases e'
  · exact fun e' => hc (Option.some.inj e').symm

theorem okOr_issues (Q : Req → Prop) (tag : String) (x : Resp) : Issues Q (okOr tag x) := by
  unfold okOr; split <;> exact .ret _

theorem withNonce_issues {Q : Req → Prop} (n : Nat) {p : P Res} (h : Issues Q p) : Issues Q (withNonce n p) :=
  Issues.bind h fun _ => .ret _

theorem writeSecret_comp (old : Option Secret) (new : Secret) : (writeSecret old new).comp = some .secrets := by
  cases old <;> rfl

/-- the requests of `loadOrGenerateCA`: the read, and the write of a freshly generated CA over a missing secret
or over the incomplete one that was read -/
inductive CaReq (g : Generator) (ca : String) : Req → Prop where
  | get : CaReq g ca (.getSecret ca)
  | write (old : Option Secret) (n kp : Nat) (c : CertInfo) : (∀ o, old = some o → isComplete o = false) →
      g ["crossplane-root-ca"] true none n = some (kp, c) → CaReq g ca (writeSecret old (caSecret ca old kp c))

/-- the requests of `ensureLeaf g ref sg`: the read, and the write of a certificate freshly issued by `sg` over a
missing secret or over the one without material that was read -/
inductive LeafReq (g : Generator) (sg : Signer) (ref : TlsRef) : Req → Prop where
  | get : LeafReq g sg ref (.getSecret ref.name)
  | write (old : Option Secret) (n kp : Nat) (c : CertInfo) : (∀ o, old = some o → hasMaterial o = false) →
      g ref.dns false (some sg) n = some (kp, c) → LeafReq g sg ref (writeSecret old (leafSecret ref.name old kp c sg))

theorem genCA_issues (g : Generator) (ca : String) (old : Option Secret) (n : Nat)
    (ho : ∀ o, old = some o → isComplete o = false) : Issues (CaReq g ca) (genCA g ca old n) := by
  unfold genCA
  split
  · exact .ret _
  · rename_i kp c hg
    refine .call _ _ (.write old n kp c ho hg) fun x => ?_
    split <;> exact .ret _

theorem loadCA_issues (g : Generator) (ca : String) (n : Nat) : Issues (CaReq g ca) (loadOrGenerateCA g ca n) := by
  refine .call _ _ .get fun x => ?_
  split
  · exact genCA_issues g ca none n (fun _ h => by cases h)
  · split
    · exact .ret _
    · rename_i sec hc
      exact genCA_issues g ca (some sec) n (fun o h => by cases h; simpa using hc)
  · exact .ret _

theorem issueLeaf_issues (g : Generator) (ref : TlsRef) (sg : Signer) (n : Nat) (old : Option Secret)
    (ho : ∀ o, old = some o → hasMaterial o = false) : Issues (LeafReq g sg ref) (issueLeaf g ref sg n old) := by
  unfold issueLeaf
  split
  · exact .ret _
  · split
    · exact .ret _
    · rename_i kp c hg
      refine .call _ _ (.write old n kp c ho hg) fun y => ?_
      split <;> exact .ret _

theorem ensureLeaf_issues (g : Generator) (ref : TlsRef) (sg : Signer) (n : Nat) :
    Issues (LeafReq g sg ref) (ensureLeaf g ref sg n) := by
  refine .call _ _ .get fun x => ?_
  split
  · exact issueLeaf_issues g ref sg n none (fun _ h => by cases h)
  · split
    · exact .ret _
    · rename_i sec hm
      exact issueLeaf_issues g ref sg n (some sec) (fun o h => by cases h; simpa using hm)
  · exact .ret _

def optRefs (sv cl : Option TlsRef) : List TlsRef := sv.toList ++ cl.toList

theorem ensureOpt_issues (g : Generator) (ref : Option TlsRef) (sg : Signer) (n : Nat) (refs : List TlsRef)
    (hr : ∀ r, ref = some r → r ∈ refs) : Issues (fun r => ∃ x ∈ refs, LeafReq g sg x r) (ensureOpt g ref sg n) := by
  unfold ensureOpt
  split
  · exact .ret _
  · rename_i x
    exact Issues.mono (fun r h => ⟨x, hr x rfl, h⟩) (ensureLeaf_issues g x sg n)

/-- the second phase of the TLS step, with the signer that was loaded or generated -/
theorem ensureBoth_issues (g : Generator) (sv cl : Option TlsRef) (sg : Signer) (n : Nat) :
    Issues (fun r => ∃ x ∈ optRefs sv cl, LeafReq g sg x r)
      (Prog.bind (ensureOpt g sv sg n) fun (r, n) => match r with
        | .ok => ensureOpt g cl sg n
        | e => .ret (e, n)) := by
  refine Issues.bind (ensureOpt_issues g sv sg n _ (fun r hr => by simp [optRefs, hr])) ?_
  rintro ⟨r, n'⟩
  cases r with
  | ok => exact ensureOpt_issues g cl sg n' _ (fun r hr => by simp [optRefs, hr])
  | err e => exact .ret _

def TlsReq (g : Generator) (ca : String) (refs : List TlsRef) (r : Req) : Prop :=
  CaReq g ca r ∨ ∃ sg, ∃ x ∈ refs, LeafReq g sg x r

theorem tlsStep_issues (g : Generator) (ca : String) (sv cl : Option TlsRef) (n : Nat) :
    Issues (TlsReq g ca (optRefs sv cl)) (tlsStep g ca sv cl n) := by
  unfold tlsStep
  split
  · exact .ret _
  · refine Issues.bind (Issues.mono (fun _ => Or.inl) (loadCA_issues g ca n)) ?_
    rintro ⟨osg, n'⟩
    cases osg with
    | none => exact .ret _
    | some sg => exact Issues.mono (fun _ h => Or.inr ⟨sg, h⟩) (ensureBoth_issues g sv cl sg n')

theorem tlsReq_only {g : Generator} {ca : String} {refs : List TlsRef} {r : Req} (h : TlsReq g ca refs r) :
    Only .secrets r := by
  rcases h with h | ⟨_, _, _, h⟩
  · cases h with
    | get => exact .inl rfl
    | write => exact .inr (writeSecret_comp _ _)
  · cases h with
    | get => exact .inl rfl
    | write => exact .inr (writeSecret_comp _ _)

/-- a class of requests that restricts the Updates of secrets and nothing else -/
def OnUpdate (W : Secret → Secret → Prop) (r : Req) : Prop := ∀ old new, r = .updateSecret old new → W old new

theorem onUpdate_of_comp {W : Secret → Secret → Prop} {r : Req} (h : r.comp ≠ some .secrets) : OnUpdate W r :=
  fun _ _ e => absurd (by rw [e]; rfl) h

theorem onUpdate_write {W : Secret → Secret → Prop} {old : Option Secret} {new : Secret} (h : ∀ o, old = some o → W o new) :
    OnUpdate W (writeSecret old new) := by
  cases old with
  | none => exact fun _ _ e => nomatch e
  | some o => exact fun _ _ e => by cases e; exact h o rfl

theorem OnUpdate.mono {W W' : Secret → Secret → Prop} {r : Req} (hq : OnUpdate W r) (h : ∀ o n, W o n → W' o n) :
    OnUpdate W' r :=
  fun o n e => h o n (hq o n e)

/-- What a TLS step with CA secret `ca` updates: a secret without material, or the incomplete CA secret; and what it stores
holds material. What the secrets are relied on for (`SafeReq`, `TlsKeep`, `SafeFor`) follows from this shape. -/
def TlsUpd (ca : String) (old new : Secret) : Prop :=
  hasMaterial new = true ∧ (hasMaterial old = false ∨ (new.name = ca ∧ isComplete old = false))

theorem leafReq_upd {g : Generator} {sg : Signer} {ref : TlsRef} {r : Req} (ca : String) (h : LeafReq g sg ref r) :
    OnUpdate (TlsUpd ca) r := by
  cases h with
  | get => exact fun _ _ e => nomatch e
  | write old n kp c ho _ => exact onUpdate_write fun o e => ⟨by simp [leafSecret, hasMaterial], .inl (ho o e)⟩

theorem tlsReq_upd {g : Generator} {ca : String} {refs : List TlsRef} {r : Req} (h : TlsReq g ca refs r) :
    OnUpdate (TlsUpd ca) r := by
  rcases h with h | ⟨_, _, _, h⟩
  · cases h with
    | get => exact fun _ _ e => nomatch e
    | write old n kp c ho _ => exact onUpdate_write fun o e => ⟨by simp [caSecret, hasMaterial], .inr ⟨rfl, ho o e⟩⟩
  · exact leafReq_upd ca h

/-- the requests of APIPatchingApplicator.Apply for the file's CRD -/
def CrdApply (f : CrdFile) (cb : Blob) (r : Req) : Prop :=
  r = .getCrd f.name ∨ r = .createCrd (newCrd f cb) ∨ r = .patchCrd f cb

theorem applyCrd_issues (f : CrdFile) (cb : Blob) : Issues (CrdApply f cb) (applyCrd f cb) := by
  refine .call _ _ (.inl rfl) fun x => ?_
  split
  · exact .call _ _ (.inr (.inl rfl)) (okOr_issues _ _)
  · exact .call _ _ (.inr (.inr rfl)) (okOr_issues _ _)
  · exact .ret _

/-- the requests of the CoreCRDs loop with bundle `cb`: a CRD with webhook conversion is applied only with a bundle -/
def CrdReq (cb : Blob) (r : Req) : Prop := ∃ f, ¬ (f.conv = true ∧ cb = .empty) ∧ CrdApply f cb r

/-- the loop body of CoreCRDs.Run -/
def crdBodyFn (cb : Blob) : FileObj → P Res := fun o => match o with
  | .crd f => if f.conv && cb = .empty then .ret (.err "crds: conversion without TLS") else applyCrd f cb
  | _ => .ret (.err "crds: not a CRD")

theorem crdsBody_eq (d : Dir) (cb : Blob) :
    crdsBody d cb = if d.parseErr then .ret (.err "crds: parse") else forEach (crdBodyFn cb) d.objs := rfl

theorem crdsBody_issues (d : Dir) (cb : Blob) : Issues (CrdReq cb) (crdsBody d cb) := by
  rw [crdsBody_eq]
  split
  · exact .ret _
  · refine issues_forEach (fun o => ?_) _
    unfold crdBodyFn
    split
    · split
      · exact .ret _
      · rename_i f h
        exact Issues.mono (fun r hr => ⟨f, by simpa using h, hr⟩) (applyCrd_issues f cb)
    · exact .ret _

theorem crdReq_only {cb : Blob} {r : Req} (h : CrdReq cb r) : Only .crds r := by
  obtain ⟨f, _, rfl | rfl | rfl⟩ := h
  · exact .inl rfl
  · exact .inr rfl
  · exact .inr rfl

theorem getBundle_issues {Q : Req → Prop} (ref : String) (h : Q (.getSecret ref)) : Issues Q (getBundle ref) := by
  refine .call _ _ h fun x => ?_
  split
  · split <;> exact .ret _
  · exact .ret _

theorem crdsStep_issues (ref : Option String) (d : Dir) : Issues (Only .crds) (crdsStep ref d) := by
  have hb := fun cb => Issues.mono (fun _ => crdReq_only) (crdsBody_issues d cb)
  unfold crdsStep
  split
  · exact hb _
  · refine Issues.bind (getBundle_issues _ (.inl rfl)) fun b => ?_
    split
    · exact .ret _
    · exact hb _

/-- the requests of APIPatchingApplicator.Apply for the file's webhook configuration -/
def WhcApply (f : WhcFile) (cb : Blob) (svc : Svc) (r : Req) : Prop :=
  r = .getWhc f.kind (whcName f) ∨ r = .createWhc ⟨f.kind, whcName f, desiredHooks f cb svc, 0⟩ ∨
  r = .patchWhc f.kind (whcName f) (desiredHooks f cb svc)

theorem applyWhc_issues (f : WhcFile) (cb : Blob) (svc : Svc) : Issues (WhcApply f cb svc) (applyWhc f cb svc) := by
  refine .call _ _ (.inl rfl) fun x => ?_
  split
  · exact .call _ _ (.inr (.inl rfl)) (okOr_issues _ _)
  · exact .call _ _ (.inr (.inr rfl)) (okOr_issues _ _)
  · exact .ret _

/-- the loop body of WebhookConfigurations.Run -/
def whcBodyFn (cb : Blob) (svc : Svc) : FileObj → P Res := fun o => match o with
  | .whc f => applyWhc f cb svc
  | _ => .ret (.err "whcs: kind")

theorem whcsStep_eq (ref : String) (svc : Svc) (d : Dir) :
    whcsStep ref svc d = Prog.bind (getBundle ref) fun b => match b with
      | none => .ret (.err "whcs: bundle")
      | some cb => if d.parseErr then .ret (.err "whcs: parse") else forEach (whcBodyFn cb svc) d.objs := rfl

theorem whcLoop_issues (cb : Blob) (svc : Svc) (objs : List FileObj) :
    Issues (fun r => ∃ f, WhcApply f cb svc r) (forEach (whcBodyFn cb svc) objs) := by
  refine issues_forEach (fun o => ?_) _
  unfold whcBodyFn
  split
  · exact Issues.mono (fun r hr => ⟨_, hr⟩) (applyWhc_issues _ cb svc)
  · exact .ret _

theorem whcApply_only {f : WhcFile} {cb : Blob} {svc : Svc} {r : Req} (h : WhcApply f cb svc r) : Only .whcs r := by
  rcases h with rfl | rfl | rfl
  · exact .inl rfl
  · exact .inr rfl
  · exact .inr rfl

theorem whcsStep_issues (ref : String) (svc : Svc) (d : Dir) : Issues (Only .whcs) (whcsStep ref svc d) := by
  rw [whcsStep_eq]
  refine Issues.bind (getBundle_issues _ (.inl rfl)) fun b => ?_
  split
  · exact .ret _
  · split
    · exact .ret _
    · exact Issues.mono (fun _ ⟨_, h⟩ => whcApply_only h) (whcLoop_issues _ svc d.objs)

/-- the requests of the migrator: reads, the empty patches of the custom resources, and the status patch of its
own CRD -/
def MigReq (crd : String) (r : Req) : Prop := r.comp = none ∨ ∃ vs, r = .patchCrdStored crd vs

theorem migrateCrs_issues (crd : String) (l : List Cr) : Issues (MigReq crd) (migrateCrs crd l) :=
  issues_forEach (fun _ => .call _ _ (.inl rfl) (okOr_issues _ _)) l

theorem migrateFinish_issues (crd storage : String) : Issues (MigReq crd) (migrateFinish crd storage) := by
  refine .call _ _ (.inr ⟨_, rfl⟩) fun z => ?_
  split
  · refine .call _ _ (.inl rfl) fun w => ?_
    split
    · split <;> exact .ret _
    · exact .ret _
  · exact .ret _

theorem migrateStep_issues (crd old : String) : Issues (MigReq crd) (migrateStep crd old) := by
  refine .call _ _ (.inl rfl) fun x => ?_
  split
  next => exact .ret _
  next c =>
    split
    · refine .call _ _ (.inl rfl) fun y => ?_
      split
      next l =>
        refine Issues.bind (migrateCrs_issues crd l) fun r => ?_
        split
        · exact migrateFinish_issues crd _
        · exact .ret _
      next => exact .ret _
    · exact .ret _
  next => exact .ret _

theorem migReq_only {crd : String} {r : Req} (h : MigReq crd r) : Only .crds r := by
  rcases h with h | ⟨vs, rfl⟩
  · exact .inl h
  · exact .inr rfl

theorem lockStep_issues : Issues (Only .lock) lockStep := by
  refine .call _ _ (.inl rfl) fun x => ?_
  split
  · exact .call _ _ (.inr rfl) (okOr_issues _ _)
  · exact .call _ _ (.inl rfl) (okOr_issues _ _)
  · exact .ret _

theorem createIfAbsent_issues {Q : Req → Prop} (r : Req) (tag : String) (h : Q r) : Issues Q (createIfAbsent r tag) := by
  refine .call _ _ h fun x => ?_
  split <;> exact .ret _

theorem scStep_issues (ns : String) : Issues (Only .sc) (scStep ns) := createIfAbsent_issues _ _ (.inr rfl)

theorem drcStep_issues : Issues (Only .drc) drcStep := createIfAbsent_issues _ _ (.inr rfl)

/-- the requests of the apply loops of the installer, given the resolved (object name, reference) lists per kind -/
def ListReq (l : PKind → List (String × Ref)) : Req → Prop
  | .createPkg p => p.extra = 0 ∧ ∃ nr ∈ l p.kind, nr.1 = p.name ∧ p.ref = some nr.2 ∧ p.raw = nr.2.str
  | .patchPkg k n r => (n, r) ∈ l k
  | r => r.comp = none

theorem applyPkg_issues (l : PKind → List (String × Ref)) (k : PKind) (nr : String × Ref) (h : nr ∈ l k) :
    Issues (ListReq l) (applyPkg k nr) := by
  refine .call _ _ rfl fun x => ?_
  split
  · exact .call _ _ ⟨rfl, nr, h, rfl, rfl, rfl⟩ (okOr_issues _ _)
  · exact .call _ _ h (okOr_issues _ _)
  · exact .ret _

theorem installApply_issues (l : PKind → List (String × Ref)) :
    Issues (ListReq l) (installApply (l .provider) (l .configuration) (l .function)) := by
  unfold installApply
  refine Issues.bind (issues_forEach_mem _ fun a ha => applyPkg_issues l _ a ha) fun r => ?_
  split
  · refine Issues.bind (issues_forEach_mem _ fun a ha => applyPkg_issues l _ a ha) fun r => ?_
    split
    · exact issues_forEach_mem _ fun a ha => applyPkg_issues l _ a ha
    · exact .ret _
  · exact .ret _

def perKind {γ : Type} (p c f : γ) : PKind → γ
  | .provider => p
  | .configuration => c
  | .function => f

/-- the installer after its three Lists: nothing (an image that is no reference), or the apply loops over the
lists `buildAll` made, kind by kind, of what was listed -/
theorem installBody_cases (res : List (String × String) → Ref → String) (p c f : List Img) (pl cl fl : List Pkg) :
    (∃ tag, installBody res p c f pl cl fl = .ret (.err tag)) ∨
    ∃ l : PKind → List (String × Ref),
      (∀ k, buildAll res (buildIndex (perKind pl cl fl k)) (perKind p c f k) = some (l k)) ∧
      installBody res p c f pl cl fl = installApply (l .provider) (l .configuration) (l .function) := by
  unfold installBody
  split
  · exact .inl ⟨_, rfl⟩
  · rename_i ps _
    split
    · exact .inl ⟨_, rfl⟩
    · rename_i cs _
      split
      · exact .inl ⟨_, rfl⟩
      · rename_i fs _
        exact .inr ⟨perKind ps cs fs, fun k => by cases k <;> assumption, rfl⟩

theorem installBody_issues_of (Q : Req → Prop) (res : List (String × String) → Ref → String) (p c f : List Img)
    (pl cl fl : List Pkg)
    (h : ∀ l : PKind → List (String × Ref),
      (∀ k, buildAll res (buildIndex (perKind pl cl fl k)) (perKind p c f k) = some (l k)) → ∀ r, ListReq l r → Q r) :
    Issues Q (installBody res p c f pl cl fl) := by
  rcases installBody_cases res p c f pl cl fl with ⟨tag, e⟩ | ⟨l, hb, e⟩ <;> rw [e]
  · exact .ret _
  · exact Issues.mono (h l hb) (installApply_issues l)

theorem listOf_issues {Q : Req → Prop} (k : PKind) (cont : List Pkg → P Res) (hq : Q (.listPkgs k))
    (h : ∀ l, Issues Q (cont l)) : Issues Q (listOf k cont) := by
  refine .call _ _ hq fun x => ?_
  split
  · exact h _
  · exact h _
  · exact .ret _

theorem listReq_only {l : PKind → List (String × Ref)} {r : Req} (h : ListReq l r) : Only .pkgs r := by
  cases r <;> first | exact .inr rfl | exact .inl h

theorem installWith_issues (res : List (String × String) → Ref → String) (p c f : List Img) :
    Issues (Only .pkgs) (installWith res p c f) :=
  listOf_issues _ _ (.inl rfl) fun _ => listOf_issues _ _ (.inl rfl) fun _ => listOf_issues _ _ (.inl rfl) fun _ =>
    installBody_issues_of _ res p c f _ _ _ fun _ _ _ => listReq_only

def stepComp : Step → Comp
  | .tls _ _ _ => .secrets
  | .crds _ _ => .crds
  | .whcs _ _ _ => .whcs
  | .mig _ _ => .crds
  | .lock => .lock
  | .install _ _ _ => .pkgs
  | .sc _ => .sc
  | .drc => .drc

/-- A class of requests holds of everything a step issues if it holds of what the TLS step issues and of every
request that writes at most one component other than the secrets: all other steps are of that kind. -/
theorem step_issues_of (Q : Req → Prop) (g : Generator) (n : Nat) (st : Step)
    (htls : ∀ ca sv cl, st = .tls ca sv cl → ∀ r, TlsReq g ca (optRefs sv cl) r → Q r)
    (hother : ∀ r, stepComp st ≠ .secrets → Only (stepComp st) r → Q r) : Issues Q (st.prog g n) := by
  cases st with
  | tls ca sv cl => exact Issues.mono (htls ca sv cl rfl) (tlsStep_issues g ca sv cl n)
  | crds ref d => exact withNonce_issues n (Issues.mono (fun r => hother r nofun) (crdsStep_issues ref d))
  | whcs ref svc d => exact withNonce_issues n (Issues.mono (fun r => hother r nofun) (whcsStep_issues ref svc d))
  | mig crd old =>
    exact withNonce_issues n (Issues.mono (fun r h => hother r nofun (migReq_only h)) (migrateStep_issues crd old))
  | lock => exact withNonce_issues n (Issues.mono (fun r => hother r nofun) lockStep_issues)
  | install p c f => exact withNonce_issues n (Issues.mono (fun r => hother r nofun) (installWith_issues _ p c f))
  | sc ns => exact withNonce_issues n (Issues.mono (fun r => hother r nofun) (scStep_issues ns))
  | drc => exact withNonce_issues n (Issues.mono (fun r => hother r nofun) drcStep_issues)

theorem step_issues_only (g : Generator) (n : Nat) (st : Step) : Issues (Only (stepComp st)) (st.prog g n) :=
  step_issues_of _ g n st (fun _ _ _ e _ h => e ▸ tlsReq_only h) (fun _ _ h => h)

theorem runSteps_issues {Q : Req → Prop} (g : Generator) (steps : List Step)
    (h : ∀ st ∈ steps, ∀ n, Issues Q (st.prog g n)) (n d : Nat) : Issues Q (runSteps g steps n d) :=
  runSteps_closed (J := Issues Q) .ret Issues.bind g steps h n d

end Xp.C20
