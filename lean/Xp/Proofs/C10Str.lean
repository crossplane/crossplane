import Xp.Model.C10
/-
Helper lemmas for C10, the transforms the model computes: decimal printing / parsing round trips, the
int64 range as inequalities and the wrap-around, ASCII case mapping.
-/
namespace Xp.C10

theorem digitChar_spec : ∀ d : Fin 10, isDigit (digitChar d) = true ∧ digitVal (digitChar d) = d := by decide

theorem isDigit_digitChar (d : Nat) (h : d < 10) : isDigit (digitChar d) = true := (digitChar_spec ⟨d, h⟩).1

theorem digitVal_digitChar (d : Nat) (h : d < 10) : digitVal (digitChar d) = d := (digitChar_spec ⟨d, h⟩).2

theorem parseDigitsAcc_append (acc : Nat) (xs ys : List Char) :
    parseDigitsAcc acc (xs ++ ys) = (parseDigitsAcc acc xs).bind fun a => parseDigitsAcc a ys := by
  fun_induction parseDigitsAcc acc xs with
  | case1 => rfl
  | case2 acc c cs hc ih => simp only [List.cons_append, parseDigitsAcc, hc, if_true, ih]
  | case3 acc c cs hc => simp [parseDigitsAcc, hc]

theorem parseDigitsAcc_natDigits (acc n : Nat) :
    parseDigitsAcc acc (natDigits n) = some (acc * 10 ^ (natDigits n).length + n) := by
  fun_induction natDigits n generalizing acc with
  | case1 n h => simp [parseDigitsAcc, isDigit_digitChar n h, digitVal_digitChar n h]
  | case2 n h ih =>
    have hd : n % 10 < 10 := by omega
    rw [parseDigitsAcc_append, ih acc]
    simp only [Option.bind_some, parseDigitsAcc, isDigit_digitChar _ hd, digitVal_digitChar _ hd, if_true,
      List.length_append, List.length_cons, List.length_nil]
    congr 1
    rw [Nat.pow_succ, ← Nat.mul_assoc]
    generalize acc * 10 ^ (natDigits (n / 10)).length = x
    omega

theorem natDigits_ne_nil (n : Nat) : natDigits n ≠ [] := by
  fun_cases natDigits n <;> simp

theorem parseDigits_natDigits (n : Nat) : parseDigits (natDigits n) = some n := by
  have h := parseDigitsAcc_natDigits 0 n
  unfold parseDigits
  split
  · rename_i heq
    exact absurd heq (natDigits_ne_nil n)
  · rename_i heq
    simpa using h

theorem natDigits_head_digit (n : Nat) : ∀ c ∈ (natDigits n).head?, isDigit c = true := by
  fun_induction natDigits n with
  | case1 n h => simp [isDigit_digitChar n h]
  | case2 n h ih =>
    rw [List.head?_append]
    cases hh : natDigits (n / 10) with
    | nil => exact absurd hh (natDigits_ne_nil _)
    | cons d ds => rwa [hh] at ih

theorem fits64_iff (i : Int) : fits64 i = true ↔ (-9223372036854775808 ≤ i ∧ i ≤ 9223372036854775807) := by
  unfold fits64 minInt64 maxInt64
  rw [Bool.and_eq_true, decide_eq_true_eq, decide_eq_true_eq]
  constructor <;> intro h <;> omega

/-- strconv.ParseInt(strconv.FormatInt(i, 10), 10, 64) = i for every int64 -/
theorem parseInt_fmtInt (i : Int) (h : fits64 i = true) : parseInt (fmtInt i) = some i := by
  rw [fits64_iff] at h
  unfold fmtInt
  split
  · rename_i hneg
    simp only [parseInt, String.toList_ofList, parseNeg, parseDigits_natDigits]
    have : i.natAbs ≤ 2 ^ 63 := by omega
    simp only [this, if_true]
    congr 1
    omega
  · rename_i hpos
    have hpos : 0 ≤ i := by omega
    -- the first character is a digit, so no sign is stripped
    have hhd := natDigits_head_digit i.toNat
    have hne := natDigits_ne_nil i.toNat
    have hp := parseDigits_natDigits i.toNat
    have hlt : i.toNat < 2 ^ 63 := by omega
    have hres : parsePos (natDigits i.toNat) = some i := by
      simp only [parsePos, hp, hlt, if_true]
      congr 1
      omega
    unfold parseInt
    rw [String.toList_ofList]
    cases hl : natDigits i.toNat with
    | nil => exact absurd hl hne
    | cons c cs =>
      have hc : isDigit c = true := hhd c (by simp [hl])
      have hplus : c ≠ '+' := by intro e; subst e; revert hc; decide
      have hminus : c ≠ '-' := by intro e; subst e; revert hc; decide
      rw [hl] at hres
      split
      · rename_i heq
        simp only [List.cons.injEq] at heq
        exact absurd heq.1 hplus
      · rename_i heq
        simp only [List.cons.injEq] at heq
        exact absurd heq.1 hminus
      · exact hres

theorem wrap64_fits (x : Int) : fits64 (wrap64 x) = true := by
  rw [fits64_iff]; unfold wrap64; omega

theorem wrap64_id (x : Int) (h : fits64 x = true) : wrap64 x = x := by
  rw [fits64_iff] at h; unfold wrap64; omega

theorem wrap64_sub_mod (x : Int) : (wrap64 x - x) % 2 ^ 64 = 0 := by
  unfold wrap64; omega

theorem toNat_ofNat_lt (n : Nat) (h : n < 0xd800) : (Char.ofNat n).toNat = n := by
  have hv : n.isValidChar := Or.inl h
  simp [Char.ofNat, hv, Char.ofNatAux, Char.toNat]

theorem char_le_iff (a b : Char) : a ≤ b ↔ a.toNat ≤ b.toNat := by
  rw [Char.le_def, UInt32.le_iff_toNat_le]; rfl

/-- Lower-casing forgets an earlier upper-casing, for every character: upperChar moves only a–z, and
those go to A–Z, which lowerChar moves back; a–z themselves are fixed by lowerChar. -/
theorem lowerChar_upperChar (c : Char) : lowerChar (upperChar c) = lowerChar c := by
  unfold upperChar
  split
  · rename_i h
    simp only [Bool.and_eq_true, decide_eq_true_eq, char_le_iff] at h
    have ha : 97 ≤ c.toNat := h.1
    have hz : c.toNat ≤ 122 := h.2
    have hu : (Char.ofNat (c.toNat - 32)).toNat = c.toNat - 32 := toNat_ofNat_lt _ (by omega)
    have hA : 'A' ≤ Char.ofNat (c.toNat - 32) := by rw [char_le_iff, hu]; show 65 ≤ _; omega
    have hZ : Char.ofNat (c.toNat - 32) ≤ 'Z' := by rw [char_le_iff, hu]; show _ ≤ 90; omega
    have hc : ¬ c ≤ 'Z' := by rw [char_le_iff]; show ¬ _ ≤ 90; omega
    simp only [lowerChar, hA, hZ, hc, hu, decide_true, decide_false, Bool.and_false, Bool.and_self, if_true,
      Bool.false_eq_true, if_false]
    rw [Nat.sub_add_cancel (by omega), Char.ofNat_toNat]
  · rfl

theorem asciiLower_asciiUpper (s : String) : asciiLower (asciiUpper s) = asciiLower s := by
  unfold asciiLower asciiUpper
  rw [String.toList_ofList, List.map_map]
  exact congrArg String.ofList (List.map_congr_left fun c _ => lowerChar_upperChar c)

end Xp.C10
