import Xp.Proofs.C13Ctl
import Xp.Proofs.C13Next
/-
C13: the collector. `Collectable` is what it may stop, `GcInv` says that a collector thread stays on
its path intending to stop collectable watches only, `gc_step_removes_collectable` that whatever its
steps remove from a controller's sources is collectable.
-/
namespace Xp.C13

theorem mem_refsOf (xrs : List XR) (g : Nat) : g ∈ refsOf xrs ↔ ∃ x ∈ xrs, some g ∈ x.refs := by
  simp only [refsOf, List.mem_flatMap, List.mem_map, List.mem_filterMap, id]
  constructor
  · rintro ⟨l, ⟨x, hx, rfl⟩, a, ha, rfl⟩
    exact ⟨x, hx, ha⟩
  · rintro ⟨x, hx, h⟩
    exact ⟨x.refs, ⟨x, hx, rfl⟩, some g, h, rfl⟩

/-- a watch the collector may stop: a composed-resource watch on a kind no XR references -/
def Collectable (refs : List Nat) (w : Wid) : Prop := w.ty = .composed ∧ w.gvk ∉ refs

theorem gcStop_fixed_iff (running : List Wid) (refs : List Nat) (w : Wid) :
    w ∈ gcStop Cfg.fixed running refs ↔ w ∈ running ∧ Collectable refs w := by
  simp [gcStop, Cfg.fixed, Collectable, List.mem_filter]

/-- where a collector thread may be, and what it still intends to stop there -/
def GcPcOk (refs : List Nat) : Pc → Prop
  | .idle | .done _ | .relC _ _ => True
  | .gc1 _ r | .gcLU _ _ r | .gcCR _ _ r | .gcCRrel _ _ _ r => r = refs
  | .xw0 _ ws | .xwLU _ ws | .xwCR _ ws | .xwCRrel _ ws _ | .xwCW _ ws => ∀ w ∈ ws, Collectable refs w
  | .xwGI _ wid _ rest _ | .xwRH _ wid _ rest _ _ => Collectable refs wid ∧ ∀ w ∈ rest, Collectable refs w
  | _ => False

theorem GcPcOk_xwPc {refs : List Nat} {srcs : List (Wid × Nat)} {ws : List Wid} (cid k : Nat)
    (h : ∀ w ∈ ws, Collectable refs w) : GcPcOk refs (xwPc cid k (xwNext srcs ws)) := by
  cases hx : xwNext srcs ws with
  | none => exact trivial
  | some p =>
    obtain ⟨w, reg, rest⟩ := p
    obtain ⟨_, h1, h2⟩ := xwNext_some hx
    exact ⟨h w h1, fun x hx' => h x (h2 x hx')⟩

theorem GcPcOk_next {s : Sys} {i : Nat} {n : Nat} {xrs : List XR} {pc : Pc} {ch : Choice} {pc' : Pc} {act : Act}
    (hold : GcPcOk (refsOf xrs) pc)
    (hn : next Cfg.fixed s i ⟨.gc n xrs, pc⟩ ch = some (pc', act)) : GcPcOk (refsOf xrs) pc' := by
  cases next_inv hn
  case gcStop l refs cid n hperm =>
    -- the collector's decision: a permutation of `gcStop`
    subst hold
    intro w hw
    exact ((gcStop_fixed_iff _ _ _).1 ((List.isPerm_iff.1 hperm).mem_iff.1 hw)).2
  case xwCW => exact GcPcOk_xwPc _ _ hold
  case xwRH => exact GcPcOk_xwPc _ _ hold.2
  case gcList => exact rfl
  case gc1 | gcFound | gcCR | xw0 | xwFound | xwCR | xwSome | xwGI => exact hold
  case gcListFail | gcNotRunning | gcNothing | xwNotRunning | xwNothing | xwGIfail | xwRHfail | relC => exact trivial
  -- the other rules start at pcs no collector thread is at
  all_goals exact False.elim hold

/-- every collector thread is on the collector's path, and what it intends to stop is collectable
with respect to the XRs of its own call -/
def GcInv (s : Sys) : Prop :=
  ∀ (i : Nat) (t : Thread), s.threads[i]? = some t → ∀ n xrs, t.op = .gc n xrs → GcPcOk (refsOf xrs) t.pc

theorem GcInv_init (ops : List Op) : GcInv (init ops) := by
  intro i t ht n refs _
  rw [init_thread ht]
  exact trivial

theorem GcInv_step {s s' : Sys} {i : Nat} {ch : Choice} (hinv : GcInv s)
    (h : step Cfg.fixed s i ch = some s') : GcInv s' := by
  obtain ⟨t, pc', act, ht, hn, rfl⟩ := step_unpack h
  refine forall_set ?_ fun j tj _ hj => hinv j tj hj
  intro n xrs hop
  obtain ⟨op, pc⟩ := t
  cases (hop : op = .gc n xrs)
  exact GcPcOk_next (hinv i _ ht n xrs rfl) hn

theorem GcInv_reachable {ops : List Op} {s : Sys} (h : Reachable Cfg.fixed ops s) : GcInv s := by
  induction h with
  | init => exact GcInv_init ops
  | step i ch _ hs ih => exact GcInv_step ih hs

theorem gc_step_removes_collectable {s s' : Sys} {i : Nat} {ch : Choice} {t : Thread} {n : Nat} {xrs : List XR}
    (hgc : GcInv s) (ht : s.threads[i]? = some t) (hop : t.op = .gc n xrs)
    (h : step Cfg.fixed s i ch = some s') (cid : Nat) (w : Wid) (reg : Nat)
    (hbefore : aget w (srcsOf s cid) = some reg) (hafter : aget w (srcsOf s' cid) = none) :
    Collectable (refsOf xrs) w := by
  obtain ⟨t', pc', act, ht', hn, rfl⟩ := step_unpack h
  rw [ht] at ht'
  cases ht'
  replace hafter : aget w (srcsOf (act.apply s) cid) = none := hafter
  have hok := hgc i t ht n xrs hop
  -- only an action that changes the sources of `cid` can make `w` disappear
  have same : ∀ {l : List (Wid × Nat)}, aget w l = none → l = srcsOf s cid → False := by
    intro l hl e; rw [e, hbefore] at hl; cases hl
  cases act
  case addReg c wid h' =>
    obtain ⟨a, st, rest, hpc, _⟩ := act_at hn
    rw [hpc] at hok
    exact hok.elim
  case delReg c wid reg' =>
    simp only [srcsOf_apply] at hafter
    rcases act_at hn with ⟨m, h', hpc⟩ | ⟨rest, k, h', hpc⟩
    · rw [hpc] at hok; exact hok.elim
    · rw [hpc] at hok
      by_cases ec : cid = c
      · subst ec
        rw [if_pos rfl] at hafter
        by_cases ew : w = wid
        · rw [ew]; exact hok.1
        · rw [aget_adel_ne (fun e => ew e.symm)] at hafter
          exact (same hafter rfl).elim
      · rw [if_neg ec] at hafter
        exact (same hafter rfl).elim
  all_goals exact (same hafter (srcsOf_apply _ s cid)).elim

end Xp.C13
