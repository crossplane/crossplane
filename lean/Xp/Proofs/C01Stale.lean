import Xp.Proofs.C01PT
/-
C01: a P&T reconcile whose first read of the XR was served by a lagging informer cache
(`reconcileStaleT`, Xp/Model/C01.lean). What protects the references is the resourceVersion the
refs `Update` (and the finalizer `Update`) carry: decided from an outdated XR, the reconcile may
still garbage collect what the outdated references point to, but its first write to the XR is
rejected with a Conflict, so it writes no reference and creates nothing. No hypothesis on the
templates, the generated names or the cache misses is needed.
-/
namespace Xp.C01

/-- what a reconcile that decided from an outdated XR may do to the store it started from: objects
removed or marked terminating (never a foreign one), the XR untouched -/
structure StaleInv (s0 s : St) : Prop where
  sh : Shrunk s0 s
  rv : s.xrRv = s0.xrRv
  fin : s.xrFin = s0.xrFin

theorem StaleInv.rfl' {s : St} (hg : Good s) : StaleInv s s := ⟨Shrunk.rfl' hg.nodup, rfl, rfl⟩

theorem exec_delete_xr (s : St) (k n : String) :
    (exec s (.delete k n)).1.xrRv = s.xrRv ∧ (exec s (.delete k n)).1.xrFin = s.xrFin := by
  simp only [exec]
  split
  · split <;> exact ⟨rfl, rfl⟩
  · exact ⟨rfl, rfl⟩

theorem StaleInv.delete {s0 s : St} (hg0 : Good s0) (h : StaleInv s0 s) {k n : String} {o : CObj}
    (hf : findObj s.objs k n = some o) (hc : o.ctrl ≠ .other) : StaleInv s0 (exec s (.delete o.kind o.name)).1 := by
  have hg := h.sh.good hg0
  obtain ⟨hsh, _⟩ := exec_delete_shrunk s hg.nodup o.kind o.name
    (fun x hx hkx => eq_of_key_eq hg.nodup hx (findObj_some hf).1 hkx ▸ hc)
  exact ⟨h.sh.trans hsh, (exec_delete_xr s _ _).1.trans h.rv, (exec_delete_xr s _ _).2.trans h.fin⟩

theorem exec_addFinalizer_stale {s : St} {rv : Nat} (h : rv ≠ s.xrRv) :
    exec s (.addFinalizer rv) = (s, .conflict) := by simp [exec, h]

theorem safe_reconcileStaleT_pt {s0 : St} (hg0 : Good s0) (tries : Nat) (tmpl : List Desired) (fresh : List String)
    (ver : String) (fin : Bool) (rv : Nat) (refs : List Ref) (hrv : rv ≠ s0.xrRv) :
    Safe sem (StaleInv s0) (reconcileStaleT tries (.pt tmpl fresh ver) fin rv refs) s0 := by
  have hs := StaleInv.rfl' hg0
  refine safe_call (exec_getXR s0) hs ?_ trivial trivial
  -- the finalizer Update carries the outdated resourceVersion: it changes nothing and is not accepted
  refine (safe_walker (StaleInv s0)).recContT tries _ (fun _ => by rw [exec_addFinalizer_stale hrv]; exact hs) (fun _ _ => ?_)
    (fun rv' h => by rw [exec_addFinalizer_stale hrv] at h; cases h) hs
  unfold bodyT composePTT
  apply safe_associatePT (fun _ => True) (fun _ _ s' => StaleInv s0 s') rv tmpl id (fun _ h _ _ => h)
    (fun _ _ h _ _ _ _ => h) (fun _ _ h _ hf _ _ hc => h.delete hg0 hf hc) _ refs [] [] s0 (fun _ _ => trivial) hs
  intro a s1 hs1
  refine (safe_walker (StaleInv s0)).renderPTT tries rv a tmpl fresh _ (fun _ => True) (fun _ _ _ => trivial) trivial
    (fun _ => True) (fun _ _ _ _ => trivial) (fun _ _ _ _ _ _ => trivial) (fun _ _ => trivial) (fun rs _ _ _ => ?_) hs1
  -- so does the refs Update
  exact safe_updateXR_stale hs1 (hs1.rv ▸ hrv) _ _ _ _

end Xp.C01
