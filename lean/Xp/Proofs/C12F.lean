import Xp.Proofs.C12
/-
The XR side, `APIRevisionFetcher.Fetch`: it never writes a revision (`fetch_reads`); the pinned path in any
world (`fetch_head`, `manualTail_wp`) and without interference (`fetch_manual_wp`); the non-pinned path without
interference (`fetch_safe`).
-/
namespace Xp.C12

variable {H : Naming} {D : Content → Prop}

/-- the revision an XR references in a store -/
def xrRef (s : Store) (n : String) : Option String := (s.xrs.find? (·.name = n)).bind (·.ref)

/-- the label selector as the API server evaluates it (the composition-name key
is always overridden by the fetcher) -/
def effSel (x : XR) : Labels := (fetchSel x).filter (·.1 ≠ Xp.Gen.labelCompositionName)

/-- specification of the non-pinned path: `r` is the highest-numbered revision
controlled by the XR's Composition among those matching the selector, and the XR
references it afterwards -/
def AutoSpec (s : Store) (x : XR) (r : Rev) (s' : Store) : Prop :=
  ∃ c, s.comps.find? (·.name = x.comp) = some c ∧ r ∈ s.revs ∧ r.comp = c.name ∧ r.ctrl = some c.uid ∧
    selOK (effSel x) r = true ∧
    (∀ r' ∈ s.revs, r'.comp = c.name → r'.ctrl = some c.uid → selOK (effSel x) r' = true → r'.num ≤ r.num) ∧
    xrRef s' x.name = some r.name

theorem AutoSpec.of_latest {s s' : Store} {x : XR} {c : Comp} {r : Rev} (hc : s.comps.find? (·.name = x.comp) = some c)
    (hl : latestRev c.uid (s.revs.filter fun r => decide (r.comp = c.name) && selOK (effSel x) r) = some r)
    (href : xrRef s' x.name = some r.name) : AutoSpec s x r s' := by
  obtain ⟨hmem, hctrl, hmax⟩ := latestRev_some hl
  obtain ⟨hrs, hrp⟩ := List.mem_filter.mp hmem
  simp only [Bool.and_eq_true, decide_eq_true_eq] at hrp
  refine ⟨c, hc, hrs, hrp.1, hctrl, hrp.2, fun r' hr' hc' hu' hs' => hmax r' (List.mem_filter.mpr ⟨hr', ?_⟩) hu', href⟩
  rw [decide_eq_true hc', Bool.true_and]; exact hs'

theorem xrRef_setXRRef {xs : List XR} {n ref : String} (h : ∃ x ∈ xs, x.name = n) :
    ((setXRRef n ref xs).find? (fun y => decide (y.name = n))).bind (·.ref) = some ref := by
  -- the patch keeps names, so the same XR is found, with the new reference
  have hc : ((fun y : XR => decide (y.name = n)) ∘ fun x => if x.name = n then { x with ref := some ref, rv := x.rv + 1 } else x)
      = fun y => decide (y.name = n) := by
    funext x
    by_cases hx : x.name = n <;> simp [hx]
  obtain ⟨x, hx, hn⟩ := h
  rw [setXRRef, List.find?_map, hc]
  cases hf : xs.find? (fun y => decide (y.name = n)) with
  | none => exact absurd (by simpa using hn) (List.find?_eq_none.mp hf x hx)
  | some y => simp [find_name (f := XR.name) hf]

/-- **`Fetch` never writes a revision**, whatever it is told by the API (its only writes are the XR's) -/
theorem fetch_reads (n : String) : Issues Req.readsRevs (fetch n) := by
  unfold fetch
  refine .call _ _ trivial fun x => ?_
  cases x with
  | xr xr => ?_
  | _ => exact .ret _
  simp only []
  split
  · refine .call _ _ trivial fun y => ?_
    cases y <;> exact .ret _
  · refine .call _ _ trivial fun y => ?_
    cases y with
    | comp c => ?_
    | _ => exact .ret _
    refine .call _ _ trivial fun z => ?_
    cases z with
    | revs l => ?_
    | _ => exact .ret _
    simp only []
    split
    · exact .ret _
    · split
      · exact .ret _
      · refine .call _ _ trivial fun u => ?_
        cases u with
        | xr _ =>
          refine .call _ _ trivial fun t => ?_
          cases t <;> exact .ret _
        | notFound =>
          refine .call _ _ trivial fun t => ?_
          cases t <;> exact .ret _
        | _ => exact .ret _

/-- `Fetch` after the XR it read turned out Manual with a referenced revision `p`: that branch of `fetch` (Model/C12.lean)
written out once more; `fetch_head` (its last conjunct by `rfl`) ties the two -/
def manualTail (p : String) : P FRes :=
  .call (.getRev p) fun
  | .rev r => .ret (.rev r)
  | _ => .ret .err

theorem fetch_head (n : String) : ∃ k : Resp → P FRes, fetch n = .call (.getXR n) k ∧
    (∀ e, e.isErr = true → k e = .ret .err) ∧
    ∀ x p, x.policy = some .manual → x.ref = some p → k (.xr x) = manualTail p :=
  ⟨_, rfl, fun e he => (by cases e <;> first | rfl | cases he), fun x p hpol href => by simp only [hpol, href]; rfl⟩

theorem fresh_getRev {s : Store} {p : String} {r : Rev} (h : Fresh s (.getRev p) (.rev r)) :
    s.revs.find? (·.name = p) = some r := by
  simp only [Fresh, exec] at h
  cases hf : s.revs.find? (fun y => decide (y.name = p)) with
  | none => rw [hf] at h; cases h
  | some y => rw [hf] at h; cases h; rfl

theorem manualTail_wp {Rep : Store → Req → Resp → Prop} {E : Resp → Prop} {R : Store → Store → Prop}
    (hE : ∀ e, E e → e.isErr = true) (p : String) (b : Bool) (s : Store) :
    Wp sem Rep E R (fun _ r => r.isWrite = false) (fun _ res s' => ∀ r, res = .rev r → Rep s' (.getRev p) (.rev r)) b
      (manualTail p) s := by
  refine fun s' _ => ⟨rfl, fun x hx => ?_, fun e he => ?_⟩
  · cases x with
    -- a `Get` leaves the store as it is: the final store is the one that answered
    | rev r' => exact fun r h => by cases h; exact hx
    | _ => exact fun r h => by cases h
  · cases e with
    | rev _ => cases hE _ he
    | _ => exact fun r h => by cases h

theorem fetch_manual_wp (s : Store) (n : String) (x : XR) (p : String)
    (hx : s.xrs.find? (·.name = n) = some x) (hpol : x.policy = some .manual) (href : x.ref = some p) :
    Wp sem Fresh PlainErr Eq (fun _ r => r.isWrite = false) (fun _ res s' => ∀ r, res = .rev r → Fresh s' (.getRev p) (.rev r))
      true (fetch n) s := by
  obtain ⟨k, hk, herr, hm⟩ := fetch_head n
  have e0 : exec s (.getXR n) = (s, .xr x) := by simp only [exec, hx]
  rw [hk, wp_call_plain, e0, hm x p hpol href, herr .error rfl, herr .conflict rfl]
  exact ⟨rfl, manualTail_wp (fun _ => PlainErr.isErr) p true s, fun r h => (nomatch h), fun r h => (nomatch h)⟩

def FetchPost (s : Store) (n : String) (res : FRes) (s' : Store) : Prop :=
  ∀ r, res = .rev r → ∀ x, s.xrs.find? (·.name = n) = some x → AutoSpec s x r s'

theorem fetch_safe (s : Store) (n : String)
    (hnot : ∀ x, s.xrs.find? (·.name = n) = some x → ∀ p, x.policy = some .manual → x.ref ≠ some p) :
    Wp sem Fresh PlainErr Eq (fun _ r => r.readsRevs) (fun _ => FetchPost s n) true (fetch n) s := by
  have err : ∀ b s', Wp sem Fresh PlainErr Eq (fun _ r => r.readsRevs) (fun _ => FetchPost s n) b (.ret .err : P FRes) s' :=
    fun _ _ r h => by cases h
  unfold fetch
  rw [wp_call_plain]
  simp only [exec]
  refine ⟨trivial, ?_, err _ s, err _ s⟩
  cases hx : s.xrs.find? (fun y => decide (y.name = n)) with
  | none => exact err _ s
  | some x =>
    have hxn : x.name = n := find_name (f := XR.name) hx
    simp only []
    split
    · rename_i p hpol href
      exact absurd href (hnot x hx p hpol)
    · rw [wp_call_plain]
      simp only [exec]
      refine ⟨trivial, ?_, err _ s, err _ s⟩
      cases hc : s.comps.find? (fun y => decide (y.name = x.comp)) with
      | none => exact err _ s
      | some c =>
        simp only []
        rw [wp_call_plain]
        simp only [exec]
        refine ⟨trivial, ?_, err _ s, err _ s⟩
        cases hl : latestRev c.uid (s.revs.filter fun r => decide (r.comp = c.name) &&
            selOK ((fetchSel x).filter (·.1 ≠ Xp.Gen.labelCompositionName)) r) with
        | none => simp only []; exact err _ s
        | some r =>
          simp only []
          have post : ∀ s', xrRef s' x.name = some r.name → FetchPost s n (.rev r) s' := by
            intro s' href r' e x' hx'
            cases e
            rw [hx] at hx'; cases hx'
            exact .of_latest hc hl href
          split
          · -- already references the latest revision
            rename_i href
            refine post s ?_
            simp only [xrRef, hxn, hx, Option.bind_some, href]
          · rw [wp_call_plain]
            simp only [exec, hxn, hx]
            refine ⟨trivial, ?_, err _ s, err _ s⟩
            rw [wp_call_plain]
            have hfx : s.xrs.find? (fun y => decide (y.name = x.name)) = some x := by rw [hxn]; exact hx
            simp only [exec, hfx, if_true]
            refine ⟨trivial, ?_, err _ s, err _ s⟩
            refine post _ ?_
            simp only [xrRef, hxn]
            exact xrRef_setXRRef ⟨x, List.mem_of_find?_eq_some hx, hxn⟩

end Xp.C12
