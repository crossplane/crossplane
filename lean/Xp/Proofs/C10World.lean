import Xp.Proofs.C10Compose
/-
Helper lemmas for C10: patch-set inlining, one Apply in a world that interferes, and
PTComposer.Compose in the world around its apply loop.
-/
namespace Xp.C10

theorem lookupSet_some (n : String) (pss : List PatchSet) (qs : List Patch) (h : lookupSet n pss = some qs) :
    ∃ s ∈ pss, s.name = n ∧ s.patches = qs := by
  fun_induction lookupSet n pss with
  | case1 => cases h
  | case2 s rest ps hps ih =>                          -- a later set has the name: it wins
    obtain ⟨s', hs', h'⟩ := ih (hps.trans h)
    exact ⟨s', List.mem_cons_of_mem _ hs', h'⟩
  | case3 s rest hr hn ih => exact ⟨s, List.mem_cons_self, hn, Option.some.inj h⟩   -- no later one: this set
  | case4 s rest hr hn ih => cases h

theorem lookupSet_none (n : String) : ∀ (pss : List PatchSet),
    lookupSet n pss = none ↔ ∀ s ∈ pss, s.name ≠ n := by
  intro pss
  induction pss with
  | nil => simp [lookupSet]
  | cons s rest ih =>
    rw [lookupSet, List.forall_mem_cons, ← ih]
    cases lookupSet n rest <;> simp

/-! The facts about `inlinePatches` (here and in Props/C10) go by `fun_induction inlinePatches`, whose cases are, in
this order: no patch left; a PatchSet patch without a name; one that names no defined set; one that names the set
`ss`; any other patch. -/

theorem inlinePatches_none_of_mem (pss : List PatchSet) (p : Patch) (ht : p.type = "PatchSet")
    (hund : p.setName = none ∨ ∃ n, p.setName = some n ∧ ∀ s ∈ pss, s.name ≠ n)
    (ps : List Patch) (hp : p ∈ ps) : inlinePatches pss ps = none := by
  fun_induction inlinePatches pss ps with
  | case1 => cases hp
  | case2 q qs hq hn => rfl
  | case3 q qs hq n hn hl => rfl
  | case4 q qs hq n hn ss hl ih =>
    rcases List.mem_cons.mp hp with rfl | hp
    · -- `p` itself names a defined set: excluded by `hund`
      rcases hund with h | ⟨n', h, hall⟩
      · rw [h] at hn
        cases hn
      · cases Option.some.inj (h.symm.trans hn)
        rw [(lookupSet_none n pss).mpr hall] at hl
        cases hl
    · rw [ih hp]
      rfl
  | case5 q qs hq ih =>
    rcases List.mem_cons.mp hp with rfl | hp
    · exact absurd ht hq
    · rw [ih hp]
      rfl

theorem inlineEach_get (pss : List PatchSet) : ∀ (tpls r : List (List Patch)), inlineEach pss tpls = some r →
    r.length = tpls.length ∧ ∀ i (h1 : i < tpls.length) (h2 : i < r.length), inlinePatches pss tpls[i] = some r[i] :=
  mapOpt_get (inlinePatches pss) (inlineEach pss) rfl fun ps _ => by rw [inlineEach]; cases inlinePatches pss ps <;> rfl

theorem inlineEach_none_of_mem (pss : List PatchSet) (ps : List Patch) (h : inlinePatches pss ps = none)
    (l : List (List Patch)) (hm : ps ∈ l) : inlineEach pss l = none := by
  cases hr : inlineEach pss l with
  | none => rfl
  | some r =>
    obtain ⟨i, hi, rfl⟩ := List.getElem_of_mem hm
    obtain ⟨hl, hget⟩ := inlineEach_get pss l r hr
    rw [hget i hi (hl ▸ hi)] at h
    cases h

/-- what the API server holds after accepting the write -/
def storedW (e : Env) (body : V) : V :=
  match e.got with
  | .notFound => body
  | .found _ => (match e.live with | some l => mergePatchV l body | none => .null)
  | .err _ => .null

/-- `refused`: the Get failed, the object read is not controllable, or a merge option failed -/
@[elab_as_elim]
theorem applyW_cases {motive : ApplyRes → Prop} (uid : String) (i : Nat) (t : Tpl) (e : Env) (cd : V)
    (refused : ∀ c after, e.got = .err c ∨ tolerated c = false → motive ⟨none, none, some c, after⟩)
    (wrote : ∀ verb body oc after, bodyW t cd e.got = some body →
      motive ⟨some ⟨verb, some i⟩, some ⟨i, body, storedW e body⟩, oc, after⟩) :
    motive (applyW uid i t e cd) := by
  unfold applyW
  split
  · exact refused _ _ (.inl ‹_›)
  · rename_i hg
    have := wrote "create" cd
    rw [storedW, hg] at this
    exact this _ _ rfl
  · rename_i cur hg
    split
    · exact refused _ _ (.inr rfl)
    · split
      · exact refused _ _ (.inr rfl)
      · rename_i d hd
        have := wrote "patch" d
        rw [storedW, hg, bodyW, hd] at this
        exact this _ _ rfl

-- over a whole `env : Nat → Env` (`applyW_sent` takes one `e`): `applyW_write uid env` is then the
-- hypothesis `hidx` of `Around.written`, `.unrendered`, `.one_write` (Proofs/C10Loop) for the world's loop
theorem applyW_write (uid : String) (env : Nat → Env) (i : Nat) (t : Tpl) (cd : V) (w : Write) :
    (applyW uid i t (env i) cd).write = some w → w.idx = some i :=
  applyW_cases uid i t (env i) cd (fun _ _ _ h => nomatch h) fun _ _ _ _ _ h => Option.some.inj h ▸ rfl

theorem applyW_sent (uid : String) (i : Nat) (t : Tpl) (e : Env) (cd : V) (s : Sent) :
    (applyW uid i t e cd).sent = some s → s.idx = i ∧ bodyW t cd e.got = some s.body ∧ s.stored = storedW e s.body :=
  applyW_cases uid i t e cd (fun _ _ _ h => nomatch h) fun _ _ _ _ hb h => Option.some.inj h ▸ ⟨rfl, hb, rfl⟩

/-- a write and something sent go together -/
theorem applyW_write_iff_sent (uid : String) (i : Nat) (t : Tpl) (e : Env) (cd : V) :
    (applyW uid i t e cd).write.isSome = (applyW uid i t e cd).sent.isSome :=
  applyW_cases uid i t e cd (fun _ _ _ => rfl) fun _ _ _ _ _ => rfl

/-- nothing is written unless the Get answered (an object or NotFound) -/
theorem applyW_err_no_write (uid : String) (i : Nat) (t : Tpl) (e : Env) (cd : V) (c : String)
    (h : e.got = .err c) : (applyW uid i t e cd).write = none ∧ (applyW uid i t e cd).outcome = some c := by
  unfold applyW
  rw [h]
  exact ⟨rfl, rfl⟩

theorem applyW_write_of_got (uid : String) (i : Nat) (t : Tpl) (e : Env) (cd : V) (hg : ∀ c, e.got ≠ .err c) :
    (applyW uid i t e cd).passes → ∃ w, (applyW uid i t e cd).write = some w := by
  refine applyW_cases uid i t e cd (fun c _ hc hp => ?_) fun _ _ _ _ _ _ => ⟨_, rfl⟩
  -- a refused Apply passes only with a tolerated class
  rcases hc with hc | hc
  · exact absurd hc (hg c)
  · cases hc.symm.trans hp

theorem applyW_quiet (uid : String) (i : Nat) (t : Tpl) (cd : V)
    (hctl : t.refName ≠ "" → notControllable uid (t.cur.getD .null) = false) :
    applyW uid i t (Env.quiet t) cd = applyQ i t cd := by
  unfold applyW applyQ sentFor Env.quiet
  cases hb : t.refName == ""
  · -- an existing resource: the Get returns what the API server holds, which the XR controls
    simp only [Bool.false_eq_true, if_false, hctl (by simpa using hb)]
    cases applyOpts (t.cur.getD .null) cd t.patches with
    | error e => rfl
    | ok d =>
      -- the patch is answered as the scenario says and merged into the same object
      cases t.applyOutcome <;> rfl
  · -- a new resource: NotFound, nothing live: created as rendered, answered as the scenario says
    simp only [if_true]
    cases t.applyOutcome <;> rfl

theorem applyLoopW_eq (uid : String) (env : Nat → Env) (l : List (Tpl × Rendered)) :
    ∀ i, applyLoopW uid env i l = loopOn (steps (fun i t cd => applyW uid i t (env i) cd) i l) := by
  induction l with
  | nil => intro i; rfl
  | cons x rest ih =>
    obtain ⟨t, r⟩ := x
    intro i
    unfold applyLoopW steps
    rw [ih (i + 1)]
    cases hr : r.rendered
    · rfl
    · cases ho : (applyW uid i t (env i) r.cd).outcome with
      | none => simp [loopOn, ApplyRes.passes, ho]
      | some c => cases hc : tolerated c <;> simp [loopOn, ApplyRes.passes, ho, hc]

/-- the apply loop of the reconcile of `xr` in the world `w`, over the Applies `applyW` computes -/
def loopW (xr : V) (tpls : List Tpl) (w : World) (rs : List Rendered) : LoopW :=
  loopOn (steps (fun i t cd => applyW (getMetaStr xr "uid") i t (w.env i) cd) 0 (tpls.zip rs))

theorem composeW_eq (xr : V) (tpls : List Tpl) (w : World) (rs : List Rendered) (hr : renderAll xr tpls = some rs) :
    composeW xr tpls w = finish rs w.updFails (loopW xr tpls w rs)
      (observeLoopW xr (zip3 tpls (loopW xr tpls w rs).applied (loopW xr tpls w rs).afters)).2 w.xrApplyFails := by
  unfold composeW loopW
  rw [hr]
  dsimp only
  rw [applyLoopW_eq]
  rfl

theorem composeW_around (xr : V) (tpls : List Tpl) (w : World) (rs : List Rendered) (hr : renderAll xr tpls = some rs) :
    Around (composeW xr tpls w) (loopW xr tpls w rs) := by
  rw [composeW_eq xr tpls w rs hr]
  exact finish_around _ _ _ _ _

end Xp.C10
