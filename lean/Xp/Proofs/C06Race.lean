import Xp.Proofs.C06World
/-
C06, the window of finding D34: which steps of the system can turn an XR that is not bound to another claim
into one that is. A call of the claim controller never does (`exec_keeps_not_foreign`), an environment step
only as `Env.peerWrite` (`env_foreign_only_peer`). `unconditionalOn` names the requests that carry no
resourceVersion.
-/
namespace Xp.C06

/-- the requests that carry no resourceVersion of the XR: Delete, the forced apply, the merge patch of an XR
that Reconcile's Get did not find -/
def unconditionalOn : Req → Option Name
  | .deleteXR n _ => some n
  | .applyXR n _ => some n
  | .patchXR n none _ => some n
  | _ => none

theorem foreignNow_putXR {s : St} {n m : Name} {x' : XR} (h : foreignNow (putXR s n x').1 m) :
    foreignNow s m ∨ (m = n ∧ x'.foreignTo s.me) :=
  (foreignNow_setXR (s := { s with nextRv := s.nextRv + 1 }) (ox := some { x' with rv := s.nextRv }) h).imp_right
    fun ⟨e, _, hy, hc⟩ => ⟨e, by cases hy; exact hc⟩

theorem not_foreignTo_of_keep {s : St} {n m : Name} {x x' : XR} (h : ¬ foreignNow s m) (hx : s.xrs n = some x)
    (hc : x'.cref = x.cref) (e : m = n) : ¬ x'.foreignTo s.me :=
  fun ⟨r, hr, hne⟩ => h ⟨x, e ▸ hx, r, hc ▸ hr, hne⟩

theorem Eff.keeps_not_foreign {s s' : St} {r : Req} {resp : Resp} (he : Eff s r s' resp) (hc : ∀ c, reqCref r = some c → c = s.me)
    (m : Name) (h : ¬ foreignNow s m) : ¬ foreignNow s' m := by
  intro hf
  cases he with
  | reject | getClaim | getXR | updClaim | updClaimStatus => exact h hf
  | deleteXR n fg x x1 hx hc1 =>
    have hf : foreignNow (delState s n x x1) m := hf
    rcases delState_cases s n x x1 with e | e | e | e <;> rw [e] at hf
    · exact h hf
    · exact (foreignNow_setXR hf).elim h fun ⟨e, _, hy, hx'⟩ => not_foreignTo_of_keep h hx hc1 e (by cases hy; exact hx')
    · exact (foreignNow_putXR hf).elim h fun ⟨e, hx'⟩ => not_foreignTo_of_keep h hx hc1 e hx'
    · exact (foreignNow_setXR hf).elim h fun ⟨_, _, hy, _⟩ => nomatch hy
  | write r n x' ev hw =>
    have hf : foreignNow (putXR s n x').1 m := hf
    rcases foreignNow_putXR hf with hf | ⟨e, hx'⟩
    · exact h hf
    · rcases hw.cref with ⟨x, hx, hcx⟩ | ⟨c, hr, hcx⟩
      · exact not_foreignTo_of_keep h hx hcx e hx'
      · exact not_foreignTo_of_cref (hcx.trans (congrArg some (hc c hr))) hx'

theorem exec_keeps_not_foreign {s : St} {r : Req} (hg : G s r) (n : Name) (h : ¬ foreignNow s n) :
    ¬ foreignNow (exec s r).1 n :=
  (exec_eff s r).keeps_not_foreign (reqCref_of_G hg) n h

theorem env_foreign_only_peer {s s' : St} (he : Env s s') (n : Name) (h : ¬ foreignNow s n) (hf : foreignNow s' n) :
    s.peers = true ∧ ∃ x', s' = (putXR s n x').1 := by
  cases he with
  | xrWrite m x x' hx hc => exact absurd hf fun hf => (foreignNow_putXR hf).elim h fun ⟨e, hx'⟩ => not_foreignTo_of_keep h hx hc e hx'
  | xrRemove m => exact absurd hf fun hf => (foreignNow_setXR hf).elim h fun ⟨_, _, hy, _⟩ => nomatch hy
  | xrCreate m x' hx hc =>
    exact absurd hf fun hf => (foreignNow_putXR hf).elim h fun ⟨_, r, hr, _⟩ => nomatch hc ▸ hr
  | peerWrite m x' hp hb =>
    rcases foreignNow_putXR hf with hf | ⟨rfl, _⟩
    · exact absurd hf h
    · exact ⟨hp, x', rfl⟩
  | xrSet m x x' hx hc hrv =>
    exact absurd hf fun hf => (foreignNow_setXR hf).elim h fun ⟨e, _, hy, hx'⟩ => not_foreignTo_of_keep h hx hc e (by cases hy; exact hx')
  | tick k o => exact absurd hf h
  | claimWrite c c' hc hr hid => exact absurd hf h
  | claimGone => exact absurd hf h

end Xp.C06
