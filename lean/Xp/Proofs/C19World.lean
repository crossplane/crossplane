import Xp.Proofs.C19Store
import Xp.Proofs.C19Next
/-
C19 — calls answered by the world (`Thread.stepW`): error classes, informer-cache answers.
-/
namespace Xp.C19

theorem next_err_done (t : Thread) (seen : List Usage) (e : Err) :
    (∃ r, t.next seen (.err e) = .done r) ∨ (e = .notFound ∧ (t.pc = .dGetUsing ∨ t.pc = .dGetUsed)) := by
  rcases next_err_cases t seen e with ⟨r, h, _⟩ | ⟨he, h | h⟩
  · exact .inl ⟨r, h⟩
  · exact .inr ⟨he, .inl h.1⟩
  · exact .inr ⟨he, .inr h.1⟩

theorem stepW_fail_store (t : Thread) (c : Call) (s : Store) : (t.stepW .fail c s).store = s := rfl

theorem exec_fail_class (sys : Sys) (n : String) (c : Call) (h : c.cls ≠ .notFound) :
    (sys.exec (.stepW n .fail c)).1 = (sys.exec (.step n .fail none)).1 := by
  simp only [Sys.exec.eq_def]
  cases hth : sys.thread? n with
  | none => rfl
  | some t =>
    simp only []
    obtain ⟨r1, h1⟩ : ∃ r, (t.stepW .fail c sys.store).after = .done r := by
      rcases next_err_done t sys.store.usages c.cls with h' | ⟨h', _⟩
      · exact h'
      · exact absurd h' h
    obtain ⟨r2, h2, _⟩ : ∃ r, (t.step .fail none sys.store).after = .done r ∧ r ≠ .poll :=
      next_fault t sys.store.usages .fail
    rw [h1, h2]
    rfl

/-- schedules whose world-answered calls are injected failures carrying an error class -/
def Action.classOnly : Action → Bool
  | .stepW _ .fail c => c.cls != .notFound
  | a => a.fresh

/-- forget the class -/
def Action.unclass : Action → Action
  | .stepW n .fail _ => .step n .fail none
  | a => a

theorem unclass_fresh (a : Action) (h : a.classOnly = true) : a.unclass.fresh = true := by
  cases a with
  | stepW n o c => cases o <;> simp_all [Action.classOnly, Action.unclass, Action.fresh]
  | _ => simpa [Action.classOnly, Action.unclass] using h

theorem exec_unclass (sys : Sys) (a : Action) (h : a.classOnly = true) :
    (sys.exec a).1 = (sys.exec a.unclass).1 := by
  cases a with
  | stepW n o c =>
    cases o with
    | fail =>
      simp only [Action.unclass]
      exact exec_fail_class sys n c (by simpa [Action.classOnly] using h)
    | _ => simp [Action.classOnly, Action.fresh] at h
  | _ => rfl

theorem updU_lagging (s : Store) (u : Usage) (h : ∀ x, s.getU u.name = some x → x.rv ≠ u.rv) : (s.updU u).1 = s := by
  fun_cases Store.updU s u with
  | case1 | case2 => rfl
  | case3 x hg hx _ | case4 x hg hx _ _ | case5 x hg hx _ _ => exact absurd (h x hg) hx

theorem updStatus_lagging (s : Store) (u : Usage) (h : ∀ x, s.getU u.name = some x → x.rv ≠ u.rv) :
    (s.updStatus u).1 = s := by
  fun_cases Store.updStatus s u with
  | case1 | case2 => rfl
  | case3 x hg hx _ | case4 x hg hx _ => exact absurd (h x hg) hx

/-- `h`: the reconcile's copy of the Usage is not the stored version (the informer cache handed it an
older one, or one that is gone) -/
theorem exec_request_lagging (s : Store) (t : Thread) (hn : t.u.name = t.uname)
    (h : ∀ x, s.getU t.uname = some x → x.rv ≠ t.u.rv) : (s.exec t.request).1.usages = s.usages := by
  rcases request_cases t with hr | ⟨u', hr, _, h1, h2⟩ | ⟨used, ⟨_, hr⟩ | ⟨_, hr⟩⟩ | ⟨_, hr⟩
  · rw [exec_read s hr]
  · rw [hr]
    exact congrArg Store.usages (updU_lagging s u' (fun x hg => h2 ▸ h x (hn ▸ h1 ▸ hg)))
  · rw [hr]; exact updR_usages s _
  · rw [hr]; exact updR_usages s _
  · rw [hr]
    exact congrArg Store.usages (updStatus_lagging s { t.u with ready := true } (fun x hg => h x (hn ▸ hg)))

end Xp.C19
