import Xp.Proofs.C20Install
/-
C20: the package installer – its one invariant (`installStep_cases`: at every instant nothing is written yet, or the
store is a partial application of the lists resolved at the start), from which no source is installed a second time,
sources stay parsed; what a completed run establishes and that it is a fixpoint (under the distinctness hypotheses);
these hypotheses hold at every instant of a run that is aborted anywhere (`installHyp_reach`).
-/
namespace Xp.C20
open Xp

variable {α β : Type}

abbrev Reqs := List (String × Ref)

/-- the effect of one apply -/
def applyOne (k : PKind) (nr : String × Ref) (x : Store) : Store :=
  { x with pkgs := upsert (fun p => p.kind = k ∧ p.name = nr.1) ⟨k, nr.1, nr.2.str, some nr.2, 0⟩
                     (fun p => { p with raw := nr.2.str, ref := some nr.2 }) x.pkgs }

theorem applyPkg_moves (k : PKind) (nr : String × Ref) (x : Store) : Moves (applyPkg k nr) x (applyOne k nr x) .ok := by
  unfold applyPkg applyOne upsert
  cases hf : findPkg x k nr.1 with
  | none =>
    rw [show x.pkgs.find? _ = none from hf]
    exact moves_read (x := .err .notFound) (by simp only [exec, hf])
      (moves_write (x := .ok) (by simp only [exec, hf]) (moves_ret _ _))
  | some q =>
    rw [show x.pkgs.find? _ = some q from hf]
    exact moves_read (x := .pkg q) (by simp only [exec, hf]) (moves_write (x := .ok) (by simp only [exec, hf]) (moves_ret _ _))

/-- every package with key `(k, nr.1)` carries the reference `nr.2` (and one exists) -/
def PkgFix (k : PKind) (nr : String × Ref) (s : Store) : Prop :=
  (∃ q, findPkg s k nr.1 = some q) ∧ ∀ q ∈ s.pkgs, q.kind = k ∧ q.name = nr.1 → q.raw = nr.2.str ∧ q.ref = some nr.2

theorem pkg_eta (p : Pkg) (raw : String) (ref : Option Ref) : { p with raw := raw, ref := ref } = p ↔ p.raw = raw ∧ p.ref = ref := by
  cases p
  simp [eq_comm]

theorem pkgFix_iff (k : PKind) (nr : String × Ref) (s : Store) : PkgFix k nr s ↔
    FixL (fun p => p.kind = k ∧ p.name = nr.1) (fun p => { p with raw := nr.2.str, ref := some nr.2 }) s.pkgs :=
  and_congr_right fun _ => forall_congr' fun q => imp_congr_right fun _ => imp_congr_right fun _ => (pkg_eta q _ _).symm

theorem applyOne_fix (k : PKind) (nr : String × Ref) (x : Store) : PkgFix k nr (applyOne k nr x) := by
  rw [pkgFix_iff]
  exact upsert_fix (fun p : Pkg => p.kind = k ∧ p.name = nr.1) (new := ⟨k, nr.1, nr.2.str, some nr.2, 0⟩)
    (patch := fun p => { p with raw := nr.2.str, ref := some nr.2 }) (fun _ => Iff.rfl) ⟨rfl, rfl⟩ rfl (fun _ => rfl) _

theorem applyOne_other (k : PKind) (nr : String × Ref) (k' : PKind) (nr' : String × Ref) (x : Store)
    (hne : (k', nr'.1) ≠ (k, nr.1)) (h : PkgFix k' nr' x) : PkgFix k' nr' (applyOne k nr x) := by
  rw [pkgFix_iff] at h ⊢
  exact upsert_other (fun p : Pkg => p.kind = k ∧ p.name = nr.1) (new := ⟨k, nr.1, nr.2.str, some nr.2, 0⟩)
    (patch := fun p => { p with raw := nr.2.str, ref := some nr.2 }) (fun _ => Iff.rfl) ⟨rfl, rfl⟩
    (fun x e e' => hne (by rw [← e'.1, ← e'.2, e.1, e.2])) _ h

theorem applyLoop_done {k : PKind} {l : Reqs} (hnd : (l.map (·.1)).Nodup) {s t : Store}
    (h : evalOk (forEach (applyPkg k) l) s = (t, .ok)) :
    (∀ nr ∈ l, PkgFix k nr t) ∧
    (∀ k' nr', (∀ nr ∈ l, (k', nr'.1) ≠ (k, nr.1)) → PkgFix k' nr' s → PkgFix k' nr' t) := by
  have hT : ∀ {nr : String × Ref} {s t : Store}, evalOk (applyPkg k nr) s = (t, .ok) → t = applyOne k nr s :=
    fun h => ((applyPkg_moves k _ _).eq h).1
  refine ⟨(forEach_chain h).done (Done := PkgFix k) ?_ ?_ (List.pairwise_map.mp hnd),
    fun k' nr' hne hfix => (forEach_chain h).keeps ?_ hfix⟩
  · intro nr s t h
    rw [hT h]; exact applyOne_fix k nr s
  · intro nr nr' s t hne h hfix
    rw [hT h]; exact applyOne_other k nr' k nr s (fun e => hne (by simpa using e)) hfix
  · intro nr hnr s t h hfix
    rw [hT h]; exact applyOne_other k nr k' nr' s (hne nr hnr) hfix

theorem applyLoop_ok (k : PKind) (l : Reqs) (s : Store) : (evalOk (forEach (applyPkg k) l) s).2 = .ok := by
  induction l generalizing s with
  | nil => rfl
  | cons nr rest ih =>
    unfold forEach
    rw [evalOk_bind, (applyPkg_moves k nr s).1]
    exact ih _

/-- written out for the installer's three lists, as `StepDone` shows it in the statements of Props/C20; the proofs use the
`∀ k` form, `installDone_iff` below (`InstallHyp` and `installHyp_iff` likewise) -/
def InstallDone (p c f : List Img) (s : Store) : Prop :=
  ∃ ps cs fs, buildAll resolve (buildIndex (listing s .provider)) p = some ps ∧
    buildAll resolve (buildIndex (listing s .configuration)) c = some cs ∧
    buildAll resolve (buildIndex (listing s .function)) f = some fs ∧
    (∀ nr ∈ ps, PkgFix .provider nr s) ∧ (∀ nr ∈ cs, PkgFix .configuration nr s) ∧ (∀ nr ∈ fs, PkgFix .function nr s)

theorem applyPkg_fix (k : PKind) (nr : String × Ref) (s : Store) (h : PkgFix k nr s) : Fixes (applyPkg k nr) s .ok :=
  (applyPkg_moves k nr s).fixes (congrArg (fun l => { s with pkgs := l }) (FixL.upsert_eq _ ((pkgFix_iff k nr s).mp h)))

theorem applyLoop_fix (k : PKind) (l : Reqs) (s : Store) (h : ∀ nr ∈ l, PkgFix k nr s) :
    Fixes (forEach (applyPkg k) l) s .ok :=
  fixes_forEach fun nr hnr => applyPkg_fix k nr s (h nr hnr)

theorem listOf_fixes {k : PKind} {cont : List Pkg → P Res} {s : Store} {a : Res} (h : Fixes (cont (listing s k)) s a) :
    Fixes (listOf k cont) s a :=
  moves_read (exec_listPkgs s k) h

theorem listOf_eval (k : PKind) (cont : List Pkg → P Res) (s : Store) :
    evalOk (listOf k cont) s = evalOk (cont (listing s k)) s := rfl

theorem installBody_eval (p c f : List Img) (pl cl fl : List Pkg) (ps cs fs : Reqs)
    (hp : buildAll resolve (buildIndex pl) p = some ps) (hc : buildAll resolve (buildIndex cl) c = some cs)
    (hf : buildAll resolve (buildIndex fl) f = some fs) :
    installBody resolve p c f pl cl fl = installApply ps cs fs := by
  unfold installBody
  simp only [hp, hc, hf]

theorem installDone_iff {p c f : List Img} {s : Store} :
    InstallDone p c f s ↔ ∃ l, Built s p c f l ∧ ∀ k, ∀ nr ∈ l k, PkgFix k nr s :=
  ⟨fun ⟨ps, cs, fs, _, _, _, _, _, _⟩ =>
      ⟨perKind ps cs fs, fun k => by cases k <;> assumption, fun k => by cases k <;> assumption⟩,
    fun ⟨l, hb, hf⟩ => ⟨l .provider, l .configuration, l .function, hb _, hb _, hb _, hf _, hf _, hf _⟩⟩

theorem install_fix (p c f : List Img) (s : Store) (h : InstallDone p c f s) : Fixes (installStep p c f) s .ok := by
  obtain ⟨l, hb, hf⟩ := installDone_iff.mp h
  refine listOf_fixes (listOf_fixes (listOf_fixes ?_))
  rw [installBody_eval p c f _ _ _ _ _ _ (hb .provider) (hb .configuration) (hb .function)]
  exact moves_bind (applyLoop_fix _ _ s (hf _)) (moves_bind (applyLoop_fix _ _ s (hf _)) (applyLoop_fix _ _ s (hf _)))

/-- at most one installed package per source and kind -/
def SrcUnique (s : Store) : Prop :=
  ∀ q ∈ s.pkgs, ∀ q' ∈ s.pkgs, q.kind = q'.kind → ∀ src, HasSrc q src → HasSrc q' src → q.name = q'.name

/-- a package carries the request of its kind and name -/
def Carries (l : PKind → Reqs) (q : Pkg) : Prop := ∃ nr ∈ l q.kind, nr.1 = q.name ∧ q.ref = some nr.2

/-- every package is an original or carries a request; every original is still there or was re-pointed by the
request of its name -/
def Partial (l : PKind → Reqs) (s x : Store) : Prop :=
  (∀ q ∈ x.pkgs, q ∈ s.pkgs ∨ Carries l q) ∧
  (∀ q₀ ∈ s.pkgs, ∃ q ∈ x.pkgs, q.kind = q₀.kind ∧ q.name = q₀.name ∧ (q = q₀ ∨ Carries l q))

theorem partial_refl (l : PKind → Reqs) (s : Store) : Partial l s s :=
  ⟨fun _ h => Or.inl h, fun q₀ h => ⟨q₀, h, rfl, rfl, Or.inl rfl⟩⟩

theorem exec_partial {l : PKind → Reqs} {s x : Store} {r : Req} (h : Partial l s x) (hq : ListReq l r) :
    Partial l s (exec x r).1 := by
  obtain ⟨h1, h2⟩ := h
  have he := exec_eff x r
  generalize exec x r = y at he ⊢
  cases he with
  | createPkg p hf =>
    refine ⟨fun q hqm => ?_, fun q₀ hq₀ => ?_⟩
    · rcases List.mem_append.mp hqm with hqm | hqm
      · exact h1 q hqm
      · obtain ⟨_, nr, hnr, hn, hr, _⟩ := hq
        rw [List.mem_singleton.mp hqm]
        exact .inr ⟨nr, hnr, hn, hr⟩
    · obtain ⟨q, hqm, e⟩ := h2 q₀ hq₀
      exact ⟨q, List.mem_append_left _ hqm, e⟩
  | patchPkg k n ref q' hf =>
    -- a package with the key is re-pointed and now carries the request; the others are as before
    have key : ∀ q ∈ x.pkgs, (q.kind = k ∧ q.name = n) → Carries l { q with raw := ref.str, ref := some ref } :=
      fun q _ hm => ⟨(n, ref), hm.1 ▸ hq, hm.2.symm, rfl⟩
    refine ⟨fun q hqm => ?_, fun q₀ hq₀ => ?_⟩
    · obtain ⟨q₁, hq₁, rfl⟩ := List.mem_map.mp hqm
      by_cases hm : q₁.kind = k ∧ q₁.name = n
      · rw [if_pos hm]
        exact .inr (key q₁ hq₁ hm)
      · rw [if_neg hm]
        exact h1 q₁ hq₁
    · obtain ⟨q, hqm, e1, e2, e3⟩ := h2 q₀ hq₀
      refine ⟨_, List.mem_map.mpr ⟨q, hqm, rfl⟩, ?_⟩
      by_cases hm : q.kind = k ∧ q.name = n
      · rw [if_pos hm]
        exact ⟨e1, e2, .inr (key q hqm hm)⟩
      · rw [if_neg hm]
        exact ⟨e1, e2, e3⟩
  | _ => exact ⟨h1, h2⟩

theorem installStep_cases (plan : Plan) (k : Nat) (s : Store) (p c f : List Img) :
    ∀ x ∈ reach sem plan k (installStep p c f) s, x = s ∨ ∃ l, Built s p c f l ∧ Partial l s x := by
  -- the three Lists change nothing; the body then runs on the listings of `s`
  refine reach_safe sem _ plan k _ s (.inl rfl) (safe_listOf (.inl rfl) (safe_listOf (.inl rfl) (safe_listOf (.inl rfl) ?_)))
  refine Safe.of_issues sem _ (fun r => ∃ l, Built s p c f l ∧ ListReq l r) ?_
    (installBody_issues_of _ resolve p c f _ _ _ fun l hb r hr => ⟨l, fun k => by have := hb k; cases k <;> exact this, hr⟩)
    s (.inl rfl)
  rintro x r hi ⟨l, hb, hr⟩
  refine .inr ⟨l, hb, exec_partial ?_ hr⟩
  rcases hi with rfl | ⟨l', hb', h⟩
  · exact partial_refl _ _
  · exact hb.unique hb' ▸ h

theorem installStep_partial {plan : Plan} {k : Nat} {s x : Store} {p c f : List Img} {l : PKind → Reqs}
    (hb : Built s p c f l) (hx : x ∈ reach sem plan k (installStep p c f) s) : Partial l s x := by
  rcases installStep_cases plan k s p c f x hx with rfl | ⟨l', hb', h⟩
  · exact partial_refl _ _
  · exact hb.unique hb' ▸ h

/-- A requested source lives under the request's name only: a package that was there at the start is the one the
request resolved to (`SrcUnique`), a package that carries a request carries this one (the requested sources are
distinct). What `Built` and `SrcUnique` of a partial application rest on. -/
theorem partial_name {l : PKind → Reqs} {k : PKind} {s x : Store} (hpart : Partial l s x)
    (hl : ∀ nr ∈ l k, nr.1 = resolve (buildIndex (listing s k)) nr.2) (hsrc : ((l k).map (·.2.src)).Nodup)
    (huniq : SrcUnique s) {nr : String × Ref} (hnr : nr ∈ l k) {q : Pkg} (hq : q ∈ x.pkgs) (hk : q.kind = k)
    (hqs : HasSrc q nr.2.src) : q.name = nr.1 := by
  rcases hpart.1 q hq with hin | ⟨nr', hnr', hname, href⟩
  · obtain ⟨q', hq', hq's, hres⟩ := resolve_hits (listing s k) nr.2 ⟨q, (mem_listing _ _ _).mpr ⟨hin, hk⟩, hqs⟩
    obtain ⟨hq'm, hq'k⟩ := (mem_listing _ _ _).mp hq'
    rw [huniq q hin q' hq'm (hk.trans hq'k.symm) nr.2.src hqs hq's, ← hres, ← hl nr hnr]
  · obtain ⟨r, hr, hs⟩ := hqs
    cases href.symm.trans hr
    rw [← hname, eq_of_map_nodup hsrc (hk ▸ hnr') hnr hs]

theorem partial_resolve (l : PKind → Reqs) (k : PKind) (s x : Store) (hpart : Partial l s x)
    (hl : ∀ nr ∈ l k, nr.1 = resolve (buildIndex (listing s k)) nr.2)
    (hnames : ((l k).map (·.1)).Nodup) (hsrc : ((l k).map (·.2.src)).Nodup) (huniq : SrcUnique s) :
    ∀ nr ∈ l k, resolve (buildIndex (listing x k)) nr.2 = nr.1 := by
  intro nr hnr
  by_cases hex : ∃ q ∈ listing x k, HasSrc q nr.2.src
  · obtain ⟨q, hq, hqs, hres⟩ := resolve_hits (listing x k) nr.2 hex
    obtain ⟨hqm, hqk⟩ := (mem_listing _ _ _).mp hq
    rw [hres]; exact partial_name hpart hl hsrc huniq hnr hqm hqk hqs
  · -- no candidate in x: then there was none in s either, and both resolve to the default name
    have hnone : ¬ ∃ q ∈ listing s k, HasSrc q nr.2.src := by
      rintro ⟨q₀, hq₀, hq₀s⟩
      obtain ⟨hq₀m, hq₀k⟩ := (mem_listing _ _ _).mp hq₀
      obtain ⟨q, hqm, e1, e2, e3⟩ := hpart.2 q₀ hq₀m
      refine hex ⟨q, (mem_listing _ _ _).mpr ⟨hqm, e1.trans hq₀k⟩, ?_⟩
      rcases e3 with rfl | ⟨nr', hnr', hname, href⟩
      · exact hq₀s
      · -- re-pointed by the request of its name, and that name is nr's
        have hn0 := partial_name (partial_refl l s) hl hsrc huniq hnr hq₀m hq₀k hq₀s
        rw [e1.trans hq₀k] at hnr'
        cases eq_of_map_nodup hnames hnr' hnr (by rw [hname, e2, hn0])
        exact ⟨_, href, rfl⟩
    rw [hl nr hnr, resolve_miss _ _ hex, resolve_miss _ _ hnone]

theorem buildAll_resolve_eq (m m' : List (String × String)) (imgs : List Img) (l : Reqs)
    (h : buildAll resolve m imgs = some l) (he : ∀ nr ∈ l, resolve m' nr.2 = nr.1) :
    buildAll resolve m' imgs = some l :=
  (buildAll_some _ m' imgs l).mpr ⟨((buildAll_some _ m imgs l).mp h).1, fun nr hnr => (he nr hnr).symm⟩

/-- hypotheses of installer idempotence: per kind, the requested images have pairwise distinct
sources and resolve to pairwise distinct object names, and the cluster does not already hold one
source twice -/
structure InstallHyp (p c f : List Img) (s : Store) : Prop where
  prov : ∀ l, buildAll resolve (buildIndex (listing s .provider)) p = some l → (l.map (·.1)).Nodup ∧ (l.map (·.2.src)).Nodup
  conf : ∀ l, buildAll resolve (buildIndex (listing s .configuration)) c = some l → (l.map (·.1)).Nodup ∧ (l.map (·.2.src)).Nodup
  func : ∀ l, buildAll resolve (buildIndex (listing s .function)) f = some l → (l.map (·.1)).Nodup ∧ (l.map (·.2.src)).Nodup
  uniq : SrcUnique s

theorem installHyp_iff {p c f : List Img} {s : Store} : InstallHyp p c f s ↔
    (∀ k l, buildAll resolve (buildIndex (listing s k)) (perKind p c f k) = some l →
      (l.map (·.1)).Nodup ∧ (l.map (·.2.src)).Nodup) ∧ SrcUnique s :=
  ⟨fun h => ⟨fun k => match k with | .provider => h.prov | .configuration => h.conf | .function => h.func, h.uniq⟩,
    fun h => ⟨h.1 .provider, h.1 .configuration, h.1 .function, h.2⟩⟩

section lists
variable {p c f : List Img} {s x : Store} {l : PKind → Reqs} (hyp : InstallHyp p c f s) (hb : Built s p c f l)
include hyp hb

theorem installHyp_lists (k : PKind) : ((l k).map (·.1)).Nodup ∧ ((l k).map (·.2.src)).Nodup :=
  (installHyp_iff.mp hyp).1 k _ (hb k)

theorem partial_buildAll (hpart : Partial l s x) : Built x p c f l := fun k =>
  buildAll_resolve_eq _ _ _ _ (hb k) (partial_resolve _ k s x hpart (hb.names k) (installHyp_lists hyp hb k).1
    (installHyp_lists hyp hb k).2 hyp.uniq)
end lists

theorem installStep_eval {p c f : List Img} {s t : Store} (h : evalOk (installStep p c f) s = (t, .ok)) :
    ∃ l, Built s p c f l ∧ evalOk (installApply (l .provider) (l .configuration) (l .function)) s = (t, .ok) := by
  unfold installStep installWith at h
  rw [listOf_eval, listOf_eval, listOf_eval] at h
  rcases installBody_cases resolve p c f (listing s .provider) (listing s .configuration) (listing s .function) with
    ⟨tag, e⟩ | ⟨l, hb, e⟩ <;> rw [e] at h
  · cases h
  · exact ⟨l, fun k => by have := hb k; cases k <;> exact this, h⟩

theorem install_establishes (p c f : List Img) (s t : Store) (hyp : InstallHyp p c f s)
    (h : evalOk (installStep p c f) s = (t, .ok)) :
    InstallDone p c f t := by
  obtain ⟨l, hb, ha⟩ := installStep_eval h
  have hpart : Partial l s t := by
    have := installStep_partial hb (evalOk_reach (installStep p c f) s)
    rwa [h] at this
  unfold installApply at ha
  obtain ⟨u1, h1⟩ : ∃ u, evalOk (forEach (applyPkg .provider) (l .provider)) s = (u, .ok) := ⟨_, Prod.ext rfl (applyLoop_ok _ _ _)⟩
  rw [evalOk_bind, h1] at ha
  obtain ⟨u2, h2⟩ : ∃ u, evalOk (forEach (applyPkg .configuration) (l .configuration)) u1 = (u, .ok) := ⟨_, Prod.ext rfl (applyLoop_ok _ _ _)⟩
  dsimp only at ha
  rw [evalOk_bind, h2] at ha
  dsimp only at ha
  obtain ⟨a1, _⟩ := applyLoop_done (installHyp_lists hyp hb _).1 h1
  obtain ⟨b1, b2⟩ := applyLoop_done (installHyp_lists hyp hb _).1 h2
  obtain ⟨c1, c2⟩ := applyLoop_done (installHyp_lists hyp hb _).1 ha
  refine installDone_iff.mpr ⟨_, partial_buildAll hyp hb hpart, fun k => ?_⟩
  cases k
  · exact fun nr hn => c2 _ nr (fun n _ => by simp) (b2 _ nr (fun n _ => by simp) (a1 nr hn))
  · exact fun nr hn => c2 _ nr (fun n _ => by simp) (b1 nr hn)
  · exact c1

theorem partial_srcUnique (l : PKind → Reqs) (s x : Store) (hpart : Partial l s x)
    (hl : ∀ k, ∀ nr ∈ l k, nr.1 = resolve (buildIndex (listing s k)) nr.2)
    (hsrc : ∀ k, ((l k).map (·.2.src)).Nodup) (huniq : SrcUnique s) : SrcUnique x := by
  -- a package that carries a request gives its name to every package of its kind and source
  have key : ∀ q ∈ x.pkgs, ∀ q' ∈ x.pkgs, q.kind = q'.kind → ∀ src, HasSrc q src → HasSrc q' src →
      Carries l q' → q.name = q'.name := by
    rintro q hq q' hq' hk src hqs ⟨r', hr', hs'⟩ ⟨nr', hnr', hname', href'⟩
    cases href'.symm.trans hr'
    rw [← hname']
    exact partial_name hpart (hl _) (hsrc _) huniq hnr' hq hk (hs' ▸ hqs)
  intro q hq q' hq' hk src hqs hq's
  rcases hpart.1 q' hq' with hin' | hc'
  · rcases hpart.1 q hq with hin | hc
    · exact huniq q hin q' hin' hk src hqs hq's
    · exact (key q' hq' q hq hk.symm src hq's hqs hc).symm
  · exact key q hq q' hq' hk src hqs hq's hc'

theorem installHyp_reach (plan : Plan) (k : Nat) (s : Store) (p c f : List Img) (hyp : InstallHyp p c f s) :
    ∀ x ∈ reach sem plan k (installStep p c f) s, InstallHyp p c f x := by
  intro x hx
  rcases installStep_cases plan k s p c f x hx with rfl | ⟨l, hb, hpart⟩
  · exact hyp
  · refine installHyp_iff.mpr ⟨fun k l' h' => ?_,
      partial_srcUnique _ s x hpart hb.names (fun k => (installHyp_lists hyp hb k).2) hyp.uniq⟩
    cases (partial_buildAll hyp hb hpart k).symm.trans h'
    exact installHyp_lists hyp hb k

end Xp.C20
