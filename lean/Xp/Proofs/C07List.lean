import Xp.Model.C07
import Xp.Base.List
/-
C07, maps kept as lists of pairs: what each operation of the model does to the binding of ONE key. Lookup through
`aset`, `aerase`, `addAll` and the key filters (instances of `Keyed`); mergo's map merge, JSON merge patch and the
server-side-apply approximation only ever touch the bindings of the keys of their source (`untouched_of_step`, one
induction for every operation that works its source off entry by entry); `NoDup`; optional maps (annotations).
-/
namespace Xp.C07
open Xp

section AL
variable {α : Type}

@[simp] theorem alookup_nil (k : String) : alookup k ([] : AL α) = none := rfl

theorem alookup_cons (k k' : String) (v : α) (r : AL α) :
    alookup k ((k', v) :: r) = if k' = k then some v else alookup k r := rfl

theorem alookup_cons_none {k k' : String} {v : α} {r : AL α} (h : alookup k ((k', v) :: r) = none) :
    k ≠ k' ∧ alookup k r = none := by
  rw [alookup_cons] at h
  split at h
  · cases h
  · exact ⟨fun e => ‹¬k' = k› e.symm, h⟩

theorem keyed : Keyed (@alookup α) aset :=
  ⟨⟨fun _ => rfl, fun _ _ _ _ => rfl⟩, fun _ _ => rfl, fun _ _ _ _ _ => rfl⟩

theorem alookup_aset (k k2 : String) (v : α) (l : AL α) :
    alookup k2 (aset k v l) = if k2 = k then some v else alookup k2 l :=
  keyed.get_set k k2 v l

theorem alookup_aset_self (k : String) (v : α) (l : AL α) : alookup k (aset k v l) = some v :=
  keyed.get_set_self k v l

theorem alookup_aset_ne (k k2 : String) (v : α) (h : k2 ≠ k) (l : AL α) :
    alookup k2 (aset k v l) = alookup k2 l :=
  keyed.get_set_ne h v l

theorem alookup_aerase (k k2 : String) (l : AL α) :
    alookup k2 (aerase k l) = if k2 = k then none else alookup k2 l := by
  split
  · rw [‹k2 = k›, keyed.get_erase_self (fun _ => rfl) (fun _ _ _ _ => rfl)]
  · rw [keyed.get_erase_ne (fun _ => rfl) (fun _ _ _ _ => rfl) ‹_›]

theorem alookup_aerase_ne (k k2 : String) (h : k2 ≠ k) (l : AL α) :
    alookup k2 (aerase k l) = alookup k2 l :=
  keyed.get_erase_ne (fun _ => rfl) (fun _ _ _ _ => rfl) h l

theorem alookup_filter_key (p : String → Bool) (k : String) (l : AL α) :
    alookup k (l.filter fun kv => p kv.1) = if p k then alookup k l else none :=
  keyed.get_filter_key p k l

theorem alookup_withoutKeys (ks : List String) (k : String) (l : AL α) :
    alookup k (withoutKeys l ks) = if ks.contains k then none else alookup k l := by
  unfold withoutKeys
  rw [alookup_filter_key (fun k => !ks.contains k) k l]
  cases ks.contains k <;> rfl

theorem untouched_of_step {β : Type} (F : AL α → AL β → AL α) (k : String)
    (hnil : ∀ d, F d [] = d)
    (hcons : ∀ d k' v r, k ≠ k' → ∃ d', F d ((k', v) :: r) = F d' r ∧ alookup k d' = alookup k d) :
    ∀ (s : AL β) (d : AL α), alookup k s = none → alookup k (F d s) = alookup k d := by
  intro s
  induction s with
  | nil => intro d _; rw [hnil]
  | cons x xs ih =>
    obtain ⟨k', v⟩ := x
    intro d h
    obtain ⟨hk, h⟩ := alookup_cons_none h
    obtain ⟨d', e, hd⟩ := hcons d k' v xs hk
    rw [e, ih d' h, hd]

theorem alookup_addAll_none (k : String) (d s : AL α) (h : alookup k s = none) :
    alookup k (addAll d s) = alookup k d :=
  untouched_of_step addAll k (fun _ => rfl) (fun d k' v _ hk => ⟨_, rfl, alookup_aset_ne k' k v hk d⟩) s d h

theorem alookup_eraseAll_not_mem (k : String) (l : AL α) (ks : List String) (h : k ∉ ks) :
    alookup k (eraseAll l ks) = alookup k l := by
  induction ks generalizing l with
  | nil => rfl
  | cons x xs ih =>
    simp only [List.mem_cons, not_or] at h
    simp only [eraseAll]
    rw [ih _ h.2, alookup_aerase_ne x k h.1]

theorem alookup_filter_none (p : String × α → Bool) (k : String) (l : AL α) (h : alookup k l = none) :
    alookup k (l.filter p) = none :=
  (keyed.get_eq_none k _).mpr fun hm =>
    (keyed.get_eq_none k l).mp h ((List.Sublist.map _ List.filter_sublist).subset hm)

theorem alookup_aerase_none (k k' : String) (l : AL α) (h : alookup k l = none) :
    alookup k (aerase k' l) = none := by
  rw [alookup_aerase]
  split
  · rfl
  · exact h

theorem alookup_eraseAll_none (k : String) (l : AL α) (ks : List String) (h : alookup k l = none) :
    alookup k (eraseAll l ks) = none := by
  induction ks generalizing l with
  | nil => exact h
  | cons x xs ih => exact ih _ (alookup_aerase_none k x l h)

theorem alookup_none_of_not_mem (k : String) (l : AL α) (h : k ∉ akeys l) : alookup k l = none :=
  (keyed.get_eq_none k l).mpr h

theorem alookup_addAll (k : String) (d s : AL α) (hs : NoDup s) :
    alookup k (addAll d s) = (alookup k s).or (alookup k d) :=
  keyed.get_merge (fun _ => rfl) (fun _ _ _ _ => rfl) k d hs

theorem NoDup_aset (k : String) (v : α) (l : AL α) (h : NoDup l) : NoDup (aset k v l) :=
  keyed.nodup_keys_set k v h

theorem NoDup_filter (p : String × α → Bool) (l : AL α) (h : NoDup l) : NoDup (l.filter p) := by
  unfold NoDup akeys at *
  exact (List.Sublist.map _ List.filter_sublist).nodup h

theorem NoDup_addAll (s d : AL α) (h : NoDup d) : NoDup (addAll d s) := by
  induction s generalizing d with
  | nil => exact h
  | cons kv rest ih => exact ih _ (NoDup_aset kv.1 kv.2 d h)

end AL

theorem alookup_addAll_same {α} (d s : AL α) (k : String) (h : alookup k s = alookup k d) (hnd : NoDup s) :
    alookup k (addAll d s) = alookup k d := by
  rw [alookup_addAll _ _ _ hnd, h]
  cases alookup k d <;> rfl

theorem alookup_withoutReserved (k : String) (l : AL String) :
    alookup k (withoutReserved l) = if reserved k then none else alookup k l := by
  unfold withoutReserved
  rw [alookup_filter_key (fun k => !reserved k) k l]
  cases reserved k <;> rfl

theorem mergeF_untouched (ov : Bool) (k : String) (s : AL J) :
    ∀ d : AL J, alookup k s = none → alookup k (mergeF ov d s) = alookup k d :=
  untouched_of_step (mergeF ov) k (fun _ => by rw [mergeF]) (fun d k' v r hk => by
    rw [mergeF]
    split
    · exact ⟨_, rfl, alookup_aset_ne k' k _ hk d⟩
    · exact ⟨_, rfl, rfl⟩) s

theorem mpF_untouched (k : String) (p : AL J) :
    ∀ d : AL J, alookup k p = none → alookup k (mpF d p) = alookup k d :=
  untouched_of_step mpF k (fun _ => by rw [mpF]) (fun d k' v r hk => by
    cases v with
    | null => exact ⟨_, by rw [mpF], alookup_aerase_ne k' k hk d⟩
    | _ => exact ⟨_, by rw [mpF]; exact nofun, alookup_aset_ne k' k _ hk d⟩) p

theorem ssaMergeF_untouched (k : String) (cfg : AL J) :
    ∀ d : AL J, alookup k cfg = none → alookup k (ssaMergeF d cfg) = alookup k d :=
  untouched_of_step ssaMergeF k (fun _ => by rw [ssaMergeF])
    (fun d k' v r hk => ⟨_, by rw [ssaMergeF], alookup_aset_ne k' k _ hk d⟩) cfg

theorem ssaRemoveV_other (d cfg : AL J) (k k' : String) (pv : J) (h : k ≠ k') :
    alookup k (ssaRemoveV d cfg k' pv) = alookup k d := by
  unfold ssaRemoveV
  split
  · split
    · simp only []
      split
      · exact alookup_aerase_ne k' k h d
      · exact alookup_aset_ne k' k _ h d
    · rfl
  · split
    · exact alookup_aerase_ne k' k h d
    · rfl

theorem ssaRemoveF_untouched (k : String) (cfg prev : AL J) :
    ∀ d : AL J, alookup k prev = none → alookup k (ssaRemoveF d cfg prev) = alookup k d :=
  untouched_of_step (ssaRemoveF · cfg) k (fun _ => by rw [ssaRemoveF])
    (fun d k' v r hk => ⟨_, by rw [ssaRemoveF], ssaRemoveV_other d cfg k k' v hk⟩) prev

theorem ssaRemoveS_untouched (k : String) (cfg : AL String) :
    ∀ (prev dst : AL String), alookup k prev = none → alookup k (ssaRemoveS dst cfg prev) = alookup k dst :=
  untouched_of_step (ssaRemoveS · cfg) k (fun _ => rfl) (fun d k' v r hk => by
    refine ⟨_, rfl, ?_⟩
    split
    · exact alookup_aerase_ne _ _ hk _
    · rfl)

theorem ssaRemoveS_nil (cfg prev : AL String) : ssaRemoveS [] cfg prev = [] := by
  induction prev with
  | nil => rfl
  | cons kv rest ih =>
    simp only [ssaRemoveS, aerase, ite_self]
    exact ih

theorem alookup_applied (x cfg prev : AL String) (k : String)
    (hc : alookup k cfg = none) (hq : alookup k prev = none) :
    alookup k (addAll (ssaRemoveS x cfg prev) cfg) = alookup k x := by
  rw [alookup_addAll_none k _ _ hc, ssaRemoveS_untouched k cfg prev x hq]

theorem ssaMergeF_set (k : String) (v : J) (cfg : AL J) :
    ∀ d : AL J, NoDup cfg → alookup k cfg = some v →
      alookup k (ssaMergeF d cfg) = some (ssaMergeV (alookup k d) v) := by
  induction cfg with
  | nil => intro d _ h; simp at h
  | cons x xs ih =>
    obtain ⟨k', v'⟩ := x
    intro d hnd h
    simp only [NoDup, akeys, List.map_cons, List.nodup_cons] at hnd
    simp only [alookup] at h
    rw [ssaMergeF]
    split at h
    · rename_i hk
      cases h; subst hk
      rw [ssaMergeF_untouched k' xs _ (alookup_none_of_not_mem k' xs hnd.1), alookup_aset_self]
    · rename_i hk
      rw [ih _ hnd.2 h, alookup_aset_ne k' k _ (Ne.symm hk)]

theorem ssaMergeV_atom (d : Option J) (v : J) (hv : ∀ l, v ≠ .obj l) : ssaMergeV d v = v := by
  cases v with
  | obj l => exact absurd rfl (hv l)
  | _ => rfl

/-! Annotations are an optional map, read through `anns` (`getD []`). Read that way every operation on
them is the operation on labels: the equations below say so, and the lemmas about association lists apply. -/

theorem getD_setAnn (cur : Option (AL String)) (k v : String) :
    (setAnn cur k v).getD [] = aset k v (cur.getD []) := by
  cases cur <;> rfl

theorem getD_unreserved (a : Option (AL String)) :
    (a.map withoutReserved).getD [] = withoutReserved (a.getD []) := by
  cases a <;> rfl

/-- the server-side syncer's `len(ann) > 0` test only turns an empty map into an absent one -/
theorem getD_nonEmptyUnreserved (a : Option (AL String)) :
    (nonEmptyUnreserved a).getD [] = withoutReserved (a.getD []) := by
  cases a with
  | none => rfl
  | some a =>
    simp only [nonEmptyUnreserved]
    split
    · rename_i he
      exact (List.isEmpty_iff.mp he).symm
    · rfl

theorem getD_addAnn (cur m : Option (AL String)) (k : String) (hnd : NoDup (m.getD [])) :
    alookup k ((addAnn cur m).getD []) = (alookup k (m.getD [])).or (alookup k (cur.getD [])) := by
  cases cur with
  | none =>
    simp only [addAnn, Option.getD_none]
    cases alookup k (m.getD []) <;> simp
  | some a =>
    simp only [addAnn, Option.getD_some]
    exact alookup_addAll k a _ hnd

theorem NoDup_addAnn (cur m : Option (AL String)) (hc : NoDup (cur.getD [])) (hm : NoDup (m.getD [])) :
    NoDup ((addAnn cur m).getD []) := by
  cases cur with
  | none => exact hm
  | some a => exact NoDup_addAll _ _ hc

end Xp.C07
