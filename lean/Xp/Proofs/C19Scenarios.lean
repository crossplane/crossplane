import Xp.Model.C19Skel
import Xp.Gen.C19Skel
/-
C19 — the scenarios that several examples and obligations of Props/C19 observe, each run ONCE. The
kernel shares the evaluation of a run between the conjuncts of one statement, not between
declarations: what is observed of one run is proved here as one conjunction, and the statements of
Props/C19 are its parts. (Not those stated with a `match`: each statement gets a matcher of its own,
and the kernel identifies two of them only by unfolding both, which is slower than the run.)
-/
namespace Xp.C19

theorem skel_runs :
    Xp.Gen.c19SkelReconcile = skelReconcile ∧
    (pcTrace "u0" 20 skelDelSys).length = 6 ∧ (pcTrace "u0" 20 skelAddSys).length = 8 := by decide +kernel

theorem skel_sel_runs :
    Xp.Gen.c19SkelResolveSelectors = skelResolveSelectors ∧
    ((pcTrace "u0" 20 skelSelSys).filter Pc.inResolver).length = 4 := by decide +kernel

/-- a concrete replacement: Usage u0 of r0 by r1 becomes ready (owned by r1, uid 2); r1 is deleted
and re-created under the same name (uid 4) -/
def replaceSchedule : List Action := [
  .cr "ex.org" "Thing" "r0" [] false "",
  .cr "ex.org" "Other" "r1" [] false "",
  .cu "u0" ⟨"ex.org/v1", "Thing", "r0", none⟩ (some ⟨"ex.org/v1", "Other", "r1", none⟩) none false "",
  .start "u0", .step "u0" .ok none, .step "u0" .ok none, .step "u0" .ok none, .step "u0" .ok none,
  .step "u0" .ok none, .step "u0" .ok none, .step "u0" .ok none, .step "u0" .ok none,
  .dr "ex.org" "Other" "r1" "" true true none,
  .cr "ex.org" "Other" "r1" [] false ""]

/-- the next poll of u0 up to (not including) its last API call -/
def pollSchedule : List Action := [
  .start "u0", .step "u0" .ok none, .step "u0" .ok none, .step "u0" .ok none, .step "u0" .ok none,
  .step "u0" .ok none]

theorem replace_scenario :
    ((Sys.init 1).run replaceSchedule).thread? "u0" = none ∧
    Along (Held "u0" 3 ⟨"ex.org/v1", "Other", "r1", none⟩ 4) ((Sys.init 1).run replaceSchedule)
      (pollSchedule ++ [.step "u0" .ok none]) ∧
    (((Sys.init 1).run replaceSchedule).store.gcUsage "u0").2 = .deletedUsage ∧
    (((((Sys.init 1).run replaceSchedule).run pollSchedule).exec (.step "u0" .ok none)).1.store.gcUsage "u0").2 =
      .owned := by decide +kernel

/-- a reachable state with a ready, labelled, protected Usage by selector with a using resource -/
def demoSchedule : List Action := [
  .cr "ex.org" "Thing" "r0" [("app", "db")] false "",
  .cr "ex.org" "Other" "r1" [] false "",
  .cu "u0" ⟨"ex.org/v1beta1", "Thing", "", some ⟨[("app", "db")], false⟩⟩ (some ⟨"ex.org/v1", "Other", "r1", none⟩) none false "",
  .start "u0", .step "u0" .ok none, .step "u0" .ok none, .step "u0" .conflict none,
  .start "u0", .step "u0" .ok none, .step "u0" .ok none, .step "u0" .ok none, .step "u0" .ok none,
  .step "u0" .ok none, .step "u0" .ok none, .step "u0" .ok none, .step "u0" .ok none,
  .step "u0" .ok none, .step "u0" .ok none]

theorem demo_scenario :
    ((Sys.init 1).run demoSchedule).store.usages.any (fun u => u.ready && !u.deleting && u.owners != []) = true ∧
    (((Sys.init 1).run demoSchedule).store.deleteRes "ex.org" "Thing" "r0" "Foreground" true true none).2 =
      .done true .denied ∧
    (((Sys.init 1).run demoSchedule).store.deleteRes "ex.org" "Thing" "r0" "" false true none).2 =
      .done true .errored := by decide +kernel

end Xp.C19
