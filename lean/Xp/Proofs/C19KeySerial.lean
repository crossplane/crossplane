import Xp.Proofs.C19Serial
import Xp.Proofs.C19Sys
/-
C19 — the marker invariant for ANY number of workers under per-resource serialisation
(`keySerial`): the system invariant `KSInv`, inductive over `SysStep`, and its run; one worker as the
special case in which there is no other reconcile (`before_of_one`); and `SysStep.newly_ready`: the
label is on the used resource before the action that makes a Usage ready.
-/
namespace Xp.C19

structure KSInv (sys : Sys) : Prop where
  base : SysInv sys
  marker : Marker sys.store
  facts : ∀ t ∈ sys.threads, serialFacts sys.store t.uname t.u t.pc

theorem KSInv.init (maxc : Nat) : KSInv (Sys.init maxc) :=
  ⟨SysInv.init maxc, Marker.empty, by simp [Sys.init]⟩

theorem KSInv.step {sys sys' : Sys} {a : Action} (h : KSInv sys) (hk : keySerial sys) (st : SysStep sys a sys') :
    KSInv sys' := by
  have hbase := h.base.step st
  cases st with
  | env _ s' e =>
    exact ⟨hbase, h.marker.change e.harmless,
      fun t ht => serialFacts_change (h.base.threads t ht) (h.facts t ht) e.harmless⟩
  | idle => exact h
  | start n _ _ =>
    refine ⟨hbase, h.marker, fun t ht => ?_⟩
    rcases List.mem_append.mp ht with ht | ht
    · exact h.facts t ht
    · cases List.mem_singleton.mp ht; trivial
  | call n o t s' resp a hsome hc ha =>
    obtain ⟨htm, rfl⟩ := thread?_some hsome
    refine ⟨hbase, h.marker.call h.base.store (h.base.threads t htm) (h.facts t htm) hc, fun x hx => ?_⟩
    rcases mem_settle hx with ⟨hx, hne⟩ | rfl
    · -- another reconcile: it holds a Usage of another resource
      exact serialFacts_other (h.base.threads t htm) (h.base.threads x hx) (h.facts x hx)
        (hk t htm x hx (fun e => hne e.symm)) hc
    · rcases ha with ha | ha
      · have k := next_serial h.base.store (h.base.threads t htm) (h.facts t htm) hc
        rw [← ha] at k; exact k
      · cases ha

theorem KSInv.exec {sys : Sys} (h : KSInv sys) (a : Action) (hf : a.fresh = true) (hk : keySerial sys) :
    KSInv (sys.exec a).1 :=
  h.step hk (exec_sysStep h.base a hf)

theorem KSInv.run {sys : Sys} (h : KSInv sys) (as : List Action) (hf : listFresh as) (hk : Before keySerial sys as) :
    KSInv (sys.run as) := by
  induction as generalizing sys with
  | nil => exact h
  | cons a as ih =>
    exact ih (h.exec a (hf a List.mem_cons_self) hk.1) (fun b hb => hf b (List.mem_cons_of_mem _ hb)) hk.2

structure SerialInv (sys : Sys) : Prop where
  base : SysInv sys
  one : sys.maxc = 1
  marker : Marker sys.store
  facts : ∀ t ∈ sys.threads, serialFacts sys.store t.uname t.u t.pc

theorem SerialInv.ks {sys : Sys} (h : SerialInv sys) : KSInv sys := ⟨h.base, h.marker, h.facts⟩

/-- with one worker no two reconciles are in flight, let alone two of the same resource: this
needs the capacity bound of `SysInv` only -/
theorem keySerial_of_one {sys : Sys} (h : SysInv sys) (h1 : sys.maxc = 1) : keySerial sys := by
  intro t1 ht1 t2 ht2 hne
  have hc := h.cap
  rw [h1] at hc
  match hl : sys.threads, hc, ht1, ht2 with
  | [a], _, ht1, ht2 =>
    simp only [List.mem_singleton] at ht1 ht2
    exact absurd (by rw [ht1, ht2]) hne
  | [], _, ht1, _ => cases ht1
  | _ :: _ :: _, hc, _, _ => simp at hc

theorem before_of_one {sys : Sys} (h : SysInv sys) (h1 : sys.maxc = 1) (as : List Action) (hf : listFresh as) :
    Before keySerial sys as := by
  induction as generalizing sys with
  | nil => trivial
  | cons a as ih =>
    have st := exec_sysStep h a (hf a List.mem_cons_self)
    exact ⟨keySerial_of_one h h1, ih (h.step st) (st.maxc.trans h1) (fun b hb => hf b (List.mem_cons_of_mem _ hb))⟩

theorem SysStep.newly_ready {pre post : Sys} {a : Action} (st : SysStep pre a post)
    (hfacts : ∀ t ∈ pre.threads, serialFacts pre.store t.uname t.u t.pc) :
    ∀ u' ∈ post.store.usages, u'.ready = true → (∀ u ∈ pre.store.usages, u.name = u'.name → u.ready = false) →
      Labelled pre.store u' := by
  intro u' hu' hr hnone
  have from_ : ∀ {s' : Store}, UsagesFrom pre.store s' → u' ∈ s'.usages → False := fun k hu' => by
    rcases k u' hu' with ⟨y, hy, hn, _, hrd, _⟩ | h
    · have := hnone y hy hn; rw [hrd, hr] at this; cases this
    · rw [hr] at h; cases h
  cases st with
  | env _ s' e => exact (from_ e.usagesFrom hu').elim
  | idle => exact (from_ (.sub fun _ h => h) hu').elim
  | start n _ _ => exact (from_ (.sub fun _ h => h) hu').elim
  | call n o t s' resp a hsome hc _ =>
    rcases hc.newly_ready (hfacts t (thread?_some hsome).1) u' hu' hr with ⟨y, hy, hn, hyr⟩ | hl
    · have := hnone y hy hn; rw [hyr] at this; cases this
    · exact hl

end Xp.C19
