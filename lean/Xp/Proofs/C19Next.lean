import Xp.Model.C19
/-
C19 — the reconciler's side of a call, from the model alone: what it asks the server
(`request_cases`), `Thread.next` as a relation (`Next`, `next_spec`), failed calls, where the decision
trees before the label lead (`Lands`), the selector resolver, the owner reference it adds.
-/
namespace Xp.C19

theorem request_cases (t : Thread) :
    t.request.isWrite = false ∨
    (∃ u', t.request = .updU u' ∧ t.pc ≠ .getUsage ∧ u'.name = t.u.name ∧ u'.rv = t.u.rv) ∨
    (∃ used, (t.pc = .label used ∧ t.request = .updR { used with inUse := true }) ∨
      (t.pc = .dUnlabel used ∧ t.request = .updR { used with inUse := false })) ∨
    (t.pc = .status ∧ t.request = .updStatus { t.u with ready := true }) := by
  obtain ⟨nm, pc, u, orv, ord, seen⟩ := t
  cases pc with
  | ofUpdate _ | byUpdate _ | dRemoveFin | addFin | addDetails | addOwner _ =>
    exact .inr (.inl ⟨_, rfl, Pc.noConfusion, rfl, rfl⟩)
  | label used => exact .inr (.inr (.inl ⟨used, .inl ⟨rfl, rfl⟩⟩))
  | dUnlabel used => exact .inr (.inr (.inl ⟨used, .inr ⟨rfl, rfl⟩⟩))
  | status => exact .inr (.inr (.inr ⟨rfl, rfl⟩))
  | byList => simp only [Thread.request]; cases u.by_ <;> exact .inl rfl
  | dGetUsing => simp only [Thread.request]; cases u.by_ <;> exact .inl rfl
  | getUsing => simp only [Thread.request]; cases u.by_ <;> exact .inl rfl
  | _ => exact .inl rfl

/-- the program counters at which a reconcile knows no more than `pcFacts`: nothing yet about labels
(`serialFacts`) or owner uids (`lateFact`) -/
def Pc.early : Pc → Bool
  | .dUnlabel _ | .getUsing | .addOwner _ | .status => false
  | _ => true

/-- where the decision trees from the Get of the Usage up to the finalizer, and the one after the label
removal, lead: to an early program counter with the same copy of the Usage, or out - never with "poll" -/
inductive Lands (t : Thread) : After → Prop where
  | goto (pc : Pc) : pc.early = true → Lands t (t.goto pc)
  | out (r : Result) : r ≠ .poll → Lands t (.done r)

theorem Lands.ne_poll {t : Thread} {a : After} (h : Lands t a) : a ≠ .done .poll := by
  cases h with
  | goto pc _ => exact After.noConfusion
  | out r hr => exact fun e => hr (After.done.inj e)

theorem Lands.early {t t' : Thread} (h : Lands t (.cont t')) : t'.pc.early = true := by
  generalize ha : After.cont t' = a at h
  cases h with
  | goto pc hp => cases ha; exact hp
  | out r _ => cases ha

theorem afterUnlabel_lands (t : Thread) : Lands t t.afterUnlabel := by
  fun_cases Thread.afterUnlabel t with
  | case1 => exact .goto _ rfl
  | case2 => exact .out _ Result.noConfusion

theorem afterFin_lands (t : Thread) : Lands t t.afterFin := by
  fun_cases Thread.afterFin t <;> exact .goto _ rfl

theorem afterResolve_lands (t : Thread) : Lands t t.afterResolve := by
  fun_cases Thread.afterResolve t with
  | case3 => exact afterFin_lands t
  | _ => exact .goto _ rfl

theorem afterOf_lands (t : Thread) : Lands t t.afterOf := by
  fun_cases Thread.afterOf t with
  | case1 | case4 => exact afterResolve_lands t
  | case2 => exact .out _ Result.noConfusion
  | case3 => exact .goto _ rfl

theorem afterGet_lands (t : Thread) : Lands t t.afterGet := by
  fun_cases Thread.afterGet t with
  | case1 | case2 => exact .out _ Result.noConfusion
  | case3 => exact .goto _ rfl
  | case4 => exact afterOf_lands t

theorem pickFirst_mem_aux (l : List Res) (acc : Option Res) (r : Res)
    (h : l.foldl (fun acc r => match acc with
      | none => some r
      | some a => if r.name < a.name then some r else some a) acc = some r) :
    r ∈ l ∨ acc = some r := by
  induction l generalizing acc with
  | nil => right; simpa using h
  | cons x xs ih =>
    simp only [List.foldl_cons] at h
    rcases ih _ h with h' | h'
    · left; exact List.mem_cons_of_mem _ h'
    · cases acc with
      | none => simp at h'; left; rw [h']; exact List.mem_cons_self
      | some a =>
        simp only at h'
        split at h'
        · simp at h'; left; rw [h']; exact List.mem_cons_self
        · right; exact h'

theorem resolvePick_mem {sel : Option Sel} {os : List OwnerRef} {l : List Res} {n : String}
    (h : resolvePick sel os l = some n) : ∃ r ∈ l, r.name = n := by
  unfold resolvePick at h
  simp only [Option.map_eq_some_iff] at h
  obtain ⟨r, hr, hn⟩ := h
  rcases pickFirst_mem_aux _ none r hr with h' | h'
  · exact ⟨r, (List.mem_filter.mp h').1, hn⟩
  · cases h'

/-- `Thread.next` as a relation: the ways a reconcile goes on to a further call, the one reply that
lets it report "poll", and every other reply, which ends it with another result. -/
inductive Next (t : Thread) (sn : List Usage) : Pc → Resp → After → Prop where
  | got (u : Usage) :
      Next t sn .getUsage (.usage u) ({ t with u := u, origRv := u.rv, origReady := u.ready } : Thread).afterGet
  | ofPicked (l : List Res) (n : String) : resolvePick t.u.of.sel t.u.owners l = some n →
      Next t sn .ofList (.rlist l) (t.goto (.ofUpdate n))
  | ofSet (p : String) (u : Usage) : Next t sn (.ofUpdate p) (.usage u) ({ t with u := u } : Thread).afterOf
  | byPicked (l : List Res) (n : String) : resolvePick (t.u.by_.bind (·.sel)) t.u.owners l = some n →
      Next t sn .byList (.rlist l) (t.goto (.byUpdate n))
  | bySet (p : String) (u : Usage) : Next t sn (.byUpdate p) (.usage u) ({ t with u := u } : Thread).afterResolve
  | userGone : Next t sn .dGetUsing (.err .notFound) (t.goto .dGetUsed)
  | usedFound (r : Res) : Next t sn .dGetUsed (.res r) (t.goto (.dList r))
  | usedGone : Next t sn .dGetUsed (.err .notFound) t.afterUnlabel
  | last (used : Res) (c : Nat) : c < 2 →
      Next t sn (.dList used) (.count c) (({ t with seen := sn } : Thread).goto (.dUnlabel used))
  | notLast (used : Res) (c : Nat) : ¬ c < 2 → Next t sn (.dList used) (.count c) t.afterUnlabel
  | unlabelled (used r : Res) : Next t sn (.dUnlabel used) (.res r) t.afterUnlabel
  | finSet (u : Usage) : Next t sn .addFin (.usage u) ({ t with u := u } : Thread).afterFin
  | detailsSet (u : Usage) : Next t sn .addDetails (.usage u) (({ t with u := u } : Thread).goto .getUsed)
  | toLabel (r : Res) : (r.inUse = false ∨ !(r.owners.any fun o => o.uid == t.u.uid)) →
      Next t sn .getUsed (.res r) (t.goto (.label r))
  | isLabelled (r : Res) : ¬ (r.inUse = false ∨ !(r.owners.any fun o => o.uid == t.u.uid)) →
      Next t sn .getUsed (.res r) t.afterLabel
  | labelled (used r : Res) : Next t sn (.label used) (.res r) t.afterLabel
  | isOwned (g : Res) (o : OwnerRef) (os : List OwnerRef) : t.u.owners = o :: os → o.uid = g.uid →
      Next t sn .getUsing (.res g) t.afterOwner
  | toOwn (g : Res) : Next t sn .getUsing (.res g) (t.goto (.addOwner ⟨g.uid, false, g.kind, g.name⟩))
  | ownerSet (ref : OwnerRef) (u : Usage) :
      Next t sn (.addOwner ref) (.usage u) ({ t with u := u } : Thread).afterOwner
  | reported (u : Usage) : Next t sn .status (.usage u) (.done .poll)
  | ended (pc : Pc) (resp : Resp) (r : Result) : r ≠ .poll → Next t sn pc resp (.done r)

theorem next_spec (t : Thread) (sn : List Usage) (resp : Resp) : Next t sn t.pc resp (t.next sn resp) := by
  obtain ⟨nm, pc, u, orv, ord, seen⟩ := t
  cases resp with
  | usage n =>
    cases pc with
    | getUsage => exact .got n
    | ofUpdate p => exact .ofSet p n
    | byUpdate p => exact .bySet p n
    | addFin => exact .finSet n
    | addDetails => exact .detailsSet n
    | addOwner ref => exact .ownerSet ref n
    | status => exact .reported n
    | _ => exact .ended _ _ _ Result.noConfusion
  | err e =>
    cases e with
    | notFound =>
      cases pc with
      | dGetUsing => exact .userGone
      | dGetUsed => exact .usedGone
      | _ => exact .ended _ _ _ Result.noConfusion
    | _ => cases pc <;> exact .ended _ _ _ Result.noConfusion
  | rlist l =>
    cases pc with
    | ofList =>
      change Next _ _ _ _ (match resolvePick u.of.sel u.owners l with | some n => _ | none => _)
      split
      · next n hn => exact .ofPicked l n hn
      · exact .ended _ _ _ Result.noConfusion
    | byList =>
      change Next _ _ _ _ (match resolvePick (u.by_.bind (·.sel)) u.owners l with | some n => _ | none => _)
      split
      · next n hn => exact .byPicked l n hn
      · exact .ended _ _ _ Result.noConfusion
    | _ => exact .ended _ _ _ Result.noConfusion
  | count c =>
    cases pc with
    | dList used =>
      change Next _ _ _ _ (if c < 2 then _ else _)
      split
      · next h => exact .last used c h
      · next h => exact .notLast used c h
    | _ => exact .ended _ _ _ Result.noConfusion
  | res r =>
    cases pc with
    | dGetUsed => exact .usedFound r
    | dUnlabel used => exact .unlabelled used r
    | label used => exact .labelled used r
    | getUsed =>
      change Next _ _ _ _ (if _ then _ else _)
      split
      · next h => exact .toLabel r h
      · next h => exact .isLabelled r h
    | getUsing =>
      change Next _ _ _ _ (match u.owners with | o :: _ => if o.uid = r.uid then _ else _ | [] => _)
      split
      · next o os hos =>
        split
        · next ho => exact .isOwned r o os hos ho
        · exact .toOwn r
      · exact .toOwn r
    | _ => exact .ended _ _ _ Result.noConfusion

/-- NotFound for the using or the used resource of a Usage being deleted means "already gone" and
lets the deletion go on; every other failed call ends the reconcile -/
theorem next_err_cases (t : Thread) (seen : List Usage) (e : Err) :
    (∃ r, t.next seen (.err e) = .done r ∧ r ≠ .poll) ∨
    (e = .notFound ∧ ((t.pc = .dGetUsing ∧ t.next seen (.err e) = t.goto .dGetUsed) ∨
      (t.pc = .dGetUsed ∧ t.next seen (.err e) = t.afterUnlabel))) := by
  have h := next_spec t seen (.err e)
  generalize t.next seen (.err e) = a at h ⊢
  generalize t.pc = pc at h ⊢
  cases h with
  | userGone => exact .inr ⟨rfl, .inl ⟨rfl, rfl⟩⟩
  | usedGone => exact .inr ⟨rfl, .inr ⟨rfl, rfl⟩⟩
  | ended _ _ r hr => exact .inl ⟨r, rfl, hr⟩

theorem next_fault (t : Thread) (seen : List Usage) (o : Outcome) :
    ∃ r, t.next seen (faultResp o t.request) = .done r ∧ r ≠ .poll := by
  have hr : faultResp o t.request = .err .other ∨ faultResp o t.request = .err .conflict := by
    cases o with
    | conflict =>
      cases hw : t.request.isWrite
      · exact .inl (by simp [faultResp, hw])
      · exact .inr (by simp [faultResp, hw])
    | _ => exact .inl rfl
  rcases hr with hr | hr <;> rw [hr]
  · exact (next_err_cases t seen .other).resolve_right (fun h => nomatch h.1)
  · exact (next_err_cases t seen .conflict).resolve_right (fun h => nomatch h.1)

/-- `y'` keeps the owner references of `y` up to what `meta.AddOwnerReference` may change: it replaces
the reference of the same uid -/
def OwnSub (y y' : Usage) : Prop := ∀ o ∈ y.owners, ∃ o' ∈ y'.owners, o'.uid = o.uid

theorem OwnSub.refl (y : Usage) : OwnSub y y := fun o ho => ⟨o, ho, rfl⟩

theorem addOwnerRef_uids (os : List OwnerRef) (r : OwnerRef) : ∀ o ∈ os, ∃ o' ∈ addOwnerRef os r, o'.uid = o.uid := by
  fun_induction addOwnerRef os r with
  | case1 => exact fun o ho => nomatch ho
  | case2 x xs r hx =>  -- the first reference has the uid: replaced
    intro o ho
    rcases List.mem_cons.mp ho with rfl | ho
    · exact ⟨r, List.mem_cons_self, hx.symm⟩
    · exact ⟨o, List.mem_cons_of_mem _ ho, rfl⟩
  | case3 x xs r _ ih =>
    intro o ho
    rcases List.mem_cons.mp ho with rfl | ho
    · exact ⟨o, List.mem_cons_self, rfl⟩
    · obtain ⟨o', ho', e⟩ := ih o ho
      exact ⟨o', List.mem_cons_of_mem _ ho', e⟩

theorem mem_addOwnerRef (os : List OwnerRef) (r : OwnerRef) : r ∈ addOwnerRef os r := by
  fun_induction addOwnerRef os r with
  | case1 => exact List.mem_cons_self
  | case2 => exact List.mem_cons_self
  | case3 _ _ _ _ ih => exact List.mem_cons_of_mem _ ih

end Xp.C19
