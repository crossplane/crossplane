import Xp.Proofs.C12L
import Xp.Base.List
/-
The store of C12: the recorded assumption `Naming.Inj`, `Faithful`, `WF` (`WF0` plus distinct numbers), `Same`/`Le`,
what each request does to it (`exec_updateRev_cases`, `exec_createRev_*`, `exec_read`, `exec_frame`, `run_comps`); `er` (a
revision up to owner and resourceVersion) and `RelyT` (what third parties may do); `latestGo_spec`; the
environment actions of the histories, which are within `RelyT` (`envStep_relyT`).
-/
namespace Xp.C12

variable {H : Naming} {D : Content → Prop}

/-- recorded assumption: the content hash is collision-free on the set `D` of
contents that occur, also on the 63-character prefix used for the hash label and
the 7-character prefix used for the revision name `<composition>-<prefix>` -/
structure Naming.Inj (H : Naming) (D : Content → Prop) : Prop where
  hash : ∀ c c', D c → D c' → H.hash c = H.hash c' → c = c'
  name : ∀ n c n' c', D c → D c' → H.name n c = H.name n' c' → n = n' ∧ c = c'

/-- the revision is the image of some content of `D` -/
def Faithful (H : Naming) (D : Content → Prop) (r : Rev) : Prop :=
  ∃ c : Content, D c ∧ r.name = H.name r.comp c ∧ r.hash = H.hash c ∧ r.spec = toRevisionSpec c.spec ∧ r.labels = c.labels

/-- what holds of the store under any interference and any cache lag: `WF` without the
distinctness of revision numbers -/
structure WF0 (H : Naming) (D : Content → Prop) (s : Store) : Prop where
  comps : ∀ c ∈ s.comps, D c.content
  names : s.revs.Pairwise (fun a b => a.name ≠ b.name)
  faithful : ∀ r ∈ s.revs, Faithful H D r
  pos : ∀ r ∈ s.revs, 1 ≤ r.num

structure WF (H : Naming) (D : Content → Prop) (s : Store) : Prop where
  comps : ∀ c ∈ s.comps, D c.content
  names : s.revs.Pairwise (fun a b => a.name ≠ b.name)
  faithful : ∀ r ∈ s.revs, Faithful H D r
  pos : ∀ r ∈ s.revs, 1 ≤ r.num
  nums : ∀ r ∈ s.revs, ∀ r' ∈ s.revs, r.comp = r'.comp → r.num = r'.num → r.name = r'.name

theorem WF.toWF0 {s : Store} (w : WF H D s) : WF0 H D s := ⟨w.comps, w.names, w.faithful, w.pos⟩

/-- `r'` is `r` at a later time: everything but the revision number, the owner reference and the
resourceVersion is identical, and the number did not decrease -/
def Same (r r' : Rev) : Prop :=
  r'.name = r.name ∧ r'.comp = r.comp ∧ r'.hash = r.hash ∧ r'.spec = r.spec ∧ r'.labels = r.labels ∧ r.num ≤ r'.num

/-- no revision is deleted or edited, numbers only grow -/
def Le (s s' : Store) : Prop := ∀ r ∈ s.revs, ∃ r' ∈ s'.revs, Same r r'

theorem Same.refl (r : Rev) : Same r r := ⟨rfl, rfl, rfl, rfl, rfl, Nat.le_refl _⟩

theorem Same.trans {a b c : Rev} (h1 : Same a b) (h2 : Same b c) : Same a c := by
  obtain ⟨a1, a2, a3, a4, a5, a6⟩ := h1
  obtain ⟨b1, b2, b3, b4, b5, b6⟩ := h2
  exact ⟨b1.trans a1, b2.trans a2, b3.trans a3, b4.trans a4, b5.trans a5, Nat.le_trans a6 b6⟩

theorem Le.refl (s : Store) : Le s s := fun r hr => ⟨r, hr, Same.refl r⟩

theorem Le.trans (a b c : Store) (h1 : Le a b) (h2 : Le b c) : Le a c := by
  intro r hr
  obtain ⟨r1, hr1, s1⟩ := h1 r hr
  obtain ⟨r2, hr2, s2⟩ := h2 r1 hr1
  exact ⟨r2, hr2, s1.trans s2⟩

theorem WF.empty (H : Naming) (D : Content → Prop) : WF H D Store.empty :=
  ⟨fun _ h => (nomatch h), .nil, fun _ h => (nomatch h), fun _ h => (nomatch h), fun _ h => (nomatch h)⟩

theorem eq_of_name_eq {l : List Rev} (hp : l.Pairwise (fun a b => a.name ≠ b.name)) {a b : Rev}
    (ha : a ∈ l) (hb : b ∈ l) (h : a.name = b.name) : a = b :=
  eq_of_map_nodup (List.pairwise_map.mpr hp) ha hb h

/-- one revision per Composition and content: the hash label determines the content, the content the name -/
theorem WF0.eq_of_hash (hi : H.Inj D) {s : Store} (w : WF0 H D s) {a b : Rev}
    (ha : a ∈ s.revs) (hb : b ∈ s.revs) (hc : a.comp = b.comp) (hh : a.hash = b.hash) : a = b := by
  obtain ⟨c, d1, n1, h1, _, _⟩ := w.faithful a ha
  obtain ⟨c', d2, n2, h2, _, _⟩ := w.faithful b hb
  have : c = c' := hi.hash _ _ d1 d2 (h1 ▸ h2 ▸ hh)
  exact eq_of_name_eq w.names ha hb (by rw [n1, n2, hc, this])

/-- the revisions after an applied `Update` that sends `r1` (`exec`, `.updateRev`) -/
def replaceRev (r1 : Rev) (l : List Rev) : List Rev := l.map fun x => if x.name = r1.name then r1 else x

theorem replaceRev_names (r1 : Rev) (l : List Rev) : (replaceRev r1 l).map (·.name) = l.map (·.name) := by
  induction l with
  | nil => rfl
  | cons x xs ih =>
    simp only [replaceRev, List.map_cons] at ih ⊢
    rw [ih]
    by_cases h : x.name = r1.name <;> simp [h]

theorem pairwise_names_of_map {l l' : List Rev} (h : l'.map (·.name) = l.map (·.name))
    (hp : l.Pairwise (fun a b => a.name ≠ b.name)) : l'.Pairwise (fun a b => a.name ≠ b.name) := by
  have h1 : (l.map (·.name)).Pairwise (· ≠ ·) := List.pairwise_map.mpr hp
  rw [← h] at h1
  exact List.pairwise_map.mp h1

theorem mem_replaceRev {r1 x : Rev} {l : List Rev} (h : x ∈ replaceRev r1 l) : x = r1 ∨ x ∈ l :=
  (mem_replace.mp h).elim (fun h => .inr h.1) fun h => .inl h.1

theorem mem_replaceRev_of_ne {r1 x : Rev} {l : List Rev} (hx : x ∈ l) (hn : x.name ≠ r1.name) : x ∈ replaceRev r1 l :=
  mem_replace.mpr (.inl ⟨hx, hn⟩)

theorem mem_replaceRev_self {r0 r1 : Rev} {l : List Rev} (h0 : r0 ∈ l) (hn : r0.name = r1.name) : r1 ∈ replaceRev r1 l :=
  mem_replace.mpr (.inr ⟨rfl, r0, h0, hn⟩)

theorem find_of_mem {l : List Rev} (hp : l.Pairwise (fun a b => a.name ≠ b.name)) {r0 : Rev} (h0 : r0 ∈ l) :
    l.find? (fun x => decide (x.name = r0.name)) = some r0 :=
  find?_of_nodup_map (List.pairwise_map.mpr hp) h0 fun _ => decide_eq_true_iff

theorem find_name {α : Type} {l : List α} {f : α → String} {n : String} {x : α}
    (h : l.find? (fun y => decide (f y = n)) = some x) : f x = n := by
  have := List.find?_some h; simpa using this

theorem update_ok0 {s : Store} (w : WF0 H D s) {r0 r1 : Rev} (h0 : r0 ∈ s.revs)
    (hs : Same r0 r1) :
    WF0 H D { s with revs := replaceRev r1 s.revs } ∧ Le s { s with revs := replaceRev r1 s.revs } := by
  obtain ⟨e1, e2, e3, e4, e5, e6⟩ := hs
  have hf1 : Faithful H D r1 := by
    obtain ⟨c, dc, a, b, d, e⟩ := w.faithful r0 h0
    exact ⟨c, dc, e1.symm ▸ e2.symm ▸ a, e3.symm ▸ b, e4.symm ▸ d, e5.symm ▸ e⟩
  refine ⟨⟨w.comps, pairwise_names_of_map (replaceRev_names r1 s.revs) w.names, ?_, ?_⟩, ?_⟩
  · intro x hx
    rcases mem_replaceRev hx with e | hx'
    · exact e ▸ hf1
    · exact w.faithful x hx'
  · intro x hx
    rcases mem_replaceRev hx with e | hx'
    · rw [e]; exact Nat.le_trans (w.pos r0 h0) e6
    · exact w.pos x hx'
  · intro x hx
    by_cases hn : x.name = r1.name
    · have : x = r0 := eq_of_name_eq w.names hx h0 (hn.trans e1)
      exact ⟨r1, mem_replaceRev_self h0 e1.symm, this ▸ ⟨e1, e2, e3, e4, e5, e6⟩⟩
    · exact ⟨x, mem_replaceRev_of_ne hx hn, Same.refl x⟩

theorem nums_of_mem {l l' : List Rev} {r : Rev} (hm : ∀ x ∈ l', x = r ∨ x ∈ l)
    (hl : ∀ a ∈ l, ∀ b ∈ l, a.comp = b.comp → a.num = b.num → a.name = b.name)
    (hfresh : ∀ x ∈ l, x.comp = r.comp → x.num = r.num → x.name = r.name) :
    ∀ a ∈ l', ∀ b ∈ l', a.comp = b.comp → a.num = b.num → a.name = b.name := by
  intro a ha b hb hc hn
  rcases hm a ha with ea | ha' <;> rcases hm b hb with eb | hb'
  · rw [ea, eb]
  · rw [ea] at hc hn ⊢; exact (hfresh b hb' hc.symm hn.symm).symm
  · rw [eb] at hc hn ⊢; exact hfresh a ha' hc hn
  · exact hl a ha' b hb' hc hn

theorem update_ok {s : Store} (w : WF H D s) {r0 r1 : Rev} (h0 : r0 ∈ s.revs) (hs : Same r0 r1)
    (hfresh : ∀ x ∈ s.revs, x.comp = r1.comp → x.num = r1.num → x.name = r1.name) :
    WF H D { s with revs := replaceRev r1 s.revs } ∧ Le s { s with revs := replaceRev r1 s.revs } := by
  obtain ⟨w0, le⟩ := update_ok0 w.toWF0 h0 hs
  exact ⟨⟨w0.comps, w0.names, w0.faithful, w0.pos,
    nums_of_mem (fun _ hx => mem_replaceRev hx) w.nums hfresh⟩, le⟩

theorem insertRev_perm (r : Rev) (l : List Rev) : (insertRev r l).Perm (r :: l) :=
  perm_insert insertRev (fun _ => rfl) (fun x y ys => by rw [insertRev]; split <;> simp) r l

theorem mem_insertRev {r x : Rev} {l : List Rev} : x ∈ insertRev r l ↔ x = r ∨ x ∈ l :=
  (insertRev_perm r l).mem_iff.trans List.mem_cons

theorem pairwise_insertRev {r : Rev} {l : List Rev} (hp : l.Pairwise (fun a b => a.name ≠ b.name))
    (hr : ∀ x ∈ l, x.name ≠ r.name) : (insertRev r l).Pairwise (fun a b => a.name ≠ b.name) :=
  ((insertRev_perm r l).pairwise_iff fun h => Ne.symm h).mpr
    (List.pairwise_cons.mpr ⟨fun x hx => (hr x hx).symm, hp⟩)

theorem create_ok0 {s : Store} (w : WF0 H D s) {r : Rev} (hf : Faithful H D r)
    (hpos : 1 ≤ r.num) (hname : ∀ x ∈ s.revs, x.name ≠ r.name) :
    WF0 H D { s with revs := insertRev r s.revs } ∧ Le s { s with revs := insertRev r s.revs } := by
  refine ⟨⟨w.comps, pairwise_insertRev w.names hname, ?_, ?_⟩, ?_⟩
  · intro x hx
    rcases mem_insertRev.mp hx with e | hx'
    · exact e ▸ hf
    · exact w.faithful x hx'
  · intro x hx
    rcases mem_insertRev.mp hx with e | hx'
    · exact e ▸ hpos
    · exact w.pos x hx'
  · intro x hx; exact ⟨x, mem_insertRev.mpr (Or.inr hx), Same.refl x⟩

theorem create_ok {s : Store} (w : WF H D s) {r : Rev} (hf : Faithful H D r) (hpos : 1 ≤ r.num)
    (hname : ∀ x ∈ s.revs, x.name ≠ r.name)
    (hnum : ∀ x ∈ s.revs, x.comp = r.comp → x.num ≠ r.num) :
    WF H D { s with revs := insertRev r s.revs } ∧ Le s { s with revs := insertRev r s.revs } := by
  obtain ⟨w0, le⟩ := create_ok0 w.toWF0 hf hpos hname
  exact ⟨⟨w0.comps, w0.names, w0.faithful, w0.pos,
    nums_of_mem (fun _ hx => mem_insertRev.mp hx) w.nums fun x hx hc hn => absurd hn (hnum x hx hc)⟩, le⟩

theorem exec_read {s : Store} {r : Req} (h : r.isWrite = false) : (exec s r).1 = s := by
  cases r <;> first | rfl | cases h

theorem exec_listRevs_nil (s : Store) (cn : String) :
    exec s (.listRevs [] cn) = (s, .revs (s.revs.filter fun r => decide (r.comp = cn))) := by
  simp [exec, selOK]

theorem exec_updateRev_cases (s : Store) (b r : Rev) :
    exec s (.updateRev b r) = (s, .notFound) ∨ exec s (.updateRev b r) = (s, .conflict) ∨
    (b ∈ s.revs ∧
      exec s (.updateRev b r) =
        ({ s with revs := replaceRev { r with rv := b.rv + 1 } s.revs }, .rev { r with rv := b.rv + 1 })) := by
  cases hf : s.revs.find? (fun x => decide (x.name = r.name)) with
  | none => left; simp only [exec, hf]
  | some x =>
    by_cases hx : x = b
    · subst hx
      right; right
      exact ⟨List.mem_of_find?_eq_some hf, by simp only [exec, hf, if_true, replaceRev]⟩
    · right; left; simp only [exec, hf, hx, if_false]

theorem exec_updateRev_present {s : Store} (hp : s.revs.Pairwise (fun a b => a.name ≠ b.name)) {r0 r1 : Rev}
    (h0 : r0 ∈ s.revs) (hn : r1.name = r0.name) :
    exec s (.updateRev r0 r1) =
      ({ s with revs := replaceRev { r1 with rv := r0.rv + 1 } s.revs }, .rev { r1 with rv := r0.rv + 1 }) := by
  have hf : s.revs.find? (fun x => decide (x.name = r1.name)) = some r0 := by rw [hn]; exact find_of_mem hp h0
  simp only [exec, hf, if_true, replaceRev]

theorem exec_createRev_absent {s : Store} {r : Rev} (h : ∀ x ∈ s.revs, x.name ≠ r.name) :
    exec s (.createRev r) = ({ s with revs := insertRev r s.revs }, .ok) := by
  have : s.revs.any (fun x => x.name = r.name) = false := by
    simp only [List.any_eq_false, decide_eq_true_eq]; exact h
  simp only [exec, this, Bool.false_eq_true, if_false]

theorem exec_createRev_present {s : Store} {r : Rev} (h : ∃ x ∈ s.revs, x.name = r.name) :
    exec s (.createRev r) = (s, .alreadyExists) := by
  have : s.revs.any (fun x => x.name = r.name) = true := by
    simp only [List.any_eq_true, decide_eq_true_eq]; exact h
  simp only [exec, this, if_true]

/-- requests that write no revision: the reads, and the writes of XRs -/
def Req.readsRevs : Req → Prop
  | .updateRev _ _ | .createRev _ => False
  | _ => True

theorem exec_frame (s : Store) (r : Req) : (exec s r).1.comps = s.comps ∧ (r.readsRevs → (exec s r).1.revs = s.revs) := by
  fun_cases exec s r with
  | case3 | case4 | case5 | case6 | case7 => exact ⟨rfl, False.elim⟩  -- the branches of `updateRev` and `createRev`
  | _ => exact ⟨rfl, fun _ => rfl⟩

theorem exec_revs_of_reads {s : Store} {r : Req} (h : r.readsRevs) : (exec s r).1.revs = s.revs := (exec_frame s r).2 h

theorem exec_comps (s : Store) (r : Req) : (exec s r).1.comps = s.comps := (exec_frame s r).1

theorem run_comps {α : Type} (plan : Plan) (p : P α) (k : Nat) (t : Store) : (run sem plan k p t).1.comps = t.comps :=
  (wp_sound_plain (Inv := fun s => s.comps = t.comps) (Rel := fun _ _ => True) (fun _ => trivial) (fun _ _ _ _ _ => trivial)
    (fun s q hs _ => ⟨(exec_comps s q).trans hs, trivial⟩) plan k rfl (wp_of_issues (Issues.any p) false t)).1.last

/-- a revision with its owner reference erased and its resourceVersion reset: what third parties
may not change of it -/
def er (r : Rev) : Rev := { r with ctrl := none, rv := 0 }

theorem er_name {a b : Rev} (h : er a = er b) : a.name = b.name :=
  (congrArg Rev.name h : (er a).name = (er b).name)
theorem er_comp {a b : Rev} (h : er a = er b) : a.comp = b.comp :=
  (congrArg Rev.comp h : (er a).comp = (er b).comp)
theorem er_num {a b : Rev} (h : er a = er b) : a.num = b.num :=
  (congrArg Rev.num h : (er a).num = (er b).num)
theorem er_hash {a b : Rev} (h : er a = er b) : a.hash = b.hash :=
  (congrArg Rev.hash h : (er a).hash = (er b).hash)
theorem er_spec {a b : Rev} (h : er a = er b) : a.spec = b.spec :=
  (congrArg Rev.spec h : (er a).spec = (er b).spec)
theorem er_labels {a b : Rev} (h : er a = er b) : a.labels = b.labels :=
  (congrArg Rev.labels h : (er a).labels = (er b).labels)

theorem replaceRev_er {l : List Rev} (hp : l.Pairwise (fun a b => a.name ≠ b.name)) {r0 r1 : Rev}
    (h0 : r0 ∈ l) (hn : r1.name = r0.name) (he : er r1 = er r0) : (replaceRev r1 l).map er = l.map er := by
  simp only [replaceRev, List.map_map]
  apply List.map_congr_left
  intro x hx
  by_cases h : x.name = r1.name
  · have : x = r0 := eq_of_name_eq hp hx h0 (h.trans hn)
    subst this
    simp only [Function.comp, h, if_true]
    exact he
  · simp [Function.comp, h]

theorem mem_of_map_er {l l' : List Rev} (h : l'.map er = l.map er) {x : Rev} (hx : x ∈ l') :
    ∃ y ∈ l, er y = er x := by
  have : er x ∈ l.map er := h ▸ List.mem_map_of_mem hx
  obtain ⟨y, hy, e⟩ := List.mem_map.mp this
  exact ⟨y, hy, e⟩

theorem names_of_map_er {l l' : List Rev} (h : l'.map er = l.map er) : l'.map (·.name) = l.map (·.name) := by
  have := congrArg (List.map (·.name)) h
  have hc : ((fun x : Rev => x.name) ∘ er) = (fun x : Rev => x.name) := rfl
  simpa only [List.map_map, hc] using this

/-- what third parties may do between two API calls: anything to Compositions (within the
domain of contents) and XRs; of a revision they may change the owner reference (and with
it the resourceVersion), nothing else; they neither create nor delete revisions -/
def RelyT (D : Content → Prop) (s s' : Store) : Prop :=
  s'.revs.map er = s.revs.map er ∧ ∀ c ∈ s'.comps, D c.content

theorem RelyT.wf0 {s s' : Store} (h : RelyT D s s') (w : WF0 H D s) : WF0 H D s' := by
  refine ⟨h.2, pairwise_names_of_map (names_of_map_er h.1) w.names, fun x hx => ?_, fun x hx => ?_⟩
  · obtain ⟨y, hy, e⟩ := mem_of_map_er h.1 hx
    obtain ⟨c, dc, a1, a2, a3, a4⟩ := w.faithful y hy
    exact ⟨c, dc, er_name e ▸ er_comp e ▸ a1, er_hash e ▸ a2, er_spec e ▸ a3, er_labels e ▸ a4⟩
  · obtain ⟨y, hy, e⟩ := mem_of_map_er h.1 hx
    rw [← er_num e]; exact w.pos y hy

theorem RelyT.wf {s s' : Store} (h : RelyT D s s') (w : WF H D s) : WF H D s' := by
  have w0 := h.wf0 w.toWF0
  refine ⟨w0.comps, w0.names, w0.faithful, w0.pos, fun x hx x' hx' hc hn => ?_⟩
  obtain ⟨y, hy, e⟩ := mem_of_map_er h.1 hx
  obtain ⟨y', hy', e'⟩ := mem_of_map_er h.1 hx'
  have := w.nums y hy y' hy' ((er_comp e).trans (hc.trans (er_comp e').symm))
    ((er_num e).trans (hn.trans (er_num e').symm))
  exact (er_name e).symm.trans (this.trans (er_name e'))

theorem RelyT.le {s s' : Store} (h : RelyT D s s') : Le s s' := by
  intro r hr
  obtain ⟨y, hy, e⟩ := mem_of_map_er h.1.symm hr
  exact ⟨y, hy, er_name e, er_comp e, er_hash e, er_spec e, er_labels e,
    Nat.le_of_eq (er_num e).symm⟩

theorem RelyT.num_le {s s' : Store} (h : RelyT D s s') {cn : String} {n : Nat}
    (hs : ∀ x ∈ s.revs, x.comp = cn → x.num ≤ n) : ∀ x ∈ s'.revs, x.comp = cn → x.num ≤ n := by
  intro x hx hxc
  obtain ⟨y, hy, ey⟩ := mem_of_map_er h.1 hx
  rw [← er_num ey]; exact hs y hy ((er_comp ey).trans hxc)

theorem exec_reads_relyT {s : Store} {r : Req} (hc : ∀ c ∈ s.comps, D c.content) (h : r.readsRevs) : RelyT D s (exec s r).1 :=
  ⟨congrArg _ (exec_revs_of_reads h), (exec_comps s r).symm ▸ hc⟩

theorem latestGo_spec (uid : Nat) (l : List Rev) (best : Option Rev) :
    (best.map (·.num)).getD 0 ≤ ((latestGo uid best l).map (·.num)).getD 0 ∧
    (∀ r ∈ l, r.ctrl = some uid → r.num ≤ ((latestGo uid best l).map (·.num)).getD 0) ∧
    ∀ r, latestGo uid best l = some r → best = some r ∨ (r ∈ l ∧ r.ctrl = some uid) := by
  fun_induction latestGo uid best l with
  | case1 best => exact ⟨Nat.le_refl _, fun _ h => (nomatch h), fun _ h => Or.inl h⟩
  | case2 best x xs hc ih =>  -- `x` is controlled and above `best`: it becomes the best
    obtain ⟨i1, i2, i3⟩ := ih
    simp only [Option.map_some, Option.getD_some] at i1
    refine ⟨Nat.le_trans (Nat.le_of_lt hc.2) i1, List.forall_mem_cons.mpr ⟨fun _ => i1, i2⟩, fun r h => ?_⟩
    rcases i3 r h with e | ⟨m, c⟩
    · cases e; exact Or.inr ⟨List.mem_cons_self, hc.1⟩
    · exact Or.inr ⟨List.mem_cons_of_mem _ m, c⟩
  | case3 best x xs hc ih =>
    obtain ⟨i1, i2, i3⟩ := ih
    refine ⟨i1, List.forall_mem_cons.mpr ⟨fun hcr => ?_, i2⟩, fun r h => (i3 r h).imp id fun ⟨m, c⟩ => ⟨List.mem_cons_of_mem _ m, c⟩⟩
    exact Nat.le_trans (Nat.le_of_not_lt fun h => hc ⟨hcr, h⟩) i1

theorem latestNum_ge (uid : Nat) (l : List Rev) : ∀ r ∈ l, r.ctrl = some uid → r.num ≤ latestNum uid l :=
  (latestGo_spec uid l none).2.1

theorem latestRev_some {uid : Nat} {l : List Rev} {r : Rev} (h : latestRev uid l = some r) :
    r ∈ l ∧ r.ctrl = some uid ∧ ∀ x ∈ l, x.ctrl = some uid → x.num ≤ r.num := by
  rcases (latestGo_spec uid l none).2.2 r h with e | ⟨m, c⟩
  · cases e
  · refine ⟨m, c, ?_⟩
    intro x hx hc
    have := latestNum_ge uid l x hx hc
    simpa [latestNum, h] using this

theorem envStep_map_er (s : Store) (e : Ev) : (envStep s e).revs.map er = s.revs.map er := by
  cases e <;> simp only [envStep]
  rename_i names v
  simp only [List.map_map]
  apply List.map_congr_left
  intro x _
  simp only [Function.comp]
  split <;> rfl

/-- an environment action is admissible when the content it gives a Composition
lies in the domain on which the hash is assumed collision-free -/
def EvOK (D : Content → Prop) : Ev → Prop
  | .putComp c => D c.content
  | _ => True

theorem mem_putComp {c x : Comp} {cs : List Comp} (h : x ∈ putComp c cs) : x = c ∨ x ∈ cs := by
  unfold putComp at h
  split at h
  · obtain ⟨y, hy, e⟩ := List.mem_map.mp h
    by_cases hn : y.name = c.name
    · simp only [hn, if_true] at e; exact Or.inl e.symm
    · simp only [hn, if_false] at e; exact Or.inr (e ▸ hy)
  · rcases List.mem_append.mp h with h | h
    · exact Or.inr h
    · simp at h; exact Or.inl h

theorem envStep_comps {s : Store} (hc : ∀ c ∈ s.comps, D c.content) (e : Ev) (he : EvOK D e) :
    ∀ c ∈ (envStep s e).comps, D c.content := by
  cases e <;> simp only [envStep] <;> try exact hc
  intro x hx
  rcases mem_putComp hx with e | h
  · exact e ▸ he
  · exact hc x h

theorem envStep_relyT {s : Store} (hc : ∀ c ∈ s.comps, D c.content) (e : Ev) (he : EvOK D e) : RelyT D s (envStep s e) :=
  ⟨envStep_map_er s e, envStep_comps hc e he⟩

end Xp.C12
