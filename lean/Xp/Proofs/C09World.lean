import Xp.Model.C09World
import Xp.Proofs.C09
/-
Lemmas next to Model/C09World.lean. `publishA` and the destination half of `propagateA` are one
program, `applyA` (Get; NotFound ⇒ Create; MustBeControllableBy; AllowUpdateIf; Conflict; write):
`applyA_cases` says once that a call either stopped or is its write request `writeOut f k d`, with
the path condition; `propagateA_cases` is the same for a whole propagation, source half included.
Around them: the store (`dataAt`), the views, `writeOut`; what a publish stores, key by key
(`publishA_write_merged`), and that it keeps the keys allowed; what one operation can change
(`stepW_world`; `stepW_changed`: only its target, to what its call wrote; `stepW_prop_changed`);
`runW` as a fold; the cases of `claimRec`.
-/
namespace Xp.C09

/-- `Applicator.Apply` of a connection secret as both writers call it (crossplane-runtime
pkg/resource/api.go: APIPatchingApplicator / APIUpdatingApplicator with the options
ConnectionSecretMustBeControllableBy and AllowUpdateIf).
API call `g` is the Get, `g + 1` the write: a Create of `create` where the Get saw nothing, else,
unless the options refuse (`noop`: nothing to update) or a concurrent writer got in (`conflict`),
a Patch / Update storing `update s`. -/
def applyA (f : Option Fault) (g : Nat) (slot : Slot) (create : Data) (noop : Secret → Bool) (conflict : Bool)
    (update : Secret → Data) : Out :=
  match faultAt f g with
  | some x =>
    if x.cls = .notFound then
      match slot with
      | none => writeOut f (g + 1) create
      | some _ => .fail 1
    else .fail 0
  | none =>
    match slot with
    | none => writeOut f (g + 1) create
    | some s =>
      if !controllable s .owner then .fail 0
      else if noop s then .nop
      else if conflict then .fail 1
      else writeOut f (g + 1) (update s)

theorem publishA_eq (f : Option Fault) (filter : List String) (details : Data) (slot : Slot) :
    publishA f true filter details slot =
      applyA f 0 slot (desiredData filter details) (fun s => !needsUpdate s.data (desiredData filter details)) false
        (fun s => mergeData s.data (desiredData filter details)) := rfl

theorem propagateA_eq (e : EnvW) (fs : Secret) (dst : Slot) (h0 : faultAt e.fault 0 = none) (hx : fs.ctrl = .xr) :
    propagateA e true true (some fs) dst =
      applyA e.fault 1 dst fs.data (fun d => dataEq d.data fs.data) e.swap (fun _ => fs.data) := by
  simp only [propagateA, h0, hx]
  rfl

/-- Stated for any `o` equal to an apply: `publishA_eq` / `propagateA_eq` are passed as `ho`, and
the conclusion then speaks of the writer's call as it stands in the goal. -/
theorem applyA_cases {o : Out} {f : Option Fault} {g : Nat} {slot : Slot} {create : Data} {noop : Secret → Bool}
    {conflict : Bool} {update : Secret → Data} (ho : o = applyA f g slot create noop conflict update) :
    (o.write = none ∧ o.published = false) ∨
    ∃ d, o = writeOut f (g + 1) d ∧
      ((slot = none ∧ d = create ∧ ∀ x, faultAt f g = some x → x.cls = .notFound) ∨
       ∃ s, slot = some s ∧ d = update s ∧ controllable s .owner = true ∧ noop s = false ∧ faultAt f g = none ∧
         conflict = false) := by
  subst ho
  cases hf : faultAt f g with
  | some x =>
    by_cases hnf : x.cls = .notFound
    case neg => exact Or.inl (by simp [applyA, hf, hnf, Out.fail])
    cases slot with
    | none =>
      exact Or.inr ⟨create, by simp [applyA, hf, hnf], Or.inl ⟨rfl, rfl, fun y hy => Option.some.inj hy ▸ hnf⟩⟩
    | some s => exact Or.inl (by simp [applyA, hf, hnf, Out.fail])
  | none =>
    cases slot with
    | none => exact Or.inr ⟨create, by simp [applyA, hf], Or.inl ⟨rfl, rfl, nofun⟩⟩
    | some s =>
      cases hc : controllable s .owner with
      | false => exact Or.inl (by simp [applyA, hf, hc, Out.fail])
      | true =>
        cases hn : noop s with
        | true => exact Or.inl (by simp [applyA, hf, hc, hn, Out.nop])
        | false =>
          cases conflict with
          | true => exact Or.inl (by simp [applyA, hf, hc, hn, Out.fail])
          | false => exact Or.inr ⟨update s, by simp [applyA, hf, hc, hn], Or.inr ⟨s, rfl, rfl, hc, hn, rfl, rfl⟩⟩

theorem applyA_refused {o : Out} {f : Option Fault} {g : Nat} {s : Secret} {create : Data} {noop : Secret → Bool}
    {conflict : Bool} {update : Secret → Data} (ho : o = applyA f g (some s) create noop conflict update)
    (h : controllable s .owner = false ∨ noop s = true) : o.write = none ∧ o.published = false := by
  rcases applyA_cases ho with hs | ⟨_, _, ⟨h0, _⟩ | ⟨s', h0, _, hc, hn, _⟩⟩
  · exact hs
  · cases h0
  · cases h0
    rcases h with h | h
    · rw [h] at hc
      cases hc
    · rw [h] at hn
      cases hn

theorem wget_cons_self (p : Key × ASecret) (ps : World) : wget (p :: ps) p.1 = some p.2 := by
  simp only [wget, List.find?, decide_true, Option.map_some]

theorem wget_cons_ne {p : Key × ASecret} {k : Key} (h : p.1 ≠ k) (ps : World) : wget (p :: ps) k = wget ps k := by
  simp only [wget, List.find?, h, decide_false]

theorem wkeyed : Keyed (fun k w => wget w k) fun k s w => wset w k s :=
  .of_find? (fun _ _ => rfl) fun _ _ _ _ _ => rfl

theorem wget_wset_self (w : World) (k : Key) (s : ASecret) : wget (wset w k s) k = some s :=
  wkeyed.get_set_self k s w

theorem wget_wset_ne (w : World) (k k' : Key) (s : ASecret) (h : k' ≠ k) :
    wget (wset w k s) k' = wget w k' :=
  wkeyed.get_set_ne h s w

/-- the data stored under a key ([] when there is no such secret) -/
def dataAt (w : World) (k : Key) : Data := ((wget w k).map (·.data)).getD []

theorem applyOut_get_ne {w : World} {k k' : Key} {me : String} {o : Out} (h : k' ≠ k) :
    wget (applyOut w k me o) k' = wget w k' := by
  unfold applyOut
  cases o.write with
  | none => rfl
  | some d => exact wget_wset_ne w k k' _ h

theorem applyOut_none {w : World} {k : Key} {me : String} {o : Out} (h : o.write = none) :
    applyOut w k me o = w := by
  simp [applyOut, h]

theorem applyOut_some {w : World} {k : Key} {me : String} {o : Out} {d : Data} (h : o.write = some d) :
    wget (applyOut w k me o) k = some (written me d) := by
  simp [applyOut, h, wget_wset_self]

theorem dstView_controllable (me : String) (s : ASecret) :
    controllable (dstView me s) .owner = mayControl me s := by
  cases s with
  | mk type ctrl plain data =>
    cases ctrl with
    | none => simp [dstView, controllable, mayControl]
    | some u => by_cases h : u = me <;> simp [dstView, controllable, mayControl, h]

theorem srcView_xr (xr : String) (s : ASecret) : (srcView xr s).ctrl = .xr ↔ s.ctrl = some xr := by
  cases s with
  | mk type ctrl plain data =>
    cases ctrl with
    | none =>
      simp only [srcView]
      split <;> simp
    | some u => by_cases h : u = xr <;> simp [srcView, h]

theorem dstView_data (me : String) (s : ASecret) : (dstView me s).data = s.data := rfl
theorem srcView_data (xr : String) (s : ASecret) : (srcView xr s).data = s.data := rfl

theorem slotData_dstView (me : String) (o : Option ASecret) :
    (match o.map (dstView me) with | none => [] | some s => s.data) = ((o.map (·.data)).getD []) := by
  cases o <;> rfl

theorem Out.res_write_none {o : Out} (h : o.write = none) (slot : Slot) : (o.res slot).slot = slot := by
  simp [Out.res, h]

theorem Out.res_write_some {o : Out} {d : Data} (h : o.write = some d) (slot : Slot) :
    (o.res slot).slot = some ⟨true, .owner, d⟩ := by
  simp [Out.res, h]

theorem faultAt_some_eq_none {x : Fault} {k : Nat} : faultAt (some x) k = none ↔ x.idx ≠ k := by
  simp [faultAt]

theorem writeOut_write {f : Option Fault} {k : Nat} {d d' : Data} (h : (writeOut f k d).write = some d') : d' = d := by
  unfold writeOut at h
  split at h
  · simpa using h.symm
  · split at h
    · simpa using h.symm
    · simp at h

theorem writeOut_published {f : Option Fault} {k : Nat} {d : Data} (h : (writeOut f k d).published = true) :
    (writeOut f k d).write = some d ∧ (writeOut f k d).err = false ∧ faultAt f k = none := by
  unfold writeOut at h ⊢
  cases hf : faultAt f k with
  | none => simp
  | some x =>
    rw [hf] at h
    by_cases hl : x.lost = true <;> simp [hl] at h

theorem writeOut_writes (f : Option Fault) (k : Nat) (d : Data) : (writeOut f k d).writes = 1 := by
  unfold writeOut
  split
  · rfl
  · split <;> rfl

theorem publishA_published {f : Option Fault} {filter : List String} {details : Data} {slot : Slot}
    (h : (publishA f true filter details slot).published = true) :
    (∃ d, (publishA f true filter details slot).write = some d) ∧ (publishA f true filter details slot).err = false := by
  rcases applyA_cases (publishA_eq f filter details slot) with ⟨_, hp⟩ | ⟨d, heq, _⟩
  · rw [hp] at h; cases h
  · rw [heq] at h ⊢
    exact ⟨⟨d, (writeOut_published h).1⟩, (writeOut_published h).2.1⟩

theorem publishA_write_merged (f : Option Fault) (filter : List String) (details : Data)
    (hn : (details.map (·.1)).Nodup) (slot : Slot) (d' : Data)
    (h : (publishA f true filter details slot).write = some d') (k : String) :
    dget d' k = (dget (desiredData filter details) k).orElse fun _ => dget (slotData slot) k := by
  rcases applyA_cases (publishA_eq f filter details slot) with ⟨hw, _⟩ | ⟨d, heq, hd⟩
  · rw [hw] at h
    cases h
  obtain rfl : d' = d := writeOut_write (heq ▸ h)
  rcases hd with ⟨rfl, rfl, _⟩ | ⟨s, rfl, rfl, _⟩
  · -- a Create: nothing was stored before
    cases dget (desiredData filter details) k <;> rfl
  · exact dget_mergeData _ _ (desiredData_nodup filter details hn) k

/-- clause 1 (only keys the XRD allows) as an invariant of the slot, for every fault plan -/
theorem publishA_keeps_allowed (f : Option Fault) (filter : List String) (details : Data)
    (hn : (details.map (·.1)).Nodup) (slot : Slot)
    (h : ∀ k, dget (slotData slot) k ≠ none → allowed filter k = true) (k : String)
    (hk : dget (slotData ((publishA f true filter details slot).res slot).slot) k ≠ none) :
    allowed filter k = true := by
  cases hw : (publishA f true filter details slot).write with
  | none => rw [Out.res_write_none hw] at hk; exact h k hk
  | some d' =>
    rw [Out.res_write_some hw] at hk
    replace hk : dget d' k ≠ none := hk
    rw [publishA_write_merged f filter details hn slot d' hw k, dget_desiredData] at hk
    by_cases ha : allowed filter k = true
    · exact ha
    · rw [if_neg ha] at hk; exact absurd (h k hk) ha

theorem propagateA_cases (e : EnvW) (fw tw : Bool) (src dst : Slot) :
    ((propagateA e fw tw src dst).write = none ∧ (propagateA e fw tw src dst).published = false) ∨
    (fw = true ∧ tw = true ∧ faultAt e.fault 0 = none ∧ ∃ fs, src = some fs ∧ fs.ctrl = .xr ∧
      (dst = none ∨ ∃ d, dst = some d ∧ controllable d .owner = true ∧ dataEq d.data fs.data = false ∧
          faultAt e.fault 1 = none ∧ e.swap = false) ∧
      propagateA e fw tw src dst = writeOut e.fault 2 fs.data) := by
  by_cases hw : (!fw || !tw) = true
  · exact Or.inl (by simp [propagateA, hw, Out.nop])
  obtain ⟨rfl, rfl⟩ : fw = true ∧ tw = true := by simpa using hw
  cases hf0 : faultAt e.fault 0 with
  | some x => exact Or.inl (by simp [propagateA, hf0, Out.fail])
  | none =>
    cases src with
    | none => exact Or.inl (by simp [propagateA, hf0, Out.fail])
    | some fs =>
      by_cases hx : fs.ctrl = .xr
      case neg => exact Or.inl (by simp [propagateA, hf0, hx, Out.fail])
      -- created or updated, what the apply stores is the source's data
      rcases applyA_cases (propagateA_eq e fs dst hf0 hx) with h | ⟨_, heq, ⟨h1, rfl, _⟩ | ⟨d, h1, rfl, h2⟩⟩
      · exact Or.inl h
      · exact Or.inr ⟨rfl, rfl, rfl, fs, rfl, hx, Or.inl h1, heq⟩
      · exact Or.inr ⟨rfl, rfl, rfl, fs, rfl, hx, Or.inr ⟨d, h1, h2⟩, heq⟩

theorem propagateA_blocked (e : EnvW) (fw tw : Bool) (src : Slot) (d : Secret) (h : controllable d .owner = false) :
    (propagateA e fw tw src (some d)).write = none ∧ (propagateA e fw tw src (some d)).published = false := by
  rcases propagateA_cases e fw tw src (some d) with hs | ⟨_, _, _, _, _, _, h0 | ⟨d0, h0, hc, _⟩, _⟩
  · exact hs
  · cases h0
  · cases h0; rw [h] at hc; cases hc

theorem stepW_world (filter : List String) (e : EnvW) (w : World) (op : Op) :
    (stepW filter e w op).1 =
      match op.target with
      | none => w
      | some k => applyOut w k op.me (stepW filter e w op).2 := by
  cases op with
  | pub me ref details => cases ref <;> rfl
  | prop me cns cref xr xref => cases cref <;> cases xref <;> rfl

theorem stepW_changed {filter : List String} {e : EnvW} {w : World} {op : Op} {k : Key}
    (h : wget (stepW filter e w op).1 k ≠ wget w k) :
    op.target = some k ∧ ∃ d, (stepW filter e w op).2.write = some d ∧
      wget (stepW filter e w op).1 k = some (written op.me d) := by
  rw [stepW_world] at h ⊢
  cases ht : op.target with
  | none => exact absurd rfl (ht ▸ h)
  | some k0 =>
    simp only [ht] at h ⊢
    obtain rfl : k = k0 := Decidable.by_contra fun hne => h (applyOut_get_ne hne)
    cases hq : (stepW filter e w op).2.write with
    | none => exact absurd rfl (applyOut_none hq ▸ h)
    | some d => exact ⟨rfl, d, rfl, applyOut_some hq⟩

theorem stepW_prop_changed (filter : List String) (e : EnvW) (w : World) (me cns : String) (cref : Option String)
    (xr : String) (xref : Option Key) (k : Key)
    (h : wget (stepW filter e w (.prop me cns cref xr xref)).1 k ≠ wget w k) :
    ∃ dn sk fs, cref = some dn ∧ k = (cns, dn) ∧ xref = some sk ∧ wget w sk = some fs ∧ fs.ctrl = some xr ∧
      wget (stepW filter e w (.prop me cns cref xr xref)).1 k = some (written me fs.data) := by
  obtain ⟨ht, d', hq, hk⟩ := stepW_changed h
  cases cref with
  | none => cases ht
  | some dn =>
    cases ht
    cases xref with
    | none => cases hq
    | some sk =>
      simp only [stepW] at hq
      rcases propagateA_cases e true true ((wget w sk).map (srcView xr)) ((wget w (cns, dn)).map (dstView me)) with
        ⟨hw, _⟩ | ⟨_, _, _, fs, h1, h2, _, heq⟩
      · cases hw.symm.trans hq
      · obtain rfl : d' = fs.data := writeOut_write (heq ▸ hq)
        obtain ⟨a, hg, rfl⟩ := Option.map_eq_some_iff.mp h1
        exact ⟨dn, sk, a, rfl, rfl, rfl, hg, (srcView_xr xr a).mp h2, hk⟩

theorem runW_eq_foldl (filter : List String) (w : World) (ops : List (EnvW × Op)) :
    runW filter w ops = ops.foldl (fun w p => (stepW filter p.1 w p.2).1) w := by
  induction ops generalizing w with
  | nil => rfl
  | cons p ps ih => exact ih _

theorem claimRec_cases (e : EnvW) (w : World) (c : ClaimIn) :
    claimRec e w c = (w, ⟨.nop, false⟩) ∨
    ∃ x, c.deleted = false ∧ c.xr = some x ∧ x.ready = true ∧
      (claimRec e w c).1 = (stepW [] e w (.prop c.me c.cns c.cref x.uid x.ref)).1 := by
  cases hd : c.deleted with
  | true => exact Or.inl (by simp [claimRec, hd])
  | false =>
    cases hx : c.xr with
    | none => exact Or.inl (by simp [claimRec, hd, hx])
    | some x =>
      cases hr : x.ready with
      | false => exact Or.inl (by simp [claimRec, hd, hx, hr])
      | true => exact Or.inr ⟨x, rfl, rfl, hr, by simp [claimRec, hd, hx, hr]⟩

end Xp.C09
