import Xp.Proofs.C16Establish
/-
C16: what a *successful* Establish guarantees for every object it was given, and that
Establish writes objects of the package only (nobody interfering).
-/
namespace Xp.C16

variable (rejects : Obj → Bool) (fault : Fault) (p : Parent) (control : Bool)

/-- the object with key `k` is established for `p`: it carries the revision's reference -/
def IsMine (p : Parent) (control : Bool) (k : String) (l : List Obj) : Prop :=
  ∃ o' ∈ l, o'.key = k ∧ mineRef p control ∈ o'.owners

theorem isMine_evolves (k : String) (l l' : List Obj)
    (h : IsMine p control k l) (he : Evolves (QE p control) (CE p control) l l') : IsMine p control k l' := by
  obtain ⟨o, ho, hk, hm⟩ := h
  obtain ⟨o', ho', hk', hr⟩ := he.fwd o ho
  refine ⟨o', ho', hk'.trans hk, ?_⟩
  rcases hr with e | q
  · subst e; exact hm
  · exact q.mine

theorem updateSub_desired_key {cd : CD} {cur sub : Obj}
    (hk : ∀ cur, cd.current = some cur → cur.key = cd.desired.key) (hcur : cd.current = some cur)
    (hsub : updateSub p control cur cd.desired = .ok sub) : sub.key = cd.desired.key := by
  rw [(updateSub_key p control hsub).1]
  cases control
  · exact hk cur hcur
  · rfl

theorem establishOne_ok {s s' : Store} {i : Nat} {cd : CD} {k : Ref}
    (hk : ∀ cur, cd.current = some cur → cur.key = cd.desired.key)
    (h : establishOne rejects fault p control s i cd = (s', .ok k))
    (hc : control = true ∨ cd.current.isSome = true) :
    IsMine p control cd.desired.key s'.objs := by
  rw [← establishOneI_none] at h
  rcases establishOneI_spec rejects fault Interf.none p control s i cd with ⟨r, e, hr⟩ | ⟨rfl, _, e⟩ | ⟨cur, sub, hcur, hsub, e⟩ <;>
    rw [e] at h
  · cases h
    obtain ⟨hf, hn⟩ := hr k rfl
    rcases hc with hc | hc
    · rw [hf] at hc; cases hc
    · rw [hn] at hc; cases hc
  · cases apiCreate_ok (liftW_eq_ok h).1
    exact ⟨_, List.mem_append_right _ List.mem_cons_self, rfl, List.mem_cons_self⟩
  · obtain ⟨c, hget, rfl⟩ := apiUpdate_ok (liftW_eq_ok h).1
    obtain ⟨o', ho', hk', hown⟩ := replaceObj_has none hget
    exact ⟨o', ho', hk'.trans (updateSub_desired_key p control hk hcur hsub),
      hown ▸ updateSub_owners p control hsub ▸ mem_addOwner_self _ _⟩

theorem establishAll_ok {s₀ s s' : Store} {ys : List (Nat × CD)} {ks : List Ref} (hi : EInv p control s₀ s)
    (hcd : ∀ y ∈ ys, CDSeen s₀ y.2)
    (h : establishAll rejects fault p control s ys = (s', .ok ks)) :
    ∀ y ∈ ys, (control = true ∨ y.2.current.isSome = true) → IsMine p control y.2.desired.key s'.objs := by
  rw [← establishAllI_none, establishAllI_eq] at h
  refine phase_ok (EInv p control s₀)
    (fun y s => (control = true ∨ y.2.current.isSome = true) → IsMine p control y.2.desired.key s.objs)
    (fun s i cd hm hi => establishOne_inv rejects fault p control s₀ s i cd hi (hcd _ hm))
    (fun s i cd s1 k hm _ h1 hc => establishOne_ok rejects fault p control (cdseen_key s₀ _ (hcd _ hm)) h1 hc)
    (fun y s i cd hm hi hy hc => ?_) hi h
  -- the goroutines that follow keep it established
  exact isMine_evolves p control _ _ _ (hy hc)
    (establishOne_inv rejects fault p control s s i cd (EInv.refl p control s hi.wf) ((hcd _ hm).mono hi.frozen)).ev

theorem pickCD_mem_of {cds : List (Nat × CD)} {order : List Nat} {j : Nat} {cd : CD}
    (hj : j ∈ order) (hcd : (j, cd) ∈ cds) : ∃ cd', (j, cd') ∈ pickCD cds order := by
  unfold pickCD
  cases hf : cds.find? (fun c => c.1 = j) with
  | none => exact absurd (List.find?_eq_none.mp hf (j, cd) hcd) (by simp)
  | some y =>
    have hy : y.1 = j := by simpa using List.find?_some hf
    exact ⟨y.2, List.mem_filterMap.mpr ⟨j, hj, by rw [hf, ← hy]⟩⟩

theorem establishOne_keys (s : Store) (i : Nat) (cd : CD) (hk : ∀ cur, cd.current = some cur → cur.key = cd.desired.key) :
    ∀ o' ∈ (establishOne rejects fault p control s i cd).1.objs, o' ∈ s.objs ∨ o'.key = cd.desired.key := by
  rw [← establishOneI_none]
  rcases establishOneI_spec rejects fault Interf.none p control s i cd with ⟨_, e, _⟩ | ⟨_, _, e⟩ | ⟨cur, sub, hcur, hsub, e⟩ <;>
    rw [e]
  · exact fun _ h => Or.inl h
  · rw [liftW_fst]
    intro o' ho'
    rcases (apiCreate_effect _ _ _ _ _).mem o' ho' with h | ⟨rfl, _⟩
    · exact Or.inl h
    · exact Or.inr rfl
  · rw [liftW_fst]
    intro o' ho'
    rcases (apiUpdate_effect _ _ _ _ _).mem o' ho' with h | ⟨rfl, _⟩
    · exact Or.inl h
    · exact Or.inr (updateSub_desired_key p control (sub := sub) hk hcur hsub)

theorem establish_keys (s : Store) (objs : List Desired) (vorder eorder : List Nat) :
    ∀ o' ∈ (establish rejects fault p control s objs vorder eorder).1.objs,
      o' ∈ s.objs ∨ ∃ d ∈ objs, d.key = o'.key := by
  rw [← establishI_none]
  rcases establishI_cases rejects fault Interf.none p control s objs vorder eorder with ⟨r, e, _⟩ | ⟨cds, heq, e⟩ <;> rw [e]
  · exact fun _ h => Or.inl h
  · have hshape := (validateAll_shape rejects fault p control heq).2
    refine establishAllI_ind rejects fault Interf.none p control
      (fun s' => ∀ o' ∈ s'.objs, o' ∈ s.objs ∨ ∃ d ∈ objs, d.key = o'.key) _ s (fun _ h => Or.inl h)
      fun s' i cd hm h o' ho' => ?_
    obtain ⟨d, hd, hdk, _, hck⟩ := hshape _ (mem_pickCD hm)
    rcases establishOne_keys rejects fault p control s' i cd hck o' ho' with h1 | h1
    · exact h o' h1
    · exact Or.inr ⟨d, List.mem_of_getElem? (mem_pick_iff.mp hd).1, (h1.trans hdk).symm⟩

end Xp.C16
