import Xp.Model.C08
/-
C08: small concrete worlds used by the non-vacuity examples and by the witnesses of the
recorded findings in Xp/Props/C08.lean.
-/
namespace Xp.C08
open Xp.Gen

def mk (k : Key) (uid : Nat) (fins : List String) (del : Bool) : Obj :=
  { key := k, uid := uid, rv := uid, fins := fins, del := del, owners := [], conds := [], paused := false,
    ref := "", of := "", flag := false, inuse := false, pkgs := [] }

def raceWorld : St :=
  { objs := [{ mk ⟨.xrd, "xs.example.org"⟩ 1 [c08DefinedFinalizer, c08OfferedFinalizer] true with ref := "xs.example.org", of := "cs.example.org" },
             { mk ⟨.crd, "xs.example.org"⟩ 2 [] false with owners := [⟨1, true, true⟩] },
             { mk ⟨.claim, "ns/c"⟩ 3 [c08ClaimFinalizer] false with ref := "x" }],
    nextRv := 4, running := [compositeCtrl "xs.example.org"] }

def claimWorld (fg : Bool) : St :=
  { objs := [{ mk ⟨.claim, "ns/c"⟩ 1 [c08ClaimFinalizer] true with ref := "x", flag := fg },
             { mk ⟨.xr, "x"⟩ 2 [c08XRFinalizer] false with ref := "ns/c" }],
    nextRv := 3, running := [] }

/-- a terminating claim whose XR does not exist yet (it is created by the first step of the
witness schedule) -/
def missWorld : St :=
  { objs := [{ mk ⟨.claim, "ns/c"⟩ 1 [c08ClaimFinalizer] true with ref := "x" }],
    nextRv := 2, running := [] }

def xrdWorld : St :=
  { objs := [{ mk ⟨.xrd, "xs.example.org"⟩ 1 [c08DefinedFinalizer] true with ref := "xs.example.org", of := "cs.example.org" },
             { mk ⟨.crd, "xs.example.org"⟩ 2 [] false with owners := [⟨1, true, true⟩] },
             mk ⟨.xr, "x"⟩ 3 [c08XRFinalizer] false],
    nextRv := 4, running := [compositeCtrl "xs.example.org"] }

def revWorld : St :=
  { objs := [mk ⟨.rev, "p1"⟩ 1 [c08RevisionFinalizer] true, { mk lockKey 2 [] false with pkgs := ["p1", "p2"] }],
    nextRv := 3, running := [] }

/-- a revision that is Inactive and skips dependency resolution but is still in the Lock -/
def staleRevWorld : St :=
  { objs := [{ mk ⟨.rev, "p1"⟩ 1 [c08RevisionFinalizer] true with inactive := true, skipDeps := true },
             { mk lockKey 2 [] false with pkgs := ["p1", "p2"] }],
    nextRv := 3, running := [] }

def usageWorld : St :=
  { objs := [{ mk ⟨.usage, "u"⟩ 1 [c08UsageFinalizer] true with ref := "using", of := "used", flag := true },
             mk ⟨.res, "using"⟩ 2 [] false, { mk ⟨.res, "used"⟩ 3 [] false with inuse := true }],
    nextRv := 4, running := [] }

end Xp.C08
