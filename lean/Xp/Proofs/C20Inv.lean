import Xp.Proofs.C20Steps
import Xp.Proofs.C20List
/-
C20: protected secrets (`Protected`, `KeptFrom`), the request class that keeps them (`SafeReq`) and what a request
does to the secrets (`exec_secret_cases`, from `exec_eff`); then the invariants of the whole initializer under
arbitrary fault plans and over histories of runs: protected secrets are kept, default objects and undeclared fields
are untouched.
-/
namespace Xp.C20
open Xp

variable {α β : Type}

theorem find_map_replace (l : List Secret) (new : Secret) (n : String) (h : n ≠ new.name) :
    (l.map fun x => if x.name = new.name then new else x).find? (fun x => decide (x.name = n)) =
    l.find? (fun x => decide (x.name = n)) :=
  find_map_other l _ _ _ fun _ hx => ⟨decide_eq_false fun e => h (e.symm.trans hx), decide_eq_false fun e => h e.symm⟩

theorem exec_getSecret (s : Store) (n : String) :
    exec s (.getSecret n) = (s, match findSecret s n with | some x => .secret x | none => .err .notFound) := rfl

theorem find_name {l : List Secret} {n : String} {sec : Secret}
    (h : l.find? (fun x => decide (x.name = n)) = some sec) : sec.name = n := by
  have := List.find?_some h
  simpa using this

theorem find_append_new (l : List Secret) (x : Secret) (h : l.find? (fun y => decide (y.name = x.name)) = none) :
    (l ++ [x]).find? (fun y => decide (y.name = x.name)) = some x := by
  simp [List.find?_append, h]

theorem find_append_other (l : List Secret) (x : Secret) (n : String) (h : n ≠ x.name) :
    (l ++ [x]).find? (fun y => decide (y.name = n)) = l.find? (fun y => decide (y.name = n)) := by
  have : ¬ x.name = n := fun e => h e.symm
  simp [List.find?_append, this]

theorem find_map_replace_self (l : List Secret) (new cur : Secret)
    (h : l.find? (fun y => decide (y.name = new.name)) = some cur) :
    (l.map fun x => if x.name = new.name then new else x).find? (fun y => decide (y.name = new.name)) = some new := by
  induction l with
  | nil => simp at h
  | cons x xs ih =>
    simp only [List.map_cons, List.find?_cons] at h ⊢
    by_cases hx : x.name = new.name
    · simp [hx]
    · simp only [hx, decide_false, if_false] at h ⊢
      exact ih h

theorem isComplete_hasMaterial {sec : Secret} (h : isComplete sec = true) : hasMaterial sec = true := by
  simp [isComplete, hasMaterial] at *
  exact Or.inl (Or.inl h.2)

/-- a secret the TLS steps must never rewrite: complete, or (not a CA secret and holding any material) -/
def Protected (cas : List String) (sec : Secret) : Prop :=
  isComplete sec = true ∨ (sec.name ∉ cas ∧ hasMaterial sec = true)

/-- request class of every initializer step: a secret is updated only from an unprotected version -/
def SafeReq (cas : List String) : Req → Prop :=
  OnUpdate fun old new => isComplete old = false ∧ (new.name ∉ cas → hasMaterial old = false)

def KeptFrom (cas : List String) (s₀ s : Store) : Prop :=
  ∀ n sec, findSecret s₀ n = some sec → Protected cas sec → findSecret s n = some sec

theorem keptFrom_refl (cas : List String) (s : Store) : KeptFrom cas s s := fun _ _ h _ => h

theorem keptFrom_trans {cas : List String} {a b c : Store} (h1 : KeptFrom cas a b) (h2 : KeptFrom cas b c) :
    KeptFrom cas a c := fun n sec h0 hp => h2 n sec (h1 n sec h0 hp) hp

theorem exec_secret_cases (s : Store) (r : Req) (n : String) :
    findSecret (exec s r).1 n = findSecret s n ∨
    ∃ old new, r = writeSecret old new ∧ new.name = n ∧ findSecret s n = old ∧ findSecret (exec s r).1 n = some new := by
  have he := exec_eff s r
  generalize exec s r = y at he ⊢
  cases he with
  | createSecret x hf =>
    by_cases hn : n = x.name
    · subst hn; exact .inr ⟨none, x, rfl, rfl, hf, find_append_new _ _ hf⟩
    · exact .inl (find_append_other _ _ _ hn)
  | updateSecret old new hf =>
    by_cases hn : n = new.name
    · subst hn; exact .inr ⟨some old, new, rfl, rfl, hf, find_map_replace_self _ _ _ hf⟩
    · exact .inl (find_map_replace _ _ _ hn)
  | _ => exact .inl rfl

theorem safeReq_update {cas : List String} {r : Req} {old new : Secret} (hq : SafeReq cas r) (e : r = .updateSecret old new)
    (hn : old.name = new.name) : ¬ Protected cas old := by
  obtain ⟨h1, h2⟩ := hq old new e
  rintro (hp | ⟨hp1, hp2⟩)
  · rw [h1] at hp; cases hp
  · rw [h2 (hn ▸ hp1)] at hp2; cases hp2

/-- A stored secret changes only through an Update that carries exactly it (the resourceVersion precondition). -/
theorem exec_secret_kept {s : Store} {r : Req} {n : String} {sec : Secret} (h : findSecret s n = some sec)
    (hr : ∀ new, sec.name = new.name → r = .updateSecret sec new → False) : findSecret (exec s r).1 n = some sec := by
  rcases exec_secret_cases s r n with e | ⟨old, new, rfl, rfl, ho, _⟩
  · exact e.trans h
  · rw [h] at ho
    subst ho
    exact (hr new (find_name h) rfl).elim

theorem exec_kept {cas : List String} {s₀ s : Store} {r : Req}
    (h : KeptFrom cas s₀ s) (hq : SafeReq cas r) : KeptFrom cas s₀ (exec s r).1 :=
  fun n sec h0 hp => exec_secret_kept (h n sec h0 hp) fun _ hn e => safeReq_update hq e hn hp

theorem kept_of_issues {cas : List String} (plan : Plan) (k : Nat) (p : P α) (hp : Issues (SafeReq cas) p)
    (s₀ s : Store) (hs : KeptFrom cas s₀ s) : ∀ x ∈ reach sem plan k p s, KeptFrom cas s₀ x :=
  reach_inv sem (KeptFrom cas s₀) (SafeReq cas) (fun _ _ hi hq => exec_kept hi hq) plan k p hp s hs

theorem noMaterial_incomplete {o : Secret} (h : hasMaterial o = false) : isComplete o = false :=
  Bool.eq_false_iff.mpr fun hc => by rw [isComplete_hasMaterial hc] at h; cases h

theorem tlsUpd_safe {cas : List String} {ca : String} (hca : ca ∈ cas) {old new : Secret} (h : TlsUpd ca old new) :
    isComplete old = false ∧ (new.name ∉ cas → hasMaterial old = false) := by
  rcases h.2 with h | ⟨hn, hc⟩
  · exact ⟨noMaterial_incomplete h, fun _ => h⟩
  · exact ⟨hc, fun hn' => absurd (hn ▸ hca) hn'⟩

theorem tlsReq_safe {cas : List String} {g : Generator} {ca : String} (hca : ca ∈ cas) {refs : List TlsRef} {r : Req}
    (h : TlsReq g ca refs r) : SafeReq cas r :=
  (tlsReq_upd h).mono fun _ _ => tlsUpd_safe hca

/-- CA secret names of the TLS steps -/
def caNames : List Step → List String
  | [] => []
  | .tls ca _ _ :: rest => ca :: caNames rest
  | _ :: rest => caNames rest

/-- every store visible over a sequence of runs of the same step list, each under its own fault
plan and with its own nonce (controller-local state is lost between runs) -/
def history (g : Generator) (steps : List Step) : List (Plan × Nat) → Store → List Store
  | [], s => [s]
  | (pl, n) :: rest, s =>
    reach sem pl 0 (runSteps g steps n 0) s ++ history g steps rest (run sem pl 0 (runSteps g steps n 0) s).1

theorem step_issues_safe (g : Generator) (n : Nat) (cas : List String) (st : Step)
    (h : ∀ ca ∈ caNames [st], ca ∈ cas) : Issues (SafeReq cas) (st.prog g n) :=
  step_issues_of _ g n st (fun ca _ _ e _ hr => tlsReq_safe (h ca (by simp [e, caNames])) hr)
    (fun r hc hr => onUpdate_of_comp (only_comp_ne hr hc.symm))

theorem caNames_cons (st : Step) (rest : List Step) : caNames (st :: rest) = caNames [st] ++ caNames rest := by
  cases st <;> simp [caNames]

theorem mem_collect {κ : Type} {f : List Step → List κ} (hcons : ∀ st rest, f (st :: rest) = f [st] ++ f rest)
    {st : Step} {steps : List Step} (hst : st ∈ steps) {x : κ} (h : x ∈ f [st]) : x ∈ f steps := by
  induction steps with
  | nil => cases hst
  | cons y ys ih =>
    rw [hcons]
    rcases List.mem_cons.mp hst with rfl | hst
    · exact List.mem_append_left _ h
    · exact List.mem_append_right _ (ih hst)

theorem mem_collect_inv {κ : Type} {f : List Step → List κ} (hnil : f [] = [])
    (hcons : ∀ st rest, f (st :: rest) = f [st] ++ f rest) {steps : List Step} {x : κ} (h : x ∈ f steps) :
    ∃ st ∈ steps, x ∈ f [st] := by
  induction steps with
  | nil => rw [hnil] at h; cases h
  | cons y ys ih =>
    rw [hcons] at h
    rcases List.mem_append.mp h with h | h
    · exact ⟨y, by simp, h⟩
    · obtain ⟨st, hst, hx⟩ := ih h
      exact ⟨st, by simp [hst], hx⟩

theorem runSteps_issues_safe (g : Generator) (steps : List Step) (cas : List String)
    (h : ∀ ca ∈ caNames steps, ca ∈ cas) (n d : Nat) : Issues (SafeReq cas) (runSteps g steps n d) :=
  runSteps_issues g steps (fun st hst n' => step_issues_safe g n' cas st fun ca hca => h ca (mem_collect caNames_cons hst hca))
    n d

theorem history_inv (g : Generator) (steps : List Step) (Inv : Store → Prop)
    (hrun : ∀ (pl : Plan) (n : Nat) (s : Store), Inv s → ∀ x ∈ reach sem pl 0 (runSteps g steps n 0) s, Inv x)
    (runs : List (Plan × Nat)) (s : Store) (hs : Inv s) : ∀ x ∈ history g steps runs s, Inv x :=
  rounds_forall (history g steps) (fun _ _ _ => rfl) Inv Inv (fun _ hs _ hx => List.mem_singleton.mp hx ▸ hs) runs
    (fun e _ s hs => ⟨hrun e.1 e.2 s hs, hrun e.1 e.2 s hs _ (run_mem_reach sem e.1 0 _ s)⟩) s hs

theorem runSteps_inv (Inv : Store → Prop) (g : Generator) (steps : List Step)
    (hstep : ∀ st ∈ steps, ∀ (plan : Plan) (k n : Nat) (t : Store), Inv t → ∀ x ∈ reach sem plan k (st.prog g n) t, Inv x)
    (plan : Plan) (k n d : Nat) (t : Store) (ht : Inv t) : ∀ x ∈ reach sem plan k (runSteps g steps n d) t, Inv x := by
  refine runSteps_closed (J := fun p => ∀ plan k t, Inv t → ∀ x ∈ reach sem plan k p t, Inv x) ?_ ?_ g steps
    (fun st hst n plan k => hstep st hst plan k n) n d plan k t ht
  · intro _ a plan k t ht x hx
    rw [reach, List.mem_singleton] at hx
    exact hx ▸ ht
  · intro _ _ p f hp hf plan k t ht
    exact reach_bind_inv sem plan _ p f k t (hp plan k t ht) fun a k' _ =>
      hf a plan k' _ (hp plan k t ht _ (run_mem_reach sem plan k p t))

theorem kept_history (g : Generator) (steps : List Step) (runs : List (Plan × Nat)) (s : Store) :
    ∀ x ∈ history g steps runs s, KeptFrom (caNames steps) s x :=
  history_inv g steps (KeptFrom (caNames steps) s)
    (fun pl n s' hs' => kept_of_issues pl 0 _ (runSteps_issues_safe g steps _ (fun _ h => h) n 0) s s' hs')
    runs s (keptFrom_refl _ s)

/-- existing default objects, user fields of packages / CRDs / webhook configurations, custom resources -/
def Untouched (s₀ s : Store) : Prop :=
  (∀ v, s₀.lock = some v → s.lock = some v) ∧
  (∀ v, s₀.sc = some v → s.sc = some v) ∧
  (∀ v, s₀.drc = some v → s.drc = some v) ∧
  s.crs = s₀.crs ∧
  (∀ k n p, findPkg s₀ k n = some p → ∃ p', findPkg s k n = some p' ∧ p'.extra = p.extra) ∧
  (∀ n c, findCrd s₀ n = some c → ∃ c', findCrd s n = some c' ∧ c'.extra = c.extra) ∧
  (∀ k n w, findWhc s₀ k n = some w → ∃ w', findWhc s k n = some w' ∧ w'.extra = w.extra)

theorem untouched_refl (s : Store) : Untouched s s :=
  ⟨fun _ h => h, fun _ h => h, fun _ h => h, rfl, fun _ _ p h => ⟨p, h, rfl⟩, fun _ c h => ⟨c, h, rfl⟩,
   fun _ _ w h => ⟨w, h, rfl⟩⟩

theorem untouched_trans {a b c : Store} (h1 : Untouched a b) (h2 : Untouched b c) : Untouched a c := by
  obtain ⟨a1, a2, a3, a4, a5, a6, a7⟩ := h1
  obtain ⟨b1, b2, b3, b4, b5, b6, b7⟩ := h2
  refine ⟨fun v h => b1 v (a1 v h), fun v h => b2 v (a2 v h), fun v h => b3 v (a3 v h), b4.trans a4, ?_, ?_, ?_⟩
  · intro k n p hp
    obtain ⟨p', hp', e⟩ := a5 k n p hp
    obtain ⟨p'', hp'', e'⟩ := b5 k n p' hp'
    exact ⟨p'', hp'', e'.trans e⟩
  · intro n c hc
    obtain ⟨c', hc', e⟩ := a6 n c hc
    obtain ⟨c'', hc'', e'⟩ := b6 n c' hc'
    exact ⟨c'', hc'', e'.trans e⟩
  · intro k n w hw
    obtain ⟨w', hw', e⟩ := a7 k n w hw
    obtain ⟨w'', hw'', e'⟩ := b7 k n w' hw'
    exact ⟨w'', hw'', e'.trans e⟩

theorem exec_pkg_extra (s : Store) (r : Req) (k : PKind) (n : String) (p : Pkg) (h : findPkg s k n = some p) :
    ∃ p', findPkg (exec s r).1 k n = some p' ∧ p'.extra = p.extra := by
  have he := exec_eff s r
  generalize exec s r = y at he ⊢
  cases he with
  | createPkg q hf => exact ⟨p, find_append_some _ _ _ _ h, rfl⟩
  | patchPkg k' n' r' q hf =>
    refine ⟨_, find_map_some _ _ _ (fun x => ?_) _ h, ?_⟩
    · by_cases hx : x.kind = k' ∧ x.name = n' <;> simp [hx]
    · by_cases hx : p.kind = k' ∧ p.name = n' <;> simp [hx]
  | _ => exact ⟨p, h, rfl⟩

theorem exec_crd_extra (s : Store) (r : Req) (n : String) (c : Crd) (h : findCrd s n = some c) :
    ∃ c', findCrd (exec s r).1 n = some c' ∧ c'.extra = c.extra := by
  have he := exec_eff s r
  generalize exec s r = y at he ⊢
  cases he with
  | createCrd q hf => exact ⟨c, find_append_some _ _ _ _ h, rfl⟩
  | patchCrd f cb q hf =>
    refine ⟨_, find_map_some _ _ _ (fun x => ?_) _ h, ?_⟩
    · by_cases hx : x.name = f.name <;> simp [hx, patchCrdWith]
    · by_cases hx : c.name = f.name <;> simp [hx, patchCrdWith]
  | patchCrdStored n' vs q hf =>
    refine ⟨_, find_map_some _ _ _ (fun x => ?_) _ h, ?_⟩
    · by_cases hx : x.name = n' <;> simp [hx]
    · by_cases hx : c.name = n' <;> simp [hx]
  | _ => exact ⟨c, h, rfl⟩

@[simp] theorem patchWhcWith_kind (h : List Hook) (w : Whc) : (patchWhcWith h w).kind = w.kind := by
  unfold patchWhcWith; split <;> rfl
@[simp] theorem patchWhcWith_name (h : List Hook) (w : Whc) : (patchWhcWith h w).name = w.name := by
  unfold patchWhcWith; split <;> rfl
@[simp] theorem patchWhcWith_extra (h : List Hook) (w : Whc) : (patchWhcWith h w).extra = w.extra := by
  unfold patchWhcWith; split <;> rfl

theorem exec_whc_extra (s : Store) (r : Req) (k : WKind) (n : String) (w : Whc) (h : findWhc s k n = some w) :
    ∃ w', findWhc (exec s r).1 k n = some w' ∧ w'.extra = w.extra := by
  have he := exec_eff s r
  generalize exec s r = y at he ⊢
  cases he with
  | createWhc q hf => exact ⟨w, find_append_some _ _ _ _ h, rfl⟩
  | patchWhc k' n' hooks q hf =>
    refine ⟨_, find_map_some _ _ _ (fun x => ?_) _ h, ?_⟩
    · by_cases hx : x.kind = k' ∧ x.name = n' <;> simp [hx]
    · by_cases hx : w.kind = k' ∧ w.name = n' <;> simp [hx]
  | _ => exact ⟨w, h, rfl⟩

/-- an existing Lock, default StoreConfig and default DeploymentRuntimeConfig stay: the only requests that write them are
Creates, refused when the object exists -/
theorem exec_singletons_kept (s : Store) (r : Req) :
    (∀ v, s.lock = some v → (exec s r).1.lock = some v) ∧ (∀ v, s.sc = some v → (exec s r).1.sc = some v) ∧
    (∀ v, s.drc = some v → (exec s r).1.drc = some v) := by
  have he := exec_eff s r
  generalize exec s r = y at he ⊢
  cases he with
  | createLock hf => exact ⟨fun v h => absurd (hf.symm.trans h) nofun, fun _ h => h, fun _ h => h⟩
  | createSc scope hf => exact ⟨fun _ h => h, fun v h => absurd (hf.symm.trans h) nofun, fun _ h => h⟩
  | createDrc hf => exact ⟨fun _ h => h, fun _ h => h, fun v h => absurd (hf.symm.trans h) nofun⟩
  | _ => exact ⟨fun _ h => h, fun _ h => h, fun _ h => h⟩

theorem exec_untouched (s : Store) (r : Req) : Untouched s (exec s r).1 :=
  have ⟨e1, e2, e3⟩ := exec_singletons_kept s r
  ⟨e1, e2, e3, frame_crs s r, exec_pkg_extra s r, exec_crd_extra s r, exec_whc_extra s r⟩

theorem untouched_reach (plan : Plan) (k : Nat) (p : P α) (s : Store) : ∀ x ∈ reach sem plan k p s, Untouched s x :=
  reach_inv sem (Untouched s) (fun _ => True) (fun x r hi _ => untouched_trans hi (exec_untouched x r)) plan k p
    (Issues.any p) s (untouched_refl s)

theorem untouched_history (g : Generator) (steps : List Step) (runs : List (Plan × Nat)) (s : Store) :
    ∀ x ∈ history g steps runs s, Untouched s x :=
  history_inv g steps (Untouched s) (fun pl _ s' hs' x hx => untouched_trans hs' (untouched_reach pl 0 _ s' x hx))
    runs s (untouched_refl s)

end Xp.C20
