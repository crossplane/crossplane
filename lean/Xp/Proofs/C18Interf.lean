import Xp.Proofs.C18Render
/-
The three RBAC reconcilers of C18 in a `World` (other writers acting between any two API calls, an
informer cache that may lag or miss on every read, injected error classes).

Each reconciler is walked once (`*_ownOnly`), for `OnReads J`: the write is justified by reads that were
all served before the first own write.  The statements about `Justified*` in every world weaken that; the
statements about `run` under a fault plan are its instance in the plain world (`applied_of_ownOnly`), where
the own calls are `trail s (applied …)` (`ownW_plain`) and those before the first write were served by the
start store `s` (`trail_reads`), so that the write is judged on that one store (`Grantable*`, each next to
its `Justified*` with the bridge between the two).
-/
namespace Xp.C18
open Xp.Gen

theorem exec_read (s : Store) (r : Req) (h : r.isWrite = false) : (exec s r).1 = s := by
  cases r with
  | createRole _ | updateRole _ _ | createBinding _ | updateBinding _ _ => cases h
  | _ => rfl

theorem exec_getPR (s : Store) (n : String) :
    (exec s (.getPR n)).2 = (s.prs.find? (·.name = n)).elim .notFound .pr := by
  simp only [exec]
  cases s.prs.find? (·.name = n) <;> rfl

theorem exec_getXRD (s : Store) (n : String) :
    (exec s (.getXRD n)).2 = (s.xrds.find? (·.name = n)).elim .notFound .xrd := by
  simp only [exec]
  cases s.xrds.find? (·.name = n) <;> rfl

theorem exec_getRole (s : Store) (n : String) :
    (exec s (.getRole n)).2 = (s.roles.find? (·.name = n)).elim .notFound (.role · (rvOf s.roleRV n)) := by
  simp only [exec]
  cases s.roles.find? (·.name = n) <;> rfl

theorem exec_getBinding (s : Store) (n : String) :
    (exec s (.getBinding n)).2 =
      (s.bindings.find? (·.name = n)).elim .notFound (.binding · (rvOf s.bindingRV n)) := by
  simp only [exec]
  cases s.bindings.find? (·.name = n) <;> rfl

theorem find_name {α : Type} (name : α → String) (l : List α) (n : String) (x : α)
    (h : l.find? (fun y => name y = n) = some x) : name x = n := by
  have := List.find?_some h
  simpa using this

/-- the own calls that were applied so far, each with the store it was answered from -/
abbrev Hist := List (Store × Req)

theorem errResp_isErr (o : Outcome) (r : Req) : ∃ e : ErrRep, errResp o r = e.toResp := by
  cases o with
  | conflict =>
    by_cases h : r.isWrite = true
    · exact ⟨.conflict, by simp [errResp, h, ErrRep.toResp]⟩
    · exact ⟨.other, by simp [errResp, h, ErrRep.toResp]⟩
  | _ => exact ⟨.other, rfl⟩

/-- at every call `r` of `p`, `Q h r` holds of the own calls `h` applied so far; a call that is
applied may be answered from ANY store `s` (then `(s, r)` joins the history), one that is not
applied is answered with any error class -/
def OwnOnly (Q : Hist → Req → Prop) : Hist → P → Prop
  | _, .ret _ => True
  | h, .call r c =>
      (∀ s, Q h r ∧ OwnOnly Q (h ++ [(s, r)]) (c (exec s r).2)) ∧
      (∀ e : ErrRep, OwnOnly Q h (c e.toResp))

theorem ownOnly_ret (Q : Hist → Req → Prop) (h : Hist) (a : Result) : OwnOnly Q h (.ret a) := trivial

theorem ownW_ownOnly {Q : Hist → Req → Prop} {p : P} (hp : OwnOnly Q [] p) (w : World) (k : Nat) (s : Store)
    {pre : Hist} {x : Store × Req} {post : Hist} (e : ownW w k p s = pre ++ x :: post) : Q pre x.2 := by
  suffices ∀ k s h, OwnOnly Q h p → ∀ pre x post, ownW w k p s = pre ++ x :: post → Q (h ++ pre) x.2 from
    this k s [] hp pre x post e
  clear hp e
  induction p with
  | ret a => intro k s h _ pre x post e; simp [ownW] at e
  | call r c ih =>
    intro k s h ⟨hok, herr⟩ pre x post e
    -- the own call `(st, r)` comes first; `l` are the own calls after it, on the history `h ++ [(st, r)]`
    have hcons : ∀ st (l : Hist), (∀ pre x post, l = pre ++ x :: post → Q (h ++ [(st, r)] ++ pre) x.2) →
        (st, r) :: l = pre ++ x :: post → Q (h ++ pre) x.2 := by
      intro st l hl e
      rcases List.cons_eq_append_iff.1 e with ⟨rfl, e'⟩ | ⟨pre', rfl, e'⟩
      · cases e'
        simpa using (hok st).1
      · simpa using hl pre' x post e'
    unfold ownW at e
    split at e
    · simp at e
    · exact hcons _ [] (fun pre x post e => by simp at e) e
    · obtain ⟨e', he'⟩ := errResp_isErr .fail r
      rw [he'] at e
      exact ih _ _ _ _ (herr e') pre x post e
    · obtain ⟨e', he'⟩ := errResp_isErr .conflict r
      rw [he'] at e
      exact ih _ _ _ _ (herr e') pre x post e
    · split at e
      · exact ih _ _ _ _ (herr _) pre x post e
      · split at e
        · exact hcons _ _ (ih _ _ _ _ (hok _).2) e
        · exact hcons _ _ (ih _ _ _ _ (hok _).2) e

theorem OwnOnly.mono {Q Q' : Hist → Req → Prop} {h : Hist} {p : P} (hp : OwnOnly Q h p)
    (hQ : ∀ h' r, h <+: h' → Q h' r → Q' h' r) : OwnOnly Q' h p := by
  induction p generalizing h with
  | ret a => trivial
  | call r c ih =>
    exact ⟨fun s => ⟨hQ _ _ List.prefix_rfl (hp.1 s).1,
      ih _ (hp.1 s).2 fun h' r' hs => hQ h' r' ((List.prefix_append ..).trans hs)⟩, fun e => ih _ (hp.2 e) hQ⟩

theorem ownOnly_get {α : Type} {Q : Hist → Req → Prop} {h : Hist} {r : Req} {c : Resp → P}
    {mk : Store → α → Resp} {found : Store → Option α}
    (he : ∀ s, (exec s r).2 = (found s).elim .notFound (mk s))
    (hQ : Q h r) (herr : ∀ e : ErrRep, OwnOnly Q h (c e.toResp))
    (hnf : ∀ s, OwnOnly Q (h ++ [(s, r)]) (c .notFound))
    (hsome : ∀ s x, found s = some x → OwnOnly Q (h ++ [(s, r)]) (c (mk s x))) :
    OwnOnly Q h (.call r c) := by
  refine ⟨fun s => ⟨hQ, ?_⟩, herr⟩
  rw [he]
  cases hf : found s with
  | none => exact hnf s
  | some x => exact hsome s x hf

theorem ownOnly_ite {Q : Hist → Req → Prop} {h : Hist} {b : Bool} {x y : P}
    (hx : b = true → OwnOnly Q h x) (hy : b = false → OwnOnly Q h y) :
    OwnOnly Q h (if b then x else y) := by
  cases b
  · exact hy rfl
  · exact hx rfl

/-- a Create or Update as every Apply issues it: `done` goes on as `q` (on whatever the history is by
then), any other reply returns -/
theorem ownOnly_write {Q : Hist → Req → Prop} {h : Hist} (w : Req) {q : P} (hQ : Q h w)
    (hq : ∀ h', OwnOnly Q h' q) :
    OwnOnly Q h (.call w fun
      | Resp.done => q
      | Resp.conflict => .ret .requeue
      | _ => .ret .err) := by
  have key : ∀ h' (x : Resp), OwnOnly Q h' (match x with
      | Resp.done => q
      | Resp.conflict => .ret .requeue
      | _ => .ret .err) := fun h' x => by
    cases x with
    | done => exact hq h'
    | _ => trivial
  exact ⟨fun s => ⟨hQ, key _ _⟩, fun e => key _ _⟩

/-- requests that are reads, or writes of a role satisfying `W` -/
def RoleWrites (W : Role → Prop) : Req → Prop
  | .createRole x => W x
  | .updateRole x _ => W x
  | .createBinding _ => False
  | .updateBinding _ _ => False
  | _ => True

theorem RoleWrites.of_write {W : Role → Prop} {r : Req} (h : RoleWrites W r) (hw : r.isWrite = true) :
    ∃ x, W x := by
  cases r with
  | createRole x => exact ⟨x, h⟩
  | updateRole x _ => exact ⟨x, h⟩
  | createBinding _ => exact h.elim
  | updateBinding _ _ => exact h.elim
  | _ => cases hw

/-- what a role write must satisfy given the own calls so far: the role is justified (`J`), and
an Update carries the resourceVersion of a version of that role that an earlier own read was
served, that version was controllable by the role's controller and differed from the
desired role (compare-and-swap: a retry that re-reads must re-decide). No binding is written. -/
def RoleQ (J : Hist → Role → Prop) (h : Hist) : Req → Prop
  | .createRole x => J h x
  | .updateRole x rv => J h x ∧
      ∃ s' cur uid, (s', Req.getRole x.name) ∈ h ∧ s'.roles.find? (·.name = x.name) = some cur ∧
        rvOf s'.roleRV x.name = rv ∧ x.ctrl = some uid ∧ notControllable uid cur.ctrl = false ∧
        rolesDiffer cur x = true
  | .createBinding _ => False
  | .updateBinding _ _ => False
  | _ => True

theorem RoleQ.mono {J J' : Hist → Role → Prop} {h : Hist} {r : Req} (hJ : ∀ x, J h x → J' h x)
    (hq : RoleQ J h r) : RoleQ J' h r := by
  cases r with
  | createRole x => exact hJ x hq
  | updateRole x _ => exact ⟨hJ x hq.1, hq.2⟩
  | _ => exact hq

theorem RoleQ.imp {J : Hist → Role → Prop} {W : Role → Prop} {h : Hist} {r : Req} (hJ : ∀ x, J h x → W x)
    (hq : RoleQ J h r) : RoleWrites W r := by
  cases r with
  | createRole x => exact hJ x hq
  | updateRole x _ => exact hJ x hq.1
  | createBinding _ => exact hq
  | updateBinding _ _ => exact hq
  | _ => trivial

theorem no_write_of_unjustified (J : Hist → Role → Prop) (hist : Hist)
    (hq : ∀ pre x post, hist = pre ++ x :: post → RoleQ J pre x.2)
    (hno : ∀ pre r, pre ⊆ hist → ¬ J pre r) : ∀ x ∈ hist, x.2.isWrite = false := by
  intro x hx
  obtain ⟨pre, post, e⟩ := List.append_of_mem hx
  refine Bool.eq_false_iff.2 fun hw => ?_
  obtain ⟨r, hr⟩ := ((hq pre x post e).imp fun _ => id).of_write hw
  exact hno pre r (e ▸ List.subset_append_left ..) hr

/-- a justification by the own calls so far still holds after further calls: what `OnReads J` needs to give
back `J` (`OnReads.weaken`) -/
def GrowsWithHistory {α : Type} (J : Hist → α → Prop) : Prop := ∀ h h' x, h <+: h' → J h x → J h' x

/-- no own write yet -/
def Reads (h : Hist) : Prop := ∀ y ∈ h, y.2.isWrite = false

theorem Reads.nil : Reads [] := fun _ h => nomatch h

theorem Reads.one (s : Store) {r : Req} (hr : r.isWrite = false) : Reads [(s, r)] :=
  List.forall_mem_singleton.2 hr

theorem Reads.append {h l : Hist} (hh : Reads h) (hl : Reads l) : Reads (h ++ l) :=
  List.forall_mem_append.2 ⟨hh, hl⟩

/-- `J` holds already of a part of the history without own write: the form in which the reconcilers are
walked, since without interference that part was served by the start store (`OnReads.plain`) -/
def OnReads {α : Type} (J : Hist → α → Prop) (h : Hist) (x : α) : Prop :=
  ∃ h0, h0 <+: h ∧ Reads h0 ∧ J h0 x

theorem OnReads.weaken {α : Type} {J : Hist → α → Prop} (hJ : GrowsWithHistory J) {h : Hist} {x : α} :
    OnReads J h x → J h x :=
  fun ⟨_, hp, _, hj⟩ => hJ _ _ _ hp hj

/-- a read leaves the store alone, so in the plain world both kinds of call go on from `(exec s r).1` -/
theorem ite_isWrite_exec {β : Type} (r : Req) (s : Store) (f : Store → β) :
    (if r.isWrite then f (exec s r).1 else f s) = f (exec s r).1 := by
  split
  · rfl
  · rw [exec_read s r (Bool.not_eq_true _ ▸ ‹¬ _›)]

theorem runW_plain (plan : Plan) (k : Nat) (p : P) (s : Store) :
    runW (World.plain plan) k p s = run sem plan k p s := by
  unfold World.plain
  induction p generalizing k s with
  | ret a => rfl
  | call r c ih =>
    -- after unfolding, `crashBefore` is closed; the others differ in `sem.exec` written as `exec` only
    cases hk : plan k <;> simp only [runW, run, Env.none, hk, ih]
    case ok => exact ite_isWrite_exec r s fun s' => run sem plan (k+1) (c (exec s r).2) s'
    case fail => rfl
    case conflict => rfl
    case crashAfter => rfl

/-- the own calls of a run without interference: each applied request with the store it found -/
def trail (s : Store) : List Req → Hist
  | [] => []
  | r :: rs => (s, r) :: trail (exec s r).1 rs

theorem ownW_plain (plan : Plan) (k : Nat) (p : P) (s : Store) :
    ownW (World.plain plan) k p s = trail s (applied sem plan k p s) := by
  unfold World.plain
  induction p generalizing k s with
  | ret a => rfl
  | call r c ih =>
    cases hk : plan k <;> simp only [ownW, applied, trail, World.at, Env.none, hk, ih, ite_self]
    case ok => exact ite_isWrite_exec r s fun s' => (s, r) :: trail s' (applied sem plan (k+1) (c (exec s r).2) s')
    case fail => rfl
    case conflict => rfl

theorem trail_map_snd (s : Store) (rs : List Req) : (trail s rs).map (·.2) = rs := by
  induction rs generalizing s with
  | nil => rfl
  | cons r rs ih => simp [trail, ih]

theorem ownW_plain_writes (plan : Plan) (k : Nat) (p : P) (s : Store) :
    ((ownW (World.plain plan) k p s).filter (·.2.isWrite)).length =
      ((applied sem plan k p s).filter Req.isWrite).length := by
  rw [← trail_map_snd s (applied sem plan k p s), ← ownW_plain, List.filter_map, List.length_map]
  rfl

theorem trail_append_cons (s : Store) (pre : List Req) (r : Req) (post : List Req) :
    ∃ t, trail s (pre ++ r :: post) = trail s pre ++ (t, r) :: trail (exec t r).1 post := by
  induction pre generalizing s with
  | nil => exact ⟨s, rfl⟩
  | cons a pre ih =>
    obtain ⟨t, e⟩ := ih (exec s a).1
    exact ⟨t, by simp [trail, e]⟩

theorem trail_reads {s : Store} {rs : List Req} {h0 : Hist} (hp : h0 <+: trail s rs)
    (hr : Reads h0) : ∀ y ∈ h0, y.1 = s := by
  induction rs generalizing s h0 with
  | nil => rw [trail, List.prefix_nil] at hp; subst hp; simp
  | cons r rs ih =>
    cases h0 with
    | nil => simp
    | cons y h0 =>
      obtain ⟨rfl, hp'⟩ := List.cons_prefix_cons.1 hp
      rw [exec_read s r (hr _ (List.mem_cons_self ..))] at hp'
      rw [List.forall_mem_cons]
      exact ⟨rfl, ih hp' fun y hy => hr y (List.mem_cons_of_mem _ hy)⟩

theorem applied_of_ownOnly {Q : Hist → Req → Prop} {p : P} (hp : OwnOnly Q [] p) (plan : Plan) (k : Nat) (s : Store)
    {r : Req} (hr : r ∈ applied sem plan k p s) : ∃ pre, Q (trail s pre) r := by
  obtain ⟨pre, post, e⟩ := List.append_of_mem hr
  obtain ⟨t, et⟩ := trail_append_cons s pre r post
  exact ⟨pre, ownW_ownOnly hp (World.plain plan) k s (x := (t, r)) (by rw [ownW_plain, e, et])⟩

theorem OnReads.plain {α : Type} {J : Hist → α → Prop} {W : α → Prop} {s : Store} {rs : List Req} {x : α}
    (hJW : ∀ h, (∀ y ∈ h, y.1 = s) → J h x → W x) : OnReads J (trail s rs) x → W x :=
  fun ⟨h0, hp, hr, hj⟩ => hJW h0 (trail_reads hp hr) hj

/-- the Apply loop writes the roles it is given and no other; why these may be written is the caller's to say
(`OwnOnly.mono`) -/
theorem applyRoles_ownOnly (uid : String) (roles : List Role) (h : Hist) (hc : ∀ x ∈ roles, x.ctrl = some uid) :
    OwnOnly (RoleQ fun _ x => x ∈ roles) h (applyRoles uid roles) := by
  induction roles generalizing h with
  | nil => exact trivial
  | cons cr rest ih =>
    have hrest : ∀ h', OwnOnly (RoleQ fun _ x => x ∈ cr :: rest) h' (applyRoles uid rest) := fun h' =>
      (ih h' fun x hx => hc x (List.mem_cons_of_mem _ hx)).mono fun _ _ _ => RoleQ.mono fun _ => List.mem_cons_of_mem _
    -- a write of `cr`, after which the loop goes on
    have hwrite : ∀ h' w, RoleQ (fun _ x => x ∈ cr :: rest) h' w →
        OwnOnly (RoleQ fun _ x => x ∈ cr :: rest) h' (.call w fun
          | Resp.done => applyRoles uid rest
          | Resp.conflict => .ret .requeue
          | _ => .ret .err) := fun h' w hw => ownOnly_write w hw hrest
    have hcr : cr ∈ cr :: rest := List.mem_cons_self ..
    refine ownOnly_get (fun s => exec_getRole s cr.name) trivial ?_
      (fun s => hwrite _ (.createRole cr) hcr) fun s cur hf => ?_
    · intro e
      cases e with
      | notFound => exact hwrite _ (.createRole cr) hcr
      | _ => trivial
    · refine ownOnly_ite (fun _ => trivial) fun hnc => ownOnly_ite (fun _ => hrest _) fun hd => ?_
      exact hwrite _ (.updateRole cr _) ⟨hcr, s, cur, uid,
        List.mem_append_right _ (List.mem_singleton.2 rfl), hf, rfl, hc cr hcr, hnc, by simpa using hd⟩

/-- role `x` is justified by the own reads in `h`: a `getPR name` was served the live revision
`p`; `x` is rendered for `p` from its own references and (family label set) the members a
`listPRs` was served; and (allow-list configured) a `getRole` of the allow-list role was served
a version under which NO request of `p` is rejected (without allow-list: `p` requests nothing). -/
def JustifiedBy (cfg : Cfg) (name : String) (h : Hist) (p : PR) (x : Role) : Prop :=
  (∃ s1, (s1, Req.getPR name) ∈ h ∧ s1.prs.find? (·.name = name) = some p) ∧
  p.paused = false ∧ p.deleted = false ∧
  (∃ ms, (p.family = "" ∨ ∃ s2, (s2, Req.listPRs p.family) ∈ h ∧ ms = s2.prs.filter (·.family = p.family)) ∧
    x ∈ renderRoles p (resourcesOf p ms)) ∧
  (match cfg.allowRole with
   | none => expand p.requests = []
   | some a => ∃ s3 ar, (s3, Req.getRole a) ∈ h ∧ s3.roles.find? (·.name = a) = some ar ∧
       validate ar.rules p.requests = [])

def Justified (cfg : Cfg) (name : String) (h : Hist) (x : Role) : Prop := ∃ p, JustifiedBy cfg name h p x

theorem justified_mono (cfg : Cfg) (name : String) : GrowsWithHistory (Justified cfg name) := by
  intro h h' x hp ⟨p, ⟨s1, h1, hf⟩, hpa, hde, ⟨ms, hms, hx⟩, hv⟩
  have hsub := hp.subset
  refine ⟨p, ⟨s1, hsub h1, hf⟩, hpa, hde, ⟨ms, ?_, hx⟩, ?_⟩
  · exact hms.imp id fun ⟨s2, h2, e⟩ => ⟨s2, hsub h2, e⟩
  · cases ha : cfg.allowRole with
    | none => simpa [ha] using hv
    | some a =>
      simp only [ha] at hv ⊢
      obtain ⟨s3, ar, h3, hfa, hval⟩ := hv
      exact ⟨s3, ar, hsub h3, hfa, hval⟩

/-- `l` are the own calls the family part adds to the history: none, or the List -/
theorem ownOnly_withFamily {Q : Hist → Req → Prop} {h : Hist} {p : PR} {k : List Resource → P}
    (hQ : Q h (.listPRs p.family))
    (hk : ∀ l ms, Reads l →
      (p.family = "" ∨ ∃ s2, (s2, Req.listPRs p.family) ∈ l ∧ ms = s2.prs.filter (·.family = p.family)) →
      OwnOnly Q (h ++ l) (k (resourcesOf p ms))) :
    OwnOnly Q h (withFamily p k) := by
  unfold withFamily
  split <;> rename_i hfam
  · have := hk [] [] .nil (Or.inl hfam)
    rwa [resourcesOf, if_pos hfam, List.append_nil] at this
  · refine ⟨fun s2 => ⟨hQ, ?_⟩, fun e => by cases e <;> exact trivial⟩
    have := hk [(s2, .listPRs p.family)] _ (.one _ rfl) (Or.inr ⟨s2, List.mem_singleton.2 rfl, rfl⟩)
    rwa [resourcesOf, if_neg hfam] at this

theorem ownOnly_withValidation {Q : Hist → Req → Prop} {h : Hist} {cfg : Cfg} {p : PR} {k : List Rule → P}
    (hQ : ∀ a, Q h (.getRole a))
    (hk : ∀ l rej, Reads l →
      (match cfg.allowRole with
       | none => expand p.requests = rej
       | some a => ∃ s3 ar, (s3, Req.getRole a) ∈ l ∧ s3.roles.find? (·.name = a) = some ar ∧
           validate ar.rules p.requests = rej) →
      OwnOnly Q (h ++ l) (k rej)) :
    OwnOnly Q h (withValidation cfg p k) := by
  unfold withValidation
  revert hk
  cases cfg.allowRole with
  | none => exact fun hk => List.append_nil h ▸ hk [] _ .nil rfl
  | some a =>
    intro hk
    refine ownOnly_get (fun s => exec_getRole s a) (hQ a) (fun e => by cases e <;> exact trivial) (fun _ => trivial) fun s3 ar hr => ?_
    exact hk [(s3, .getRole a)] _ (.one _ rfl) ⟨s3, ar, List.mem_singleton.2 rfl, hr, rfl⟩

theorem reconcile_ownOnly (cfg : Cfg) (name : String) :
    OwnOnly (RoleQ (OnReads (Justified cfg name))) [] (reconcile cfg name) := by
  refine ownOnly_get (fun s => exec_getPR s name) trivial (fun e => by cases e <;> exact trivial) (fun _ => trivial)
    fun s1 p hf => ?_
  refine ownOnly_ite (fun _ => trivial) fun hpa => ownOnly_ite (fun _ => trivial) fun hde => ?_
  refine ownOnly_withFamily trivial fun l1 ms hl1 hms => ?_
  refine ownOnly_withValidation (fun _ => trivial) fun l2 rej hl2 hrej => ?_
  cases rej with
  | cons _ _ => trivial
  | nil =>
    -- the Get, the List and the validator's Get are the whole history here: justified on reads
    refine (applyRoles_ownOnly _ _ _ (renderRoles_ctrl p _)).mono fun h' _ hs => RoleQ.mono fun x hx =>
      ⟨_, hs, ((Reads.one s1 rfl).append hl1).append hl2, p,
        ⟨s1, List.mem_append_left _ (List.mem_append_left _ (List.mem_singleton.2 rfl)), hf⟩, hpa, hde, ⟨ms, ?_, hx⟩, ?_⟩
    · exact hms.imp id fun ⟨s2, h2, e⟩ => ⟨s2, List.mem_append_left _ (List.mem_append_right _ h2), e⟩
    · revert hrej
      cases cfg.allowRole with
      | none => exact id
      | some a => exact fun ⟨s3, ar, h3, e⟩ => ⟨s3, ar, List.mem_append_right _ h3, e⟩

/-- the verdict of the configured validator on the store: `none` = validation failed
(allow-list role cannot be read), `some l` = the rejected rules -/
def rejectedIn (cfg : Cfg) (s : Store) (p : PR) : Option (List Rule) :=
  match cfg.allowRole with
  | none => some (expand p.requests)
  | some a => (s.roles.find? (·.name = a)).map fun ar => validate ar.rules p.requests

/-- `x` is a role the reconciler may write for revision `name` on store `s`: the revision
is live, every request was granted, and `x` is one of its rendered roles -/
def Grantable (cfg : Cfg) (s : Store) (name : String) (x : Role) : Prop :=
  ∃ p, s.prs.find? (·.name = name) = some p ∧ p.paused = false ∧ p.deleted = false ∧
    rejectedIn cfg s p = some [] ∧ x ∈ renderRoles p (resourcesFor s p)

theorem grantable_of_justified {cfg : Cfg} {name : String} {s : Store} {x : Role} (h : Hist) (hs : ∀ y ∈ h, y.1 = s)
    (hj : Justified cfg name h x) : Grantable cfg s name x := by
  obtain ⟨p, ⟨s1, h1, hf⟩, hpa, hde, ⟨ms, hms, hx⟩, hv⟩ := hj
  obtain rfl : s1 = s := hs _ h1
  refine ⟨p, hf, hpa, hde, ?_, ?_⟩
  · unfold rejectedIn
    revert hv
    cases cfg.allowRole with
    | none => exact fun hv => congrArg some hv
    | some a =>
      rintro ⟨s3, ar, h3, hfa, hval⟩
      obtain rfl : s3 = s1 := hs _ h3
      simp [hfa, hval]
  · rcases hms with hfam | ⟨s2, h2, rfl⟩
    · simpa [resourcesFor, resourcesOf, hfam] using hx
    · obtain rfl : s2 = s1 := hs _ h2
      exact hx

def JustifiedXRD (name : String) (h : Hist) (x : Role) : Prop :=
  ∃ s1 d, (s1, Req.getXRD name) ∈ h ∧ s1.xrds.find? (·.name = name) = some d ∧ d.deleted = false ∧
    x ∈ renderXRDRoles d

theorem justifiedXRD_mono (name : String) : GrowsWithHistory (JustifiedXRD name) := by
  intro h h' x hp ⟨s1, d, h1, hf, hd, hx⟩
  exact ⟨s1, d, hp.subset h1, hf, hd, hx⟩

theorem reconcileXRD_ownOnly (name : String) :
    OwnOnly (RoleQ (OnReads (JustifiedXRD name))) [] (reconcileXRD name) := by
  refine ownOnly_get (fun s => exec_getXRD s name) trivial (fun e => by cases e <;> exact trivial) (fun _ => trivial)
    fun s1 d hf => ?_
  refine ownOnly_ite (fun _ => trivial) fun hde => ?_
  exact (applyRoles_ownOnly _ _ _ (renderXRDRoles_ctrl d)).mono fun h' _ hs => RoleQ.mono fun x hx =>
    ⟨_, hs, .one s1 rfl, s1, d, List.mem_singleton.2 rfl, hf, hde, hx⟩

/-- `x` is a role the XRD reconciler may write for the XRD `name` on store `s`: one of the roles
rendered for that XRD, which is not being deleted -/
def GrantableXRD (s : Store) (name : String) (x : Role) : Prop :=
  ∃ d, s.xrds.find? (·.name = name) = some d ∧ d.deleted = false ∧ x ∈ renderXRDRoles d

theorem grantableXRD_of_justified {name : String} {s : Store} {x : Role} (h : Hist) (hs : ∀ y ∈ h, y.1 = s) :
    JustifiedXRD name h x → GrantableXRD s name x := by
  rintro ⟨s1, d, h1, hf, hd, hx⟩
  obtain rfl : s1 = s := hs _ h1
  exact ⟨d, hf, hd, hx⟩

/-- what a binding write must satisfy: it is THE binding of the live revision a `getPR` was
served, its subjects computed from the deployments a `listDeployments` was served; an Update
carries the resourceVersion of a served version that was controllable by the revision. -/
def BindingQ (name : String) (h : Hist) : Req → Prop
  | .createBinding b => ∃ s1 p s2, (s1, Req.getPR name) ∈ h ∧ s1.prs.find? (·.name = name) = some p ∧
      p.paused = false ∧ p.deleted = false ∧ (s2, Req.listDeployments) ∈ h ∧
      b = ⟨systemRoleName p.name, systemRoleName p.name, subjectsFor p.uid s2.deploys, some p.uid⟩
  | .updateBinding b rv => ∃ s1 p s2, (s1, Req.getPR name) ∈ h ∧ s1.prs.find? (·.name = name) = some p ∧
      p.paused = false ∧ p.deleted = false ∧ (s2, Req.listDeployments) ∈ h ∧
      b = ⟨systemRoleName p.name, systemRoleName p.name, subjectsFor p.uid s2.deploys, some p.uid⟩ ∧
      ∃ s' cur, (s', Req.getBinding b.name) ∈ h ∧ s'.bindings.find? (·.name = b.name) = some cur ∧
        rvOf s'.bindingRV b.name = rv ∧ notControllable p.uid cur.ctrl = false
  | .createRole _ => False
  | .updateRole _ _ => False
  | _ => True

/-- the one write is the last call, so every call is made on a history of reads -/
theorem reconcileBinding_ownOnly (name : String) :
    OwnOnly (fun h r => Reads h ∧ BindingQ name h r) [] (reconcileBinding name) := by
  refine ownOnly_get (fun s => exec_getPR s name) ⟨.nil, trivial⟩ (fun e => by cases e <;> exact trivial) (fun _ => trivial)
    fun s1 p hf => ?_
  refine ownOnly_ite (fun _ => trivial) fun hpa => ownOnly_ite (fun _ => trivial) fun hde => ?_
  refine ⟨fun s2 => ⟨⟨.one s1 rfl, trivial⟩, ?_⟩, fun e => by cases e <;> exact trivial⟩
  -- the Apply of the binding, on any history of reads that holds the two reads
  have hcreate : ∀ h : Hist, Reads h → (s1, Req.getPR name) ∈ h → (s2, Req.listDeployments) ∈ h →
      OwnOnly (fun h r => Reads h ∧ BindingQ name h r) h
        (.call (.createBinding ⟨systemRoleName p.name, systemRoleName p.name, subjectsFor p.uid s2.deploys, some p.uid⟩) fun
          | Resp.done => .ret .ok
          | Resp.conflict => .ret .requeue
          | _ => .ret .err) := fun h hr m1 m2 =>
    ownOnly_write _ ⟨hr, s1, p, s2, m1, hf, hpa, hde, m2, rfl⟩ fun _ => trivial
  have r2 : Reads (([] : Hist) ++ [(s1, Req.getPR name)] ++ [(s2, Req.listDeployments)]) :=
    (Reads.one s1 rfl).append (.one s2 rfl)
  have m1 : (s1, Req.getPR name) ∈ ([] : Hist) ++ [(s1, Req.getPR name)] ++ [(s2, Req.listDeployments)] :=
    List.mem_append_left _ (List.mem_singleton.2 rfl)
  have m2 : (s2, Req.listDeployments) ∈ ([] : Hist) ++ [(s1, Req.getPR name)] ++ [(s2, Req.listDeployments)] :=
    List.mem_append_right _ (List.mem_singleton.2 rfl)
  refine ownOnly_get (fun s => exec_getBinding s (systemRoleName p.name)) ⟨r2, trivial⟩ ?_
    (fun s3 => hcreate _ (r2.append (.one s3 rfl)) (List.mem_append_left _ m1) (List.mem_append_left _ m2))
    fun s3 cur hb => ?_
  · intro e
    cases e with
    | notFound => exact hcreate _ r2 m1 m2
    | _ => trivial
  · refine ownOnly_ite (fun _ => trivial) fun hnc => ownOnly_ite (fun _ => trivial) fun _ => ?_
    exact ownOnly_write (.updateBinding _ _) ⟨r2.append (.one s3 rfl), s1, p, s2, List.mem_append_left _ m1,
      hf, hpa, hde, List.mem_append_left _ m2, rfl, s3, cur, List.mem_append_right _ (List.mem_singleton.2 rfl), hb, rfl,
      hnc⟩ fun _ => trivial

/-- requests that are reads, or writes of a binding satisfying `W` -/
def BindingWrites (W : Binding → Prop) : Req → Prop
  | .createBinding b => W b
  | .updateBinding b _ => W b
  | .createRole _ => False
  | .updateRole _ _ => False
  | _ => True

/-- the one binding the reconciler may write for revision `name` on store `s` -/
def GrantableBinding (s : Store) (name : String) (b : Binding) : Prop :=
  ∃ p, s.prs.find? (·.name = name) = some p ∧ p.paused = false ∧ p.deleted = false ∧
    b = ⟨systemRoleName p.name, systemRoleName p.name, subjectsFor p.uid s.deploys, some p.uid⟩

theorem grantableBinding_of_bindingQ {name : String} {s : Store} {r : Req} (h : Hist) (hs : ∀ y ∈ h, y.1 = s)
    (hq : BindingQ name h r) : BindingWrites (GrantableBinding s name) r := by
  cases r with
  | createBinding b =>
    obtain ⟨s1, p, s2, m1, hf, hpa, hde, m2, e⟩ := hq
    obtain rfl : s1 = s := hs _ m1
    obtain rfl : s2 = s1 := hs _ m2
    exact ⟨p, hf, hpa, hde, e⟩
  | updateBinding b rv =>
    obtain ⟨s1, p, s2, m1, hf, hpa, hde, m2, e, _⟩ := hq
    obtain rfl : s1 = s := hs _ m1
    obtain rfl : s2 = s1 := hs _ m2
    exact ⟨p, hf, hpa, hde, e⟩
  | createRole _ => exact hq
  | updateRole _ _ => exact hq
  | _ => trivial

/-- a history of reconciles of the same revision, each under its own fault plan, with the
controller-local state lost in between (crash / requeue / restart) -/
def runPlans (cfg : Cfg) (name : String) : List Plan → Store → Store
  | [], s => s
  | pl :: rest, s => runPlans cfg name rest (run sem pl 0 (reconcile cfg name) s).1

/-! example data of the non-vacuity examples of Props/C18; here because two of them share the run
`exStore_granted_writes` -/

def exPR (reqs : List PolicyRule) : PR :=
  { name := "p", uid := "u", paused := false, deleted := false, family := "", org := some ("r", "o"),
    refs := [⟨"apiextensions.k8s.io/v1", "CustomResourceDefinition", "widgets.example.org"⟩], requests := reqs }

def exStore (reqs : List PolicyRule) : Store :=
  { prs := [exPR reqs], xrds := [], deploys := [],
    roles := [⟨"allow", [], [⟨["get"], ["g"], ["r"], [], []⟩], none⟩], bindings := [] }

theorem exStore_granted_writes :
    ((applied sem Plan.allOk 0 (reconcile ⟨some "allow"⟩ "p") (exStore [⟨["get"], ["g"], ["r"], ["n"], []⟩])).filter
      Req.isWrite).length = 3 := by decide +kernel

end Xp.C18
