import Xp.Proofs.C19Inv
import Xp.Model.C19Skel
/-
C19 — "deleting the user releases the used", the progress half: ONE fault-free reconcile, run in
isolation, of a Usage whose deletion was requested and which is the last Usage of its used
resource removes the in-use label and lets the Usage go (`release_run`, `releasedStore`).
-/
namespace Xp.C19

theorem updR_reply_of_rv {s : Store} {q x : Res} (hg : s.getR q.group q.kind q.name = some x) (hrv : x.rv = q.rv) :
    ∃ r', (s.updR q).2 = .res r' := by
  unfold Store.updR
  simp only [hg, hrv, ne_eq, not_true_eq_false, if_false]
  split
  · exact ⟨_, rfl⟩
  · exact ⟨_, rfl⟩

/-- what the deletion reconcile of the last Usage of `r` leaves behind, as a closed term -/
def releasedStore (s : Store) (x : Usage) (r : Res) : Store :=
  (((s.updR { r with inUse := false }).1).dropU x.name).bump

section
-- the definitions one call of the run unfolds to. The functions that are one large `match` are unfolded by their
-- defining equation (`eq_def`; simp then reduces the match on the constructors at hand): their per-branch equation
-- lemmas (44 for `Thread.next`) would otherwise be generated here for this one proof, which is much slower.
attribute [local simp] Sys.exec.eq_def Sys.thread? Sys.finish Thread.step Thread.request.eq_def Store.exec.eq_def
  staleResp Thread.next.eq_def Thread.afterGet Thread.afterOf Thread.afterResolve Thread.afterUnlabel Thread.goto
  Store.updU

/-- the run, call by call, and the hypothesis that decides each branch: start (`hmax`); Get the
Usage (`hx`; its apiVersion parses, `hgv`; spec.of and spec.by are resolved, `hof`, `hby`; its deletion
was requested, `hdel`); only for a composed Usage with a user: Get the using resource, NotFound
(`hby`); Get the used resource (`hr`); List, fewer than two (`hcnt`); Update removing the label,
answered with the resource (`hres`); RemoveFinalizer, with which the Usage goes (`hfin`, `hne`).
That is five or six calls; `Sys.finish` stops once the reconcile is over, so any fuel from 6 on -
the statement's 7 - gives the same system. -/
theorem release_run (maxc : Nat) (s : Store) (x : Usage) (r : Res) (g : String) (hmax : 0 < maxc)
    (hx : s.getU x.name = some x) (hdel : x.deleting = true) (hfin : x.fin = true)
    (hgv : parseGV x.of.av = some g) (hof : x.of.name ≠ "")
    (hby : ∀ b, x.by_ = some b → b.name ≠ "" ∧ (x.composed = true → s.getR (groupOf b.av) b.kind b.name = none))
    (hr : s.getR (groupOf x.of.av) x.of.kind x.of.name = some r)
    (hcnt : s.countU (indexValue x.of.av x.of.kind x.of.name) < 2) :
    Sys.finish x.name 7 ((⟨s, [], maxc⟩ : Sys).exec (.start x.name)).1 = ⟨releasedStore s x r, [], maxc⟩ := by
  have h0 : ¬ (0 ≥ maxc) := by omega
  obtain ⟨r', hres⟩ := updR_reply_of_rv (q := { r with inUse := false }) (x := r) (getR_self hr) rfl
  have hx1 : (s.updR { r with inUse := false }).1.getU x.name = some x := by
    unfold Store.getU; rw [updR_usages]; exact hx
  have hne : ∀ y : Usage, y.fin = false → (y.onto x = x) = False := by
    intro y hy
    simp only [eq_iff_iff, iff_false]
    intro h
    have := congrArg Usage.fin h
    simp [Usage.onto, hfin, hy] at this
  unfold releasedStore
  cases hb : x.by_ with
  | none =>
    simp [h0, hx, hgv, hof, hb, hdel, hr, hcnt, hfin, hres, hx1, hne]
  | some b =>
    obtain ⟨hbn, hbu⟩ := hby b hb
    cases hc : x.composed <;> simp [h0, hx, hgv, hof, hb, hbn, hc, hbu, hdel, hr, hcnt, hfin, hres, hx1, hne]

end

theorem released_usage_gone (s : Store) (x : Usage) (r : Res) : (releasedStore s x r).getU x.name = none := by
  simp [releasedStore, Store.getU, Store.dropU, List.find?_eq_none]

theorem released_unlabelled {s : Store} (hs : StoreInv s) (x : Usage) {r : Res}
    (hr : s.getR r.group r.kind r.name = some r) :
    (∃ r' ∈ (releasedStore s x r).res, r'.key = r.key) ∧ ∀ r' ∈ (releasedStore s x r).res, r'.key = r.key → r'.inUse = false := by
  obtain ⟨r', hres⟩ := updR_reply_of_rv (q := { r with inUse := false }) hr rfl
  exact (hres ▸ updR_spec s { r with inUse := false }).written hs

end Xp.C19
