import Xp.Proofs.C01
/-
C01, quiescence of the function composer: the settled store `Settled` (every desired resource has its
object with exactly the desired content, the references are exactly the sorted references of
those objects, nothing else is referenced) and what the render loop and the apply loop do from one:
no name is generated, every apply is a no-op. The theorem (a fault-free reconcile returns the very
same store) is `quiescent_retry` in Props/C01.lean.
-/
namespace Xp.C01

/-- what "the composed state matches the desired state" means in the model -/
structure Settled (s : St) (names : List Named) : Prop where
  good : Good s
  fin : s.xrFin = true
  nodup : (names.map (·.d.rname)).Nodup
  rnameNe : ∀ n ∈ names, n.d.rname ≠ ""
  noGen : ∀ n ∈ names, n.gen = false
  /-- the API server accepts every desired resource (none is rejected as invalid) -/
  valid : ∀ n ∈ names, n.d.content ≠ invalidContent
  obj : ∀ n ∈ names, ∃ o ∈ s.objs, key o = nkey n ∧ o.annot = n.d.rname ∧ o.ctrl = .xr ∧
    o.content = n.d.content ∧ o.ssa = true
  refs : s.refs = refsOf names
  /-- the composer's field manager has applied the references before -/
  applied : s.xrApplied = true

theorem Settled.withMiss {s : St} {names : List Named} (h : Settled s names) (ms : List Ref) :
    Settled { s with miss := ms } names :=
  ⟨h.good.withMiss ms, h.fin, h.nodup, h.rnameNe, h.noGen, h.valid, h.obj, h.refs, h.applied⟩

theorem renderFnT_all_observed (tries : Nat) (lrv : Nat) (obs : Obs) (k : List Named → P) :
    ∀ (ns : List Named) (fresh : List String) (acc : List Named),
      (∀ n ∈ ns, n.gen = false ∧ ∃ o, obsLookup obs n.d.rname = some o ∧ o.name = n.name) →
      renderFnT tries lrv obs (ns.map (·.d)) fresh acc k = k (acc.reverse ++ ns) := by
  intro ns
  induction ns with
  | nil => intro fresh acc _; simp [renderFnT]
  | cons n ns ih =>
    intro fresh acc h
    obtain ⟨hgen, o, ho, hnm⟩ := h n (List.mem_cons_self ..)
    simp only [List.map_cons, renderFnT, ho]
    rw [ih fresh _ (fun x hx => h x (List.mem_cons_of_mem _ hx))]
    have : (⟨n.d, o.name, false⟩ : Named) = n := by
      cases n
      cases hgen
      cases hnm
      rfl
    simp [this]

theorem exec_apply_some {s : St} {k n a : String} {c : Nat} {o : CObj} (h : findObj s.objs k n = some o)
    (hc : o.ctrl ≠ .other) (hv : c ≠ invalidContent) : exec s (.apply k n a c) =
      ({ s with objs := mapObj s.objs k n (fun o => { o with annot := a, ctrl := .xr, content := c, ssa := true }) }, .ok) := by
  simp [exec, h, hc, hv]

theorem exec_apply_settled {s : St} {names : List Named} (h : Settled s names) (n : Named) (hn : n ∈ names) :
    exec s (.apply n.d.kind n.name n.d.rname n.d.content) = (s, .ok) := by
  obtain ⟨o, ho, hk, ha, hc, hct, hs⟩ := h.obj n hn
  have hf : findObj s.objs n.d.kind n.name = some o := findObj_of_key h.good.nodup ho hk
  have hne : o.ctrl ≠ .other := by rw [hc]; decide
  -- the apply writes what the object already carries
  have hsame : { o with annot := n.d.rname, ctrl := .xr, content := n.d.content, ssa := true } = o := by
    cases o
    cases ha
    cases hc
    cases hct
    cases hs
    rfl
  rw [exec_apply_some hf hne (h.valid n hn), mapObj_fix h.good.nodup hf hsame]

theorem runOk_applyFn_settled {s : St} {names : List Named} (h : Settled s names) (lrv : Nat) (k : Bool → P) :
    ∀ (l : List Named) (b : Bool), (∀ n ∈ l, n ∈ names) → runOk (applyFn lrv l b k) s = runOk (k b) s := by
  intro l
  induction l with
  | nil => intro b _; rfl
  | cons n l ih =>
    intro b hl
    simp only [applyFn, wcall]
    rw [runOk_call, exec_apply_settled h n (hl n (List.mem_cons_self ..))]
    simp only []
    exact ih b (fun x hx => hl x (List.mem_cons_of_mem _ hx))

end Xp.C01
