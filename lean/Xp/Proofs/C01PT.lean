import Xp.Proofs.C01
/-
C01, the P&T composer (named templates): same invariant `Good`, different phases: AssociateTemplates with
`Ready` as its loop invariant, render (`Walker.renderPTT`, with `REntry` for what it knows of an entry), the
reference write by `Mid.of_ready`, the rest by `Mid.safe`; their assembly (`safe_composePTT`), and `safe_reconcileT_of`:
`Reconciler.Reconcile` with either composer. Then the histories of reconciles with a set of cache misses
per reconcile (`reachRounds`, `reachRoundsT`).
-/
namespace Xp.C01

theorem assocKeyed : Keyed (fun k l => assocLookup l k) fun k v l => assocInsert l k v :=
  .of_find? (fun _ _ => rfl) fun _ _ _ _ _ => rfl

theorem assocLookup_insert_self (a : Assoc) (n : String) (r : Ref) : assocLookup (assocInsert a n r) n = some r :=
  assocKeyed.get_set_self n r a

theorem assocLookup_insert_ne (a : Assoc) (n t : String) (r : Ref) (h : t ≠ n) :
    assocLookup (assocInsert a n r) t = assocLookup a t :=
  assocKeyed.get_set_ne h r a

/-! the three moves of AssociateTemplates keep `Ready`, whatever the record `look` is -/

section ready
variable {s0 s : St} {ds : List Desired} {look : String → Option Ref} {done : List Ref} {r : Ref}

theorem ready_nil {s : St} (hg : Good s) (ds : List Desired) : Ready s s ds (assocLookup []) [] :=
  ⟨Shrunk.rfl' hg.nodup, nofun, fun _ _ h => (nomatch h), fun _ _ h => (nomatch h), fun _ _ h => by simp [assocLookup] at h⟩

theorem Ready.skip (hg0 : Good s0) (h : Ready s0 s ds look done) (hr0 : r ∈ s0.refs)
    (hno : r.name = "" ∨ findObj s.objs r.kind r.name = none) : Ready s0 s ds look (done ++ [r]) := by
  have hr : ∀ o ∈ s.objs, key o ≠ r := by
    rcases hno with hn | hf
    · exact fun o ho hko => (h.sh.good hg0).named o ho ((congrArg Ref.name hko).trans hn)
    · exact findObj_ref_none hf
  have hold : ∀ o ∈ s.objs, key o ∈ done ++ [r] → key o ∈ done :=
    fun o ho hk => (mem_snoc hk).resolve_right (hr o ho)
  exact ⟨h.sh, fun x hx => (mem_snoc hx).elim (h.refs x) (· ▸ hr0), fun o ho hk => h.kept o ho (hold o ho hk),
    fun o ho hk => h.gone o ho (hold o ho hk), h.bwd⟩

theorem Ready.insert (hg0 : Good s0) (h : Ready s0 s ds look done) (hr : r ∈ s0.refs)
    {o : CObj} (hf : findObj s.objs r.kind r.name = some o) (ha : o.annot ≠ "") (ht : wanted ds o.annot = true)
    {look' : String → Option Ref} (hself : look' o.annot = some r) (hother : ∀ t, t ≠ o.annot → look' t = look t) :
    Ready s0 s ds look' (done ++ [r]) := by
  obtain ⟨hm, hko⟩ := findObj_ref_some hf
  have hg := h.sh.good hg0
  -- an object behind a processed reference with the same annotation is `o` itself
  have hsame : ∀ o2 ∈ s.objs, key o2 ∈ done ++ [r] → o2.annot = o.annot → o2 = o := by
    intro o2 ho2 hk2 he
    rcases mem_snoc hk2 with hk2 | hk2
    · exact hg.obsUniq o2 ho2 o hm (h.sh.refs ▸ h.refs _ hk2) (h.sh.refs ▸ hko ▸ hr) he (by rw [he]; exact ha)
    · exact eq_of_key_eq hg.nodup ho2 hm (hk2.trans hko.symm)
  refine ⟨h.sh, fun x hx => (mem_snoc hx).elim (h.refs x) (· ▸ hr), ?_, ?_, ?_⟩
  · intro o2 ho2 hk2 hc2 ht2
    by_cases he : o2.annot = o.annot
    · rw [hsame o2 ho2 hk2 he, hself, hko]
    · rw [hother _ he]
      rcases mem_snoc hk2 with hk2' | hk2'
      · exact h.kept o2 ho2 hk2' hc2 ht2
      · exact absurd (congrArg CObj.annot (eq_of_key_eq hg.nodup ho2 hm (hk2'.trans hko.symm))) he
  · intro o2 ho2 hk2 hc2 ht2
    rcases mem_snoc hk2 with hk2' | hk2'
    · exact h.gone o2 ho2 hk2' hc2 ht2
    · exact absurd (eq_of_key_eq hg.nodup ho2 hm (hk2'.trans hko.symm) ▸ ht) ht2
  · intro t r2 hl
    by_cases he : t = o.annot
    · subst he
      cases hself.symm.trans hl
      obtain ⟨o0, ho0, hk0, ha0, _⟩ := h.sh.sub o hm
      exact ⟨o0, ho0, hk0.symm.trans hko, ha0.symm⟩
    · exact h.bwd t r2 (hother t he ▸ hl)

theorem Ready.delete (hg0 : Good s0) (h : Ready s0 s ds look done) (hr : r ∈ s0.refs) {o : CObj}
    (hf : findObj s.objs r.kind r.name = some o) (ht : wanted ds o.annot ≠ true) (hc : o.ctrl ≠ .other) :
    Ready s0 (exec s (.delete o.kind o.name)).1 ds look (done ++ [r]) := by
  obtain ⟨hm, hko⟩ := findObj_ref_some hf
  have hg := h.sh.good hg0
  obtain ⟨hsh, hdead⟩ := exec_delete_shrunk s hg.nodup o.kind o.name
    (fun x hx hkx => eq_of_key_eq hg.nodup hx hm hkx ▸ hc)
  -- an object of the new store behind `r` is what is left of `o`
  have hleft : ∀ o2 ∈ (exec s (.delete o.kind o.name)).1.objs, key o2 = r → o2.annot = o.annot ∧ o2.deleting = true := by
    intro o2 ho2 hk2
    obtain ⟨o1, ho1, hk12, ha12, _, _⟩ := hsh.sub o2 ho2
    rw [ha12, eq_of_key_eq hg.nodup ho1 hm (hk12.symm.trans (hk2.trans hko.symm))]
    exact ⟨rfl, hdead o2 ho2 (hk2.trans hko.symm)⟩
  refine ⟨h.sh.trans hsh, fun x hx => (mem_snoc hx).elim (h.refs x) (· ▸ hr), ?_, ?_, h.bwd⟩
  · intro o2 ho2 hk2 hc2 ht2
    obtain ⟨o1, ho1, hk12, ha12, hc12, _⟩ := hsh.sub o2 ho2
    rcases mem_snoc hk2 with hk2' | hk2'
    · rw [ha12, hk12]; exact h.kept o1 ho1 (hk12 ▸ hk2') (hc12 ▸ hc2) (ha12 ▸ ht2)
    · exact absurd ((hleft o2 ho2 hk2').1 ▸ ht2) ht
  · intro o2 ho2 hk2 hc2 ht2
    obtain ⟨o1, ho1, hk12, ha12, hc12, hd12⟩ := hsh.sub o2 ho2
    rcases mem_snoc hk2 with hk2' | hk2'
    · cases hd2 : o2.deleting with
      | true => rfl
      | false => exact hd2 ▸ hd12 hd2 ▸ h.gone o1 ho1 (hk12 ▸ hk2') (hc12 ▸ hc2) (ha12 ▸ ht2)
    · exact (hleft o2 ho2 hk2').2

end ready

theorem safe_associatePT {Inv : St → Prop} (R : Ref → Prop) (J : List Ref → Assoc → St → Prop) (lrv : Nat) (tmpl : List Desired)
    (hInv : ∀ {done a s}, J done a s → Inv s)
    (hskip : ∀ {done a s} r, J done a s → R r → (r.name = "" ∨ findObj s.objs r.kind r.name = none) → J (done ++ [r]) a s)
    (hins : ∀ {done a s} r o, J done a s → R r → findObj s.objs r.kind r.name = some o → o.annot ≠ "" →
      wanted tmpl o.annot = true → J (done ++ [r]) (assocInsert a o.annot r) s)
    (hdel : ∀ {done a s} r o, J done a s → R r → findObj s.objs r.kind r.name = some o → o.annot ≠ "" →
      wanted tmpl o.annot ≠ true → o.ctrl ≠ .other → J (done ++ [r]) a (exec s (.delete o.kind o.name)).1)
    (k : Assoc → P) :
    ∀ (rs done : List Ref) (acc : Assoc) (s : St), (∀ r ∈ rs, R r) → J done acc s →
      (∀ a s', J (done ++ rs) a s' → Safe sem Inv (k a) s') →
      Safe sem Inv (associatePT lrv tmpl rs acc k) s :=
  associatePT_rule (Safe sem Inv) R J lrv tmpl (fun hj => safe_readThrough (hInv hj))
    (fun hj => safe_onError (hInv hj) _) hskip hins
    (fun r o p hj hr _ hf ha ht hc hp =>
      have hj' := hdel r o hj hr hf ha ht hc
      safe_collect (hInv hj) lrv o p (hInv hj') (hp hj')) k

/-- a rendered template, or one left unrendered because no name could be generated -/
def REntry (s : St) (a : Assoc) (e : Rendered) : Prop :=
  e.rendered = true ∧ Slot s (assocLookup a) e.d e.name ∨
  e.rendered = false ∧ e.name = "" ∧ assocLookup a e.d.rname = none

theorem exec_updateXR_stale {s : St} {rv : Nat} (h : rv ≠ s.xrRv) (ver : String) (refs : List Ref) :
    exec s (.updateXR rv ver refs) = (s, .conflict) := by simp [exec, h]

theorem safe_updateXR_stale {Inv : St → Prop} {s : St} (h : Inv s) {rv : Nat} (hne : rv ≠ s.xrRv) (lrv : Nat) (ver : String)
    (refs : List Ref) (k : Resp → P) : Safe sem Inv (wcall lrv (.updateXR rv ver refs) k) s := by
  apply safe_wcall h
  · rw [exec_updateXR_stale hne]; exact h
  · intro _ h2; rw [exec_updateXR_stale hne] at h2; exact absurd rfl h2

theorem exec_updateXR_refs (s : St) (ver : String) (refs : List Ref) :
    (exec s (.updateXR s.xrRv ver refs)).1.refs = refs := by
  simp only [exec, ne_eq, not_true_eq_false, if_false]
  split
  · rename_i h; exact h.1.symm
  · rfl

theorem exec_updateXR_objs (s : St) (rv : Nat) (ver : String) (refs : List Ref) :
    (exec s (.updateXR rv ver refs)).1.objs = s.objs := by
  simp only [exec]
  repeat' split
  all_goals rfl

structure TmplOK (tmpl : List Desired) (fresh : List String) : Prop where
  nodup : (tmpl.map (·.rname)).Nodup
  fresh : ∀ x ∈ fresh, x ≠ ""

theorem safe_composePTT {s : St} (hg : Good s) (tries : Nat) (lrv : Nat) (tmpl : List Desired) (fresh : List String) (ver : String)
    (ht : TmplOK tmpl fresh) (hfm : FreshAvoids s.miss fresh) : Safe sem Good (composePTT tries lrv s.refs tmpl fresh ver) s := by
  unfold composePTT
  apply safe_associatePT (· ∈ s.refs) (fun done a s' => Ready s s' tmpl (assocLookup a) done) lrv tmpl (fun h => h.sh.good hg)
    (fun _ h hr hno => h.skip hg hr hno)
    (fun _ _ h hr hf ha ht => h.insert hg hr hf ha ht (assocLookup_insert_self ..) fun t => assocLookup_insert_ne _ _ t _)
    (fun _ _ h hr hf _ ht hc => h.delete hg hr hf ht hc) _ s.refs [] [] s (fun r h => h) (ready_nil hg tmpl)
  · intro a s1 hready
    simp only [List.nil_append] at hready
    have hg1 := hready.sh.good hg
    refine (safe_walker Good).renderPTT tries lrv a tmpl fresh _ (Cands s1.miss) (fun _ _ h => h.tail)
      ⟨ht.fresh, hready.sh.miss ▸ hfm⟩ (REntry s1 a)
      (fun d r hl hkd => Or.inl ⟨rfl, Or.inl (hl.trans (by rw [← hkd]))⟩)
      (fun d n rest hl hc e => Or.inl ⟨rfl, Or.inr ⟨hl, hc.free e⟩⟩)
      (fun d hl => Or.inr ⟨rfl, rfl, hl⟩) (fun rs hent hds _ => ?_) hg1
    -- the Update of the references carries `lrv`: the API server rejects it unless that is the XR's resourceVersion
    by_cases hrv : lrv = s1.xrRv
    · subst hrv
      -- an unrendered template refers to no object: none has an empty name
      have hslot : ∀ e ∈ rs, assocLookup a e.d.rname = some ⟨e.d.kind, e.name⟩ ∨
          assocLookup a e.d.rname = none ∧ findObj s1.objs e.d.kind e.name = none := by
        intro e he
        rcases hent e he with ⟨_, hs⟩ | ⟨_, hn, hl⟩
        · exact hs.imp_right fun h => ⟨h.1, h.2.1⟩
        · refine Or.inr ⟨hl, ?_⟩
          cases hf : findObj s1.objs e.d.kind e.name with
          | none => rfl
          | some o => exact absurd ((findObj_some hf).2.2.trans hn) (hg1.named o (findObj_some hf).1)
      have hmid := Mid.of_ready hg hready ht.nodup (exec_updateXR_objs s1 s1.xrRv ver (rs.map rkey)) (exec_foreign0 ..) hds
        (fun r => by rw [exec_updateXR_refs, List.mem_map]; exact ⟨fun ⟨e, he, h⟩ => ⟨e, he, h.symm⟩, fun ⟨e, he, h⟩ => ⟨e, he, h.symm⟩⟩) hslot
      apply safe_wcall hg1 _ _ _ hmid.good
      intro _ _
      -- from here on every request keeps `Mid`, whatever the replies
      refine hmid.safe (issues_applyPT _ _ trivial (fun synced => ?_) rs true fun e he hren => ?_)
      · refine Issues.call _ _ trivial fun x => ?_
        cases x with
        | xr _ _ _ => exact issues_wcall _ _ _ trivial trivial fun _ => issues_finish _ _ trivial
        | _ => exact issues_onErrorO_status _ trivial
      · have hw : (e.d.rname, rkey e) ∈ rs.map (fun e => (e.d.rname, rkey e)) ∧ e.name ≠ "" := by
          refine ⟨List.mem_map.mpr ⟨e, he, rfl⟩, ?_⟩
          rcases hent e he with ⟨_, hs⟩ | ⟨hf, _⟩
          · exact hs.name_ne hg hready
          · rw [hren] at hf; cases hf
        exact ⟨trivial, hw, hw⟩
    · exact safe_updateXR_stale hg1 hrv _ _ _ _

/-- what a reconcile is allowed to assume about its nondeterministic inputs, `miss` being the
set of composed resources missing from the informer cache while it runs -/
def ModeOK (miss : List Ref) : Mode → Prop
  -- the function output is a map with stable kinds (`OutOK`; H1 of DESIGN.md chapter 6); names generated are non-empty and none is
  -- the name of an object missing from the cache; loop orders enumerate their map
  | .fn out ch => OutOK out ∧ ChOK ch ∧ FreshAvoids miss ch.fresh
  -- template names are distinct; names generated are non-empty and none is the name of an object
  -- missing from the cache
  | .pt tmpl fresh _ => TmplOK tmpl fresh ∧ FreshAvoids miss fresh

/-- the composer starts from a good store with the references and cache misses of `s`: the same store, or the
one with the finalizer added -/
theorem safe_reconcileT_of {s : St} (hg : Good s) (tries : Nat) (m : Mode) (hm : ModeOK s.miss m) :
    Safe sem Good (reconcileT tries m) s := by
  have hbody : ∀ (s' : St) (lrv : Nat), Good s' → s'.refs = s.refs → s'.miss = s.miss →
      Safe sem Good (bodyT tries m s.refs lrv) s' := by
    intro s' lrv hg' hr hmiss
    cases m with
    | fn out ch => exact hr ▸ safe_composeFnT hg' tries lrv out ch hm.1 hm.2.1 (hmiss ▸ hm.2.2)
    | pt tmpl fresh ver => exact hr ▸ safe_composePTT hg' tries lrv tmpl fresh ver hm.1 (hmiss ▸ hm.2)
  have hg1 : Good (exec s (.addFinalizer s.xrRv)).1 := by rw [exec_addFinalizer]; exact hg.congr rfl rfl rfl
  refine safe_call (exec_getXR s) hg ?_ trivial trivial
  refine (safe_walker Good).recContT tries m (fun _ => hg1) (fun _ _ => hbody s _ hg rfl rfl) (fun rv' _ _ => ?_) hg
  exact hbody _ _ hg1 (by rw [exec_addFinalizer]) (by rw [exec_addFinalizer])

/-- every store visible at some instant of a history of reconciles; each reconcile runs under
its own fault plan, with its own inputs, and with its own set of cache misses (set when the
reconcile starts; controller-local state is lost in between) -/
def reachRounds : List (List Ref × Plan × Mode) → St → List St
  | [], s => [s]
  | (ms, pl, m) :: rest, s =>
    reach sem pl 0 (reconcile m) { s with miss := ms } ++
      reachRounds rest (run sem pl 0 (reconcile m) { s with miss := ms }).1

/-- the same, the name generator of every reconcile trying `tries` candidates -/
def reachRoundsT (tries : Nat) : List (List Ref × Plan × Mode) → St → List St
  | [], s => [s]
  | (ms, pl, m) :: rest, s =>
    reach sem pl 0 (reconcileT tries m) { s with miss := ms } ++
      reachRoundsT tries rest (run sem pl 0 (reconcileT tries m) { s with miss := ms }).1

/-- the store such a history ends in -/
def runRoundsT (tries : Nat) : List (List Ref × Plan × Mode) → St → St
  | [], s => s
  | (ms, pl, m) :: rest, s => runRoundsT tries rest (run sem pl 0 (reconcileT tries m) { s with miss := ms }).1

theorem runRoundsT_mem_reachRoundsT (tries : Nat) : ∀ (h : List (List Ref × Plan × Mode)) (s : St), runRoundsT tries h s ∈ reachRoundsT tries h s := by
  intro h
  induction h with
  | nil => intro s; simp [runRoundsT, reachRoundsT]
  | cons x rest ih =>
    obtain ⟨ms, pl, m⟩ := x
    intro s
    simp only [runRoundsT, reachRoundsT, List.mem_append]
    exact Or.inr (ih _)

theorem reachRoundsT_inv (tries : Nat) (Inv : St → Prop) (ok : List Ref → Mode → Prop)
    (hmiss : ∀ s ms, Inv s → Inv { s with miss := ms })
    (hrec : ∀ (s : St) (pl : Plan) (m : Mode), Inv s → ok s.miss m → ∀ s' ∈ reach sem pl 0 (reconcileT tries m) s, Inv s') :
    ∀ (h : List (List Ref × Plan × Mode)), (∀ x ∈ h, ok x.1 x.2.2) → ∀ s, Inv s → ∀ s' ∈ reachRoundsT tries h s, Inv s' :=
  fun h hok s hs => rounds_forall (reachRoundsT tries) (fun _ _ _ => rfl) Inv Inv
    (fun _ hs _ hx => List.mem_singleton.mp hx ▸ hs) h
    (fun x hx s hs =>
      have h1 := hrec { s with miss := x.1 } x.2.1 x.2.2 (hmiss s x.1 hs) (hok x hx)
      ⟨h1, h1 _ (run_mem_reach sem x.2.1 0 _ _)⟩) s hs

theorem reachRounds_eq_one : ∀ (h : List (List Ref × Plan × Mode)) (s : St), reachRounds h s = reachRoundsT 1 h s
  | [], _ => rfl
  | (ms, pl, m) :: rest, s => by
    simp only [reachRounds, reachRoundsT, reconcileT_one', reachRounds_eq_one rest]

end Xp.C01
