import Xp.Proofs.C18Tree
/-
The rule tree of C18 against Kubernetes' "covers" and against the authorizer, for one granular
request: `granted_iff` (the tree grants what some single rule grants component-wise, `ruleGrants`)
and what a rule that grants also covers (`ruleGrants_covers`) and allows (`ruleGrants_allows`).
-/
namespace Xp.C18
open Xp.Gen

/-- the validator grants the granular sub-rule `s`: the rule Expand derives from it is
allowed by the tree built from the allow list `A` -/
def granted (A : List PolicyRule) (s : Sub) : Bool := (tree A).allowed s.toRule.path

/-- no allow-list rule carries the literal resource name `*` (defect D8 excluded) -/
def NoLiteralStar (A : List PolicyRule) : Prop := ∀ o ∈ A, wildcard ∉ o.resourceNames

/-- no allow-list rule carries the empty non-resource URL (second excluded shape) -/
def NoEmptyURL (A : List PolicyRule) : Prop := ∀ o ∈ A, "" ∉ o.nonResourceURLs

/-- allow-list rules with non-resource URLs carry no resource names (enforced for every
stored ClusterRole by the API server's ValidatePolicyRule) -/
def URLRulesNameless (A : List PolicyRule) : Prop :=
  ∀ o ∈ A, o.nonResourceURLs ≠ [] → o.resourceNames = []

/-- the request is not for the empty non-resource URL -/
def Sub.InDomain : Sub → Prop
  | .url u _ => u ≠ ""
  | .res .. => True

/-! The constants regenerated from the source (`Xp.Gen`) at the values the argument needs: Expand's wildcard is the
`*` that `covers` and the authorizer treat as "all", and the two path prefixes differ from each other and from it. -/
theorem wildcard_eq : wildcard = "*" := rfl
theorem verbAll_eq : k8sVerbAll = "*" := rfl
theorem groupAll_eq : k8sAPIGroupAll = "*" := rfl
theorem resourceAll_eq : k8sResourceAll = "*" := rfl
theorem nonResourceAll_eq : k8sNonResourceAll = "*" := rfl
theorem prefixes_differ : (prov_pathPrefixURL == prov_pathPrefixResource) = false ∧
    (prov_pathPrefixURL == wildcard) = false ∧ (prov_pathPrefixResource == prov_pathPrefixURL) = false ∧
    (prov_pathPrefixResource == wildcard) = false := by decide

theorem urlCovers_star (u : String) : urlCovers "*" u = true := by
  have h1 : endsWithStar "*" = true := by decide
  have h2 : trimRightStars "*" = "" := by decide
  have h3 : ("" : String).toList = [] := by decide
  simp [urlCovers, h1, h2, hasPrefix, h3]

theorem path_url (u v : String) (h : u ≠ "") :
    (⟨"", "", "", u, v⟩ : Rule).path = [prov_pathPrefixURL, u, v] := by
  simp [Rule.path, h]

theorem path_res (g r n v : String) :
    (⟨g, r, n, "", v⟩ : Rule).path = [prov_pathPrefixResource, g, r, n, v] := by
  simp [Rule.path]

/-- one allow-list rule grants the granular request: every component is listed literally
or as the wildcard (no names listed = the wildcard) -/
def ruleGrants (o : PolicyRule) : Sub → Bool
  | .res g rs n v =>
      o.apiGroups.any (fun x => x == g || x == wildcard) &&
      o.resources.any (fun x => x == rs || x == wildcard) &&
      (if o.resourceNames.isEmpty then [wildcard] else o.resourceNames).any
        (fun x => x == n.getD wildcard || x == wildcard) &&
      o.verbs.any (fun x => x == v || x == wildcard)
  | .url u v =>
      o.nonResourceURLs.any (fun x => x == u || x == wildcard) &&
      o.verbs.any (fun x => x == v || x == wildcard)

theorem any_eq_or_wildcard (l : List String) (v : String) :
    l.any (fun x => x == v || x == wildcard) = true ↔ ∃ x ∈ l, x = v ∨ x = "*" := by
  simp only [List.any_eq_true, Bool.or_eq_true, beq_iff_eq, wildcard_eq]

theorem ruleGrants_iff (o : PolicyRule) (s : Sub) :
    ruleGrants o s = true ↔
      match s with
      | .res g rs n v =>
          (∃ g' ∈ o.apiGroups, g' = g ∨ g' = "*") ∧ (∃ r' ∈ o.resources, r' = rs ∨ r' = "*") ∧
          (∃ n' ∈ (if o.resourceNames.isEmpty then [wildcard] else o.resourceNames),
              n' = n.getD wildcard ∨ n' = "*") ∧
          (∃ v' ∈ o.verbs, v' = v ∨ v' = "*")
      | .url u v =>
          (∃ u' ∈ o.nonResourceURLs, u' = u ∨ u' = "*") ∧ (∃ v' ∈ o.verbs, v' = v ∨ v' = "*") := by
  cases s with
  | res g rs n v => simp only [ruleGrants, Bool.and_eq_true, any_eq_or_wildcard, and_assoc]
  | url u v => simp only [ruleGrants, Bool.and_eq_true, any_eq_or_wildcard]

theorem granted_iff (A : List PolicyRule) (s : Sub) (h2 : NoEmptyURL A) (h3 : s.InDomain) :
    granted A s = true ↔ ∃ o ∈ A, ruleGrants o s = true := by
  unfold granted
  rw [tree_allowed, List.any_eq_true]
  obtain ⟨pu, pw, ru, rw'⟩ := prefixes_differ
  constructor
  · rintro ⟨r, hr, hpm⟩
    obtain ⟨o, ho, hro⟩ := (mem_expand A r).1 hr
    refine ⟨o, ho, (ruleGrants_iff o s).2 ?_⟩
    rcases (mem_expandOne o r).1 hro with ⟨u', hu', v', hv', rfl⟩ | ⟨g', hg', rs', hrs', n', hn', v', hv', rfl⟩
    · -- `Rule.path` tests the URL for emptiness: an allow rule for the empty URL would get a resource path
      have hu0 : u' ≠ "" := fun e => h2 o ho (e ▸ hu')
      rw [path_url u' v' hu0] at hpm
      cases s with
      | res g rs n v =>
        -- a URL path against a resource path: the first components differ, and neither is the wildcard
        simp only [Sub.toRule, path_res, pathMatches, pu, pw, Bool.or_self, Bool.false_and] at hpm
        exact absurd hpm (by decide)
      | url u v =>
        have hu : u ≠ "" := h3
        simp only [Sub.toRule, path_url u v hu, pathMatches, Bool.and_true, Bool.and_eq_true, Bool.or_eq_true,
          beq_iff_eq, wildcard_eq] at hpm
        exact ⟨⟨u', hu', hpm.2.1⟩, ⟨v', hv', hpm.2.2⟩⟩
    · rw [path_res] at hpm
      cases s with
      | res g rs n v =>
        simp only [Sub.toRule, path_res, pathMatches, Bool.and_true, Bool.and_eq_true, Bool.or_eq_true,
          beq_iff_eq, wildcard_eq] at hpm
        exact ⟨⟨g', hg', hpm.2.1⟩, ⟨rs', hrs', hpm.2.2.1⟩, ⟨n', hn', by simpa [wildcard_eq] using hpm.2.2.2.1⟩,
          ⟨v', hv', hpm.2.2.2.2⟩⟩
      | url u v =>
        have hu : u ≠ "" := h3
        simp only [Sub.toRule, path_url u v hu, pathMatches, ru, rw', Bool.or_self, Bool.false_and] at hpm
        exact absurd hpm (by decide)
  · rintro ⟨o, ho, hgr⟩
    have hc := (ruleGrants_iff o s).1 hgr
    cases s with
    | res g rs n v =>
      obtain ⟨⟨g', hg', hgm⟩, ⟨r', hr', hrm⟩, ⟨n', hn', hnm⟩, ⟨v', hv', hvm⟩⟩ := hc
      refine ⟨⟨g', r', n', "", v'⟩, (mem_expand A _).2 ⟨o, ho, (mem_expandOne o _).2 (Or.inr ⟨g', hg', r', hr', n', hn', v', hv', rfl⟩)⟩, ?_⟩
      simp only [Sub.toRule, path_res, pathMatches, Bool.and_true, Bool.and_eq_true, Bool.or_eq_true, beq_iff_eq, wildcard_eq]
      exact ⟨Or.inl trivial, hgm, hrm, hnm, hvm⟩
    | url u v =>
      have hu : u ≠ "" := h3
      obtain ⟨⟨u', hu', hum⟩, ⟨v', hv', hvm⟩⟩ := hc
      have hu0 : u' ≠ "" := fun e => h2 o ho (e ▸ hu')
      refine ⟨⟨"", "", "", u', v'⟩, (mem_expand A _).2 ⟨o, ho, (mem_expandOne o _).2 (Or.inl ⟨u', hu', v', hv', rfl⟩)⟩, ?_⟩
      simp only [Sub.toRule, path_url u' v' hu0, path_url u v hu, pathMatches, Bool.and_true, Bool.and_eq_true,
        Bool.or_eq_true, beq_iff_eq, wildcard_eq]
      exact ⟨Or.inl trivial, hum, hvm⟩

/-- where `NoLiteralStar` is needed: without a literal `*`, a matching name entry is the empty list
("all names") or the very name requested -/
theorem names_component (o : PolicyRule) (n : Option String) (hstar : wildcard ∉ o.resourceNames)
    (h : ∃ n' ∈ (if o.resourceNames.isEmpty then [wildcard] else o.resourceNames),
          n' = n.getD wildcard ∨ n' = "*") :
    match n with
    | none => o.resourceNames.isEmpty = true
    | some x => o.resourceNames.isEmpty = true ∨ x ∈ o.resourceNames := by
  obtain ⟨n', hn', hm⟩ := h
  by_cases he : o.resourceNames.isEmpty = true
  · cases n <;> simp [he]
  · rw [if_neg he] at hn'
    have hne : n' ≠ "*" := fun e => hstar (by rw [wildcard_eq, ← e]; exact hn')
    cases n with
    | none =>
      rcases hm with hm | hm
      · exact absurd (by simpa [wildcard_eq] using hm) hne
      · exact absurd hm hne
    | some x =>
      rcases hm with hm | hm
      · right; simpa [hm] using hn'
      · exact absurd hm hne

theorem star_or_mem {l : List String} {x v : String} (hx : x ∈ l) (hm : x = v ∨ x = "*") : "*" ∈ l ∨ v ∈ l :=
  hm.elim (fun e => .inr (e ▸ hx)) (fun e => .inl (e ▸ hx))

theorem star_or_eq {l : List String} {x v a : String} (hx : x ∈ l) (hm : x = v ∨ x = "*") (ha : v = "*" ∨ v = a) :
    ∃ y ∈ l, y = "*" ∨ y = a :=
  ⟨x, hx, hm.elim (fun e => e ▸ ha) .inl⟩

theorem ruleGrants_covers (o : PolicyRule) (s : Sub) (h1 : wildcard ∉ o.resourceNames)
    (h4 : o.nonResourceURLs ≠ [] → o.resourceNames = []) (hgr : ruleGrants o s = true) : ruleCovers o s = true := by
  have hc := (ruleGrants_iff o s).1 hgr
  cases s with
  | res g rs n v =>
    obtain ⟨⟨g', hg', hgm⟩, ⟨r', hr', hrm⟩, hn, ⟨v', hv', hvm⟩⟩ := hc
    have hN := names_component o n h1 hn
    simp only [ruleCovers, resourceCovers, Bool.and_eq_true, Bool.or_eq_true, List.contains_iff_mem,
      verbAll_eq, groupAll_eq, resourceAll_eq]
    refine ⟨⟨⟨star_or_mem hv' hvm, star_or_mem hg' hgm⟩, .inl (star_or_mem hr' hrm)⟩, ?_⟩
    · cases n with
      | none => exact hN
      | some x =>
        simp only [Bool.or_eq_true, List.contains_iff_mem]
        exact hN
  | url u v =>
    obtain ⟨⟨u', hu', hum⟩, ⟨v', hv', hvm⟩⟩ := hc
    have hne : o.nonResourceURLs ≠ [] := fun e => by rw [e] at hu'; cases hu'
    simp only [ruleCovers, Bool.and_eq_true, Bool.or_eq_true, List.contains_iff_mem, verbAll_eq,
      List.any_eq_true]
    refine ⟨⟨star_or_mem hv' hvm, ?_⟩, ?_⟩
    · simp [h4 hne]
    · refine ⟨u', hu', ?_⟩
      rcases hum with e | e
      · simp [urlCovers, e]
      · rw [e]; exact urlCovers_star u

theorem ruleGrants_allows (o : PolicyRule) (s : Sub) (h1 : wildcard ∉ o.resourceNames)
    (hgr : ruleGrants o s = true) (a : Attr) (ha : ruleAllows s.asRule a = true) : ruleAllows o a = true := by
  have hc := (ruleGrants_iff o s).1 hgr
  cases s with
  | res g rs n v =>
    obtain ⟨⟨g', hg', hgm⟩, ⟨r', hr', hrm⟩, hn, ⟨v', hv', hvm⟩⟩ := hc
    have hN := names_component o n h1 hn
    cases a with
    | nonres va pa => simp [ruleAllows, Sub.asRule] at ha
    | res va ga ra suba na =>
      simp only [ruleAllows, Sub.asRule, List.any_cons, List.any_nil, Bool.or_false, Bool.and_eq_true,
        Bool.or_eq_true, beq_iff_eq, verbAll_eq, groupAll_eq] at ha
      obtain ⟨⟨⟨hva, hga⟩, hra⟩, hna⟩ := ha
      simp only [ruleAllows, Bool.and_eq_true, List.any_eq_true, Bool.or_eq_true, beq_iff_eq,
        verbAll_eq, groupAll_eq]
      refine ⟨⟨⟨star_or_eq hv' hvm hva, star_or_eq hg' hgm hga⟩, ⟨r', hr', ?_⟩⟩, ?_⟩
      · rcases hrm with e | e
        · rw [e]; exact hra
        · rw [e]; simp [resourceMatches, resourceAll_eq]
      · cases n with
        | none => left; exact hN
        | some x =>
          simp only [Option.toList_some, List.isEmpty_cons, Bool.false_eq_true, false_or,
            List.contains_iff_mem, List.mem_singleton] at hna
          rcases hN with h | h
          · left; exact h
          · right; rw [List.contains_iff_mem, hna]; exact h
  | url u v =>
    obtain ⟨⟨u', hu', hum⟩, ⟨v', hv', hvm⟩⟩ := hc
    cases a with
    | res va ga ra suba na => simp [ruleAllows, Sub.asRule] at ha
    | nonres va pa =>
      simp only [ruleAllows, Sub.asRule, List.any_cons, List.any_nil, Bool.or_false, Bool.and_eq_true,
        Bool.or_eq_true, beq_iff_eq, verbAll_eq] at ha
      obtain ⟨hva, hua⟩ := ha
      simp only [ruleAllows, Bool.and_eq_true, List.any_eq_true, Bool.or_eq_true, beq_iff_eq, verbAll_eq]
      refine ⟨star_or_eq hv' hvm hva, ⟨u', hu', ?_⟩⟩
      · rcases hum with e | e
        · rw [e]; exact hua
        · rw [e]; simp [urlMatches, nonResourceAll_eq]

theorem toRule_mem_expandOne (q : PolicyRule) (s : Sub) (hs : s ∈ breakdown q) :
    s.toRule ∈ expandOne q := by
  rw [mem_expandOne]
  unfold breakdown at hs
  simp only [List.mem_append, List.mem_flatMap, List.mem_map] at hs
  rcases hs with ⟨g, hg, rs, hrs, v, hv, hs⟩ | ⟨u, hu, v, hv, rfl⟩
  · right
    by_cases he : q.resourceNames.isEmpty = true
    · rw [if_pos he, List.mem_singleton] at hs
      subst hs
      exact ⟨g, hg, rs, hrs, wildcard, by simp [he], v, hv, rfl⟩
    · rw [if_neg he, List.mem_map] at hs
      obtain ⟨n, hn, rfl⟩ := hs
      exact ⟨g, hg, rs, hrs, n, by simp [he, hn], v, hv, rfl⟩
  · left
    exact ⟨u, hu, v, hv, rfl⟩

theorem granted_of_validate_nil (A reqs : List PolicyRule) (h : validate A reqs = [])
    (q : PolicyRule) (hq : q ∈ reqs) (s : Sub) (hs : s ∈ breakdown q) : granted A s = true := by
  unfold validate at h
  rw [List.filter_eq_nil_iff] at h
  have hm : s.toRule ∈ expand reqs := (mem_expand reqs _).2 ⟨q, hq, toRule_mem_expandOne q s hs⟩
  have := h _ hm
  simpa [granted] using this

end Xp.C18
