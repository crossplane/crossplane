import Xp.Proofs.C17Trace
/-
C17: Sort. One level of the depth-first search `visit`, for any `leave` that appends the finished node,
over an arbitrary neighbour function, and sufficiency of its fuel (`visit_step`); what a
dependencies-first list implies (`TopoRev.*`); and Sort WITHOUT the assumption that the empty string is
not a node identifier.

Go's `visit` writes a finished node into the first slot of the pre-sized `results` slice that
still holds "" (the free-slot marker). A node whose identifier IS "" therefore never occupies a
slot: the write leaves the slice as it was and the next finished node takes the same slot.
`finish` (Model/C17.lean) mirrors that. Here: the search with an ideal `leave` (`leaveI`: always
appends) satisfies the specification for EVERY graph, and the real search is the ideal one with the
empty identifier filtered out of the results (`sortFrom_sim`): the same error, the same visited set,
the same cycle verdict; on success the result is a dependencies-first order of all nodes from which ""
was taken out, padded with "" (the unused slot) at the end (`sortG_spec`).
-/
namespace Xp.C17

theorem Reach.tail {nb : String → Option (List String)} {n m k : String} (h : Reach nb n m) (e : Edge nb m k) : Reach nb n k := by
  induction h with
  | edge e1 => exact .step e1 (.edge e)
  | step e1 _ ih => exact .step e1 (ih e)

theorem Edge.isSome {nb : String → Option (List String)} {n m : String} (e : Edge nb n m) : (nb n).isSome = true := by
  unfold Edge at e
  cases h : nb n with
  | none => rw [h] at e; simp at e
  | some _ => rfl

theorem filter_ne_self {l : List String} {a : String} (h : a ∉ l) : l.filter (· ≠ a) = l := by
  rw [List.filter_eq_self]
  intro x hx
  simp only [ne_eq, decide_not, Bool.not_eq_eq_eq_not, Bool.not_true, decide_eq_false_iff_not]
  intro e
  exact h (e ▸ hx)

section SortProofs
variable (nb : String → Option (List String)) (ks : List String)

/-- the reversed result list: each node's neighbours are further down, and it is not repeated -/
def TopoRev : List String → Prop
  | [] => True
  | u :: rest => (∀ v, Edge nb u v → v ∈ rest) ∧ u ∉ rest ∧ TopoRev rest

/-- the search state between two steps: the visited nodes are those on the stack and, apart from
them, the finished ones; the finished nodes list dependencies first; only keys are ever visited -/
structure SortInv (st : SortSt) : Prop where
  part : ∀ x, x ∈ st.visited ↔ x ∈ st.stack ∨ x ∈ st.results
  disj : ∀ x ∈ st.results, x ∉ st.stack
  topo : TopoRev nb st.results.reverse
  vis_keys : ∀ x ∈ st.visited, x ∈ ks

/-- what a run of `visit`/`visitNbrs`/`sortFrom` may end in: a state satisfying `P`, or a
cycle error naming a node on a cycle; never `missing`, never `fuel` -/
def Outcome (r : Except SortErr SortSt) (P : SortSt → Prop) : Prop :=
  match r with
  | .ok st' => P st'
  | .error (.cycle c) => Reach nb c c
  | .error (.missing _) => False
  | .error .fuel => False

theorem Outcome.mono {r : Except SortErr SortSt} {P Q : SortSt → Prop}
    (h : Outcome nb r P) (hk : ∀ st', P st' → Q st') : Outcome nb r Q := by
  cases r with
  | error e => cases e <;> exact h
  | ok st' => exact hk st' h

theorem Outcome.bind {r : Except SortErr SortSt} {k : SortSt → Except SortErr SortSt} {P Q : SortSt → Prop}
    (h : Outcome nb r P) (hk : ∀ st', P st' → Outcome nb (k st') Q) :
    Outcome nb (match (generalizing := false) r with | .error e => .error e | .ok st' => k st') Q := by
  cases r with
  | error e => cases e <;> exact h
  | ok st' => exact hk st' h

/-- what a run over the nodes `ns` leaves behind: the stack as before, all of `ns` finished -/
structure LoopPost (ns : List String) (st st' : SortSt) : Prop where
  stack_eq : st'.stack = st.stack
  vis_mono : ∀ x ∈ st.visited, x ∈ st'.visited
  res_mono : ∀ x ∈ st.results, x ∈ st'.results
  done : ∀ m ∈ ns, m ∈ st'.results
  inv : SortInv nb ks st'

theorem LoopPost.nil {st : SortSt} (hinv : SortInv nb ks st) : LoopPost nb ks [] st st :=
  ⟨rfl, fun _ h => h, fun _ h => h, nofun, hinv⟩

theorem LoopPost.trans {ns1 ns2 : List String} {st st1 st2 : SortSt} (p : LoopPost nb ks ns1 st st1)
    (q : LoopPost nb ks ns2 st1 st2) : LoopPost nb ks (ns1 ++ ns2) st st2 :=
  ⟨q.stack_eq.trans p.stack_eq, fun x hx => q.vis_mono x (p.vis_mono x hx), fun x hx => q.res_mono x (p.res_mono x hx),
    fun m hm => (List.mem_append.1 hm).elim (fun h => q.res_mono m (p.done m h)) (q.done m), q.inv⟩

theorem LoopPost.cons_done {m : String} {ns : List String} {st st' : SortSt} (hm : m ∈ st.results)
    (p : LoopPost nb ks ns st st') : LoopPost nb ks (m :: ns) st st' :=
  ⟨p.stack_eq, p.vis_mono, p.res_mono,
    fun x hx => (List.mem_cons.1 hx).elim (fun e => e ▸ p.res_mono m hm) (p.done x), p.inv⟩

/-- what `visit` (or any function in its place) owes for fuel `f`: called on an unvisited key that
every node on the stack reaches, with more fuel than unvisited keys, it finishes that key or reports
a cycle -/
def VisitSpec (f : Nat) (rec : String → SortSt → Except SortErr SortSt) : Prop :=
  ∀ name st, name ∉ st.visited → name ∈ ks → SortInv nb ks st → (∀ s ∈ st.stack, Reach nb s name) →
    unv ks st.visited < f → Outcome nb (rec name st) (LoopPost nb ks [name] st)

variable (hks : ∀ n, (nb n).isSome = true ↔ n ∈ ks)
include hks

theorem visitNbrs_spec (f : Nat) (rec : String → SortSt → Except SortErr SortSt) (hrec : VisitSpec nb ks f rec) :
    ∀ (ns : List String) (st : SortSt), (∀ m ∈ ns, (nb m).isSome = true ∧ ∀ s ∈ st.stack, Reach nb s m) →
      SortInv nb ks st → unv ks st.visited < f →
      Outcome nb (visitNbrs rec (fun n => (nb n).isSome) ns st) (LoopPost nb ks ns st) := by
  intro ns
  induction ns with
  | nil =>
    intro st _ hinv _
    exact LoopPost.nil nb ks hinv
  | cons m ms ih =>
    intro st hns hinv hfuel
    obtain ⟨hex, hreach⟩ := hns m (List.mem_cons_self ..)
    have hns' : ∀ x ∈ ms, (nb x).isSome = true ∧ ∀ s ∈ st.stack, Reach nb s x := fun x hx => hns x (List.mem_cons_of_mem _ hx)
    unfold visitNbrs
    by_cases hv : m ∈ st.visited
    · have hvb : st.visited.contains m = true := List.contains_iff_mem.2 hv
      by_cases hs : m ∈ st.stack
      · -- on the stack: a cycle through m
        have hsb : st.stack.contains m = true := List.contains_iff_mem.2 hs
        simp only [hvb, hsb, Bool.not_true, Bool.false_eq_true, if_false, if_true, Outcome]
        exact hreach m hs
      · have hsb : st.stack.contains m = false := not_contains hs
        simp only [hvb, hsb, Bool.not_true, Bool.false_eq_true, if_false]
        exact Outcome.mono nb (ih st hns' hinv hfuel) fun st' p =>
          p.cons_done nb ks (((hinv.part m).1 hv).resolve_left hs)
    · have hvb : st.visited.contains m = false := not_contains hv
      simp only [hvb, Bool.not_false, if_true, hex, Bool.not_true, Bool.false_eq_true, if_false]
      refine (hrec m st hv ((hks m).1 hex) hinv hreach hfuel).bind nb fun st1 p => ?_
      have hfuel1 : unv ks st1.visited < f := Nat.lt_of_le_of_lt (unv_mono p.vis_mono) hfuel
      exact Outcome.mono nb (ih st1 (p.stack_eq ▸ hns') p.inv hfuel1) fun st' q => p.trans nb ks q

variable (hclosed : Closed nb)
include hclosed

/-- `leave` with an ideal results list: the name is always appended -/
def leaveI (name : String) (st : SortSt) : SortSt :=
  { st with results := st.results ++ [name], stack := st.stack.filter (· ≠ name) }

/-- One level of the ideal search: the loop over the neighbours on the entered state, then `leaveI`. -/
theorem visit_step (f : Nat) (rec : String → SortSt → Except SortErr SortSt) (hrec : VisitSpec nb ks f rec) :
    VisitSpec nb ks (f + 1) (fun name st =>
      match visitNbrs rec (fun n => (nb n).isSome) ((nb name).getD []) (enter name st) with
      | .error e => .error e
      | .ok st2 => .ok (leaveI name st2)) := by
  intro name st hnv hkey hinv hpath hfuel
  have hnstack : name ∉ st.stack := fun h => hnv ((hinv.part name).2 (.inl h))
  have hinv1 : SortInv nb ks (enter name st) := by
    refine ⟨fun x => ?_, fun x hx h => ?_, hinv.topo, fun x hx => ?_⟩
    · show x ∈ name :: st.visited ↔ x ∈ name :: st.stack ∨ x ∈ st.results
      rw [List.mem_cons, List.mem_cons, hinv.part, or_assoc]
    · exact (List.mem_cons.1 h).elim (fun e => hnv ((hinv.part name).2 (.inr (e ▸ hx)))) (hinv.disj x hx)
    · exact (List.mem_cons.1 hx).elim (· ▸ hkey) (hinv.vis_keys x)
  have hns : ∀ m ∈ (nb name).getD [], (nb m).isSome = true ∧ ∀ s ∈ (enter name st).stack, Reach nb s m := by
    intro m hm
    refine ⟨hclosed name m hm, fun s hs => ?_⟩
    cases hs with
    | head => exact .edge hm
    | tail _ h => exact (hpath s h).tail hm
  have hfuel1 : unv ks (enter name st).visited < f := by
    have := unv_cons_lt (ks := ks) hkey hnv
    show unv ks (name :: st.visited) < f
    omega
  refine (visitNbrs_spec nb ks hks f rec hrec ((nb name).getD []) (enter name st) hns hinv1 hfuel1).bind nb fun st2 p => ?_
  show LoopPost nb ks [name] st (leaveI name st2)
  have hst2 : st2.stack = name :: st.stack := p.stack_eq
  have hfin : (leaveI name st2).results = st2.results ++ [name] := rfl
  have hfil : (leaveI name st2).stack = st.stack := by
    show st2.stack.filter (· ≠ name) = st.stack
    rw [hst2]
    simp only [List.filter_cons, ne_eq, not_true_eq_false, decide_false, Bool.false_eq_true, if_false]
    exact filter_ne_self hnstack
  have hnres : name ∉ st2.results := fun h => p.inv.disj name h (by rw [hst2]; exact List.mem_cons_self ..)
  refine ⟨hfil, ?_, ?_, ?_, ?_⟩
  · intro x hx; exact p.vis_mono x (List.mem_cons_of_mem _ hx)
  · intro x hx; rw [hfin]; exact List.mem_append_left _ (p.res_mono x hx)
  · intro m hm; rw [hfin, List.mem_singleton.1 hm]; exact List.mem_append_right _ (List.mem_cons_self ..)
  · refine ⟨fun x => ?_, fun x hx hs => ?_, ?_, p.inv.vis_keys⟩
    · -- the node moves from the stack to the finished ones
      rw [hfil, hfin, show (leaveI name st2).visited = st2.visited from rfl, p.inv.part, hst2, List.mem_cons,
        List.mem_append, List.mem_singleton]
      simp only [or_assoc, or_comm, or_left_comm]
    · rw [hfin] at hx
      rw [hfil] at hs
      rcases List.mem_append.1 hx with h | h
      · exact p.inv.disj x h (by rw [hst2]; exact List.mem_cons_of_mem _ hs)
      · exact hnstack (List.mem_singleton.1 h ▸ hs)
    · rw [hfin, List.reverse_append]
      refine ⟨?_, ?_, p.inv.topo⟩
      · intro v hv
        exact List.mem_reverse.2 (p.done v hv)
      · intro h
        exact hnres (List.mem_reverse.1 h)

end SortProofs

section Topo
variable (nb : String → Option (List String))

theorem TopoRev.closed {r : List String} (h : TopoRev nb r) : ∀ x ∈ r, ∀ y, Reach nb x y → y ∈ r := by
  induction r with
  | nil => intro x hx; cases hx
  | cons a as ih =>
    obtain ⟨h1, _, h3⟩ := h
    intro x hx y hxy
    cases hx with
    | head =>
      cases hxy with
      | edge e => exact List.mem_cons_of_mem _ (h1 _ e)
      | step e hr => exact List.mem_cons_of_mem _ (ih h3 _ (h1 _ e) _ hr)
    | tail _ hx' => exact List.mem_cons_of_mem _ (ih h3 x hx' y hxy)

theorem TopoRev.below {a : String} {as : List String} (h : TopoRev nb (a :: as)) : ∀ y, Reach nb a y → y ∈ as := by
  obtain ⟨h1, _, h3⟩ := h
  intro y hxy
  cases hxy with
  | edge e => exact h1 _ e
  | step e hr => exact TopoRev.closed nb h3 _ (h1 _ e) _ hr

theorem TopoRev.acyclic {r : List String} (h : TopoRev nb r) : ∀ c ∈ r, ¬ Reach nb c c := by
  induction r with
  | nil => intro c hc; cases hc
  | cons a as ih =>
    intro c hc hcc
    cases hc with
    | head => exact h.2.1 (TopoRev.below nb h _ hcc)
    | tail _ hc' => exact ih h.2.2 c hc' hcc

theorem TopoRev.nodup {r : List String} (h : TopoRev nb r) : r.Nodup := by
  induction r with
  | nil => exact List.nodup_nil
  | cons a as ih => exact List.nodup_cons.2 ⟨h.2.1, ih h.2.2⟩

theorem TopoRev.depsFirst {res : List String} (h : TopoRev nb res.reverse) : DepsFirst nb res := by
  intro l1 u l2 e
  subst e
  rw [List.reverse_append, List.reverse_cons, List.append_assoc] at h
  have drop : ∀ (p q : List String), TopoRev nb (p ++ q) → TopoRev nb q := by
    intro p q
    induction p with
    | nil => exact id
    | cons x xs ih => intro hh; exact ih hh.2.2
  have h' := drop _ _ h
  obtain ⟨h1, h2, _⟩ := h'
  exact ⟨fun v hv => List.mem_reverse.1 (h1 v hv), fun hu => h2 (List.mem_reverse.2 hu)⟩

end Topo

/-- `visit` over `leaveI` -/
def visitI (nb : String → Option (List String)) : Nat → String → SortSt → Except SortErr SortSt
  | 0, _, _ => .error .fuel
  | f + 1, name, st =>
    match visitNbrs (visitI nb f) (fun n => (nb n).isSome) ((nb name).getD []) (enter name st) with
    | .error e => .error e
    | .ok st2 => .ok (leaveI name st2)

/-- `sortFrom` over `visitI` -/
def sortFromI (nb : String → Option (List String)) (fuel : Nat) : List String → SortSt → Except SortErr SortSt
  | [], st => .ok st
  | n :: rest, st =>
    if st.visited.contains n then sortFromI nb fuel rest st
    else
      match visitI nb fuel n { st with stack := [] } with
      | .error e => .error e
      | .ok st' => sortFromI nb fuel rest st'

section SortIdeal
variable (nb : String → Option (List String)) (ks : List String)
variable (hks : ∀ n, (nb n).isSome = true ↔ n ∈ ks) (hclosed : Closed nb)
include hks hclosed

theorem visitI_spec : ∀ f, VisitSpec nb ks f (visitI nb f)
  | 0 => fun _ _ _ _ _ _ hf => absurd hf (Nat.not_lt_zero _)
  | f + 1 => visit_step nb ks hks hclosed f (visitI nb f) (visitI_spec f)

theorem sortFromI_spec (f : Nat) :
    ∀ (order : List String) (st : SortSt), (∀ n ∈ order, n ∈ ks) → SortInv nb ks st → st.stack = [] → ks.length < f →
      Outcome nb (sortFromI nb f order st) (LoopPost nb ks order st) := by
  intro order
  induction order with
  | nil =>
    intro st _ hinv _ _
    exact LoopPost.nil nb ks hinv
  | cons n rest ih =>
    intro st hord hinv hs hf
    have hord' : ∀ x ∈ rest, x ∈ ks := fun x hx => hord x (List.mem_cons_of_mem _ hx)
    unfold sortFromI
    by_cases hv : n ∈ st.visited
    · have hvb : st.visited.contains n = true := List.contains_iff_mem.2 hv
      simp only [hvb, if_true]
      have hnres : n ∈ st.results := ((hinv.part n).1 hv).resolve_left (by rw [hs]; nofun)
      exact Outcome.mono nb (ih st hord' hinv hs hf) fun st' p => p.cons_done nb ks hnres
    · have hvb : st.visited.contains n = false := not_contains hv
      simp only [hvb, Bool.false_eq_true, if_false]
      have hst : ({ st with stack := [] } : SortSt) = st := by cases st; simp_all
      rw [hst]
      have hunv : unv ks st.visited < f := by
        have : unv ks st.visited ≤ ks.length := by unfold unv; exact List.length_filter_le _ _
        omega
      refine (visitI_spec nb ks hks hclosed f n st hv (hord n (List.mem_cons_self ..)) hinv
        (by rw [hs]; intro s h; cases h) hunv).bind nb fun st1 p => ?_
      exact Outcome.mono nb (ih st1 hord' p.inv (by rw [p.stack_eq, hs]) hf) fun st' q => p.trans nb ks q

end SortIdeal

/-- the list without the empty identifier -/
def noE (l : List String) : List String := l.filter (· ≠ "")

theorem noE_eq_self {l : List String} (h : "" ∉ l) : noE l = l := filter_ne_self h

/-- the real state `st` next to the ideal state `sI` -/
structure Sim (st sI : SortSt) : Prop where
  vis : st.visited = sI.visited
  stk : st.stack = sI.stack
  res : st.results = noE sI.results

def SimR (r rI : Except SortErr SortSt) : Prop :=
  match r, rI with
  | .ok a, .ok b => Sim a b
  | .error e, .error e' => e = e'
  | _, _ => False

theorem simR_cases {r rI : Except SortErr SortSt} (h : SimR r rI) :
    (∃ e, r = .error e ∧ rI = .error e) ∨ (∃ a b, r = .ok a ∧ rI = .ok b ∧ Sim a b) := by
  cases r with
  | error e =>
    cases rI with
    | error e' => exact Or.inl ⟨e, rfl, by simp only [SimR] at h; rw [h]⟩
    | ok b => simp only [SimR] at h
  | ok a =>
    cases rI with
    | error e' => simp only [SimR] at h
    | ok b => exact Or.inr ⟨a, b, rfl, rfl, h⟩

theorem visitNbrs_sim {rec recI : String → SortSt → Except SortErr SortSt} {ex : String → Bool}
    (hrec : ∀ n st sI, Sim st sI → SimR (rec n st) (recI n sI)) :
    ∀ (ns : List String) (st sI : SortSt), Sim st sI →
      SimR (visitNbrs rec ex ns st) (visitNbrs recI ex ns sI) := by
  intro ns
  induction ns with
  | nil => intro st sI h; exact h
  | cons n ns ih =>
    intro st sI h
    unfold visitNbrs
    rw [h.vis, h.stk]
    by_cases c1 : sI.visited.contains n = true
    · simp only [c1, Bool.not_true, Bool.false_eq_true, if_false]
      by_cases c2 : sI.stack.contains n = true
      · simp only [c2, if_true, SimR]
      · simp only [c2]
        exact ih st sI h
    · simp only [c1, Bool.not_false, if_true]
      by_cases c3 : ex n = true
      · simp only [c3, Bool.not_true, Bool.false_eq_true, if_false]
        rcases simR_cases (hrec n st sI h) with ⟨e, h1, h2⟩ | ⟨a, b, h1, h2, hs⟩
        · rw [h1, h2]; simp only [SimR]
        · rw [h1, h2]; exact ih a b hs
      · simp only [c3, Bool.not_false, if_true, SimR]

theorem noE_append_name (l : List String) (name : String) :
    finish name (noE l) = noE (l ++ [name]) := by
  unfold finish noE
  rw [List.filter_append]
  by_cases hn : name = ""
  · subst hn; simp
  · simp [hn]

theorem visit_sim (nb : String → Option (List String)) :
    ∀ (f : Nat) (name : String) (st sI : SortSt), Sim st sI →
      SimR (visit nb f name st) (visitI nb f name sI) := by
  intro f
  induction f with
  | zero => intro name st sI _; simp only [visit, visitI, SimR]
  | succ f ih =>
    intro name st sI h
    unfold visit visitI
    have he : Sim (enter name st) (enter name sI) :=
      ⟨by simp only [enter, h.vis], by simp only [enter, h.stk], by simp only [enter, h.res]⟩
    rcases simR_cases (visitNbrs_sim (ex := fun n => (nb n).isSome) (fun n a b hab => ih n a b hab)
      ((nb name).getD []) (enter name st) (enter name sI) he) with ⟨e, h1, h2⟩ | ⟨a, b, h1, h2, hs⟩
    · rw [h1, h2]; simp only [SimR]
    · rw [h1, h2]
      show Sim (leave name a) (leaveI name b)
      refine ⟨hs.vis, ?_, ?_⟩
      · simp only [leave, leaveI, hs.stk]
      · simp only [leave, leaveI, hs.res]
        exact noE_append_name b.results name

theorem sortFrom_sim (nb : String → Option (List String)) (f : Nat) :
    ∀ (order : List String) (st sI : SortSt), Sim st sI →
      SimR (sortFrom nb f order st) (sortFromI nb f order sI) := by
  intro order
  induction order with
  | nil => intro st sI h; exact h
  | cons n rest ih =>
    intro st sI h
    unfold sortFrom sortFromI
    have hc : st.visited.contains n = sI.visited.contains n := by rw [h.vis]
    rw [hc]
    by_cases c1 : sI.visited.contains n = true
    · simp only [c1, ↓reduceIte]
      exact ih st sI h
    · simp only [c1, Bool.false_eq_true, ↓reduceIte]
      have h0 : Sim { st with stack := [] } { sI with stack := [] } := ⟨h.vis, rfl, h.res⟩
      rcases simR_cases (visit_sim nb f n _ _ h0) with ⟨e, h1, h2⟩ | ⟨a, b, h1, h2, hs⟩
      · rw [h1, h2]; simp only [SimR]
      · rw [h1, h2]; exact ih a b hs

/-- what `Sort` returns, for every iteration order of the node map `ks`:
an error is the cycle error naming a node on a cycle; a result exists only for an acyclic graph
and is a duplicate-free, dependencies-first list `full` of ALL nodes from which the empty
identifier was taken out, padded with "" (the slot the empty identifier never occupies). -/
theorem sortG_spec (nb : String → Option (List String)) (ks : List String)
    (hks : ∀ n, (nb n).isSome = true ↔ n ∈ ks) (hclosed : Closed nb) (hnodup : ks.Nodup)
    (order : List String) (hord : ∀ n, n ∈ order ↔ n ∈ ks) :
    match sortG nb ks.length order with
    | .error e => ∃ c, e = .cycle c ∧ Reach nb c c
    | .ok res => (¬ HasCycle nb) ∧ ∃ full : List String, full.Nodup ∧ (∀ n, n ∈ full ↔ n ∈ ks) ∧
        DepsFirst nb full ∧ res = noE full ++ List.replicate (full.length - (noE full).length) "" := by
  have inv0 : SortInv nb ks ⟨[], [], []⟩ := ⟨fun _ => ⟨nofun, fun h => h.elim nofun nofun⟩, nofun, trivial, nofun⟩
  have specI := sortFromI_spec nb ks hks hclosed (ks.length + 1) order ⟨[], [], []⟩
    (fun n hn => (hord n).1 hn) inv0 rfl (by omega)
  have sim := sortFrom_sim nb (ks.length + 1) order ⟨[], [], []⟩ ⟨[], [], []⟩ ⟨rfl, rfl, rfl⟩
  unfold sortG
  rcases simR_cases sim with ⟨e, h1, h2⟩ | ⟨a, b, h1, h2, hs⟩
  · rw [h1]
    rw [h2] at specI
    cases e with
    | missing _ => exact specI.elim
    | fuel => exact specI.elim
    | cycle c => exact ⟨c, rfl, specI⟩
  · rw [h1]
    rw [h2] at specI
    obtain ⟨_, _, _, hall, inv⟩ : LoopPost nb ks order ⟨[], [], []⟩ b := specI
    have hsub : ∀ x ∈ b.results, x ∈ ks := fun x hx => inv.vis_keys x ((inv.part x).2 (.inr hx))
    have hsup : ∀ x ∈ ks, x ∈ b.results := fun x hx => hall x ((hord x).2 hx)
    have hnd : b.results.Nodup := (List.reverse_perm _).nodup (TopoRev.nodup _ inv.topo)
    have hperm : b.results.Perm ks :=
      (List.perm_ext_iff_of_nodup hnd hnodup).2 (fun x => ⟨hsub x, hsup x⟩)
    refine ⟨?_, b.results, hnd, fun n => ⟨hsub n, hsup n⟩, TopoRev.depsFirst _ inv.topo, ?_⟩
    · rintro ⟨c, hc⟩
      have hcs : (nb c).isSome = true := by
        cases hc with
        | edge e => exact e.isSome
        | step e _ => exact e.isSome
      have hcr : c ∈ b.results.reverse := List.mem_reverse.2 (hsup c ((hks c).1 hcs))
      exact absurd hc (TopoRev.acyclic _ inv.topo c hcr)
    · show a.results ++ List.replicate (ks.length - a.results.length) "" = _
      rw [hs.res, hperm.length_eq]

end Xp.C17
