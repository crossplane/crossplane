import Xp.Proofs.C13Ctl
import Xp.Proofs.C13Next
/-
C13: running schedules. A StartWatches call that runs alone and without faults from a quiet state
(re-)establishes every watch it was asked for whose kind has no active informer or which has no source
yet (`sw_alone`, by running the call step by step: `solo_step`, `Quiet.move`, `sw_iter`, `sw_loop`); states
computed by `runThread` / `runSched` are reachable (`exists_reachable_of_runSched` is what the witnesses
in Props use).
-/
namespace Xp.C13

theorem runThread_add {cfg : Cfg} {i : Nat} {k1 k2 : Nat} {s s1 s2 : Sys}
    (h1 : runThread cfg s i k1 = some s1) (h2 : runThread cfg s1 i k2 = some s2) :
    runThread cfg s i (k1 + k2) = some s2 := by
  fun_induction runThread cfg s i k1 with
  | case1 s => cases h1; simpa using h2   -- no step asked for
  | case2 s k s' hs' ih =>                -- a step, then `k` more
    rw [show k + 1 + k2 = (k + k2) + 1 by omega]
    simp only [runThread, hs']
    exact ih h1
  | case3 => cases h1                     -- the thread cannot step

theorem runThread_one {cfg : Cfg} {i : Nat} {s s1 : Sys} (h : step cfg s i {} = some s1) :
    runThread cfg s i 1 = some s1 := by
  simp [runThread, h]

theorem solo_step {s : Sys} {i : Nat} {op : Op} {pc pc' : Pc} {act : Act}
    (ht : s.threads[i]? = some ⟨op, pc⟩) (hn : next Cfg.fixed s i ⟨op, pc⟩ {} = some (pc', act)) :
    ∃ ths, runThread Cfg.fixed s i 1 = some { act.apply s with threads := ths } ∧ ths[i]? = some ⟨op, pc'⟩ ∧
      ∀ j, j ≠ i → ths[j]? = s.threads[j]? := by
  have hset := getElem?_set_of_some ht (⟨op, pc'⟩ : Thread)
  refine ⟨_, runThread_one (step_of_next ht hn), ?_, fun j hj => ?_⟩
  · rw [hset, if_pos rfl]
  · rw [hset, if_neg hj]

/-- the part of the state a lone StartWatches run relies on and preserves -/
structure Quiet (s : Sys) (i cid : Nat) : Prop where
  others : ∀ (j : Nat) (u : Thread), s.threads[j]? = some u → j ≠ i → u.pc.held = ⟨.n, none⟩
  valid : cid < s.objs.length
  notStopped : stoppedOf s cid = false

theorem Quiet.free {s : Sys} {i cid : Nat} (q : Quiet s i cid) (want : Held) : free s i want = true := by
  rw [free_iff]
  intro j u hu hj
  rw [q.others j u hu hj]
  exact Held.compat_nothing _

/-- controller `cid` has a live handler registration for watch `w` -/
def HasReg (s : Sys) (cid : Nat) (w : Wid) : Prop := ∃ r ∈ s.regs, r.cid = cid ∧ r.wid = w

/-- one iteration that starts watch `x`: GetInformer, then AddEventHandler and the record in `c.sources`
(`r`: the new registration) -/
theorem sw_iter {s : Sys} {i cid : Nat} {op : Op} {a : List Nat} {st : List Wid} {x : Wid} {xs : List Wid}
    (q : Quiet s i cid) (ht : s.threads[i]? = some ⟨op, .swGI cid a st x xs⟩) :
    ∃ s2 r, runThread Cfg.fixed s i 2 = some s2 ∧ Quiet s2 i cid ∧
      s2.threads[i]? = some ⟨op, swPc cid a (x :: st) (swNext (srcsOf s2 cid) a (x :: st) xs)⟩ ∧
      s2.regs = r :: s.regs ∧ r.cid = cid ∧ r.wid = x ∧ srcsOf s2 cid = aset x r.id (srcsOf s cid) := by
  -- after GetInformer the informer of the kind exists, with the handle the thread got
  have hlive : aget x.gvk ((Act.getInformer x.gvk false).apply s).live = some (handle s x.gvk) := by
    rw [apply_getInformer_live]
    unfold handle
    cases hl : aget x.gvk s.live with
    | some h0 => exact Or.inl rfl
    | none => exact Or.inr ⟨rfl, rfl, rfl, rfl⟩
  obtain ⟨ths1, hrun1, ht1, ho1⟩ := solo_step (pc' := .swAH cid a st x xs (handle s x.gvk))
    (act := .getInformer x.gvk false) ht rfl
  obtain ⟨tr, lv, ng, e1⟩ := apply_getInformer x.gvk false s
  rw [e1] at hrun1 hlive
  -- `s1`: `s` with new cache tables; its controllers, objects and registrations are those of `s` by `rfl`
  let s1 : Sys := { s with tracked := tr, live := lv, nextGen := ng, threads := ths1 }
  have hl1 : aget x.gvk s1.live = some (handle s x.gvk) := hlive
  obtain ⟨ths2, hrun2, ht2, ho2⟩ := solo_step (s := s1)
    (pc' := swPc cid a (x :: st) (swNext (aset x s.nextReg (srcsOf s cid)) a (x :: st) xs))
    (act := .addReg cid x (handle s x.gvk)) ht1 (by
      simp only [next, hl1, Cfg.fixed]
      simp only [bne_self_eq_false, Bool.or_false, Bool.false_eq_true, if_false, if_true]
      rfl)
  -- `s2`: the new registration is the head of `regs` by `rfl`
  let s2 : Sys := { (Act.addReg cid x (handle s x.gvk)).apply s1 with threads := ths2 }
  have hsrc2 : srcsOf s2 cid = aset x s.nextReg (srcsOf s cid) := by
    show srcsOf ((Act.addReg cid x (handle s x.gvk)).apply s1) cid = _
    exact (srcsOf_apply _ s1 cid).trans (if_pos ⟨rfl, q.valid⟩)
  refine ⟨s2, ⟨s.nextReg, cid, x, handle s x.gvk⟩, runThread_add hrun1 hrun2, ?_, by rw [hsrc2]; exact ht2,
    rfl, rfl, rfl, hsrc2⟩
  refine ⟨fun j u hu hj => q.others j u ?_ hj, ?_, (stoppedOf_apply (.addReg cid x (handle s x.gvk)) s1 cid).trans q.notStopped⟩
  · rw [← ho1 j hj, ← ho2 j hj]; exact hu
  · show cid < (modCtl _ _ _).length
    rw [modCtl_length]; exact q.valid

theorem sw_loop {i cid : Nat} {op : Op} {a : List Nat} (rest : List Wid) :
    ∀ (s : Sys) (st : List Wid),
      Quiet s i cid →
      s.threads[i]? = some ⟨op, swPc cid a st (swNext (srcsOf s cid) a st rest)⟩ →
      (∀ w ∈ st, HasReg s cid w) →
      ∃ k s', runThread Cfg.fixed s i k = some s' ∧ s'.threads[i]? = some ⟨op, .done .ok⟩ ∧
        (∀ w, HasReg s cid w → HasReg s' cid w) ∧
        (∀ w ∈ rest, (aget w (srcsOf s cid) = none ∨ w.gvk ∉ a ∨ w ∈ st) → HasReg s' cid w) := by
  induction rest with
  | nil =>
    intro s st q ht _
    simp only [swNext, swPc] at ht
    obtain ⟨ths, hrun, hdone, _⟩ := solo_step (pc' := .done .ok) (act := .nop) ht rfl
    exact ⟨1, _, hrun, hdone, fun w h => h, nofun⟩
  | cons x xs ih =>
    intro s st q ht hst
    unfold swNext at ht
    by_cases hskip : ((aget x (srcsOf s cid)).isSome && (a.contains x.gvk || st.contains x)) = true
    · -- x is skipped: it exists and its kind was active, or this call started it
      simp only [hskip, if_true] at ht
      obtain ⟨k, s', hrun, hdone, hmono, hrest⟩ := ih s st q ht hst
      refine ⟨k, s', hrun, hdone, hmono, ?_⟩
      intro w hw hc
      rcases List.mem_cons.1 hw with rfl | hw'
      · simp only [Bool.and_eq_true, Bool.or_eq_true, List.contains_iff_mem] at hskip
        rcases hc with h1 | h2 | h3
        · rw [h1] at hskip; simp at hskip
        · rcases hskip.2 with h | h
          · exact absurd h h2
          · exact hmono _ (hst _ h)
        · exact hmono _ (hst _ h3)
      · exact hrest w hw' hc
    · simp only [hskip, swPc] at ht
      obtain ⟨s2, r, hrun2, q2, ht2, hregs2, hrc, hrw, hsrc2⟩ := sw_iter q ht
      have hmono2 : ∀ w, HasReg s cid w → HasReg s2 cid w :=
        fun w ⟨r', hr', h1, h2⟩ => ⟨r', hregs2 ▸ List.mem_cons_of_mem _ hr', h1, h2⟩
      have hx2 : HasReg s2 cid x := ⟨r, hregs2 ▸ List.mem_cons_self, hrc, hrw⟩
      have hst2 : ∀ w ∈ x :: st, HasReg s2 cid w := by
        intro w hw
        rcases List.mem_cons.1 hw with rfl | hw'
        · exact hx2
        · exact hmono2 _ (hst _ hw')
      obtain ⟨k, s', hrun, hdone, hmono, hrest⟩ := ih s2 (x :: st) q2 ht2 hst2
      refine ⟨2 + k, s', runThread_add hrun2 hrun, hdone, fun w h => hmono w (hmono2 w h), ?_⟩
      intro w hw hc
      rcases List.mem_cons.1 hw with rfl | hw'
      · exact hmono _ hx2
      · apply hrest w hw'
        rcases hc with h1 | h2 | h3
        · by_cases e : w = x
          · exact Or.inr (Or.inr (by rw [e]; exact List.mem_cons_self))
          · left
            rw [hsrc2, aget_aset_ne (fun e' => e e'.symm)]; exact h1
        · exact Or.inr (Or.inl h2)
        · exact Or.inr (Or.inr (List.mem_cons_of_mem _ h3))

/-- The state afterwards is `s` with new threads, so its data are those of `s` by `rfl` however many such
steps were taken (`hrun`: the run so far). -/
theorem Quiet.move {s0 s : Sys} {i cid k : Nat} {op : Op} {pc pc' : Pc} (q : Quiet s i cid)
    (hrun : runThread Cfg.fixed s0 i k = some s) (ht : s.threads[i]? = some ⟨op, pc⟩)
    (hn : next Cfg.fixed s i ⟨op, pc⟩ {} = some (pc', .nop)) :
    ∃ ths, runThread Cfg.fixed s0 i (k + 1) = some { s with threads := ths } ∧ ths[i]? = some ⟨op, pc'⟩ ∧
      Quiet { s with threads := ths } i cid := by
  obtain ⟨ths, hrun1, hi, ho⟩ := solo_step ht hn
  exact ⟨ths, runThread_add hrun hrun1, hi, fun j u hu hj => q.others j u (ho j hj ▸ hu) hj, q.valid, q.notStopped⟩

theorem sw_alone {s : Sys} {i n cid : Nat} {ws : List Wid}
    (q : Quiet s i cid) (ht : s.threads[i]? = some ⟨.startWatches n ws, .idle⟩)
    (hn : aget n s.ctrls = some cid) :
    ∃ k s', runThread Cfg.fixed s i k = some s' ∧ s'.threads[i]? = some ⟨.startWatches n ws, .done .ok⟩ ∧
      ∀ w ∈ ws, (aget w (srcsOf s cid) = none ∨ w.gvk ∉ s.tracked) → HasReg s' cid w := by
  -- e.mx.RLock; lookup
  obtain ⟨ths1, r1, t1, q1⟩ := q.move (s0 := s) (k := 0) rfl ht (pc' := .swLU (some cid) ws)
    (by simp only [next, acquire, q.free, if_true, hn])
  -- e.mx.RUnlock
  obtain ⟨ths2, r2, t2, q2⟩ := q1.move r1 t1 (pc' := .swAI cid ws) rfl
  -- ActiveInformers
  obtain ⟨ths3, r3, t3, q3⟩ := q2.move r2 t2 (pc' := .swCR cid ws s.tracked) rfl
  -- c.mx.RLock
  obtain ⟨ths4, r4, t4, q4⟩ := q3.move r3 t3
    (pc' := .swCRrel cid ws s.tracked (swNext (srcsOf s cid) s.tracked [] ws).isSome)
    (by simp only [next, acquire, q3.free, if_true]; rfl)
  cases hstart : swNext (srcsOf s cid) s.tracked [] ws with
  | none =>
    rw [hstart] at t4
    obtain ⟨ths5, r5, t5, _⟩ := q4.move r4 t4 (pc' := .done .ok) rfl
    refine ⟨_, _, r5, t5, ?_⟩
    intro w hw hc
    obtain ⟨h1, h2⟩ := swNext_none hstart w hw
    rcases hc with hc | hc
    · rw [hc] at h1; cases h1
    · rcases h2 with h2 | h2
      · exact absurd h2 hc
      · cases h2
  | some p =>
    rw [hstart] at t4
    -- c.mx.RUnlock
    obtain ⟨ths5, r5, t5, q5⟩ := q4.move r4 t4 (pc' := .swCW cid ws s.tracked) rfl
    -- c.mx.Lock; the controller was not stopped
    obtain ⟨ths6, r6, t6, q6⟩ := q5.move r5 t5 (pc' := .swAI2 cid ws)
      (by simp only [next, acquire, q5.free, if_true, q5.notStopped, Cfg.fixed]; rfl)
    -- ActiveInformers again, under the lock
    obtain ⟨ths7, r7, t7, q7⟩ := q6.move r6 t6
      (pc' := swPc cid s.tracked [] (swNext (srcsOf s cid) s.tracked [] ws)) rfl
    obtain ⟨k, s', hrun, hdone, _, hrest⟩ := sw_loop (a := s.tracked) ws _ [] q7 t7 nofun
    exact ⟨_, s', runThread_add r7 hrun, hdone, fun w hw hc => hrest w hw (hc.imp_right Or.inl)⟩

theorem reachable_of_runSched {cfg : Cfg} {ops : List Op} {s s' : Sys} {sched : List (Nat × Choice)}
    (hs : Reachable cfg ops s) (h : runSched cfg s sched = some s') : Reachable cfg ops s' := by
  fun_induction runSched cfg s sched with
  | case1 s => cases h; exact hs                                            -- the empty schedule
  | case2 s i ch rest s1 h1 ih => exact ih (Reachable.step i ch hs h1) h    -- a step, then the rest
  | case3 => cases h                                                        -- the entry's thread cannot step

theorem runThread_eq_runSched (cfg : Cfg) (s : Sys) (i k : Nat) :
    runThread cfg s i k = runSched cfg s (List.replicate k (i, {})) := by
  induction k generalizing s with
  | zero => rfl
  | succ k ih =>
    simp only [runThread, List.replicate_succ, runSched]
    cases step cfg s i {} with
    | none => rfl
    | some s1 => exact ih s1

theorem reachable_of_runThread {cfg : Cfg} {ops : List Op} {s s' : Sys} {i k : Nat}
    (hs : Reachable cfg ops s) (h : runThread cfg s i k = some s') : Reachable cfg ops s' :=
  reachable_of_runSched hs (runThread_eq_runSched cfg s i k ▸ h)

/-- what a schedule run from `init ops` computes is true of a reachable state; `f` selects what the
caller wants to know of that state, so that one evaluation of the schedule gives both -/
theorem exists_reachable_of_runSched {α : Type} {cfg : Cfg} {ops : List Op} {sched : List (Nat × Choice)}
    {f : Sys → α} {v : α} (h : (runSched cfg (init ops) sched).map f = some v) :
    ∃ s, Reachable cfg ops s ∧ f s = v := by
  cases hs : runSched cfg (init ops) sched with
  | none => rw [hs] at h; cases h
  | some s => rw [hs] at h; exact ⟨s, reachable_of_runSched .init hs, Option.some.inj h⟩

end Xp.C13
