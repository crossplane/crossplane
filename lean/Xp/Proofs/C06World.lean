import Xp.Proofs.C06Inv
/-
C06, several claims of the kind in one store. The model is per claim; the other claims sit in `St.others`, and
`swap s j` makes the claim in slot `j` the current one (the correspondence driver runs ONE long-lived reconciler
over a sequence of different claims). Seen from the claim in slot `j`, every applied call of a reconcile of the
CURRENT claim, under its guarantee that a claimRef it writes is its own, is a finite sequence of environment
steps of a world with peers (`Eff.envs`): `Env.peerWrite` for its XR writes (created / rebound / rewritten by
another claim's controller, never bound to the viewing claim), `Env.xrRemove`/`xrSet`/`xrWrite` for its deletes,
`Env.tick` for its writes to its own claim object. So what is proved about `Reach` for every environment holds
for each claim of a world in which the same controller also reconciles the others.
-/
namespace Xp.C06

/-- finitely many environment steps -/
inductive Envs : St → St → Prop where
  | refl (s : St) : Envs s s
  | step (a b c : St) : Envs a b → Env b c → Envs a c

theorem Envs.one {a b : St} (h : Env a b) : Envs a b := .step _ _ _ (.refl a) h

theorem Envs.trans {a b c : St} (h1 : Envs a b) (h2 : Envs b c) : Envs a c := by
  induction h2 with
  | refl => exact h1
  | step x y _ he ih => exact .step _ _ _ ih he

theorem reach_envs {s0 : St} {s s' : St} {t : Option P} (h : Reach s0 ⟨s, t⟩) (he : Envs s s') : Reach s0 ⟨s', t⟩ := by
  induction he with
  | refl => exact h
  | step a b _ e ih => exact Reach.step _ _ ih (Step.env _ _ t e)

theorem envs_frame (s s' : St) (j : Nat) (d : Side) (hd : s.others[j]? = some d) (ho : s'.others = s.others)
    (hx : s'.xrs = s.xrs) (hxh : s'.xhist = s.xhist) (hp : s'.peers = s.peers) (k : Nat) (hn : s'.nextRv = s.nextRv + k) :
    Envs (swap s j) (swap s' j) := by
  rw [swap_of_frame s s' j d hd ho, swap_of_frame s s j d hd rfl, hx, hxh, hp, hn]
  exact Envs.one (Env.tick _ k _)

theorem swap_setXR {s : St} {j : Nat} {d : Side} (hd : s.others[j]? = some d) (n : Name) (ox : Option XR) :
    swap (setXR s n ox) j = setXR (swap s j) n ox := by
  rw [swap_of_frame s (setXR s n ox) j d hd rfl, swap_of_frame s s j d hd rfl]
  rfl

theorem swap_putXR {s : St} {j : Nat} {d : Side} (hd : s.others[j]? = some d) (n : Name) (x : XR) :
    swap (putXR s n x).1 j = (putXR (swap s j) n x).1 := by
  rw [swap_of_frame s (putXR s n x).1 j d hd rfl, swap_of_frame s s j d hd rfl]
  rfl

theorem envs_emit {s t : St} {j : Nat} {d : Side} (hd : s.others[j]? = some d) (ho : t.others = s.others)
    (h : Env (swap s j) (swap t j)) (ev : Ev) : Envs (swap s j) (swap (emit t ev) j) :=
  (Envs.one h).trans (envs_frame t (emit t ev) j d (ho ▸ hd) rfl rfl rfl rfl 0 rfl)

theorem reqCref_of_G {s : St} {r : Req} (h : G s r) : ∀ c, reqCref r = some c → c = s.me := by
  intro c hc
  cases r with
  | createXR n b c' => obtain ⟨_, hme⟩ := h; cases hc; exact hme
  | patchXR n rv c' => obtain ⟨⟨_, hme⟩, _⟩ := h; cases hc; exact hme
  | applyXR n c' => obtain ⟨_, hme⟩ := h; cases hc; exact hme
  | _ => cases hc

theorem Eff.envs {s s' : St} {r : Req} {resp : Resp} (he : Eff s r s' resp) (j : Nat) (d : Side) (hd : s.others[j]? = some d)
    (hp : s.peers = true) (hne : d.me ≠ s.me) (hc : ∀ c, reqCref r = some c → c = s.me) :
    Envs (swap s j) (swap s' j) := by
  have hV : swap s j = ⟨d.me, d.claim, d.hist, s.xrs, s.xhist, s.nextRv, d.trace, s.peers, s.others.set j s.side⟩ :=
    swap_of_frame s s j d hd rfl
  have hxrs : (swap s j).xrs = s.xrs := by rw [hV]
  cases he with
  | reject | getClaim | getXR => exact Envs.refl _
  | updClaim c cur => exact envs_frame s _ j d hd rfl rfl rfl rfl 1 rfl
  | updClaimStatus cur => exact envs_frame s _ j d hd rfl rfl rfl rfl 1 rfl
  | deleteXR n fg x x1 hx hcref hrv =>
    have hx' : (swap s j).xrs n = some x := by rw [hxrs]; exact hx
    rcases delState_cases s n x x1 with e | e | e | e <;> rw [e]
    · exact envs_frame s _ j d hd rfl rfl rfl rfl 0 rfl
    · exact envs_emit (t := setXR s n (some x1)) hd rfl (by rw [swap_setXR hd]; exact Env.xrSet _ n x x1 hx' hcref hrv) _
    · exact envs_emit (t := (putXR s n _).1) hd rfl (by rw [swap_putXR hd]; exact Env.xrWrite _ n x _ hx' hcref) _
    · exact envs_emit (t := setXR s n none) hd rfl (by rw [swap_setXR hd]; exact Env.xrRemove _ n) _
  | write r n x' ev hw =>
    -- XR `n` rewritten by the current claim, never bound to the claim in slot `j`: a peer write for that claim
    refine envs_emit (t := (putXR s n x').1) hd rfl ?_ ev
    rw [swap_putXR hd]
    refine Env.peerWrite _ n x' (by rw [hV]; exact hp) ?_
    rw [hxrs, hV]
    intro h
    rcases hw.cref with ⟨x, hx, hx'⟩ | ⟨c, hr, hx'⟩
    · exact ⟨x, hx, hx' ▸ h⟩
    · exact absurd ((Option.some.inj (hx'.symm.trans h)).symm.trans (hc c hr)) hne

theorem swap_me_peers_others (s : St) (j : Nat) (d : Side) (hd : s.others[j]? = some d) :
    (swap s j).me = d.me ∧ (swap s j).peers = s.peers := by
  rw [swap_of_frame s s j d hd rfl]
  exact ⟨rfl, rfl⟩

end Xp.C06
