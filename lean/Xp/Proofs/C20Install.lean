import Xp.Proofs.C20Steps
import Xp.Proofs.C20List
/-
C20: the package installer – its index (`resolve` finds an installed source under whatever name), the request class
`PkgReq` of its body given what the Lists returned, and what a List call does (`safe_listOf`). The invariant of the
step, with "no second package" and "sources stay parsed" as consequences, is in Proofs/C20InstallFix.lean.
-/
namespace Xp.C20
open Xp

variable {α β : Type}

/-- what List returns for a package kind -/
def listing (s : Store) (k : PKind) : List Pkg :=
  sortBy (fun a b => strLe a.name b.name) (s.pkgs.filter (·.kind = k))

theorem mem_listing (s : Store) (k : PKind) (q : Pkg) : q ∈ listing s k ↔ q ∈ s.pkgs ∧ q.kind = k := by
  simp [listing, mem_sortBy]

theorem exec_listPkgs (s : Store) (k : PKind) : exec s (.listPkgs k) = (s, .pkgs (listing s k)) := rfl

def HasSrc (q : Pkg) (src : String) : Prop := ∃ r, q.ref = some r ∧ r.src = src

def srcIs (src : String) (q : Pkg) : Bool := q.ref.map (·.src) == some src

theorem srcIs_iff (src : String) (q : Pkg) : srcIs src q = true ↔ HasSrc q src := by
  cases h : q.ref <;> simp [srcIs, HasSrc, h]

/-- the index answers with the LAST listed package of that source -/
theorem lookup_eq (pl : List Pkg) (src : String) :
    lookupIndex (buildIndex pl) src = (pl.reverse.find? (srcIs src)).map (·.name) := by
  induction pl with
  | nil => rfl
  | cons p ps ih =>
    simp only [lookupIndex] at ih
    simp only [List.reverse_cons, List.find?_append, Option.map_or, lookupIndex, ← ih]
    cases hr : p.ref with
    | none => simp [buildIndex, srcIs, hr]
    | some r =>
      simp only [buildIndex, hr, List.find?_append, Option.map_or]
      by_cases e : r.src = src <;> simp [e, srcIs, hr]

theorem resolve_eq (pl : List Pkg) (r : Ref) :
    resolve (buildIndex pl) r = ((pl.reverse.find? (srcIs r.src)).map (·.name)).getD (toDNSLabel r.repo) := by
  rw [resolve, lookup_eq]

theorem resolve_hits (pl : List Pkg) (r : Ref) (h : ∃ q ∈ pl, HasSrc q r.src) :
    ∃ q ∈ pl, HasSrc q r.src ∧ resolve (buildIndex pl) r = q.name := by
  obtain ⟨q, hq, hs⟩ := h
  obtain ⟨q', hq'⟩ := Option.isSome_iff_exists.mp
    (List.find?_isSome.mpr ⟨q, List.mem_reverse.mpr hq, (srcIs_iff r.src q).mpr hs⟩)
  exact ⟨q', List.mem_reverse.mp (List.mem_of_find?_eq_some hq'), (srcIs_iff r.src q').mp (List.find?_some hq'),
    by rw [resolve_eq, hq']; rfl⟩

theorem resolve_miss (pl : List Pkg) (r : Ref) (h : ¬ ∃ q ∈ pl, HasSrc q r.src) :
    resolve (buildIndex pl) r = toDNSLabel r.repo := by
  have : pl.reverse.find? (srcIs r.src) = none :=
    List.find?_eq_none.mpr fun q hq hs => h ⟨q, List.mem_reverse.mp hq, (srcIs_iff r.src q).mp hs⟩
  rw [resolve_eq, this]; rfl

theorem buildAll_some (res : List (String × String) → Ref → String) (m : List (String × String)) (imgs : List Img)
    (l : List (String × Ref)) :
    buildAll res m imgs = some l ↔ imgs.map (·.ref) = l.map (some ·.2) ∧ ∀ nr ∈ l, nr.1 = res m nr.2 := by
  induction imgs generalizing l with
  | nil => cases l <;> simp [buildAll]
  | cons i is ih =>
    unfold buildAll
    cases l with
    | nil => cases i.ref <;> simp
    | cons nr l' =>
      cases hr : i.ref with
      | none => simp [hr]
      | some r =>
        simp only [Option.map_eq_some_iff, List.cons.injEq, List.map_cons, Option.some.injEq, List.mem_cons,
          forall_eq_or_imp, hr]
        constructor
        · rintro ⟨l'', hb, rfl, rfl⟩
          obtain ⟨h1, h2⟩ := (ih l'').mp hb
          exact ⟨⟨rfl, h1⟩, rfl, h2⟩
        · rintro ⟨⟨e, h1⟩, e', h2⟩
          cases e
          exact ⟨l', (ih l').mpr ⟨h1, h2⟩, Prod.ext e'.symm rfl, rfl⟩

theorem buildAll_from (res : List (String × String) → Ref → String) (m : List (String × String)) (imgs : List Img)
    (l : List (String × Ref)) (h : buildAll res m imgs = some l) :
    ∀ nr ∈ l, nr.1 = res m nr.2 ∧ ∃ i ∈ imgs, i.ref = some nr.2 := by
  obtain ⟨h1, h2⟩ := (buildAll_some res m imgs l).mp h
  intro nr hnr
  have : some nr.2 ∈ imgs.map (·.ref) := h1 ▸ List.mem_map_of_mem (f := fun x : String × Ref => some x.2) hnr
  obtain ⟨i, hi, e⟩ := List.mem_map.mp this
  exact ⟨h2 nr hnr, i, hi, e⟩

theorem buildAll_mem (res : List (String × String) → Ref → String) (m : List (String × String)) (imgs : List Img)
    (l : List (String × Ref)) (h : buildAll res m imgs = some l) : ∀ nr ∈ l, nr.1 = res m nr.2 :=
  fun nr hnr => (buildAll_from res m imgs l h nr hnr).1

def InstalledSrc (s : Store) (k : PKind) (src : String) : Prop := ∃ q ∈ s.pkgs, q.kind = k ∧ HasSrc q src

/-- no package whose source was installed in `s₀` exists in `s` under a name that `s₀` did not have -/
def NoSecond (s₀ s : Store) : Prop :=
  ∀ q ∈ s.pkgs, ∀ r, q.ref = some r → InstalledSrc s₀ q.kind r.src → ∃ q0 ∈ s₀.pkgs, q0.kind = q.kind ∧ q0.name = q.name

theorem noSecond_of_pkgs₀ {s₀ s₀' s : Store} (h : NoSecond s₀ s) (e : s₀'.pkgs = s₀.pkgs) : NoSecond s₀' s := by
  intro q hq r hr hi
  have : InstalledSrc s₀ q.kind r.src := by
    obtain ⟨q0, h0, hk, hs⟩ := hi; exact ⟨q0, e ▸ h0, hk, hs⟩
  obtain ⟨q0, h0, hk, hn⟩ := h q hq r hr this
  exact ⟨q0, e ▸ h0, hk, hn⟩

/-- the package a request writes: (kind, object name, reference) -/
def Req.pkgTarget : Req → Option (PKind × String × Ref)
  | .createPkg p => p.ref.map fun r => (p.kind, p.name, r)
  | .patchPkg k n r => some (k, n, r)
  | _ => none

/-- the requests of the installer body, given what the three lists returned: a package is written under the name
its reference resolves to in the list of its kind -/
def PkgReq (L : PKind → List Pkg) (r : Req) : Prop :=
  ∀ kd n ref, r.pkgTarget = some (kd, n, ref) → n = resolve (buildIndex (L kd)) ref

theorem resolved_name_installed (s₀ : Store) (k : PKind) (r : Ref) (h : InstalledSrc s₀ k r.src) :
    ∃ q0 ∈ s₀.pkgs, q0.kind = k ∧ q0.name = resolve (buildIndex (listing s₀ k)) r := by
  obtain ⟨q, hq, hk, hs⟩ := h
  obtain ⟨q0, h0, _, hn⟩ := resolve_hits (listing s₀ k) r ⟨q, (mem_listing _ _ _).mpr ⟨hq, hk⟩, hs⟩
  obtain ⟨h0', hk0⟩ := (mem_listing _ _ _).mp h0
  exact ⟨q0, h0', hk0, hn.symm⟩

theorem installBody_issues (L : PKind → List Pkg) (p c f : List Img) :
    Issues (PkgReq L) (installBody resolve p c f (L .provider) (L .configuration) (L .function)) := by
  refine installBody_issues_of _ resolve p c f _ _ _ fun l hb r hr kd n ref ht => ?_
  have hl : ∀ k, ∀ nr ∈ l k, nr.1 = resolve (buildIndex (L k)) nr.2 := fun k => by
    have := hb k
    cases k <;> exact buildAll_mem _ _ _ _ this
  cases r with
  | createPkg q =>
    obtain ⟨_, nr, hnr, hn, href, _⟩ := hr
    simp only [Req.pkgTarget, href, Option.map_some, Option.some.injEq, Prod.mk.injEq] at ht
    obtain ⟨rfl, rfl, rfl⟩ := ht
    exact hn ▸ hl _ nr hnr
  | patchPkg k n' r' =>
    cases ht
    exact hl kd (n, ref) hr
  | _ => cases ht

/-- a List call is a read, and an error ends the step: an invariant at every instant (`Safe`, Base) is one of what follows -/
theorem safe_listOf {Inv : Store → Prop} {kd : PKind} {cont : List Pkg → P Res} {s : Store} (hs : Inv s)
    (hc : Safe sem Inv (cont (listing s kd)) s) : Safe sem Inv (listOf kd cont) s :=
  ⟨hs, hc, trivial, trivial⟩

/-- `l k` are the (object name, reference) pairs the installer resolves for kind `k` from the listings of `s` -/
def Built (s : Store) (p c f : List Img) (l : PKind → List (String × Ref)) : Prop :=
  ∀ k, buildAll resolve (buildIndex (listing s k)) (perKind p c f k) = some (l k)

theorem Built.names {s : Store} {p c f : List Img} {l : PKind → List (String × Ref)} (hb : Built s p c f l) (k : PKind) :
    ∀ nr ∈ l k, nr.1 = resolve (buildIndex (listing s k)) nr.2 :=
  buildAll_mem _ _ _ _ (hb k)

theorem Built.unique {s : Store} {p c f : List Img} {l l' : PKind → List (String × Ref)}
    (h : Built s p c f l) (h' : Built s p c f l') : l = l' :=
  funext fun k => Option.some.inj ((h k).symm.trans (h' k))

/-! ### package sources stay parsed

"Every stored package's source is the one ParsePackageSourceFromReference computes from its reference
as written" is an invariant of the installer – the hypothesis `r.src = parseSource r.str` of the theorems over
references as written (Props/C20.lean) holds of every package the installer ever writes, at every instant,
under every fault plan, when it holds of the cluster it starts from and of the requested images (the driver
builds both that way).
-/

def Ref.Parsed (r : Ref) : Prop := r.src = parseSource r.str

def ParsedStore (s : Store) : Prop := ∀ q ∈ s.pkgs, ∀ r, q.ref = some r → r.Parsed
def ParsedImgs (l : List Img) : Prop := ∀ i ∈ l, ∀ r, i.ref = some r → r.Parsed

theorem buildAll_parsed (res : List (String × String) → Ref → String) (m : List (String × String)) (imgs : List Img)
    (l : List (String × Ref)) (h : buildAll res m imgs = some l) (hi : ParsedImgs imgs) : ∀ nr ∈ l, nr.2.Parsed := by
  intro nr hnr
  obtain ⟨_, i, hmem, hr⟩ := buildAll_from res m imgs l h nr hnr
  exact hi i hmem nr.2 hr

end Xp.C20
