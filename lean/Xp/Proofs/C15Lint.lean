import Xp.Model.C15
/-
The linters as lint.go composes them (`lintS`): what their checks accept lies within a list of allowed kinds
(`objFnsWithin`, `metaFnsWithin`), and agrees with what the whole-linter probe found – kind by kind
(`lint_structure_eq_probe`), hence as linters (`lintS_eq_lint`).
-/
namespace Xp.C15

/-- the kinds one disjunction (`parser.Or`) of object checks accepts -/
def disjKinds (d : List String) : List String := d.flatMap accepts

/-- Table obligation form of "the object checks of `t` accept only `allowed`": there is at
least one `ObjectLinterFn`, and everything its first disjunction accepts is allowed.  The first one is enough:
an object has to pass every `ObjectLinterFn`, so what passes them all is among what the first accepts
(`objKindOk_within`). -/
def objFnsWithin (t : PType) (allowed : List String) : Bool :=
  match lintObjFns t with
  | [] => false
  | d :: _ => (disjKinds d).all allowed.contains

/-- the same for the checks run on a meta object: there is one, and what the first accepts is allowed
(`metaKindOk_within`) -/
def metaFnsWithin (t : PType) (allowed : List String) : Bool :=
  match lintMetaFns t with
  | [] => false
  | fn :: _ => (accepts fn).all allowed.contains

theorem any_accepts (d : List String) (k : String) :
    (d.any fun fn => (accepts fn).contains k) = (disjKinds d).contains k := by
  rw [Bool.eq_iff_iff]
  simp [disjKinds]

theorem objKindOk_within (t : PType) (allowed : List String) (h : objFnsWithin t allowed = true)
    (k : String) (hk : objKindOk t k = true) : allowed.contains k = true := by
  unfold objFnsWithin at h
  unfold objKindOk at hk
  split at h
  · cases h
  · rename_i d ds heq
    rw [heq, List.all_cons, any_accepts, Bool.and_eq_true] at hk
    exact (List.all_eq_true.mp h) k (List.contains_iff_mem.mp hk.1)

theorem metaKindOk_within (t : PType) (allowed : List String) (h : metaFnsWithin t allowed = true)
    (k : String) (hk : metaKindOk t k = true) : allowed.contains k = true := by
  unfold metaFnsWithin at h
  unfold metaKindOk at hk
  split at h
  · cases h
  · rename_i fn fns heq
    rw [heq, List.all_cons, Bool.and_eq_true] at hk
    exact (List.all_eq_true.mp h) k (List.contains_iff_mem.mp hk.1)

theorem all_contains_eq {α : Type} (g : α → List String) {d : α} {ds : List α} {P : List String}
    (h : (∀ k ∈ P, ∀ x ∈ d :: ds, k ∈ g x) ∧ ∀ k ∈ g d, (∀ x ∈ ds, k ∈ g x) → k ∈ P) (k : String) :
    (d :: ds).all (fun x => (g x).contains k) = P.contains k := by
  rw [Bool.eq_iff_iff, List.all_eq_true, List.contains_iff_mem]
  constructor
  · intro hk
    have hm : ∀ x ∈ d :: ds, k ∈ g x := fun x hx => List.contains_iff_mem.mp (hk x hx)
    exact h.2 k (hm d List.mem_cons_self) fun x hx => hm x (List.mem_cons_of_mem _ hx)
  · intro hk x hx
    exact List.contains_iff_mem.mpr (h.1 k hk x hx)

section
open Xp.Gen

/- the tables the two readings of lint.go consist of, for `simp` to evaluate the obligations of `all_contains_eq` -/
attribute [local simp] lintObjKinds lintMetaKinds disjKinds accepts List.lookup c15CheckAccepts
  c15ProviderObjectKinds c15ProviderMetaKinds c15ConfigurationObjectKinds c15ConfigurationMetaKinds
  c15FunctionObjectKinds c15FunctionMetaKinds

/-- The composition read from the source and the whole-linter probe agree on EVERY kind, in the schemes or not:
the kinds of the probe pass every check of the composition, and what passes them all is in the probe's list
(read off the first check: the one object disjunction; `Is<Type>` among the meta checks). -/
theorem lint_structure_eq_probe (t : PType) (k : String) :
    objKindOk t k = (lintObjKinds t).contains k ∧ metaKindOk t k = (lintMetaKinds t).contains k := by
  unfold objKindOk metaKindOk
  simp only [any_accepts]
  cases t with
  | provider => exact ⟨all_contains_eq disjKinds (by simp) k, all_contains_eq accepts (by simp) k⟩
  | configuration => exact ⟨all_contains_eq disjKinds (by simp) k, all_contains_eq accepts (by simp) k⟩
  | function => exact ⟨all_contains_eq disjKinds (by simp) k, all_contains_eq accepts (by simp) k⟩

end

theorem lintPkgFns_eq (t : PType) : lintPkgFns t = ["OneMeta"] := by
  cases t <;> rfl

theorem semver_checked (t : PType) : (lintMetaFns t).contains "PackageValidSemver" = true := by
  cases t <;> simp [lintMetaFns, Xp.Gen.c15LintProviderMeta, Xp.Gen.c15LintConfigurationMeta, Xp.Gen.c15LintFunctionMeta]

theorem all_and_at {l : List String} {s : String} (hs : l.contains s = true) (A : String → Bool) (b : Bool) :
    l.all (fun x => A x && (x != s || b)) = (l.all A && b) := by
  cases b with
  | true => simp
  | false =>
    rw [Bool.and_false, List.all_eq_false]
    exact ⟨s, List.contains_iff_mem.mp hs, by simp⟩

theorem lintS_eq_lint (t : PType) (p : Pkg) : lintS t p = lint t p := by
  unfold lintS lint
  congr 2
  · rw [lintPkgFns_eq]
    simp [pkgCheck]
  · congr 1
    funext m
    exact (all_and_at (semver_checked t) _ _).trans (by rw [← (lint_structure_eq_probe t m.gvk).2]; rfl)
  · congr 1
    funext o
    exact (lint_structure_eq_probe t o.gvk).1

end Xp.C15
