import Xp.Proofs.C13Next
/-
C13: progress. A thread can step once the lock requests it makes at its pc are granted
(`next_enabled`); under mutual exclusion some unfinished thread always can (`progress_of_mutex`).
Both code variants.
-/
namespace Xp.C13

/-- the call has returned (with whatever result) -/
def Thread.finished (t : Thread) : Prop := ∃ r, t.pc = .done r

theorem isPerm_self (l : List Wid) : l.isPerm l = true := List.isPerm_iff.2 (List.Perm.refl l)

theorem spLoop_pick {srcs : List (Wid × Nat)} (h : srcs ≠ []) : ∃ w reg, aget w srcs = some reg := by
  cases srcs with
  | nil => exact absurd rfl h
  | cons p m => obtain ⟨k, v⟩ := p; exact ⟨k, v, by simp [aget_cons]⟩

/-- An unfinished thread can step as soon as the lock requests it makes at its pc are granted: any
request if it holds nothing, and `c.mx` for the one request made while holding a lock (Stop asks for
the controller's lock while holding the engine's). -/
theorem next_enabled {cfg : Cfg} {s : Sys} {i : Nat} {t : Thread} (hnd : ¬ t.finished)
    (hfree : t.pc.held = ⟨.n, none⟩ → ∀ pc' : Pc, free s i pc'.held = true)
    (hspc : ∀ n cid, t.pc = .spC n cid → free s i ⟨.w, some (cid, .w)⟩ = true) :
    ∃ ch r, next cfg s i t ch = some r := by
  obtain ⟨op, pc⟩ := t
  cases pc
  case done r => exact absurd ⟨r, rfl⟩ hnd
  case idle =>
    cases op
    all_goals
      simp only [next, acquire, hfree rfl, if_true]
      exact ⟨{}, _, rfl⟩
  case spC n cid =>
    have := hspc n cid rfl
    simp only [next, acquire, Pc.held, this, if_true]
    exact ⟨{}, _, rfl⟩
  case spLoop n cid =>
    simp only [next]
    cases hs : srcsOf s cid with
    | nil => exact ⟨{}, _, rfl⟩
    | cons p m =>
      obtain ⟨w, reg, hw⟩ := spLoop_pick (srcs := p :: m) (by simp)
      refine ⟨{ pick := w }, (.spGI n cid w reg, .nop), ?_⟩
      simp only [hw]
  case gcCRrel cid l n refs =>
    simp only [next]
    cases hg : gcStop cfg l refs with
    | nil => exact ⟨{}, _, rfl⟩
    | cons w ws =>
      refine ⟨{ perm := w :: ws }, (.xw0 n (w :: ws), .nop), ?_⟩
      simp only [isPerm_self, if_true]
  case swLU o ws => cases o <;> exact ⟨{}, _, rfl⟩
  case xwLU o ws => cases o <;> exact ⟨{}, _, rfl⟩
  case gwLU o => cases o <;> exact ⟨{}, _, rfl⟩
  case gcLU o n refs => cases o <;> exact ⟨{}, _, rfl⟩
  case swCRrel cid ws a start => cases start <;> exact ⟨{}, _, rfl⟩
  case xwCRrel cid ws stop => cases stop <;> exact ⟨{}, _, rfl⟩
  case swAH cid a st wid rest h => exact ⟨{ fault := true }, (.relC cid .err, .nop), by simp [next]⟩
  case swCR | swCW | xw0 | xwCR | xwCW | gwCR | gc1 | gcCR =>
    simp only [next, acquire, hfree rfl, if_true]
    exact ⟨{}, _, rfl⟩
  -- at the remaining pcs `next` is defined whatever the state
  all_goals exact ⟨{}, _, rfl⟩

theorem next_enabled_of_held {cfg : Cfg} {s : Sys} {i : Nat} {t : Thread}
    (hheld : t.pc.held ≠ ⟨.n, none⟩)
    (hspc : ∀ n cid, t.pc = .spC n cid → free s i ⟨.w, some (cid, .w)⟩ = true) :
    ∃ ch r, next cfg s i t ch = some r :=
  next_enabled (fun ⟨r, hr⟩ => hheld (by rw [hr]; rfl)) (fun e => absurd e hheld) hspc

theorem progress_of_mutex {cfg : Cfg} {s : Sys} (hm : Mutex s)
    (h : ∃ (i : Nat) (t : Thread), s.threads[i]? = some t ∧ ¬ t.finished) :
    ∃ i ch s', step cfg s i ch = some s' := by
  have stepOf : ∀ (j : Nat) (tj : Thread), s.threads[j]? = some tj → (∃ ch r, next cfg s j tj ch = some r) →
      ∃ i ch s', step cfg s i ch = some s' := by
    intro j tj hj ⟨ch, r, hr⟩
    obtain ⟨pc', act⟩ := r
    exact ⟨j, ch, _, step_of_next hj hr⟩
  by_cases hA : ∃ (j : Nat) (tj : Thread), s.threads[j]? = some tj ∧ tj.pc.held ≠ ⟨.n, none⟩
  · -- some thread holds a lock. Prefer one that holds a controller lock.
    by_cases hC : ∃ (j : Nat) (tj : Thread), s.threads[j]? = some tj ∧ tj.pc.held.c ≠ none
    · obtain ⟨j, tj, hj, hc⟩ := hC
      apply stepOf j tj hj
      apply next_enabled_of_held
      · intro e; rw [e] at hc; exact hc rfl
      · intro n cid hpc; rw [hpc] at hc; exact absurd rfl hc
    · obtain ⟨j, tj, hj, hh⟩ := hA
      apply stepOf j tj hj
      apply next_enabled_of_held hh
      intro n cid hpc
      rw [free_iff]
      intro k tk hk hkj
      have hcn : tk.pc.held.c = none := Classical.byContradiction fun hx => hC ⟨k, tk, hk, hx⟩
      have he : tk.pc.held.e = .n := hm.excl_e (fun e => hkj e.symm) hj hk (by rw [hpc]; rfl)
      simp only [Held.compat, he, hcn, Mode.compat, Bool.and_self]
  · -- nobody holds a lock: every request is granted
    obtain ⟨i, t, hi, hnd⟩ := h
    apply stepOf i t hi
    have hfree : ∀ pc' : Pc, free s i pc'.held = true := by
      intro pc'
      rw [free_iff]
      intro k tk hk _
      have : tk.pc.held = ⟨.n, none⟩ := Classical.byContradiction fun hx => hA ⟨k, tk, hk, hx⟩
      rw [this]
      exact Held.compat_nothing _
    exact next_enabled hnd (fun _ => hfree) (fun n cid _ => hfree (.spLoop n cid))

end Xp.C13
