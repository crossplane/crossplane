import Xp.Proofs.C13Data
/-
C13: `next` as a relation: `Next` has one rule per branch of `next`, `next_inv` is its inversion theorem.
From it: `next_held` (a step acquires, or ends holding no more than before) and `act_at` (at which pc each
global action is performed). Then the shape of a step (`step_unpack`, `step_of_next`) and
mutual exclusion (`Mutex`) as an invariant of every step of both code variants (`Mutex_reachable`).
-/
namespace Xp.C13

theorem swPc_held (cid : Nat) (a : List Nat) (st : List Wid) (o) : (swPc cid a st o).held = ⟨.n, some (cid, .w)⟩ := by
  cases o with
  | none => rfl
  | some p => obtain ⟨w, r⟩ := p; rfl

theorem xwPc_held (cid k : Nat) (o) : (xwPc cid k o).held = ⟨.n, some (cid, .w)⟩ := by
  cases o with
  | none => rfl
  | some p => obtain ⟨w, r, l⟩ := p; rfl

variable (cfg : Cfg) (s : Sys) (i : Nat) (ch : Choice) in
/-- `next` as a relation, one rule per branch: a thread running `op` at `pc` may move to `pc'`
performing `act`. A rule with a premise `free s i ⟨e, c⟩ = true` is an acquisition: `⟨e, c⟩` is what the
thread holds afterwards (`Pc.held` of the target: mode of `e.mx`, controller and mode of `c.mx`). A premise is kept
where an invariant needs it (the conditions on `ch.fault` are not). -/
inductive Next : Op → Pc → Pc → Act → Prop
  -- Start
  | startRunning : free s i ⟨.w, none⟩ = true →
      Next (.start n) .idle (.relE .ok) .nop
  | startNew : free s i ⟨.w, none⟩ = true → Next (.start n) .idle (.stNC n) .nop
  | ncFail : Next op (.stNC n) (.relE .err) .nop
  | ncOk : Next op (.stNC n) (.relE .ok) (.newCtl n)
  -- Stop
  | stopRunning : aget n s.ctrls = some cid → free s i ⟨.w, none⟩ = true →
      Next (.stop n) .idle (.spC n cid) .nop
  | stopNone : free s i ⟨.w, none⟩ = true → Next (.stop n) .idle (.relE .ok) .nop
  | spLock : free s i ⟨.w, some (cid, .w)⟩ = true → Next op (.spC n cid) (.spLoop n cid) .nop
  | spDone : srcsOf s cid = [] → Next op (.spLoop n cid) (.relCE cid .ok) (.finishStop n cid)
  | spPick : aget ch.pick (srcsOf s cid) = some reg →
      Next op (.spLoop n cid) (.spGI n cid ch.pick reg) .nop
  | spGIfail : Next op (.spGI n cid wid reg) (.relCE cid .err) (.getInformer wid.gvk true)
  | spGI :
      Next op (.spGI n cid wid reg) (.spRH n cid wid reg (handle s wid.gvk)) (.getInformer wid.gvk false)
  | spRHfail : Next op (.spRH n cid wid reg h) (.relCE cid .err) .nop
  | spRH : Next op (.spRH n cid wid reg h) (.spLoop n cid) (.delReg cid wid reg)
  -- the releases
  | relE : Next op (.relE r) (.done r) .nop
  | relCE : Next op (.relCE cid r) (.relE r) .nop
  | relC : Next op (.relC cid r) (.done r) .nop
  -- IsRunning
  | isRunning : free s i ⟨.r, none⟩ = true →
      Next (.isRunning n) .idle (.irRel (aget n s.ctrls).isSome) (.logEv (.isRunning n (aget n s.ctrls).isSome))
  | irRel : Next op (.irRel b) (.done (.bool b)) .nop
  -- StartWatches
  | swLookup : free s i ⟨.r, none⟩ = true →
      Next (.startWatches n ws) .idle (.swLU (aget n s.ctrls) ws) .nop
  | swNotRunning : Next op (.swLU none ws) (.done .notRunning) .nop
  | swFound : Next op (.swLU (some cid) ws) (.swAI cid ws) .nop
  | swAI : Next op (.swAI cid ws) (.swCR cid ws s.tracked) .nop
  | swCR : free s i ⟨.n, some (cid, .r)⟩ = true →
      Next op (.swCR cid ws a) (.swCRrel cid ws a (swNext (srcsOf s cid) a [] ws).isSome) .nop
  | swNothing : Next op (.swCRrel cid ws a false) (.done .ok) .nop
  | swSome : Next op (.swCRrel cid ws a true) (.swCW cid ws a) .nop
  | swStopped : free s i ⟨.n, some (cid, .w)⟩ = true →
      Next op (.swCW cid ws a) (.relC cid .notRunning) .nop
  | swLocked : ¬(cfg.fixD12 && stoppedOf s cid) = true → free s i ⟨.n, some (cid, .w)⟩ = true →
      Next op (.swCW cid ws a) (.swAI2 cid ws) .nop
  | swLockedOld : ¬cfg.fixD2 = true → free s i ⟨.n, some (cid, .w)⟩ = true →
      Next op (.swCW cid ws a) (swPc cid a [] (swNext (srcsOf s cid) a [] ws)) .nop
  | swAI2 :
      Next op (.swAI2 cid ws) (swPc cid s.tracked [] (swNext (srcsOf s cid) s.tracked [] ws)) .nop
  | swGIfail : Next op (.swGI cid a st wid rest) (.relC cid .err) (.getInformer wid.gvk true)
  | swGI :
      Next op (.swGI cid a st wid rest) (.swAH cid a st wid rest (handle s wid.gvk)) (.getInformer wid.gvk false)
  | swAHfail : Next op (.swAH cid a st wid rest h) (.relC cid .err) .nop
  | swAH {cid : Nat} {a : List Nat} {st : List Wid} {wid : Wid} {rest : List Wid} {h : Nat} :
      aget wid.gvk s.live = some h →
      Next op (.swAH cid a st wid rest h)
        (swPc cid a (if cfg.fixD2 then wid :: st else st)
          (swNext (aset wid s.nextReg (srcsOf s cid)) a (if cfg.fixD2 then wid :: st else st) rest))
        (.addReg cid wid h)
  -- StopWatches
  | xwLookup : free s i ⟨.r, none⟩ = true →
      Next (.stopWatches n ws) .idle (.xwLU (aget n s.ctrls) ws) .nop
  | xw0 : free s i ⟨.r, none⟩ = true →
      Next op (.xw0 n ws) (.xwLU (aget n s.ctrls) ws) .nop
  | xwNotRunning : Next op (.xwLU none ws) (.done .notRunning) .nop
  | xwFound : Next op (.xwLU (some cid) ws) (.xwCR cid ws) .nop
  | xwCR : free s i ⟨.n, some (cid, .r)⟩ = true →
      Next op (.xwCR cid ws) (.xwCRrel cid ws (xwNext (srcsOf s cid) ws).isSome) .nop
  | xwNothing : Next op (.xwCRrel cid ws false) (.done (.count 0 true)) .nop
  | xwSome : Next op (.xwCRrel cid ws true) (.xwCW cid ws) .nop
  | xwCW : free s i ⟨.n, some (cid, .w)⟩ = true →
      Next op (.xwCW cid ws) (xwPc cid 0 (xwNext (srcsOf s cid) ws)) .nop
  | xwGIfail :
      Next op (.xwGI cid wid reg rest k) (.relC cid (.count k false)) (.getInformer wid.gvk true)
  | xwGI :
      Next op (.xwGI cid wid reg rest k) (.xwRH cid wid reg rest k (handle s wid.gvk)) (.getInformer wid.gvk false)
  | xwRHfail : Next op (.xwRH cid wid reg rest k h) (.relC cid (.count k false)) .nop
  | xwRH :
      Next op (.xwRH cid wid reg rest k h) (xwPc cid (k + 1) (xwNext (adel wid (srcsOf s cid)) rest))
        (.delReg cid wid reg)
  -- GetWatches
  | gwLookup : free s i ⟨.r, none⟩ = true →
      Next (.getWatches n) .idle (.gwLU (aget n s.ctrls)) .nop
  | gwNotRunning : Next op (.gwLU none) (.done .notRunning) .nop
  | gwFound : Next op (.gwLU (some cid)) (.gwCR cid) .nop
  | gwCR : free s i ⟨.n, some (cid, .r)⟩ = true →
      Next op (.gwCR cid) (.gwCRrel cid ((srcsOf s cid).map (·.1))) .nop
  | gwCRrel : Next op (.gwCRrel cid l) (.done (.watches l)) .nop
  -- the collector
  | gcListFail : Next (.gc n xrs) .idle (.done .err) .nop
  | gcList : Next (.gc n xrs) .idle (.gc1 n (refsOf xrs)) .nop
  | gc1 : free s i ⟨.r, none⟩ = true →
      Next op (.gc1 n refs) (.gcLU (aget n s.ctrls) n refs) .nop
  | gcNotRunning : Next op (.gcLU none n refs) (.done .err) .nop
  | gcFound : Next op (.gcLU (some cid) n refs) (.gcCR cid n refs) .nop
  | gcCR : free s i ⟨.n, some (cid, .r)⟩ = true →
      Next op (.gcCR cid n refs) (.gcCRrel cid ((srcsOf s cid).map (·.1)) n refs) .nop
  | gcNothing : Next op (.gcCRrel cid l n refs) (.done .ok) .nop
  | gcStop : ch.perm.isPerm (gcStop cfg l refs) = true →
      Next op (.gcCRrel cid l n refs) (.xw0 n ch.perm) .nop
  -- the tracking cache
  | rmInformer : Next (.removeInformer g) .idle (.done .ok) (.rmInformer g)
  | cacheRead : Next (.cacheRead g) .idle (.done r) (.getInformer g ch.fault)

section
variable {cfg : Cfg} {s : Sys} {i : Nat} {op : Op} {pc pc0 pc' : Pc} {ch : Choice} {act0 act : Act}

theorem Next.of_some (h : some (pc0, act0) = some (pc', act)) (r : Next cfg s i ch op pc pc0 act0) :
    Next cfg s i ch op pc pc' act := by
  cases h; exact r

theorem Next.of_acquire (h : acquire s i pc0 act0 = some (pc', act))
    (r : free s i pc0.held = true → Next cfg s i ch op pc pc0 act0) : Next cfg s i ch op pc pc' act := by
  obtain ⟨rfl, rfl, hf⟩ := acquire_some h
  exact r hf

theorem Next.of_ite {c : Prop} [Decidable c] {pc1 pc2 : Pc} {act1 act2 : Act}
    (h : (if c then some (pc1, act1) else some (pc2, act2)) = some (pc', act))
    (r1 : Next cfg s i ch op pc pc1 act1) (r2 : Next cfg s i ch op pc pc2 act2) : Next cfg s i ch op pc pc' act := by
  split at h
  · exact .of_some h r1
  · exact .of_some h r2

theorem next_inv (h : next cfg s i ⟨op, pc⟩ ch = some (pc', act)) : Next cfg s i ch op pc pc' act := by
  cases pc <;> simp only [next] at h
  case idle =>
    cases op <;> simp only at h
    case start =>
      split at h
      · exact .of_acquire h .startRunning
      · exact .of_acquire h .startNew
    case stop =>
      split at h
      · exact .of_acquire h (.stopRunning ‹_›)
      · exact .of_acquire h .stopNone
    case isRunning => exact .of_acquire h .isRunning
    case startWatches => exact .of_acquire h .swLookup
    case stopWatches => exact .of_acquire h .xwLookup
    case getWatches => exact .of_acquire h .gwLookup
    case gc => exact .of_ite h .gcListFail .gcList
    case removeInformer => exact .of_some h .rmInformer
    case cacheRead => exact .of_some h .cacheRead
  case done => cases h
  case relE => exact .of_some h .relE
  case relCE => exact .of_some h .relCE
  case relC => exact .of_some h .relC
  case stNC => exact .of_ite h .ncFail .ncOk
  case spC => exact .of_acquire h .spLock
  case spLoop =>
    split at h
    · exact .of_some h (.spDone ‹_›)
    · split at h
      · exact .of_some h (.spPick ‹_›)
      · cases h
  case spGI => exact .of_ite h .spGIfail .spGI
  case spRH => exact .of_ite h .spRHfail .spRH
  case irRel => exact .of_some h .irRel
  case swLU o ws =>
    rcases o with _ | cid
    · exact .of_some h .swNotRunning
    · exact .of_some h .swFound
  case swAI => exact .of_some h .swAI
  case swCR => exact .of_acquire h .swCR
  case swCRrel cid ws a start =>
    cases start
    · exact .of_some h .swNothing
    · exact .of_some h .swSome
  case swCW =>
    split at h
    · exact .of_acquire h .swStopped
    · split at h
      · exact .of_acquire h (.swLocked ‹_›)
      · exact .of_acquire h fun hf => .swLockedOld ‹_› (swPc_held .. ▸ hf)
  case swAI2 => exact .of_some h .swAI2
  case swGI => exact .of_ite h .swGIfail .swGI
  case swAH =>
    split at h
    · exact .of_some h .swAHfail
    · -- AddEventHandler succeeds only on the informer the handle came from
      rename_i hne
      simp only [Bool.or_eq_true, bne_iff_ne, ne_eq, not_or, Decidable.not_not] at hne
      exact .of_some h (.swAH hne.2)
  case xw0 => exact .of_acquire h .xw0
  case xwLU o ws =>
    rcases o with _ | cid
    · exact .of_some h .xwNotRunning
    · exact .of_some h .xwFound
  case xwCR => exact .of_acquire h .xwCR
  case xwCRrel cid ws stop =>
    cases stop
    · exact .of_some h .xwNothing
    · exact .of_some h .xwSome
  case xwCW => exact .of_acquire h fun hf => .xwCW (xwPc_held .. ▸ hf)
  case xwGI => exact .of_ite h .xwGIfail .xwGI
  case xwRH => exact .of_ite h .xwRHfail .xwRH
  case gwLU o =>
    rcases o with _ | cid
    · exact .of_some h .gwNotRunning
    · exact .of_some h .gwFound
  case gwCR => exact .of_acquire h .gwCR
  case gwCRrel => exact .of_some h .gwCRrel
  case gc1 => exact .of_acquire h .gc1
  case gcLU o n refs =>
    rcases o with _ | cid
    · exact .of_some h .gcNotRunning
    · exact .of_some h .gcFound
  case gcCR => exact .of_acquire h .gcCR
  case gcCRrel =>
    split at h
    · exact .of_some h .gcNothing
    · rename_i heq
      split at h
      · exact .of_some h (.gcStop (heq ▸ ‹_›))
      · cases h

end

theorem next_held {cfg : Cfg} {s : Sys} {i : Nat} {t : Thread} {ch : Choice} {pc' : Pc} {act : Act}
    (h : next cfg s i t ch = some (pc', act)) :
    free s i pc'.held = true ∨ pc'.held.le t.pc.held := by
  obtain ⟨op, pc⟩ := t
  cases next_inv h
  case swAI2 | swAH => right; rw [swPc_held]; exact ⟨rfl, Or.inr rfl⟩
  case xwRH => right; rw [xwPc_held]; exact ⟨rfl, Or.inr rfl⟩
  case swLockedOld => left; rw [swPc_held]; assumption
  case xwCW => left; rw [xwPc_held]; assumption
  -- the acquisitions
  case startRunning | startNew | stopRunning | stopNone | spLock | isRunning | swLookup | swCR | swStopped
      | swLocked | xwLookup | xw0 | xwCR | gwLookup | gwCR | gc1 | gcCR =>
    exact Or.inl ‹_›
  -- the steps under a controller's write lock that keep it
  case spDone | spPick | spGIfail | spGI | spRHfail | spRH | swGIfail | swGI | swAHfail | xwGIfail | xwGI
      | xwRHfail =>
    exact Or.inr ⟨rfl, Or.inr rfl⟩
  -- all others end without a controller lock
  all_goals exact Or.inr ⟨rfl, Or.inl rfl⟩

/-- at which pc each action that writes is performed, and what `next` has checked there -/
theorem act_at {cfg : Cfg} {s : Sys} {i : Nat} {t : Thread} {ch : Choice} {pc' : Pc} {act : Act}
    (h : next cfg s i t ch = some (pc', act)) :
    match act with
    | .logEv e => ∃ n, t.op = .isRunning n ∧ t.pc = .idle ∧ e = .isRunning n (aget n s.ctrls).isSome
    | .newCtl n => t.pc = .stNC n
    | .finishStop n cid => t.pc = .spLoop n cid ∧ srcsOf s cid = []
    | .addReg cid wid h' => ∃ a st rest, t.pc = .swAH cid a st wid rest h' ∧ aget wid.gvk s.live = some h'
    | .delReg cid wid reg =>
      (∃ n h', t.pc = .spRH n cid wid reg h') ∨ ∃ rest k h', t.pc = .xwRH cid wid reg rest k h'
    | .rmInformer g => t.op = .removeInformer g ∧ t.pc = .idle
    | _ => True := by
  obtain ⟨op, pc⟩ := t
  cases next_inv h
  case isRunning => exact ⟨_, rfl, rfl, rfl⟩
  case ncOk => exact rfl
  case spDone => exact ⟨rfl, ‹_›⟩
  case swAH => exact ⟨_, _, _, rfl, ‹_›⟩
  case spRH => exact Or.inl ⟨_, _, rfl⟩
  case xwRH => exact Or.inr ⟨_, _, _, rfl⟩
  case rmInformer => exact ⟨rfl, rfl⟩
  all_goals exact trivial

theorem Act.apply_set_threads (a : Act) (s : Sys) (ths : List Thread) :
    a.apply { s with threads := ths } = { a.apply s with threads := ths } := by
  cases a <;> try rfl
  case getInformer g f =>
    simp only [Act.apply]
    split
    · rfl
    · split <;> rfl

/-- Every field of `s'` but the threads is that of `act.apply s` by `rfl`: what is proved of the action
alone holds of the step. -/
theorem step_unpack {cfg : Cfg} {s s' : Sys} {i : Nat} {ch : Choice} (h : step cfg s i ch = some s') :
    ∃ t pc' act, s.threads[i]? = some t ∧ next cfg s i t ch = some (pc', act) ∧
      s' = { act.apply s with threads := s.threads.set i { t with pc := pc' } } := by
  unfold step at h
  split at h
  · cases h
  · rename_i t ht
    split at h
    · cases h
    · rename_i pc' act hn
      cases h
      exact ⟨t, pc', act, ht, hn, Act.apply_set_threads _ _ _⟩

theorem step_of_next {cfg : Cfg} {s : Sys} {i : Nat} {t : Thread} {ch : Choice} {pc' : Pc} {act : Act}
    (ht : s.threads[i]? = some t) (hn : next cfg s i t ch = some (pc', act)) :
    step cfg s i ch = some { act.apply s with threads := s.threads.set i { t with pc := pc' } } := by
  simp only [step, ht, hn, Act.apply_set_threads]

/-- no two threads hold conflicting locks: `e.mx`, or the same controller's `c.mx`, one of them for
writing (`Held.compat`) -/
def Mutex (s : Sys) : Prop :=
  ∀ (i j : Nat) (ti tj : Thread), i ≠ j → s.threads[i]? = some ti → s.threads[j]? = some tj →
    ti.pc.held.compat tj.pc.held = true

theorem init_thread {ops : List Op} {i : Nat} {t : Thread} (ht : (init ops).threads[i]? = some t) : t.pc = .idle := by
  simp only [init, List.getElem?_map, Option.map_eq_some_iff] at ht
  obtain ⟨o, _, rfl⟩ := ht
  rfl

theorem Mutex_init (ops : List Op) : Mutex (init ops) := by
  intro i j ti tj _ hi hj
  rw [init_thread hi, init_thread hj]
  rfl

theorem Mutex_step {cfg : Cfg} {s s' : Sys} {i : Nat} {ch : Choice} (hm : Mutex s)
    (h : step cfg s i ch = some s') : Mutex s' := by
  obtain ⟨t, pc', act, ht, hn, rfl⟩ := step_unpack h
  exact mutex_set (held := fun u : Thread => u.pc.held) Held.compat_comm Held.compat_of_le ht hm
    ((next_held hn).imp_left (free_iff s i _).1)

theorem Mutex_reachable {ops : List Op} {cfg : Cfg} {s : Sys} (h : Reachable cfg ops s) : Mutex s := by
  induction h with
  | init => exact Mutex_init ops
  | step i ch _ hs ih => exact Mutex_step ih hs

theorem Mutex.excl_e {s : Sys} (hm : Mutex s) {i j : Nat} {ti tj : Thread} (hij : i ≠ j)
    (hi : s.threads[i]? = some ti) (hj : s.threads[j]? = some tj)
    (wi : ti.pc.held.e = .w) : tj.pc.held.e = .n := by
  have h := hm i j ti tj hij hi hj
  simp only [Held.compat, Bool.and_eq_true] at h
  obtain ⟨h1, _⟩ := h
  rw [wi] at h1
  revert h1
  cases tj.pc.held.e <;> intro h1 <;> first | rfl | cases h1

/-- `m = .n` because that is the one mode compatible with `.w`; a caller that knows `m` is `.r` or `.w` closes its
goal with it (`nomatch`) -/
theorem Mutex.excl_c {s : Sys} (hm : Mutex s) {i j : Nat} {ti tj : Thread} (hij : i ≠ j)
    (hi : s.threads[i]? = some ti) (hj : s.threads[j]? = some tj) {cid : Nat} {m : Mode}
    (wi : ti.pc.held.c = some (cid, .w)) (wj : tj.pc.held.c = some (cid, m)) : m = .n := by
  have h := hm i j ti tj hij hi hj
  simp only [Held.compat, Bool.and_eq_true] at h
  obtain ⟨_, h2⟩ := h
  rw [wi, wj] at h2
  simp only [bne_self_eq_false, Bool.false_or] at h2
  revert h2
  cases m <;> intro h2 <;> first | rfl | cases h2

end Xp.C13
