import Xp.Model.C08
/-
C08, births, from the model alone: what a schedule step brings into the world (`births_of_not_create`,
`birthsSince_act`), a creation-free schedule brings nothing and is therefore calm (`noBirths_run`,
`calm_of_noCreate`), and what one whole live reconcile can bring (`liveActs_of`, `births_of`).
-/
namespace Xp.C08

theorem births_of_not_create (s : Sys) (a : Act) (ha : a.isCreate = false) : a.births s = [] := by
  cases a with
  | create o => cases ha
  | live l => cases ha
  | _ => rfl

theorem birthsSince_act (s : Sys) (a : Act) {j : Nat} (hj : j ≤ s.births.length) :
    (s.act a).birthsSince j = s.birthsSince j ++ a.births s := by
  simp [Sys.birthsSince, Sys.act, List.drop_append_of_le_length hj]

theorem birthsSince_nil {s : Sys} (hb : s.birthsSince 0 = []) (j : Nat) : s.birthsSince j = [] :=
  List.flatten_eq_nil_iff.mpr fun l hl => List.flatten_eq_nil_iff.mp hb l (List.mem_of_mem_drop hl)

theorem noBirths_act {s : Sys} {a : Act} (hb : s.birthsSince 0 = []) (ha : a.isCreate = false) :
    (s.act a).birthsSince 0 = [] := by
  rw [birthsSince_act s a (Nat.zero_le _), hb, births_of_not_create s a ha]
  rfl

theorem noBirths_run (s : Sys) (hb : s.birthsSince 0 = []) (acts : List Act) (hn : ∀ a ∈ acts, a.isCreate = false) :
    (s.run acts).birthsSince 0 = [] := by
  induction acts generalizing s with
  | nil => exact hb
  | cons a rest ih =>
    exact ih _ (noBirths_act hb (hn a (List.mem_cons_self ..))) fun b hb => hn b (List.mem_cons_of_mem _ hb)

theorem calm_of_noCreate (s : Sys) (hb : s.birthsSince 0 = []) (acts : List Act) (hn : ∀ a ∈ acts, a.isCreate = false) :
    Calm s acts := by
  induction acts generalizing s with
  | nil => trivial
  | cons a rest ih =>
    have hna := hn a (List.mem_cons_self ..)
    refine ⟨⟨?_, ?_⟩, ih _ (noBirths_act hb hna) (fun b hb => hn b (List.mem_cons_of_mem _ hb))⟩
    · intro t _ _ f _ b hbm; rw [births_of_not_create s a hna] at hbm; cases hbm
    · intro i j _ f _ b hbm; rw [birthsSince_nil hb j] at hbm; cases hbm

theorem all_ite {α : Type} {p : α → Bool} {c : Prop} [Decidable c] {A B : List α} (ha : A.all p = true)
    (hb : B.all p = true) : (if c then A else B).all p = true := by
  split
  · exact ha
  · exact hb

theorem liveActs_of (s : St) (c : Ctl) (n : String) : ∀ l ∈ liveActs s c n, l.of c n = true := by
  rw [← List.all_eq_true]
  cases c with
  | xr => rfl
  | claim =>
    simp only [liveActs]
    cases find s ⟨.claim, n⟩ with
    | none => rfl
    | some cm =>
      simp only []
      refine all_ite rfl (all_ite rfl ?_)
      simp [Live.of]
  | defined =>
    simp only [liveActs]
    cases find s ⟨.xrd, n⟩ with
    | none => rfl
    | some d =>
      simp only []
      rw [List.all_append, Bool.and_eq_true]
      refine ⟨by simp [Live.of], ?_⟩
      cases find s (crdOf d false) with
      | none => rfl
      | some c => exact all_ite (by simp [Live.of]) rfl
  | offered =>
    simp only [liveActs]
    cases find s ⟨.xrd, n⟩ with
    | none => rfl
    | some d =>
      simp only []
      rw [List.all_append, Bool.and_eq_true]
      refine ⟨by simp [Live.of], ?_⟩
      cases find s (crdOf d true) with
      | none => rfl
      | some c => exact all_ite (by simp [Live.of]) rfl
  | rev =>
    simp only [liveActs]
    cases find s ⟨.rev, n⟩ with
    | none => rfl
    | some pr =>
      exact all_ite rfl (by simp [Live.of])
  | usage =>
    simp only [liveActs]
    cases find s ⟨.usage, n⟩ with
    | none => rfl
    | some u =>
      refine all_ite rfl ?_
      cases find s ⟨u.ofKind, u.of⟩ with
      | none => rfl
      | some _ =>
        refine Bool.and_eq_true_iff.mpr ⟨rfl, Bool.and_eq_true_iff.mpr ⟨by simp [Live.of], all_ite rfl ?_⟩⟩
        cases find s ⟨u.refKind, u.ref⟩ with
        | none => rfl
        | some _ => simp [Live.of]

theorem births_of (c : Ctl) (n : String) (l : Live) (h : l.of c n = true) (st : St) (b : Birth) (hb : b ∈ l.births st) :
    match c with
    | .claim => ∃ x, b = .obj ⟨.xr, x⟩
    | .xr => False
    | .defined => (∃ k : Key, k.kind = .crd ∧ (b = .obj k ∨ b = .owners k)) ∨ b = .start (ctrlOf n false)
    | .offered => (∃ k : Key, k.kind = .crd ∧ (b = .obj k ∨ b = .owners k)) ∨ b = .start (ctrlOf n true)
    | .rev => b = .obj lockKey ∨ b = .lock n
    | .usage => b = .owners ⟨.usage, n⟩ := by
  have crd : ∀ (m : String) (off : Bool), b ∈ Live.births st (.applyCRD m off) →
      ∃ k : Key, k.kind = .crd ∧ (b = .obj k ∨ b = .owners k) := by
    intro m off hb
    simp only [Live.births] at hb
    split at hb
    · cases hb
    · exact ⟨_, rfl, by simpa using hb⟩
  -- a step that is none of the controller's own (`h` false by computation) has no case
  cases l with
  | addFin _ _ => cases hb
  | usageLabel _ => cases hb
  | status _ _ => cases hb
  | syncXR m x =>
    cases c with
    | claim => exact ⟨x, List.mem_singleton.mp hb⟩
    | _ => cases h
  | applyCRD m off =>
    cases c with
    | defined => exact .inl (crd m off hb)
    | offered => exact .inl (crd m off hb)
    | _ => cases h
  | start m off =>
    cases c with
    | defined =>
      obtain ⟨rfl, rfl⟩ : off = false ∧ m = n := by simpa [Live.of] using h
      exact .inr (List.mem_singleton.mp hb)
    | offered =>
      obtain ⟨rfl, rfl⟩ : off = true ∧ m = n := by simpa [Live.of] using h
      exact .inr (List.mem_singleton.mp hb)
    | _ => cases h
  | lockAdd m =>
    cases c with
    | rev =>
      obtain rfl : m = n := by simpa [Live.of] using h
      rcases List.mem_cons.mp hb with rfl | hb
      · exact .inl rfl
      · exact .inr (List.mem_singleton.mp hb)
    | _ => cases h
  | usageOwn m =>
    cases c with
    | usage =>
      obtain rfl : m = n := by simpa [Live.of] using h
      exact List.mem_singleton.mp hb
    | _ => cases h

end Xp.C08
