import Xp.Model.C18
import Xp.Base.List
/-
C18: what the provider-revision and the XRD reconciler render, and from what.  The string functions of
DefinedResources and OrgDiffer over `String` (splitFirst, groupOfAPIVersion, cutDot, firstSeg) and
OrgDiffer.Differs over the parser's answers; where the resources handed to the renderer come from
(`resourcesOf_origin`); where the rules of the rendered roles come from and who controls them
(`renderRoles_rules`, `renderRoles_ctrl`); and the independence of what the roles grant from the order
RenderClusterRoles' sort leaves.  No program is walked here.
-/
namespace Xp.C18
open Xp.Gen

theorem splitFirst_append (c : Char) (a b : List Char) (h : c ∉ a) : splitFirst c (a ++ c :: b) = some (a, b) := by
  induction a with
  | nil => simp [splitFirst]
  | cons x a ih =>
    have hx : x ≠ c := fun e => h (e ▸ List.mem_cons_self ..)
    simp [splitFirst, hx, ih fun hm => h (List.mem_cons_of_mem _ hm)]

theorem splitFirst_some (c : Char) (l a b : List Char) :
    splitFirst c l = some (a, b) ↔ l = a ++ c :: b ∧ c ∉ a := by
  refine ⟨fun h => ?_, fun ⟨e, hn⟩ => e ▸ splitFirst_append c a b hn⟩
  induction l generalizing a b with
  | nil => cases h
  | cons x xs ih =>
    unfold splitFirst at h
    split at h
    · rename_i hx
      cases h
      exact ⟨by rw [hx]; rfl, List.not_mem_nil⟩
    · rename_i hx
      cases hs : splitFirst c xs with
      | none => rw [hs] at h; cases h
      | some ab =>
        rw [hs] at h
        cases h
        obtain ⟨e, hn⟩ := ih _ _ hs
        exact ⟨by rw [e]; rfl, fun hm => (List.mem_cons.1 hm).elim (fun e => hx e.symm) hn⟩

theorem splitFirst_none (c : Char) (l : List Char) : splitFirst c l = none ↔ c ∉ l := by
  induction l with
  | nil => simp [splitFirst]
  | cons x xs ih =>
    unfold splitFirst
    by_cases hx : x = c
    · subst hx; simp
    · simp only [if_neg hx, Option.map_eq_none_iff, ih, List.mem_cons, not_or]
      exact ⟨fun h => ⟨fun e => hx e.symm, h⟩, fun h => h.2⟩

/-! the same over `String`: `sep` is the one-character separator written as a literal in the statements -/

theorem splitFirst_append_toList (c : Char) (sep a b : String) (hsep : sep.toList = [c]) (h : c ∉ a.toList) :
    splitFirst c (a ++ sep ++ b).toList = some (a.toList, b.toList) := by
  rw [String.toList_append, String.toList_append, hsep, List.append_assoc]
  exact splitFirst_append c _ _ h

theorem eq_append_of_splitFirst (c : Char) (sep s : String) (a b : List Char) (hsep : sep.toList = [c])
    (h : splitFirst c s.toList = some (a, b)) : s = String.ofList a ++ sep ++ String.ofList b ∧ c ∉ a := by
  obtain ⟨hl, hn⟩ := (splitFirst_some _ _ _ _).1 h
  refine ⟨String.toList_inj.1 ?_, hn⟩
  simp [String.toList_append, hsep, hl]

/-- schema.ParseGroupVersion(av).Group is `g` (non-empty) exactly for `g/version` with a
'/'-free version and a '/'-free group -/
theorem groupOfAPIVersion_eq (av g : String) (hg : g ≠ "") :
    groupOfAPIVersion av = g ↔
      ∃ v : String, av = g ++ "/" ++ v ∧ '/' ∉ g.toList ∧ '/' ∉ v.toList := by
  unfold groupOfAPIVersion
  constructor
  · intro e
    cases h : splitFirst '/' av.toList with
    | none => rw [h] at e; exact absurd e.symm hg
    | some ab =>
      obtain ⟨a, b⟩ := ab
      simp only [h] at e
      obtain ⟨eav, hn⟩ := eq_append_of_splitFirst '/' "/" av a b rfl h
      split at e
      · exact absurd e.symm hg
      · rename_i hc
        subst e
        exact ⟨_, eav, by simpa using hn, by simpa using hc⟩
  · rintro ⟨v, rfl, hng, hnv⟩
    rw [splitFirst_append_toList '/' "/" g v rfl hng]
    simp [hnv]

/-- strings.Cut(name, "."): `name = plural.group` with a '.'-free plural -/
theorem cutDot_eq (name p g : String) :
    cutDot name = some (p, g) ↔ name = p ++ "." ++ g ∧ '.' ∉ p.toList := by
  unfold cutDot
  constructor
  · intro e
    cases h : splitFirst '.' name.toList with
    | none => rw [h] at e; cases e
    | some ab =>
      rw [h] at e
      cases e
      obtain ⟨en, hn⟩ := eq_append_of_splitFirst '.' "." name _ _ rfl h
      exact ⟨en, by simpa using hn⟩
  · rintro ⟨rfl, hnp⟩
    rw [splitFirst_append_toList '.' "." p g rfl hnp]
    simp

/-! the same functions on a string given by its characters: the form in which the closed examples of
Props/C18 are evaluated (Base/Str.lean) -/

theorem groupOfAPIVersion_ofList (av : List Char) :
    groupOfAPIVersion (String.ofList av) =
      String.ofList (match splitFirst '/' av with
        | none => []
        | some (g, v) => if v.contains '/' then [] else g) := by
  unfold groupOfAPIVersion
  rw [String.toList_ofList]
  cases splitFirst '/' av with
  | none => rfl
  | some p =>
    obtain ⟨g, v⟩ := p
    simp only []
    split <;> rfl

theorem cutDot_ofList (name : List Char) :
    cutDot (String.ofList name) = (splitFirst '.' name).map fun (p, g) => (String.ofList p, String.ofList g) := by
  rw [cutDot, String.toList_ofList]

theorem filterMap_cons_toList {α β : Type} (f : α → Option β) (a : α) (l : List α) :
    (a :: l).filterMap f = (f a).toList ++ l.filterMap f := by
  rw [List.filterMap_cons]
  cases f a <;> rfl

theorem firstSeg_spec (s : String) :
    '/' ∉ (firstSeg s).toList ∧
    (firstSeg s = s ∨ ∃ rest : String, s = firstSeg s ++ "/" ++ rest) := by
  unfold firstSeg
  cases h : splitFirst '/' s.toList with
  | none =>
    exact ⟨(splitFirst_none _ _).1 h, Or.inl rfl⟩
  | some ab =>
    obtain ⟨a, b⟩ := ab
    obtain ⟨e, hn⟩ := eq_append_of_splitFirst '/' "/" s a b rfl h
    exact ⟨by simpa using hn, Or.inr ⟨String.ofList b, e⟩⟩

theorem firstSeg_ofList (l : List Char) :
    firstSeg (String.ofList l) = String.ofList (match splitFirst '/' l with | none => l | some (a, _) => a) := by
  unfold firstSeg
  rw [String.toList_ofList]
  cases splitFirst '/' l <;> rfl

theorem firstSeg_of_no_slash (s : String) (h : '/' ∉ s.toList) : firstSeg s = s := by
  unfold firstSeg
  rw [(splitFirst_none _ _).2 h]

theorem firstSeg_of_slash (org rest : String) (h : '/' ∉ org.toList) :
    firstSeg (org ++ "/" ++ rest) = org := by
  unfold firstSeg
  rw [splitFirst_append_toList '/' "/" org rest rfl h]
  simp

theorem orgDiffers_false : ∀ a b : Option (String × String),
    orgDiffers a b = false ↔ ∃ o, a = some o ∧ b = some o
  | none, _ => by simp [orgDiffers]
  | some _, none => by simp [orgDiffers]
  | some x, some y => by simpa [orgDiffers] using eq_comm

theorem orgDiffersParsed_eq (a b : Option Parsed) :
    orgDiffersParsed a b = orgDiffers (a.map Parsed.orgKey) (b.map Parsed.orgKey) := by
  cases a with
  | none => rfl
  | some x =>
    cases b with
    | none => rfl
    | some y =>
      simp only [orgDiffersParsed, orgDiffers, Option.map_some, Parsed.orgKey]
      rw [Bool.eq_iff_iff]
      by_cases hr : x.registry = y.registry
      · by_cases ho : firstSeg x.repo = firstSeg y.repo <;> simp [hr, ho, bne_iff_ne]
      · simp [hr, bne_iff_ne]

theorem orgDiffersParsed_false (a b : Option Parsed) :
    orgDiffersParsed a b = false ↔
      ∃ x y, a = some x ∧ b = some y ∧ x.registry = y.registry ∧ firstSeg x.repo = firstSeg y.repo := by
  rw [orgDiffersParsed_eq, orgDiffers_false]
  cases a <;> cases b <;> simp [Parsed.orgKey, eq_comm]

/-- the resources Reconcile hands to the renderer, as a function of the store it reads -/
def resourcesFor (s : Store) (p : PR) : List Resource :=
  if p.family = "" then definedResources p.refs
  else definedResources p.refs ++ memberResources p (s.prs.filter (·.family = p.family))

/-- the resources Reconcile hands to the renderer, from the revision and the family list it was served -/
def resourcesOf (p : PR) (ms : List PR) : List Resource :=
  if p.family = "" then definedResources p.refs else definedResources p.refs ++ memberResources p ms

theorem mem_memberResources (p : PR) (ms : List PR) (x : Resource) (hx : x ∈ memberResources p ms) :
    ∃ m ∈ ms, m.uid ≠ p.uid ∧ (∃ o, p.org = some o ∧ m.org = some o) ∧ x ∈ definedResources m.refs := by
  obtain ⟨m, hm, hxm⟩ := List.mem_flatMap.1 hx
  refine ⟨m, hm, ?_⟩
  split at hxm
  · cases hxm
  · rename_i hu
    split at hxm
    · cases hxm
    · rename_i ho
      exact ⟨hu, (orgDiffers_false _ _).1 (Bool.not_eq_true _ ▸ ho), hxm⟩

theorem resourcesOf_origin (p : PR) (ms : List PR) (x : Resource) (hx : x ∈ resourcesOf p ms) :
    x ∈ definedResources p.refs ∨
    (p.family ≠ "" ∧ ∃ m ∈ ms, m.uid ≠ p.uid ∧ (∃ o, p.org = some o ∧ m.org = some o) ∧
      x ∈ definedResources m.refs) := by
  unfold resourcesOf at hx
  split at hx
  · exact Or.inl hx
  · rename_i hfam
    exact (List.mem_append.1 hx).imp id fun h => ⟨hfam, mem_memberResources p ms x h⟩

theorem resourcesFor_eq (s : Store) (p : PR) :
    resourcesFor s p = resourcesOf p (s.prs.filter (·.family = p.family)) := rfl

theorem isort_perm {α : Type} (lt : α → α → Bool) (l : List α) : (isort lt l).Perm l :=
  perm_insertionSort (insertBy lt) (fun _ => rfl) (fun x y ys => by rw [insertBy]; split <;> simp)
    rfl (fun _ _ => rfl) l

theorem mem_isort {α : Type} (lt : α → α → Bool) (y : α) (l : List α) : y ∈ isort lt l ↔ y ∈ l :=
  (isort_perm lt l).mem_iff

theorem mem_groupsOf_iff (rs : List Resource) (g : String) : g ∈ groupsOf rs ↔ ∃ x ∈ rs, x.group = g := by
  induction rs with
  | nil => simp [groupsOf]
  | cons r rest ih =>
    by_cases e : r.group = g
    · simp [groupsOf, e]
    · simp [groupsOf, ih, e, Ne.symm e]

theorem mem_resourcesOfGroup_iff (rs : List Resource) (g r : String) :
    r ∈ resourcesOfGroup rs g ↔ ∃ x ∈ rs, x.group = g ∧ (r = x.plural ∨ r = x.plural ++ prov_suffixStatus) := by
  simp only [resourcesOfGroup, List.mem_flatMap, List.mem_filter, List.mem_cons, List.not_mem_nil,
    or_false, decide_eq_true_eq, and_assoc]

/-- a rule that grants (some verbs on) CRD-defined resources of one group, and their status -/
def IsResourceRule (rs : List Resource) (verbs : List String) (ρ : PolicyRule) : Prop :=
  ρ.verbs = verbs ∧ ρ.resourceNames = [] ∧ ρ.nonResourceURLs = [] ∧
  ∃ g, ρ.apiGroups = [g] ∧
    ∀ r ∈ ρ.resources, ∃ x ∈ rs, x.group = g ∧ (r = x.plural ∨ r = x.plural ++ prov_suffixStatus)

/-- the `*/finalizers` rule, limited to groups in which a resource is defined -/
def IsFinalizersRule (rs : List Resource) (ρ : PolicyRule) : Prop :=
  ρ.verbs = provVerbsUpdate ∧ ρ.resources = [prov_resourceAll ++ prov_suffixFinalizers] ∧
  ρ.resourceNames = [] ∧ ρ.nonResourceURLs = [] ∧ ∀ g ∈ ρ.apiGroups, ∃ x ∈ rs, x.group = g

theorem groupRules_withVerbs (rs sorted : List Resource) (hsub : ∀ y ∈ sorted, y ∈ rs) (verbs : List String)
    (ρ : PolicyRule) (h : ρ ∈ withVerbs (groupRules sorted) verbs) : IsResourceRule rs verbs ρ := by
  simp only [withVerbs, groupRules, List.map_map, List.mem_map, Function.comp] at h
  obtain ⟨g, _, rfl⟩ := h
  refine ⟨rfl, rfl, rfl, g, rfl, fun r hr => ?_⟩
  obtain ⟨x, hx, hh⟩ := (mem_resourcesOfGroup_iff sorted g r).1 hr
  exact ⟨x, hsub x hx, hh⟩

theorem renderRoles_rules (p : PR) (rs : List Resource) (x : Role) (hx : x ∈ renderRoles p rs)
    (ρ : PolicyRule) (hρ : ρ ∈ x.rules) :
    IsResourceRule rs provVerbsEdit ρ ∨ IsResourceRule rs provVerbsView ρ ∨
    IsResourceRule rs provVerbsSystem ρ ∨ IsFinalizersRule rs ρ ∨ ρ ∈ rulesSystemExtra ∨ ρ ∈ p.requests := by
  unfold renderRoles at hx
  split at hx
  · simp at hx
  · have hsub : ∀ y ∈ isort resourceLT rs, y ∈ rs := fun y hy => (mem_isort _ y rs).1 hy
    simp only [List.mem_cons, List.not_mem_nil, or_false] at hx
    rcases hx with rfl | rfl | rfl
    · exact Or.inl (groupRules_withVerbs _ _ hsub _ _ hρ)
    · exact Or.inr (Or.inl (groupRules_withVerbs _ _ hsub _ _ hρ))
    · simp only [systemRules, List.mem_append, List.mem_singleton] at hρ
      rcases hρ with ((h | h) | h) | h
      · exact Or.inr (Or.inr (Or.inl (groupRules_withVerbs _ _ hsub _ _ h)))
      · subst h
        refine Or.inr (Or.inr (Or.inr (Or.inl ⟨rfl, rfl, rfl, rfl, ?_⟩)))
        intro g hg
        obtain ⟨y, hy, hyg⟩ := (mem_groupsOf_iff _ g).1 hg
        exact ⟨y, hsub y hy, hyg⟩
      · exact Or.inr (Or.inr (Or.inr (Or.inr (Or.inl h))))
      · exact Or.inr (Or.inr (Or.inr (Or.inr (Or.inr h))))

theorem renderRoles_ctrl (p : PR) (rs : List Resource) (x : Role) (hx : x ∈ renderRoles p rs) :
    x.ctrl = some p.uid := by
  unfold renderRoles at hx
  split at hx
  · simp at hx
  · simp only [List.mem_cons, List.not_mem_nil, or_false] at hx
    rcases hx with rfl | rfl | rfl <;> rfl

theorem renderXRDRoles_ctrl (d : XRD) (x : Role) (hx : x ∈ renderXRDRoles d) : x.ctrl = some d.uid := by
  unfold renderXRDRoles at hx
  simp only [List.mem_cons, List.not_mem_nil, or_false] at hx
  rcases hx with rfl | rfl | rfl | rfl <;> rfl

/-- a rule over the XRD's group that names the composite plural or the claim plural `n`:
either `[n, n/status]` with one of the verb tables, or `[n/finalizers]` with update -/
def IsXRDRule (d : XRD) (ρ : PolicyRule) : Prop :=
  ρ.apiGroups = [d.group] ∧ ρ.resourceNames = [] ∧ ρ.nonResourceURLs = [] ∧
  ∃ n, (n = d.plural ∨ d.claim = some n) ∧
    ((ρ.resources = [n, n ++ xrd_suffixStatus] ∧
        (ρ.verbs = xrdVerbsEdit ∨ ρ.verbs = xrdVerbsView ∨ ρ.verbs = xrdVerbsBrowse)) ∨
     (ρ.resources = [n ++ xrd_suffixFinalizers] ∧ ρ.verbs = xrdVerbsUpdate))

theorem IsXRDRule.main {d : XRD} {n : String} {verbs : List String} (hn : n = d.plural ∨ d.claim = some n)
    (hv : verbs = xrdVerbsEdit ∨ verbs = xrdVerbsView ∨ verbs = xrdVerbsBrowse) :
    IsXRDRule d ⟨verbs, [d.group], [n, n ++ xrd_suffixStatus], [], []⟩ :=
  ⟨rfl, rfl, rfl, n, hn, .inl ⟨rfl, hv⟩⟩

theorem IsXRDRule.fin {d : XRD} {n : String} (hn : n = d.plural ∨ d.claim = some n) :
    IsXRDRule d ⟨xrdVerbsUpdate, [d.group], [n ++ xrd_suffixFinalizers], [], []⟩ :=
  ⟨rfl, rfl, rfl, n, hn, .inr ⟨rfl, rfl⟩⟩

theorem any_congr_mem {α : Type} (l1 l2 : List α) (f : α → Bool) (h : ∀ x, x ∈ l1 ↔ x ∈ l2) :
    l1.any f = l2.any f := by
  rw [Bool.eq_iff_iff]
  simp only [List.any_eq_true, h]

theorem ruleAllows_congr (o o' : PolicyRule) (a : Attr)
    (hv : o.verbs = o'.verbs) (hg : ∀ x, x ∈ o.apiGroups ↔ x ∈ o'.apiGroups)
    (hr : ∀ x, x ∈ o.resources ↔ x ∈ o'.resources) (hn : o.resourceNames = o'.resourceNames)
    (hu : o.nonResourceURLs = o'.nonResourceURLs) : ruleAllows o a = ruleAllows o' a := by
  cases a with
  | res v g r sub n =>
    simp only [ruleAllows, hv, hn, any_congr_mem _ _ _ hg, any_congr_mem _ _ _ hr]
  | nonres v p =>
    simp only [ruleAllows, hv, hu]

/-- some rule of the list allows the request -/
def rulesAllow (rules : List PolicyRule) (a : Attr) : Bool := rules.any (ruleAllows · a)

theorem groupRules_allow_congr (l1 l2 : List Resource) (h : ∀ x, x ∈ l1 ↔ x ∈ l2) (verbs : List String) (a : Attr) :
    rulesAllow (withVerbs (groupRules l1) verbs) a = rulesAllow (withVerbs (groupRules l2) verbs) a := by
  have hr : ∀ g, ruleAllows ⟨verbs, [g], resourcesOfGroup l1 g, [], []⟩ a =
      ruleAllows ⟨verbs, [g], resourcesOfGroup l2 g, [], []⟩ a := fun g =>
    ruleAllows_congr _ _ a rfl (fun _ => Iff.rfl) (fun r => by simp only [mem_resourcesOfGroup_iff, h]) rfl rfl
  simp only [rulesAllow, withVerbs, groupRules, List.map_map, List.any_map, Function.comp_def, hr]
  exact any_congr_mem _ _ _ fun g => by simp only [mem_groupsOf_iff, h]

theorem ruleFinalizers_allow_congr (l1 l2 : List Resource) (h : ∀ x, x ∈ l1 ↔ x ∈ l2) (a : Attr) :
    ruleAllows (ruleFinalizers l1) a = ruleAllows (ruleFinalizers l2) a :=
  ruleAllows_congr _ _ a rfl (fun g => by simp only [ruleFinalizers, mem_groupsOf_iff, h]) (fun _ => Iff.rfl) rfl rfl

theorem rulesAllow_append (l1 l2 : List PolicyRule) (a : Attr) :
    rulesAllow (l1 ++ l2) a = (rulesAllow l1 a || rulesAllow l2 a) := by
  simp [rulesAllow, List.any_append]

theorem systemRules_allow_congr (p : PR) (l1 l2 : List Resource) (h : ∀ x, x ∈ l1 ↔ x ∈ l2) (a : Attr) :
    rulesAllow (systemRules p l1) a = rulesAllow (systemRules p l2) a := by
  simp only [systemRules, rulesAllow_append, groupRules_allow_congr l1 l2 h]
  have : rulesAllow [ruleFinalizers l1] a = rulesAllow [ruleFinalizers l2] a := by
    simp [rulesAllow, ruleFinalizers_allow_congr l1 l2 h a]
  rw [this]

end Xp.C18
