import Xp.Proofs.C01Store
/-
C01, the building blocks of both composers' programs and how a property is carried through them.
`Walker W Ok` holds the two laws by which a property `W` of a program run from a store is walked call by
call with the store's own replies; the blocks (error epilogue, guarded write, `collect`, `readThrough`,
the header of `Reconcile`) are walked once for any walker, and `Safe sem Inv` is one (`safe_walker`). The
two loops over the references are walked once for any property of programs: the observer loop as the pure
function `observePure` (`observeFn_pure_rule`), AssociateTemplates for any loop invariant
(`associatePT_rule`). What the epilogues, the guarded write and the two apply loops issue whatever the replies
(`Issues Q`) is all that safety needs once `Mid` holds (`Mid.safe`). The fault-free run (`runOk`) follows one path.
-/
namespace Xp.C01

/-- what every collector of the model does with one resource: Update (labels stripped) and Delete,
NotFound ignored by both, any other failure ends the reconcile. The model writes the two calls out where it collects
(`gcFn`, `associatePT`, C03's `gcFnFull`): a lemma about `collect` applies there once the collector is unfolded, by defeq. -/
def collect (lrv : Nat) (o : CObj) (k : P) : P :=
  wcall lrv (.gcUpdate o.kind o.name) fun _ =>
  wcall lrv (.delete o.kind o.name) fun _ => k

/-- the read both composers start from: through the cache, repeated against the API server on a
cached NotFound; any other reply aborts the reconcile -/
def readThrough (lrv : Nat) (k n : String) (found : CObj → P) (absent : P) : P :=
  .call (.getCached k n) fun
    | .found o => found o
    | .notFound => .call (.getObj k n) fun
      | .found o => found o
      | .notFound => absent
      | _ => onError lrv
    | _ => onError lrv

/-- the composer `Reconcile` runs once the XR carries its finalizer -/
def bodyT (tries : Nat) (m : Mode) (refs : List Ref) (lrv : Nat) : P :=
  match m with
  | .fn out ch => composeFnT tries lrv refs out ch
  | .pt tmpl fresh ver => composePTT tries lrv refs tmpl fresh ver

theorem recContT_xr (tries : Nat) (m : Mode) (fin : Bool) (rv : Nat) (refs : List Ref) :
    recContT tries m (.xr fin rv refs) =
      if fin then bodyT tries m refs rv
      else .call (.addFinalizer rv) fun
        | .okRv rv' => bodyT tries m refs rv'
        | .conflict => onConflict
        | _ => onError rv := by
  cases m <;> rfl

theorem sem_errResp_conflict (r : Req) : sem.errResp .conflict r = if isRead r then .err else .conflict := rfl

/-- What it takes to walk a property `W` of the programs run from a store call by call with the store's own
replies: `Ok s r` is what `W` asks of a request `r` issued in `s`, and it is met by the reads and the
status updates. The instances are `Safe sem Inv` (`safe_walker`) and, in Xp/Proofs/C03Fn.lean,
`Emits sem Q` (`Ok _ r := Q r`) and `Applies X` (`Ok _ r := ¬ RefsWrite r`). `ret` is asked of the results other
than success only: every block walked here ends in its continuation or in an error, and `Applies X` fails at a returned success. -/
structure Walker (W : P → St → Prop) (Ok : St → Req → Prop) : Prop where
  ret : ∀ {a s}, a ≠ .success → W (.ret a) s
  call : ∀ {r c s}, Ok s r → W (c (exec s r).2) (exec s r).1 → W (c (sem.errResp .fail r)) s →
    W (c (sem.errResp .conflict r)) s → W (.call r c) s
  quiet : ∀ {r s}, isRead r = true ∨ (∃ l, r = .statusUpdate l) → Ok s r

namespace Walker
variable {W : P → St → Prop} {Ok : St → Req → Prop} (hW : Walker W Ok)
include hW

theorem onErrorO (l : Option Nat) (s : St) : W (onErrorO l) s := by
  refine hW.call (hW.quiet (.inr ⟨l, rfl⟩)) ?_ (hW.ret nofun) (hW.ret nofun)
  generalize (exec s (.statusUpdate l)).2 = y
  cases y <;> exact hW.ret nofun

theorem wcallIf {lrv : Nat} {r : Req} {k : Resp → P} {s : St} (hr : Ok s r)
    (hk : (exec s r).2 ≠ .err → (exec s r).2 ≠ .conflict → W (k (exec s r).2) (exec s r).1) : W (wcall lrv r k) s := by
  refine hW.call hr ?_ (hW.onErrorO _ _) ?_
  · generalize (exec s r).2 = y at hk ⊢
    cases y with
    | err => exact hW.onErrorO _ _
    | conflict => exact hW.ret nofun
    | _ => exact hk nofun nofun
  · rw [sem_errResp_conflict]
    cases isRead r with
    | false => exact hW.ret nofun
    | true => exact hW.onErrorO _ _

theorem wcall {lrv : Nat} {r : Req} {k : Resp → P} {s : St} (hr : Ok s r)
    (hk : W (k (exec s r).2) (exec s r).1) : W (wcall lrv r k) s :=
  hW.wcallIf hr fun _ _ => hk

theorem collect {lrv : Nat} {o : CObj} {k : P} {s : St} (ho : Ok s (.gcUpdate o.kind o.name) ∧ Ok s (.delete o.kind o.name))
    (hk : W k (exec s (.delete o.kind o.name)).1) : W (collect lrv o k) s :=
  hW.wcall ho.1 (by rw [exec_gcUpdate_state]; exact hW.wcall ho.2 hk)

theorem readThrough {lrv : Nat} {k n : String} {found : CObj → P} {absent : P} {s : St}
    (hf : ∀ o, findObj s.objs k n = some o → W (found o) s) (hm : findObj s.objs k n = none → W absent s) :
    W (readThrough lrv k n found absent) s := by
  have herr := hW.onErrorO (some lrv) s
  refine hW.call (hW.quiet (.inl rfl)) ?_ herr herr
  rcases exec_getCached_resp s k n with e | ⟨o, ho, e⟩
  · rw [e]
    refine hW.call (hW.quiet (.inl rfl)) ?_ herr herr
    cases h : findObj s.objs k n with
    | none =>
      rw [exec_getObj_none h]
      exact hm h
    | some o =>
      rw [exec_getObj_some h]
      exact hf o h
  · rw [e]
    exact hf o ho

/-- the header of `Reconcile` once the XR is read, whatever was read: `fin`, `rv`, `refs` need not be the
store's (a lagging cache) -/
theorem recContT (tries : Nat) (m : Mode) {s : St} {fin : Bool} {rv : Nat} {refs : List Ref} (hfin : Ok s (.addFinalizer rv))
    (hbody : fin = true → W (bodyT tries m refs rv) s)
    (hadd : ∀ rv', (exec s (.addFinalizer rv)).2 = .okRv rv' → W (bodyT tries m refs rv') (exec s (.addFinalizer rv)).1) :
    W (recContT tries m (.xr fin rv refs)) s := by
  rw [recContT_xr]
  cases fin with
  | true => exact hbody rfl
  | false =>
    refine hW.call hfin ?_ (hW.onErrorO _ _) (hW.ret nofun)
    generalize exec s (.addFinalizer rv) = x at hadd
    obtain ⟨s', y⟩ := x
    cases y with
    | okRv rv' => exact hadd rv' rfl
    | conflict => exact hW.ret nofun
    | _ => exact hW.onErrorO _ _

end Walker

section safe
variable {Inv : St → Prop} {s : St}

/-- `hfail`, `hconf`: the two replies of a call that was not applied (`sem.errResp`), `.err` for a failure;
for a Conflict `.err` after a read, `.conflict` after a write -/
theorem safe_call {r : Req} {c : Resp → P} {s' : St} {x : Resp} (he : exec s r = (s', x)) (h1 : Inv s')
    (hok : Safe sem Inv (c x) s') (hfail : Safe sem Inv (c .err) s)
    (hconf : Safe sem Inv (c (if isRead r then .err else .conflict)) s) : Safe sem Inv (.call r c) s := by
  have e : sem.exec s r = (s', x) := he
  simp only [Safe, e]
  exact ⟨h1, hok, hfail, hconf⟩

theorem safe_walker (Inv : St → Prop) : Walker (fun p s => Inv s → Safe sem Inv p s) fun s r => Inv s → Inv (exec s r).1 := by
  refine ⟨fun _ _ => trivial, fun hOk hok hf hc hi => ⟨hOk hi, hok (hOk hi), hf hi, hc hi⟩, ?_⟩
  rintro r s (h | ⟨l, rfl⟩) hi
  · rw [exec_read_state h]; exact hi
  · rw [exec_statusUpdate_state]; exact hi

theorem safe_onErrorO (h : Inv s) (l : Option Nat) : Safe sem Inv (onErrorO l) s := (safe_walker Inv).onErrorO l s h

theorem safe_onError (h : Inv s) (l : Nat) : Safe sem Inv (onError l) s := safe_onErrorO h _

theorem safe_wcall (h : Inv s) (lrv : Nat) (r : Req) (k : Resp → P)
    (h1 : Inv (exec s r).1)
    (hk : (exec s r).2 ≠ .err → (exec s r).2 ≠ .conflict → Safe sem Inv (k (exec s r).2) (exec s r).1) :
    Safe sem Inv (wcall lrv r k) s :=
  (safe_walker Inv).wcallIf (fun _ => h1) (fun h2 h3 _ => hk h2 h3) h

theorem safe_collect (h : Inv s) (lrv : Nat) (o : CObj) (p : P) (h1 : Inv (exec s (.delete o.kind o.name)).1)
    (hp : Safe sem Inv p (exec s (.delete o.kind o.name)).1) : Safe sem Inv (collect lrv o p) s :=
  (safe_walker Inv).collect ⟨fun hi => by rw [exec_gcUpdate_state]; exact hi, fun _ => h1⟩ (fun _ => hp) h

theorem safe_readThrough (hs : Inv s) {lrv : Nat} {k n : String} {found : CObj → P} {absent : P}
    (hfound : ∀ o, findObj s.objs k n = some o → Safe sem Inv (found o) s)
    (habsent : findObj s.objs k n = none → Safe sem Inv absent s) :
    Safe sem Inv (readThrough lrv k n found absent) s :=
  (safe_walker Inv).readThrough (fun o h _ => hfound o h) (fun h _ => habsent h) hs

end safe

section issues
variable {Q : Req → Prop}

theorem issues_onErrorO_status (l : Option Nat) (hs : Q (.statusUpdate l)) : Issues Q (onErrorO l) :=
  Issues.call _ _ hs fun x => by cases x <;> exact Issues.ret _

theorem issues_finish (l : Nat) (b : Bool) (hs : Q (.statusUpdate (some l))) : Issues Q (finish l b) :=
  Issues.call _ _ hs fun x => by cases x <;> exact Issues.ret _

theorem issues_wcall (lrv : Nat) (r : Req) (k : Resp → P) (hr : Q r)
    (hs : Q (.statusUpdate (some lrv))) (hk : ∀ x, Issues Q (k x)) : Issues Q (wcall lrv r k) :=
  Issues.call _ _ hr fun x => by
    cases x with
    | err => exact issues_onErrorO_status _ hs
    | conflict => exact Issues.ret _
    | _ => exact hk _

/-! The two apply loops issue the writes of their entries, whatever the replies. -/

theorem issues_applyFn (lrv : Nat) (k : Bool → P) (hs : Q (.statusUpdate (some lrv))) (hk : ∀ b, Issues Q (k b)) :
    ∀ (ns : List Named) (b : Bool), (∀ n ∈ ns, Q (.apply n.d.kind n.name n.d.rname n.d.content)) →
      Issues Q (applyFn lrv ns b k) := by
  intro ns
  induction ns with
  | nil => exact fun b _ => hk b
  | cons n ns ih =>
    intro b hq
    refine issues_wcall _ _ _ (hq n (List.mem_cons_self ..)) hs fun x => ?_
    cases x <;> exact ih _ fun x hx => hq x (List.mem_cons_of_mem _ hx)

theorem issues_applyPT (lrv : Nat) (k : Bool → P) (hs : Q (.statusUpdate (some lrv))) (hk : ∀ b, Issues Q (k b)) :
    ∀ (rs : List Rendered) (b : Bool), (∀ r ∈ rs, r.rendered = true → Q (.getCached r.d.kind r.name) ∧
        Q (.create r.d.kind r.name r.d.rname r.d.content) ∧ Q (.mergePatch r.d.kind r.name r.d.rname r.d.content)) →
      Issues Q (applyPT lrv rs b k) := by
  intro rs
  induction rs with
  | nil => exact fun b _ => hk b
  | cons r rs ih =>
    intro b hq
    have next : ∀ b', Issues Q (applyPT lrv rs b' k) := fun b' => ih b' fun x hx => hq x (List.mem_cons_of_mem _ hx)
    have herr := issues_onErrorO_status (some lrv) hs
    simp only [applyPT]
    cases hren : r.rendered with
    | false => exact next _   -- an unrendered template is passed over
    | true =>
      obtain ⟨hget, hcreate, hpatch⟩ := hq r (List.mem_cons_self ..) hren
      -- Get, then Create or merge Patch; a rejected one counts as unsynced
      refine Issues.call _ _ hget fun x => ?_
      cases x with
      | notFound =>
        refine issues_wcall _ _ _ hcreate hs fun y => ?_
        cases y with
        | exists_ => exact herr
        | _ => exact next _
      | found o =>
        dsimp only
        split
        · exact herr
        · refine issues_wcall _ _ _ hpatch hs fun y => ?_
          cases y with
          | notFound => exact herr
          | _ => exact next _
      | _ => exact herr

end issues

theorem Mid.safe {s : St} {ents : List Ent} (h : Mid s ents) {p : P} (hp : Issues (AfterRefs ents) p) : Safe sem Good p s :=
  (Safe.of_issues sem (Mid · ents) _ (fun _ _ h => h.step) hp s h).mono fun _ => Mid.good

theorem observeFn_step (lrv : Nat) (r : Ref) (rs : List Ref) (acc : Obs) (k : Obs → P) :
    observeFn lrv (r :: rs) acc k =
      if r.name = "" then observeFn lrv rs acc k else
      readThrough lrv r.kind r.name
        (fun o => if o.ctrl = .other then observeFn lrv rs acc k
          else if o.annot = "" then onError lrv
          else observeFn lrv rs (obsInsert acc o.annot o) k)
        (observeFn lrv rs acc k) := by
  rw [observeFn]; rfl

theorem associatePT_step (lrv : Nat) (tmpl : List Desired) (r : Ref) (rs : List Ref) (acc : Assoc) (k : Assoc → P) :
    associatePT lrv tmpl (r :: rs) acc k =
      if r.name = "" then associatePT lrv tmpl rs acc k else
      readThrough lrv r.kind r.name
        (fun o => if o.annot = "" then onError lrv
          else if tmpl.any (·.rname = o.annot) then associatePT lrv tmpl rs (assocInsert acc o.annot r) k
          else if o.ctrl = .other then onError lrv
          else
            wcall lrv (.gcUpdate o.kind o.name) fun _ =>
            wcall lrv (.delete o.kind o.name) fun _ =>
            associatePT lrv tmpl rs acc k)
        (associatePT lrv tmpl rs acc k) := by
  rw [associatePT]; rfl

theorem mem_obsInsert {obs : Obs} {n : String} {o : CObj} {p : String × CObj} (h : p ∈ obsInsert obs n o) :
    p ∈ obs ∨ p = (n, o) := by
  induction obs with
  | nil => simp [obsInsert] at h; exact Or.inr h
  | cons q qs ih =>
    unfold obsInsert at h
    split at h
    · rcases List.mem_cons.mp h with rfl | h'
      · exact Or.inr rfl
      · exact Or.inl (List.mem_cons_of_mem _ h')
    · rcases List.mem_cons.mp h with rfl | h'
      · exact Or.inl (List.mem_cons_self ..)
      · rcases ih h' with h'' | h''
        · exact Or.inl (List.mem_cons_of_mem _ h'')
        · exact Or.inr h''

/-- what the observer does with an object it has read: one controlled by someone else is skipped,
one without the annotation is an error (`none`), any other is recorded under its annotation. The program
`observeFn` and the function `observePure` spell it out as nested ifs (`observeFn_step`, `observePure_some`);
`observeFn_cons` and `observePure_found` put both in this form, in which `observeFn_pure_rule` matches them. -/
def obsStep (acc : Obs) (o : CObj) : Option Obs :=
  if o.ctrl = .other then some acc else if o.annot = "" then none else some (obsInsert acc o.annot o)

theorem obsStep_some {acc acc' : Obs} {o : CObj} (h : obsStep acc o = some acc') :
    o.ctrl = .other ∧ acc' = acc ∨ o.ctrl ≠ .other ∧ o.annot ≠ "" ∧ acc' = obsInsert acc o.annot o := by
  unfold obsStep at h
  by_cases hc : o.ctrl = .other
  · rw [if_pos hc] at h
    exact Or.inl ⟨hc, (Option.some.inj h).symm⟩
  · by_cases ha : o.annot = ""
    · rw [if_neg hc, if_pos ha] at h
      cases h
    · rw [if_neg hc, if_neg ha] at h
      exact Or.inr ⟨hc, ha, (Option.some.inj h).symm⟩

theorem apply_obsStep {β : Type} (g : Option Obs → β) (acc : Obs) (o : CObj) :
    g (obsStep acc o) =
      if o.ctrl = .other then g (some acc) else if o.annot = "" then g none else g (some (obsInsert acc o.annot o)) := by
  unfold obsStep
  rw [apply_ite g, apply_ite g]

theorem observeFn_cons (lrv : Nat) {r : Ref} (rs : List Ref) (acc : Obs) (k : Obs → P) (hn : r.name ≠ "") :
    observeFn lrv (r :: rs) acc k =
      readThrough lrv r.kind r.name (fun o => (obsStep acc o).elim (onError lrv) fun acc' => observeFn lrv rs acc' k)
        (observeFn lrv rs acc k) := by
  rw [observeFn_step, if_neg hn]
  exact congrArg (readThrough lrv r.kind r.name · _) (funext fun o =>
    (apply_obsStep (·.elim (onError lrv) fun acc' => observeFn lrv rs acc' k) acc o).symm)

/-- `ObserveComposedResources` when every read succeeds: the referenced objects that exist and
are not controlled by someone else, by resource name; `none` = an unannotated one was met
(the observation errors) -/
def observePure (objs : List CObj) : List Ref → Obs → Option Obs
  | [], acc => some acc
  | r :: rs, acc =>
    if r.name = "" then observePure objs rs acc else
    match findObj objs r.kind r.name with
    | none => observePure objs rs acc
    | some o =>
      if o.ctrl = .other then observePure objs rs acc
      else if o.annot = "" then none
      else observePure objs rs (obsInsert acc o.annot o)

theorem observePure_skip {objs : List CObj} {r : Ref} (rs : List Ref) (acc : Obs) (h : r.name = "") :
    observePure objs (r :: rs) acc = observePure objs rs acc := by
  simp only [observePure, h, if_true]

theorem observePure_none {objs : List CObj} {r : Ref} (rs : List Ref) (acc : Obs) (h : r.name ≠ "")
    (hf : findObj objs r.kind r.name = none) :
    observePure objs (r :: rs) acc = observePure objs rs acc := by
  simp only [observePure, h, if_false, hf]

theorem observePure_some {objs : List CObj} {r : Ref} {o : CObj} (rs : List Ref) (acc : Obs) (h : r.name ≠ "")
    (hf : findObj objs r.kind r.name = some o) :
    observePure objs (r :: rs) acc =
      if o.ctrl = .other then observePure objs rs acc
      else if o.annot = "" then none
      else observePure objs rs (obsInsert acc o.annot o) := by
  simp only [observePure, h, if_false, hf]

theorem observePure_found {objs : List CObj} {r : Ref} {o : CObj} (rs : List Ref) (acc : Obs) (h : r.name ≠ "")
    (hf : findObj objs r.kind r.name = some o) :
    observePure objs (r :: rs) acc = (obsStep acc o).bind (observePure objs rs) :=
  (observePure_some rs acc h hf).trans (apply_obsStep (·.bind (observePure objs rs)) acc o).symm

/-- what being in the observation means -/
structure ObservedAs (s : St) (a : String) (o : CObj) : Prop where
  ref : (⟨o.kind, o.name⟩ : Ref) ∈ s.refs
  named : o.name ≠ ""
  found : findObj s.objs o.kind o.name = some o
  notForeign : o.ctrl ≠ .other
  annot : o.annot = a
  annotNe : a ≠ ""

theorem observePure_sound (s : St) (rs : List Ref) (acc obs : Obs) (hrs : ∀ r ∈ rs, r ∈ s.refs)
    (hacc : ∀ p ∈ acc, ObservedAs s p.1 p.2) (h : observePure s.objs rs acc = some obs) :
    ∀ p ∈ obs, ObservedAs s p.1 p.2 := by
  fun_induction observePure s.objs rs acc with
  | case1 acc =>   -- no reference left
    cases h
    exact hacc
  | case2 r rs acc hn ih => exact ih (fun x hx => hrs x (List.mem_cons_of_mem _ hx)) hacc h   -- unnamed reference
  | case3 r rs acc hn hf ih => exact ih (fun x hx => hrs x (List.mem_cons_of_mem _ hx)) hacc h   -- no object
  | case4 r rs acc hn o hf hc ih => exact ih (fun x hx => hrs x (List.mem_cons_of_mem _ hx)) hacc h   -- foreign
  | case5 => cases h   -- unannotated: the observation fails
  | case6 r rs acc hn o hf hc ha ih =>   -- recorded
    refine ih (fun x hx => hrs x (List.mem_cons_of_mem _ hx)) (fun p hp => ?_) h
    rcases mem_obsInsert hp with hp | rfl
    · exact hacc p hp
    · obtain ⟨_, hk1, hk2⟩ := findObj_some hf
      refine ⟨?_, hk2 ▸ hn, ?_, hc, rfl, ha⟩
      · rw [hk1, hk2]
        exact hrs r (List.mem_cons_self ..)
      · rw [hk1, hk2]
        exact hf

/-- The observer loop computes `observePure` (which does not look at the cache), for any property `W` of the
programs run from `s` that passes through the read of a reference (`hread`). The loop writes nothing, so
`s` is fixed. -/
theorem observeFn_pure_rule (s : St) {W : P → Prop} {lrv : Nat} {k : Obs → P}
    (hread : ∀ {kd n : String} {found : CObj → P} {absent : P}, (∀ o, findObj s.objs kd n = some o → W (found o)) →
      (findObj s.objs kd n = none → W absent) → W (readThrough lrv kd n found absent)) :
    ∀ (rs : List Ref) (acc : Obs),
      W ((observePure s.objs rs acc).elim (onError lrv) k) → W (observeFn lrv rs acc k) := by
  intro rs
  induction rs with
  | nil => exact fun acc h => h
  | cons r rs ih =>
    intro acc h
    by_cases hn : r.name = ""
    · rw [observeFn_step, if_pos hn]
      rw [observePure_skip rs acc hn] at h
      exact ih acc h
    · rw [observeFn_cons lrv rs acc k hn]
      refine hread (fun o hf => ?_) (fun hf => ?_)
      · rw [observePure_found rs acc hn hf] at h
        generalize obsStep acc o = step at h ⊢
        cases step with
        | none => exact h
        | some acc' => exact ih acc' h
      · rw [observePure_none rs acc hn hf] at h
        exact ih acc h

/-- AssociateTemplates walked once, for any property `W` of a program run from a store and any loop
invariant `J` (of the references done, the association so far and the store); `R` is what is known of
every reference. The collection owes the invariant after the delete to the rest of the loop only: a
property that the collection itself settles need not keep it. -/
theorem associatePT_rule (W : P → St → Prop) (R : Ref → Prop) (J : List Ref → Assoc → St → Prop) (lrv : Nat) (tmpl : List Desired)
    (hread : ∀ {done a s kd n found absent}, J done a s → (∀ o, findObj s.objs kd n = some o → W (found o) s) →
      (findObj s.objs kd n = none → W absent s) → W (readThrough lrv kd n found absent) s)
    (herr : ∀ {done a s}, J done a s → W (onError lrv) s)
    (hskip : ∀ {done a s} r, J done a s → R r → (r.name = "" ∨ findObj s.objs r.kind r.name = none) → J (done ++ [r]) a s)
    (hins : ∀ {done a s} r o, J done a s → R r → findObj s.objs r.kind r.name = some o → o.annot ≠ "" →
      wanted tmpl o.annot = true → J (done ++ [r]) (assocInsert a o.annot r) s)
    (hcollect : ∀ {done a s} r o (p : P), J done a s → R r → r.name ≠ "" → findObj s.objs r.kind r.name = some o → o.annot ≠ "" →
      wanted tmpl o.annot ≠ true → o.ctrl ≠ .other →
      (J (done ++ [r]) a (exec s (.delete o.kind o.name)).1 → W p (exec s (.delete o.kind o.name)).1) → W (collect lrv o p) s)
    (k : Assoc → P) :
    ∀ (rs done : List Ref) (acc : Assoc) (s : St), (∀ r ∈ rs, R r) → J done acc s →
      (∀ a s', J (done ++ rs) a s' → W (k a) s') → W (associatePT lrv tmpl rs acc k) s := by
  intro rs
  induction rs with
  | nil =>
    intro done acc s _ hj hk
    simp only [associatePT]
    exact hk acc s (by simpa using hj)
  | cons r rs ih =>
    intro done acc s hrs hj hk
    have hr := hrs r (List.mem_cons_self ..)
    have next : ∀ a s', J (done ++ [r]) a s' → W (associatePT lrv tmpl rs a k) s' :=
      fun a s' h => ih (done ++ [r]) a s' (fun x hx => hrs x (List.mem_cons_of_mem _ hx)) h
        (fun a s'' h' => hk a s'' (by simpa using h'))
    rw [associatePT_step]
    by_cases hn : r.name = ""
    · rw [if_pos hn]
      exact next _ _ (hskip r hj hr (Or.inl hn))
    · rw [if_neg hn]
      apply hread hj
      · intro o hf
        by_cases ha : o.annot = ""
        · simp only [ha, if_true]; exact herr hj
        · simp only [ha, if_false]
          by_cases ht : (tmpl.any (·.rname = o.annot)) = true
          · simp only [ht, if_true]
            exact next _ _ (hins r o hj hr hf ha (show wanted tmpl o.annot = true from ht))
          · simp only [ht]
            by_cases hc : o.ctrl = .other
            · simp only [hc, if_true]; exact herr hj
            · simp only [hc, if_false]
              exact hcollect r o _ hj hr hn hf ha (show wanted tmpl o.annot ≠ true from ht) hc (next _ _)
      · intro hf
        exact next _ _ (hskip r hj hr (Or.inr hf))

/-! `reconcile` is `reconcileT 1`: a name generator that gives up at the first taken candidate. -/

theorem renderFnT_one (lrv : Nat) (obs : Obs) (k : List Named → P) :
    ∀ (ds : List Desired) (fresh : List String) (acc : List Named),
      renderFnT 1 lrv obs ds fresh acc k = renderFn lrv obs ds fresh acc k := by
  intro ds
  induction ds with
  | nil => intro fresh acc; simp [renderFnT, renderFn]
  | cons d ds ih =>
    intro fresh acc
    simp only [renderFnT, renderFn]
    cases obsLookup obs d.rname with
    | some o => simp only []; exact ih _ _
    | none =>
      simp only []
      cases fresh with
      | nil => simp [probeName]
      | cons n rest =>
        simp only [probeName]
        congr 1
        funext x
        cases x <;> simp [ih]

theorem renderPTT_one (lrv : Nat) (a : Assoc) (k : List Rendered → P) :
    ∀ (ds : List Desired) (fresh : List String) (acc : List Rendered),
      renderPTT 1 lrv a ds fresh acc k = renderPT lrv a ds fresh acc k := by
  intro ds
  induction ds with
  | nil => intro fresh acc; simp [renderPTT, renderPT]
  | cons d ds ih =>
    intro fresh acc
    simp only [renderPTT, renderPT]
    cases assocLookup a d.rname with
    | some r => simp only []; split <;> simp [ih]
    | none =>
      simp only []
      cases fresh with
      | nil => simp [probeName, ih]
      | cons n rest =>
        simp only [probeName]
        congr 1
        funext x
        cases x <;> simp [ih]

theorem composeFnT_one (lrv : Nat) (refs : List Ref) (out : Obs → FnOut) (ch : Choices) :
    composeFnT 1 lrv refs out ch = composeFn lrv refs out ch := by
  simp only [composeFnT, composeFn, renderFnT_one]

theorem composePTT_one (lrv : Nat) (refs : List Ref) (tmpl : List Desired) (fresh : List String) (ver : String) :
    composePTT 1 lrv refs tmpl fresh ver = composePT lrv refs tmpl fresh ver := by
  simp only [composePTT, composePT, renderPTT_one]

theorem reconcileT_one' (m : Mode) : reconcileT 1 m = reconcile m := by
  unfold reconcileT reconcile
  congr 1
  funext x
  cases x with
  | xr fin rv refs => cases m <;> simp only [recContT, composeFnT_one, composePTT_one]
  | _ => rfl

def runOk (p : P) (s : St) : St × Option Result := run sem Plan.allOk 0 p s

theorem runOk_ret (a : Result) (s : St) : runOk (.ret a) s = (s, some a) := rfl

theorem runOk_call (r : Req) (c : Resp → P) (s : St) :
    runOk (.call r c) s = runOk (c (exec s r).2) (exec s r).1 := by
  show run sem Plan.allOk 1 _ _ = run sem Plan.allOk 0 _ _
  rw [run_allOk, run_allOk]
  rfl

theorem runOk_readThrough (s : St) (lrv : Nat) (k n : String) (found : CObj → P) (absent : P) :
    runOk (readThrough lrv k n found absent) s =
      match findObj s.objs k n with
      | some o => runOk (found o) s
      | none => runOk absent s := by
  unfold readThrough
  cases hf : findObj s.objs k n with
  | none => rw [runOk_call, exec_getCached_none hf, runOk_call, exec_getObj_none hf]
  | some o =>
    by_cases hm : (⟨k, n⟩ : Ref) ∈ s.miss
    · rw [runOk_call, exec_getCached_miss hm, runOk_call, exec_getObj_some hf]
    · rw [runOk_call, exec_getCached_some hf hm]

theorem runOk_readThrough_rule {s : St} {R : St × Option Result} {lrv : Nat} {k n : String} {found : CObj → P} {absent : P}
    (hf : ∀ o, findObj s.objs k n = some o → runOk (found o) s = R) (ha : findObj s.objs k n = none → runOk absent s = R) :
    runOk (readThrough lrv k n found absent) s = R := by
  rw [runOk_readThrough]
  cases h : findObj s.objs k n with
  | some o => exact hf o h
  | none => exact ha h

theorem runOk_observeFn_pure (s : St) (lrv : Nat) (k : Obs → P) :
    ∀ (rs : List Ref) (acc : Obs),
      runOk (observeFn lrv rs acc k) s =
        match observePure s.objs rs acc with
        | some obs => runOk (k obs) s
        | none => runOk (onError lrv) s := by
  intro rs acc
  refine observeFn_pure_rule s (W := fun p => runOk p s = _) runOk_readThrough_rule rs acc ?_
  cases observePure s.objs rs acc <;> rfl

end Xp.C01
