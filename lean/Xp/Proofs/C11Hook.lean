import Xp.Model.C11Hook
/-
The call-level model of the XRD webhook (Model/C11Hook) under an ARBITRARY environment: `HookSpec`, the discipline `Kept` of
Base/Prog without a ghost, the server's replies bounded by a relation; and the quiet special case, evaluated fault-free.
-/
namespace Xp.C11
open Xp

/-- the request is about the derived CRD `c`: a read of its name, or a DRY-RUN write carrying exactly `c` -/
def Req.about (c : Crd) : Req → Prop
  | .get n => n = c.name
  | .update dry _ c' => dry = true ∧ c' = c
  | .create dry c' => dry = true ∧ c' = c

theorem Req.about.harmless {c : Crd} : ∀ {r : Req}, Req.about c r → r.harmless = true
  | .get _, _ => rfl
  | .update _ _ _, h => h.1
  | .create _ _, h => h.1

/-- the request is a write of a CRD the API server accepts -/
def Req.accepted (accept : Crd → Bool) : Req → Prop
  | .get _ => False
  | .update _ _ c => accept c = true
  | .create _ c => accept c = true

/-- all that the specifications below use of the API server: it answers `ok` to nothing but a write it accepts -/
def Replies (accept : Crd → Bool) (q : Req) (x : Resp) : Prop := x = .ok → q.accepted accept

theorem replies_exec (accept : Crd → Bool) (w : World) (q : Req) : Replies accept q (execHook accept w q).2 := by
  unfold Replies
  fun_cases execHook accept w q
  case case7 ha => exact fun _ => Bool.of_not_eq_false ha    -- the Update that is answered `ok`
  case case10 ha => exact fun _ => Bool.of_not_eq_false ha   -- the Create that is answered `ok`
  all_goals exact nofun

theorem replies_errResp (accept : Crd → Bool) (o : Outcome) (q : Req) : Replies accept q ((hookSem accept).errResp o q) := by
  cases o <;> exact nofun

/-- `Kept` of Base/Prog without a ghost: whichever replies `p` gets among those `Replies accept` allows, every request it
issues satisfies `P` and a result it returns satisfies `Q`; no store appears, so it holds whatever others do to the store -/
abbrev HookSpec (accept : Crd → Bool) (P : Req → Prop) (p : Prog Req Resp α) (Q : α → Prop) : Prop :=
  Kept (fun _ q x _ => Replies accept q x) (fun (_ : Unit) => P) (fun _ => Q) p ()

namespace HookSpec
variable {α β : Type} {accept : Crd → Bool} {P P' : Req → Prop} {Q Q' : α → Prop} {p : Prog Req Resp α}

theorem ret {a : α} (h : Q a) : HookSpec accept P (.ret a) Q := h

theorem call {q : Req} {k : Resp → Prog Req Resp α} (hp : P q) (h : ∀ x, Replies accept q x → HookSpec accept P (k x) Q) :
    HookSpec accept P (.call q k) Q :=
  ⟨hp, fun x _ hx => h x hx⟩

theorem mono (h : HookSpec accept P p Q) (hP : ∀ q, P q → P' q) (hQ : ∀ a, Q a → Q' a) : HookSpec accept P' p Q' :=
  Kept.mono (fun _ => hP) (fun _ => hQ) h

theorem bind {f : α → Prog Req Resp β} {Q₂ : β → Prop} (hp : HookSpec accept P p Q) (hf : ∀ a, Q a → HookSpec accept P (f a) Q₂) :
    HookSpec accept P (p.bind f) Q₂ :=
  Kept.bind (fun _ => hf) hp

/-- here, once, enters that `hookSem accept` answers within `Replies accept` -/
theorem run (h : HookSpec accept P p Q) (env : Env World) (plan : Plan) (k : Nat) (w : World) :
    (∀ x ∈ ownE (hookSem accept) env plan k p w, P x.2) ∧
    (∀ a, (runE (hookSem accept) env plan k p w).2 = some a → Q a) :=
  Kept.run (R := fun _ _ => True) (fun _ => ()) h (fun _ _ _ => rfl) (fun s q _ => replies_exec accept s q)
    (fun _ o q _ => replies_errResp accept o q) env (fun _ _ => trivial) plan k

end HookSpec

theorem spec_attempt (accept : Crd → Bool) (crd : Crd) :
    HookSpec accept (Req.about crd) (attempt crd) (fun x => x = .ok → accept crd = true) := by
  refine HookSpec.call rfl fun x _ => ?_
  split
  · -- found: a dry-run Update of `crd`, whose reply is returned
    exact HookSpec.call ⟨rfl, rfl⟩ fun _ h => .ret h
  · -- NotFound: a dry-run Create of `crd`, whose reply is returned
    exact HookSpec.call ⟨rfl, rfl⟩ fun _ h => .ret h
  · exact .ret nofun
  · exact .ret nofun

/-- `hn`: with zero steps `retryOnConflict` answers `ok` without having asked anybody -/
theorem spec_retry (accept : Crd → Bool) (crd : Crd) (n : Nat) (hn : 1 ≤ n) :
    HookSpec accept (Req.about crd) (retryOnConflict n crd) (fun x => x = .ok → accept crd = true) := by
  induction n with
  | zero => exact absurd hn (by decide)
  | succ n ih =>
    refine (spec_attempt accept crd).bind fun r hr => ?_
    split
    · -- a Conflict
      split
      · exact .ret nofun
      · next hn0 => exact ih (Nat.pos_of_ne_zero hn0)
    · exact .ret hr

theorem rewriteError_ne_allowed (w : String) (e : ErrClass) : rewriteError w e ≠ .allowed := by
  unfold rewriteError; split <;> exact nofun

/-- the loop ValidateCreate and ValidateUpdate share; they differ in what is run on each CRD -/
def dryRunAllWith (body : Crd → Prog Req Resp Resp) : List (String × Crd) → Prog Req Resp Verdict
  | [] => .ret .allowed
  | (w, c) :: rest => (body c).bind fun r =>
      match r with
      | .ok => dryRunAllWith body rest
      | .err e => .ret (rewriteError w e)
      | .found _ => .ret (rewriteError w .internal)

theorem dryRunAllUpdate_eq (steps : Nat) : ∀ crds, dryRunAllUpdate steps crds = dryRunAllWith (retryOnConflict steps) crds
  | [] => rfl
  | (w, c) :: rest => by simp only [dryRunAllUpdate, dryRunAllWith, dryRunAllUpdate_eq steps rest]; rfl

theorem dryRunAllCreate_eq : ∀ crds, dryRunAllCreate crds = dryRunAllWith (fun c => .api (.create true c)) crds
  | [] => rfl
  | (w, c) :: rest => by simp only [dryRunAllCreate, dryRunAllWith, dryRunAllCreate_eq rest]; rfl

theorem hookUpdate_eq (new old : Xrd) : hookUpdate new old =
    hook (validateUpdate new old) new (dryRunAllWith (retryOnConflict Xp.Gen.xrdWebhookRetrySteps)) :=
  congrArg (hook _ _) (funext (dryRunAllUpdate_eq _))

theorem hookCreate_eq (xrd : Xrd) : hookCreate xrd = hook (validate xrd) xrd (dryRunAllWith fun c => .api (.create true c)) :=
  congrArg (hook _ _) (funext dryRunAllCreate_eq)

/-- what a request of the webhook is: about one of the CRDs derived from `xrd` -/
def AboutDerived (xrd : Xrd) (r : Req) : Prop :=
  ∃ crds, allCrds xrd = .ok crds ∧ ∃ p ∈ crds, Req.about p.2 r

theorem AboutDerived.harmless {xrd : Xrd} {r : Req} : AboutDerived xrd r → r.harmless = true
  | ⟨_, _, _, _, h⟩ => h.harmless

section
variable (accept : Crd → Bool) (body : Crd → Prog Req Resp Resp)
  (hbody : ∀ c, HookSpec accept (Req.about c) (body c) (fun x => x = .ok → accept c = true))
include hbody

theorem spec_dryRunAllWith : ∀ crds, HookSpec accept (fun r => ∃ p ∈ crds, Req.about p.2 r) (dryRunAllWith body crds)
    (fun v => v = .allowed → dryRun accept crds = .allowed)
  | [] => .ret fun _ => rfl
  | (w, c) :: rest => by
    refine ((hbody c).mono (fun _ h => ⟨(w, c), .head _, h⟩) fun _ h => h).bind fun r hr => ?_
    split
    · refine (spec_dryRunAllWith rest).mono (fun _ ⟨p, hp, h⟩ => ⟨p, .tail _ hp, h⟩) fun v hv ha => ?_
      rw [dryRun, if_pos (hr rfl)]
      exact hv ha
    · exact .ret fun h => absurd h (rewriteError_ne_allowed _ _)
    · exact .ret fun h => absurd h (rewriteError_ne_allowed _ _)

theorem spec_hook (errs : List String) (xrd : Xrd) :
    HookSpec accept (AboutDerived xrd) (hook errs xrd (dryRunAllWith body))
      (fun v => v = .allowed → admission errs xrd accept = .allowed) := by
  fun_cases hook errs xrd (dryRunAllWith body)
  case case3 he crds hc =>   -- validation found nothing and the CRDs are derived: the loop runs
    refine (spec_dryRunAllWith accept body hbody crds).mono (fun _ ⟨p, hp, hr⟩ => ⟨crds, hc, p, hp, hr⟩) fun _ hv ha => ?_
    rw [admission, if_neg he, hc]
    exact hv ha
  all_goals exact .ret nofun

end

theorem spec_hookUpdate (accept : Crd → Bool) (new old : Xrd) :
    HookSpec accept (AboutDerived new) (hookUpdate new old)
      (fun v => v = .allowed → admissionUpdate new old accept = .allowed) :=
  hookUpdate_eq new old ▸ spec_hook accept _ (fun c => spec_retry accept c _ (by decide)) _ new

theorem spec_hookCreate (accept : Crd → Bool) (xrd : Xrd) :
    HookSpec accept (AboutDerived xrd) (hookCreate xrd)
      (fun v => v = .allowed → admissionCreate xrd accept = .allowed) :=
  hookCreate_eq xrd ▸ spec_hook accept (fun c => .api (.create true c)) (fun _ => HookSpec.call ⟨rfl, rfl⟩ fun _ h => .ret h) _ xrd

theorem hookUpdate_refines {accept : Crd → Bool} {new old : Xrd} {env : Env World} {plan : Plan} {k : Nat} {w : World}
    (h : (runE (hookSem accept) env plan k (hookUpdate new old) w).2 = some .allowed) :
    admissionUpdate new old accept = .allowed :=
  ((spec_hookUpdate accept new old).run env plan k w).2 _ h rfl

theorem hookCreate_refines {accept : Crd → Bool} {xrd : Xrd} {env : Env World} {plan : Plan} {k : Nat} {w : World}
    (h : (runE (hookSem accept) env plan k (hookCreate xrd) w).2 = some .allowed) : admissionCreate xrd accept = .allowed :=
  ((spec_hookCreate accept xrd).run env plan k w).2 _ h rfl

theorem quiet_attempt (accept : Crd → Bool) (crd : Crd) (w : World) (hq : w.quiet) :
    evalOk (hookSem accept) (attempt crd) w = (w, if accept crd then .ok else .err .invalid) := by
  obtain ⟨hi, hc⟩ := hq
  simp only [attempt, evalOk, hookSem, execHook, hi, hc]
  cases hl : lookup crd.name w.live with
  | none =>
    -- not cached, not stored: the dry-run Create is answered by the server's verdict
    simp only [evalOk, execHook, hi, hl]
    cases accept crd
    · rfl
    · rfl
  | some rv =>
    -- cached with the stored resourceVersion: the dry-run Update meets no Conflict
    simp only [evalOk, execHook, hi, hl, ne_eq, not_true_eq_false, if_false]
    cases accept crd
    · rfl
    · rfl

theorem quiet_retry (accept : Crd → Bool) (crd : Crd) (steps : Nat) (hs : 1 ≤ steps) (w : World) (hq : w.quiet) :
    evalOk (hookSem accept) (retryOnConflict steps crd) w = (w, if accept crd then .ok else .err .invalid) := by
  obtain ⟨n, rfl⟩ : ∃ n, steps = n + 1 := ⟨steps - 1, (Nat.sub_add_cancel hs).symm⟩
  unfold retryOnConflict
  rw [evalOk_bind, quiet_attempt accept crd w hq]
  cases accept crd
  · rfl
  · rfl

theorem quiet_create (accept : Crd → Bool) (c : Crd) (w : World) (hq : w.quiet) (hnew : lookup c.name w.live = none) :
    evalOk (hookSem accept) (.api (.create true c)) w = (w, if accept c then .ok else .err .invalid) := by
  simp only [Prog.api, evalOk, hookSem, execHook, hq.1, hnew]
  cases accept c
  · rfl
  · rfl

section
variable (accept : Crd → Bool) (body : Crd → Prog Req Resp Resp) (w : World)

theorem quiet_dryRunAllWith : ∀ crds,
    (∀ p ∈ crds, evalOk (hookSem accept) (body p.2) w = (w, if accept p.2 then .ok else .err .invalid)) →
    ∃ v, evalOk (hookSem accept) (dryRunAllWith body crds) w = (w, v) ∧ v.abs = dryRun accept crds
  | [], _ => ⟨_, rfl, rfl⟩
  | (wh, c) :: rest, hbody => by
    have ih := quiet_dryRunAllWith rest fun p hp => hbody p (.tail _ hp)
    unfold dryRunAllWith dryRun
    rw [evalOk_bind, hbody _ (.head _)]
    cases accept c with
    | false => exact ⟨_, rfl, by simp [rewriteError, Verdict.abs]⟩
    | true => exact ih

theorem quiet_hook (errs : List String) (xrd : Xrd)
    (hbody : ∀ crds, allCrds xrd = .ok crds →
      ∀ p ∈ crds, evalOk (hookSem accept) (body p.2) w = (w, if accept p.2 then .ok else .err .invalid)) :
    ∃ v, run (hookSem accept) Plan.allOk 0 (hook errs xrd (dryRunAllWith body)) w = (w, some v) ∧
      v.abs = admission errs xrd accept := by
  rw [run_allOk]
  fun_cases hook errs xrd (dryRunAllWith body)
  case case1 he => exact ⟨_, rfl, by rw [admission, if_pos he]; rfl⟩     -- refused by validation
  case case2 he _ _ hc => exact ⟨_, rfl, by rw [admission, if_neg he, hc]; rfl⟩   -- no CRDs derived
  case case3 he crds hc =>
    obtain ⟨v, hv, ha⟩ := quiet_dryRunAllWith accept body w crds (hbody crds hc)
    exact ⟨v, by rw [hv], by rw [admission, if_neg he, hc]; exact ha⟩

end

end Xp.C11
