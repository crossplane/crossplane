import Xp.Proofs.C02Crd
import Xp.Model.C02CrdEnv
/-
C02, derived CRDs with concurrent writers between two API calls (`Xp.Model.C02CrdEnv`).

 * `Disc sn p` — syntactic discipline: along every path of `p`, an Update of the CRD carries the
   resourceVersion of a copy this reconcile read and found controllable, a Delete of the CRD
   follows a Get that returned it controlled by the XRD, a Create follows a Get that returned
   NotFound. `disc_reconcile`: both reconcilers obey it.
 * `Inv` — resourceVersions are never reused: the copy the reconcile holds either is the
   stored object or has another resourceVersion. Kept by every request and by every third
   party obeying `Rely`.
 * `interference_guarantees` puts them together for every environment and fault plan (the method
   is `Kept.sound` of Base/Prog), `interference_guarantees_history` for histories;
   `foreign_kept` is what they mean for the CRD;
   `update_refused_on_foreign` is the fence the resourceVersion gives the Update (Delete has no
   precondition: the one window).
-/
namespace Xp.C02CrdEnv
open Xp Xp.C02Crd

/-- what the discipline asks of a request, `sn` being the reply of this reconcile's latest Get of the CRD (the ghost
`E.seen`; `none`: no Get yet): the three clauses of `Disc` in the header, request by request -/
def guard (sn : Option (Option CRD)) : Req → Prop
  | .updateCRD rv => ∃ c0, sn = some (some c0) ∧ c0.ctrl ≠ .other ∧ c0.rv = rv
  | .deleteCRD => ∃ c0, sn = some (some c0) ∧ c0.ctrl = .xrd
  | .createCRD => sn = some none
  | _ => True

/-- the discipline of a program text (`Xp.Kept` of Base.Prog): the ghost is the copy, a reply moves it by
`seenAfter`, every request obeys `guard` on the copy of the moment -/
abbrev Disc (sn : Option (Option CRD)) (p : P) : Prop :=
  Kept (fun sn r resp sn' => sn' = seenAfter sn r resp) guard (fun _ _ => True) p sn

theorem seenAfter_of_ne {r : Req} (h : r ≠ .getCRD) (sn : Option (Option CRD)) (resp : Resp) :
    seenAfter sn r resp = sn := by
  cases r <;> first | rfl | exact absurd rfl h

theorem guard_of_not_targets {r : Req} (h : r.targetsCRD = false) (sn : Option (Option CRD)) : guard sn r := by
  cases r <;> first | trivial | cases h

theorem disc_of_issues {p : P} (h : Issues (fun r => r.targetsCRD = false) p) (sn : Option (Option CRD)) : Disc sn p :=
  h.kept (fun sn _ hq => guard_of_not_targets hq sn) (fun _ _ => trivial) sn

theorem disc_removeFinalizer (d : XRD) (sn : Option (Option CRD)) : Disc sn (removeFinalizer d) :=
  disc_of_issues (issues_removeFinalizer d) sn

theorem disc_afterApply (d : XRD) (est : Bool) (sn : Option (Option CRD)) : Disc sn (afterApply d est) :=
  disc_of_issues (issues_afterApply d est) sn

/-- the teardown of the definition reconciler is DeleteAllOf followed by that of the offered one -/
theorem disc_deleteControlled (w : Which) (c0 : CRD) (h : c0.ctrl = .xrd) : Disc (some (some c0)) (deleteControlled w) := by
  have hoffered : Disc (some (some c0)) (deleteControlled .offered) := by
    refine ⟨trivial, ?_⟩
    rintro resp _ rfl
    cases resp with
    | done =>
      refine ⟨⟨c0, rfl, h⟩, ?_⟩
      rintro resp _ rfl
      cases resp <;> trivial
    | _ => trivial
  cases w with
  | offered => exact hoffered
  | definition =>
    refine ⟨trivial, ?_⟩
    rintro resp _ rfl
    cases resp with
    | done | notFound => exact hoffered
    | _ => trivial

theorem disc_deletion (w : Which) (d : XRD) (sn : Option (Option CRD)) : Disc sn (deletion w d) := by
  unfold deletion
  refine ⟨trivial, ?_⟩
  rintro resp _ rfl
  cases resp with
  | wrote rv _ =>
    refine ⟨trivial, ?_⟩
    rintro resp2 _ rfl
    cases resp2 with
    | crd x =>
      cases x with
      | none => exact disc_removeFinalizer _ _
      | some c =>
        simp only
        split
        · next hx => exact disc_deleteControlled w c hx
        · exact disc_removeFinalizer _ _
    | _ => trivial
  | _ => trivial

theorem disc_applyCRD (d : XRD) (sn : Option (Option CRD)) : Disc sn (applyCRD d) := by
  -- what follows the Create resp. the Update
  have hwrote : ∀ sn' (resp : Resp), Disc sn' (match resp with
      | .wrote _ est => afterApply d est
      | .conflict => .ret .requeue
      | _ => .ret .err : P) := by
    intro sn' resp
    cases resp with
    | wrote _ est => exact disc_afterApply _ _ _
    | _ => trivial
  unfold applyCRD
  refine ⟨trivial, ?_⟩
  rintro resp _ rfl
  cases resp with
  | crd x =>
    cases x with
    | none => exact ⟨rfl, fun resp _ _ => hwrote _ resp⟩
    | some c =>
      simp only
      split
      · trivial
      · next hx => exact ⟨⟨c, rfl, hx, rfl⟩, fun resp _ _ => hwrote _ resp⟩
  | _ => trivial

theorem disc_live (d : XRD) (sn : Option (Option CRD)) : Disc sn (live d) := by
  unfold live
  split
  · exact disc_applyCRD _ _
  · refine ⟨trivial, ?_⟩
    rintro resp _ rfl
    cases resp with
    | wrote rv _ => exact disc_applyCRD _ _
    | _ => trivial

theorem disc_reconcile (w : Which) (sn : Option (Option CRD)) : Disc sn (reconcile w) := by
  unfold reconcile
  refine ⟨trivial, ?_⟩
  rintro resp _ rfl
  cases resp with
  | xrd x =>
    cases x with
    | none => trivial
    | some d =>
      simp only
      split
      · trivial
      · split
        · exact disc_deletion _ _ _
        · exact disc_live _ _
  | _ => trivial

/-- what a third party may do between two calls: whatever it writes into the CRD slot gets a
fresh resourceVersion from the API server's counter; the reconcile's copy is not its to touch -/
structure Rely (e e' : E) : Prop where
  seen : e'.seen = e.seen
  next : e.base.next ≤ e'.base.next
  crd : e'.base.crd = e.base.crd ∨ ∀ c, e'.base.crd = some c → e.base.next < c.rv ∧ c.rv ≤ e'.base.next

theorem Rely.rfl (e : E) : Rely e e := ⟨by rfl, Nat.le_refl _, Or.inl (by rfl)⟩

/-- resourceVersions are not reused: the stored CRD's is at most the counter, and the copy the
reconcile holds either is the stored object or has another resourceVersion -/
structure Inv (e : E) : Prop where
  rv : ∀ c, e.base.crd = some c → c.rv ≤ e.base.next
  seen : ∀ c0, e.seen = some (some c0) → c0.rv ≤ e.base.next ∧ (e.base.crd = some c0 ∨ ∀ c, e.base.crd = some c → c.rv ≠ c0.rv)

theorem inv_rely {e e' : E} (h : Inv e) (r : Rely e e') : Inv e' := by
  refine ⟨?_, ?_⟩
  · intro c hc
    rcases r.crd with h1 | h1
    · exact Nat.le_trans (h.rv c (h1 ▸ hc)) r.next
    · exact (h1 c hc).2
  · intro c0 hs
    obtain ⟨h0, h1⟩ := h.seen c0 (r.seen ▸ hs)
    refine ⟨Nat.le_trans h0 r.next, ?_⟩
    rcases r.crd with h2 | h2
    · rw [h2]; exact h1
    · -- a CRD written since has a resourceVersion above the old counter, the copy's is at most that
      exact .inr fun c hc => Nat.ne_of_gt (Nat.lt_of_le_of_lt h0 (h2 c hc).1)

theorem rely_wrote {e : E} (s' : St) (c : CRD) (hn : s'.next = e.base.next + 1) (hc : s'.crd = some c)
    (hrv : c.rv = e.base.next + 1) : Rely e ⟨s', e.seen⟩ := by
  refine ⟨rfl, Nat.le.intro hn.symm, .inr fun c' h => ?_⟩
  obtain rfl : c' = c := Option.some.inj (h.symm.trans hc)
  show e.base.next < c'.rv ∧ c'.rv ≤ s'.next
  rw [hrv, hn]
  exact ⟨Nat.lt_succ_self _, Nat.le_refl _⟩

theorem rely_exec (e : E) (r : Req) : Rely e ⟨(C02Crd.exec e.base r).1, e.seen⟩ := by
  cases exec_slot e.base r with
  | kept hc hn => exact ⟨rfl, hn, .inl hc⟩
  | wrote c _ hc hrv hn => exact rely_wrote _ c hn hc hrv
  | removed _ hc hn => exact ⟨rfl, hn, .inr fun c h => by rw [hc] at h; cases h⟩

theorem act_rely (a : Act) (e : E) : Rely e (act a e) := by
  fun_cases act a e with
  | case2 | case4 | case5 | case7 => exact rely_wrote _ _ rfl rfl rfl   -- adopt, edit, create, mark for deletion: a write
  | case8 => exact ⟨rfl, Nat.le_refl _, .inr fun c h => by cases h⟩       -- remove a CRD without finalizer
  | _ => exact Rely.rfl e                                                 -- nothing to do

/-- a Get of the CRD makes the copy the stored object; every other request leaves the copy alone
and is a step within the rely -/
theorem exec_inv (e : E) (r : Req) (h : Inv e) : Inv (exec e r).1 := by
  by_cases hr : r = .getCRD
  · subst hr
    refine ⟨h.rv, ?_⟩
    intro c0 hs
    have hs' : e.base.crd = some c0 := Option.some.inj hs
    exact ⟨h.rv c0 hs', .inl hs'⟩
  · have he : (exec e r).1 = ⟨(C02Crd.exec e.base r).1, e.seen⟩ := by
      simp only [exec, seenAfter_of_ne hr]
    rw [he]
    exact inv_rely h (rely_exec e r)

theorem seenAfter_errResp (o : Outcome) (r : Req) (sn : Option (Option CRD)) : seenAfter sn r (sem.errResp o r) = sn := by
  by_cases hr : r = .getCRD
  · subst hr; cases o <;> rfl
  · exact seenAfter_of_ne hr sn _

/-- The second conjunct (the store the reconcile leaves behind, crashed or not) is what lets
reconciles follow one another: `interference_guarantees_history`. -/
theorem interference_guarantees (w : Which) (env : Env E) (henv : ∀ k e, Rely e (env k e)) (plan : Plan)
    (e : E) (he : Inv e) :
    (∀ x ∈ ownE sem env plan 0 (reconcile w) e, Inv x.1 ∧ guard x.1.seen x.2) ∧
    Inv (runE sem env plan 0 (reconcile w) e).1 :=
  (disc_reconcile w e.seen).sound
    E.seen he (fun _ _ hr => ⟨hr.seen, fun hs => inv_rely hs hr⟩) (fun s r _ => ⟨rfl, exec_inv s r⟩)
    (fun sn o r _ => (seenAfter_errResp o r sn).symm) env henv plan 0

theorem Inv.copy_rv {e : E} (hi : Inv e) {c0 c : CRD} (hs : e.seen = some (some c0)) (hc : e.base.crd = some c)
    (hne : c0 ≠ c) : c.rv ≠ c0.rv := by
  rcases (hi.seen c0 hs).2 with h1 | h1
  · exact absurd (Option.some.inj (h1.symm.trans hc)) hne
  · exact h1 c hc

/-- the Update of `APIUpdatingApplicator.Apply` is refused when the CRD is foreign by now: the copy
it rests on was controllable, so it is not the stored CRD -/
theorem update_refused_on_foreign (e : E) (rv : Nat) (hi : Inv e) (hg : guard e.seen (.updateCRD rv))
    (c : CRD) (hc : e.base.crd = some c) (ho : c.ctrl = .other) :
    (exec e (.updateCRD rv)).1.base = e.base ∧ (exec e (.updateCRD rv)).2 = .conflict := by
  obtain ⟨c0, hs, hn, hrv⟩ := hg
  have hne : c.rv ≠ rv := hrv ▸ hi.copy_rv hs hc fun h => hn (h ▸ ho)
  simp [exec, C02Crd.exec, hc, hne]

theorem foreign_kept (e : E) (r : Req) (hi : Inv e) (hg : guard e.seen r) (c : CRD) (hc : e.base.crd = some c)
    (ho : c.ctrl = .other) :
    (exec e r).1.base.crd = some c ∨ (r = .deleteCRD ∧ ∃ c0, e.seen = some (some c0) ∧ c0.ctrl = .xrd ∧ c0.rv ≠ c.rv) := by
  cases r with
  | updateCRD rv => left; rw [(update_refused_on_foreign e rv hi hg c hc ho).1]; exact hc
  | deleteCRD =>
    obtain ⟨c0, hs, hx0⟩ := hg
    exact .inr ⟨rfl, c0, hs, hx0, (hi.copy_rv hs hc fun h => by rw [h, ho] at hx0; cases hx0).symm⟩
  | _ => left; exact exec_frame e.base c _ hc rfl

/-- a reconcile starts without a copy: every store whose CRD's resourceVersion is at most the
counter is within the hypotheses -/
theorem inv_start (s : St) (h : ∀ c, s.crd = some c → c.rv ≤ s.next) : Inv ⟨s, none⟩ :=
  ⟨h, fun _ hs => by cases hs⟩

def resetGhost (e : E) : E := { e with seen := none }

theorem inv_reset {e : E} (h : Inv e) : Inv (resetGhost e) := ⟨h.rv, fun _ hs => by cases hs⟩

/-- the own calls of a history of reconciles of the two reconcilers in any interleaving, each
with its own third party and fault plan -/
def ownRounds : List (Env E × Plan × Which) → E → List (E × Req)
  | [], _ => []
  | (env, plan, w) :: h, e =>
    ownE sem env plan 0 (reconcile w) (resetGhost e) ++ ownRounds h (runE sem env plan 0 (reconcile w) (resetGhost e)).1

theorem interference_guarantees_history (h : List (Env E × Plan × Which)) (hh : ∀ r ∈ h, ∀ k e, Rely e (r.1 k e))
    (e : E) (he : Inv e) : ∀ x ∈ ownRounds h e, Inv x.1 ∧ guard x.1.seen x.2 :=
  rounds_forall ownRounds (fun _ _ _ => rfl) Inv _ (fun _ _ _ hx => nomatch hx) h
    (fun r hr _ hs => interference_guarantees r.2.2 r.1 (hh r hr) r.2.1 _ (inv_reset hs)) e he

end Xp.C02CrdEnv
