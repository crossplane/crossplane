import Xp.Model.C16Enrich
import Xp.Base.List
/-
C16: `enrichControlledResource` and `addLabels` of Model/C16Enrich.lean — what `enrichCC`,
`enrichHooks`, `enrichConv` write and keep, what a successful `enrich` returns (`enrich_ok`), and
label lookup after `setLabel` (`keyed`: the loop of `addLabels` is `Keyed.get_merge`); `validateGo` does not read `needsCA`.
-/
namespace Xp.C16

theorem enrichCC_filled (ns label cert : String) (cc : CC) :
    (enrichCC ns label cert cc).filled ns label cert = true := by
  simp only [CC.filled, enrichCC, BEq.rfl, Bool.and_self]

theorem enrichCC_frame (ns label cert : String) (cc : CC) :
    (enrichCC ns label cert cc).frame = cc.frame := by
  cases cc with
  | mk url service ca =>
    cases service <;> simp [enrichCC, CC.frame]

theorem enrichCC_idem (ns label cert : String) (cc : CC) :
    enrichCC ns label cert (enrichCC ns label cert cc) = enrichCC ns label cert cc := by
  simp only [enrichCC, Option.getD_some]

theorem enrichHooks_frame (ns label cert : String) (hs : List Hook) :
    (enrichHooks ns label cert hs).map Hook.frame = hs.map Hook.frame := by
  induction hs with
  | nil => rfl
  | cons h t ih =>
    simp only [enrichHooks, List.map_cons, List.map_map] at ih ⊢
    rw [ih]
    simp only [Hook.frame, enrichCC_frame]

theorem enrichHooks_idem (ns label cert : String) (hs : List Hook) :
    enrichHooks ns label cert (enrichHooks ns label cert hs) = enrichHooks ns label cert hs := by
  induction hs with
  | nil => rfl
  | cons h t ih =>
    simp only [enrichHooks, List.map_cons, List.map_map] at ih ⊢
    rw [ih]
    simp only [enrichCC_idem]

theorem enrichHooks_filled (ns label cert : String) (hs : List Hook) :
    ∀ h ∈ enrichHooks ns label cert hs, h.cc.filled ns label cert = true := by
  intro h hh
  simp only [enrichHooks, List.mem_map] at hh
  obtain ⟨h0, _, rfl⟩ := hh
  exact enrichCC_filled ns label cert h0.cc

theorem enrichHooks_shape (ns label cert : String) (hs : List Hook) :
    (enrichHooks ns label cert hs).map (fun h => (h.name, h.rest)) = hs.map (fun h => (h.name, h.rest)) := by
  simp only [enrichHooks, List.map_map, Function.comp_def]

theorem enrichConv_ok {ns label cert : String} {c c' : Conv} (h : enrichConv ns label cert c = .ok c') :
    (c.strategy ≠ webhookStrategy ∧ c' = c) ∨
    (c.strategy = webhookStrategy ∧ cert ≠ "" ∧
      c' = { c with webhook := some { c.webhook.getD ⟨none, []⟩ with
        cc := some (enrichCC ns label cert ((c.webhook.getD ⟨none, []⟩).cc.getD ⟨none, none, ""⟩)) } }) := by
  revert h
  fun_cases enrichConv ns label cert c with
  | case1 => nofun      -- strategy `Webhook`, no certificate
  | case2 hs hc => exact fun h => by cases h; exact Or.inr ⟨hs, hc, rfl⟩
  | case3 hs => exact fun h => by cases h; exact Or.inl ⟨hs, rfl⟩

theorem enrichConv_frame (ns label cert : String) (c c' : Conv)
    (h : enrichConv ns label cert c = .ok c') : c'.frame = c.frame := by
  rcases enrichConv_ok h with ⟨_, rfl⟩ | ⟨hs, _, rfl⟩
  · rfl
  · obtain ⟨strategy, webhook⟩ := c
    simp only at hs
    cases webhook with
    | none => simp [Conv.frame, hs, enrichCC_frame]
    | some w =>
      obtain ⟨cc, rv⟩ := w
      cases cc <;> simp [Conv.frame, hs, enrichCC_frame]

theorem enrichConv_strategy (ns label cert : String) (c c' : Conv)
    (h : enrichConv ns label cert c = .ok c') : c'.strategy = c.strategy := by
  rcases enrichConv_ok h with ⟨_, rfl⟩ | ⟨_, _, rfl⟩ <;> rfl

theorem enrichConv_error_iff (ns label cert : String) (c : Conv) :
    (∃ e, enrichConv ns label cert c = .error e) ↔ (c.strategy = webhookStrategy ∧ cert = "") := by
  unfold enrichConv
  by_cases hs : c.strategy = webhookStrategy <;> by_cases hc : cert = "" <;> simp [hs, hc]

theorem enrichConv_idem (ns label cert : String) (c c' : Conv)
    (h : enrichConv ns label cert c = .ok c') : enrichConv ns label cert c' = .ok c' := by
  rcases enrichConv_ok h with ⟨hs, rfl⟩ | ⟨hs, hc, rfl⟩
  · simp [enrichConv, hs]
  · simp [enrichConv, hs, hc, enrichCC_idem]

theorem enrichConv_filled (ns label cert : String) (c c' : Conv)
    (h : enrichConv ns label cert c = .ok c') (hs : c.strategy = webhookStrategy) :
    c'.strategy = webhookStrategy ∧
    ∃ w cc, c'.webhook = some w ∧ w.cc = some cc ∧ cc.filled ns label cert = true ∧
      w.reviewVersions = (c.webhook.map (·.reviewVersions)).getD [] := by
  rcases enrichConv_ok h with ⟨hn, _⟩ | ⟨_, _, rfl⟩
  · exact absurd hs hn
  · refine ⟨hs, _, _, rfl, rfl, enrichCC_filled _ _ _ _, ?_⟩
    cases c.webhook <;> rfl

theorem enrichName_idem (p : EParent) (n : String) : enrichName p (enrichName p n) = enrichName p n := by
  unfold enrichName
  cases pkgOwner p <;> rfl

theorem enrich_ok {ns cert : String} {p : EParent} {o o' : PObj} (h : enrich ns cert p o = .ok o') :
    (o' = o ∧ cert = "" ∧ ∃ hs, o.shape = .validating hs ∨ o.shape = .mutating hs) ∨
    (o' = o ∧ (o.shape = .crd none ∨ o.shape = .other)) ∨
    (cert ≠ "" ∧ ∃ hs, o.shape = .validating hs ∧
      o' = { o with name := enrichName p o.name, shape := .validating (enrichHooks ns p.label cert hs) }) ∨
    (cert ≠ "" ∧ ∃ hs, o.shape = .mutating hs ∧
      o' = { o with name := enrichName p o.name, shape := .mutating (enrichHooks ns p.label cert hs) }) ∨
    (∃ c c', o.shape = .crd (some c) ∧ enrichConv ns p.label cert c = .ok c' ∧ o' = { o with shape := .crd (some c') }) := by
  revert h
  fun_cases enrich ns cert p o with
  | case1 hs hsh hc => exact fun h => by cases h; exact Or.inl ⟨rfl, hc, hs, Or.inl hsh⟩      -- validating, no certificate
  | case2 hs hsh hc => exact fun h => by cases h; exact Or.inr (Or.inr (Or.inl ⟨hc, hs, hsh, rfl⟩))      -- validating
  | case3 hs hsh hc => exact fun h => by cases h; exact Or.inl ⟨rfl, hc, hs, Or.inr hsh⟩      -- mutating, no certificate
  | case4 hs hsh hc => exact fun h => by cases h; exact Or.inr (Or.inr (Or.inr (Or.inl ⟨hc, hs, hsh, rfl⟩)))      -- mutating
  | case5 => nofun      -- `enrichConv` refused
  | case6 c hsh c' hcv => exact fun h => by cases h; exact Or.inr (Or.inr (Or.inr (Or.inr ⟨c, c', hsh, hcv, rfl⟩)))
  | case7 hsh => exact fun h => by cases h; exact Or.inr (Or.inl ⟨rfl, Or.inl hsh⟩)      -- a CRD without conversion
  | case8 hsh => exact fun h => by cases h; exact Or.inr (Or.inl ⟨rfl, Or.inr hsh⟩)      -- anything else

theorem find_map_name (l : List PRef) (kind : PRef → String) (lbl : String) :
    ((l.map fun r => (⟨kind r, r.name⟩ : POwner)).find? (fun r => r.name = lbl)) =
      (l.find? (fun r => r.name = lbl)).map fun r => ⟨kind r, r.name⟩ := by
  induction l with
  | nil => rfl
  | cons x t ih =>
    simp only [List.map_cons, List.find?_cons]
    by_cases h : x.name = lbl
    · simp [h]
    · simp [h, ih]

theorem validateGo_needsCA (rejects : Obj → Bool) (fault : Fault) (p : Parent) (control : Bool)
    (s : Store) (i : Nat) (k : String) (b : Nat) (n m : Bool) :
    validateGo rejects fault p control s i ⟨k, b, n⟩ = validateGo rejects fault p control s i ⟨k, b, m⟩ := rfl

theorem keyed : Keyed (fun k l => getLabel l k) fun k v l => setLabel l k v :=
  ⟨⟨fun _ => rfl, fun _ _ _ _ => rfl⟩, fun _ _ => rfl, fun _ _ _ _ _ => rfl⟩

theorem getLabel_setLabel (l : List (String × String)) (k v k' : String) :
    getLabel (setLabel l k v) k' = if k' = k then some v else getLabel l k' :=
  keyed.get_set k k' v l

end Xp.C16
