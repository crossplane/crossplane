import Xp.Proofs.C01Probe
/-
C01, the function composer: one safety lemma per phase up to the reference write (observe, garbage collection;
the render loop is `Walker.renderFnT`, Xp/Proofs/C01Probe.lean), `ready_of_observed` (after garbage collection the
observation is what `Mid.of_ready` asks for when the references are written) and their assembly
(`safe_composeFnT`); what follows the reference write is safe by what it issues (`Mid.safe`).
-/
namespace Xp.C01

/-- the observation is a Go map kept as a list of pairs -/
theorem obsKeyed : Keyed (fun k l => obsLookup l k) fun k v l => obsInsert l k v :=
  .of_find? (fun _ _ => rfl) fun _ _ _ _ _ => rfl

theorem obsLookup_insert_self (obs : Obs) (n : String) (o : CObj) : obsLookup (obsInsert obs n o) n = some o :=
  obsKeyed.get_set_self n o obs

theorem obsLookup_insert_ne (obs : Obs) (n a : String) (o : CObj) (h : a ≠ n) :
    obsLookup (obsInsert obs n o) a = obsLookup obs a :=
  obsKeyed.get_set_ne h o obs

theorem mem_of_obsLookup {obs : Obs} {a : String} {o : CObj} (h : obsLookup obs a = some o) : (a, o) ∈ obs := by
  unfold obsLookup at h
  cases hf : obs.find? (fun p => decide (p.1 = a)) with
  | none => simp [hf] at h
  | some p =>
    simp [hf] at h
    have hm := List.mem_of_find?_eq_some hf
    have hp := List.find?_some hf
    simp at hp
    obtain ⟨p1, p2⟩ := p
    simp at hp h
    subst hp; subst h
    exact hm

/-- the observation so far misses nothing (what it records is said by `ObservedAs`) -/
structure ObsOKp (s : St) (done : List Ref) (obs : Obs) : Prop where
  observed : ∀ o ∈ s.objs, key o ∈ done → o.ctrl ≠ .other → o.annot ≠ "" ∧ obsLookup obs o.annot = some o

theorem obsOKp_nil (s : St) : ObsOKp s [] [] :=
  ⟨fun _ _ h => (nomatch h)⟩

theorem obsOKp_skip {s : St} {done : List Ref} {obs : Obs} (r : Ref) (h : ObsOKp s done obs)
    (hr : ∀ o ∈ s.objs, key o = r → o.ctrl = .other) : ObsOKp s (done ++ [r]) obs :=
  ⟨fun o ho hk hc => (mem_snoc hk).elim (h.observed o ho · hc) fun e => absurd (hr o ho e) hc⟩

theorem obsOKp_insert {s : St} (hg : Good s) {done : List Ref} {obs : Obs} (r : Ref) (o : CObj)
    (h : ObsOKp s done obs) (hd : ∀ x ∈ done, x ∈ s.refs) (hr : r ∈ s.refs)
    (ho : o ∈ s.objs) (hk : key o = r) (ha : o.annot ≠ "") :
    ObsOKp s (done ++ [r]) (obsInsert obs o.annot o) := by
  refine ⟨fun o2 ho2 hk2 hc2 => ?_⟩
  rcases mem_snoc hk2 with hk2 | hk2
  · obtain ⟨hne, hl⟩ := h.observed o2 ho2 hk2 hc2
    refine ⟨hne, ?_⟩
    by_cases he : o2.annot = o.annot
    · have : o2 = o := hg.obsUniq o2 ho2 o ho (hd _ hk2) (hk ▸ hr) he hne
      subst this
      exact obsLookup_insert_self _ _ _
    · rw [obsLookup_insert_ne _ _ _ _ he]; exact hl
  · have : o2 = o := eq_of_key_eq hg.nodup ho2 ho (hk2.trans hk.symm)
    subst this
    exact ⟨ha, obsLookup_insert_self _ _ _⟩

theorem observePure_spec {s : St} (hg : Good s) :
    ∀ (rs done : List Ref) (acc : Obs), (∀ r ∈ rs, r ∈ s.refs) → (∀ r ∈ done, r ∈ s.refs) → ObsOKp s done acc →
      (observePure s.objs rs acc).elim (∃ o ∈ s.objs, key o ∈ s.refs ∧ o.ctrl ≠ .other ∧ o.annot = "")
        (ObsOKp s (done ++ rs)) := by
  intro rs
  induction rs with
  | nil =>
    intro done acc _ _ hacc
    rw [List.append_nil]
    exact hacc
  | cons r rs ih =>
    intro done acc hrs hdone hacc
    have hr : r ∈ s.refs := hrs r (List.mem_cons_self ..)
    have hdone' : ∀ x ∈ done ++ [r], x ∈ s.refs := fun x hx => (mem_snoc hx).elim (hdone x) (· ▸ hr)
    have rest : ∀ acc', ObsOKp s (done ++ [r]) acc' → (observePure s.objs rs acc').elim _ (ObsOKp s (done ++ r :: rs)) :=
      fun acc' h1 => List.append_cons done r rs ▸ ih (done ++ [r]) acc' (fun x hx => hrs x (List.mem_cons_of_mem _ hx)) hdone' h1
    by_cases hn : r.name = ""
    · rw [observePure_skip rs acc hn]
      exact rest acc (obsOKp_skip r hacc fun o ho hko => absurd ((congrArg Ref.name hko).trans hn) (hg.named o ho))
    · cases hf : findObj s.objs r.kind r.name with
      | none =>
        rw [observePure_none rs acc hn hf]
        exact rest acc (obsOKp_skip r hacc fun o ho hko => absurd hko (findObj_ref_none hf o ho))
      | some o =>
        obtain ⟨hm, hko⟩ := findObj_ref_some hf
        rw [observePure_some rs acc hn hf]
        by_cases hc : o.ctrl = .other
        · rw [if_pos hc]
          exact rest acc (obsOKp_skip r hacc fun o2 ho2 hk2 => eq_of_key_eq hg.nodup ho2 hm (hk2.trans hko.symm) ▸ hc)
        · by_cases ha : o.annot = ""
          · rw [if_neg hc, if_pos ha]
            exact ⟨o, hm, hko ▸ hr, hc, ha⟩
          · rw [if_neg hc, if_neg ha]
            exact rest _ (obsOKp_insert hg r o hacc hdone hr hm hko ha)

theorem observePure_complete {s : St} (hg : Good s) :
    ∀ (rs done : List Ref) (acc obs : Obs), (∀ r ∈ rs, r ∈ s.refs) → (∀ r ∈ done, r ∈ s.refs) → ObsOKp s done acc →
      observePure s.objs rs acc = some obs → ObsOKp s (done ++ rs) obs := by
  intro rs done acc obs hrs hdone hacc h
  have := observePure_spec hg rs done acc hrs hdone hacc
  rwa [h] at this

theorem observeFn_rule {s : St} (hg : Good s) (W : P → Prop) (lrv : Nat) (k : Obs → P)
    (hread : ∀ {kd n : String} {found : CObj → P} {absent : P}, (∀ o, findObj s.objs kd n = some o → W (found o)) →
      (findObj s.objs kd n = none → W absent) → W (readThrough lrv kd n found absent))
    (herr : (∃ o ∈ s.objs, key o ∈ s.refs ∧ o.ctrl ≠ .other ∧ o.annot = "") → W (onError lrv))
    (hk : ∀ obs, (∀ p ∈ obs, ObservedAs s p.1 p.2) → ObsOKp s s.refs obs → W (k obs)) : W (observeFn lrv s.refs [] k) := by
  refine observeFn_pure_rule s hread s.refs [] ?_
  have := observePure_spec hg s.refs [] [] (fun _ h => h) nofun (obsOKp_nil s)
  cases h : observePure s.objs s.refs [] with
  | some obs => rw [h] at this; exact hk obs (observePure_sound s s.refs [] obs (fun _ h => h) (fun _ h => nomatch h) h) this
  | none => rw [h] at this; exact herr this

/-- the observation as the record of the resources found: resource name ↦ reference -/
def obsRef (obs : Obs) (t : String) : Option Ref := (obsLookup obs t).map key

theorem safe_gcFn (lrv : Nat) (k : P) :
    ∀ (os : List CObj) (s : St), Good s →
      (∀ o ∈ os, ∀ x ∈ s.objs, key x = key o → x.ctrl ≠ .other) →
      (∀ s', Shrunk s s' → (∀ o ∈ os, ∀ o' ∈ s'.objs, key o' = key o → o'.deleting = true) → Safe sem Good k s') →
      Safe sem Good (gcFn lrv os k) s := by
  intro os
  induction os with
  | nil =>
    intro s hg _ hk
    simp only [gcFn]
    exact hk s (Shrunk.rfl' hg.nodup) (by intro o ho; cases ho)
  | cons o os ih =>
    intro s hg hnf hk
    simp only [gcFn]
    obtain ⟨hsh, hdead⟩ := exec_delete_shrunk s hg.nodup o.kind o.name
      (by intro x hx hkx; exact hnf o (List.mem_cons_self ..) x hx (by simpa [key] using hkx))
    have hg1 := hsh.good hg
    apply safe_collect hg _ _ _ hg1
    apply ih _ hg1
    · intro o' ho' x hx hkx
      obtain ⟨x0, hx0, hk0, _, hc0, _⟩ := hsh.sub x hx
      rw [hc0]
      exact hnf o' (List.mem_cons_of_mem _ ho') x0 hx0 (hk0 ▸ hkx)
    intro s' hs' hd'
    apply hk s' (hsh.trans hs')
    intro x hx
    rcases List.mem_cons.mp hx with rfl | hx
    · exact hs'.dead_persist (key x) (by intro o' ho' hk'; exact hdead o' ho' (by simpa [key] using hk'))
    · exact hd' x hx

/-- hypotheses on the function pipeline's output: it is a map (distinct resource names)
and a desired resource name keeps its kind (hypothesis H1 of the property, DESIGN.md chapter 6, C01) -/
structure OutOK (out : Obs → FnOut) : Prop where
  nodup : ∀ obs ds, out obs = .desired ds → (ds.map (·.rname)).Nodup
  kind : ∀ obs ds, out obs = .desired ds → ∀ d ∈ ds, ∀ o, obsLookup obs d.rname = some o → o.kind = d.kind

/-- a pipeline that answers with the one list `ds`, and only on observations whose resources have the
kinds `ds` asks for -/
theorem OutOK.of_guarded {out : Obs → FnOut} {ds : List Desired} (hn : (ds.map (·.rname)).Nodup)
    (h : ∀ obs ds', out obs = .desired ds' →
      ds' = ds ∧ ∀ d ∈ ds, (obsLookup obs d.rname).all (·.kind = d.kind) = true) : OutOK out := by
  refine ⟨fun obs ds' e => (h obs ds' e).1 ▸ hn, ?_⟩
  intro obs ds' e d hd o hl
  obtain ⟨rfl, hk⟩ := h obs ds' e
  have := hk d hd
  rw [hl] at this
  simpa using this

/-- hypotheses on the nondeterministic choices: generated names are non-empty, and the
two loop orders are enumerations of the map they iterate -/
structure ChOK (ch : Choices) : Prop where
  fresh : ∀ x ∈ ch.fresh, x ≠ ""
  gc : ∀ l x, x ∈ ch.gcOrder l ↔ x ∈ l
  apply : ∀ l x, x ∈ ch.applyOrder l ↔ x ∈ l

theorem mem_refsOf (named : List Named) (r : Ref) : r ∈ refsOf named ↔ ∃ n ∈ named, r = nkey n := by
  simp only [refsOf, List.mem_mergeSort, List.mem_map]
  constructor <;> rintro ⟨n, hn, rfl⟩ <;> exact ⟨n, hn, rfl⟩

/-- `refsOf` goes through `List.mergeSort`, which is defined by well-founded recursion and does not
reduce; on the short lists of the examples it is this function, which does -/
def sortRefs : List Ref → List Ref
  | [] => []
  | [a] => [a]
  | [a, b] => if refLt b a then [b, a] else [a, b]
  | l => l.mergeSort (fun a b => !refLt b a)

theorem refsOf_eq_sortRefs : ∀ ns : List Named, refsOf ns = sortRefs (ns.map nkey)
  | [] => by simp [refsOf, sortRefs]
  | [a] => by simp [refsOf, sortRefs]
  | [a, b] => by
    simp only [refsOf, sortRefs, List.map, List.mergeSort, List.MergeSort.Internal.splitInTwo]
    cases h : refLt (nkey b) (nkey a) <;> simp [h]
  | _ :: _ :: _ :: _ => by simp [refsOf, sortRefs]

theorem exec_patchRefs_refs (s : St) (v : String) (r : List Ref) : (exec s (.patchRefs v r)).1.refs = r := by
  simp only [exec]; split
  · rename_i h; exact h.1.symm
  · rfl

theorem exec_patchRefs_objs (s : St) (v : String) (r : List Ref) : (exec s (.patchRefs v r)).1.objs = s.objs := by
  simp only [exec]; split <;> rfl

theorem ready_of_observed {s0 s3 : St} {obs : Obs} (hsound : ∀ p ∈ obs, ObservedAs s0 p.1 p.2) (hobs : ObsOKp s0 s0.refs obs)
    {ds : List Desired} (hsh : Shrunk s0 s3)
    (hdead : ∀ o ∈ (obs.filter fun p => !(ds.any (·.rname = p.1))).map (·.2), ∀ o' ∈ s3.objs, key o' = key o → o'.deleting = true) :
    Ready s0 s3 ds (obsRef obs) s0.refs := by
  -- a resource of the XR behind a reference was observed, as the object it was at the start
  have hseen : ∀ o ∈ s3.objs, key o ∈ s0.refs → o.ctrl = .xr → ∃ o0, obsLookup obs o.annot = some o0 ∧ key o0 = key o := by
    intro o ho hk hc
    obtain ⟨o0, ho0, hk0, ha0, hc0, _⟩ := hsh.sub o ho
    have := (hobs.observed o0 ho0 (hk0 ▸ hk) (by rw [← hc0, hc]; decide)).2
    exact ⟨o0, ha0 ▸ this, hk0.symm⟩
  refine ⟨hsh, fun _ h => h, ?_, ?_, ?_⟩
  · intro o ho hk hc _
    obtain ⟨o0, hl, hk0⟩ := hseen o ho hk hc
    rw [obsRef, hl, Option.map_some, hk0]
  · intro o ho hk hc hw
    obtain ⟨o0, hl, hk0⟩ := hseen o ho hk hc
    refine hdead o0 (List.mem_map.mpr ⟨(o.annot, o0), List.mem_filter.mpr ⟨mem_of_obsLookup hl, ?_⟩, rfl⟩) o ho hk0.symm
    simpa [wanted] using hw
  · intro t r hl
    cases hlo : obsLookup obs t with
    | none => rw [obsRef, hlo] at hl; cases hl
    | some o0 =>
      rw [obsRef, hlo] at hl
      cases hl
      have h := hsound _ (mem_of_obsLookup hlo)
      exact ⟨o0, (findObj_some h.found).1, rfl, h.annot⟩

theorem safe_composeFnT {s : St} (hg : Good s) (tries : Nat) (lrv : Nat) (out : Obs → FnOut) (ch : Choices)
    (ho : OutOK out) (hc : ChOK ch) (hfm : FreshAvoids s.miss ch.fresh) :
    Safe sem Good (composeFnT tries lrv s.refs out ch) s := by
  unfold composeFnT
  apply observeFn_rule hg (Safe sem Good · s) lrv _ (safe_readThrough hg) (fun _ => safe_onError hg _)
  · intro obs hsound hobs
    cases hout : out obs with
    | failed => exact safe_onError hg _
    | desired ds =>
      simp only []
      -- every name is the observed resource's, or a candidate that no object of its kind carries
      refine (safe_walker Good).renderFnT tries lrv obs ds ch.fresh _ (Cands s.miss) (fun _ _ h => h.tail) ⟨hc.fresh, hfm⟩
        (fun n => Slot s (obsRef obs) n.d n.name)
        (fun d hd o hl => Or.inl (by simp [obsRef, hl, key, ho.kind obs ds hout d hd o hl]))
        (fun d n rest hl hc' e => Or.inr ⟨by simp [obsRef, hl], hc'.free e⟩)
        (fun named hslot hds _ => ?_) hg
      apply safe_gcFn lrv _ _ s hg
      · -- garbage-collection targets are observed objects, and observed objects are not foreign
        intro o ho x hx hkx
        have ho' := (hc.gc _ _).mp ho
        obtain ⟨⟨a, o2⟩, hmem, rfl⟩ := List.mem_map.mp ho'
        have h2 := hsound (a, o2) (List.mem_filter.mp hmem).1
        have : x = o2 := eq_of_key_eq hg.nodup hx (findObj_some h2.found).1 hkx
        exact this ▸ h2.notForeign
      intro s3 hsh hdead
      have hready := ready_of_observed hsound hobs (ds := ds) hsh
        (by intro o ho' o' ho'' hk; exact hdead o ((hc.gc _ _).mpr ho') o' ho'' hk)
      have hmid := Mid.of_ready hg hready (ho.nodup obs ds hout) (exec_patchRefs_objs s3 ch.ver (refsOf named))
        (exec_foreign0 ..) hds (fun r => by rw [exec_patchRefs_refs]; exact mem_refsOf named r)
        (fun n hn => (hslot n hn).imp_right fun h => ⟨h.1, hsh.absent h.2.1⟩)
      apply safe_wcall (hsh.good hg) _ _ _ hmid.good
      intro _ _
      -- from here on every request keeps `Mid`, whatever the replies
      refine hmid.safe (issues_applyFn lrv _ trivial (fun synced => ?_) _ true fun e he => ?_)
      · refine Issues.call _ _ trivial fun x => ?_
        cases x with
        | okRv rv => exact issues_finish _ _ trivial
        | conflict => exact Issues.ret _
        | _ => exact issues_onErrorO_status _ trivial
      · have hen := (hc.apply _ _).mp he
        exact ⟨List.mem_map.mpr ⟨e, hen, rfl⟩, (hslot e hen).name_ne hg hready⟩

end Xp.C01
