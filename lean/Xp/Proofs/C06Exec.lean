import Xp.Model.C06
/-
C06, the API server of the model: what `setXR`, `putXR`, `delState` and `exec` do, stated once.
`Eff s r s' resp` is `exec` as a relation (the store after the call and the reply, one constructor per kind of
answer); the facts about `exec` in the other modules are case analyses on it.
-/
namespace Xp.C06

theorem setXR_xrs (s : St) (n : Name) (ox : Option XR) (m : Name) :
    (setXR s n ox).xrs m = if m = n then ox else s.xrs m := rfl

theorem setXR_xhist (s : St) (n : Name) (ox : Option XR) (m : Name) :
    (setXR s n ox).xhist m = if m = n then ox :: s.xhist m else s.xhist m := rfl

theorem putXR_eq_setXR (s : St) (n : Name) (x : XR) :
    (putXR s n x).1 = setXR { s with nextRv := s.nextRv + 1 } n (some { x with rv := s.nextRv }) := rfl

theorem mem_xhist_setXR {s : St} {n m : Name} {ox oy : Option XR} (h : oy ∈ (setXR s n ox).xhist m) :
    (m = n ∧ oy = ox) ∨ oy ∈ s.xhist m := by
  rw [setXR_xhist] at h
  split at h
  · next e => exact (List.mem_cons.mp h).imp (fun h => ⟨e, h⟩) id
  · exact Or.inr h

theorem xhist_subset_setXR (s : St) (n : Name) (ox : Option XR) {m : Name} {oy : Option XR} (h : oy ∈ s.xhist m) :
    oy ∈ (setXR s n ox).xhist m := by
  rw [setXR_xhist]
  split
  · exact List.mem_cons_of_mem _ h
  · exact h

theorem xhist_subset_putXR (s : St) (n : Name) (x : XR) {m : Name} {oy : Option XR} (h : oy ∈ s.xhist m) :
    oy ∈ (putXR s n x).1.xhist m :=
  xhist_subset_setXR { s with nextRv := s.nextRv + 1 } n _ h

theorem putXR_snd_mem (s : St) (n : Name) (x : XR) : some (putXR s n x).2 ∈ (putXR s n x).1.xhist n := by
  rw [putXR_eq_setXR, setXR_xhist, if_pos rfl]
  exact List.mem_cons_self

theorem xrs_setXR_cases {s : St} {n m : Name} {ox : Option XR} {x : XR} (h : (setXR s n ox).xrs m = some x) :
    (m = n ∧ ox = some x) ∨ (m ≠ n ∧ s.xrs m = some x) := by
  rw [setXR_xrs] at h
  split at h
  · next e => exact Or.inl ⟨e, h⟩
  · next e => exact Or.inr ⟨e, h⟩

theorem delState_cases (s : St) (n : Name) (x x1 : XR) :
    delState s n x x1 = s ∨ delState s n x x1 = setXR s n (some x1) ∨
      delState s n x x1 = (putXR s n { x1 with deleting := true }).1 ∨ delState s n x x1 = setXR s n none := by
  unfold delState
  cases x1.fin <;> cases x1.deleting
  · exact Or.inr (Or.inr (Or.inr rfl))
  · exact Or.inr (Or.inr (Or.inr rfl))
  · exact Or.inr (Or.inr (Or.inl rfl))
  · by_cases h : x1 = x
    · exact Or.inl (by rw [if_pos h]; rfl)
    · exact Or.inr (Or.inl (by rw [if_neg h]; rfl))

/-- the claimRef a request writes, if any -/
def reqCref : Req → Option CRef
  | .createXR _ _ c | .patchXR _ _ c | .applyXR _ c => some c
  | _ => none

/-- the accepted XR writes other than Delete: request, name, state stored (before it is stamped), ghost event -/
inductive XRWrite (s : St) : Req → Name → XR → Ev → Prop where
  | upgradeXR (n : Name) (d : UpDec) (x : XR) : s.xrs n = some x →
      XRWrite s (.upgradeXR n x.rv d) n { x with mf := (applyUpDec d x.mf).getD x.mf } (.xrWriteG n x.cref)
  | createXR (n : Name) (cref : CRef) : s.xrs n = none →
      XRWrite s (.createXR n false cref) n (newXR cref csaManager) (.create n)
  | patchXR (n : Name) (cref : CRef) (x : XR) : s.xrs n = some x →
      XRWrite s (.patchXR n none cref) n (bindXR cref x) (.xrWrite n x.cref)
  | patchXRG (n : Name) (cref : CRef) (x : XR) : s.xrs n = some x →
      XRWrite s (.patchXR n (some x.rv) cref) n (bindXR cref x) (.xrWriteG n x.cref)
  | applyCreate (n : Name) (cref : CRef) : s.xrs n = none →
      XRWrite s (.applyXR n cref) n (newXR cref ssaManager) (.create n)
  | applyXR (n : Name) (cref : CRef) (x : XR) : s.xrs n = some x →
      XRWrite s (.applyXR n cref) n (applyBindXR cref x) (.xrWrite n x.cref)

theorem XRWrite.cref {s : St} {r : Req} {n : Name} {x' : XR} {e : Ev} (h : XRWrite s r n x' e) :
    (∃ x, s.xrs n = some x ∧ x'.cref = x.cref) ∨ ∃ c, reqCref r = some c ∧ x'.cref = some c := by
  cases h with
  | upgradeXR n d x hx => exact Or.inl ⟨x, hx, rfl⟩
  | createXR | patchXR | patchXRG | applyCreate | applyXR => exact Or.inr ⟨_, rfl, rfl⟩

/-- `exec` as a relation: the store after the call and the reply. `reject`: the server's own refusals are among the
error replies of `Step.callErr`. -/
inductive Eff (s : St) : Req → St → Resp → Prop where
  | reject (r : Req) (e : Err) : admissible r e = true → Eff s r s (.err e)
  | getClaim (pick : Option Nat) (c : Claim) : pick.bind (fun i => s.hist[i]?) = some c ∨ s.claim = some c →
      Eff s (.getClaim pick) s (.claim c)
  | getXR (n : Name) (sel : Option (List (Option XR) → Option (Option XR))) (ox : Option XR) :
      ox ∈ (s.xhist n).drop 1 ∨ ox = s.xrs n →
      Eff s (.getXR n sel) s (match ox with | some x => .xr x | none => .err .notFound)
  | updClaim (c cur : Claim) : s.claim = some cur → c.rv = cur.rv →
      Eff s (.updClaim c)
        (pushClaim { s with trace := ackOf c ++ s.trace } { c with deleting := cur.deleting, fg := cur.fg, id := cur.id }).1
        (.claim (pushClaim { s with trace := ackOf c ++ s.trace } { c with deleting := cur.deleting, fg := cur.fg, id := cur.id }).2)
  | updClaimStatus (cur : Claim) : s.claim = some cur →
      Eff s (.updClaimStatus cur.rv) (pushClaim s cur).1 (.claim (pushClaim s cur).2)
  | deleteXR (n : Name) (fg : Bool) (x x1 : XR) : s.xrs n = some x → x1.cref = x.cref → x1.rv = x.rv →
      Eff s (.deleteXR n fg) (emit (delState s n x x1) (.xrWrite n x.cref)) .ok
  | write (r : Req) (n : Name) (x' : XR) (e : Ev) : XRWrite s r n x' e →
      Eff s r (emit (putXR s n x').1 e) (.xr (putXR s n x').2)

/-- `h`: the choice of the cache in `exec s (.getXR n _)` -/
theorem cache_pick {s : St} {n : Name} {o : Option (Option XR)} {ox : Option XR}
    (h : (match o with
          | some ox => if ox ∈ (s.xhist n).drop 1 then ox else s.xrs n
          | none => s.xrs n) = ox) : ox ∈ (s.xhist n).drop 1 ∨ ox = s.xrs n := by
  subst h
  split
  · split
    · exact .inl ‹_›
    · exact .inr rfl
  · exact .inr rfl

theorem exec_eff (s : St) (r : Req) : Eff s r (exec s r).1 (exec s r).2 := by
  fun_cases exec s r with
  | case1 pick c h => exact .getClaim pick c (.inl h)                      -- the cache serves version `pick`
  | case2 pick _ c h => exact .getClaim pick c (.inr h)                    -- the stored claim
  | case4 n sel x h => exact .getXR n sel (some x) (cache_pick h)
  | case5 n sel h => exact .getXR n sel none (cache_pick h)
  | case8 c cur hc hrv => exact .updClaim c cur hc (Decidable.of_not_not hrv)
  | case11 rv cur hc hrv => cases Decidable.of_not_not hrv; exact .updClaimStatus cur hc
  | case15 n rv d x hx _ hrv => cases Decidable.of_not_not hrv; exact .write _ _ _ _ (.upgradeXR n d x hx)
  | case17 n fg x hx => exact .deleteXR n fg x _ hx (by cases fg <;> rfl) (by cases fg <;> rfl)
  | case20 n rvSet cref hx h =>                                            -- Create of an absent XR
    cases rvSet with
    | true => exact absurd rfl h
    | false => exact .write _ _ _ _ (.createXR n cref hx)
  | case23 n rv cref x hx h =>                                             -- the merge patch, its rv (if any) is the stored one
    cases rv with
    | none => exact .write _ _ _ _ (.patchXR n cref x hx)
    | some v =>
      cases (bne_eq_false_iff_eq.mp ((Bool.not_eq_true _).mp h) : v = x.rv)
      exact .write _ _ _ _ (.patchXRG n cref x hx)
  | case24 n cref hx => exact .write _ _ _ _ (.applyCreate n cref hx)
  | case25 n cref x hx => exact .write _ _ _ _ (.applyXR n cref x hx)
  | _ => exact .reject _ _ rfl                                             -- the thirteen refusals

/-- what no call touches: the identity of the claim, the kind of world, the other claims -/
def SameWorld (s s' : St) : Prop := s'.me = s.me ∧ s'.peers = s.peers ∧ s'.others = s.others

theorem setXR_sameWorld (s : St) (n : Name) (ox : Option XR) : SameWorld s (setXR s n ox) := ⟨rfl, rfl, rfl⟩

theorem putXR_sameWorld (s : St) (n : Name) (x : XR) : SameWorld s (putXR s n x).1 := ⟨rfl, rfl, rfl⟩

theorem delState_sameWorld (s : St) (n : Name) (x x1 : XR) : SameWorld s (delState s n x x1) := by
  rcases delState_cases s n x x1 with e | e | e | e <;> rw [e]
  · exact ⟨rfl, rfl, rfl⟩
  · exact setXR_sameWorld s n _
  · exact putXR_sameWorld s n _
  · exact setXR_sameWorld s n _

theorem delState_trace (s : St) (n : Name) (x x1 : XR) : (delState s n x x1).trace = s.trace := by
  rcases delState_cases s n x x1 with e | e | e | e <;> rw [e] <;> rfl

theorem Eff.sameWorld {s s' : St} {r : Req} {resp : Resp} (h : Eff s r s' resp) : SameWorld s s' := by
  cases h with
  | reject | getClaim | getXR | updClaim | updClaimStatus => exact ⟨rfl, rfl, rfl⟩
  | deleteXR n fg x x1 => exact delState_sameWorld s n x x1
  | write r n x' e => exact putXR_sameWorld s n x'

theorem exec_me_peers (s : St) (r : Req) : (exec s r).1.me = s.me ∧ (exec s r).1.peers = s.peers :=
  ⟨(exec_eff s r).sameWorld.1, (exec_eff s r).sameWorld.2.1⟩

theorem exec_others (s : St) (r : Req) : (exec s r).1.others = s.others := (exec_eff s r).sameWorld.2.2

end Xp.C06
