import Xp.Proofs.C07CSA
/-
C07 histories: what a step does to the configuration last applied (`step_prev`, a `PrevFrom`: only a server-side
sync changes it, to the body it applies); the invariant of every history the API server admits (`Inv`: the claim
never carries XR-only machinery at top level; that configuration never mentions a key the XR side owns) is kept by
every step, and so is `PrevClean`; `run_induction`.
-/
namespace Xp.C07
open Xp

theorem dropNullSpec_valid (o : KObj) (h : ClaimValid o.specFields) : ClaimValid (dropNullSpec o).specFields := by
  unfold dropNullSpec
  split
  · rename_i fs hs
    intro k hk
    have := h k hk
    simp only [KObj.specFields, hs, objFields] at this ⊢
    exact alookup_filter_none _ k fs this
  · exact h

theorem syncSSA_valid (c : Cfg) (gen : String) (s : St) (h : ClaimValid s.cm.specFields) :
    ClaimValid (syncSSA c gen s).st.cm.specFields := by
  cases hs : s.cm.spec with
  | none => unfold syncSSA; rw [hs]; exact h
  | some v =>
    cases v with
    | obj cs =>
      have hv : ClaimValid cs := specFields_eq hs ▸ h
      intro k hk
      have hk' : alookup k (syncSSA c gen s).st.cm.specFields =
          alookup k (ssaClaim c (ssaPatch c gen s.cm s.xr cs).name s.cm s.xr cs).specFields := by
        simp only [syncSSA_cm c gen s cs hs]
        split <;> rfl
      rw [hk', ssaClaim_spec]
      rcases owner_xrOnly hk with rfl | rfl <;> simpa using hv _ hk
    | _ => unfold syncSSA; rw [hs]; exact h

theorem syncCSA_valid (c : Cfg) (gen : String) (s : St) (h : ClaimValid s.cm.specFields) :
    ClaimValid (syncCSA c gen s).st.cm.specFields := by
  cases hs : s.cm.spec with
  | none => unfold syncCSA; rw [hs]; exact h
  | some v =>
    cases v with
    | obj cs =>
      obtain ⟨w, -, e⟩ := syncCSA_cases c gen s cs hs _ _ rfl rfl
      have hv1 : ClaimValid (csaBound c gen s cs).specFields := fun k hk => by
        rw [(csaBound_spec c gen s cs hs).2 k fun e => by rw [e, owner_resourceRef] at hk; cases hk]
        exact specFields_eq hs ▸ h k hk
      rw [e]
      split
      · exact hv1
      · intro k hk
        rw [csaLast_specFields, alookup_csaClaimSpec_filtered _ _ k (Or.inl hk)]
        exact hv1 k hk
    | _ => unfold syncCSA; rw [hs]; exact h

theorem applyDelta_valid (o : KObj) (d : Delta) (h : ClaimValid o.specFields)
    (hd : ∀ k, owner k = .xrOnly → alookup k d.setSpec = none) : ClaimValid (applyDelta o d).specFields := by
  intro k hk
  unfold applyDelta
  simp only [KObj.specFields]
  split
  · exact h k hk
  · simp only [objFields]
    rw [alookup_addAll_none k _ _ (hd k hk)]
    exact alookup_eraseAll_none k _ _ (h k hk)

theorem step_prev (c : Cfg) (s : St) (op : Op) :
    PrevFrom (fun wr => ∃ gen cs, s.cm.spec = some (.obj cs) ∧ wr = .xrApply (ssaPatch c gen s.cm s.xr cs))
      s.prev (step c s op).st.prev := by
  cases op with
  | syncSSA gen =>
    show PrevFrom _ s.prev (syncSSA c gen s).st.prev
    cases hs : s.cm.spec with
    | none => left; unfold syncSSA; rw [hs]
    | some v =>
      cases v with
      | obj cs => exact .inr (.inr ⟨.xrApply _, ⟨gen, cs, rfl, rfl⟩, rfl, syncSSA_prev c gen s cs hs⟩)
      | _ => left; unfold syncSSA; rw [hs]
  | syncCSA gen =>
    left
    show (syncCSA c gen s).st.prev = s.prev
    cases hs : s.cm.spec with
    | none => unfold syncCSA; rw [hs]
    | some v =>
      cases v with
      | obj cs => exact (syncCSA_st c gen s cs hs).2
      | _ => unfold syncCSA; rw [hs]
  | editClaim d => exact .inl rfl
  | xrCtl d => exact .inl rfl
  | upgrade => exact .inl rfl

theorem inv_step (c : Cfg) (s : St) (op : Op) (h : Inv s) (hv : ValidOp op) : Inv (step c s op).st := by
  refine ⟨?_, (step_prev c s op).keeps (fun wr ⟨gen, cs, hs, e⟩ _ k hk => ?_) h.2⟩
  · cases op with
    | syncSSA gen => exact dropNullSpec_valid _ (syncSSA_valid c gen s h.1)
    | syncCSA gen => exact dropNullSpec_valid _ (syncCSA_valid c gen s h.1)
    | editClaim d => exact applyDelta_valid s.cm d h.1 hv
    | xrCtl d => exact h.1
    | upgrade => exact h.1
  · have hv' : ClaimValid cs := specFields_eq hs ▸ h.1
    subst e
    exact specToXR_not_owned c s.cm _ hv' hk

theorem step_prevClean (c : Cfg) (s : St) (op : Op) (h : PrevClean s.prev) : PrevClean (step c s op).st.prev :=
  (step_prev c s op).keeps (fun _ ⟨gen, cs, _, e⟩ _ k hk =>
    e ▸ ⟨ssaPatch_reserved_labels c gen s.cm s.xr cs k hk, ssaPatch_reserved_anns c gen s.cm s.xr cs k hk⟩) h

theorem run_induction (c : Cfg) (P : St → Prop) (V : Op → Prop)
    (hstep : ∀ s op, V op → P s → P (step c s op).st) :
    ∀ ops s, P s → (∀ op ∈ ops, V op) → P (run c s ops) := by
  intro ops
  induction ops with
  | nil => intro s h _; exact h
  | cons op rest ih =>
    intro s h hv
    exact ih _ (hstep s op (hv op List.mem_cons_self) h) fun o ho => hv o (List.mem_cons_of_mem _ ho)

end Xp.C07
