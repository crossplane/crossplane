import Xp.Model.C15Tee
import Xp.Model.C15Split
/-
The package stream between the registry and the parser: which layer and which tarball entry `ImageBackend.Init` selects,
what `teeReadCloser` hands on once a read has failed and up to a clean EOF, and how `chunks` (the YAML reader) cuts a
stream into documents.
-/
namespace Xp.C15

def Layer.isBase (l : Layer) : Bool := l.ann == .base

theorem scanBase_spec (ls : List Layer) (sel : Option Layer) :
    scanBase ls sel =
      (match sel.toList ++ ls.filter Layer.isBase with
       | [] => some none
       | [l] => some (some l)
       | _ => none) := by
  induction ls generalizing sel with
  | nil => cases sel <;> simp [scanBase]
  | cons l ls ih =>
    unfold scanBase
    by_cases hb : l.ann = .base
    · have hb' : l.isBase = true := by simp [Layer.isBase, hb]
      cases sel with
      | none =>
        simpa [hb, hb'] using ih (some l)
      | some s =>
        simp [hb, hb']
    · have hb' : l.isBase = false := by simp [Layer.isBase, hb]
      simpa [hb, hb'] using ih sel

theorem tarFind_eq (es : List (String × List Doc)) : tarFind es = (es.find? (·.1 == streamFile)).map (·.2) := by
  induction es with
  | nil => rfl
  | cons e es ih =>
    rw [tarFind, List.find?_cons]
    cases e.1 == streamFile with
    | true => rfl
    | false => exact ih

theorem reads_succ (s : Bool) (n : Nat) (t : Tee) :
    Tee.reads s (n + 1) t = ((t.read s).1 :: (Tee.reads s n (t.read s).2).1, (Tee.reads s n (t.read s).2).2) := rfl

theorem read_of_err (t : Tee) (e : RRes) (h : t.err = some e) : t.read true = (([], e), t) := by
  simp [Tee.read, h]

theorem reads_of_err (t : Tee) (e : RRes) (h : t.err = some e) (n : Nat) :
    (Tee.reads true n t).2 = t ∧ ∀ r ∈ (Tee.reads true n t).1, r = ([], e) := by
  induction n with
  | zero => simp [Tee.reads]
  | succ n ih =>
    rw [reads_succ, read_of_err t e h]
    refine ⟨ih.1, ?_⟩
    intro r hr
    simp only [List.mem_cons] at hr
    rcases hr with rfl | hr
    · rfl
    · exact ih.2 r hr

theorem read_cases (t : Tee) (h : t.err = none) :
    ((t.read true).1.2.isErr = false ∧ (t.read true).2.err = none ∧
      (t.read true).1.1 = srcBytes (t.src.take 1) ∧ (t.read true).2.src = t.src.drop 1 ∧
      ∀ e ∈ t.src.take 1, e.res.isErr = false) ∨
    ((t.read true).1.2.isErr = true ∧ (t.read true).2.err = some (t.read true).1.2) := by
  unfold Tee.read
  simp only [h, if_true]
  cases hs : t.src with
  | nil =>
    left
    simp [RRes.isErr, h, srcBytes, hs]
  | cons ev rest =>
    simp only
    split
    · right
      simp [RRes.isErr]
    · cases he : ev.res.isErr with
      | false =>
        left
        simp [he, srcBytes]
      | true =>
        right
        simp

theorem read_out (s : Bool) (t : Tee) : (t.read s).2.out = t.out ++ (t.read s).1.1 := by
  unfold Tee.read
  split
  · simp
  · split
    · simp
    · split <;> simp

theorem reads_eof (k : Nat) (t : Tee) (h : t.err = none) (d : List Nat)
    (hl : (Tee.reads true (k + 1) t).1.getLast? = some (d, .eof)) :
    seenBytes (Tee.reads true (k + 1) t).1 = srcBytes (t.src.take (k + 1)) ∧
    (∀ e ∈ t.src.take (k + 1), e.res.isErr = false) := by
  induction k generalizing t with
  | zero =>
    rw [reads_succ] at hl ⊢
    simp only [Tee.reads, List.getLast?_singleton, Option.some.injEq] at hl
    rcases read_cases t h with ⟨_, _, h1, _, h3⟩ | ⟨hc, _⟩
    · exact ⟨by simp [seenBytes, Tee.reads, h1], h3⟩
    · rw [hl] at hc
      cases hc
  | succ k ih =>
    rw [reads_succ] at hl ⊢
    have hne : (Tee.reads true (k + 1) (t.read true).2).1 ≠ [] := by
      rw [reads_succ]
      simp
    rw [List.getLast?_cons_of_ne_nil hne] at hl
    rcases read_cases t h with ⟨_, he, h1, h2, h3⟩ | ⟨hc, he⟩
    · obtain ⟨i1, i2⟩ := ih (t.read true).2 he hl
      rw [h2] at i1 i2
      rw [Nat.add_comm (k + 1) 1, List.take_add]
      constructor
      · simp only [seenBytes, List.flatMap_cons] at i1 ⊢
        rw [i1, h1]
        simp [srcBytes]
      · intro e hm
        rcases List.mem_append.mp hm with hm | hm
        · exact h3 e hm
        · exact i2 e hm
    · -- the first read reported an error: every later read reports the same one, never EOF
      exfalso
      obtain ⟨_, hall⟩ := reads_of_err _ _ he (k + 1)
      have := hall _ (List.mem_of_getLast? hl)
      rw [← (Prod.mk.inj this).2] at hc
      cases hc

def Line.isSep : Line → Bool
  | .sep _ | .badsep => true
  | _ => false

theorem chunks_nosep_append (a rest acc : List Line) (h : ∀ l ∈ a, l.isSep = false) :
    chunks (a ++ rest) acc = chunks rest (acc ++ a) := by
  induction a generalizing acc with
  | nil => simp
  | cons l a ih =>
    have hl := h l (by simp)
    have ih' := ih (acc ++ [l]) (fun x hx => h x (by simp [hx]))
    cases l with
    | sep p => simp [Line.isSep] at hl
    | badsep => simp [Line.isSep] at hl
    | _ =>
      simp only [List.cons_append, chunks]
      rw [ih']
      simp

theorem chunks_at_sep (a b acc : List Line) (p : Bool) (h : ∀ l ∈ a, l.isSep = false) (hne : acc ++ a ≠ []) :
    chunks (a ++ .sep p :: b) acc = (chunks b []).map ((acc ++ a) :: ·) := by
  rw [chunks_nosep_append a _ acc h]
  have : (acc ++ a).isEmpty = false := by
    cases hx : acc ++ a with
    | nil => exact absurd hx hne
    | cons _ _ => rfl
  simp [chunks, this]

theorem docs_nosep (tbl : List Doc) (ls : List Line) (h : ∀ l ∈ ls, l.isSep = false) :
    docsOfLines tbl ls = some (if chunkEmpty ls then [] else [docOfChunk tbl ls]) := by
  have := chunks_nosep_append ls [] [] h
  simp only [List.append_nil, List.nil_append] at this
  unfold docsOfLines
  rw [this]
  cases ls with
  | nil => rfl
  | cons l ls => cases hc : chunkEmpty (l :: ls) <;> simp [chunks, hc]

section
variable {cs : List Line} (h : ∀ l ∈ cs, l = .comment ∨ l = .blank)
include h

theorem blank_noSep : ∀ l ∈ cs, l.isSep = false := by
  intro l hl
  rcases h l hl with rfl | rfl <;> rfl

theorem blank_chunkEmpty : chunkEmpty cs = true := by
  simp only [chunkEmpty, List.all_eq_true]
  intro l hl
  rcases h l hl with rfl | rfl <;> rfl

end

theorem docOfChunk_one (tbl : List Doc) (c : List Line) (i : Nat)
    (hc : ∀ l ∈ c, l = .comment ∨ l = .blank ∨ l = .body i) (hb : Line.body i ∈ c) :
    chunkEmpty c = false ∧ docOfChunk tbl c = (tbl[i]?).getD .bad := by
  constructor
  · cases hx : chunkEmpty c
    · rfl
    · simp only [chunkEmpty, List.all_eq_true] at hx
      have := hx _ hb
      simp [lineEmpty] at this
  · have hall : ∀ j ∈ c.filterMap bodyIdx, j = i := by
      intro j hj
      obtain ⟨l, hl, hb⟩ := List.mem_filterMap.mp hj
      rcases hc l hl with rfl | rfl | rfl
      · cases hb
      · cases hb
      · exact (Option.some.inj hb).symm
    have hmem : i ∈ c.filterMap bodyIdx := by
      simp only [List.mem_filterMap]
      exact ⟨_, hb, rfl⟩
    unfold docOfChunk
    cases hf : c.filterMap bodyIdx with
    | nil =>
      rw [hf] at hmem
      cases hmem
    | cons j js =>
      rw [hf] at hall
      have hj : j = i := hall j (by simp)
      subst hj
      have : js.all (· == j) = true := by
        simp only [List.all_eq_true, beq_iff_eq]
        intro x hx
        exact hall x (by simp [hx])
      simp [this]

end Xp.C15
