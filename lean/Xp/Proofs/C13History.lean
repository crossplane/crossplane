import Xp.Proofs.C13Ctl
import Xp.Proofs.C13Next
/-
C13: the IsRunning clause. `runningPer` reads from the ghost log whether a controller runs;
`RunInv` (the map `e.controllers` agrees with it, and so did every logged IsRunning answer) holds in
every reachable state of both code variants.
-/
namespace Xp.C13

/-- is `n` running according to the acknowledged Start/Stop events (log is newest first) -/
def runningPer : List Ev → Nat → Bool
  | [], _ => false
  | .startOk n' _ :: rest, n => if n' = n then true else runningPer rest n
  | .stopOk n' _ :: rest, n => if n' = n then false else runningPer rest n
  | .isRunning _ _ :: rest, n => runningPer rest n

/-- every recorded IsRunning answer agrees with the events before it -/
def LogOk : List Ev → Prop
  | [] => True
  | .isRunning n b :: rest => b = runningPer rest n ∧ LogOk rest
  | .startOk _ _ :: rest => LogOk rest
  | .stopOk _ _ :: rest => LogOk rest

/-- `e.controllers` has a name exactly if the acknowledged Start/Stop events say it runs, and every
IsRunning answer in the log was right when it was given -/
structure RunInv (s : Sys) : Prop where
  map : ∀ n : Nat, (aget n s.ctrls).isSome = runningPer s.log n
  log : LogOk s.log

theorem RunInv_init (ops : List Op) : RunInv (init ops) :=
  ⟨fun _ => rfl, trivial⟩

theorem RunInv_step {cfg : Cfg} {s s' : Sys} {i : Nat} {ch : Choice} (hinv : RunInv s)
    (h : step cfg s i ch = some s') : RunInv s' := by
  obtain ⟨t, pc', act, ht, hn, hs⟩ := step_unpack h
  subst hs
  cases act
  case nop | addReg | delReg | rmInformer => exact ⟨hinv.map, hinv.log⟩
  case getInformer g f =>
    obtain ⟨_, _, _, e⟩ := apply_getInformer g f s
    simp only [e]
    exact ⟨hinv.map, hinv.log⟩
  case logEv e =>
    obtain ⟨n, _, _, he⟩ := act_at hn
    subst he
    refine ⟨?_, ?_⟩
    · intro m; simp only [Act.apply, runningPer]; exact hinv.map m
    · simp only [Act.apply, LogOk]; exact ⟨hinv.map n, hinv.log⟩
  case newCtl n =>
    refine ⟨?_, ?_⟩
    · intro m
      simp only [Act.apply, runningPer, aget_cons]
      by_cases e : n = m
      · simp [e]
      · simp only [e, if_false]; exact hinv.map m
    · simp only [Act.apply, LogOk]; exact hinv.log
  case finishStop n cid =>
    refine ⟨?_, ?_⟩
    · intro m
      simp only [Act.apply, runningPer]
      by_cases e : n = m
      · subst e; simp [aget_adel_self]
      · simp only [e, if_false]; rw [aget_adel_ne e]; exact hinv.map m
    · simp only [Act.apply, LogOk]; exact hinv.log

theorem RunInv_reachable {cfg : Cfg} {ops : List Op} {s : Sys} (h : Reachable cfg ops s) : RunInv s := by
  induction h with
  | init => exact RunInv_init ops
  | step i ch _ hs ih => exact RunInv_step ih hs

theorem LogOk_split {pre post : List Ev} {n : Nat} {b : Bool}
    (h : LogOk (pre ++ .isRunning n b :: post)) : b = runningPer post n := by
  induction pre with
  | nil => exact h.1
  | cons e pre ih =>
    cases e with
    | startOk a c => exact ih h
    | stopOk a c => exact ih h
    | isRunning a c => exact ih h.2

end Xp.C13
