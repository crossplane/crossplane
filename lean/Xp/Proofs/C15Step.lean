import Xp.Model.C15
/-
One revision reconcile.  It reads the cache at one path – the revision's lookup id – and then does one thing to it:
nothing, or one file replaced or removed (`Write`).  `FetchOutcome` and `RecOutcome` list what `fetch` and `recStep` can
return, given the entry found under the lookup id: the write, and with it the parser's result, resp. the revision object
and the outcome.  `fetch_local` and `recStep_local` prove this of the model, for all caches that hold that entry at once;
what the property theorems need of a single reconcile – what must have held when `Establish` ran (`Reached`), what a
reconcile can do to the conditions and the references (`Quiet`) and to the cache (`Puts`) – is read off `RecOutcome`.
-/
namespace Xp.C15

variable (fixed feature : Bool) (r : Rev) (f : Faults) (st : RevSt) (p : Pkg) (e : Option Entry)

theorem updO_ok (h : f.updO = .ok) : f.stale = false ∧ f.upd = .ok := by
  unfold Faults.updO at h
  cases hu : f.upd with
  | ok =>
    rw [hu] at h
    cases hs : f.stale with
    | false => exact ⟨rfl, rfl⟩
    | true =>
      rw [hs] at h
      cases h
  | conflict =>
    rw [hu] at h
    cases h
  | err =>
    rw [hu] at h
    cases h

theorem finO_stale (hs : f.stale = true) : f.finO ≠ .ok := by
  unfold Faults.finO
  cases f.fin with
  | ok => simp [hs]
  | conflict => exact nofun
  | notFound => exact nofun
  | err => exact nofun

theorem statO_false (h : f.statO = false) : f.stat = false ∧ f.env = .none := by
  simp only [Faults.statO, Faults.stale, Bool.or_eq_false_iff] at h
  exact ⟨h.2, by simpa using h.1⟩

/-- What a reconcile leaves on the revision object when it does not complete an `Establish`: the object as it
was, or – when the status update lands – a condition other than Healthy. -/
inductive Marked : RevSt → Prop
  | same : Marked st
  | cond (x : Health) (hx : x ≠ .healthy) (hs : f.statO = false) : Marked { st with health := x }

theorem Marked.of_setHealth {x : Health} (hx : x ≠ .healthy := by decide) : Marked f st (setHealth f st x) :=
  iteInduction (fun _ => .same) fun h => .cond x hx (Bool.eq_false_iff.mpr h)

section
variable {f st} {st' : RevSt} (h : Marked f st st')
include h

theorem Marked.recorded : (st'.health = .healthy → st.health = .healthy) ∧ st'.refs = st.refs := by
  cases h with
  | same => exact ⟨id, rfl⟩
  | cond x hx _ => exact ⟨fun hh => absurd hh hx, rfl⟩

theorem Marked.stale (hs : f.stale = true) : st' = st := by
  cases h with
  | same => rfl
  | cond x _ hst => simp [Faults.statO, hs] at hst

end

/-- What a reconcile does to the cache: nothing, or the file at one path replaced (`none`: removed). -/
inductive Write where
  | keep
  | set (k : String) (x : Option Entry)

def Write.on : Write → Cache → Cache
  | .keep, c => c
  | .set k x, c => c.set k x

theorem set_apply (c : Cache) (k k' : String) (x : Option Entry) : (c.set k x) k' = if k' = k then x else c k' := by
  cases x <;> rfl

theorem Write.on_comm {w w' : Write} (h : ∀ k x x', w = .set k x → w' ≠ .set k x') (c : Cache) (k : String) :
    (w'.on (w.on c)) k = (w.on (w'.on c)) k := by
  cases w with
  | keep => rfl
  | set k₁ x₁ =>
  cases w' with
  | keep => rfl
  | set k₂ x₂ =>
    have hne : k₁ ≠ k₂ := fun hk => h k₁ x₁ x₂ rfl (by rw [hk])
    simp only [Write.on, set_apply]
    by_cases h1 : k = k₁
    · subst h1
      simp only [hne, ↓reduceIte]
    · simp only [h1, ↓reduceIte]

section
variable {α : Type} (R : Write → α → Prop)

/-- `F` reads the cache only under `r`'s lookup id: from every cache that holds `e` there it makes the same write `w`
and returns the same `x`, a pair that `R` admits.  (The motive under which `fetch` and `recStep` are taken apart.) -/
def Local (F : Cache → Cache × α) : Prop := ∃ w x, R w x ∧ ∀ c, c r.id = e → F c = (w.on c, x)

variable {r e R}

theorem Local.keep {x : α} (h : R .keep x) : Local r e R fun c => (c, x) := ⟨_, _, h, fun _ _ => rfl⟩

theorem Local.set {k : String} {v : Option Entry} {x : α} (h : R (.set k v) x) : Local r e R fun c => (c.set k v, x) :=
  ⟨_, _, h, fun _ _ => rfl⟩

theorem Local.congr {F G : Cache → Cache × α} (h : ∀ c, c r.id = e → F c = G c) (hG : Local r e R G) : Local r e R F :=
  hG.imp fun _ h' => h'.imp fun _ h' => ⟨h'.1, fun c hc => (h c hc).trans (h'.2 c hc)⟩

theorem Local.ite {p : Prop} [Decidable p] {A B : Cache → Cache × α} (hp : p → Local r e R A) (hn : ¬p → Local r e R B) :
    Local r e R fun c => if p then A c else B c := by
  by_cases h : p
  · simpa only [if_pos h] using hp h
  · simpa only [if_neg h] using hn h

end

/-- The results of `fetch` from a cache that holds `e` under the revision's lookup id: it returns before parsing,
leaving the cache alone or removing the entry it could not open; the parser runs on what the cache holds; or the image is
pulled, which leaves `storedEntry` under the revision's name. -/
inductive FetchOutcome : Write → Fetch → Prop
  | stopped {res : String} {u : Bool} : FetchOutcome .keep (.stop res u)
  | dropped {x : Entry} {res : String} {u : Bool} (he : e = some x) : FetchOutcome (.set r.id none) (.stop res u)
  | content {ds : List Doc} {q : Option Pkg} (he : e = some (.content ds)) (hq : parse ds = q) : FetchOutcome .keep (.parsed q)
  | broken {b : Bool} (he : e = some (.broken b)) : FetchOutcome .keep (.parsed none)
  | pulled {q : Option Pkg} (he : e = none) (hn : r.never = false) (hi : r.imgOk = true) (hq : pulled fixed r f = q) :
      FetchOutcome (.set r.key (storedEntry fixed r f)) (.parsed q)

theorem fetch_local : ∃ w x, FetchOutcome fixed r f e w x ∧ ∀ c, c r.id = e → fetch fixed r f c = (w.on c, x) := by
  show Local r e _ (fetch fixed r f)
  cases e with
  | some x =>
    -- `congr` puts `e` for the lookup `c r.id`; the function that is left (`G`) is found by the `rfl` closing `rw`
    refine .congr (fun c hc => by rw [fetch, hc]) (.ite (fun _ => ?_) fun _ => ?_)
    · cases f.del with
      | true => exact .keep .stopped
      | false => exact .set (v := none) (.dropped rfl)
    · cases x with
      | content ds => exact .keep (.content rfl rfl)
      | broken b => exact .keep (.broken rfl)
  | none =>
    refine .congr (fun c hc => by rw [fetch, hc]) (.ite (fun _ => .keep .stopped) fun hn =>
      .ite (fun _ => .keep .stopped) fun hi => .set (.pulled rfl (Bool.eq_false_iff.mpr hn) ?_ rfl))
    simpa using (Bool.or_eq_false_iff.mp (Bool.eq_false_iff.mpr hi)).2

/-- What a reconcile of `r` may do to the cache: remove the file at one of its two paths, or – when it pulls – leave under
its name what the pull stored. -/
def Puts (w : Write) : Prop := ∀ k v, w = .set k v →
  ((k = r.key ∨ k = r.id) ∧ v = none) ∨ (k = r.key ∧ r.never = false ∧ v = storedEntry fixed r f)

variable {fixed r f e} in
theorem FetchOutcome.puts {w : Write} {x : Fetch} (h : FetchOutcome fixed r f e w x) : Puts fixed r f w := by
  intro k v hw
  cases h with
  | stopped | content _ _ | broken _ => cases hw
  | dropped _ =>
    cases hw
    exact .inl ⟨.inr rfl, rfl⟩
  | pulled _ hn _ _ =>
    cases hw
    exact .inr ⟨rfl, hn, rfl⟩

variable {fixed r f} in
theorem Puts.path {w : Write} (h : Puts fixed r f w) {k : String} {v : Option Entry} (hw : w = .set k v) :
    k = r.key ∨ k = r.id :=
  (h k v hw).elim And.left fun h => .inl h.1

variable {fixed r f} in
theorem Puts.on_ne {w : Write} (h : Puts fixed r f w) {k : String} (h1 : k ≠ r.key) (h2 : k ≠ r.id) (c : Cache) :
    (w.on c) k = c k := by
  cases w with
  | keep => rfl
  | set k' x => exact (set_apply c k' k x).trans (if_neg fun hk : k = k' => (h.path rfl).elim (hk ▸ h1) (hk ▸ h2))

theorem early_none (h : early f st = none) : f.pullCfg = false ∧ (st.active = false → f.rel = .ok) := by
  unfold early at h
  cases hq : f.pullCfg with
  | true =>
    rw [hq] at h
    cases h
  | false =>
    refine ⟨rfl, fun ha => ?_⟩
    rw [hq, ha] at h
    cases hr : f.rel with
    | ok => rfl
    | conflict | err =>
      rw [hr] at h
      cases h

/-- A reconcile gets past `AddFinalizer`: the read was served, the object exists and is not being deleted, it
is verified where that is asked for, and it carries the finalizer – already, or by an update that went through. -/
structure Admitted : Prop where
  get : f.getE = .ok
  present : st.present = true
  live : st.deleting = false
  verified : feature = true → st.verif.isTrue = true
  finalizer : st.finalizer = true ∨ f.finO = .ok

/-- The revision object after every reconcile but one that establishes and records it (`RecOutcome.done`): marked at
most (`before`: the finalizer is not touched); with the finalizer removed (deletion); `past` `AddFinalizer` and marked at
most; or Healthy by the inactive-with-references shortcut. -/
inductive Quiet : RevSt → Prop
  | before {st' : RevSt} (h : Marked f st st') : Quiet st'
  | removed (h : f.finO = .ok) : Quiet { st with present := false }
  | past {st' : RevSt} (ha : Admitted feature f st) (h : Marked f { st with finalizer := true } st') : Quiet st'
  | shortcut (ha : Admitted feature f st) (hi : st.active = false) (hr : st.refs > 0) (hs : f.statO = false) :
      Quiet { st with finalizer := true, health := .healthy }

section
variable {feature f st} {st' : RevSt}

/-- a stale object carries the finalizer already: `AddFinalizer`'s update would have been rejected -/
theorem Admitted.stale (ha : Admitted feature f st) (hs : f.stale = true) :
    ({ st with finalizer := true } : RevSt) = st := by
  rcases ha.finalizer with h | h
  · cases st
    cases h
    rfl
  · exact absurd h (finO_stale f hs)

variable (h : Quiet feature f st st')
include h

theorem Quiet.verif : st'.verif = st.verif := by
  cases h with
  | before h | past _ h => cases h <;> rfl
  | removed _ | shortcut _ _ _ _ => rfl

theorem Quiet.recorded :
    (st'.health = .healthy → st.health = .healthy ∨ (Admitted feature f st ∧ st.active = false ∧ st.refs > 0)) ∧
    st'.refs = st.refs := by
  cases h with
  | before h | past _ h => exact ⟨fun hh => .inl (h.recorded.1 hh), h.recorded.2⟩
  | removed _ => exact ⟨.inl, rfl⟩
  | shortcut ha hi hr _ => exact ⟨fun _ => .inr ⟨ha, hi, hr⟩, rfl⟩

theorem Quiet.stale (hs : f.stale = true) : st' = st := by
  cases h with
  | before h => exact h.stale hs
  | removed h => exact absurd h (finO_stale f hs)
  | past ha h => exact (h.stale hs).trans (ha.stale hs)
  | shortcut _ _ _ hst => simp [Faults.statO, hs] at hst

end

/-- `Establish` is called with the objects of `p`: everything in front of it went through. -/
structure Reached (w : Write) (p : Pkg) : Prop where
  admitted : Admitted feature f st
  early : early f st = none
  source : FetchOutcome fixed r f e w (.parsed (some p))
  lint : lintS r.ptype p = true
  version : r.ignore = true ∨ compatible p = true
  update : f.updO = .ok
  deps : r.resolve = true → f.dep = .ok

/-- The results of one reconcile of `r` that reads the revision object `st` and finds `e` under the lookup id: the write
to the cache, the revision object and the outcome.  `Establish` is called in `failed` and `done` only. -/
inductive RecOutcome : Write → RevSt × Out → Prop
  | quiet {st' : RevSt} {res : String} (h : Quiet feature f st st') : RecOutcome .keep (st', { res := res })
  | deleted {st' : RevSt} {res : String} (hd : st.deleting = true) (h : Quiet feature f st st') :
      RecOutcome (.set r.key none) (st', { res := res })
  | fetched {w : Write} {x : Fetch} {st' : RevSt} {res : String} (ha : Admitted feature f st)
      (hf : FetchOutcome fixed r f e w x) (h : Quiet feature f st st') : RecOutcome w (st', { res := res })
  | failed {w : Write} {p : Pkg} {st' : RevSt} {res : String} (hr : Reached fixed feature r f st e w p)
      (h : Quiet feature f st st') : RecOutcome w (st', { res := res, est := some p.objs, control := st.active })
  | done {w : Write} {p : Pkg} {res : String} (hr : Reached fixed feature r f st e w p) (hest : f.est = false)
      (hs : f.statO = false) :
      RecOutcome w ({ st with finalizer := true, health := .healthy, refs := p.objs.length },
        { res := res, est := some p.objs, control := st.active })

theorem gates_outcome {w : Write} (ha : Admitted feature f st) (he : early f st = none)
    (hf : FetchOutcome fixed r f e w (.parsed (some p))) :
    RecOutcome fixed feature r f st e w (gates r f { st with finalizer := true } p) := by
  have stop {st' : RevSt} {res : String} (h : Marked f { st with finalizer := true } st') :
      RecOutcome fixed feature r f st e w (st', { res := res }) := .fetched ha hf (.past ha h)
  unfold gates
  -- one `iteInduction` (or `cases`) per gate, in the order of `gates`: lint (`hl`), one meta object, the metadata update
  -- (`hu`), the version gate (`hv`), dependency resolution (`hd`); past these `Reached` holds; then Establish (`he'`), status
  refine iteInduction (fun _ => stop (.of_setHealth f _)) fun hl => ?_
  refine iteInduction (fun _ => stop (.of_setHealth f _)) fun _ => ?_
  cases hu : f.updO with
  | conflict => exact stop .same
  | err => exact stop (.of_setHealth f _)
  | ok =>
  refine iteInduction (fun _ => iteInduction (fun _ => stop .same)
    fun hs => stop (.cond _ (by decide) (Bool.eq_false_iff.mpr hs))) fun hv => ?_
  refine iteInduction (fun _ => iteInduction (fun _ => stop .same) fun _ => stop (.of_setHealth f _)) fun hd => ?_
  have hr : Reached fixed feature r f st e w p := by
    refine ⟨ha, he, hf, by simpa using hl, ?_, hu, ?_⟩
    · cases hi : r.ignore with
      | true => exact .inl rfl
      | false =>
        cases hc : compatible p with
        | true => exact .inr rfl
        | false =>
          rw [hi, hc] at hv
          exact absurd rfl hv
    · intro hr
      cases hdd : f.dep with
      | ok => rfl
      | conflict =>
        rw [hr, hdd] at hd
        exact absurd rfl hd
      | err =>
        rw [hr, hdd] at hd
        exact absurd rfl hd
  have fail {st' : RevSt} {res : String} (h : Marked f { st with finalizer := true } st') :
      RecOutcome fixed feature r f st e w (st', { res := res, est := some p.objs, control := st.active }) :=
    .failed hr (.past ha h)
  refine iteInduction (fun _ => iteInduction (fun _ => fail .same) fun _ => fail (.of_setHealth f _)) fun he' => ?_
  exact iteInduction (fun _ => fail .same)
    fun hs => .done hr (Bool.eq_false_iff.mpr he') (Bool.eq_false_iff.mpr hs)

theorem install_local (ha : Admitted feature f st) (he : early f st = none) :
    Local r e (RecOutcome fixed feature r f st e) fun c => install fixed r f c { st with finalizer := true } := by
  obtain ⟨w, x, hx, hc⟩ := fetch_local fixed r f e
  have hm (u : Bool) : Quiet feature f st
      (if u = true then setHealth f { st with finalizer := true } .unhealthy else { st with finalizer := true }) :=
    .past ha (iteInduction (fun _ => .of_setHealth f _) fun _ => .same)
  refine .congr (fun c hce => by rw [install, hc c hce]) ?_
  cases x with
  | stop res u => exact ⟨w, _, .fetched ha hx (hm u), fun _ _ => rfl⟩
  | parsed q =>
  cases q with
  | none => exact ⟨w, _, .fetched ha hx (hm true), fun _ _ => rfl⟩
  | some p => exact ⟨w, _, gates_outcome fixed feature r f st p e ha he hx, fun _ _ => rfl⟩

theorem recStep_local :
    ∃ w y, RecOutcome fixed feature r f st e w y ∧ ∀ c, c r.id = e → recStep fixed feature r f c st = (w.on c, y) := by
  show Local r e _ fun c => recStep fixed feature r f c st
  unfold recStep
  refine .ite (fun _ => .keep (.quiet (.before .same))) fun hg => ?_
  refine .ite (fun _ => .keep (.quiet (.before .same))) fun hp => ?_
  refine .ite (fun hd => .ite (fun _ => .keep (.quiet (.before .same))) fun _ => ?_) fun hd => ?_
  · cases hfo : f.finO with
    | ok => exact .set (v := none) (.deleted hd (.removed hfo))
    | notFound | conflict | err => exact .set (v := none) (.deleted hd (.before .same))
  refine .ite (fun _ => .ite (fun _ => .ite (fun _ => .keep (.quiet (.before .same)))
    fun hs => .keep (.quiet (.before (.cond _ (by decide) (Bool.eq_false_iff.mpr hs))))) fun _ => .keep (.quiet (.before .same)))
    fun hv => ?_
  cases hw : (if st.finalizer = true then WErr.ok else f.finO) with
  | conflict | notFound | err => exact .keep (.quiet (.before .same))
  | ok =>
  have ha : Admitted feature f st := by
    refine ⟨?_, ?_, Bool.eq_false_iff.mpr hd, ?_, ?_⟩
    · cases hge : f.getE with
      | ok => rfl
      | miss =>
        rw [hge] at hp
        exact absurd (by simp) hp
      | err =>
        rw [hge] at hg
        exact absurd rfl hg
    · simpa using (Bool.or_eq_false_iff.mp (Bool.eq_false_iff.mpr hp)).1
    · intro hf
      subst hf
      simpa using hv
    · split at hw
      · next h => exact .inl h
      · exact .inr hw
  cases he : early f st with
  | some x => exact .keep (.quiet (.past ha (iteInduction (fun _ => .of_setHealth f _) fun _ => .same)))
  | none =>
  refine .ite (fun hsc => .ite (fun _ => .keep (.quiet (.past ha .same))) fun hs => ?_)
    fun _ => install_local fixed feature r f st e ha he
  have hsc' := Bool.and_eq_true_iff.mp hsc
  exact .keep (.quiet (.shortcut ha (by simpa using hsc'.1) (by simpa using hsc'.2) (Bool.eq_false_iff.mpr hs)))

section
variable {fixed feature r f st e} {w : Write} {y : RevSt × Out} (h : RecOutcome fixed feature r f st e w y)
include h

theorem RecOutcome.est (hne : y.2.est ≠ none) : ∃ p, Reached fixed feature r f st e w p ∧ y.2.est = some p.objs := by
  cases h with
  | quiet _ | deleted _ _ | fetched _ _ _ => exact absurd rfl hne
  | failed hr _ | done hr _ _ => exact ⟨_, hr, rfl⟩

theorem RecOutcome.verif : y.1.verif = st.verif := by
  cases h with
  | quiet h | deleted _ h | fetched _ _ h | failed _ h => exact h.verif
  | done _ _ _ => rfl

theorem RecOutcome.stale (hs : f.stale = true) : y.2.est = none ∧ y.1 = st := by
  cases h with
  | quiet h | deleted _ h | fetched _ _ h => exact ⟨rfl, h.stale hs⟩
  | failed hr _ | done hr _ _ =>
    -- the metadata update of a stale object is rejected
    rw [(updO_ok f hr.update).1] at hs
    cases hs

theorem RecOutcome.recorded : (y.2.est ≠ none ∧ f.est = false ∧ f.stat = false ∧ f.env = .none) ∨
    ((y.1.health = .healthy → st.health = .healthy ∨ (st.active = false ∧ st.refs > 0)) ∧ y.1.refs = st.refs) := by
  cases h with
  | quiet h | deleted _ h | fetched _ _ h | failed _ h =>
    exact .inr ⟨fun hh => (h.recorded.1 hh).imp_right And.right, h.recorded.2⟩
  | done _ he hs => exact .inl ⟨Option.some_ne_none _, he, statO_false f hs⟩

theorem RecOutcome.unadmitted (hn : ¬Admitted feature f st) :
    y.2.est = none ∧ (st.deleting = false → w = .keep) ∧ (y.1.health = .healthy → st.health = .healthy) := by
  have hq {st'} (h : Quiet feature f st st') (hh : st'.health = .healthy) : st.health = .healthy :=
    (h.recorded.1 hh).resolve_right fun ha => hn ha.1
  cases h with
  | quiet h => exact ⟨rfl, fun _ => rfl, hq h⟩
  | deleted hd h => exact ⟨rfl, fun hd' => absurd hd (Bool.eq_false_iff.mp hd'), hq h⟩
  | fetched ha _ _ => exact absurd ha hn
  | failed hr _ | done hr _ _ => exact absurd hr.admitted hn

theorem RecOutcome.puts : Puts fixed r f w := by
  cases h with
  | quiet _ => exact nofun
  | deleted _ _ =>
    intro k v hw
    cases hw
    exact .inl ⟨.inl rfl, rfl⟩
  | fetched _ hf _ => exact hf.puts
  | failed hr _ | done hr _ _ => exact hr.source.puts

end

variable {fixed feature r f st} in
theorem recStep_est {c : Cache} (h : (recStep fixed feature r f c st).2.2.est ≠ none) :
    ∃ w p, Reached fixed feature r f st (c r.id) w p ∧ (recStep fixed feature r f c st).2.2.est = some p.objs := by
  obtain ⟨w, y, ho, hc⟩ := recStep_local fixed feature r f st (c r.id)
  rw [hc c rfl] at h ⊢
  exact ⟨w, ho.est h⟩

theorem recStep_stale (c : Cache) (hs : f.stale = true) :
    (recStep fixed feature r f c st).2.2.est = none ∧ (recStep fixed feature r f c st).2.1 = st := by
  obtain ⟨w, y, ho, hc⟩ := recStep_local fixed feature r f st (c r.id)
  rw [hc c rfl]
  exact ho.stale hs

theorem recStep_verif (c : Cache) : (recStep fixed feature r f c st).2.1.verif = st.verif := by
  obtain ⟨w, y, ho, hc⟩ := recStep_local fixed feature r f st (c r.id)
  rw [hc c rfl]
  exact ho.verif

end Xp.C15
