import Xp.Proofs.C04
/-
The pipeline interpreter of C04: the exact characterisation of a failing `runFetching` (`Diverges`),
of a failing step (`StepFails`) and of a failing pipeline, by induction on the two loops as relations
(`Rounds`, `Runs`, Xp/Proofs/C04.lean).
-/
namespace Xp.C04

/-- `runFetching` ends in an error: exactly when some round's call errors before the
requirements stabilise (and before a fatal result), or the allowed number of rounds is used
up with the requirements still changing -/
def Diverges (cluster : List ClusterObj) (f : Fn) : Nat → Request → List (String × Sel) → Prop
  | 0, _, _ => True
  | fuel + 1, req, prev =>
    f req = none ∨
    ∃ rsp, f req = some rsp ∧ hasFatal rsp.results = false ∧ rsp.reqs ≠ prev ∧
      Diverges cluster f fuel
        { req with extra := rsp.reqs.map (fun p => (p.1, fetch cluster p.2)), ctx := rsp.ctx } rsp.reqs

theorem Rounds.err_iff {cluster : List ClusterObj} {f : Fn} {fuel : Nat} {req : Request} {prev : List (String × Sel)}
    {r : List Request × Outcome} (h : Rounds cluster f fuel req prev r) : r.2 = .err ↔ Diverges cluster f fuel req prev := by
  induction h with
  | spent req prev => exact ⟨fun _ => trivial, fun _ => rfl⟩
  | failed n prev h => exact ⟨fun _ => Or.inl h, fun _ => rfl⟩
  | returned n h hs =>
    refine ⟨fun e => (nomatch e), fun hd => ?_⟩
    obtain h' | ⟨rsp', h', hf, hne, _⟩ := hd
    · cases h.symm.trans h'
    · cases h.symm.trans h'
      rcases hs with hs | hs
      · cases hs.symm.trans hf
      · exact absurd hs hne
  | again h hf hs _ ih =>
    rw [ih]
    refine ⟨fun hd => Or.inr ⟨_, h, hf, hs, hd⟩, fun hd => ?_⟩
    obtain h' | ⟨rsp', h', _, _, hd⟩ := hd
    · cases h.symm.trans h'
    · cases h.symm.trans h'
      exact hd

theorem runFetching_err_iff (cluster : List ClusterObj) (f : Fn) (fuel : Nat) (req : Request) (prev : List (String × Sel)) :
    (runFetching cluster f fuel req prev).2 = .err ↔ Diverges cluster f fuel req prev :=
  (rounds cluster f fuel req prev).err_iff

theorem diverges_of_inv (cluster : List ClusterObj) (f : Fn) (I : Request → List (String × Sel) → Prop)
    (hf : ∀ req prev, I req prev → ∃ rsp, f req = some rsp ∧ hasFatal rsp.results = false ∧ rsp.reqs ≠ prev ∧
      I { req with extra := rsp.reqs.map (fun p => (p.1, fetch cluster p.2)), ctx := rsp.ctx } rsp.reqs) :
    ∀ (fuel : Nat) (req : Request) (prev : List (String × Sel)), I req prev → Diverges cluster f fuel req prev := by
  intro fuel
  induction fuel with
  | zero => exact fun _ _ _ => trivial
  | succ n ih =>
    intro req prev h0
    obtain ⟨rsp, h1, h2, h3, h4⟩ := hf req prev h0
    exact Or.inr ⟨rsp, h1, h2, h3, ih _ _ h4⟩

/-- one step of the pipeline fails when started from the accumulated state `st` -/
def StepFails (cluster : List ClusterObj) (observed : List Res) (st : PipeState) (s : Step) : Prop :=
  s.creds.any (·.2.isNone) = true ∨
  Diverges cluster s.fn (Xp.Gen.maxRequirementsIterations + 1) (stepRequest observed st s) [] ∨
  ∃ rsp, (runFetching cluster s.fn (Xp.Gen.maxRequirementsIterations + 1) (stepRequest observed st s) []).2 = .ok rsp ∧
    hasFatal rsp.results = true

variable {cluster : List ClusterObj} {observed : List Res} {s : Step} {ss : List Step} {i : Nat} {st : PipeState}
  {r : PipeResult}

theorem Runs.failed_iff (h : Runs cluster observed ss i st r) :
    (∃ st' fatal, r = .failed st' fatal) ↔
    ∃ pre s post st1, ss = pre ++ s :: post ∧ runPipeline cluster observed pre i st = .done st1 ∧
      StepFails cluster observed st1 s := by
  induction h with
  | nil i st => exact ⟨fun ⟨_, _, h⟩ => (nomatch h), fun ⟨pre, _, _, _, h, _⟩ => by cases pre <;> cases h⟩
  | noCreds ss i st hc => exact ⟨fun _ => ⟨[], _, ss, st, rfl, rfl, Or.inl hc⟩, fun _ => ⟨_, _, rfl⟩⟩
  | err ss i st hc hr =>
    exact ⟨fun _ => ⟨[], _, ss, st, rfl, rfl, Or.inr (Or.inl ((runFetching_err_iff ..).mp hr))⟩, fun _ => ⟨_, _, rfl⟩⟩
  | fatal ss i st hc hr hf => exact ⟨fun _ => ⟨[], _, ss, st, rfl, rfl, Or.inr (Or.inr ⟨_, hr, hf⟩)⟩, fun _ => ⟨_, _, rfl⟩⟩
  | @next s ss i st rsp r hc hr hf _ ih =>
    rw [ih]
    constructor
    · rintro ⟨pre, s', post, st1, hs, hp, hfail⟩
      exact ⟨s :: pre, s', post, st1, by rw [hs]; rfl, (runPipeline_next hc hr hf).trans hp, hfail⟩
    · rintro ⟨pre, s', post, st1, hs, hp, hfail⟩
      cases pre with
      | nil =>
        -- `s` itself would be the failing step, but it handed on to the next
        cases hs
        cases hp
        rcases hfail with h | h | ⟨rsp', h, hf'⟩
        · rw [hc] at h
          cases h
        · rw [← runFetching_err_iff] at h
          rw [hr] at h
          cases h
        · rw [hr] at h
          cases h
          rw [hf] at hf'
          cases hf'
      | cons s0 pre =>
        cases hs
        exact ⟨pre, s', post, st1, rfl, (runPipeline_next hc hr hf).symm.trans hp, hfail⟩

theorem runPipeline_failed_iff (cluster : List ClusterObj) (observed : List Res) (steps : List Step) (i : Nat)
    (st0 : PipeState) :
    (∃ st' fatal, runPipeline cluster observed steps i st0 = .failed st' fatal) ↔
    ∃ pre s post st, steps = pre ++ s :: post ∧ runPipeline cluster observed pre i st0 = .done st ∧
      StepFails cluster observed st s :=
  (runs cluster observed steps i st0).failed_iff

theorem runPipeline_cons_of_fails {cluster : List ClusterObj} {observed : List Res} {st : PipeState} {s : Step}
    (h : StepFails cluster observed st s) (ss : List Step) (i : Nat) :
    ∃ st' fatal, runPipeline cluster observed (s :: ss) i st = .failed st' fatal :=
  (runPipeline_failed_iff ..).mpr ⟨[], s, ss, st, rfl, rfl, h⟩

end Xp.C04
