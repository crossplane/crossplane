import Xp.Proofs.C16Evolve
import Xp.Proofs.C16Validate
/-
C16: the establish phase. The role laws `QE` / `CE` of what one Establish may do to an object;
what one goroutine does (`establishOneI_spec`) and why a real update can only replace the version
it was computed from (`update_hits_version`); the master invariant of Establish when nobody
interferes.
-/
namespace Xp.C16

variable (rejects : Obj → Bool) (fault : Fault) (tp : Interf) (p : Parent) (control : Bool)

/-- what one Establish of parent `p` (active iff `control`) may do to an existing object -/
structure QE (p : Parent) (control : Bool) (o o' : Obj) : Prop where
  key : o'.key = o.key
  /-- no owner entry is dropped -/
  uids : ∀ u, hasUid o.owners u → hasUid o'.owners u
  /-- nobody becomes controller except an active parent -/
  ctrls : ∀ u, ctrl o'.owners u → ctrl o.owners u ∨ (control = true ∧ u = p.uid)
  /-- an inactive revision does not touch the content -/
  body : control = false → o'.body = o.body
  /-- the parent is controller (active) / plain owner (inactive) -/
  mine : (if control then asController p else asOwner p) ∈ o'.owners
  /-- the package is a non-controlling owner -/
  pkg : ∀ q, pkgRef p = some q → q.uid ≠ p.uid → q ∈ o'.owners
  valid : ctrlCount o'.owners ≤ 1
  /-- an inactive parent's own entry (the first with its uid, as `ReleaseObjects` and
  `meta.AddOwnerReference` look it up) is not a controller reference afterwards -/
  released : control = false → ∀ x, o'.owners.find? (fun r => r.uid = p.uid) = some x → x.isCtrl = false

/-- what Establish may create -/
structure CE (p : Parent) (control : Bool) (o' : Obj) : Prop where
  active : control = true
  mine : asController p ∈ o'.owners
  pkg : ∀ q, pkgRef p = some q → q.uid ≠ p.uid → q ∈ o'.owners
  ctrls : ∀ u, ctrl o'.owners u → u = p.uid
  valid : ctrlCount o'.owners ≤ 1

theorem QE.trans (a b c : Obj) (h1 : QE p control a b) (h2 : QE p control b c) :
    QE p control a c where
  key := h2.key.trans h1.key
  uids := fun u h => h2.uids u (h1.uids u h)
  ctrls := fun u h => by
    rcases h2.ctrls u h with h | h
    · exact h1.ctrls u h
    · exact Or.inr h
  body := fun h => (h2.body h).trans (h1.body h)
  mine := h2.mine
  pkg := h2.pkg
  valid := h2.valid
  released := h2.released

theorem QE.ctrls_inactive {p : Parent} {o o' : Obj} (q : QE p false o o') (u : Nat) (h : ctrl o'.owners u) :
    ctrl o.owners u :=
  (q.ctrls u h).resolve_right fun h => nomatch h.1

theorem QE.only_ctrl {p : Parent} {o o' : Obj} (q : QE p true o o') (u : Nat) (h : ctrl o'.owners u) : u = p.uid :=
  ctrl_only q.valid q.mine u h

theorem CE.step (a b : Obj) (h1 : CE p control a) (h2 : QE p control a b) :
    CE p control b where
  active := h1.active
  mine := by have := h2.mine; rw [h1.active] at this; exact this
  pkg := h2.pkg
  ctrls := fun u h => by
    rcases h2.ctrls u h with h | h
    · exact h1.ctrls u h
    · exact h.2
  valid := h2.valid

theorem createRefs_CE (o : Obj) (n : Nat) (h : ctrlCount (createRefs p) ≤ 1) :
    CE p true { o with owners := createRefs p, rv := n } where
  active := rfl
  mine := by simp [createRefs]
  pkg := fun q hq _ => by simp [createRefs, hq]
  ctrls := ctrl_only h List.mem_cons_self
  valid := h

theorem updateSub_QE {c₀ cur des sub : Obj} (n : Nat)
    (hk : cur.key = c₀.key) (hdk : c₀.key = des.key) (hb : cur.body = c₀.body)
    (hu : ∀ u, hasUid c₀.owners u → hasUid cur.owners u) (hc : ∀ u, ctrl cur.owners u → ctrl c₀.owners u)
    (h : updateSub p control cur des = .ok sub) (hv : ctrlCount sub.owners ≤ 1) :
    QE p control c₀ { sub with rv := n } := by
  obtain ⟨_, ht, hf⟩ := updateSub_ok p control h
  have ho := updateSub_owners p control h
  have huids : ∀ u, hasUid c₀.owners u → hasUid sub.owners u :=
    fun u h => ho ▸ hasUid_addOwner _ _ _ (hasUid_withPkg p _ _ (hu u h))
  have hmine : mineRef p control ∈ sub.owners := ho ▸ mem_addOwner_self _ _
  have hpkg : ∀ q, pkgRef p = some q → q.uid ≠ p.uid → q ∈ sub.owners := fun q hq hne =>
    ho ▸ mem_addOwner_of_ne _ _ q (pkg_mem_withPkg p _ q hq) (mineRef_uid p control ▸ hne)
  cases control with
  | true =>
    exact ⟨(ht rfl).1.trans hdk.symm, huids, fun u hc => Or.inr ⟨rfl, ctrl_only hv hmine u hc⟩, nofun, hmine,
      hpkg, hv, nofun⟩
  | false =>
    cases hf rfl
    exact ⟨hk, huids, fun u h => Or.inl (hc u (ctrl_withPkg p _ _ (ctrl_addOwner_of_not _ _ _ rfl h))),
      fun _ => hb, hmine, hpkg, hv,
      fun _ x hx => by rw [← asOwner_uid p, find_addOwner_self] at hx; cases hx; rfl⟩

/-- A real update carries the resourceVersion read during validation. If the server accepts it,
the object it replaces is the very version `cd.current` was computed from — every write since
(the revision's own or a third party's) handed out a newer resourceVersion (`Frozen`) — and what
is stored instead is within the role law `QE` of that version. -/
theorem update_hits_version {sv s : Store} {cd : CD} {cur sub c : Obj} (n : Nat)
    (hf : Frozen sv s) (hcd : CDSeen sv cd) (hcur : cd.current = some cur)
    (hsub : updateSub p control cur cd.desired = .ok sub)
    (hget : s.get sub.key = some c) (hrv : c.rv = sub.rv) (hv : ctrlCount sub.owners ≤ 1) :
    c ∈ sv.objs ∧ QE p control c { sub with rv := n } := by
  obtain ⟨c₀, hseen, hk₀, hck, hrv₀, hbody, hu, hc⟩ := hcd cur hcur
  have ⟨hsk, hsrv⟩ := updateSub_key p control hsub
  have hsubkey : sub.key = c₀.key := by
    rw [hsk]
    cases control
    · exact hck
    · exact hk₀.symm
  have hrv' : c.rv = c₀.rv := by rw [hrv, hsrv, hrv₀]
  obtain ⟨rfl, hc0⟩ := hseen.hit hf (get_mem hget) ((get_key hget).trans hsubkey) hrv'
  exact ⟨hc0, updateSub_QE p control n hck hk₀ hbody hu hc hsub hv⟩

theorem establishOneI_spec (s : Store) (i : Nat) (cd : CD) :
    (∃ r, establishOneI rejects fault tp p control s i cd = (s, r) ∧
      ∀ k, r = .ok k → control = false ∧ cd.current = none) ∨
    (control = true ∧ cd.current = none ∧ establishOneI rejects fault tp p control s i cd =
      liftW ⟨cd.desired.key, false⟩ (apiCreate rejects false (fault i .real) (applyActs s (tp.pre i))
        { cd.desired with owners := createRefs p })) ∨
    (∃ cur sub, cd.current = some cur ∧ updateSub p control cur cd.desired = .ok sub ∧
      establishOneI rejects fault tp p control s i cd =
        liftW ⟨cd.desired.key, true⟩ (apiUpdate rejects false (fault i .real) (applyActs s (tp.pre i)) sub)) := by
  fun_cases establishOneI rejects fault tp p control s i cd with
  | case1 hcur hc => exact Or.inr (Or.inl ⟨hc, hcur, rfl⟩)      -- nothing there, an active parent: create
  | case2 hcur hc => exact Or.inl ⟨_, rfl, fun _ _ => ⟨eq_false_of_ne_true hc, hcur⟩⟩      -- an inactive one: no call
  | case3 => exact Or.inl ⟨_, rfl, nofun⟩      -- `AddControllerReference` refused
  | case4 cur hcur sub hsub => exact Or.inr (Or.inr ⟨cur, sub, hcur, hsub, rfl⟩)

theorem mem_pickCD {cds : List (Nat × CD)} {order : List Nat} {x : Nat × CD} (h : x ∈ pickCD cds order) : x ∈ cds := by
  unfold pickCD at h
  obtain ⟨i, _, hi⟩ := List.mem_filterMap.mp h
  exact List.mem_of_find?_eq_some hi

/-- carried through the establish phase when nobody interferes. Not read off `IInv` / `VIInv`
(C16World.lean), which only classify the objects of the final store: `Evolves` also says that no
object disappears and no owner entry is dropped (`Evolves.kept`). -/
structure EInv (p : Parent) (control : Bool) (s₀ s : Store) : Prop where
  wf : WF s
  frozen : Frozen s₀ s
  ev : Evolves (QE p control) (CE p control) s₀.objs s.objs

theorem EInv.refl (s : Store) (hw : WF s) : EInv p control s s :=
  ⟨hw, Frozen.refl s, Evolves.refl _ _ _⟩

theorem EInv.create (p : Parent) (control : Bool) (s₀ s s' : Store) (o : Obj) (hi : EInv p control s₀ s)
    (he : CEffect s s' o)
    (hC : s.get o.key = none → ctrlCount o.owners ≤ 1 → CE p control { o with rv := s.nextRv }) :
    EInv p control s₀ s' :=
  ⟨effect_wf (Or.inl he) hi.wf, hi.frozen.trans (effect_frozen (Or.inl he)),
   Evolves.trans (QE.trans p control) (CE.step p control) hi.ev (ceffect_evolves _ _ s s' o he hC)⟩

theorem EInv.update (p : Parent) (control : Bool) (s₀ s s' : Store) (o : Obj) (hi : EInv p control s₀ s)
    (he : UEffect s s' o)
    (hQ : ∀ c, s.get o.key = some c → c.rv = o.rv → ctrlCount o.owners ≤ 1 → QE p control c { o with rv := s.nextRv }) :
    EInv p control s₀ s' :=
  ⟨effect_wf (Or.inr he) hi.wf, hi.frozen.trans (effect_frozen (Or.inr he)),
   Evolves.trans (QE.trans p control) (CE.step p control) hi.ev (ueffect_evolves _ _ s s' o he hi.wf hQ)⟩

theorem establishOne_inv (s₀ s : Store) (i : Nat) (cd : CD) (hi : EInv p control s₀ s) (hcd : CDSeen s₀ cd) :
    EInv p control s₀ (establishOne rejects fault p control s i cd).1 := by
  rw [← establishOneI_none]
  rcases establishOneI_spec rejects fault Interf.none p control s i cd with ⟨r, h, _⟩ | ⟨hc, _, h⟩ | ⟨cur, sub, hcur, hsub, h⟩ <;>
    rw [h]
  · exact hi
  · subst hc
    rw [liftW_fst]
    exact hi.create p true s₀ s _ _ (apiCreate_effect rejects false (fault i .real) s _)
      fun _ hv => createRefs_CE p cd.desired s.nextRv hv
  · rw [liftW_fst]
    exact EInv.update p control s₀ s _ _ hi (apiUpdate_effect rejects false (fault i .real) s sub)
      fun c hget hrv hv => (update_hits_version p control s.nextRv hi.frozen hcd hcur hsub hget hrv hv).2

theorem establishAll_inv (s₀ s : Store) (ys : List (Nat × CD)) (hi : EInv p control s₀ s)
    (hcd : ∀ y ∈ ys, CDSeen s₀ y.2) : EInv p control s₀ (establishAll rejects fault p control s ys).1 := by
  rw [← establishAllI_none]
  exact establishAllI_ind rejects fault Interf.none p control (EInv p control s₀) ys s hi fun s i cd hm h =>
    establishOne_inv rejects fault p control s₀ s i cd h (hcd _ hm)

theorem establish_inv (s : Store) (objs : List Desired) (vorder eorder : List Nat) (hw : WF s) :
    EInv p control s (establish rejects fault p control s objs vorder eorder).1 := by
  rw [← establishI_none]
  rcases establishI_cases rejects fault Interf.none p control s objs vorder eorder with ⟨r, h, _⟩ | ⟨cds, hv, h⟩ <;> rw [h]
  · exact EInv.refl p control s hw
  · rw [establishAllI_none]
    exact establishAll_inv rejects fault p control s s _ (EInv.refl p control s hw)
      fun y hy => validateAll_cdseen rejects fault p control hw hv y (mem_pickCD hy)

end Xp.C16
