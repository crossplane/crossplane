import Xp.Proofs.C20Tls
import Xp.Proofs.C20Ex
/-
C20: interference by a concurrent peer initialiser (`Xp.runE` / `Xp.ownE` / `Xp.WpE` of Base/Prog.lean
instantiated for the C20 store).

* rely `PeerKeeps cas env`: whatever the peer does before any of our calls, it never rewrites a
  protected secret (a complete CA secret, a non-CA secret holding material) – which is what every
  initialiser guarantees itself (`own_step_keeps_any`), so the rely is met by a peer that is an initialiser
  (`peerInit_keeps`);
* guarantee of our own calls, for ANY environment and any reply to a refused call: `own_step_keeps_any`,
  `own_write_shape_any`;
* `own_leaves_chain`: what our run writes chains to the CA stored at the end of the run;
* `CAWellFormed` / `tlsSteps_succeed` (for `rerun_after_peer_abort_converges` of Props/C20): a fault-free,
  interference-free re-run from whatever an interfered run leaves behind completes.
-/
namespace Xp.C20
open Xp

variable {α β : Type}

/-- the peer never rewrites a protected secret -/
def PeerKeeps (cas : List String) (env : Env Store) : Prop := ∀ k s, KeptFrom cas s (env k s)

theorem peerKeeps_none (cas : List String) : PeerKeeps cas Env.none := fun _ s => keptFrom_refl cas s

theorem peerInit_keeps (g : Generator) (steps : List Step) (cas : List String)
    (h : ∀ ca ∈ caNames steps, ca ∈ cas) (n k0 : Nat) : PeerKeeps cas (peerInit g steps n k0) := by
  intro k s
  unfold peerInit
  split
  · exact kept_of_issues Plan.allOk 0 _ (runSteps_issues_safe g steps cas h n 0) s s (keptFrom_refl _ s) _
      (run_mem_reach sem Plan.allOk 0 _ s)
  · exact keptFrom_refl _ s

/-! The guarantees of our own calls are stated for `semAny er`: they do not depend on what a refused call is answered
with (`sem` is the case `er = fun _ _ => .err .other`). -/

@[simp] theorem semAny_exec (er : Outcome → Req → Resp) : (semAny er).exec = exec := rfl

theorem own_step_keeps_any (er : Outcome → Req → Resp) (g : Generator) (steps : List Step) (env : Env Store)
    (plan : Plan) (n : Nat) (s : Store) :
    ∀ x ∈ ownE (semAny er) env plan 0 (runSteps g steps n 0) s, KeptFrom (caNames steps) x.1 (exec x.1 x.2).1 := by
  intro x hx
  have hq := ownE_issues (semAny er) (SafeReq (caNames steps)) env plan 0 _
    (runSteps_issues_safe g steps (caNames steps) (fun _ h => h) n 0) s x hx
  exact exec_kept (keptFrom_refl _ x.1) hq

theorem own_write_shape_any (er : Outcome → Req → Resp) (g : Generator) (steps : List Step) (env : Env Store)
    (plan : Plan) (n : Nat) (s : Store) :
    ∀ x ∈ ownE (semAny er) env plan 0 (runSteps g steps n 0) s, (exec x.1 x.2).1 ≠ x.1 →
      (∀ new, x.2 = .createSecret new → findSecret x.1 new.name = none) ∧
      (∀ old new, x.2 = .updateSecret old new →
        findSecret x.1 new.name = some old ∧ ¬ Protected (caNames steps) old) := by
  intro x hx hch
  have hq := ownE_issues (semAny er) (SafeReq (caNames steps)) env plan 0 _
    (runSteps_issues_safe g steps (caNames steps) (fun _ h => h) n 0) s x hx
  obtain ⟨h1, h2⟩ := exec_write_changed hch
  exact ⟨h1, fun old new e => ⟨h2 old new e, safeReq_update hq e (find_name (h2 old new e))⟩⟩

theorem kept_under_interference_any (er : Outcome → Req → Resp) (g : Generator) (steps : List Step) (cas : List String)
    (hcas : ∀ ca ∈ caNames steps, ca ∈ cas) (env : Env Store) (henv : PeerKeeps cas env) (plan : Plan) (n : Nat) (s : Store) :
    KeptFrom cas s (runE (semAny er) env plan 0 (runSteps g steps n 0) s).1 ∧
    ∀ x ∈ ownE (semAny er) env plan 0 (runSteps g steps n 0) s,
      KeptFrom cas (exec x.1 x.2).1 (runE (semAny er) env plan 0 (runSteps g steps n 0) s).1 := by
  obtain ⟨h1, h2⟩ := runE_rel (semAny er) (KeptFrom cas) (keptFrom_refl _) (fun _ _ _ => keptFrom_trans)
    (SafeReq cas) (fun s _ hq => exec_kept (keptFrom_refl _ s) hq) env henv plan 0 _
    (runSteps_issues_safe g steps cas hcas n 0) s
  exact ⟨h1, fun x hx => (h2 x hx).2⟩

theorem own_leaves_chain (g : Generator) (hg : g.Sound) (steps : List Step) (ca : String)
    (hca : ∀ c ∈ caNames steps, c = ca) (env : Env Store) (henv : PeerKeeps [ca] env)
    (plan : Plan) (n : Nat) (s : Store) :
    ∀ x ∈ ownE sem env plan 0 (runSteps g steps n 0) s, ∀ new, x.2.writes = some new → new.name ≠ ca →
      (exec x.1 x.2).2 = .ok →
      findSecret (runE sem env plan 0 (runSteps g steps n 0) s).1 new.name = some new ∧
      Chained ca (leafRefs steps) (runE sem env plan 0 (runSteps g steps n 0) s).1 new.name := by
  intro x hx new hw hne hok
  have hcas : ∀ c ∈ caNames steps, c ∈ [ca] := fun c hc => by simp [hca c hc]
  obtain ⟨hG, _⟩ := wpE_sound sem (KeptFrom [ca]) (ChainG ca (leafRefs steps)) env henv plan 0 _ _ s
    (runSteps_chain_wp g hg steps ca hca n 0 s)
  have hq := ownE_issues sem (SafeReq [ca]) env plan 0 _ (runSteps_issues_safe g steps [ca] hcas n 0) s x hx
  have hpost := (kept_under_interference_any (fun _ _ => .err .other) g steps [ca] hcas env henv plan n s).2 x hx
  have hfind := exec_write_stored hw hok
  have hch := chainG_chained (hG x hx) hq hw hne hfind
  refine ⟨hpost new.name new hfind (Or.inr ⟨by simp [hne], ?_⟩), chained_kept hne hch hpost⟩
  obtain ⟨_, _, _, c, _, _, _, _, h4, g1, _⟩ := hch
  cases hfind.symm.trans h4
  simp [hasMaterial, g1]

/-- key and certificate of a complete secret belong together and load as a signer -/
def WFSecret (x : Secret) : Prop :=
  isComplete x = true → ∃ sg, parseSigner x.key x.crt = some sg ∧ sg.key = sg.cert.kp

/-- the CA secret, if complete, loads and its key matches its certificate -/
def CAWellFormed (ca : String) (s : Store) : Prop := ∀ sec, findSecret s ca = some sec → WFSecret sec

/-- the peer never stores a CA secret that does not load (every initialiser stores well-formed ones:
`runSteps_issues_wf`) -/
def PeerWellFormed (ca : String) (env : Env Store) : Prop := ∀ k s, CAWellFormed ca s → CAWellFormed ca (env k s)

/-- the generator does not fail on a self-signed request or on a signer whose key matches its certificate -/
structure Generator.Total (g : Generator) : Prop where
  self : ∀ dns ca n, (g dns ca none n).isSome = true
  signed : ∀ dns ca sg n, sg.key = sg.cert.kp → (g dns ca (some sg) n).isSome = true

def WFReq (r : Req) : Prop := ∀ new, r.writes = some new → WFSecret new

theorem exec_wf {ca : String} {s : Store} {r : Req} (h : CAWellFormed ca s) (hq : WFReq r) :
    CAWellFormed ca (exec s r).1 := by
  intro sec hsec
  rcases exec_secret_cases s r ca with e | ⟨old, new, rfl, rfl, _, hnew⟩
  · exact h sec (e.symm.trans hsec)
  · rw [hnew] at hsec
    cases hsec
    exact hq _ (writes_writeSecret old sec)

theorem wf_write (old : Option Secret) (new : Secret) (h : WFSecret new) : WFReq (writeSecret old new) := by
  intro x hx
  rw [writes_writeSecret] at hx
  cases hx; exact h

theorem wf_generated {g : Generator} (hg : g.Sound) {dns : List String} {isCa : Bool} {sgn : Option Signer} {n kp : Nat}
    {c : CertInfo} (h : g dns isCa sgn n = some (kp, c)) (x : Secret) (hk : x.key = .key kp) (hc : x.crt = .cert c) :
    WFSecret x := by
  intro _
  refine ⟨⟨kp, c⟩, by simp [parseSigner, hk, hc], ?_⟩
  exact (hg.kp _ _ _ _ _ _ h).1.symm

theorem tlsReq_wf {g : Generator} (hg : g.Sound) {ca : String} {refs : List TlsRef} {r : Req} (h : TlsReq g ca refs r) :
    WFReq r := by
  rcases h with h | ⟨_, _, _, h⟩
  · cases h with
    | get => exact fun _ h => by cases h
    | write old n kp c _ hgen => exact wf_write _ _ (wf_generated hg hgen _ rfl rfl)
  · cases h with
    | get => exact fun _ h => by cases h
    | write old n kp c _ hgen => exact wf_write _ _ (wf_generated hg hgen _ rfl rfl)

theorem tlsStep_issues_wf (g : Generator) (hg : g.Sound) (ca : String) (sv cl : Option TlsRef) (n : Nat) :
    Issues WFReq (tlsStep g ca sv cl n) :=
  Issues.mono (fun _ => tlsReq_wf hg) (tlsStep_issues g ca sv cl n)

theorem step_issues_wf (g : Generator) (hg : g.Sound) (n : Nat) (st : Step) : Issues WFReq (st.prog g n) :=
  step_issues_of _ g n st (fun _ _ _ _ _ => tlsReq_wf hg)
    (fun _ hc hr _ hn => absurd (writes_comp hn) (only_comp_ne hr (Ne.symm hc)))

theorem runSteps_issues_wf (g : Generator) (hg : g.Sound) (steps : List Step) (n d : Nat) :
    Issues WFReq (runSteps g steps n d) :=
  runSteps_issues g steps (fun st _ n' => step_issues_wf g hg n' st) n d

theorem wf_after_interference (g : Generator) (hg : g.Sound) (steps : List Step) (ca : String)
    (env : Env Store) (hw : PeerWellFormed ca env) (plan : Plan) (n : Nat) (s : Store) (hs : CAWellFormed ca s) :
    CAWellFormed ca (runE sem env plan 0 (runSteps g steps n 0) s).1 :=
  runE_inv sem (CAWellFormed ca) WFReq (fun _ _ hi hq => exec_wf hi hq) env hw plan 0 _
    (runSteps_issues_wf g hg steps n 0) s hs

theorem genCA_succeeds (g : Generator) (hg : g.Sound) (ht : g.Total) (ca : String) (old : Option Secret) (n : Nat) (t : Store)
    (ho : findSecret t ca = old) :
    ∃ t1 sg n1, evalOk (genCA g ca old n) t = (t1, (some sg, n1)) ∧ sg.key = sg.cert.kp := by
  unfold genCA
  cases hgen : g ["crossplane-root-ca"] true none n with
  | none => have := ht.self ["crossplane-root-ca"] true n; rw [hgen] at this; cases this
  | some kc =>
    obtain ⟨kp, c⟩ := kc
    have e1 := exec_write_succeeds t old (caSecret ca old kp c) (by simpa using ho)
    simp only [evalOk_call, e1, evalOk_ret]
    exact ⟨_, _, _, rfl, (hg.kp _ _ _ _ _ _ hgen).1.symm⟩

theorem load_succeeds (g : Generator) (hg : g.Sound) (ht : g.Total) (ca : String) (n : Nat) (t : Store)
    (hwf : CAWellFormed ca t) :
    ∃ t1 sg n1, evalOk (loadOrGenerateCA g ca n) t = (t1, (some sg, n1)) ∧ sg.key = sg.cert.kp := by
  unfold loadOrGenerateCA
  simp only [evalOk_call, exec_getSecret]
  cases hf : findSecret t ca with
  | none => exact genCA_succeeds g hg ht ca none n t hf
  | some sec =>
    dsimp only
    split
    · rename_i hc
      obtain ⟨sg, hp, hk⟩ := hwf sec hf hc
      exact ⟨t, sg, n, by simp [hp], hk⟩
    · exact genCA_succeeds g hg ht ca (some sec) n t hf

def dnsOK (ref : Option TlsRef) : Prop := ∀ r, ref = some r → r.dns ≠ []

theorem ensureOpt_succeeds (g : Generator) (ht : g.Total) (ref : Option TlsRef) (sg : Signer) (n : Nat) (t : Store)
    (hsg : sg.key = sg.cert.kp) (hd : dnsOK ref) : ∃ t' n', evalOk (ensureOpt g ref sg n) t = (t', (Res.ok, n')) := by
  unfold ensureOpt
  cases ref with
  | none => exact ⟨t, n, rfl⟩
  | some r =>
    dsimp only
    have issue : ∀ old, findSecret t r.name = old → ∃ t' n', evalOk (issueLeaf g r sg n old) t = (t', (Res.ok, n')) := by
      intro old ho
      unfold issueLeaf
      rw [if_neg (hd r rfl)]
      cases hgen : g r.dns false (some sg) n with
      | none => have := ht.signed r.dns false sg n hsg; rw [hgen] at this; cases this
      | some kc =>
        obtain ⟨kp, c⟩ := kc
        have e1 := exec_write_succeeds t old (leafSecret r.name old kp c sg) (by simpa using ho)
        simp only [evalOk_call, e1, evalOk_ret]
        exact ⟨_, _, rfl⟩
    unfold ensureLeaf
    simp only [evalOk_call, exec_getSecret]
    cases hf : findSecret t r.name with
    | none => exact issue none hf
    | some sec =>
      dsimp only
      split
      · exact ⟨t, n, rfl⟩
      · exact issue (some sec) hf

theorem tls_succeeds (g : Generator) (hg : g.Sound) (ht : g.Total) (ca : String) (sv cl : Option TlsRef) (n : Nat) (t : Store)
    (hwf : CAWellFormed ca t) (hsv : dnsOK sv) (hcl : dnsOK cl) :
    ∃ t' n', evalOk (tlsStep g ca sv cl n) t = (t', (Res.ok, n')) := by
  unfold tlsStep
  split
  · exact ⟨t, n, rfl⟩
  · obtain ⟨t1, sg, n1, e1, hk⟩ := load_succeeds g hg ht ca n t hwf
    rw [evalOk_bind, e1]
    dsimp only
    obtain ⟨t2, n2, e2⟩ := ensureOpt_succeeds g ht sv sg n1 t1 hk hsv
    rw [evalOk_bind, e2]
    dsimp only
    exact ensureOpt_succeeds g ht cl sg n2 t2 hk hcl

/-- a step list that consists of TLS steps for the CA secret `ca` with non-empty DNS names -/
def TlsOnly (ca : String) (steps : List Step) : Prop :=
  ∀ st ∈ steps, ∃ sv cl, st = .tls ca sv cl ∧ dnsOK sv ∧ dnsOK cl

theorem tlsSteps_succeed (g : Generator) (hg : g.Sound) (ht : g.Total) (ca : String) (steps : List Step)
    (hsteps : TlsOnly ca steps) (n d : Nat) (t : Store) (hwf : CAWellFormed ca t) :
    ∃ t' n', evalOk (runSteps g steps n d) t = (t', (Res.ok, n', d + steps.length)) := by
  induction steps generalizing n d t with
  | nil => exact ⟨t, n, rfl⟩
  | cons st rest ih =>
    obtain ⟨sv, cl, e, hsv, hcl⟩ := hsteps st (by simp)
    subst e
    obtain ⟨t1, n1, e1⟩ := tls_succeeds g hg ht ca sv cl n t hwf hsv hcl
    have hwf1 : CAWellFormed ca t1 := by
      have := evalOk_inv (CAWellFormed ca) WFReq (fun _ _ hi hq => exec_wf hi hq) _
        (tlsStep_issues_wf g hg ca sv cl n) t hwf
      rw [e1] at this; exact this
    obtain ⟨t', n', e'⟩ := ih (fun st' h => hsteps st' (by simp [h])) n1 (d + 1) t1 hwf1
    refine ⟨t', n', ?_⟩
    have e1' : evalOk ((Step.tls ca sv cl).prog g n) t = (t1, (Res.ok, n1)) := e1
    unfold runSteps
    rw [evalOk_bind, e1']
    dsimp only
    rw [e', List.length_cons, Nat.add_right_comm, Nat.add_assoc]

theorem peerInit_wf (g : Generator) (hg : g.Sound) (steps : List Step) (ca : String) (n k0 : Nat) :
    PeerWellFormed ca (peerInit g steps n k0) := by
  intro k s hs
  unfold peerInit
  split
  · exact reach_inv sem (CAWellFormed ca) WFReq (fun _ _ hi hq => exec_wf hi hq) Plan.allOk 0 _
      (runSteps_issues_wf g hg steps n 0) s hs _ (run_mem_reach sem Plan.allOk 0 _ s)
  · exact hs

theorem pxForeign_keeps : PeerKeeps ["crossplane-root-ca"] pxForeign := by
  intro k s
  unfold pxForeign
  split
  · intro n sec h _
    simp only [findSecret] at h ⊢
    exact find_append_some _ _ _ _ h
  · exact keptFrom_refl _ s

end Xp.C20
