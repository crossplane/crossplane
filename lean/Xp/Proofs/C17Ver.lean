import Xp.Model.C17
/-
C17: the SemVer precedence order of the model is a total preorder (`Lex`: one lexicographic layer);
tag lists parsed and sorted by it (`tagLe`); the install scan picks the greatest admissible element,
the update scan the least not-older one (or the greatest older one); what findDigestToUpdate accepts.
-/
namespace Xp.C17

theorem Ident.le_refl (a : Ident) : Ident.le a a = true := by
  cases a <;> simp [Ident.le]

theorem Ident.le_total (a b : Ident) : Ident.le a b = true ∨ Ident.le b a = true := by
  cases a <;> cases b <;> simp only [Ident.le, decide_eq_true_eq]
  · omega
  · exact Or.inl trivial
  · exact Or.inr trivial
  · exact String.le_total _ _

theorem Ident.le_trans : ∀ {a b c : Ident}, Ident.le a b = true → Ident.le b c = true → Ident.le a c = true
  | .num _, .num _, .num _, h1, h2 => decide_eq_true (Nat.le_trans (of_decide_eq_true h1) (of_decide_eq_true h2))
  | .num _, .num _, .alnum _, _, _ => rfl
  | .num _, .alnum _, .num _, _, h2 => by cases h2
  | .num _, .alnum _, .alnum _, _, _ => rfl
  | .alnum _, .num _, _, h1, _ => by cases h1
  | .alnum _, .alnum _, .num _, _, h2 => by cases h2
  | .alnum _, .alnum _, .alnum _, h1, h2 =>
    decide_eq_true (String.le_trans (of_decide_eq_true h1) (of_decide_eq_true h2))

theorem Ident.le_antisymm {a b : Ident} (h1 : Ident.le a b = true) (h2 : Ident.le b a = true) : a = b := by
  cases a <;> cases b <;> simp only [Ident.le, decide_eq_true_eq] at *
  · congr 1; omega
  · cases h2
  · cases h1
  · congr 1; exact String.le_antisymm h1 h2

theorem preLe_refl : ∀ p : List Ident, preLe p p = true
  | [] => rfl
  | a :: as => by simp [preLe, preLe_refl as]

theorem preLe_total : ∀ p q : List Ident, preLe p q = true ∨ preLe q p = true
  | [], _ => Or.inl (by simp [preLe])
  | _ :: _, [] => Or.inr (by simp [preLe])
  | a :: as, b :: bs => by
    by_cases h : a = b
    · subst h
      simp only [preLe, if_true]
      exact preLe_total as bs
    · have h' : ¬ b = a := fun e => h e.symm
      simp only [preLe, h, h', if_false]
      exact Ident.le_total a b

theorem preLe_trans : ∀ {p q r : List Ident}, preLe p q = true → preLe q r = true → preLe p r = true
  | [], _, _, _, _ => by simp [preLe]
  | _ :: _, [], _, h1, _ => by simp [preLe] at h1
  | _ :: _, _ :: _, [], _, h2 => by simp [preLe] at h2
  | a :: as, b :: bs, c :: cs, h1, h2 => by
    simp only [preLe] at h1 h2 ⊢
    by_cases hab : a = b
    · subst hab
      simp only [if_true] at h1
      by_cases hac : a = c
      · subst hac
        simp only [if_true] at h2 ⊢
        exact preLe_trans h1 h2
      · simp only [hac, if_false] at h2 ⊢
        exact h2
    · simp only [hab, if_false] at h1
      by_cases hbc : b = c
      · subst hbc
        simp only [hab, if_false]
        exact h1
      · simp only [hbc, if_false] at h2
        have hac : ¬ a = c := by
          intro e; subst e
          exact hab (Ident.le_antisymm h1 h2)
        simp only [hac, if_false]
        exact Ident.le_trans h1 h2

theorem relLe_refl (p : List Ident) : relLe p p = true := by
  cases p with
  | nil => rfl
  | cons a as => simp only [relLe]; exact preLe_refl _

theorem relLe_total (p q : List Ident) : relLe p q = true ∨ relLe q p = true := by
  cases p <;> cases q <;> simp only [relLe]
  · exact Or.inl trivial
  · exact Or.inr trivial
  · exact Or.inl trivial
  · exact preLe_total _ _

theorem relLe_trans : ∀ {p q r : List Ident}, relLe p q = true → relLe q r = true → relLe p r = true
  | [], [], _, _, h2 => h2
  | [], _ :: _, _, h1, _ => by cases h1
  | _ :: _, [], [], _, _ => rfl
  | _ :: _, [], _ :: _, _, h2 => by cases h2
  | _ :: _, _ :: _, [], _, _ => rfl
  | _ :: _, _ :: _, _ :: _, h1, h2 => preLe_trans h1 h2

/-- one layer of a lexicographic order: smaller here, or equal here and `r` further down -/
def Lex (a b : Nat) (r : Prop) : Prop := a < b ∨ (a = b ∧ r)

theorem Lex.total {a b : Nat} {r r' : Prop} (h : r ∨ r') : Lex a b r ∨ Lex b a r' := by
  rcases Nat.lt_trichotomy a b with h' | h' | h'
  · exact .inl (.inl h')
  · exact h.imp (fun x => .inr ⟨h', x⟩) (fun x => .inr ⟨h'.symm, x⟩)
  · exact .inr (.inl h')

theorem Lex.trans {a b c : Nat} {r1 r2 r3 : Prop} (h : r1 → r2 → r3) (h1 : Lex a b r1) (h2 : Lex b c r2) : Lex a c r3 := by
  rcases h1 with h1 | ⟨e1, h1⟩ <;> rcases h2 with h2 | ⟨e2, h2⟩
  · exact .inl (Nat.lt_trans h1 h2)
  · exact .inl (e2 ▸ h1)
  · exact .inl (e1 ▸ h2)
  · exact .inr ⟨e1.trans e2, h h1 h2⟩

theorem Ver.le_iff (v w : Ver) : v.le w = true ↔
    Lex v.major w.major (Lex v.minor w.minor (Lex v.patch w.patch (relLe v.pre w.pre = true))) := by
  have step : ∀ (a b : Nat) (x : Bool), (if a ≠ b then decide (a < b) else x) = true ↔ Lex a b (x = true) := by
    intro a b x
    unfold Lex
    by_cases h : a = b
    · rw [if_neg (not_not_intro h)]
      constructor
      · exact fun hx => .inr ⟨h, hx⟩
      · rintro (l | ⟨_, hx⟩)
        · exact absurd h (Nat.ne_of_lt l)
        · exact hx
    · rw [if_pos h, decide_eq_true_eq]
      constructor
      · exact .inl
      · rintro (l | ⟨e, _⟩)
        · exact l
        · exact absurd e h
  unfold Ver.le
  rw [step, step, step]

theorem Ver.le_refl (v : Ver) : v.le v = true :=
  (Ver.le_iff v v).2 (.inr ⟨rfl, .inr ⟨rfl, .inr ⟨rfl, relLe_refl _⟩⟩⟩)

theorem Ver.le_total (a b : Ver) : a.le b = true ∨ b.le a = true := by
  rw [Ver.le_iff, Ver.le_iff]
  exact Lex.total (Lex.total (Lex.total (relLe_total a.pre b.pre)))

theorem Ver.le_trans {a b c : Ver} (h1 : a.le b = true) (h2 : b.le c = true) : a.le c = true := by
  rw [Ver.le_iff] at *
  exact Lex.trans (Lex.trans (Lex.trans relLe_trans)) h1 h2

/-- the order `sortTags` sorts by -/
def tagLe (a b : VTag) : Bool := a.ver.le b.ver

theorem sortTags_sorted (vs : List VTag) : (sortTags vs).Pairwise (fun a b => tagLe a b = true) := by
  unfold sortTags
  apply List.pairwise_mergeSort
  · intro a b c h1 h2; exact Ver.le_trans h1 h2
  · intro a b
    rcases Ver.le_total a.ver b.ver with h | h <;> simp [tagLe, h]

theorem mem_sortTags {v : VTag} {vs : List VTag} : v ∈ sortTags vs ↔ v ∈ vs := by
  unfold sortTags; exact List.mem_mergeSort

theorem mem_parseTags {o : Oracle} {tags : List String} {v : VTag} :
    v ∈ parseTags o tags ↔ v.tag ∈ tags ∧ o.ver v.tag = some v.ver := by
  unfold parseTags
  rw [List.mem_filterMap]
  constructor
  · rintro ⟨t, ht, hv⟩
    cases hver : o.ver t with
    | none => rw [hver] at hv; cases hv
    | some w =>
      rw [hver] at hv
      simp only [Option.map_some, Option.some.injEq] at hv
      subst hv
      exact ⟨ht, hver⟩
  · rintro ⟨ht, hv⟩
    exact ⟨v.tag, ht, by rw [hv]; rfl⟩

theorem mem_sortedTags {o : Oracle} {tags : List String} {v : VTag} :
    v ∈ sortTags (parseTags o tags) ↔ v.tag ∈ tags ∧ o.ver v.tag = some v.ver :=
  mem_sortTags.trans mem_parseTags

theorem lastSat_spec (sat : String → Bool) :
    ∀ (l : List VTag) (acc : String), l.Pairwise (fun a b => tagLe a b = true) →
      (lastSat sat l acc = acc ∧ ∀ v ∈ l, sat v.tag = false) ∨
      (∃ v ∈ l, lastSat sat l acc = v.tag ∧ sat v.tag = true ∧ ∀ w ∈ l, sat w.tag = true → w.ver.le v.ver = true) := by
  intro l
  induction l with
  | nil => intro acc _; exact Or.inl ⟨rfl, fun _ h => by cases h⟩
  | cons x xs ih =>
    intro acc hp
    have hx : ∀ y ∈ xs, tagLe x y = true := (List.pairwise_cons.1 hp).1
    have hxs := (List.pairwise_cons.1 hp).2
    unfold lastSat
    rcases ih (if sat x.tag then x.tag else acc) hxs with ⟨e, none⟩ | ⟨v, hv, e, hs, hmax⟩
    · cases hsx : sat x.tag with
      | false =>
        rw [hsx] at e
        simp only [Bool.false_eq_true, if_false] at e
        simp only [Bool.false_eq_true, if_false]
        refine Or.inl ⟨e, ?_⟩
        intro v hv
        cases hv with
        | head => exact hsx
        | tail _ h => exact none v h
      | true =>
        rw [hsx] at e
        simp only [if_true] at e ⊢
        refine Or.inr ⟨x, List.mem_cons_self .., e, hsx, ?_⟩
        intro w hw hsw
        cases hw with
        | head => exact Ver.le_refl _
        | tail _ h => rw [none w h] at hsw; cases hsw
    · refine Or.inr ⟨v, List.mem_cons_of_mem _ hv, e, hs, ?_⟩
      intro w hw hsw
      cases hw with
      | head => exact hx v hv
      | tail _ h => exact hmax w h hsw

/-- the ways the update scan comes out on a list in precedence order: the least valid version not
older than `cur`; with downgrades and none such, the greatest valid one; else the target as it was -/
inductive Picked (valid : String → Bool) (cur : Ver) (down : Bool) (l : List VTag) (target : Option String) :
    Option String → Prop
  | notOlder (v : VTag) (hv : v ∈ l) (hc : cur.le v.ver = true) (hval : valid v.tag = true)
      (hmin : ∀ w ∈ l, cur.le w.ver = true → valid w.tag = true → v.ver.le w.ver = true) :
      Picked valid cur down l target (some v.tag)
  | older (v : VTag) (hnone : ∀ w ∈ l, cur.le w.ver = true → valid w.tag = false) (hd : down = true) (hv : v ∈ l)
      (hval : valid v.tag = true) (hmax : ∀ w ∈ l, valid w.tag = true → w.ver.le v.ver = true) :
      Picked valid cur down l target (some v.tag)
  | kept (hnone : ∀ w ∈ l, cur.le w.ver = true → valid w.tag = false)
      (hcond : down = false ∨ ∀ w ∈ l, valid w.tag = false) : Picked valid cur down l target target

theorem pickUpdate_picked (valid : String → Bool) (cur : Ver) (down : Bool) :
    ∀ (l : List VTag) (target : Option String), l.Pairwise (fun a b => tagLe a b = true) →
      Picked valid cur down l target (pickUpdate valid cur down l target) := by
  intro l
  induction l with
  | nil => exact fun target _ => .kept nofun (.inr nofun)
  | cons x xs ih =>
    intro target hp
    have hx : ∀ y ∈ xs, tagLe x y = true := (List.pairwise_cons.1 hp).1
    unfold pickUpdate
    by_cases hup : (cur.le x.ver && valid x.tag) = true
    · rw [if_pos hup]
      rw [Bool.and_eq_true] at hup
      exact .notOlder x (List.mem_cons_self ..) hup.1 hup.2 fun w hw _ _ =>
        (List.mem_cons.1 hw).elim (· ▸ Ver.le_refl _) (hx w)
    · rw [if_neg hup]
      have hxno : cur.le x.ver = true → valid x.tag = false := fun h1 =>
        Bool.eq_false_iff.2 fun hv => hup (by rw [h1, hv]; rfl)
      have ih := ih (if (down && valid x.tag) = true then some x.tag else target) (List.pairwise_cons.1 hp).2
      generalize pickUpdate valid cur down xs _ = r at ih
      -- what holds of `xs` carries over to `x :: xs`: `x` is no hit, and below all of `xs`
      have hnone' : (∀ w ∈ xs, cur.le w.ver = true → valid w.tag = false) →
          ∀ w ∈ x :: xs, cur.le w.ver = true → valid w.tag = false := fun hnone w hw =>
        (List.mem_cons.1 hw).elim (· ▸ hxno) (hnone w)
      cases ih with
      | notOlder v hv hc hval hmin =>
        refine .notOlder v (List.mem_cons_of_mem _ hv) hc hval fun w hw hw1 hw2 => ?_
        rcases List.mem_cons.1 hw with rfl | h
        · rw [hxno hw1] at hw2; cases hw2
        · exact hmin w h hw1 hw2
      | older v hnone hd hv hval hmax =>
        exact .older v (hnone' hnone) hd (List.mem_cons_of_mem _ hv) hval fun w hw hw2 =>
          (List.mem_cons.1 hw).elim (· ▸ hx v hv) (fun h => hmax w h hw2)
      | kept hnone hcond =>
        by_cases hdv : (down && valid x.tag) = true
        · rw [if_pos hdv]
          rw [Bool.and_eq_true] at hdv
          -- `x` is the last valid one: downgrades are on, so nothing after it is valid
          have hnov : ∀ w ∈ xs, valid w.tag = false := hcond.resolve_left (by rw [hdv.1]; nofun)
          refine .older x (hnone' hnone) hdv.1 (List.mem_cons_self ..) hdv.2 fun w hw hw2 => ?_
          rcases List.mem_cons.1 hw with rfl | h
          · exact Ver.le_refl _
          · rw [hnov w h] at hw2; cases hw2
        · rw [if_neg hdv]
          refine .kept (hnone' hnone) ?_
          cases hd : down with
          | false => exact .inl rfl
          | true =>
            refine .inr fun w hw => (List.mem_cons.1 hw).elim (fun e => ?_) (hcond.resolve_left (by rw [hd]; nofun) w)
            exact e ▸ Bool.eq_false_iff.2 fun hv => hdv (by rw [hd, hv]; rfl)

/-- The loop invariant is `¬ (ver = true ∧ found ≠ "")`: a digest and a version constraint have not both been seen.
`hdig` (a parsed digest is not "") is what lets `found = ""` stand for "no digest seen so far". -/
theorem digestLoop_spec (o : Oracle) (hdig : ∀ c dg, o.digest c = some dg → dg ≠ "") :
    ∀ (cs : List String) (found : String) (ver : Bool) (dg : String),
      digestLoop o cs found ver = .ok dg → ¬ (ver = true ∧ found ≠ "") →
      (dg ≠ "" → ver = false ∧ (found = "" ∨ found = dg) ∧ ∀ c ∈ cs, o.digest c = some dg) ∧
      (dg = "" → found = "" ∧ ∀ c ∈ cs, o.digest c = none) := by
  intro cs
  induction cs with
  | nil =>
    intro found ver dg h hI
    simp only [digestLoop, Except.ok.injEq] at h
    subst h
    refine ⟨fun hne => ⟨?_, Or.inr rfl, fun _ h => by cases h⟩, fun he => ⟨he, fun _ h => by cases h⟩⟩
    cases ver with
    | false => rfl
    | true => exact absurd ⟨rfl, hne⟩ hI
  | cons c cs ih =>
    intro found ver dg h hI
    unfold digestLoop at h
    cases hd : o.digest c with
    | some d =>
      rw [hd] at h
      simp only [] at h
      have hdne : d ≠ "" := hdig c d hd
      split at h
      · cases h
      · rename_i hc1
        split at h
        · cases h
        · rename_i hc2
          have hver : ver = false := by
            cases ver with
            | false => rfl
            | true => exact absurd (by simp [hdne]) hc2
          have hfound : found = "" ∨ found = d := by
            by_cases h1 : found = ""
            · exact Or.inl h1
            · by_cases h2 : found = d
              · exact Or.inr h2
              · exact absurd (by simp [h1, h2]) hc1
          obtain ⟨a, b⟩ := ih d ver dg h (by rw [hver]; simp)
          constructor
          · intro hne
            obtain ⟨_, hfd, hall⟩ := a hne
            have hddg : d = dg := by
              rcases hfd with h' | h'
              · exact absurd h' hdne
              · exact h'
            subst hddg
            refine ⟨hver, hfound, ?_⟩
            intro x hx
            cases hx with
            | head => exact hd
            | tail _ hx' => exact hall x hx'
          · intro he
            exact absurd (b he).1 hdne
    | none =>
      rw [hd] at h
      simp only [] at h
      split at h
      · cases h
      · rename_i hc1
        have hf : found = "" := by
          by_cases h1 : found = ""
          · exact h1
          · exact absurd (by simp [h1]) hc1
        obtain ⟨a, b⟩ := ih found true dg h (by rw [hf]; simp)
        constructor
        · intro hne
          have := (a hne).1
          cases this
        · intro he
          refine ⟨hf, ?_⟩
          intro x hx
          cases hx with
          | head => exact hd
          | tail _ hx' => exact (b he).2 x hx'

end Xp.C17
