import Xp.Model.C13Cache
import Xp.Proofs.C13Data
/-
C13: the lock dance of cache.go (Model/C13Cache.lean). `cnext` as a relation (`CNext`, `cnext_inv`),
the invariant `CInv`, each entry point changes the cache state at one step and there as the engine
model's single step does (`cnext_atomic`), and runs are linearizable (`Lin_reach`).
-/
namespace Xp.C13

theorem cfree_iff (s : CSys) (i : Nat) (want : Mode) :
    cfree s i want = true ↔ ∀ j u, s.threads[j]? = some u → j ≠ i → want.compat u.pc.held = true := by
  simp only [cfree, List.all_eq_true, List.mem_range, Bool.or_eq_true, beq_iff_eq]
  constructor
  · intro h j u hj hne
    have := h j (List.getElem?_eq_some_iff.1 hj).1
    rw [hj] at this
    exact this.resolve_left hne
  · intro h j _
    by_cases hji : j = i
    · exact Or.inl hji
    · right
      cases hu : s.threads[j]? with
      | none => rfl
      | some u => exact h j u hu hji

theorem underGet_tracked (g : Nat) (f : Bool) (b : Sys) : (underGet g f b).tracked = b.tracked := by
  unfold underGet
  split
  · rfl
  · split <;> rfl

theorem underRemove_tracked (g : Nat) (b : Sys) : (underRemove g b).tracked = b.tracked := rfl

theorem getInformer_eq (g : Nat) (f : Bool) (b : Sys) :
    (Act.getInformer g f).apply b = underGet g f (markActive g b) := by
  simp only [Act.apply, underGet, markActive]
  cases f
  · simp only [Bool.false_eq_true, if_false]
    cases aget g b.live <;> rfl
  · simp

theorem rmInformer_eq (g : Nat) (b : Sys) :
    (Act.rmInformer g).apply b = underRemove g (unmarkActive g b) := rfl

theorem markActive_of_mem {g : Nat} {b : Sys} (h : b.tracked.contains g = true) : markActive g b = b := by
  cases b
  simp_all [markActive]

theorem unmarkActive_of_not_mem {g : Nat} {b : Sys} (h : b.tracked.contains g = false) : unmarkActive g b = b := by
  have hne : ∀ x ∈ b.tracked, decide (x ≠ g) = true := by
    intro x hx
    have : x ≠ g := by
      intro hxg; subst hxg
      have : b.tracked.contains x = true := List.contains_iff_mem.2 hx
      rw [h] at this; cases this
    simpa using this
  have hf : b.tracked.filter (fun x => decide (x ≠ g)) = b.tracked := List.filter_eq_self.2 hne
  cases b
  simp only [unmarkActive] at hf ⊢
  rw [hf]

theorem cstep_unpack {s s' : CSys} {i : Nat} {f : Bool} (h : cstep s i f = some s') :
    ∃ t pc' b', s.threads[i]? = some t ∧ cnext s i t f = some (pc', b') ∧
      s' = { base := b', threads := s.threads.set i { t with pc := pc' } } := by
  unfold cstep at h
  split at h
  · cases h
  · rename_i t ht
    split at h
    · cases h
    · rename_i pc' b' hn
      cases h
      exact ⟨t, pc', b', ht, hn, rfl⟩

/-- the invariant of the cache model: the lock is exclusive, and what a goroutine read of `active`
under the read lock (`rd b`) is still true while it holds that lock -/
structure CInv (s : CSys) : Prop where
  mutex : ∀ (i j : Nat) (ti tj : CThread), i ≠ j → s.threads[i]? = some ti → s.threads[j]? = some tj →
    ti.pc.held.compat tj.pc.held = true
  seen : ∀ (i : Nat) (t : CThread) (b : Bool), s.threads[i]? = some t → t.pc = .rd b →
    b = s.base.tracked.contains t.op.gvk

theorem cinit_thread {b : Sys} {ops : List COp} {i : Nat} {t : CThread}
    (h : (cinit b ops).threads[i]? = some t) : ops[i]? = some t.op ∧ t.pc = .idle := by
  simp only [cinit, List.getElem?_map, Option.map_eq_some_iff] at h
  obtain ⟨o, ho, rfl⟩ := h
  exact ⟨ho, rfl⟩

theorem CInv_init (b : Sys) (ops : List COp) : CInv (cinit b ops) := by
  constructor
  · intro i j ti tj _ hi _
    rw [(cinit_thread hi).2]; rfl
  · intro i t bb hi hpc
    rw [(cinit_thread hi).2] at hpc; cases hpc

variable (s : CSys) (i : Nat) (f : Bool) in
/-- `cnext` as a relation, one rule per branch; the last argument is the cache state after the step -/
inductive CNext : COp → CPc → CPc → Sys → Prop
  | lockActive : cfree s i .r = true → CNext .active .idle (.relR false) s.base
  | lockRead : cfree s i .r = true → CNext (.read g) .idle (.rd (s.base.tracked.contains g)) s.base
  | lockRemove : cfree s i .r = true → CNext (.remove g) .idle (.rd (s.base.tracked.contains g)) s.base
  | readFast : CNext (.read g) (.rd true) (.relR f) (underGet g f s.base)
  | readGap : CNext (.read g) (.rd false) .gap s.base
  | removeGap : CNext (.remove g) (.rd true) .gap s.base
  | removeFast : CNext (.remove g) (.rd false) (.relR false) (underRemove g s.base)
  | activeRd : CNext .active (.rd b) (.relR false) s.base
  | upgrade : cfree s i .w = true → CNext op .gap .wr s.base
  | readSlow : CNext (.read g) .wr (.relW f) (underGet g f (markActive g s.base))
  | removeSlow : CNext (.remove g) .wr (.relW false) (underRemove g (unmarkActive g s.base))
  | activeWr : CNext .active .wr (.relW false) s.base
  | relR : CNext op (.relR x) (.done x) s.base
  | relW : CNext op (.relW x) (.done x) s.base

theorem cnext_inv {s : CSys} {i : Nat} {op : COp} {pc : CPc} {f : Bool} {pc' : CPc} {b' : Sys}
    (h : cnext s i ⟨op, pc⟩ f = some (pc', b')) : CNext s i f op pc pc' b' := by
  cases pc <;> cases op <;> simp only [cnext] at h
  case idle.read => split at h <;> cases h; exact .lockRead ‹_›
  case idle.remove => split at h <;> cases h; exact .lockRemove ‹_›
  case idle.active => split at h <;> cases h; exact .lockActive ‹_›
  case rd.read b g =>
    cases b <;> cases h
    · exact .readGap
    · exact .readFast
  case rd.remove b g =>
    cases b <;> cases h
    · exact .removeFast
    · exact .removeGap
  case rd.active => cases h; exact .activeRd
  case gap.read | gap.remove | gap.active => split at h <;> cases h; exact .upgrade ‹_›
  case wr.read => cases h; exact .readSlow
  case wr.remove => cases h; exact .removeSlow
  case wr.active => cases h; exact .activeWr
  case relR.read | relR.remove | relR.active => cases h; exact .relR
  case relW.read | relW.remove | relW.active => cases h; exact .relW
  case done.read | done.remove | done.active => cases h

theorem cnext_held {s : CSys} {i : Nat} {t : CThread} {f : Bool} {pc' : CPc} {b' : Sys}
    (h : cnext s i t f = some (pc', b')) :
    cfree s i pc'.held = true ∨ pc'.held.le t.pc.held = true := by
  obtain ⟨op, pc⟩ := t
  cases cnext_inv h
  case lockActive | lockRead | lockRemove | upgrade => exact Or.inl ‹_›
  all_goals exact Or.inr rfl

theorem cnext_tracked {s : CSys} {i : Nat} {t : CThread} {f : Bool} {pc' : CPc} {b' : Sys}
    (h : cnext s i t f = some (pc', b')) : b'.tracked = s.base.tracked ∨ (t.pc = .wr ∧ pc'.held = .w) := by
  obtain ⟨op, pc⟩ := t
  cases cnext_inv h
  case readSlow | removeSlow | activeWr => exact Or.inr ⟨rfl, rfl⟩
  case readFast => exact Or.inl (underGet_tracked _ _ _)
  all_goals exact Or.inl rfl

theorem cnext_rd {s : CSys} {i : Nat} {t : CThread} {f : Bool} {b : Bool} {b' : Sys}
    (h : cnext s i t f = some (.rd b, b')) : b = s.base.tracked.contains t.op.gvk ∧ b' = s.base := by
  obtain ⟨op, pc⟩ := t
  cases cnext_inv h <;> exact ⟨rfl, rfl⟩

theorem CInv_step {s s' : CSys} {i : Nat} {f : Bool} (hinv : CInv s) (h : cstep s i f = some s') : CInv s' := by
  obtain ⟨t, pc', b', ht, hn, rfl⟩ := cstep_unpack h
  constructor
  · exact mutex_set (held := fun u : CThread => u.pc.held) (le := fun a b => a.le b = true) Mode.compat_comm
      Mode.compat_of_le ht hinv.mutex ((cnext_held hn).imp_left (cfree_iff s i _).1)
  · intro a ta bb ha
    refine forall_set (P := fun _ u => ∀ bb, u.pc = .rd bb → bb = b'.tracked.contains u.op.gvk) ?_ ?_ a ta ha bb
    · -- the thread that stepped has just read `active`
      intro bb hpc
      have hpc' : pc' = .rd bb := hpc
      subst hpc'
      obtain ⟨h1, h2⟩ := cnext_rd hn
      rw [h2]; exact h1
    · intro j tj hj htj bb hpc
      rcases cnext_tracked hn with htr | hwr
      · rw [htr]; exact hinv.seen j tj bb htj hpc
      · -- thread i holds the write lock, thread j the read lock: impossible
        have := hinv.mutex i j t tj (Ne.symm hj) ht htj
        rw [hwr.1, hpc] at this
        cases this

theorem CInv_reach {b : Sys} {ops : List COp} {s : CSys} (h : CReach b ops s) : CInv s := by
  induction h with
  | init => exact CInv_init b ops
  | step i f _ hs ih => exact CInv_step ih hs

/-- an unfinished thread can step as soon as the lock request it makes while holding nothing is
granted; a thread that holds the lock never waits -/
theorem cnext_enabled {s : CSys} {i : Nat} {t : CThread} (hnd : ∀ f, t.pc ≠ .done f)
    (hfree : t.pc.held = .n → ∀ m, cfree s i m = true) : ∃ p, cnext s i t false = some p := by
  obtain ⟨op, pc⟩ := t
  cases pc
  case done f => exact absurd rfl (hnd f)
  case idle => cases op <;> simp only [cnext, hfree rfl, if_true] <;> exact ⟨_, rfl⟩
  case gap => simp only [cnext, hfree rfl, if_true]; exact ⟨_, rfl⟩
  case rd b => cases op <;> cases b <;> exact ⟨_, rfl⟩
  case wr => cases op <;> exact ⟨_, rfl⟩
  all_goals exact ⟨_, rfl⟩

theorem cnext_atomic {s : CSys} (hinv : CInv s) {i : Nat} {t : CThread} {f : Bool} {pc' : CPc} {b' : Sys}
    (ht : s.threads[i]? = some t) (h : cnext s i t f = some (pc', b')) :
    (pc'.applied = t.pc.applied ∧ b' = s.base) ∨
    (t.pc.applied = false ∧ pc'.applied = true ∧ b' = (atomicAct t.op f).apply s.base) := by
  obtain ⟨op, pc⟩ := t
  cases cnext_inv h
  -- on the fast paths what was read under the read lock still holds, so there is nothing to write
  case readFast g =>
    have hseen : s.base.tracked.contains g = true := (hinv.seen i _ true ht rfl).symm
    exact Or.inr ⟨rfl, rfl, by rw [atomicAct, getInformer_eq, markActive_of_mem hseen]⟩
  case removeFast g =>
    have hseen : s.base.tracked.contains g = false := (hinv.seen i _ false ht rfl).symm
    exact Or.inr ⟨rfl, rfl, by rw [atomicAct, rmInformer_eq, unmarkActive_of_not_mem hseen]⟩
  case readSlow g => exact Or.inr ⟨rfl, rfl, by rw [atomicAct, getInformer_eq]⟩
  case removeSlow g => exact Or.inr ⟨rfl, rfl, by rw [atomicAct, rmInformer_eq]⟩
  case lockActive | activeRd | activeWr => exact Or.inr ⟨rfl, rfl, rfl⟩
  all_goals exact Or.inl ⟨rfl, rfl⟩

/-- apply the operations `acts` (thread index, did its wrapped call fail) one after the other,
each as the single step of the main model -/
def applyAll (ops : List COp) (b : Sys) (acts : List (Nat × Bool)) : Sys :=
  acts.foldl (fun b p => (atomicAct (ops.getD p.1 .active) p.2).apply b) b

/-- `acts` is a linearization of the run so far: the cache state is the result of applying, in this
order, the single-step operations of exactly the threads that have passed their step, each once -/
structure Lin (b : Sys) (ops : List COp) (s : CSys) (acts : List (Nat × Bool)) : Prop where
  base : s.base = applyAll ops b acts
  nodup : (acts.map (·.1)).Nodup
  applied : ∀ i, i ∈ acts.map (·.1) ↔ ∃ t, s.threads[i]? = some t ∧ t.pc.applied = true
  ops : ∀ (i : Nat) (t : CThread), s.threads[i]? = some t → ops[i]? = some t.op

theorem Lin_reach {b : Sys} {ops : List COp} {s : CSys} (h : CReach b ops s) : ∃ acts, Lin b ops s acts := by
  induction h with
  | init =>
    refine ⟨[], rfl, List.nodup_nil, ?_, ?_⟩
    · intro i
      constructor
      · intro hi; cases hi
      · rintro ⟨t, ht, ha⟩
        rw [(cinit_thread ht).2] at ha; cases ha
    · exact fun i t ht => (cinit_thread ht).1
  | @step s s' i f hr hs ih =>
    obtain ⟨acts, hl⟩ := ih
    have hinv := CInv_reach hr
    obtain ⟨t, pc', b', ht, hn, rfl⟩ := cstep_unpack hs
    have hth := getElem?_set_of_some ht { t with pc := pc' }
    have hself : (s.threads.set i { t with pc := pc' })[i]? = some { t with pc := pc' } := by rw [hth, if_pos rfl]
    have hother : ∀ j, j ≠ i → (s.threads.set i { t with pc := pc' })[j]? = s.threads[j]? :=
      fun j hj => by rw [hth, if_neg hj]
    have hops : ∀ (j : Nat) (u : CThread), (s.threads.set i { t with pc := pc' })[j]? = some u → ops[j]? = some u.op :=
      forall_set (hl.ops i t ht) fun j u _ hu => hl.ops j u hu
    rcases cnext_atomic hinv ht hn with ⟨hap, hb⟩ | ⟨hap0, hap1, hb⟩
    · -- not the step at which the call takes effect: the same linearization
      refine ⟨acts, ?_, hl.nodup, ?_, hops⟩
      · simp only; rw [hb]; exact hl.base
      · intro j
        rw [hl.applied j]
        by_cases hji : j = i
        · subst hji
          simp only [hself, ht, Option.some.injEq]
          constructor
          · rintro ⟨u, rfl, hu⟩; exact ⟨_, rfl, by simpa [hap] using hu⟩
          · rintro ⟨u, rfl, hu⟩; exact ⟨_, rfl, by simpa [hap] using hu⟩
        · simp only [hother j hji]
    · -- the step at which it takes effect: the call goes last
      have hni : i ∉ acts.map (·.1) := by
        intro hi
        obtain ⟨u, hu, hua⟩ := (hl.applied i).1 hi
        rw [ht] at hu; cases hu
        rw [hap0] at hua; cases hua
      refine ⟨acts ++ [(i, f)], ?_, ?_, ?_, hops⟩
      · simp only
        rw [hb, hl.base]
        have hop : ops[i]?.getD .active = t.op := by
          rw [hl.ops i t ht]; rfl
        simp [applyAll, List.foldl_append, hop]
      · rw [List.map_append, List.nodup_append]
        refine ⟨hl.nodup, by simp, ?_⟩
        intro a ha c hc
        simp only [List.map_cons, List.map_nil, List.mem_singleton] at hc
        subst hc
        intro hac; subst hac; exact hni ha
      · intro j
        simp only [List.map_append, List.mem_append, List.map_cons, List.map_nil, List.mem_singleton]
        by_cases hji : j = i
        · subst hji
          simp only [or_true, true_iff]
          exact ⟨_, hself, hap1⟩
        · simp only [hji, or_false, hother j hji]
          exact hl.applied j

end Xp.C13
