import Xp.Proofs.C20Inv
/-
C20: the TLS step. Its post-condition (`TlsDone`) is a fixpoint of the step and no step of the initializer ever
leaves it. One rely/guarantee triple (`tlsStep_wp`) says what the step does under every fault plan and every
interference that keeps protected secrets: each own request is of its class with the signer that is stored at that
moment (`TlsG`), and a step that reports success has established `TlsDone` (`tls_establishes` is the case without
interference or faults). With a sound generator `TlsG` gives `ChainG` (certificates chain to the stored CA and carry
the configured DNS names) for the whole initializer (`runSteps_chain_wp`), and from it, without interference, at every
instant, under every fault plan, over every history of runs (`issued_history`).
-/
namespace Xp.C20
open Xp

variable {α β : Type}

@[simp] theorem caSecret_name (ca : String) (old : Option Secret) (kp : Nat) (c : CertInfo) : (caSecret ca old kp c).name = ca := rfl
@[simp] theorem leafSecret_name (nm : String) (old : Option Secret) (kp : Nat) (c : CertInfo) (sg : Signer) :
    (leafSecret nm old kp c sg).name = nm := rfl

def CAok (s : Store) (ca : String) : Prop :=
  ∃ sec sg, findSecret s ca = some sec ∧ isComplete sec = true ∧ parseSigner sec.key sec.crt = some sg

def Mat (s : Store) (n : String) : Prop := ∃ l, findSecret s n = some l ∧ hasMaterial l = true

def optMat (s : Store) (ref : Option TlsRef) : Prop := ∀ r, ref = some r → Mat s r.name

/-- post-condition of a TLS step: no secret is configured (the step returns at once), or the CA secret loads as a signer
and the configured secrets hold material -/
def TlsDone (ca : String) (sv cl : Option TlsRef) (s : Store) : Prop :=
  (sv = none ∧ cl = none) ∨ (CAok s ca ∧ optMat s sv ∧ optMat s cl)

theorem CAok_mat {s : Store} {ca : String} (h : CAok s ca) : Mat s ca := by
  obtain ⟨sec, _, h1, h2, _⟩ := h
  exact ⟨sec, h1, isComplete_hasMaterial h2⟩

theorem tls_fix (g : Generator) (ca : String) (sv cl : Option TlsRef) (n : Nat) (s : Store)
    (h : TlsDone ca sv cl s) : Fixes (tlsStep g ca sv cl n) s (.ok, n) := by
  have leaf : ∀ (ref : Option TlsRef) (sg : Signer), optMat s ref → Fixes (ensureOpt g ref sg n) s (.ok, n) := by
    intro ref sg hm
    cases ref with
    | none => exact moves_ret _ s
    | some r =>
      obtain ⟨l, hl, hml⟩ := hm r rfl
      refine moves_read (exec_getSecret s r.name) ?_
      simp only [hl, hml, if_true]
      exact moves_ret _ s
  unfold tlsStep
  rcases h with ⟨h1, h2⟩ | ⟨⟨sec, sg, hs, hc, hp⟩, hsv, hcl⟩
  · subst h1 h2; exact moves_ret _ s
  · split
    · exact moves_ret _ s
    · have hload : Fixes (loadOrGenerateCA g ca n) s (some sg, n) := by
        refine moves_read (exec_getSecret s ca) ?_
        simp only [hs, hc, if_true, hp]
        exact moves_ret _ s
      exact moves_bind hload (moves_bind (leaf sv sg hsv) (leaf cl sg hcl))

/-- the requests that keep `TlsDone`: a secret is updated only from an incomplete version, to one that holds material -/
def TlsKeep : Req → Prop := OnUpdate fun old new => isComplete old = false ∧ hasMaterial new = true

theorem tlsUpd_keep {ca : String} {old new : Secret} (h : TlsUpd ca old new) : isComplete old = false ∧ hasMaterial new = true :=
  ⟨h.2.elim noMaterial_incomplete (·.2), h.1⟩

theorem exec_CAok {s : Store} {ca : String} {r : Req} (h : CAok s ca) (hq : TlsKeep r) : CAok (exec s r).1 ca := by
  obtain ⟨sec, sg, h1, h2, h3⟩ := h
  exact ⟨sec, sg, exec_secret_kept h1 fun new _ e => (Bool.eq_false_iff.mp (hq sec new e).1 h2).elim, h2, h3⟩

theorem exec_Mat {s : Store} {n : String} {r : Req} (h : Mat s n) (hq : TlsKeep r) : Mat (exec s r).1 n := by
  obtain ⟨l, hl, hm⟩ := h
  rcases exec_secret_cases s r n with e | ⟨old, new, rfl, rfl, ho, hnew⟩
  · exact ⟨l, e.trans hl, hm⟩
  · refine ⟨new, hnew, ?_⟩
    cases old with
    | none => rw [hl] at ho; cases ho
    | some o => exact (hq o new rfl).2

theorem exec_tlsDone {s : Store} {ca : String} {sv cl : Option TlsRef} {r : Req}
    (h : TlsDone ca sv cl s) (hq : TlsKeep r) : TlsDone ca sv cl (exec s r).1 :=
  h.imp_right fun ⟨h1, h2, h3⟩ => ⟨exec_CAok h1 hq, fun r' hr => exec_Mat (h2 r' hr) hq, fun r' hr => exec_Mat (h3 r' hr) hq⟩

/-- the CA secret is complete and is exactly the signer's key and certificate -/
def CAsigner (s : Store) (ca : String) (sg : Signer) : Prop :=
  ∃ sec, findSecret s ca = some sec ∧ isComplete sec = true ∧ sec.key = .key sg.key ∧ sec.crt = .cert sg.cert

theorem CAsigner_ok {s : Store} {ca : String} {sg : Signer} (h : CAsigner s ca sg) : CAok s ca := by
  obtain ⟨sec, h1, h2, h3, h4⟩ := h
  exact ⟨sec, sg, h1, h2, by simp [parseSigner, h3, h4]⟩

theorem parseSigner_inv {kd cd : Blob} {sg : Signer} (h : parseSigner kd cd = some sg) :
    kd = .key sg.key ∧ cd = .cert sg.cert := by
  unfold parseSigner at h
  split at h
  · cases h; exact ⟨rfl, rfl⟩
  · cases h

theorem writes_writeSecret (old : Option Secret) (new : Secret) : (writeSecret old new).writes = some new := by
  cases old <;> rfl

theorem writes_cases {r : Req} {new : Secret} (h : r.writes = some new) :
    r = .createSecret new ∨ ∃ old, r = .updateSecret old new := by
  cases r with
  | createSecret x => cases h; exact .inl rfl
  | updateSecret old x => cases h; exact .inr ⟨old, rfl⟩
  | _ => cases h

theorem writes_comp {r : Req} {new : Secret} (h : r.writes = some new) : r.comp = some .secrets := by
  rcases writes_cases h with rfl | ⟨old, rfl⟩ <;> rfl

theorem exec_write_succeeds (s : Store) (old : Option Secret) (new : Secret) (h : findSecret s new.name = old) :
    (exec s (writeSecret old new)).2 = .ok := by
  cases old with
  | none => simp [writeSecret, exec, h]
  | some o => simp [writeSecret, exec, h]

theorem exec_write_stored {s : Store} {r : Req} {new : Secret} (hw : r.writes = some new) (hok : (exec s r).2 = .ok) :
    findSecret (exec s r).1 new.name = some new := by
  have he := exec_eff s r
  generalize exec s r = y at he hok ⊢
  cases he with
  | read r x h => rw [writes_comp hw] at h; cases h
  | refused r e => cases hok
  | createSecret x hf => cases hw; exact find_append_new _ _ hf
  | updateSecret old x hf => cases hw; exact find_map_replace_self _ _ _ hf
  | _ => cases hw

theorem exec_write_changed {s : Store} {r : Req} (hch : (exec s r).1 ≠ s) :
    (∀ new, r = .createSecret new → findSecret s new.name = none) ∧
    (∀ old new, r = .updateSecret old new → findSecret s new.name = some old) := by
  have he := exec_eff s r
  generalize exec s r = y at he hch
  cases he with
  | read r x h => exact absurd rfl hch
  | refused r e => exact absurd rfl hch
  | createSecret x hf => exact ⟨fun _ e => Req.createSecret.inj e ▸ hf, fun _ _ e => Req.noConfusion e⟩
  | updateSecret old x hf =>
    exact ⟨fun _ e => Req.noConfusion e, fun _ _ e => (Req.updateSecret.inj e).1 ▸ (Req.updateSecret.inj e).2 ▸ hf⟩
  | _ => exact ⟨fun _ e => Req.noConfusion e, fun _ _ e => Req.noConfusion e⟩

/-! ### the TLS step under every fault plan and interference: its requests, and what it establishes

The post-conditions are walked once, for any rely and without a guarantee (`genCA_wp`, `loadCA_wp`, `issueLeaf_wp`,
`ensureOpt_wp`); the guarantee comes from the exact request classes of Proofs/C20Steps.lean (`WpE.and_issues`,
`Issues.wpE`). -/

def LoadPost (ca : String) (s : Store) (a : Option Signer × Nat) : Prop := ∀ sg, a.1 = some sg → CAsigner s ca sg

theorem CAsigner_kept {ca : String} {sg : Signer} {s s' : Store} (h : CAsigner s ca sg) (hk : KeptFrom [ca] s s') :
    CAsigner s' ca sg := by
  obtain ⟨sec, h1, h2, h3, h4⟩ := h
  exact ⟨sec, hk ca sec h1 (Or.inl h2), h2, h3, h4⟩

/-- a secret that holds material stays, or the CA secret stays complete: `Mat` survives the rely given the CA -/
theorem mat_kept {ca : String} {s s' : Store} {n : String} (hca : CAok s ca) (h : Mat s n) (hk : KeptFrom [ca] s s') :
    Mat s' n := by
  by_cases hn : n = ca
  · obtain ⟨sec, sg, h1, h2, _⟩ := hca
    exact hn ▸ ⟨sec, hk ca sec h1 (.inl h2), isComplete_hasMaterial h2⟩
  · obtain ⟨l, hl, hm⟩ := h
    exact ⟨l, hk n l hl (.inr ⟨by simp [find_name hl, hn], hm⟩), hm⟩

theorem genCA_wp (R : Store → Store → Prop) (g : Generator) (ca : String) (old : Option Secret) (n : Nat) (s : Store) :
    WpE sem R (fun _ _ => True) (genCA g ca old n) (LoadPost ca) s := by
  unfold genCA
  split
  · exact nofun
  · rename_i kp c _
    intro s' _
    refine ⟨trivial, ?_, nofun, nofun⟩
    show WpE sem _ _ (match (exec s' (writeSecret old (caSecret ca old kp c))).2 with
      | .ok => (.ret (some (Signer.mk kp c), n + 1) : P (Option Signer × Nat))
      | _ => .ret (none, n + 1)) _ (exec s' (writeSecret old (caSecret ca old kp c))).1
    split
    · rename_i hok
      intro sg hsg
      cases hsg
      exact ⟨_, by simpa using exec_write_stored (writes_writeSecret _ _) hok, by simp [caSecret, isComplete], rfl, rfl⟩
    · exact nofun

theorem loadCA_wp (R : Store → Store → Prop) (g : Generator) (ca : String) (n : Nat) (s : Store) :
    WpE sem R (fun _ _ => True) (loadOrGenerateCA g ca n) (LoadPost ca) s := by
  intro s' _
  refine ⟨trivial, ?_, nofun, nofun⟩
  show WpE sem _ _ (match (exec s' (.getSecret ca)).2 with
    | .err .notFound => genCA g ca none n
    | .secret sec => if isComplete sec then .ret (parseSigner sec.key sec.crt, n) else genCA g ca (some sec) n
    | _ => .ret (none, n)) _ (exec s' (.getSecret ca)).1
  rw [exec_getSecret]
  cases hf : findSecret s' ca with
  | none => exact genCA_wp R g ca none n s'
  | some sec =>
    dsimp only
    split
    · rename_i hc
      intro sg hsg
      obtain ⟨hk, hcr⟩ := parseSigner_inv hsg
      exact ⟨sec, hf, hc, hk, hcr⟩
    · exact genCA_wp R g ca (some sec) n s'

theorem issueLeaf_wp (R : Store → Store → Prop) (g : Generator) (ref : TlsRef) (sg : Signer) (n : Nat)
    (old : Option Secret) (s : Store) :
    WpE sem R (fun _ _ => True) (issueLeaf g ref sg n old) (fun t a => a.1 = .ok → Mat t ref.name) s := by
  unfold issueLeaf
  split
  · exact nofun
  · split
    · exact nofun
    · rename_i kp c _
      intro s' _
      refine ⟨trivial, ?_, nofun, nofun⟩
      show WpE sem _ _ (match (exec s' (writeSecret old (leafSecret ref.name old kp c sg))).2 with
        | .ok => (.ret (.ok, n + 1) : P (Res × Nat))
        | _ => .ret (.err "tls: write", n + 1)) _ (exec s' (writeSecret old (leafSecret ref.name old kp c sg))).1
      split
      · rename_i hok
        exact fun _ => ⟨_, by simpa using exec_write_stored (writes_writeSecret _ _) hok, by simp [leafSecret, hasMaterial]⟩
      · exact nofun

theorem ensureOpt_wp (R : Store → Store → Prop) (g : Generator) (ref : Option TlsRef) (sg : Signer) (n : Nat) (s : Store) :
    WpE sem R (fun _ _ => True) (ensureOpt g ref sg n) (fun t a => a.1 = .ok → optMat t ref) s := by
  cases ref with
  | none => exact fun _ _ h => nomatch h
  | some ref =>
    intro s' _
    refine ⟨trivial, ?_, nofun, nofun⟩
    show WpE sem _ _ (match (exec s' (.getSecret ref.name)).2 with
      | .err .notFound => issueLeaf g ref sg n none
      | .secret sec => if hasMaterial sec then .ret (.ok, n) else issueLeaf g ref sg n (some sec)
      | _ => .ret (.err "tls: get", n)) _ (exec s' (.getSecret ref.name)).1
    rw [exec_getSecret]
    have hi := fun old => (issueLeaf_wp R g ref sg n old s').mono (fun _ _ h => h)
      (Q' := fun t a => a.1 = .ok → optMat t (some ref)) (fun _ _ h e r hr => by cases hr; exact h e)
    cases hf : findSecret s' ref.name with
    | none => exact hi none
    | some sec =>
      dsimp only
      split
      · rename_i hm
        exact fun _ r hr => by cases hr; exact ⟨sec, hf, hm⟩
      · exact hi (some sec)

/-- the requests of the TLS step with the signer tied to the store: a certificate is issued by the stored CA -/
def TlsG (g : Generator) (ca : String) (refs : List TlsRef) (x : Store) (r : Req) : Prop :=
  CaReq g ca r ∨ ∃ sg, CAsigner x ca sg ∧ ∃ ref ∈ refs, LeafReq g sg ref r

/-- One `ensureOpt` of the second phase: the CA secret stays the signer's, and so does any `D` that the requests of
the class and the rely keep (nothing for the first certificate, "the first holds material" for the second). -/
theorem ensureOpt_phase {g : Generator} {ca : String} {sg : Signer} {refs : List TlsRef} (D : Store → Prop)
    (hD : ∀ x r, D x → TlsKeep r → D (exec x r).1) (hDk : ∀ x x', CAok x ca → D x → KeptFrom [ca] x x' → D x')
    (ref : Option TlsRef) (href : ∀ r, ref = some r → r ∈ refs) (m : Nat) (x : Store) (hs : CAsigner x ca sg) (hd : D x) :
    WpE sem (KeptFrom [ca]) (TlsG g ca refs) (ensureOpt g ref sg m)
      (fun t a => (CAsigner t ca sg ∧ D t) ∧ (a.1 = .ok → optMat t ref)) x := by
  refine (((ensureOpt_issues g ref sg m _ href).wpE (Inv := fun x => CAsigner x ca sg ∧ D x) ⟨hs, hd⟩ ?_ ?_).and
    (ensureOpt_wp _ g ref sg m x)).mono (fun _ _ h => .inr ⟨sg, h.1.1.1, h.1.2⟩) (fun _ _ h => h)
  · rintro x r ⟨h1, h2⟩ ⟨_, _, hq⟩
    have hu := leafReq_upd ca hq
    exact ⟨CAsigner_kept h1 (exec_kept (keptFrom_refl _ x) (hu.mono fun _ _ => tlsUpd_safe (List.mem_singleton_self ca))),
      hD x r h2 (hu.mono fun _ _ => tlsUpd_keep)⟩
  · rintro x x' ⟨h1, h2⟩ hk
    exact ⟨CAsigner_kept h1 hk, hDk x x' (CAsigner_ok h1) h2 hk⟩

theorem tlsStep_wp (g : Generator) (ca : String) (sv cl : Option TlsRef) (n : Nat) (s : Store) :
    WpE sem (KeptFrom [ca]) (TlsG g ca (optRefs sv cl)) (tlsStep g ca sv cl n) (fun t a => a.1 = .ok → TlsDone ca sv cl t) s := by
  unfold tlsStep
  split
  · rename_i hn
    simp only [Bool.and_eq_true, Option.isNone_iff_eq_none] at hn
    exact fun _ => .inl hn
  · refine (((loadCA_wp _ g ca n s).and_issues (loadCA_issues g ca n)).mono (fun _ _ h => .inl h.2) (fun _ _ h => h)).bind ?_
    rintro t ⟨osg, n1⟩ hpost
    cases osg with
    | none => exact nofun
    | some sg =>
      refine (ensureOpt_phase (fun _ => True) (fun _ _ _ _ => trivial) (fun _ _ _ _ _ => trivial) sv
        (fun r hr => by simp [optRefs, hr]) n1 t (hpost sg rfl) trivial).bind ?_
      rintro t2 ⟨r, n2⟩ ⟨⟨hs2, _⟩, hsv⟩
      cases r with
      | err e => exact nofun
      | ok =>
        refine (ensureOpt_phase (fun x => optMat x sv) (fun _ _ h hq r hr => exec_Mat (h r hr) hq)
          (fun _ _ hca h hk r hr => mat_kept hca (h r hr) hk) cl (fun r hr => by simp [optRefs, hr]) n2 t2 hs2 (hsv rfl)).mono
          (fun _ _ h => h) ?_
        rintro t3 a ⟨⟨hs3, hsv3⟩, hcl⟩ e
        exact .inr ⟨CAsigner_ok hs3, hsv3, hcl e⟩

theorem tls_establishes (g : Generator) (ca : String) (sv cl : Option TlsRef) (n : Nat) (s t : Store) (n' : Nat)
    (h : evalOk (tlsStep g ca sv cl n) s = (t, (Res.ok, n'))) : TlsDone ca sv cl t := by
  have := (((tlsStep_wp g ca sv cl n s).rely (R := Eq) fun _ _ e => e ▸ keptFrom_refl _ _).run Plan.allOk 0).2
  rw [run_allOk, h] at this
  exact this _ rfl rfl

/-- a leaf secret as issued for `ref` by signer `sg` -/
def LeafGood (sg : Signer) (ref : TlsRef) (l : Secret) : Prop :=
  ∃ c, l.crt = .cert c ∧ l.key = .key c.kp ∧ l.ca = .cert sg.cert ∧ c.signedBy = sg.cert.kp ∧ c.dns = ref.dns ∧ c.ca = false

/-- guarantee of every own call: a secret other than the CA secret is written only while the stored CA
secret is complete and is the signer of the certificate being written -/
def ChainG (ca : String) (refs : List TlsRef) (s : Store) (r : Req) : Prop :=
  ∀ new, r.writes = some new → new.name ≠ ca →
    ∃ sg ref, CAsigner s ca sg ∧ ref ∈ refs ∧ new.name = ref.name ∧ LeafGood sg ref new

theorem chainG_nowrite {ca : String} {refs : List TlsRef} {s : Store} {r : Req} (h : r.writes = none) :
    ChainG ca refs s r := by
  intro new hn; rw [h] at hn; cases hn

theorem chainG_ca {ca : String} {refs : List TlsRef} {s : Store} {r : Req} {x : Secret}
    (h : r.writes = some x) (hx : x.name = ca) : ChainG ca refs s r := by
  intro new hn hne
  rw [h] at hn; cases hn
  exact absurd hx hne

theorem leafReq_chainG {g : Generator} (hg : g.Sound) {ca : String} {refs : List TlsRef} {sg : Signer} {ref : TlsRef}
    {s : Store} {r : Req} (hs : CAsigner s ca sg) (hr : ref ∈ refs) (h : LeafReq g sg ref r) : ChainG ca refs s r := by
  cases h with
  | get => exact chainG_nowrite rfl
  | write old n kp c ho hgen =>
    obtain ⟨h1, h2, h3⟩ := hg.kp _ _ _ _ _ _ hgen
    obtain ⟨h4, h5⟩ := hg.signed _ _ _ _ _ _ hgen
    intro new hn _
    rw [writes_writeSecret] at hn
    cases hn
    exact ⟨sg, ref, hs, hr, rfl, c, rfl, by simp [leafSecret, h1], rfl, by rw [h4, h5], h2, h3⟩

theorem tlsG_chainG {g : Generator} (hg : g.Sound) {ca : String} {refs refs' : List TlsRef} (hrefs : ∀ r ∈ refs, r ∈ refs')
    {x : Store} {r : Req} (h : TlsG g ca refs x r) : ChainG ca refs' x r := by
  rcases h with h | ⟨sg, hs, ref, hr, h⟩
  · cases h with
    | get => exact chainG_nowrite rfl
    | write old n kp c => exact chainG_ca (writes_writeSecret _ _) rfl
  · exact leafReq_chainG hg hs (hrefs ref hr) h

theorem noSecret_chainG {ca : String} {refs : List TlsRef} {s : Store} {r : Req} (h : r.comp ≠ some .secrets) :
    ChainG ca refs s r := fun _ hn _ => absurd (writes_comp hn) h

/-- secret `name` is a certificate signed by the key pair of the stored, complete CA certificate,
carries that CA certificate as ca.crt, and names the DNS names configured for it -/
def Chained (ca : String) (refs : List TlsRef) (x : Store) (name : String) : Prop :=
  ∃ sec C l c ref, findSecret x ca = some sec ∧ isComplete sec = true ∧ sec.crt = .cert C ∧
    findSecret x name = some l ∧ l.crt = .cert c ∧ l.key = .key c.kp ∧ l.ca = .cert C ∧ c.signedBy = C.kp ∧
    ref ∈ refs ∧ ref.name = name ∧ c.dns = ref.dns

/-- every secret (other than the CA secret) that differs from the start state is `Chained` -/
def IssuedOk (ca : String) (refs : List TlsRef) (s x : Store) : Prop :=
  ∀ name, name ≠ ca → findSecret x name ≠ findSecret s name → Chained ca refs x name

theorem chained_kept {ca : String} {refs : List TlsRef} {t x : Store} {name : String} (hn : name ≠ ca)
    (h : Chained ca refs t name) (hk : KeptFrom [ca] t x) : Chained ca refs x name := by
  obtain ⟨sec, C, l, c, ref, h1, h2, h3, h4, h5, h6, h7, h8, h9, h10, h11⟩ := h
  refine ⟨sec, C, l, c, ref, hk ca sec h1 (Or.inl h2), h2, h3, hk name l h4 (Or.inr ⟨?_, ?_⟩), h5, h6, h7, h8, h9, h10, h11⟩
  · have : l.name = name := find_name h4
    simp [this, hn]
  · simp [hasMaterial, h5]

def IssuedRel (ca : String) (refs : List TlsRef) (s₀ x : Store) : Prop :=
  IssuedOk ca refs s₀ x ∧ KeptFrom [ca] s₀ x

theorem chainG_chained {ca : String} {refs : List TlsRef} {x : Store} {r : Req} {new : Secret} (hg : ChainG ca refs x r)
    (hq : SafeReq [ca] r) (hw : r.writes = some new) (hne : new.name ≠ ca)
    (hnew : findSecret (exec x r).1 new.name = some new) : Chained ca refs (exec x r).1 new.name := by
  obtain ⟨sg, ref, hs, hr, hname, c, g1, g2, g3, g4, g5, _⟩ := hg new hw hne
  obtain ⟨sec, s1, s2, _, s4⟩ := CAsigner_kept hs (exec_kept (keptFrom_refl _ x) hq)
  exact ⟨sec, sg.cert, new, c, ref, s1, s2, s4, hnew, g1, g2, g3, g4, hr, hname.symm, g5⟩

theorem exec_issuedRel {ca : String} {refs : List TlsRef} {s₀ x : Store} {r : Req} (h : IssuedRel ca refs s₀ x)
    (hg : ChainG ca refs x r) (hq : SafeReq [ca] r) : IssuedRel ca refs s₀ (exec x r).1 := by
  have hk := exec_kept (keptFrom_refl [ca] x) hq
  refine ⟨fun name hn hne => ?_, keptFrom_trans h.2 hk⟩
  -- a secret this request does not write was chained before and stays so: both secrets involved are protected
  have other : findSecret (exec x r).1 name = findSecret x name → Chained ca refs (exec x r).1 name := fun e =>
    chained_kept hn (h.1 name hn (e ▸ hne)) hk
  rcases exec_secret_cases x r name with e | ⟨old, new, rfl, rfl, _, hnew⟩
  · exact other e
  · -- written by this request: the guarantee says who signed it, and that signer is still the stored CA
    exact chainG_chained hg hq (writes_writeSecret old new) hn hnew

def leafRefs : List Step → List TlsRef
  | [] => []
  | .tls _ sv cl :: rest => optRefs sv cl ++ leafRefs rest
  | _ :: rest => leafRefs rest

theorem leafRefs_cons (st : Step) (rest : List Step) : leafRefs (st :: rest) = leafRefs [st] ++ leafRefs rest := by
  cases st <;> simp [leafRefs]

theorem tls_of_steps {steps : List Step} {ca : String} (hca : ∀ c ∈ caNames steps, c = ca) {st : Step} (hst : st ∈ steps)
    {ca' : String} {sv cl : Option TlsRef} (e : st = .tls ca' sv cl) : ca' = ca ∧ ∀ r ∈ optRefs sv cl, r ∈ leafRefs steps :=
  ⟨hca ca' (mem_collect caNames_cons hst (by simp [e, caNames])),
    fun r hr => mem_collect leafRefs_cons hst (by simp [e, leafRefs, hr])⟩

theorem step_chain_wp (g : Generator) (hg : g.Sound) (ca : String) (refs : List TlsRef) (st : Step)
    (hst : ∀ ca' sv cl, st = .tls ca' sv cl → ca' = ca ∧ ∀ r ∈ optRefs sv cl, r ∈ refs) (n : Nat) (s : Store) :
    WpE sem (KeptFrom [ca]) (ChainG ca refs) (st.prog g n) (fun _ _ => True) s := by
  by_cases htls : ∃ ca' sv cl, st = .tls ca' sv cl
  · obtain ⟨ca', sv, cl, rfl⟩ := htls
    obtain ⟨e, hr⟩ := hst ca' sv cl rfl
    subst e
    exact (tlsStep_wp g ca' sv cl n s).mono (fun _ _ => tlsG_chainG hg hr) fun _ _ _ => trivial
  · -- the other steps write no secret
    have hp := step_issues_of (fun r => r.comp ≠ some .secrets) g n st (fun ca' sv cl e => absurd ⟨ca', sv, cl, e⟩ htls)
      (fun r hc hr => only_comp_ne hr (Ne.symm hc))
    exact (hp.guar _).mono (fun _ _ h => noSecret_chainG h) fun _ _ _ => trivial

theorem runSteps_wpE (sm : Sem Store Req Resp) (R : Store → Store → Prop) (G : Store → Req → Prop) (g : Generator)
    (steps : List Step) (h : ∀ st ∈ steps, ∀ n s, WpE sm R G (st.prog g n) (fun _ _ => True) s) (n d : Nat) (s : Store) :
    WpE sm R G (runSteps g steps n d) (fun _ _ => True) s :=
  runSteps_closed (J := fun p => ∀ s, WpE sm R G p (fun _ _ => True) s) (fun _ _ => trivial)
    (fun hp hf s => (hp s).bind fun s a _ => hf a s) g steps h n d s

theorem runSteps_chain_wp (g : Generator) (hg : g.Sound) (steps : List Step) (ca : String) (hca : ∀ c ∈ caNames steps, c = ca)
    (n d : Nat) (s : Store) :
    WpE sem (KeptFrom [ca]) (ChainG ca (leafRefs steps)) (runSteps g steps n d) (fun _ _ => True) s :=
  runSteps_wpE sem _ _ g steps (fun st h n s => step_chain_wp g hg ca _ st (fun _ _ _ => tls_of_steps hca h) n s) n d s

/-- Without interference the guarantee `ChainG` of `runSteps_chain_wp` makes `IssuedRel` an invariant of every run,
hence of every history. -/
theorem issued_history (g : Generator) (hg : g.Sound) (steps : List Step) (ca : String)
    (hca : ∀ c ∈ caNames steps, c = ca) (runs : List (Plan × Nat)) (s : Store) :
    ∀ x ∈ history g steps runs s, IssuedOk ca (leafRefs steps) s x := by
  refine fun x hx => (history_inv g steps (IssuedRel ca (leafRefs steps) s) (fun pl n t ht => ?_) runs s
    ⟨fun _ _ hne => absurd rfl hne, keptFrom_refl _ s⟩ x hx).1
  have hw := ((runSteps_chain_wp g hg steps ca hca n 0 t).rely (R := Eq) fun _ _ e => e ▸ keptFrom_refl _ _).and_issues
    (runSteps_issues_safe g steps [ca] (fun c hc => by simp [hca c hc]) n 0)
  exact hw.reach ht (fun _ _ hi hg => exec_issuedRel hi hg.1 hg.2) pl 0

end Xp.C20
