import Xp.Proofs.C06Inv
/-
C06, executions: the identity of the claim and the kind of world never change along `Reach` (`reach_me_peers`);
the scheduled runner of the correspondence driver (`runRec`: fault plan + scripted environment actions at call
boundaries) only produces states of the interleaved system (`runRec_reach`); admissible initial stores (`Init`,
`Init.single`); `isBound`; `stepOk` for example executions and the reconcile that finds its XR bound to another
claim (`unbound_reconcile_ends`).
-/
namespace Xp.C06

theorem reach_me_peers {s0 : St} {sys : Sys} (hr : Reach s0 sys) : sys.st.me = s0.me ∧ sys.st.peers = s0.peers := by
  induction hr with
  | init => exact ⟨rfl, rfl⟩
  | step a b _ hstep ih =>
    cases hstep with
    | env s s' t he => exact ⟨(env_me_peers he).1.trans ih.1, (env_me_peers he).2.trans ih.2⟩
    | start s t cfg => exact ih
    | callOk s r k => exact ⟨(exec_me_peers s r).1.trans ih.1, (exec_me_peers s r).2.trans ih.2⟩
    | callErr s r k e he => exact ih
    | callLost s r k e he => exact ⟨(exec_me_peers s r).1.trans ih.1, (exec_me_peers s r).2.trans ih.2⟩
    | done s a => exact ih

theorem reach_env_fold {s0 : St} (acts : List EnvAct) (s : St) (t : Option P) (h : Reach s0 ⟨s, t⟩)
    (ha : ∀ a ∈ acts, a.adm s0.peers s0.me) : Reach s0 ⟨acts.foldl applyEnv s, t⟩ := by
  induction acts generalizing s with
  | nil => exact h
  | cons a as ih =>
    simp only [List.foldl_cons]
    have hmp := reach_me_peers h
    have hadm : a.adm s.peers s.me := by
      have := ha a List.mem_cons_self
      rw [hmp.1, hmp.2]; exact this
    apply ih _ _ (fun b hb => ha b (List.mem_cons_of_mem _ hb))
    rcases applyEnv_env s a hadm with e | e
    · rw [e]; exact h
    · exact Reach.step _ _ h (Step.env s _ t e)

theorem admissible_other (r : Req) : admissible r .other = true := by cases r <;> rfl

theorem admissible_fltErr (f : Flt) (r : Req) : admissible r (fltErr f r) = true := by
  have cls : ∀ e, admissible r (if admissible r e then e else .other) = true := by
    intro e
    split
    · assumption
    · exact admissible_other r
  cases f with
  | conflict =>
    show admissible r (if r.isWrite then .conflict else .other) = true
    split
    · cases r <;> rfl
    · exact admissible_other r
  | cls e => exact cls e
  | lost e => exact cls e
  | ok | fail | crashBefore | crashAfter => exact admissible_other r

theorem runRec_reach {s0 : St} (plan : Nat → Flt) (env : Nat → List EnvAct) (henv : ∀ k, ∀ a ∈ env k, a.adm s0.peers s0.me)
    (k : Nat) (p : P) (s : St)
    (h : Reach s0 ⟨s, some p⟩) : ∃ t, Reach s0 ⟨(runRec plan env k p s).1, t⟩ := by
  induction p generalizing k s with
  | ret a => exact ⟨_, h⟩
  | call r c ih =>
    unfold runRec
    split
    · exact ih _ _ _ (reach_env_fold _ _ _ (Reach.step _ _ h (Step.callOk s r c)) (henv k))
    · exact ⟨_, reach_env_fold _ _ _ h (henv k)⟩
    · exact ⟨_, reach_env_fold _ _ _ (Reach.step _ _ h (Step.callOk s r c)) (henv k)⟩
    · exact ih _ _ _ (reach_env_fold _ _ _ (Reach.step _ _ h (Step.callLost s r c _ (admissible_fltErr _ r))) (henv k))
    · exact ih _ _ _ (reach_env_fold _ _ _ (Reach.step _ _ h (Step.callErr s r c _ (admissible_fltErr _ r))) (henv k))

/-- Admissible initial stores: nothing has happened yet (empty ghost trace), the claim's
version history is well formed (strictly increasing rv, set-once reference, the stored
version is the newest), and an XR already bound to this claim is one the claim
references or referenced. -/
structure Init (s0 : St) : Prop where
  trace : s0.trace = []
  rvLt : ∀ v ∈ s0.hist, v.rv < s0.nextRv
  hist : HistOk s0.hist
  cur : ∀ c, s0.claim = some c → ∃ t, s0.hist = c :: t
  bound : ∀ n, boundAt s0 n → acked s0 n
  /-- every stored version of the claim is the object the reconciler is keyed on -/
  idOk : ∀ v ∈ s0.hist, v.id = s0.me
  xcur : ∀ n, s0.xrs n ∈ s0.xhist n
  xfor : ∀ n, foreignAt s0 n → ∀ ox ∈ s0.xhist n, ∃ x, ox = some x ∧ x.foreignTo s0.me
  /-- resourceVersions of XR states are below the counter and identify the claimRef -/
  xrvLt : ∀ n x, some x ∈ s0.xhist n → x.rv < s0.nextRv
  rvU : ∀ n a b, some a ∈ s0.xhist n → some b ∈ s0.xhist n → a.rv = b.rv → a.cref = b.cref

/- `Init` is the hypothesis of the theorems of Props/C06: an empty trace and the clauses of `Inv` that mention neither the
trace nor `P0`; the other four (`ackd`, `ackHist`, `p0`, `trace`) hold of the empty trace with `P0 := acked s0`. -/
theorem Init.inv {s0 : St} (h : Init s0) : Inv (acked s0) s0 where
  rvLt := h.rvLt
  mono := h.hist
  cur := h.cur
  bound := h.bound
  ackd := fun _ ha => Or.inr ha
  ackHist := fun n hn => by rw [h.trace] at hn; cases hn
  p0 := fun _ hn => hn
  trace := by rw [h.trace]; trivial
  idOk := h.idOk
  xcur := h.xcur
  xfor := h.xfor
  xrvLt := h.xrvLt
  rvU := h.rvU

/-- The usual start: the claim has a single stored version. -/
theorem Init.single {s0 : St} {c : Claim} (hc : s0.claim = some c) (hh : s0.hist = [c]) (hrv : c.rv < s0.nextRv)
    (ht : s0.trace = []) (hid : c.id = s0.me) (hb : ∀ n, boundAt s0 n → c.refName = some n)
    (hx : ∀ n, s0.xhist n = [s0.xrs n]) (hxrv : ∀ n x, s0.xrs n = some x → x.rv < s0.nextRv) : Init s0 :=
  have one : ∀ {v}, v ∈ s0.hist → v = c := fun hv => List.mem_singleton.mp (hh ▸ hv)
  have xone : ∀ {n ox}, ox ∈ s0.xhist n → ox = s0.xrs n := fun h => List.mem_singleton.mp (hx _ ▸ h)
  { trace := ht
    rvLt := fun _ hv => one hv ▸ hrv
    hist := hh ▸ List.pairwise_singleton _ _
    cur := fun _ hc' => ⟨[], Option.some.inj (hc.symm.trans hc') ▸ hh⟩
    bound := fun n hn => ⟨c, hh ▸ List.mem_singleton.mpr rfl, hb n hn⟩
    idOk := fun _ hv => one hv ▸ hid
    xcur := fun n => hx n ▸ List.mem_singleton.mpr rfl
    xfor := fun _ ⟨_, x, hxn, hc⟩ _ hox => ⟨x, (xone hox).trans hxn, hc⟩
    xrvLt := fun n x hm => hxrv n x (xone hm).symm
    rvU := fun _ _ _ ha hb _ => congrArg XR.cref (Option.some.inj ((xone ha).trans (xone hb).symm)) }

/-- for the example stores, whose `xrs` is such a lookup -/
theorem xrs_two {a b n : Name} {A B x : XR} (h : (if n = a then some A else if n = b then some B else none) = some x) :
    x = A ∨ x = B := by
  split at h
  · exact Or.inl (Option.some.inj h).symm
  · split at h
    · exact Or.inr (Option.some.inj h).symm
    · cases h

def isBound (s : St) (n : Name) : Bool :=
  match s.xrs n with
  | some x => x.cref == some s.me
  | none => false

theorem isBound_iff (s : St) (n : Name) : isBound s n = true ↔ boundAt s n := by
  unfold isBound boundAt
  cases h : s.xrs n with
  | none => simp
  | some x => simp

def stepOk : Sys → Sys
  | ⟨s, some (.call r k)⟩ => ⟨(exec s r).1, some (k (exec s r).2)⟩
  | sys => sys

theorem stepOk_reach {s0 : St} {sys : Sys} (h : Reach s0 sys) : Reach s0 (stepOk sys) := by
  obtain ⟨s, t⟩ := sys
  cases t with
  | none => exact h
  | some p =>
    cases p with
    | ret a => exact h
    | call r k => exact Reach.step _ _ h (Step.callOk s r k)

/-- a reconcile whose claim references an XR that carries another claim's reference reads the claim, reads the XR, writes
the claim's status and returns: no request is addressed to the XR -/
theorem unbound_reconcile_ends (s : St) (cfg : Cfg) (cm : Claim) (n : Name) (x : XR)
    (hp : cfg.pick = none) (hxp : cfg.xpick 0 = none) (hc : s.claim = some cm) (href : cm.refName = some n)
    (hx : s.xrs n = some x) (hu : unbound cm x = true) :
    stepOk (stepOk (stepOk ⟨s, some (reconcile cfg)⟩)) = ⟨(pushClaim s cm).1, some (.ret .ok)⟩ := by
  have getClaim : stepOk ⟨s, some (reconcile cfg)⟩ = ⟨s, some (withClaim cfg cm)⟩ := by
    simp only [stepOk, reconcile, exec, hp, hc, Option.bind_none]
  have getXR : stepOk ⟨s, some (withClaim cfg cm)⟩ = ⟨s, some (statusThen cm .ok)⟩ := by
    simp only [stepOk, withClaim, href, exec, hxp, hx, Option.bind_none, checked, hu, if_true]
  have status : stepOk ⟨s, some (statusThen cm .ok)⟩ = ⟨(pushClaim s cm).1, some (.ret .ok)⟩ := by
    simp only [stepOk, statusThen, exec, hc, ne_eq, not_true_eq_false, if_false]
  rw [getClaim, getXR, status]

end Xp.C06
