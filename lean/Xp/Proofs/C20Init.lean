import Xp.Proofs.C20Done
/-
C20: composition – a completed run of a step list is a `Chain` of completed steps (`runSteps_chain`); if every step
is `okAfter` the earlier ones, every step's post-condition holds at its end (`runSteps_done`, a `Chain.done`), and
a state where they all hold is a fixpoint of the whole run (`runSteps_fix`); the step list of core.initCommand.Run:
its hypotheses `InitHyp`, `initSteps_pairwise` (through `okAfter_of_lt`), `init_done`; what the post-conditions say
about the CA bundle, wherever they hold (`bundle_of_done`); the hypotheses survive an abort (`initHyp_reach`), so
that a completing re-run after any history of runs reaches the fixpoint (`rerun_after_history`).
-/
namespace Xp.C20
open Xp

variable {α β : Type}

theorem step_pkgs_frame (g : Generator) (n : Nat) (st : Step) (hc : stepComp st ≠ .pkgs) (plan : Plan) (k : Nat) (s : Store) :
    ∀ x ∈ reach sem plan k (st.prog g n) s, x.pkgs = s.pkgs := by
  refine reach_inv sem (fun y => y.pkgs = s.pkgs) (Only (stepComp st)) ?_ plan k _ (step_issues_only g n st) s rfl
  intro y r hy hq
  rw [← hy]
  exact frame_pkgs y r (only_comp_ne hq (Ne.symm hc))

theorem installHyp_of_pkgs {p c f : List Img} {s x : Store} (e : x.pkgs = s.pkgs) (h : InstallHyp p c f s) :
    InstallHyp p c f x := by
  have hl : ∀ k, listing x k = listing s k := fun k => by simp only [listing, e]
  rw [installHyp_iff] at h ⊢
  exact ⟨fun k l => hl k ▸ h.1 k l, fun q hq q' hq' => h.2 q (e ▸ hq) q' (e ▸ hq')⟩

/-- a step keeps the hypothesis of a later step: only the installer's speaks of the store, and of its packages -/
theorem stepHyp_keeps (g : Generator) (n : Nat) {a b : Step} (h : okAfter a b = true) {s : Store} (hyp : StepHyp b s) :
    StepHyp b (evalOk (a.prog g n) s).1 := by
  cases b with
  | install p c f =>
    have ha : stepComp a ≠ .pkgs := by cases a <;> first | exact Comp.noConfusion | exact Bool.noConfusion h
    exact installHyp_of_pkgs (step_pkgs_frame g n a ha Plan.allOk 0 s _ (evalOk_reach (a.prog g n) s)) hyp
  | crds _ _ => exact hyp
  | whcs _ _ _ => exact hyp
  | _ => trivial

theorem runSteps_chain (g : Generator) {steps : List Step} {n d n' d' : Nat} {s t : Store}
    (hp : steps.Pairwise (fun a b => okAfter a b = true)) (hh : ∀ b ∈ steps, StepHyp b s)
    (h : evalOk (runSteps g steps n d) s = (t, (Res.ok, n', d'))) :
    Chain (fun st s t => StepHyp st s ∧ ∃ n n', evalOk (st.prog g n) s = (t, (Res.ok, n'))) steps s t ∧
    d' = d + steps.length := by
  induction steps generalizing n d s with
  | nil => cases h; exact ⟨.nil _, rfl⟩
  | cons b rest ih =>
    obtain ⟨hR, hp⟩ := List.pairwise_cons.mp hp
    unfold runSteps at h
    rw [evalOk_bind] at h
    cases hb : evalOk (b.prog g n) s with
    | mk u r =>
      obtain ⟨r, n1⟩ := r
      rw [hb] at h
      cases r with
      | ok =>
        obtain ⟨hc, hd⟩ := ih hp (fun c hc => by
          have := stepHyp_keeps g n (hR c hc) (hh c (by simp [hc]))
          rwa [hb] at this) h
        exact ⟨.cons ⟨hh b (by simp), n, n1, hb⟩ hc, by rw [hd, List.length_cons]; omega⟩
      | err e => cases h

theorem runSteps_done (g : Generator) {steps : List Step} {n d n' d' : Nat} {s t : Store}
    (hp : steps.Pairwise (fun a b => okAfter a b = true)) (hh : ∀ b ∈ steps, StepHyp b s)
    (h : evalOk (runSteps g steps n d) s = (t, (Res.ok, n', d'))) :
    (∀ a ∈ steps, StepDone a t) ∧ d' = d + steps.length := by
  obtain ⟨hc, hd⟩ := runSteps_chain g hp hh h
  refine ⟨hc.done (Done := StepDone) ?_ ?_ hp, hd⟩
  · rintro a s t ⟨hyp, n, n', e⟩
    exact step_establishes g n n' a s t hyp e
  · rintro a b s t hab ⟨_, n, n', e⟩ hd
    have := done_stable g n a b hab Plan.allOk 0 s hd _ (evalOk_reach (b.prog g n) s)
    rwa [e] at this

theorem runSteps_fix (g : Generator) (steps : List Step) (t : Store) (h : ∀ a ∈ steps, StepDone a t) (n d : Nat) :
    Fixes (runSteps g steps n d) t (.ok, n, d + steps.length) := by
  induction steps generalizing d with
  | nil => exact moves_ret _ t
  | cons b rest ih =>
    unfold runSteps
    rw [show d + (b :: rest).length = d + 1 + rest.length by simp; omega]
    exact moves_bind (step_fix g n b t (h b (by simp))) (ih (fun a ha => h a (by simp [ha])) (d + 1))

/-- hypotheses of `init_idempotent`: the webhook TLS secret is not the CA secret, the directories
declare every object once, and the requested packages are pairwise distinct (see `InstallHyp`) -/
structure InitHyp (cfg : Cfg) (s : Store) : Prop where
  names : cfg.webhook = true → cfg.server ≠ cfg.ca
  crds : (objNames cfg.crdDir.objs).Nodup
  whcs : (whcKeys cfg.whcDir.objs).Nodup
  pkgs : InstallHyp cfg.p cfg.c cfg.f s

theorem okAfter_tls (ca : String) (sv cl : Option TlsRef) (b : Step) : okAfter (.tls ca sv cl) b = true := by
  cases b <;> rfl

/-- `Step`'s constructors are in the order of core.initCommand.Run, and a step of a later kind never disturbs
the post-condition of a step of an earlier kind (only a TLS step, a step of the same kind, or CoreCRDs after a
migrator can) -/
theorem okAfter_of_lt {a b : Step} (h : a.ctorIdx < b.ctorIdx) : okAfter a b = true := by
  cases a <;> cases b <;> first | rfl | exact absurd h (of_decide_eq_false rfl)

theorem okAfter_cross {X Y : List Step} (n : Nat) (hX : ∀ a ∈ X, a.ctorIdx < n) (hY : ∀ b ∈ Y, n ≤ b.ctorIdx) :
    ∀ a ∈ X, ∀ b ∈ Y, okAfter a b = true :=
  fun a ha b hb => okAfter_of_lt (Nat.lt_of_lt_of_le (hX a ha) (hY b hb))

theorem migrators_pairwise : (migrators.map fun m => Step.mig m.1 m.2).Pairwise (fun a b => okAfter a b = true) := by
  decide

theorem initSteps_pairwise (cfg : Cfg) (h : cfg.webhook = true → cfg.server ≠ cfg.ca) :
    (initSteps cfg).Pairwise (fun a b => okAfter a b = true) := by
  unfold initSteps
  generalize hB : (if cfg.webhook then
        [Step.crds (some cfg.server) cfg.crdDir, Step.whcs cfg.server ⟨cfg.svcName, cfg.svcNs, cfg.svcPort⟩ cfg.whcDir]
      else [Step.crds none cfg.crdDir]) = B
  generalize hM : migrators.map (fun m => Step.mig m.1 m.2) = M
  -- CoreCRDs and WebhookConfigurations read `cfg.server`; the only later TLS step issues under `cfg.ca`
  have hBp : B.Pairwise (fun a b => okAfter a b = true) := by
    subst hB; split
    · exact List.pairwise_pair.2 rfl
    · exact List.pairwise_singleton _ _
  have hBk : ∀ a ∈ B, a.ctorIdx < 3 := by
    subst hB; split <;> exact of_decide_eq_true rfl
  have hBt : ∀ a ∈ B, ∀ sv cl, okAfter a (.tls cfg.ca sv cl) = true := by
    subst hB; intro a ha sv cl
    split at ha
    · rename_i hw
      have hne := h hw
      simp only [List.mem_cons, List.not_mem_nil, or_false] at ha
      rcases ha with rfl | rfl <;> simp [okAfter, hne]
    · rw [List.mem_singleton.1 ha]; rfl
  have hMk : ∀ a ∈ M, a.ctorIdx = 3 ∧ ∀ ca sv cl, okAfter a (.tls ca sv cl) = true := by
    subst hM; intro a ha; obtain ⟨m, _, rfl⟩ := List.mem_map.1 ha; exact ⟨rfl, fun _ _ _ => rfl⟩
  have hZ : ∀ b ∈ [Step.lock, .install cfg.p cfg.c cfg.f, .sc cfg.ns, .drc], 4 ≤ b.ctorIdx := of_decide_eq_true rfl
  have tls : ∀ {ca sv cl} {X : List Step}, ∀ a ∈ [Step.tls ca sv cl], ∀ b ∈ X, okAfter a b = true :=
    fun a ha b _ => by rw [List.mem_singleton.1 ha]; exact okAfter_tls _ _ _ b
  refine List.pairwise_append.2 ⟨List.pairwise_append.2 ⟨List.pairwise_append.2 ⟨List.pairwise_append.2
    ⟨List.pairwise_singleton _ _, hBp, tls⟩, hM ▸ migrators_pairwise, ?_⟩, ?_, ?_⟩, of_decide_eq_true rfl, ?_⟩
  · intro a ha
    rcases List.mem_append.1 ha with ha | ha
    · exact tls a ha
    · exact okAfter_cross 3 hBk (fun b hb => Nat.le_of_eq (hMk b hb).1.symm) a ha
  · split
    · exact List.pairwise_singleton _ _
    · exact List.Pairwise.nil
  · intro a ha b hb
    split at hb
    · rw [List.mem_singleton.1 hb]
      rcases List.mem_append.1 ha with ha | ha
      · rcases List.mem_append.1 ha with ha | ha
        · exact tls a ha _ (List.mem_singleton_self _)
        · exact hBt a ha _ _
      · exact (hMk a ha).2 _ _ _
    · cases hb
  · intro a ha
    rcases List.mem_append.1 ha with ha | ha
    · rcases List.mem_append.1 ha with ha | ha
      · rcases List.mem_append.1 ha with ha | ha
        · exact tls a ha
        · exact okAfter_cross 4 (fun a ha => Nat.lt_succ_of_lt (hBk a ha)) hZ a ha
      · exact okAfter_cross 4 (fun a ha => Nat.lt_succ_of_le (Nat.le_of_eq (hMk a ha).1)) hZ a ha
    · split at ha
      · exact tls a ha
      · cases ha

theorem mem_initSteps {cfg : Cfg} {st : Step} : st ∈ initSteps cfg ↔
    st = .tls cfg.ca (if cfg.webhook then some ⟨cfg.server, dnsNamesForService cfg.svcName cfg.svcNs⟩ else none)
      (some ⟨cfg.client, [cfg.sa ++ "." ++ cfg.ns]⟩) ∨
    st = .crds (if cfg.webhook then some cfg.server else none) cfg.crdDir ∨
    (cfg.webhook = true ∧ st = .whcs cfg.server ⟨cfg.svcName, cfg.svcNs, cfg.svcPort⟩ cfg.whcDir) ∨
    (∃ m ∈ migrators, st = .mig m.1 m.2) ∨
    (cfg.ess ≠ "" ∧ st = .tls cfg.ca (some ⟨cfg.ess, ["*." ++ cfg.ns]⟩) none) ∨
    st = .lock ∨ st = .install cfg.p cfg.c cfg.f ∨ st = .sc cfg.ns ∨ st = .drc := by
  unfold initSteps
  -- membership in the five segments, then the two sides differ by bracketing and `Step.mig .. = st` for `st = Step.mig ..`
  cases cfg.webhook <;> by_cases he : cfg.ess = "" <;>
    simp only [he, List.mem_append, List.mem_cons, List.mem_map, List.not_mem_nil, or_false, false_or, if_true, if_false,
      Bool.false_eq_true, ne_eq, not_true_eq_false, not_false_eq_true, true_and, false_and, or_assoc,
      @eq_comm _ (Step.mig _ _)]

theorem initSteps_hyp (cfg : Cfg) (s : Store) (h : InitHyp cfg s) : ∀ b ∈ initSteps cfg, StepHyp b s := by
  intro b hb
  rcases mem_initSteps.mp hb with rfl | rfl | ⟨_, rfl⟩ | ⟨m, _, rfl⟩ | ⟨_, rfl⟩ | rfl | rfl | rfl | rfl
  · trivial
  · exact h.crds
  · exact h.whcs
  · trivial
  · trivial
  · trivial
  · exact h.pkgs
  · trivial
  · trivial

theorem init_done (g : Generator) (cfg : Cfg) (s t : Store) (n n' d : Nat) (hyp : InitHyp cfg s)
    (h : evalOk (initProg g cfg n) s = (t, (Res.ok, n', d))) :
    (∀ a ∈ initSteps cfg, StepDone a t) ∧ d = (initSteps cfg).length := by
  obtain ⟨h1, h2⟩ := runSteps_done g (initSteps_pairwise cfg hyp.names) (initSteps_hyp cfg s hyp) h
  exact ⟨h1, by simpa using h2⟩

theorem crdFix_injected {f : CrdFile} {cb : Blob} {t : Store} (h : CrdFix f cb t) (hc : f.conv = true) :
    ∃ c, findCrd t f.name = some c ∧ c.conv = true ∧ c.bundle = cb := by
  obtain ⟨⟨c, hfind⟩, hall⟩ := h
  have hm : c ∈ t.crds := List.mem_of_find?_eq_some hfind
  have hn : c.name = f.name := by simpa [findCrd] using List.find?_some hfind
  have := hall c hm hn
  simp only [patchCrdWith, hc, Bool.or_true, if_true] at this
  refine ⟨c, hfind, ?_, ?_⟩
  · rw [← this]
  · rw [← this]

theorem whcFix_injected {f : WhcFile} {cb : Blob} {svc : Svc} {t : Store} (h : WhcFix f cb svc t) (hh : f.hooks ≠ []) :
    ∃ w, findWhc t f.kind (whcName f) = some w ∧ w.hooks = desiredHooks f cb svc := by
  obtain ⟨⟨w, hfind⟩, hall⟩ := h
  have hm : w ∈ t.whcs := List.mem_of_find?_eq_some hfind
  have hk : w.kind = f.kind ∧ w.name = whcName f := by simpa [findWhc] using List.find?_some hfind
  have := hall w hm hk
  have hd : desiredHooks f cb svc ≠ [] := by
    simp only [desiredHooks, ne_eq, List.map_eq_nil_iff]; exact hh
  simp only [patchWhcWith, hd, if_false] at this
  exact ⟨w, hfind, by rw [← this]⟩

theorem whcsDone_entries {ref : String} {svc : Svc} {d : Dir} {t : Store} (h : WhcsDone ref svc d t) :
    ∃ sec, findSecret t ref = some sec ∧ sec.crt ≠ .empty ∧
      ∀ f, FileObj.whc f ∈ d.objs → f.hooks ≠ [] →
        ∃ w, findWhc t f.kind (whcName f) = some w ∧ w.hooks = desiredHooks f sec.crt svc := by
  obtain ⟨cb, ⟨sec, hs, hcrt, hne⟩, _, hobjs⟩ := h
  refine ⟨sec, hs, hcrt ▸ hne, fun f hf hh => ?_⟩
  obtain ⟨f', e, hfix⟩ := hobjs _ hf
  cases e
  rw [hcrt]
  exact whcFix_injected hfix hh

theorem bundle_of_done {cfg : Cfg} {t : Store} (hw : cfg.webhook = true) (hd : ∀ a ∈ initSteps cfg, StepDone a t) :
    ∃ sec, findSecret t cfg.server = some sec ∧ sec.crt ≠ .empty ∧
      (∀ f, FileObj.crd f ∈ cfg.crdDir.objs → f.conv = true →
        ∃ c, findCrd t f.name = some c ∧ c.conv = true ∧ c.bundle = sec.crt) ∧
      (∀ f, FileObj.whc f ∈ cfg.whcDir.objs → f.hooks ≠ [] →
        ∃ w, findWhc t f.kind (whcName f) = some w ∧
          w.hooks = desiredHooks f sec.crt ⟨cfg.svcName, cfg.svcNs, cfg.svcPort⟩) := by
  obtain ⟨sec, hs, hne, hwhc⟩ := whcsDone_entries (hd (.whcs cfg.server ⟨cfg.svcName, cfg.svcNs, cfg.svcPort⟩ cfg.whcDir)
    (by simp [initSteps, hw]))
  obtain ⟨cb, ⟨sec', hs', hcrt, _⟩, _, hobjs⟩ := hd (.crds (some cfg.server) cfg.crdDir) (by simp [initSteps, hw])
  rw [hs] at hs'; cases hs'
  refine ⟨sec, hs, hne, fun f hf hconv => ?_, hwhc⟩
  obtain ⟨f', e, _, hfix⟩ := hobjs _ hf
  cases e
  rw [hcrt]
  exact crdFix_injected hfix hconv

theorem initHyp_reach (g : Generator) (cfg : Cfg) (plan : Plan) (k n d : Nat) (s : Store) (hyp : InitHyp cfg s) :
    ∀ x ∈ reach sem plan k (runSteps g (initSteps cfg) n d) s, InitHyp cfg x := by
  have hstep : ∀ st ∈ initSteps cfg, ∀ (plan : Plan) (k n : Nat) (t : Store), InstallHyp cfg.p cfg.c cfg.f t →
      ∀ x ∈ reach sem plan k (st.prog g n) t, InstallHyp cfg.p cfg.c cfg.f x := by
    intro st hst plan k n t ht x hx
    by_cases hi : stepComp st = .pkgs
    · -- the only installer step of the list installs cfg's images
      have : st = .install cfg.p cfg.c cfg.f := by
        rcases mem_initSteps.mp hst with rfl | rfl | ⟨_, rfl⟩ | ⟨m, _, rfl⟩ | ⟨_, rfl⟩ | rfl | rfl | rfl | rfl <;>
          first | rfl | cases hi
      subst this
      have hx' : x ∈ reach sem plan k (installStep cfg.p cfg.c cfg.f) t := by
        have := mem_reach_bind sem plan (installStep cfg.p cfg.c cfg.f) (fun r => (.ret (r, n) : P (Res × Nat))) k t x hx
        rcases this with h | ⟨a, k', _, h⟩
        · exact h
        · simp [reach] at h; rw [h]; exact run_mem_reach sem plan k _ t
      exact installHyp_reach plan k t cfg.p cfg.c cfg.f ht x hx'
    · exact installHyp_of_pkgs (step_pkgs_frame g n st hi plan k t x hx) ht
  intro x hx
  exact ⟨hyp.names, hyp.crds, hyp.whcs,
    runSteps_inv (InstallHyp cfg.p cfg.c cfg.f) g (initSteps cfg) hstep plan k n d s hyp.pkgs x hx⟩

theorem initHyp_history (g : Generator) (cfg : Cfg) (runs : List (Plan × Nat)) (s : Store) (hyp : InitHyp cfg s) :
    ∀ x ∈ history g (initSteps cfg) runs s, InitHyp cfg x :=
  history_inv g (initSteps cfg) (InitHyp cfg) (fun pl n t ht => initHyp_reach g cfg pl 0 n 0 t ht) runs s hyp

/-- Crash, then re-run, in general: after ANY history of runs from `s` (each aborted anywhere, or not), from any
instant `x` of it, a fault-free run that completes reaches every step's post-condition, which is a fixpoint of the
initialisation, with the TLS material and the defaults of the ORIGINAL cluster `s` intact. `init_idempotent` is the
case of no earlier run, `crash_then_rerun` the case of one. -/
theorem rerun_after_history (g : Generator) (cfg : Cfg) (s : Store) (hyp : InitHyp cfg s) (runs : List (Plan × Nat))
    (x : Store) (hx : x ∈ history g (initSteps cfg) runs s) {m m' d : Nat} {t : Store}
    (h : run sem Plan.allOk 0 (initProg g cfg m) x = (t, some (Res.ok, m', d))) :
    (∀ a ∈ initSteps cfg, StepDone a t) ∧
    (∀ k, run sem Plan.allOk 0 (initProg g cfg k) t = (t, some (Res.ok, k, d)) ∧
      ∀ y ∈ reach sem Plan.allOk 0 (initProg g cfg k) t, y = t) ∧
    KeptFrom (caNames (initSteps cfg)) s t ∧ Untouched s t := by
  obtain ⟨hd, hlen⟩ := init_done g cfg x t m m' d (initHyp_history g cfg runs s hyp x hx) (evalOk_of_run h)
  have ht : t ∈ history g (initSteps cfg) [(Plan.allOk, m)] x := by
    have := run_mem_reach sem Plan.allOk 0 (initProg g cfg m) x
    rw [h] at this
    exact List.mem_append_left _ this
  refine ⟨hd, fun k => ?_, keptFrom_trans (kept_history g _ runs s x hx) (kept_history g _ _ x t ht),
    untouched_trans (untouched_history g _ runs s x hx) (untouched_history g _ _ x t ht)⟩
  have := (runSteps_fix g (initSteps cfg) t hd k 0).run
  rwa [Nat.zero_add, ← hlen] at this

end Xp.C20
