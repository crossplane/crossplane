import Xp.Model.C20
/-
C20: fault-free evaluation over the C20 store (`statesOk`; `evalOk`, over `exec` itself, is the one the statements of
Props/C20 use: it is Base's `Xp.evalOk sem`, `evalOk_eq`, through which Base's lemmas reach it); `Moves` (a fault-free
run goes from `s` to `t`, returns `a` and shows no other store; `Fixes`: `t = s`) with its rules; and the two
composition principles of the loops: `Chain` (a completed run of a list of tasks: what holds at its end) and closure
under `ret` and `>>=` (what holds of every step holds of the initializer).
-/
namespace Xp.C20
open Xp

variable {α β : Type}

/-- result of a fault-free run -/
def evalOk : P α → Store → Store × α
  | .ret a, s => (s, a)
  | .call r c, s => evalOk (c (exec s r).2) (exec s r).1

/-- every store visible during a fault-free run -/
def statesOk : P α → Store → List Store
  | .ret _, s => [s]
  | .call r c, s => s :: statesOk (c (exec s r).2) (exec s r).1

theorem evalOk_eq (p : P α) (s : Store) : evalOk p s = Xp.evalOk sem p s := by
  induction p generalizing s with
  | ret a => rfl
  | call r c ih => exact ih _ _

theorem run_allOk (p : P α) (k : Nat) (s : Store) :
    run sem Plan.allOk k p s = ((evalOk p s).1, some (evalOk p s).2) := by
  rw [evalOk_eq]
  exact Xp.run_allOk sem k p s

theorem reach_allOk (p : P α) (k : Nat) (s : Store) :
    reach sem Plan.allOk k p s = statesOk p s := by
  induction p generalizing k s with
  | ret a => rfl
  | call r c ih =>
    show s :: reach sem Plan.allOk (k+1) (c (sem.exec s r).2) (sem.exec s r).1 = _
    rw [ih]; rfl

@[simp] theorem evalOk_ret (a : α) (s : Store) : evalOk (.ret a : P α) s = (s, a) := rfl
@[simp] theorem evalOk_call (r : Req) (c : Resp → P α) (s : Store) :
    evalOk (.call r c) s = evalOk (c (exec s r).2) (exec s r).1 := rfl

theorem evalOk_bind (p : P α) (f : α → P β) (s : Store) :
    evalOk (Prog.bind p f) s = evalOk (f (evalOk p s).2) (evalOk p s).1 := by
  simp only [evalOk_eq]
  exact Xp.evalOk_bind sem p f s

theorem statesOk_bind {p : P α} {f : α → P β} {s x : Store} (h : x ∈ statesOk (Prog.bind p f) s) :
    x ∈ statesOk p s ∨ x ∈ statesOk (f (evalOk p s).2) (evalOk p s).1 := by
  rw [← reach_allOk _ 0] at h
  rcases mem_reach_bind sem Plan.allOk p f 0 s x h with h | ⟨a, k', ha, h⟩
  · exact .inl (reach_allOk p 0 s ▸ h)
  · rw [run_allOk] at ha h
    cases ha
    exact .inr (reach_allOk _ k' _ ▸ h)

theorem start_mem_statesOk (p : P α) (s : Store) : s ∈ statesOk p s := by
  cases p <;> simp [statesOk]

theorem end_mem_statesOk (p : P α) (s : Store) : (evalOk p s).1 ∈ statesOk p s := by
  induction p generalizing s with
  | ret a => simp [statesOk]
  | call r c ih => exact List.mem_cons_of_mem _ (ih _ _)

/-- A fault-free run of `p` from `s` ends in `t` with result `a` and shows no store but these two. Every leaf program of
the initializer is walked once, for `Moves p s (target s) a`; what it establishes and that its post-condition is a
fixpoint are then facts about the function `target`. -/
def Moves (p : P α) (s t : Store) (a : α) : Prop := evalOk p s = (t, a) ∧ ∀ x ∈ statesOk p s, x = s ∨ x = t

/-- a fault-free run of `p` from `s` returns `a` and leaves the store as it is at every instant -/
abbrev Fixes (p : P α) (s : Store) (a : α) : Prop := Moves p s s a

theorem Fixes.states {p : P α} {s : Store} {a : α} (h : Fixes p s a) : ∀ x ∈ statesOk p s, x = s :=
  fun x hx => (h.2 x hx).elim id id

theorem moves_ret (a : α) (s : Store) : Fixes (.ret a : P α) s a := ⟨rfl, fun _ hx => .inl (List.mem_singleton.mp hx)⟩

theorem moves_read {r : Req} {c : Resp → P α} {s t : Store} {a : α} {x : Resp} (he : exec s r = (s, x))
    (h : Moves (c x) s t a) : Moves (.call r c) s t a := by
  refine ⟨by rw [evalOk_call, he]; exact h.1, fun y hy => ?_⟩
  rw [statesOk, he] at hy
  exact (List.mem_cons.mp hy).elim .inl (h.2 y)

/-- the one write: whatever follows only reads -/
theorem moves_write {r : Req} {c : Resp → P α} {s t : Store} {a : α} {x : Resp} (he : exec s r = (t, x))
    (h : Fixes (c x) t a) : Moves (.call r c) s t a := by
  refine ⟨by rw [evalOk_call, he]; exact h.1, fun y hy => ?_⟩
  rw [statesOk, he] at hy
  exact (List.mem_cons.mp hy).imp id (h.states y)

theorem moves_bind {p : P α} {f : α → P β} {s t : Store} {a : α} {b : β} (hp : Fixes p s a) (hf : Moves (f a) s t b) :
    Moves (Prog.bind p f) s t b := by
  refine ⟨by rw [evalOk_bind, hp.1]; exact hf.1, fun x hx => ?_⟩
  rcases statesOk_bind hx with e | e
  · exact .inl (hp.states x e)
  · rw [hp.1] at e; exact hf.2 x e

theorem Moves.fixes {p : P α} {s t : Store} {a : α} (h : Moves p s t a) (e : t = s) : Fixes p s a := e ▸ h

theorem Moves.eq {p : P α} {s t t' : Store} {a a' : α} (h : Moves p s t a) (h' : evalOk p s = (t', a')) : t' = t ∧ a' = a := by
  cases h.1.symm.trans h'; exact ⟨rfl, rfl⟩

theorem fixes_forEach {γ : Type} {body : γ → P Res} {l : List γ} {s : Store} (h : ∀ a ∈ l, Fixes (body a) s .ok) :
    Fixes (forEach body l) s .ok := by
  induction l with
  | nil => exact moves_ret _ s
  | cons a rest ih => exact moves_bind (h a (by simp)) (ih fun a ha => h a (by simp [ha]))

theorem evalOk_inv (Inv : Store → Prop) (Q : Req → Prop) (hstep : ∀ s r, Inv s → Q r → Inv (exec s r).1)
    (p : P α) (hp : Issues Q p) (s : Store) (hs : Inv s) : Inv (evalOk p s).1 := by
  have := reach_inv sem Inv Q hstep Plan.allOk 0 p hp s hs
  rw [reach_allOk] at this
  exact this _ (end_mem_statesOk p s)

theorem evalOk_of_run {p : P α} {s t : Store} {a : α} (h : run sem Plan.allOk 0 p s = (t, some a)) :
    evalOk p s = (t, a) := by
  rw [run_allOk] at h
  simp only [Prod.mk.injEq, Option.some.injEq] at h
  exact Prod.ext h.1 h.2

theorem Fixes.run {p : P α} {s : Store} {a : α} (h : Fixes p s a) :
    run sem Plan.allOk 0 p s = (s, some a) ∧ ∀ x ∈ reach sem Plan.allOk 0 p s, x = s := by
  rw [run_allOk, reach_allOk, h.1]
  exact ⟨rfl, h.states⟩

theorem evalOk_reach (p : P α) (s : Store) : (evalOk p s).1 ∈ reach sem Plan.allOk 0 p s := by
  rw [reach_allOk]; exact end_mem_statesOk p s

theorem run_ret (plan : Plan) (k : Nat) (a : α) (s : Store) : run sem plan k (.ret a : P α) s = (s, some a) := rfl

theorem run_bind (plan : Plan) (p : P α) (f : α → P β) (k : Nat) (s : Store) :
    (∃ a k', (run sem plan k p s).2 = some a ∧ run sem plan k (Prog.bind p f) s = run sem plan k' (f a) (run sem plan k p s).1) ∨
    ((run sem plan k p s).2 = none ∧ run sem plan k (Prog.bind p f) s = ((run sem plan k p s).1, none)) :=
  Xp.run_bind sem plan p f k s

/-! ### a completed run of a list of tasks

Every loop of the initializer (`forEach` over CRD files, webhook files, package requests; `runSteps` over the steps)
runs tasks one after the other and stops at the first error. `Chain T l s t`: the tasks `l` all completed, taking
`s` to `t`. `Chain.done` is the one composition argument of idempotence: every task establishes its post-condition
(`hE`) and no later task disturbs it (`hK`, for `a` before `b`: `R a b`), so all of them hold at the end. -/

inductive Chain {ι σ : Type} (T : ι → σ → σ → Prop) : List ι → σ → σ → Prop where
  | nil (s : σ) : Chain T [] s s
  | cons {a : ι} {l : List ι} {s u t : σ} : T a s u → Chain T l u t → Chain T (a :: l) s t

namespace Chain
variable {ι σ : Type} {T : ι → σ → σ → Prop} {l : List ι} {s t : σ}

theorem keeps {D : σ → Prop} (h : Chain T l s t) (hK : ∀ b ∈ l, ∀ s t, T b s t → D s → D t) (hs : D s) : D t := by
  induction h with
  | nil => exact hs
  | cons hT _ ih => exact ih (fun b hb => hK b (by simp [hb])) (hK _ (by simp) _ _ hT hs)

theorem done {Done : ι → σ → Prop} {R : ι → ι → Prop} (hE : ∀ a s t, T a s t → Done a t)
    (hK : ∀ a b s t, R a b → T b s t → Done a s → Done a t) (h : Chain T l s t) (hp : l.Pairwise R) :
    ∀ a ∈ l, Done a t := by
  induction h with
  | nil => exact fun _ ha => nomatch ha
  | cons hT hc ih =>
    obtain ⟨hR, hp⟩ := List.pairwise_cons.mp hp
    intro a ha
    rcases List.mem_cons.mp ha with rfl | ha
    · exact hc.keeps (fun b hb s t => hK a b s t (hR b hb)) (hE _ _ _ hT)
    · exact ih hp a ha

end Chain

theorem forEach_chain {γ : Type} {body : γ → P Res} {l : List γ} {s t : Store}
    (h : evalOk (forEach body l) s = (t, .ok)) : Chain (fun a s t => evalOk (body a) s = (t, .ok)) l s t := by
  induction l generalizing s with
  | nil => cases h; exact .nil _
  | cons a rest ih =>
    unfold forEach at h
    rw [evalOk_bind] at h
    cases hb : evalOk (body a) s with
    | mk u r =>
      rw [hb] at h
      cases r with
      | ok => exact .cons hb (ih h)
      | err e => cases h

/-! ### what `ret` and `>>=` preserve holds of the initializer

`J` is any property of programs that `ret` has and `>>=` preserves: issuing requests of a class only (`Issues Q`),
keeping an invariant at every instant under every plan, a rely/guarantee triple with the trivial post-condition. It
holds of the whole initializer as soon as it holds of every step. -/

theorem runSteps_closed {J : ∀ {α : Type}, P α → Prop} (hret : ∀ {α : Type} (a : α), J (.ret a : P α))
    (hbind : ∀ {α β : Type} {p : P α} {f : α → P β}, J p → (∀ a, J (f a)) → J (Prog.bind p f))
    (g : Generator) (steps : List Step) (h : ∀ st ∈ steps, ∀ n, J (st.prog g n)) (n d : Nat) :
    J (runSteps g steps n d) := by
  induction steps generalizing n d with
  | nil => exact hret _
  | cons st rest ih =>
    refine hbind (h st (by simp) n) ?_
    rintro ⟨r, n'⟩
    cases r with
    | ok => exact ih (fun st' hst => h st' (by simp [hst])) _ _
    | err e => exact hret _

theorem issues_forEach_mem {Q : Req → Prop} {γ : Type} {body : γ → P Res} (l : List γ)
    (h : ∀ a ∈ l, Issues Q (body a)) : Issues Q (forEach body l) := by
  induction l with
  | nil => exact .ret _
  | cons x xs ih =>
    refine Issues.bind (h x (by simp)) fun r => ?_
    cases r with
    | ok => exact ih fun a ha => h a (by simp [ha])
    | err t => exact .ret _

theorem issues_forEach {Q : Req → Prop} {γ : Type} {body : γ → P Res} (h : ∀ a, Issues Q (body a)) (l : List γ) :
    Issues Q (forEach body l) :=
  issues_forEach_mem l fun a _ => h a

end Xp.C20
