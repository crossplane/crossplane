import Xp.Proofs.C16
import Xp.Proofs.C16Store
/-
C16: what the real writes of Establish / ReleaseObjects can do to the store when nobody
else writes, as a reflexive-transitive relation on object lists.
-/
namespace Xp.C16

/-- `l'` arises from `l` by replacing objects `o` by `o'` with `Q o o'` (same key)
and by adding objects with fresh keys that satisfy `C`; nothing disappears. -/
structure Evolves (Q : Obj → Obj → Prop) (C : Obj → Prop) (l l' : List Obj) : Prop where
  fwd : ∀ o ∈ l, ∃ o' ∈ l', o'.key = o.key ∧ (o' = o ∨ Q o o')
  bwd : ∀ o' ∈ l', (∃ o ∈ l, o.key = o'.key ∧ (o' = o ∨ Q o o')) ∨ ((∀ o ∈ l, o.key ≠ o'.key) ∧ C o')

theorem Evolves.refl (Q : Obj → Obj → Prop) (C : Obj → Prop) (l : List Obj) : Evolves Q C l l :=
  ⟨fun o h => ⟨o, h, rfl, Or.inl rfl⟩, fun o h => Or.inl ⟨o, h, rfl, Or.inl rfl⟩⟩

theorem Evolves.trans {Q : Obj → Obj → Prop} {C : Obj → Prop} {l l' l'' : List Obj}
    (hQ : ∀ a b c, Q a b → Q b c → Q a c) (hC : ∀ a b, C a → Q a b → C b)
    (h1 : Evolves Q C l l') (h2 : Evolves Q C l' l'') : Evolves Q C l l'' := by
  have comp : ∀ {a b c : Obj}, (b = a ∨ Q a b) → (c = b ∨ Q b c) → (c = a ∨ Q a c) := by
    rintro a b c (rfl | q) (rfl | q')
    · exact Or.inl rfl
    · exact Or.inr q'
    · exact Or.inr q
    · exact Or.inr (hQ _ _ _ q q')
  constructor
  · intro o ho
    obtain ⟨o', ho', hk', hr'⟩ := h1.fwd o ho
    obtain ⟨o'', ho'', hk'', hr''⟩ := h2.fwd o' ho'
    exact ⟨o'', ho'', hk''.trans hk', comp hr' hr''⟩
  · intro o'' ho''
    rcases h2.bwd o'' ho'' with ⟨o', ho', hk', hr'⟩ | ⟨hnew, hc⟩
    · rcases h1.bwd o' ho' with ⟨o, ho, hk, hr⟩ | ⟨hnew, hc⟩
      · exact Or.inl ⟨o, ho, hk.trans hk', comp hr hr'⟩
      · refine Or.inr ⟨fun o ho e => hnew o ho (e.trans hk'.symm), ?_⟩
        rcases hr' with e | q'
        · subst e; exact hc
        · exact hC _ _ hc q'
    · refine Or.inr ⟨fun o ho e => ?_, hc⟩
      obtain ⟨o', ho', hk', _⟩ := h1.fwd o ho
      exact hnew o' ho' (hk'.trans e)

/-- nothing is deleted and no owner entry is dropped -/
def Kept (l l' : List Obj) : Prop :=
  ∀ o ∈ l, ∃ o' ∈ l', o'.key = o.key ∧ ∀ u, hasUid o.owners u → hasUid o'.owners u

theorem Kept.refl (l : List Obj) : Kept l l := fun o h => ⟨o, h, rfl, fun _ h => h⟩

theorem Kept.trans {l l' l'' : List Obj} (h1 : Kept l l') (h2 : Kept l' l'') : Kept l l'' := by
  intro o ho
  obtain ⟨o', ho', hk', hu'⟩ := h1 o ho
  obtain ⟨o'', ho'', hk'', hu''⟩ := h2 o' ho'
  exact ⟨o'', ho'', hk''.trans hk', fun u h => hu'' u (hu' u h)⟩

theorem Evolves.kept {Q : Obj → Obj → Prop} {C : Obj → Prop} {l l' : List Obj}
    (hQ : ∀ a b, Q a b → ∀ u, hasUid a.owners u → hasUid b.owners u) (h : Evolves Q C l l') : Kept l l' := by
  intro o ho
  obtain ⟨o', ho', hk, hr⟩ := h.fwd o ho
  exact ⟨o', ho', hk, hr.elim (fun e => e ▸ fun _ h => h) (hQ o o')⟩

theorem evolves_append (Q : Obj → Obj → Prop) (C : Obj → Prop) (l : List Obj) (n : Obj)
    (hnew : ∀ o ∈ l, o.key ≠ n.key) (hc : C n) : Evolves Q C l (l ++ [n]) := by
  constructor
  · intro o ho
    exact ⟨o, List.mem_append_left _ ho, rfl, Or.inl rfl⟩
  · intro o' ho'
    rcases List.mem_append.mp ho' with h | h
    · exact Or.inl ⟨o', h, rfl, Or.inl rfl⟩
    · simp at h; subst h
      exact Or.inr ⟨hnew, hc⟩

theorem evolves_replace (Q : Obj → Obj → Prop) (C : Obj → Prop) (l : List Obj) (c n : Obj)
    (hu : KeysUnique l) (hc : c ∈ l) (hk : n.key = c.key) (hq : Q c n) :
    Evolves Q C l (l.map fun x => if x.key = n.key then n else x) := by
  constructor
  · intro o ho
    by_cases e : o.key = n.key
    · have : o = c := hu o ho c hc (e.trans hk)
      subst this
      exact ⟨n, List.mem_map.mpr ⟨o, ho, by simp [e]⟩, hk, Or.inr hq⟩
    · exact ⟨o, List.mem_map.mpr ⟨o, ho, by simp [e]⟩, rfl, Or.inl rfl⟩
  · intro o' ho'
    obtain ⟨x, hx, hx'⟩ := List.mem_map.mp ho'
    by_cases e : x.key = n.key
    · simp only [e, if_true] at hx'
      subst hx'
      have : x = c := hu x hx c hc (e.trans hk)
      subst this
      exact Or.inl ⟨x, hx, e, Or.inr hq⟩
    · simp only [e, if_false] at hx'
      subst hx'
      exact Or.inl ⟨x, hx, rfl, Or.inl rfl⟩

theorem ceffect_evolves (Q : Obj → Obj → Prop) (C : Obj → Prop) (s s' : Store) (o : Obj)
    (h : CEffect s s' o)
    (hC : s.get o.key = none → ctrlCount o.owners ≤ 1 → C { o with rv := s.nextRv }) :
    Evolves Q C s.objs s'.objs := by
  cases h with
  | nothing h1 _ => rw [h1]; exact Evolves.refl _ _ _
  | created h1 h2 h3 _ =>
    rw [h3]
    exact evolves_append Q C _ _ (get_none h1) (hC h1 h2)

theorem ueffect_evolves (Q : Obj → Obj → Prop) (C : Obj → Prop) (s s' : Store) (o : Obj)
    (h : UEffect s s' o) (hw : WF s)
    (hQ : ∀ c, s.get o.key = some c → c.rv = o.rv → ctrlCount o.owners ≤ 1 → Q c { o with rv := s.nextRv }) :
    Evolves Q C s.objs s'.objs := by
  cases h with
  | nothing h1 _ => rw [h1]; exact Evolves.refl _ _ _
  | replaced c h1 h2 h3 h4 _ =>
    rw [h4]
    exact evolves_replace Q C s.objs c { o with rv := s.nextRv } hw.keys (get_mem h1)
      (get_key h1).symm (hQ c h1 h2 h3)

end Xp.C16
