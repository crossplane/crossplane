import Xp.Model.C17
/-
C17: the measure that bounds the recursion depth of the two depth-first searches (`unv`: keys not yet
visited), and TraceNode over an arbitrary neighbour function: `traceNode` returns exactly the reachable
nodes and never runs out of fuel (`traceG_spec`).
-/
namespace Xp.C17

/-- the number of keys not yet in `vis`: a search that visits a new key at every level of its recursion
needs no more fuel than this -/
def unv (ks vis : List String) : Nat := (ks.filter (fun k => !vis.contains k)).length

theorem filter_len_le {l : List String} {p q : String → Bool} (h : ∀ x, p x = true → q x = true) :
    (l.filter p).length ≤ (l.filter q).length := by
  rw [← List.countP_eq_length_filter, ← List.countP_eq_length_filter]
  exact List.countP_mono_left (fun x _ => h x)

theorem filter_len_lt {l : List String} {p q : String → Bool} (h : ∀ x, p x = true → q x = true)
    {n : String} (hn : n ∈ l) (hp : p n = false) (hq : q n = true) :
    (l.filter p).length < (l.filter q).length := by
  obtain ⟨l1, l2, rfl⟩ := List.append_of_mem hn
  have h1 := filter_len_le (l := l1) h
  have h2 := filter_len_le (l := l2) h
  simp only [List.filter_append, List.filter_cons, hp, hq, List.length_append, List.length_cons, if_true,
    Bool.false_eq_true, if_false]
  omega

theorem not_contains_iff {l : List String} {x : String} : (!l.contains x) = true ↔ x ∉ l := by simp

theorem not_contains {l : List String} {x : String} (h : x ∉ l) : l.contains x = false := by
  simpa using not_contains_iff.2 h

theorem unv_mono {ks vis vis' : List String} (h : ∀ x ∈ vis, x ∈ vis') : unv ks vis' ≤ unv ks vis :=
  filter_len_le fun x hx => not_contains_iff.2 fun hm => not_contains_iff.1 hx (h x hm)

theorem unv_cons_lt {ks vis : List String} {n : String} (h1 : n ∈ ks) (h2 : n ∉ vis) :
    unv ks (n :: vis) < unv ks vis :=
  filter_len_lt (fun _ hx => not_contains_iff.2 fun hm => not_contains_iff.1 hx (List.mem_cons_of_mem _ hm)) h1
    (Bool.eq_false_iff.2 fun h => not_contains_iff.1 h (List.mem_cons_self ..)) (not_contains_iff.2 h2)

section TraceProofs
variable (nb : String → Option (List String)) (ks : List String)

/-- what a run of `traceNode` / `traceNbrs` from `id` adds to the tree -/
structure TPost (id : String) (tree tree' : List String) : Prop where
  mono : ∀ x ∈ tree, x ∈ tree'
  expanded : ∀ x ∈ tree', x ∉ tree → ∀ y, Edge nb x y → y ∈ tree'
  keys : ∀ x ∈ tree', x ∈ ks
  sound : ∀ x ∈ tree', x ∈ tree ∨ Reach nb id x

/-- what `traceNode` owes at fuel `f` (the induction on the fuel in `traceNode_spec`): on a key, with
more fuel than keys outside the tree, it succeeds -/
def TraceSpec (f : Nat) (rec : String → List String → Except TraceErr (List String)) : Prop :=
  ∀ id tree, id ∈ ks → (∀ x ∈ tree, x ∈ ks) → unv ks tree < f →
    ∃ tree', rec id tree = .ok tree' ∧ TPost nb ks id tree tree' ∧ ∀ y, Edge nb id y → y ∈ tree'

variable (hks : ∀ n, (nb n).isSome = true ↔ n ∈ ks) (hclosed : Closed nb)
include hks hclosed

theorem traceNbrs_spec (f : Nat) (rec : String → List String → Except TraceErr (List String))
    (hrec : TraceSpec nb ks f rec) (id : String) :
    ∀ (ns tree : List String), (∀ n ∈ ns, Edge nb id n) → (∀ x ∈ tree, x ∈ ks) → unv ks tree ≤ f →
      ∃ tree', traceNbrs rec ns tree = .ok tree' ∧ TPost nb ks id tree tree' ∧ ∀ n ∈ ns, n ∈ tree' := by
  intro ns
  induction ns with
  | nil =>
    intro tree _ hk _
    exact ⟨tree, rfl, ⟨fun _ h => h, fun x hx hn => absurd hx hn, hk, fun x hx => Or.inl hx⟩, (fun _ h => by cases h)⟩
  | cons n rest ih =>
    intro tree hedges hk hf
    have hen : Edge nb id n := hedges n (List.mem_cons_self ..)
    have hedges' : ∀ x ∈ rest, Edge nb id x := fun x hx => hedges x (List.mem_cons_of_mem _ hx)
    unfold traceNbrs
    by_cases hin : n ∈ tree
    · have hb : tree.contains n = true := List.contains_iff_mem.2 hin
      simp only [hb, if_true]
      obtain ⟨t', e, p, d⟩ := ih tree hedges' hk hf
      refine ⟨t', e, p, ?_⟩
      intro x hx
      cases hx with
      | head => exact p.mono n hin
      | tail _ h => exact d x h
    · have hb : tree.contains n = false := not_contains hin
      simp only [hb, Bool.false_eq_true, if_false]
      have hnk : n ∈ ks := (hks n).1 (hclosed id n hen)
      have hk1 : ∀ x ∈ n :: tree, x ∈ ks := by
        intro x hx
        cases hx with
        | head => exact hnk
        | tail _ h => exact hk x h
      have hf1 : unv ks (n :: tree) < f := Nat.lt_of_lt_of_le (unv_cons_lt hnk hin) hf
      obtain ⟨t2, e2, p2, c2⟩ := hrec n (n :: tree) hnk hk1 hf1
      rw [e2]
      have hf2 : unv ks t2 ≤ f :=
        Nat.le_trans (unv_mono (fun x hx => p2.mono x (List.mem_cons_of_mem _ hx))) hf
      obtain ⟨t3, e3, p3, d3⟩ := ih t2 hedges' p2.keys hf2
      refine ⟨t3, e3, ⟨?_, ?_, p3.keys, ?_⟩, ?_⟩
      · intro x hx; exact p3.mono x (p2.mono x (List.mem_cons_of_mem _ hx))
      · intro x hx hnt y hxy
        by_cases hx2 : x ∈ t2
        · -- added by the recursive call (or n itself): expanded inside t2
          by_cases hxn : x = n
          · subst hxn; exact p3.mono y (c2 y hxy)
          · have : x ∉ n :: tree := by
              intro h
              cases h with
              | head => exact hxn rfl
              | tail _ h' => exact hnt h'
            exact p3.mono y (p2.expanded x hx2 this y hxy)
        · exact p3.expanded x hx hx2 y hxy
      · intro x hx
        cases p3.sound x hx with
        | inr h => exact Or.inr h
        | inl h =>
          cases p2.sound x h with
          | inr h' => exact Or.inr (.step hen h')
          | inl h' =>
            cases h' with
            | head => exact Or.inr (.edge hen)
            | tail _ h'' => exact Or.inl h''
      · intro x hx
        cases hx with
        | head => exact p3.mono n (p2.mono n (List.mem_cons_self ..))
        | tail _ h => exact d3 x h

theorem traceNode_spec : ∀ f, TraceSpec nb ks f (traceNode nb f) := by
  intro f
  induction f with
  | zero => intro id tree _ _ hf; exact absurd hf (Nat.not_lt_zero _)
  | succ f ih =>
    intro id tree hid hk hf
    unfold traceNode
    have hsome := (hks id).2 hid
    cases hn : nb id with
    | none => rw [hn] at hsome; cases hsome
    | some ns =>
      simp only []
      have hedges : ∀ n ∈ ns, Edge nb id n := by
        intro n h; unfold Edge; rw [hn]; exact h
      obtain ⟨t', e, p, d⟩ := traceNbrs_spec nb ks hks hclosed f (traceNode nb f) ih id ns tree hedges hk (Nat.le_of_lt_succ hf)
      refine ⟨t', e, p, ?_⟩
      intro y hy
      unfold Edge at hy; rw [hn] at hy
      exact d y hy

theorem traceG_spec (id : String) (hid : id ∈ ks) :
    ∃ t, traceG nb ks.length id = .ok t ∧ ∀ m, m ∈ t ↔ Reach nb id m := by
  have hu : unv ks [] < ks.length + 1 := by
    have : unv ks [] ≤ ks.length := by unfold unv; exact List.length_filter_le _ _
    omega
  obtain ⟨t, e, p, c⟩ := traceNode_spec nb ks hks hclosed (ks.length + 1) id [] hid (fun _ h => by cases h) hu
  refine ⟨t, e, ?_⟩
  intro m
  constructor
  · intro hm
    cases p.sound m hm with
    | inl h => cases h
    | inr h => exact h
  · intro hr
    have closed : ∀ x ∈ t, ∀ y, Edge nb x y → y ∈ t := fun x hx y hxy => p.expanded x hx (fun h => by cases h) y hxy
    have closedR : ∀ x y, Reach nb x y → x ∈ t → y ∈ t := by
      intro x y hxy
      induction hxy with
      | edge e => intro hx; exact closed _ hx _ e
      | step e _ ih => intro hx; exact ih (closed _ hx _ e)
    cases hr with
    | edge e => exact c m e
    | step e hr' => exact closedR _ _ hr' (c _ e)

end TraceProofs

end Xp.C17
