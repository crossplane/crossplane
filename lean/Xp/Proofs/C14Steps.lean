import Xp.Proofs.C14World
/-
What a reconcile does to the stored revisions, as a transition system (`Move`) over the phases of the
reconcile (`Phase`), and ONE symbolic execution of the reconciler against it (`reconcile_steps`), in the world of
Model/C14World.lean with the rely a parameter: whatever is kept by the rely and by every `Move` holds at
every instant, and of the final store in the phase reached.  The invariants of the property are families of
facts indexed by the phase, each shown closed under `Move` by cases.
-/
namespace Xp.C14

/-- what a Delete of `n` leaves of the stored revisions -/
def afterDelete (n : String) (l : List Rev) : List Rev :=
  match findRev n l with
  | some c => if c.fin then setRev { c with deleting := true } l else l.filter (fun r => r.name ≠ n)
  | none => l

theorem exec_deleteRev_revs (s : Store) (n : String) : (exec s (.deleteRev n)).1.revs = afterDelete n s.revs := by
  fun_cases afterDelete n s.revs with
  | case1 c hf hc => simp [exec, hf, hc] -- held by a finalizer: marked
  | case2 c hf hc => simp [exec, hf, hc] -- removed
  | case3 hf => simp [exec, hf] -- not stored

/-- where a reconcile stands: before its List of revisions is answered; in the revision loop, having been handed
package `p`, resolved the name `cur` and been listed `listed`, with `rest` still to visit; through the loop (and
the collector's Delete); after the write of the current revision, answered with the object `pr` -/
inductive Phase where
  | head
  | loop (p : Pkg) (cur : String) (listed rest : List Rev)
  | apply (p : Pkg) (cur : String) (listed : List Rev)
  | settled (p : Pkg) (cur : String) (listed : List Rev) (pr : Rev)

/-- One step of a reconcile of package `q` on the stored revisions `l`: the List (answered from a fresh cache) and
the writes the API server accepts, each with what it stores.  Reads, refused or failed writes and writes of the
package's status store no revision.  `K` says which packages the Get may have answered. -/
inductive Move (K : Pkg → Prop) (env : Env) (q : String) : Phase → List Rev → Phase → List Rev → Prop
  | list {p : Pkg} {cur : String} {l : List Rev} :
      K p → p.name = q → revisionName env p = .ok cur → cur ≠ "" →
      Move K env q .head l (.loop p cur (l.filter (labelled q)) (l.filter (labelled q))) l
  | skip {p : Pkg} {cur : String} {listed rest l : List Rev} {t : Rev} :
      t.name = cur ∨ t.state ≠ .active →
      Move K env q (.loop p cur listed (t :: rest)) l (.loop p cur listed rest) l
  | deact {p : Pkg} {cur : String} {listed rest l : List Rev} {t c : Rev} :
      t ∈ listed → t.name ≠ cur → t.state = .active → findRev t.name l = some c →
      Move K env q (.loop p cur listed (t :: rest)) l (.loop p cur listed rest)
        (setRev (mergeRev c { t with state := .inactive }) l)
  | looped {p : Pkg} {cur : String} {listed l : List Rev} :
      gcVictim p.spec.limit cur listed = none →
      Move K env q (.loop p cur listed []) l (.apply p cur listed) l
  | collect {p : Pkg} {cur : String} {listed l : List Rev} {v : Rev} :
      gcVictim p.spec.limit cur listed = some v →
      Move K env q (.loop p cur listed []) l (.apply p cur listed) (afterDelete v.name l)
  | patch {p : Pkg} {cur : String} {listed l : List Rev} {c : Rev} :
      p.name = q → findRev cur l = some c →
      Move K env q (.apply p cur listed) l (.settled p cur listed (mergeRev c (desiredCurrent p cur listed)))
        (setRev (mergeRev c (desiredCurrent p cur listed)) l)
  | create {p : Pkg} {cur : String} {listed l : List Rev} :
      p.name = q → findRev cur l = none →
      Move K env q (.apply p cur listed) l (.settled p cur listed { desiredCurrent p cur listed with deleting := false })
        (insertRev { desiredCurrent p cur listed with deleting := false } l)
  | relabel {p : Pkg} {cur : String} {listed l : List Rev} {pr c : Rev} :
      findRev pr.name l = some c →
      Move K env q (.settled p cur listed pr) l (.settled p cur listed { pr with labels := p.spec.labels, deleting := c.deleting })
        (setRev { pr with labels := p.spec.labels, deleting := c.deleting } l)

section walk
variable {Rl : World → World → Prop} {K : Pkg → Prop} {env : Env} {q : String} (Φ : Phase → List Rev → Prop)
  (hrely : ∀ ph a b, Rl a b → Φ ph a.live.revs → Φ ph b.live.revs)
  (hstep : ∀ {ph l ph' l'}, Move K env q ph l ph' l' → Φ ph l → Φ ph' l')

/-- the walk's invariant -/
def At (w : World) : Prop := ∃ ph, Φ ph w.live.revs

/-- a reconcile that reports `done c` has written the revision `c` and left it with the package's labels -/
def DoneAt (w : World) : Res → Prop
  | .done c _ => ∃ p listed pr, pr.labels = p.spec.labels ∧ Φ (.settled p c listed pr) w.live.revs
  | _ => True

/-- the verdict of an `Apply` in phase `ph`: answered with the object `m`, in phase `next m`; or not applied -/
def Applied (ph : Phase) (next : Rev → Phase) (w : World) : ApplyOut → Prop
  | .ok m => Φ (next m) w.live.revs
  | _ => Φ ph w.live.revs

include hrely in
theorem readCall_steps {α : Type} {Q : World → α → Prop} (ph : Phase) (r : Req) (c : Resp → P α) (w : World)
    (h : Φ ph w.live.revs) (hsame : ∀ a, (execW a r).1 = a) (hc : ∀ x a, Rl w a → TriA Rl (At Φ) Q (c x) a) :
    TriA Rl (At Φ) Q (.call r c) w := by
  intro a hr
  have ha := hrely ph _ _ hr h
  rw [hsame a]
  exact ⟨⟨ph, ha⟩, ⟨ph, ha⟩, hc _ a hr, fun _ => hc _ a hr⟩

include hrely in
theorem writeCall_steps {α : Type} {Q : World → α → Prop} (ph : Phase) (r : Req) (hw : isWrite r = true) (c : Resp → P α)
    (w : World) (h : Φ ph w.live.revs)
    (hex : ∀ a, Φ ph a.live.revs → (∃ e, execW a r = (a, .err e)) ∨
      (At Φ (execW a r).1 ∧ TriA Rl (At Φ) Q (c (execW a r).2) (execW a r).1))
    (herr : ∀ e a, Φ ph a.live.revs → TriA Rl (At Φ) Q (c (.err e)) a) : TriA Rl (At Φ) Q (.call r c) w := by
  intro a hr
  have ha := hrely ph _ _ hr h
  have key : At Φ (execW a r).1 ∧ TriA Rl (At Φ) Q (c (execW a r).2) (execW a r).1 := by
    rcases hex a ha with ⟨e, he⟩ | h'
    · rw [he]; exact ⟨⟨ph, ha⟩, herr e a ha⟩
    · exact h'
  exact ⟨⟨ph, ha⟩, key.1, key.2, fun e => by rw [failResp_write e _ hw]; exact herr e a ha⟩

include hrely in
theorem statusCall_steps {Q : World → Res → Prop} (ph : Phase) (n : String) (st : Status) (r : Res) (w : World)
    (h : Φ ph w.live.revs) (hq : ∀ w', Φ ph w'.live.revs → Q w' r) (hq' : ∀ w', Q w' .err) :
    TriA Rl (At Φ) Q (.call (.statusPkg n st) fun | .ok => .ret r | _ => .ret .err) w := by
  refine writeCall_steps Φ hrely ph _ rfl _ w h (fun a ha => .inr ?_) (fun _ a _ => hq' a)
  -- a write of the package's status stores no revision
  have hb : Φ ph (execW a (.statusPkg n st)).1.live.revs := by rw [(execW_statusPkg_revs a n st).1]; exact ha
  refine ⟨⟨ph, hb⟩, ?_⟩
  rcases execW_statusPkg_resp a n st with e | ⟨e', e⟩
  · rw [e]; exact hq _ hb
  · rw [e]; exact hq' _

include hrely in
theorem writeStep_steps (ph : Phase) (next : Rev → Phase) (r : Req) (hw : isWrite r = true) (w : World) (h : Φ ph w.live.revs)
    (hex : ∀ a, Φ ph a.live.revs →
      (∃ e, execW a r = (a, .err e)) ∨ ∃ a' m, execW a r = (a', .rev m) ∧ Φ (next m) a'.live.revs) :
    TriA Rl (At Φ) (Applied Φ ph next) (.call r fun x => .ret (writeOut x)) w :=
  writeCall_steps Φ hrely ph r hw _ w h
    (fun a ha => (hex a ha).imp_right fun ⟨a', m, he, h'⟩ => by rw [he]; exact ⟨⟨_, h'⟩, h'⟩)
    (fun e a ha => by cases e <;> exact ha)

include hrely in
theorem applyRev_steps (ph : Phase) (next : Rev → Phase) (d : Rev) (hasRV : Bool) (uid : String)
    (hpatch : ∀ l c, findRev d.name l = some c → Φ ph l → Φ (next (mergeRev c d)) (setRev (mergeRev c d) l))
    (hcreate : ∀ l, findRev d.name l = none → hasRV = false → Φ ph l →
      Φ (next { d with deleting := false }) (insertRev { d with deleting := false } l))
    (w : World) (h : Φ ph w.live.revs) : TriA Rl (At Φ) (Applied Φ ph next) (applyRev d hasRV uid) w := by
  unfold applyRev
  -- whatever the Get is answered (from the cache, or a failure of any class): Patch, Create or give up
  refine readCall_steps Φ hrely ph _ _ w h (fun a => by simp only [execW]; split <;> rfl) fun x a hr => ?_
  have ha := hrely ph _ _ hr h
  have hcr : TriA Rl (At Φ) (Applied Φ ph next) (.call (.createRev d hasRV) fun x => .ret (writeOut x)) a :=
    writeStep_steps Φ hrely ph next _ rfl a ha fun b hb => by
      rcases execW_createRev b d hasRV with h | ⟨hf, hv, he⟩
      · exact .inl h
      · exact .inr ⟨_, _, he, hcreate _ hf hv hb⟩
  have hpa : TriA Rl (At Φ) (Applied Φ ph next) (.call (.patchRev d) fun x => .ret (writeOut x)) a :=
    writeStep_steps Φ hrely ph next _ rfl a ha fun b hb => by
      rcases execW_patchRev b d with h | ⟨c, hf, he⟩
      · exact .inl h
      · exact .inr ⟨_, _, he, hpatch _ c hf hb⟩
  cases x with
  | rev cur =>
    show TriA _ _ _ (if controllable cur uid then _ else _) a
    by_cases hc : controllable cur uid = true
    · rw [if_pos hc]; exact hpa
    · rw [if_neg hc]; exact ha
  | err e =>
    cases e with
    | notFound => exact hcr
    | conflict => exact ha
    | other => exact ha
  | pkg _ => exact ha
  | revs _ => exact ha
  | ok => exact ha

include hrely hstep

theorem deactLoop_steps (p : Pkg) (cur : String) (listed : List Rev) (uid : String) (rest : List Rev)
    (hl : ∀ t ∈ rest, t ∈ listed) (w : World) (h : Φ (.loop p cur listed rest) w.live.revs) :
    TriA Rl (At Φ) (fun w' o => match o with | none => Φ (.loop p cur listed []) w'.live.revs | some r => DoneAt Φ w' r)
      (deactLoop uid cur rest) w := by
  fun_induction deactLoop uid cur rest generalizing w with
  | case1 => exact h
  | case2 t rest hc ih => -- the current revision: passed over
    exact ih (fun x hx => hl x (List.mem_cons_of_mem _ hx)) w (hstep (.skip (.inl hc)) h)
  | case3 t rest hc ha ih => -- Active: deactivated, or the loop gives up
    refine TriA.bind _ _ _ (applyRev_steps Φ hrely _ (fun _ => .loop p cur listed rest) { t with state := .inactive } true uid
      (fun l c hf h' => hstep (.deact (hl t List.mem_cons_self) hc ha hf) h') (fun _ _ hh => nomatch hh) w h) ?_
    intro w' out hq
    cases out with
    | ok _ => exact ih (fun x hx => hl x (List.mem_cons_of_mem _ hx)) w' hq
    | conflict => trivial
    | err => trivial
  | case4 t rest hc ha ih => -- not Active: passed over
    exact ih (fun x hx => hl x (List.mem_cons_of_mem _ hx)) w (hstep (.skip (.inr ha)) h)

omit hstep in
theorem finishStatus_steps (p : Pkg) (cur : String) (listed : List Rev) (pr : Rev) (hl : pr.labels = p.spec.labels)
    (w : World) (h : Φ (.settled p cur listed pr) w.live.revs) :
    TriA Rl (At Φ) (DoneAt Φ) (finishStatus p cur) w :=
  statusCall_steps Φ hrely _ _ _ _ w h (fun _ h' => ⟨p, listed, pr, hl, h'⟩)
    (fun _ => trivial)

theorem applyCurrent_steps (p : Pkg) (hp : p.name = q) (cur : String) (listed : List Rev) (w : World)
    (h : Φ (.apply p cur listed) w.live.revs) :
    TriA Rl (At Φ) (DoneAt Φ) (applyCurrent p cur listed) w := by
  unfold applyCurrent
  refine TriA.bind _ _ _ (applyRev_steps Φ hrely _ (.settled p cur listed) (desiredCurrent p cur listed) _ p.uid
    (fun l c hf h' => hstep (.patch hp hf) h') (fun l hf _ h' => hstep (.create hp hf) h') w h) ?_
  intro w' out hF
  cases out with
  | conflict => trivial
  | err => trivial
  | ok pr =>
    show TriA _ _ _ (if pr.labels = p.spec.labels then _ else _) w'
    by_cases hl : pr.labels = p.spec.labels
    · rw [if_pos hl]; exact finishStatus_steps Φ hrely p cur listed pr hl w' hF
    · rw [if_neg hl]
      refine writeCall_steps Φ hrely _ _ rfl _ w' hF (fun a hFa => ?_) (fun e a _ => by cases e <;> trivial)
      rcases execW_updateRev a { pr with labels := p.spec.labels } with h | ⟨c, hf, he⟩
      · exact .inl h
      · rw [he]
        have hF' : Φ (.settled p cur listed _)
            (patched a pr.name { pr with labels := p.spec.labels, deleting := c.deleting }).live.revs :=
          hstep (.relabel hf) hFa
        exact .inr ⟨⟨_, hF'⟩, finishStatus_steps Φ hrely p cur listed _ rfl _ hF'⟩

theorem stage2_steps (p : Pkg) (hp : p.name = q) (cur : String) (listed : List Rev) (w : World)
    (h : Φ (.loop p cur listed listed) w.live.revs) :
    TriA Rl (At Φ) (DoneAt Φ) (stage2 p cur listed) w := by
  unfold stage2 stage2With
  apply TriA.bind _ _ _ (deactLoop_steps Φ hrely hstep p cur listed p.uid listed (fun _ h => h) w h)
  intro w' o hL
  cases o with
  | some r => exact hL
  | none =>
    show TriA _ _ _ (match gcVictim p.spec.limit cur listed with | some v => _ | none => _) w'
    cases hv : gcVictim p.spec.limit cur listed with
    | none => exact applyCurrent_steps Φ hrely hstep p hp cur listed w' (hstep (.looped hv) hL)
    | some v =>
      refine writeCall_steps Φ hrely _ (.deleteRev v.name) rfl _ w' hL (fun a ha => .inr ?_) (fun _ _ _ => trivial)
      have hb : Φ (.apply p cur listed) (execW a (.deleteRev v.name)).1.live.revs := by
        show Φ _ (exec a.live (.deleteRev v.name)).1.revs
        rw [exec_deleteRev_revs]; exact hstep (.collect hv) ha
      refine ⟨⟨_, hb⟩, ?_⟩
      cases (execW a (.deleteRev v.name)).2 with
      | ok => exact applyCurrent_steps Φ hrely hstep p hp cur listed _ hb
      | err _ => trivial
      | pkg _ => trivial
      | revs _ => trivial
      | rev _ => trivial

theorem afterList_steps (p : Pkg) (hp : p.name = q) (listed : List Rev) (w : World) (h0 : Φ .head w.live.revs)
    (h : ∀ cur, revisionName env p = .ok cur → cur ≠ "" → Φ (.loop p cur listed listed) w.live.revs) :
    TriA Rl (At Φ) (DoneAt Φ) (afterList false env p listed) w := by
  unfold afterList
  refine readCall_steps Φ hrely .head _ _ w h0 (fun _ => rfl) fun x a hr => ?_
  have ha0 := hrely _ _ _ hr h0
  have hfail : TriA Rl (At Φ) (DoneAt Φ) ((.call (.statusPkg p.name p.status) fun _ => .ret Res.err : P Res)) a :=
    writeCall_steps Φ hrely .head _ rfl _ a ha0
      (fun b hb => .inr ⟨⟨.head, by rw [(execW_statusPkg_revs b _ _).1]; exact hb⟩, trivial⟩) (fun _ _ _ => trivial)
  have hst : ∀ r, (∀ w', DoneAt Φ w' r) → TriA Rl (At Φ) (DoneAt Φ) (statusThen p r) a := fun r hne =>
    statusCall_steps Φ hrely _ _ _ _ a ha0 (fun w' _ => hne w') (fun _ => trivial)
  cases x with
  | ok =>
    show TriA _ _ _ (match revisionName env p with | .error _ => _ | .ok cur => _) a
    cases hrn : revisionName env p with
    | error u => exact hst _ (fun _ => trivial)
    | ok cur =>
      show TriA _ _ _ (if cur = "" then _ else _) a
      by_cases hc : cur = ""
      · rw [if_pos hc]; exact hst _ (fun _ => trivial)
      · rw [if_neg hc]
        exact stage2_steps Φ hrely hstep p hp cur listed a (hrely _ _ _ hr (h cur hrn hc))
  | err _ => exact hfail
  | pkg _ => exact hfail
  | revs _ => exact hfail
  | rev _ => exact hfail

/-- The reconcile refines `Move`: at every instant the facts of some phase hold, and one that reports `done` ends
`settled`.  The revision cache has to be fresh at the List, hence at the start and under the rely. -/
theorem reconcile_steps (hview : ∀ a b, Rl a b → a.view.revs = none → b.view.revs = none) (k0 : Nat) (w0 : World)
    (hK : ∀ a p, Rl w0 a → (execW a (.getPkg q)).2 = .pkg p → K p)
    (hfresh : w0.view.revs = none) (h0 : Φ .head w0.live.revs) :
    TriAt (ListOk k0) Rl (At Φ) (DoneAt Φ) k0 (pkgReconcile env q) w0 := by
  unfold pkgReconcile reconcileWith
  intro a hq0
  have ha := hrely _ _ _ hq0 h0
  obtain ⟨el, ev⟩ := execW_getPkg_same a q
  have hb : Φ .head (execW a (.getPkg q)).1.live.revs := by rw [el]; exact ha
  have hfb : (execW a (.getPkg q)).1.view.revs = none := by rw [ev]; exact hview _ _ hq0 hfresh
  refine ⟨⟨_, ha⟩, ⟨_, hb⟩, ?_, ?_⟩
  · generalize (execW a (.getPkg q)).1 = w1 at hb hfb
    cases hresp : (execW a (.getPkg q)).2 with
    | pkg p =>
      have hpn : p.name = q := execW_getPkg_pkg _ _ _ hresp
      have hwrite : ∀ b, TriAt (ListOk k0) Rl (At Φ) (DoneAt Φ) (k0 + 1)
          (.call (.statusPkg q { p.status with pausedCond := b }) fun | .ok => .ret .paused | _ => .ret .err) w1 :=
        fun b => (statusCall_steps Φ hrely _ _ _ _ w1 hb (fun _ _ => trivial)
          (fun _ => trivial)).at _ _ _
      show TriAt _ _ _ _ (k0 + 1) (if p.spec.paused = true then _ else _) w1
      by_cases hpa : p.spec.paused = true
      · rw [if_pos hpa]
        exact hwrite true
      · rw [if_neg hpa]
        by_cases hpc : p.status.pausedCond = true
        · rw [if_pos hpc]
          exact hwrite false
        · rw [if_neg hpc]
          intro b hq1
          have hc := hrely _ _ _ hq1 hb
          have hfc := hview _ _ hq1 hfb
          have hl : (cachedRevs b).filter (fun r => r.parent = some q) = b.live.revs.filter (labelled q) := by
            simp only [cachedRevs, hfc, Option.getD_none]; rfl
          refine ⟨⟨_, hc⟩, ⟨_, hc⟩, ?_, ?_⟩
          · show TriAt _ _ _ _ _ (afterList false env p ((cachedRevs b).filter fun r => r.parent = some q)) _
            rw [hl]
            exact (afterList_steps Φ hrely hstep p hpn _ (execW b (.listRevs q)).1 hc
              fun cur hr hne => hstep (.list (hK a p hq0 hresp) hpn hr hne) hc).at _ _ _
          · intro e he
            have : failResp e (.listRevs q) = .err .other := by
              cases e with
              | notFound => exact absurd rfl (he rfl)
              | conflict => simp [failResp, isWrite]
              | other => simp [failResp, isWrite]
            rw [this]
            trivial
    | err e => cases e <;> trivial
    | revs _ => trivial
    | rev _ => trivial
    | ok => trivial
  · intro e _
    cases e <;> trivial

end walk

/-! ### at most one Active revision, among other clients -/

theorem quietR_afterDelete (n : String) (l : List Rev) : QuietR l (afterDelete n l) := by
  fun_cases afterDelete n l with
  | case1 c hf _ => -- marked
    exact quietR_setRev (findRev_some hf).1 rfl fun pn ax => by simpa [isActive, labelled] using ax
  | case2 => exact quietR_filter _ l -- removed
  | case3 => exact QuietR.refl l

/-- every Active non-current revision in the store is still to be visited by the loop -/
def Todo (pname cur : String) (l rest : List Rev) : Prop :=
  ∀ x ∈ l, isActive pname x = true → x.name ≠ cur → ∃ t ∈ rest, t.name = x.name ∧ t.state = .active

theorem Todo.tail {pname cur : String} {l rest : List Rev} {t : Rev} (h : Todo pname cur l (t :: rest))
    (hskip : t.name = cur ∨ t.state ≠ .active) : Todo pname cur l rest := by
  intro x hx ax hne
  obtain ⟨t', ht', e, st⟩ := h x hx ax hne
  rcases List.mem_cons.mp ht' with e2 | ht'
  · subst e2
    rcases hskip with hs | hs
    · exact absurd (e.symm.trans hs) hne
    · exact absurd st hs
  · exact ⟨t', ht', e, st⟩

theorem Todo.setRev {pname cur : String} {l rest : List Rev} {t m : Rev} (h : Todo pname cur l (t :: rest))
    (hn : m.name = t.name) (hm : isActive pname m = false) : Todo pname cur (setRev m l) rest := by
  intro x hx ax hne
  rcases mem_setRev hx with ⟨e, _⟩ | ⟨hx', hxn⟩
  · subst e; rw [hm] at ax; cases ax
  · obtain ⟨t', ht', e, st⟩ := h x hx' ax hne
    rcases List.mem_cons.mp ht' with e2 | ht'
    · subst e2; exact absurd (e.symm.trans hn.symm) hxn
    · exact ⟨t', ht', e, st⟩

theorem NoOther_of_Todo_nil {pname cur : String} {l : List Rev} (h : Todo pname cur l []) : NoOther pname cur l := by
  intro x hx ax
  by_cases hn : x.name = cur
  · exact hn
  · obtain ⟨t, ht, _⟩ := h x hx ax hn
    cases ht

theorem Todo.of_ActSub {pname cur : String} {new old rest : List Rev} (hs : ActSub pname new old)
    (h : Todo pname cur old rest) : Todo pname cur new rest := by
  intro x hx ax hne
  obtain ⟨y, hy, en, ay⟩ := hs x hx ax
  obtain ⟨t, ht, e1, e2⟩ := h y hy ay (en ▸ hne)
  exact ⟨t, ht, e1.trans en, e2⟩

/-- who may be Active among the revisions of `pname` in each phase of a reconcile of `q`: when `q` is `pname`, in the loop
every Active non-current revision is still to be visited, after it none but the current one is Active -/
def WFact (pname q : String) : Phase → List Rev → Prop
  | .head, _ => True
  | .loop _ cur _ rest, l => q = pname → Todo pname cur l rest
  | .apply _ cur _, l => q = pname → NoOther pname cur l
  | .settled _ cur _ pr, l => (q = pname → NoOther pname cur l) ∧ pr.name = cur ∧ pr.parent = some q

section world
variable {pname q : String} {ph ph' : Phase} {l l' : List Rev}

theorem WFact.quiet (h : WFact pname q ph l) (hs : ActSub pname l' l) : WFact pname q ph l' := by
  cases ph with
  | head => trivial
  | loop => exact fun e => (h e).of_ActSub hs
  | apply => exact fun e => NoOther_of_ActSub hs (h e)
  | settled => exact ⟨fun e => NoOther_of_ActSub hs (h.1 e), h.2⟩

/-- `WFact` needs no invariant of the store: the loop deactivates every other revision however many were Active -/
theorem WFact.move {K : Pkg → Prop} {env : Env} (st : Move K env q ph l ph' l') (h : WFact pname q ph l) :
    WFact pname q ph' l' := by
  cases st with
  | list _ _ _ _ =>
    -- the List was served from a fresh cache: every Active revision of the package is in it
    refine fun e x hx ax _ => ⟨x, List.mem_filter.mpr ⟨hx, ?_⟩, rfl, ?_⟩
    · simp only [isActive, Bool.and_eq_true] at ax; rw [e]; exact ax.1
    · simp only [isActive, Bool.and_eq_true, decide_eq_true_eq] at ax; exact ax.2
  | skip hs => exact fun e => (h e).tail hs
  | @deact _ _ _ _ _ t c _ _ _ hf =>
    exact fun e => (h e).setRev (findRev_some hf).2 (by simp [isActive, mergeRev])
  | looped _ => exact fun e => NoOther_of_Todo_nil (h e)
  | collect _ => exact fun e => NoOther_of_ActSub ((quietR_afterDelete _ _).2 pname) (NoOther_of_Todo_nil (h e))
  | @patch p cur listed _ c hp hf =>
    have hmn : (mergeRev c (desiredCurrent p cur listed)).name = cur := (findRev_some hf).2
    exact ⟨fun e => forall_mem_write (fun _ => mem_setRev_or) (fun _ => hmn) (h e), hmn,
      by simp [mergeRev, desiredCurrent_parent, hp]⟩
  | @create p cur listed _ hp hf =>
    exact ⟨fun e => forall_mem_write (m := { desiredCurrent p cur listed with deleting := false }) (fun _ => mem_insertRev.mp)
      (fun _ => rfl) (h e), rfl, by rw [← hp]; rfl⟩
  | @relabel p _ _ _ pr c hf =>
    exact ⟨fun e => forall_mem_write (m := { pr with labels := p.spec.labels, deleting := c.deleting }) (fun _ => mem_setRev_or)
      (fun _ => h.2.1) (h.1 e), h.2.1, h.2.2⟩

theorem InvL.write {cur : String} {new : List Rev} {m : Rev} (h : InvL pname l) (hno : q = pname → NoOther pname cur new)
    (hp : m.parent = some q) (hnd : (l.map (·.name)).Nodup → (new.map (·.name)).Nodup) (hnew : ∀ x ∈ new, x = m ∨ x ∈ l) :
    InvL pname new := by
  refine ⟨hnd h.1, ?_⟩
  by_cases e : q = pname
  · exact AMOl_of_NoOther (hno e)
  · -- `m` carries the label of another package: it is none of `pname`'s revisions
    refine AMOl_of_ActSub (fun x hx ax => ?_) h.2
    rcases hnew x hx with e1 | hx'
    · subst e1
      simp only [isActive, labelled, hp, Bool.and_eq_true, decide_eq_true_eq, Option.some.injEq] at ax
      exact absurd ax.1 e
    · exact ⟨x, hx', rfl, ax⟩

def WInv (pname q : String) (ph : Phase) (l : List Rev) : Prop := InvL pname l ∧ WFact pname q ph l

theorem WInv.quiet (h : WInv pname q ph l) (hq : QuietR l l') : WInv pname q ph l' :=
  ⟨h.1.quiet hq, h.2.quiet (hq.2 pname)⟩

theorem WInv.move {K : Pkg → Prop} {env : Env} (st : Move K env q ph l ph' l') (h : WInv pname q ph l) :
    WInv pname q ph' l' := by
  have h2 := h.2.move st
  refine ⟨?_, h2⟩
  cases st with
  | list _ _ _ _ => exact h.1
  | skip _ => exact h.1
  | deact _ _ _ hf =>
    -- the deactivating Patch is itself a step other clients could take
    exact h.1.quiet (quietR_setRev (findRev_some hf).1 rfl fun pn ax => by simp [isActive, mergeRev] at ax)
  | looped _ => exact h.1
  | collect _ => exact h.1.quiet (quietR_afterDelete _ _)
  | patch _ _ => exact h.1.write h2.1 h2.2.2 (by rw [names_setRev]; exact id) (fun _ => mem_setRev_or)
  | create _ hf => exact h.1.write h2.1 h2.2.2 (nodup_insertRev (findRev_none hf)) (fun _ => mem_insertRev.mp)
  | relabel _ => exact h.1.write h2.1 h2.2.2 (by rw [names_setRev]; exact id) (fun _ => mem_setRev_or)

end world

theorem reconcile_world {Rl : World → World → Prop} (hRl : ∀ a b, Rl a b → Quiet a b) (env : Env)
    (pname q : String) (k0 : Nat) (w0 : World) (hfresh : w0.view.revs = none) (hinv : InvL pname w0.live.revs) :
    TriAt (ListOk k0) Rl (At (WInv pname q)) (DoneAt (WInv pname q)) k0 (pkgReconcile env q) w0 :=
  reconcile_steps (K := fun _ => True) (WInv pname q) (fun _ _ _ hr h => h.quiet (hRl _ _ hr).2) WInv.move
    (fun _ _ hr => (hRl _ _ hr).1) k0 w0 (fun _ _ _ _ => trivial) hfresh ⟨hinv, trivial⟩

section corollaries
variable (env : Env) (pname q : String) (sc : Sched)
  (henv : ∀ k w, Quiet w (sc.env k w)) (hlist : sc.out 1 ≠ .fail .notFound) (w0 : World) (hfresh : w0.view.revs = none)
include henv hlist hfresh

theorem reconcile_reachW_InvL (hinv : InvL pname w0.live.revs) :
    ∀ w ∈ reachW sc 0 (pkgReconcile env q) w0, InvL pname w.live.revs := fun w hw =>
  (TriAt.reach sc henv (listOk_of hlist) 0 _ w0 ⟨.head, hinv, trivial⟩
    (reconcile_world (fun _ _ h => h) env pname q 0 w0 hfresh hinv) w hw).elim fun _ h => h.1

theorem reconcile_runW_done (r : Res) (hr : (runW sc 0 (pkgReconcile env q) w0).2 = some r) :
    QDone pname q (runW sc 0 (pkgReconcile env q) w0).1 r := by
  have h := TriAt.run sc henv (listOk_of hlist) 0 _ w0
    (reconcile_steps (K := fun _ => True) (WFact pname q) (fun _ _ _ hq h => h.quiet (hq.2.2 pname)) WFact.move
      (fun _ _ hq => hq.1) 0 w0 (fun _ _ _ _ => trivial) hfresh trivial) r hr
  intro c a e
  subst e
  obtain ⟨_, _, _, _, h'⟩ := h
  exact h'.1

end corollaries

/-! ### names, numbering and the spec copy, when nobody else writes -/

section plain
variable (env : Env) (pname : String) (s : Store)

/-- what the reconcile of `pname` from store `s` was told: the stored package, the name resolved for it, the stored
revisions of the package -/
structure Told (p : Pkg) (cur : String) (listed : List Rev) : Prop where
  pkg : s.pkg = some p
  name : p.name = pname
  resolved : revisionName env p = .ok cur
  listed : listed = s.revs.filter (labelled pname)

/-- a revision the reconcile may leave in the store: one stored at the start, under its name, number and label, or the
current revision with the number `dn` it gets.  The bounds on the numbers are read off this at the end (`reconcile_post`). -/
def Fits (cur : String) (dn : Int) (x : Rev) : Prop :=
  (∃ r0 ∈ s.revs, r0.name = x.name ∧ r0.number = x.number ∧ r0.parent = x.parent) ∨ (x.name = cur ∧ x.number = dn)

variable {env pname s}

theorem Told.cur {p : Pkg} {cur : String} {listed : List Rev} (h : Told env pname s p cur listed) : curOf env s = cur :=
  curOf_eq h.pkg h.resolved

theorem Fits.name {cur : String} {dn : Int} {x : Rev} (h : Fits s cur dn x) : x.name = cur ∨ ∃ r0 ∈ s.revs, r0.name = x.name :=
  h.elim (fun ⟨r0, h0, en, _⟩ => .inr ⟨r0, h0, en⟩) fun hc => .inl hc.1

theorem Fits.delete {cur : String} {dn : Int} {l : List Rev} (h : ∀ x ∈ l, Fits s cur dn x) (n : String) :
    ∀ x ∈ afterDelete n l, Fits s cur dn x := by
  fun_cases afterDelete n l with
  | case1 c hf _ => exact forall_mem_write (fun _ => mem_setRev_or) (h c (findRev_some hf).1) h -- marked
  | case2 => exact fun x hx => h x (List.mem_filter.mp hx).1 -- removed
  | case3 => exact h

/-- `pr` is stored, with what the Apply of the desired object `d` gave it -/
structure Written (d pr : Rev) (l : List Rev) : Prop where
  mem : pr ∈ l
  name : pr.name = d.name
  parent : pr.parent = d.parent
  number : pr.number = d.number
  state : pr.state = d.state
  image : pr.image = d.image
  leaves : KeysNodup d.extra → LeafCovers d.extra pr.extra

variable (env pname s)

/-- What is known in each phase of a reconcile of `pname` from store `s` when nobody else writes: nothing is written
before the List; from then on every stored revision `Fits`; once the current revision is written it is stored as `pr`. -/
def PInv : Phase → List Rev → Prop
  | .head, l => l = s.revs
  | .loop p cur listed _, l => Told env pname s p cur listed ∧ ∀ x ∈ l, Fits s cur (desiredCurrent p cur listed).number x
  | .apply p cur listed, l => Told env pname s p cur listed ∧ ∀ x ∈ l, Fits s cur (desiredCurrent p cur listed).number x
  | .settled p cur listed pr, l =>
    Told env pname s p cur listed ∧ (∀ x ∈ l, Fits s cur (desiredCurrent p cur listed).number x) ∧
    Written (desiredCurrent p cur listed) pr l

variable {env pname s}

theorem PInv.move {ph ph' : Phase} {l l' : List Rev} (st : Move (fun p => s.pkg = some p) env pname ph l ph' l')
    (h : PInv env pname s ph l) : PInv env pname s ph' l' := by
  cases st with
  | list hp hn hr _ => subst h; exact ⟨⟨hp, hn, hr, rfl⟩, fun x hx => .inl ⟨x, hx, rfl, rfl, rfl⟩⟩
  | skip _ => exact h
  | @deact p cur listed _ _ t c ht _ _ hf =>
    obtain ⟨hT, hK⟩ := h
    have htm : t ∈ s.revs ∧ labelled pname t = true := List.mem_filter.mp (hT.listed ▸ ht)
    -- the object stored keeps its name and gets the number and the label it was listed with
    refine ⟨hT, forall_mem_write (m := mergeRev c { t with state := .inactive }) (fun _ => mem_setRev_or)
      (.inl ⟨t, htm.1, (findRev_some hf).2.symm, rfl, ?_⟩) hK⟩
    have htp : t.parent = some pname := by simpa [labelled] using htm.2
    simp [mergeRev, htp]
  | looped _ => exact h
  | collect _ => exact ⟨h.1, Fits.delete h.2 _⟩
  | @patch p cur listed _ c _ hf =>
    obtain ⟨hT, hK⟩ := h
    obtain ⟨hcm, hcn⟩ := findRev_some hf
    have hmn : (mergeRev c (desiredCurrent p cur listed)).name = cur := hcn
    exact ⟨hT, forall_mem_write (fun _ => mem_setRev_or) (.inr ⟨hmn, rfl⟩) hK,
      { mem := mem_setRev_self hcm rfl, name := hmn, parent := rfl, number := rfl, state := rfl, image := rfl
        leaves := fun hk => getL_merge_mem _ c.extra hk }⟩
  | @create p cur listed _ _ hf =>
    obtain ⟨hT, hK⟩ := h
    exact ⟨hT, forall_mem_write (m := { desiredCurrent p cur listed with deleting := false }) (fun _ => mem_insertRev.mp)
        (.inr ⟨rfl, rfl⟩) hK,
      { mem := mem_insertRev.mpr (.inl rfl), name := rfl, parent := rfl, number := rfl, state := rfl, image := rfl
        leaves := fun hk => LeafCovers_self _ hk }⟩
  | @relabel p cur listed _ pr c hf =>
    obtain ⟨hT, hK, hW⟩ := h
    exact ⟨hT, forall_mem_write (m := { pr with labels := p.spec.labels, deleting := c.deleting }) (fun _ => mem_setRev_or)
        (.inr ⟨hW.name, hW.number⟩) hK,
      ⟨mem_setRev_self (findRev_some hf).1 (findRev_some hf).2, hW.name, hW.parent, hW.number, hW.state, hW.image, hW.leaves⟩⟩

theorem reconcile_plain (k : Nat) :
    TriAt (ListOk k) Eq (At (PInv env pname s)) (DoneAt (PInv env pname s)) k (pkgReconcile env pname) (World.fresh s) :=
  reconcile_steps (Rl := Eq) (PInv env pname s) (fun _ _ _ e h => e ▸ h) PInv.move (fun _ _ e h => e ▸ h) k _
    (fun a p e hr => by subst e; exact (exec_getPkg_pkg hr).1) rfl rfl

theorem PInv.names {ph : Phase} {l : List Rev} (h : PInv env pname s ph l) : NamesIn s.revs (curOf env s) l := by
  cases ph with
  | head => subst h; exact fun r hr => .inr ⟨r, hr, rfl⟩
  | loop => exact fun x hx => h.1.cur ▸ (h.2 x hx).name
  | apply => exact fun x hx => h.1.cur ▸ (h.2 x hx).name
  | settled => exact fun x hx => h.1.cur ▸ (h.2.1 x hx).name

variable (env pname)

theorem reconcile_reach_names (plan : Plan) (k : Nat) (s : Store) :
    ∀ s' ∈ reach sem plan k (pkgReconcile env pname) s, NamesIn s.revs (curOf env s) s'.revs := by
  intro s' hs'
  obtain ⟨w, e, ph, h⟩ := (reconcile_plain k).reach_plain plan _ _ _ ⟨.head, rfl⟩ s' hs'
  exact e ▸ h.names

theorem reconcile_post {B : Int} (hB : NumLeO pname (curOf env s) B s.revs) (plan : Plan) (s' : Store) (cur : String) (after : Bool)
    (hrun : run sem plan 0 (pkgReconcile env pname) s = (s', some (.done cur after))) :
    ∃ p, s.pkg = some p ∧ p.name = pname ∧ revisionName env p = .ok cur ∧
      Post pname p cur (desiredCurrent p cur (s.revs.filter (labelled pname))).number B s' := by
  obtain ⟨w, e, p, listed, pr, hl, hT, hK, hW⟩ := (reconcile_plain 0).run_plain plan _ _ _ s' _ hrun
  subst e
  -- a revision of the package that is not the current one has the number it had at the start
  have hnum : ∀ x ∈ w.live.revs, labelled pname x = true →
      x.number ≤ (desiredCurrent p cur listed).number ∧ (x.name ≠ cur → x.number ≤ B) := by
    intro x hx lx
    rcases hK x hx with ⟨r0, h0, en, enum, epar⟩ | ⟨en, enum⟩
    · have l0 : labelled pname r0 = true := by unfold labelled at lx ⊢; rw [epar]; exact lx
      have hm : r0 ∈ listed := hT.listed ▸ List.mem_filter.mpr ⟨h0, l0⟩
      exact enum ▸ ⟨Int.le_trans (le_maxRevision hm) (desiredCurrent_number p cur listed),
        fun hne => (hT.cur ▸ hB) r0 h0 l0 (en ▸ hne)⟩
    · exact ⟨Int.le_of_eq enum, fun hne => absurd en hne⟩
  obtain ⟨hp, hpn, hr, rfl⟩ := hT
  exact ⟨p, hp, hpn, hr, Post_iff.mpr ⟨pr, {
    mem := hW.mem, name := hW.name, number := hW.number, labels := hl, image := hW.image, leaves := hW.leaves
    parent := hW.parent.trans (congrArg some hpn)
    highest := fun x hx lx => hW.number ▸ (hnum x hx lx).1
    others := fun x hx lx => (hnum x hx lx).2
    active := fun hh => hW.state ▸ desiredCurrent_state p cur _ hh }⟩⟩

end plain

end Xp.C14
