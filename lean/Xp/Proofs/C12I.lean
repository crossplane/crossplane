import Xp.Proofs.C12F
/-
C12 under interference by ANY other client between two API calls (`Xp.Env`), any error class
(`Fault.reply`) and a lagging informer cache at every read (`semV`). `GoodReq`: the writes that keep
the history faithful and monotonic from any store; `Rp`: what is known of a reply; `issuesG_reach`: programs
all of whose requests are `GoodReq` along replies within `Rp` (`IssuesG`) keep `WF0` and `Le` at every
instant (`reconcile_issues`, `fetch_issues`). NOT kept under a lagging revision
list: the distinctness of numbers (`WF.nums`), and with it "the current content has the highest
number" (finding D22, refuted in `Props/C12.lean`). Then the pinned path of `Fetch` in the world of a lagging
cache (`manualTail_runX`), and `semV_fresh` (a fresh cache is the API server).
-/
namespace Xp.C12

variable {H : Naming} {D : Content → Prop}

/-- the writes the two programs may issue: an `Update` that keeps everything but the
number (which does not decrease), the owner and the resourceVersion; a `Create` of a
faithful revision with a positive number; writes of XRs -/
def GoodReq (H : Naming) (D : Content → Prop) : Req → Prop
  | .updateRev b r => Same b r
  | .createRev r => Faithful H D r ∧ 1 ≤ r.num
  | _ => True

/-- every admissible write keeps `WF0` and is a step of `Le`, from ANY store — in
particular from a store other clients have changed since the controller read it:
an `Update` is applied only if the stored revision still is the one that was read -/
theorem goodReq_step {s : Store} (w : WF0 H D s) {r : Req} (h : GoodReq H D r) :
    WF0 H D (exec s r).1 ∧ Le s (exec s r).1 := by
  cases r with
  | updateRev b r1 =>
    rcases exec_updateRev_cases s b r1 with e | e | ⟨hb, e⟩
    · rw [e]; exact ⟨w, Le.refl s⟩
    · rw [e]; exact ⟨w, Le.refl s⟩
    · rw [e]; exact update_ok0 w hb (show Same b { r1 with rv := b.rv + 1 } from h)
  | createRev r1 =>
    by_cases hex : ∃ x ∈ s.revs, x.name = r1.name
    · rw [exec_createRev_present hex]; exact ⟨w, Le.refl s⟩
    · have hname : ∀ x ∈ s.revs, x.name ≠ r1.name := fun x hx e => hex ⟨x, hx, e⟩
      rw [exec_createRev_absent hname]; exact create_ok0 w h.1 h.2 hname
  | _ => exact ⟨(exec_reads_relyT w.comps (by trivial)).wf0 w, (exec_reads_relyT w.comps (by trivial)).le⟩

/-- the informer cache only ever holds Compositions whose content lies in the domain -/
def ViewOK (D : Content → Prop) (v : View) : Prop := ∀ l, v.comps = some l → ∀ c ∈ l, D c.content

/-- `Rp D r x` ("reply"): what the programs may rely on in the reply `x` to the request `r`, however far the cache
lags (`exec_reply`) -/
def Rp (D : Content → Prop) (r : Req) (x : Resp) : Prop :=
  x.isErr = true ∨
  match r, x with
  | .getComp _, .comp c => D c.content
  | .updateRev _ r1, .rev r' => ∃ n, r' = { r1 with rv := n }
  | .getRev n, .rev r' => r'.name = n
  | _, _ => True

theorem semV_exec_store (v : View) (s : Store) (r : Req) : ((semV v).exec s r).1 = (exec s r).1 := by
  simp only [semV]
  split
  · rfl
  · rename_i h
    exact (exec_read (by simpa using h)).symm

theorem exec_reply {s : Store} (hs : ∀ c ∈ s.comps, D c.content) {v : View} (hv : ViewOK D v) (r : Req) :
    Rp D r ((semV v).exec s r).2 := by
  cases r with
  | getComp n =>
    show Rp D _ (exec (v.apply s) (.getComp n)).2
    simp only [exec]
    cases hf : (v.apply s).comps.find? (fun c => decide (c.name = n)) with
    | none => exact Or.inl rfl
    | some c =>
      -- the Composition comes from the cache if it holds Compositions, else from the store
      have hc : c ∈ (v.comps.getD s.comps) := List.mem_of_find?_eq_some hf
      cases hvc : v.comps with
      | none => rw [hvc] at hc; exact Or.inr (hs c hc)
      | some l => rw [hvc] at hc; exact Or.inr (hv l hvc c hc)
  | getRev n =>
    show Rp D _ (exec (v.apply s) (.getRev n)).2
    simp only [exec]
    cases hf : (v.apply s).revs.find? (fun y => decide (y.name = n)) with
    | none => exact Or.inl rfl
    | some y => exact Or.inr (find_name (f := Rev.name) hf)
  | updateRev b r1 =>
    show Rp D _ (exec s (.updateRev b r1)).2
    rcases exec_updateRev_cases s b r1 with e | e | ⟨_, e⟩
    · rw [e]; exact Or.inl rfl
    · rw [e]; exact Or.inl rfl
    · rw [e]; exact Or.inr ⟨_, rfl⟩
  | _ => exact Or.inr trivial

theorem issuesG_reach {α : Type} (v : Nat → View) (env : Env Store) (plan : FPlan) (hv : ∀ k, ViewOK D (v k))
    (henv : ∀ k s, WF0 H D s → WF0 H D (env k s) ∧ Le s (env k s)) (hplan : plan.errOnly)
    (p : P α) (hp : IssuesG (GoodReq H D) (Rp D) p) (k : Nat) (s : Store) (w : WF0 H D s) :
    Chain (WF0 H D) Le s (reachX (fun k => semV (v k)) env plan k p s) (runX (fun k => semV (v k)) env plan k p s).1 ∧
    ∀ x ∈ ownX (fun k => semV (v k)) env plan k p s, WF0 H D x.1 ∧ GoodReq H D x.2 :=
  have ⟨h1, h2, _⟩ := wp_sound (R := fun _ _ => True) (Post := fun _ _ _ => True) Le.refl Le.trans
    ⟨fun k => semV_exec_store (v k), fun k _ r w => exec_reply w.comps (hv k) r, fun _ => errResp_isErr, hplan, fun _ _ _ => trivial⟩
    henv (fun _ _ w h => goodReq_step w h) p false k s w (hp.wp (Rr := Rp D) (fun _ _ _ h => h) (fun _ _ he => Or.inl he) (fun _ _ _ => trivial) _ _)
  ⟨h1, h2⟩

theorem adopt_issues (uid : Nat) (l : List Rev) (k : List Rev → P Res)
    (hk : ∀ l', (∀ x ∈ l', x.ctrl = some uid) → IssuesG (GoodReq H D) (Rp D) (k l')) :
    IssuesG (GoodReq H D) (Rp D) (adoptLoop uid l k) := by
  fun_induction adoptLoop uid l k with
  | case1 k => exact hk [] (fun _ h => nomatch h)
  | case2 r rs k hc ih => exact ih fun l' h1 => hk _ (List.forall_mem_cons.mpr ⟨hc, h1⟩)
  | case3 => exact .ret _  -- controlled by somebody else
  | case4 r rs k _ _ ih =>
    refine .call _ _ ⟨rfl, rfl, rfl, rfl, rfl, Nat.le_refl _⟩ fun x hx => ?_
    cases x with
    | rev r' => ?_
    | _ => exact .ret _
    obtain ⟨n, e⟩ := hx.resolve_left (fun he => by cases he)
    exact ih r' fun l' h1 => hk _ (List.forall_mem_cons.mpr ⟨by rw [e], h1⟩)

theorem renum_issues (h : String) (latest : Nat) (rem : List Rev) (ex : Nat) (k : Nat → P Res)
    (hle : ∀ r ∈ rem, r.num ≤ latest) (hk : ∀ ex', IssuesG (GoodReq H D) (Rp D) (k ex')) :
    IssuesG (GoodReq H D) (Rp D) (renumLoop h latest rem ex k) := by
  fun_induction renumLoop h latest rem ex k with
  | case1 ex k => exact hk ex
  | case2 r rs ex k _ ih => exact ih (fun x hx => hle x (List.mem_cons_of_mem _ hx)) hk  -- the hash differs
  | case3 r rs ex k _ _ ih => exact ih (fun x hx => hle x (List.mem_cons_of_mem _ hx)) hk  -- it already carries `latest`
  | case4 r rs ex k _ _ ih =>  -- the `Update` to `latest + 1`
    refine .call _ _ ⟨rfl, rfl, rfl, rfl, rfl, Nat.le_succ_of_le (hle r List.mem_cons_self)⟩ fun x _ => ?_
    cases x with
    | rev _ => exact ih (fun x hx => hle x (List.mem_cons_of_mem _ hx)) hk
    | _ => exact .ret _

/-- **`Reconcile` only issues admissible writes**, as long as a Composition it reads lies in the domain and an
`Update` returns what was sent (`Rp`) -/
theorem reconcile_issues (name : String) : IssuesG (GoodReq H D) (Rp D) (reconcile H name) := by
  unfold reconcile
  refine .call _ _ trivial ?_
  intro x hx
  cases x with
  | comp c => ?_
  | _ => exact .ret _
  have hD : D c.content := hx.resolve_left (fun he => by cases he)
  simp only []
  split
  · exact .ret _
  · refine .call _ _ trivial ?_
    intro y _
    cases y with
    | revs l => ?_
    | _ => exact .ret _
    simp only []
    apply adopt_issues
    intro l' hctrl
    apply renum_issues
    · intro r hr; exact latestNum_ge c.uid l' r hr (hctrl r hr)
    · intro ex
      split
      · exact .ret _
      · refine .call _ _ ⟨⟨c.content, hD, rfl, rfl, rfl, rfl⟩, Nat.succ_le_succ (Nat.zero_le _)⟩ ?_
        intro z _
        cases z <;> exact .ret _

theorem fetch_issues (n : String) : IssuesG (GoodReq H D) (Rp D) (fetch n) :=
  .of_issues (fun r hr => by cases r <;> trivial) (fetch_reads n)

theorem manualTail_runX (v : Nat → View) (env : Env Store) (plan : FPlan) (hplan : plan.errOnly) (p : String) (k : Nat) (s : Store) :
    (∀ y ∈ ownX (fun k => semV (v k)) env plan k (manualTail p) s, y.2.isWrite = false) ∧
    ∀ r, (runX (fun k => semV (v k)) env plan k (manualTail p) s).2 = some (.rev r) → r.name = p := by
  -- of the replies only the name of a revision that a `Get` returns matters: `Rp` for the trivial domain
  have hw : Realises (fun _ => Rp fun _ => True) (·.isErr = true) (fun _ _ => True) (fun _ => True) (fun k => semV (v k)) env plan :=
    ⟨fun k => semV_exec_store (v k), fun k s r _ => exec_reply (fun _ _ => trivial) (fun _ _ _ _ => trivial) r, fun _ => errResp_isErr, hplan,
      fun _ _ _ => trivial⟩
  have ⟨_, h2, h3⟩ := wp_sound (Rel := fun _ _ => True) (fun _ => trivial) (fun _ _ _ _ _ => trivial) hw (fun _ _ _ => ⟨trivial, trivial⟩)
    (fun _ _ _ _ => ⟨trivial, trivial⟩) _ false k s trivial
    (manualTail_wp (Rep := fun _ => Rp fun _ => True) (R := fun _ _ => True) (fun _ he => he) p false s)
  refine ⟨fun y hy => (h2 y hy).2, fun r hr => ?_⟩
  obtain ⟨_, hb, _⟩ := h3 _ hr
  exact (hb r rfl).resolve_left fun he => nomatch he

theorem semV_fresh (s : Store) (r : Req) : (semV View.fresh).exec s r = exec s r := by
  simp only [semV]
  split
  · rfl
  · rename_i h
    rw [show View.fresh.apply s = s from rfl]
    have h1 : (exec s r).1 = s := exec_read (by simpa using h)
    exact Prod.ext h1.symm rfl

end Xp.C12
