import Xp.Model.C10Compose
import Xp.Proofs.C10Path
/-
Helper lemmas for C10: the unstructured metadata accessors (setMeta, removeMeta, getMetaStr).
-/
namespace Xp.C10
open V (lookup setKey eraseKey)

theorem metaObj_of_getMetaStr {cd : V} {k : String} (h : getMetaStr cd k ≠ "") :
    ∃ m md, cd = .obj m ∧ lookup "metadata" m = some (.obj md) := by
  unfold getMetaStr at h
  split at h
  · rename_i md hget
    cases cd <;> simp only [V.get?, reduceCtorEq] at hget
    exact ⟨_, md, rfl, hget⟩
  · exact absurd rfl h

theorem removeMeta_setMeta (m md : List (String × V)) (k : String) (v : V) (h : lookup "metadata" m = some (.obj md)) :
    removeMeta (setMeta (.obj m) k v) k = removeMeta (.obj m) k := by
  simp [setMeta, removeMeta, h, lookup_setKey_self, eraseKey_setKey, setKey_setKey]

theorem getMetaStr_removeMeta_ne (o : V) (k k' : String) (h : k' ≠ k) : getMetaStr (removeMeta o k) k' = getMetaStr o k' := by
  fun_cases removeMeta o k with
  | case1 m md hm =>                                   -- `metadata` is an object: the key is erased there
    simp [getMetaStr, V.get?, hm, lookup_setKey_self, lookup_eraseKey_ne k k' md h]
  | _ => rfl

theorem getMetaStr_setMeta (m : List (String × V)) (k s : String)
    (hm : ∀ x, lookup "metadata" m = some x → ∃ md, x = .obj md) : getMetaStr (setMeta (.obj m) k (.str s)) k = s := by
  cases hl : lookup "metadata" m with
  | none => simp [setMeta, hl, getMetaStr, V.get?, lookup_setKey_self, lookup]
  | some x =>
    obtain ⟨md, rfl⟩ := hm x hl
    simp [setMeta, hl, getMetaStr, V.get?, lookup_setKey_self]

end Xp.C10
