import Xp.Proofs.C05Call
import Xp.Model.C05Fn
/-
The two composers as producers of a call of `Reconcile`: `fnReconcile`, `ptReconcile` and
`composeFail` are `reconcileCall` run on the XR the composer leaves in memory (`callOn`), so what
holds of a call holds of them; what stripping the functions' conditions does to the function
composer's call, and when a Compose failure after the pipeline is reached.
-/
namespace Xp.C05

/-- a call of `Reconcile` whose Compose returns an error of class `e` -/
def Call.composeFails (e : EC) (lost : Bool) : Call := ⟨false, [], none, [], some (.compose, e), lost⟩

theorem composeFail_eq_callOn (old mem : St) (e : EC) (lost : Bool) :
    composeFail old mem e lost = callOn old mem (.composeFails e lost) := by
  cases lost <;> cases e <;> rfl

/-- the tail `fnReconcile` and `ptReconcile` share: PublishConnection, then the status update -/
theorem publish_eq_callOn (s m : St) (composed : List Res) (explicit : Option Bool) (fn : List FnCond)
    (publish : Option EC) (lost : Bool) :
    (match publish with
      | some .conflict => (s, false)
      | some _ => if lost then (s, false) else ({ m with conds := setCond m.conds reconcileError }, true)
      | none => if lost then (s, false) else (composeOk m composed explicit fn, true)) =
    callOn s m ⟨false, composed, explicit, fn, publish.map (.publish, ·), lost⟩ := by
  rcases publish with _ | e
  · cases lost <;> rfl
  · cases e <;> cases lost <;> rfl

theorem customOnly_nil_of_nil : customOnly [] = [] := rfl

theorem findC_mergeStatus_system (cs sc : List Cond) (t : String) (ht : isSystem t = true) :
    findC (mergeStatus cs (customOnly sc)) t = findC cs t := by
  unfold mergeStatus customOnly
  induction sc generalizing cs with
  | nil => rfl
  | cons c rest ih =>
    simp only [List.filter_cons]
    split
    · rename_i hc
      simp only [List.foldl_cons]
      rw [ih]
      apply findC_setCond_ne
      intro e
      rw [e] at ht
      simp [ht] at hc
    · exact ih cs

theorem runPipe_ok_isSome (steps : List FnStep) (acc : List FnCond) (l : Option FnStep) (conds : List FnCond)
    (last : Option FnStep) (h : runPipe steps acc l = .ok conds last) (hne : l.isSome ∨ steps ≠ []) : last.isSome := by
  fun_induction runPipe steps acc l with
  | case1 => cases h; exact hne.resolve_right (· rfl)
  | case2 | case3 => cases h                              -- a runner error, a FATAL result
  | case4 _ _ _ _ _ _ ih => exact ih h (Or.inl rfl)

theorem fnReconcile_completed (old : St) (r : FnRec) (conds : List FnCond) (last : Option FnStep)
    (hp : runPipe r.steps [] none = .ok conds last) (hpub : r.publish = none) (hl : r.lost = false) :
    fnReconcile old r =
      (composeOk { old with conds := mergeStatus old.conds (customOnly ((last.map (·.statusConds)).getD [])) }
        ((last.map composedOf).getD []) (last.bind (·.xrReady)) conds, true) := by
  unfold fnReconcile
  rw [hp, hpub, hl]
  rfl

/-- The call of `Reconcile` a function reconcile amounts to. A runner error or a FATAL result is a
Compose error (the latter keeps the conditions gathered so far); else the last step's desired state
is the outcome, and PublishConnection may still fail. -/
def FnRec.call (r : FnRec) : Call :=
  match runPipe r.steps [] none with
  | .error => .composeFails .generic r.lost
  | .fatal conds => { Call.composeFails .generic r.lost with fn := conds }
  | .ok conds last => ⟨false, (last.map composedOf).getD [], last.bind (·.xrReady), conds, r.publish.map (.publish, ·), r.lost⟩

/-- the XR as Compose leaves it, in memory and in the API server: the desired status applied -/
def FnRec.mem (r : FnRec) (old : St) : St :=
  match runPipe r.steps [] none with
  | .ok _ last => { old with conds := mergeStatus old.conds (customOnly ((last.map (·.statusConds)).getD [])) }
  | _ => old

theorem fnReconcile_eq_callOn (old : St) (r : FnRec) : fnReconcile old r = callOn (r.mem old) (r.mem old) r.call := by
  unfold fnReconcile FnRec.call FnRec.mem
  cases runPipe r.steps [] none with
  | error => cases r.lost <;> rfl
  | fatal conds => cases r.lost <;> rfl
  | ok conds last => exact publish_eq_callOn _ _ _ _ _ _ _

theorem FnRec.mem_system (r : FnRec) (old : St) (t : String) (ht : isSystem t = true) :
    findC (r.mem old).conds t = findC old.conds t := by
  unfold FnRec.mem
  split
  · exact findC_mergeStatus_system _ _ t ht
  · rfl

theorem FnRec.call_clean (r : FnRec) (hne : r.steps ≠ []) (hc : r.call.clean) :
    ∃ conds last, runPipe r.steps [] none = .ok conds (some last) ∧ r.publish = none ∧ r.lost = false := by
  unfold FnRec.call at hc
  cases hp : runPipe r.steps [] none <;> rw [hp] at hc
  case error => exact nomatch hc.2.2
  case fatal => exact nomatch hc.2.2
  obtain ⟨z, rfl⟩ := Option.isSome_iff_exists.mp (runPipe_ok_isSome _ _ _ _ _ hp (Or.inr hne))
  exact ⟨_, z, rfl, Option.map_eq_none_iff.mp hc.2.2, hc.1⟩

/-- the same step with every condition the function supplied removed: those returned in the
response AND those placed in the desired XR's status.conditions -/
def FnStep.strip (s : FnStep) : FnStep := { s with conds := [], statusConds := [] }
def FnRec.strip (r : FnRec) : FnRec := { r with steps := r.steps.map FnStep.strip }

theorem runPipe_strip (steps : List FnStep) (acc : List FnCond) (l : Option FnStep) :
    runPipe (steps.map FnStep.strip) [] (l.map FnStep.strip) =
      match runPipe steps acc l with
      | .error => .error
      | .fatal _ => .fatal []
      | .ok _ l2 => .ok [] (l2.map FnStep.strip) := by
  fun_induction runPipe steps acc l with
  | case1 => rfl
  | case2 s ss acc l he => simp [runPipe, FnStep.strip, he]                     -- a runner error
  | case3 s ss acc l he hf => simp [runPipe, FnStep.strip, he, hf]              -- a FATAL result
  | case4 s ss acc l he hf ih => simpa [runPipe, FnStep.strip, he, hf] using ih

theorem FnRec.strip_call (r : FnRec) : r.strip.call = { r.call with fn := [] } := by
  unfold FnRec.call
  rw [show runPipe r.strip.steps [] none = _ from runPipe_strip r.steps [] none]
  cases runPipe r.steps [] none with
  | error => rfl
  | fatal conds => rfl
  | ok conds last => cases last <;> rfl

theorem fnF_no_fault (old : St) (r : FnRec) (stale : Bool) : fnReconcileF old r none stale = fnReconcile old r := by
  unfold fnReconcileF
  cases runPipe r.steps [] none <;> rfl

/-- the fault is reached: the pipeline completed and the call is issued -/
def FnRec.faulted (r : FnRec) (p : FnPoint) : Prop :=
  ∃ conds last, runPipe r.steps [] none = .ok conds last ∧ p.fires last = true

theorem fnF_faulted_eq (old : St) (r : FnRec) (p : FnPoint) (e : EC) (stale : Bool) (h : r.faulted p) :
    fnReconcileF old r (some (p, e)) stale = fnFaultOutcome old p e r.lost stale := by
  obtain ⟨conds, last, h1, h2⟩ := h
  unfold fnReconcileF
  simp [h1, h2]

theorem fnF_not_faulted_eq (old : St) (r : FnRec) (p : FnPoint) (e : EC) (stale : Bool) (h : ¬ r.faulted p) :
    fnReconcileF old r (some (p, e)) stale = fnReconcile old r := by
  unfold fnReconcileF
  cases hp : runPipe r.steps [] none with
  | error => rfl
  | fatal c => rfl
  | ok conds last =>
    simp only []
    cases hf : p.fires last with
    | true => exact absurd ⟨conds, last, hp, hf⟩ h
    | false => simp

theorem FnRec.faulted_strip (r : FnRec) (p : FnPoint) : r.strip.faulted p ↔ r.faulted p := by
  have hf : ∀ last, p.fires (last.map FnStep.strip) = p.fires last := fun last => by cases p <;> cases last <;> rfl
  unfold FnRec.faulted
  rw [show runPipe r.strip.steps [] none = _ from runPipe_strip r.steps [] none]
  cases runPipe r.steps [] none <;> simp [and_assoc, hf]

theorem ptObserve_eq_map (rs : List PTRes) (composed : List Res) (h : ptObserve rs = some composed) :
    composed = rs.map fun r => ⟨r.name, r.observed, r.observed && isReady r.obj r.checks == some true⟩ := by
  fun_induction ptObserve rs generalizing composed with
  | case1 => exact (Option.some.inj h).symm
  | case2 => cases h                                       -- a readiness check that cannot be run
  | case3 r rs ho b hr ih =>
    obtain ⟨tl, htl, rfl⟩ := Option.map_eq_some_iff.mp h
    rw [List.map_cons, ← ih tl htl, ho, hr]
    cases b <;> rfl
  | case4 r rs ho ih =>                                    -- not observed
    obtain ⟨tl, htl, rfl⟩ := Option.map_eq_some_iff.mp h
    rw [List.map_cons, ← ih tl htl, (Bool.not_eq_true _).mp ho]
    rfl

/-- The call of `Reconcile` a P&T reconcile amounts to: wherever Compose fails - before anything is
observed, at a readiness check that cannot be run, at its last call - it is a Compose error. -/
def PTRec.call (r : PTRec) : Call :=
  match r.early with
  | some e => .composeFails e r.lost
  | none =>
    match ptObserve r.effRes with
    | none => .composeFails .generic r.lost
    | some composed =>
      match r.late with
      | some e => .composeFails e r.lost
      | none => ⟨false, composed, none, [], r.publish.map (.publish, ·), r.lost⟩

/-- the XR Compose holds in memory when it returns: patched, unless it failed before observing anything -/
def PTRec.mem (r : PTRec) (old : St) : St :=
  match r.early with
  | some _ => old
  | none => r.patched old

/-- nothing but a status update of the reconciler stores what the patch wrote: `old` is what the API server has -/
theorem ptReconcile_eq_callOn (old : St) (r : PTRec) : ptReconcile old r = callOn old (r.mem old) r.call := by
  unfold ptReconcile PTRec.call PTRec.mem
  cases r.early with
  | some e => exact composeFail_eq_callOn old old e r.lost
  | none =>
    dsimp only
    cases ptObserve r.effRes with
    | none => exact composeFail_eq_callOn old _ _ r.lost
    | some composed =>
      dsimp only
      cases r.late with
      | some e => exact composeFail_eq_callOn old _ e r.lost
      | none => exact publish_eq_callOn _ _ _ _ _ _ _

theorem PTRec.mem_cases (r : PTRec) (old : St) : r.mem old = old ∨ (r.early = none ∧ r.mem old = r.patched old) := by
  unfold PTRec.mem
  cases r.early with
  | some _ => exact Or.inl rfl
  | none => exact Or.inr ⟨rfl, rfl⟩

/-- the reconcile completes: Compose fails nowhere, every readiness check can be run, the connection
details are published and the final status update takes effect -/
def PTRec.completes (r : PTRec) (composed : List Res) : Prop :=
  r.early = none ∧ ptObserve r.effRes = some composed ∧ r.late = none ∧ r.publish = none ∧ r.lost = false

theorem PTRec.call_clean (r : PTRec) (hc : r.call.clean) : ∃ composed, r.completes composed := by
  unfold PTRec.call at hc
  unfold PTRec.completes
  cases he : r.early <;> rw [he] at hc
  case some => exact nomatch hc.2.2
  cases ho : ptObserve r.effRes <;> rw [ho] at hc
  case none => exact nomatch hc.2.2
  cases hl : r.late <;> rw [hl] at hc
  case some => exact nomatch hc.2.2
  exact ⟨_, rfl, rfl, rfl, Option.map_eq_none_iff.mp hc.2.2, hc.1⟩

end Xp.C05
