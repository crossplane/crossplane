import Xp.Proofs.C19Store
/-
C19 — the marker invariant (a ready, not deleted Usage has a labelled used resource); the changes of
the store it survives (`Harmless`, `Marker.change`), every effect of the environment among them
(`EnvEff.harmless`).
-/
namespace Xp.C19

/-- the used resource of `u` exists and carries the in-use label -/
def Labelled (s : Store) (u : Usage) : Prop :=
  (∃ r ∈ s.res, u.names r = true) ∧ ∀ r ∈ s.res, u.names r = true → r.inUse = true

def Marker (s : Store) : Prop :=
  ∀ u ∈ s.usages, u.ready = true → u.deleting = false → Labelled s u

theorem names_key {u : Usage} {r r' : Res} (h : u.names r = true) (hk : r'.key = r.key) : u.names r' = true := by
  simp only [Usage.names_iff] at h ⊢
  rw [hk]; exact h

theorem names_same_key {u : Usage} {r r' : Res} (h : u.names r = true) (h' : u.names r' = true) : r'.key = r.key :=
  ((u.names_iff r').mp h').2.symm.trans ((u.names_iff r).mp h).2

theorem names_of_eq {u u' : Usage} (h : u'.of = u.of) (r : Res) : u'.names r = u.names r := by
  simp only [Usage.names, h]

theorem Labelled.of_eq {s : Store} {u u' : Usage} (h : Labelled s u) (ho : u'.of = u.of) : Labelled s u' := by
  obtain ⟨⟨r, hr, hn⟩, hall⟩ := h
  exact ⟨⟨r, hr, by rw [names_of_eq ho]; exact hn⟩, fun r' hr' hn' => hall r' hr' (by rw [← names_of_eq ho]; exact hn')⟩

theorem Labelled.sameRes {s s' : Store} {u : Usage} (h : Labelled s u) (e : s'.res = s.res) : Labelled s' u := by
  unfold Labelled; rw [e]; exact h

theorem Labelled.putR {s : Store} {u : Usage} (h : Labelled s u) {n : Res}
    (hkeep : u.names n = true → ∀ x ∈ s.res, x.key = n.key → x.inUse = true → n.inUse = true) :
    Labelled (s.putR n).bump u := by
  obtain ⟨⟨r, hr, hn⟩, hall⟩ := h
  constructor
  · by_cases hk : r.key = n.key
    · refine ⟨n, ?_, names_key hn hk.symm⟩
      rw [bump_res]; exact mem_putR.mpr (.inr ⟨rfl, r, hr, hk⟩)
    · refine ⟨r, ?_, hn⟩
      rw [bump_res]; exact mem_putR.mpr (.inl ⟨hr, hk⟩)
  · intro r' hr' hn'
    rw [bump_res] at hr'
    rcases mem_putR.mp hr' with ⟨hr'', _⟩ | ⟨rfl, x, hx, hxk⟩
    · exact hall r' hr'' hn'
    · exact hkeep hn' x hx hxk (hall x hx (names_key hn' hxk))

theorem Labelled.dropR_other {s : Store} {u : Usage} (h : Labelled s u) {r : Res} {g k n : String}
    (hr : r.key = (g, k, n)) (hno : u.names r = false) :
    Labelled (s.dropR g k n) u := by
  obtain ⟨⟨r0, hr0, hn⟩, hall⟩ := h
  constructor
  · refine ⟨r0, mem_dropR.mpr ⟨hr0, fun hk => ?_⟩, hn⟩
    have := names_key hn (hr.trans hk.symm)
    rw [hno] at this; cases this
  · intro r' hr' hn'
    exact hall r' (mem_dropR.mp hr').1 hn'

theorem Labelled.updR {s s' : Store} {u : Usage} (h : Labelled s u) {r : Res} {resp : Resp} (spec : UpdRSpec s r s' resp)
    (hkeep : ∀ z : Res, z.key = r.key → u.names z = true → r.inUse = true) :
    Labelled s' u := by
  cases spec with
  | put x hg hx => exact h.putR (fun hn _ _ _ _ => hkeep _ rfl hn)
  | _ => exact h

theorem Marker.sameBoth {s s' : Store} (h : Marker s) (eu : s'.usages = s.usages) (er : s'.res = s.res) : Marker s' := by
  intro u hu hr hd
  rw [eu] at hu
  exact (h u hu hr hd).sameRes er

theorem Marker.empty : Marker Store.empty := by
  intro u hu; simp [Store.empty] at hu

/-- the marker invariant as the Bool test the counterexamples of Props/C19 are stated with (`unmarked`) -/
theorem Marker.test {s : Store} (h : Marker s) :
    (s.usages.any fun u => u.ready && !u.deleting && s.res.any fun r => u.names r && !r.inUse) = false := by
  cases hb : (s.usages.any fun u => u.ready && !u.deleting && s.res.any fun r => u.names r && !r.inUse) with
  | false => rfl
  | true =>
    obtain ⟨u, hu, hx⟩ := List.any_eq_true.mp hb
    simp only [Bool.and_eq_true, Bool.not_eq_true', List.any_eq_true] at hx
    obtain ⟨⟨hr, hd⟩, r, hrm, hn, hi⟩ := hx
    have := (h u hu hr hd).2 r hrm hn
    rw [hi] at this; cases this

theorem Labelled.env {s s' : Store} {u : Usage} (h : Labelled s u)
    (hidx : ∃ x ∈ s.usages, x.of = u.of) (e : EnvEff s s') : Labelled s' u := by
  cases e with
  | same => exact h
  | addUsage _ _ _ _ _ _ => exact h.sameRes rfl
  | editU _ _ _ _ _ _ _ _ _ _ _ => exact h.sameRes rfl
  | dropU _ _ _ => exact h.sameRes rfl
  | addRes r hg _ _ =>
    obtain ⟨⟨r0, hr0, hn⟩, hall⟩ := h
    refine ⟨⟨r0, List.mem_append_left _ hr0, hn⟩, fun r' hr' hn' => ?_⟩
    rcases List.mem_append.mp hr' with hr' | hr'
    · exact hall r' hr' hn'
    · cases List.mem_singleton.mp hr'
      exact absurd (names_same_key hn' hn) (getR_none hg r0 hr0)
  | editR x n _ _ keep => exact h.putR (fun _ => keep)
  | dropR g k n r hg hc =>
    obtain ⟨hr, hk⟩ := getR_some hg
    obtain ⟨x, hx, hxo⟩ := hidx
    refine h.dropR_other hk ?_
    cases hb : u.names r with
    | false => rfl
    | true =>
      rcases hc with hin | hz
      · have := h.2 r hr hb; rw [hin] at this; cases this
      · have hi := names_indexedBy (u := x) (r := r) (by rw [names_of_eq hxo]; exact hb)
        rw [countU_zero.mp hz x hx] at hi; cases hi

/-- from `s` to `s'` no ready Usage appears from nowhere: a ready Usage of `s'` was in `s` under its name,
ready, with the same spec.of, and not terminating unless it is now -/
def UsagesFrom (s s' : Store) : Prop :=
  ∀ y' ∈ s'.usages, (∃ y ∈ s.usages, y.name = y'.name ∧ y.of = y'.of ∧ y.ready = y'.ready ∧
    (y'.deleting = false → y.deleting = false)) ∨ y'.ready = false

theorem UsagesFrom.sub {s s' : Store} (h : ∀ y ∈ s'.usages, y ∈ s.usages) : UsagesFrom s s' :=
  fun y' hy' => .inl ⟨y', h y' hy', rfl, rfl, rfl, id⟩

theorem UsagesFrom.putU {s : Store} {x n : Usage} (hx : x ∈ s.usages) (hn : n.name = x.name) (hr : n.ready = x.ready)
    (hd : n.deleting = false → x.deleting = false) (ho : x.ready = true → n.of = x.of) :
    UsagesFrom s (s.putU n).bump := by
  intro y' hy'
  rcases mem_putU.mp hy' with ⟨hy'', _⟩ | ⟨rfl, _⟩
  · exact .inl ⟨y', hy'', rfl, rfl, rfl, id⟩
  · cases hxr : x.ready with
    | false => exact .inr (hr.trans hxr)
    | true => exact .inl ⟨x, hx, hn.symm, (ho hxr).symm, hr.symm, hd⟩

/-- a change of the store that can break neither the marker invariant (`Marker.change`) nor what a
reconcile knows about labels and ready Usages (`serialFacts_change` of C19Serial). Every effect of the
environment is one (`EnvEff.harmless`), and every call of a reconcile but the label removal and the
status Update (`CallEff.harmless`). -/
structure Harmless (s s' : Store) : Prop where
  usages : UsagesFrom s s'
  labels : ∀ u, Labelled s u → (∃ x ∈ s.usages, x.of = u.of) → Labelled s' u

theorem Marker.change {s s' : Store} (h : Marker s) (k : Harmless s s') : Marker s' := by
  intro u' hu' hr hd
  rcases k.usages u' hu' with ⟨y, hy, _, ho, hrd, hdel⟩ | hnr
  · exact (k.labels y (h y hy (hrd ▸ hr) (hdel hd)) ⟨y, hy, rfl⟩).of_eq ho.symm
  · rw [hnr] at hr; cases hr

theorem EnvEff.usagesFrom {s s' : Store} (e : EnvEff s s') : UsagesFrom s s' := by
  cases e with
  | addUsage u _ _ _ _ hr =>
    intro y' hy'
    rcases List.mem_append.mp hy' with hy' | hy'
    · exact .inl ⟨y', hy', rfl, rfl, rfl, id⟩
    · cases List.mem_singleton.mp hy'; exact .inr hr
  | editU x n hg _ _ hof _ _ hrd hdel _ =>
    intro y' hy'
    rw [bump_usages] at hy'
    rcases mem_putU.mp hy' with ⟨hy', _⟩ | ⟨rfl, _⟩
    · exact .inl ⟨y', hy', rfl, rfl, rfl, id⟩
    · refine .inl ⟨x, (getU_some hg).1, (getU_some hg).2, hof.symm, hrd.symm, fun hd => ?_⟩
      rcases hdel with e | ⟨e, _⟩
      · exact e.symm.trans hd
      · rw [e] at hd; cases hd
  | dropU x _ _ => exact .sub fun _ h => (mem_dropU.mp h).1
  | _ => exact .sub fun _ h => h

theorem EnvEff.harmless {s s' : Store} (e : EnvEff s s') : Harmless s s' :=
  ⟨e.usagesFrom, fun _ hl hidx => hl.env hidx e⟩

end Xp.C19
