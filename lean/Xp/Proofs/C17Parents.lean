import Xp.Model.C17Rec
import Xp.Proofs.C17Init
/-
C17: the parent constraints MapUpgradingDag.Init records on the node of a lock package, for every
lock: one contribution per dependency ENTRY that points at the package, each being the constraint of
the FIRST such entry of its parent (LockPackage.AddNeighbors `break`s at the first match).
-/
namespace Xp.C17

theorem init_parents {o : Oracle} {pkgs : List Pkg} {d : Dag} {imp : List Dep}
    (h : init o true pkgs = .ok (d, imp)) (x : String) (hx : x ∈ pkgs.map (·.source)) :
    parentsOf d x = lockParents pkgs x := by
  obtain ⟨_, hget, g⟩ := init_grows h
  obtain ⟨p, hp, rfl⟩ := List.mem_map.1 hx
  -- the node of `p` starts without parent constraints
  obtain ⟨n', hn', hpar⟩ := g.parents rfl _ _ (hget p hp)
  unfold parentsOf
  rw [hn']
  exact hpar

end Xp.C17
