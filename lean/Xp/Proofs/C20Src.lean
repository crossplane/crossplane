import Xp.Model.C20
/-
C20: xpkg.ParsePackageSourceFromReference as string logic (Model/C20.lean `parseSourceChars`):
for every reference as written `[host/]path[:tag][@digest]` the parsed source is `[host/]path` –
tag and digest stripped and nothing else changed, whichever of the two the reference carries.
-/
namespace Xp.C20

theorem cutAt_of_not_mem (c : Char) (l : List Char) (h : c ∉ l) : cutAt c l = l := by
  induction l with
  | nil => rfl
  | cons x xs ih =>
    have hx : x ≠ c := fun e => h (by simp [e])
    have hxs : c ∉ xs := fun e => h (by simp [e])
    simp [cutAt, hx, ih hxs]

theorem cutAt_append_sep (c : Char) (a b : List Char) (h : c ∉ a) : cutAt c (a ++ c :: b) = a := by
  induction a with
  | nil => simp [cutAt]
  | cons x xs ih =>
    have hx : x ≠ c := fun e => h (by simp [e])
    have hxs : c ∉ xs := fun e => h (by simp [e])
    simp [cutAt, hx, ih hxs]

theorem lastIndex_bounds (c : Char) (l : List Char) : -1 ≤ lastIndex c l ∧ lastIndex c l < l.length := by
  induction l with
  | nil => simp [lastIndex]
  | cons x xs ih =>
    simp only [lastIndex, List.length_cons]
    split
    · omega
    · split <;> omega

theorem lastIndex_of_not_mem (c : Char) (l : List Char) (h : c ∉ l) : lastIndex c l = -1 := by
  induction l with
  | nil => rfl
  | cons x xs ih =>
    have hx : x ≠ c := fun e => h (by simp [e])
    have hxs : c ∉ xs := fun e => h (by simp [e])
    simp [lastIndex, ih hxs, hx]

/-- the separator occurs in `b`: the last index lies in `b` -/
theorem lastIndex_append_ge (c : Char) (a b : List Char) (h : 0 ≤ lastIndex c b) :
    lastIndex c (a ++ b) = a.length + lastIndex c b := by
  induction a with
  | nil => simp
  | cons x xs ih =>
    simp only [List.cons_append, lastIndex, List.length_cons]
    rw [ih]
    have : (0 : Int) ≤ xs.length + lastIndex c b := by omega
    simp only [this, if_true]
    omega

theorem lastIndex_cons_self_not_mem (c : Char) (b : List Char) (h : c ∉ b) : lastIndex c (c :: b) = 0 := by
  simp [lastIndex, lastIndex_of_not_mem c b h]

theorem lastIndex_cons_self_ge (c : Char) (b : List Char) : 0 ≤ lastIndex c (c :: b) := by
  have := lastIndex_bounds c b
  simp only [lastIndex]
  split
  · omega
  · simp

theorem lastIndex_append_not_mem (c : Char) (a b : List Char) (h : c ∉ b) :
    lastIndex c (a ++ b) = lastIndex c a := by
  induction a with
  | nil => simpa [lastIndex] using lastIndex_of_not_mem c b h
  | cons x xs ih => simp only [List.cons_append, lastIndex, ih]

theorem lastIndex_append_sep (c : Char) (a b : List Char) (h : c ∉ b) :
    lastIndex c (a ++ c :: b) = a.length := by
  rw [lastIndex_append_ge c a (c :: b) (lastIndex_cons_self_ge c b), lastIndex_cons_self_not_mem c b h]
  omega

theorem lastIndex_append_sep_ge (c : Char) (a b : List Char) : (a.length : Int) ≤ lastIndex c (a ++ c :: b) := by
  rw [lastIndex_append_ge c a (c :: b) (lastIndex_cons_self_ge c b)]
  have := lastIndex_cons_self_ge c b
  omega

theorem Written.repoChars_no_at (w : Written) (h : w.WF) : '@' ∉ w.repoChars := by
  obtain ⟨h1, _, h3, _, _⟩ := h
  unfold Written.repoChars
  split <;> simp_all

/-- no tag: the last ':' (if any: a port) does not come after the last '/' -/
theorem Written.repoChars_no_tag_cut (w : Written) (h : w.WF) :
    ¬ (lastIndex ':' w.repoChars > lastIndex '/' w.repoChars) := by
  obtain ⟨_, _, _, h4, _⟩ := h
  unfold Written.repoChars
  split
  · -- no host: no ':' at all
    simp only [List.nil_append]
    rw [lastIndex_of_not_mem ':' w.path h4]
    have := lastIndex_bounds '/' w.path
    omega
  · -- host/path: the last ':' is inside the host, the '/' after the host comes later
    rw [List.append_assoc]
    have hc : ':' ∉ (['/'] ++ w.path) := by simp [h4]
    rw [lastIndex_append_not_mem ':' w.host _ hc]
    have h1 := lastIndex_bounds ':' w.host
    have h2 := lastIndex_append_sep_ge '/' w.host w.path
    simp only [List.singleton_append]
    omega

theorem parseSourceChars_written (w : Written) (h : w.WF) : parseSourceChars w.chars = w.repoChars := by
  have hat := w.repoChars_no_at h
  have hnt := w.repoChars_no_tag_cut h
  obtain ⟨_, _, _, _, ht⟩ := h
  have hfront : '@' ∉ w.repoChars ++ optPart ':' w.tag := by
    cases htag : w.tag with
    | none => simpa [optPart] using hat
    | some t =>
      have := (ht t htag).1
      simp [optPart, hat, this]
  have hcut : cutAt '@' w.chars = w.repoChars ++ optPart ':' w.tag := by
    unfold Written.chars
    cases hd : w.digest with
    | none => simpa [optPart] using cutAt_of_not_mem '@' _ hfront
    | some d => exact cutAt_append_sep '@' _ d hfront
  unfold parseSourceChars
  simp only [hcut]
  cases htag : w.tag with
  | none =>
    simp only [optPart, List.append_nil]
    simp [hnt]
  | some t =>
    obtain ⟨_, htc, hts⟩ := ht t htag
    have hi : lastIndex ':' (w.repoChars ++ ':' :: t) = w.repoChars.length := lastIndex_append_sep ':' _ t htc
    have hj : lastIndex '/' (w.repoChars ++ ':' :: t) = lastIndex '/' w.repoChars :=
      lastIndex_append_not_mem '/' _ _ (by simp [hts])
    have hb := lastIndex_bounds '/' w.repoChars
    simp only [optPart, hi, hj]
    have : (w.repoChars.length : Int) > lastIndex '/' w.repoChars := by omega
    simp [this]

theorem parseSourceChars_same_repository (w w' : Written) (h : w.WF) (h' : w'.WF)
    (hh : w.host = w'.host) (hp : w.path = w'.path) : parseSourceChars w.chars = parseSourceChars w'.chars := by
  rw [parseSourceChars_written w h, parseSourceChars_written w' h']
  simp [Written.repoChars, hh, hp]

theorem parseSourceChars_injective (w w' : Written) (h : w.WF) (h' : w'.WF)
    (he : parseSourceChars w.chars = parseSourceChars w'.chars) : w.repoChars = w'.repoChars := by
  rwa [parseSourceChars_written w h, parseSourceChars_written w' h'] at he

end Xp.C20
