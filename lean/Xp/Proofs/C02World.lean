import Xp.Proofs.C01Prog
import Xp.Model.C02World
/-
C02, XR world with a third party between two API calls (`Xp.Model.C02World`): proofs.

 * `Disc m p` — a purely syntactic discipline of a program: along every path, a label clean-up
   Update, a Delete or a merge patch is addressed only to a reference that an earlier Get of
   the same run returned not controlled by somebody else. `disc_reconcile`: both composers
   (the unchanged programs of `Xp.C01`) obey it, for every function output, template list and
   generated name, and every loop order allowed by `ModeDisc`.
 * `Eff` — what one request does to the composed resources (five shapes), proved once of
   `Xp.C01.exec` (`eff_base`) and of `Xp.C02World.exec` (`exec_spec`); unique keys, "no request
   makes an object foreign" and the frame of a foreign object are read off the shapes.
 * `Rely` (what the third party may do; `adopt_rely`: the harness's adoption is within it) and
   `Inv`, the fence the API server provides: a composed resource that is controlled by somebody
   else and of which the reconcile holds a copy is stale. Kept by every request and by the rely.
 * `interference_guarantees` puts them together for every environment, fault plan and mode (the
   method is `Kept.sound` of Base/Prog); `Eff.foreign_kept` is what they mean for an object;
   `update_refused_on_foreign` is what the fence means for the label clean-up Update.
 * `foreign_throughout`: the same discipline read without a third party, over `Xp.C01.sem`: every foreign
   object stays at every instant, whatever the mode within `ModeDisc`.
-/
namespace Xp.C02World
open Xp Xp.C01

/-- replies the API server can give: a Get returns the object asked for -/
def respOK : Req → Resp → Prop
  | .getObj k n, .found o => o.kind = k ∧ o.name = n
  | .getCached k n, .found o => o.kind = k ∧ o.name = n
  | _, _ => True

theorem readFound_found {rq : Req} {k n : String} (hrq : rq = .getObj k n ∨ rq = .getCached k n) (o : CObj) :
    readFound rq (.found o) = if o.ctrl = .other then none else some ⟨k, n⟩ := by
  rcases hrq with rfl | rfl <;> rfl

/-- a reply that carries no object -/
def quiet : Resp → Bool
  | .found _ => false
  | _ => true

theorem readFound_quiet (rq : Req) {resp : Resp} (h : quiet resp = true) : readFound rq resp = none := by
  unfold readFound
  split
  · cases h
  · cases h
  · rfl

theorem readFound_write {r : Req} (h : isRead r = false) (resp : Resp) : readFound r resp = none := by
  cases r <;> first | rfl | cases h

theorem readFound_some {r : Req} {resp : Resp} {x : Ref} (h : readFound r resp = some x) :
    ∃ o, resp = .found o ∧ o.ctrl ≠ .other ∧ (r = .getObj x.kind x.name ∨ r = .getCached x.kind x.name) := by
  unfold readFound at h
  split at h
  · split at h
    · cases h
    · cases h; exact ⟨_, rfl, ‹_›, .inl rfl⟩
  · split at h
    · cases h
    · cases h; exact ⟨_, rfl, ‹_›, .inr rfl⟩
  · cases h

theorem mineAfter_quiet (m : List Ref) (rq : Req) {resp : Resp} (h : quiet resp = true) :
    mineAfter m rq resp = m := by
  simp only [mineAfter, readFound_quiet rq h]

theorem respOK_quiet (r : Req) {resp : Resp} (h : quiet resp = true) : respOK r resp := by
  unfold respOK
  split
  · cases h
  · cases h
  · trivial

theorem errResp_quiet (o : Outcome) (r : Req) : quiet (sem.errResp o r) = true := by
  cases o with
  | conflict => simp only [sem, C01.sem]; split <;> rfl
  | _ => rfl

theorem mineAfter_errResp (m : List Ref) (o : Outcome) (r : Req) : mineAfter m r (sem.errResp o r) = m :=
  mineAfter_quiet m r (errResp_quiet o r)

theorem respOK_errResp (o : Outcome) (r : Req) : respOK r (sem.errResp o r) :=
  respOK_quiet r (errResp_quiet o r)

theorem mem_mineAfter {m : List Ref} {r : Req} {resp : Resp} {x : Ref} :
    x ∈ mineAfter m r resp ↔ x ∈ m ∨ readFound r resp = some x := by
  unfold mineAfter
  cases readFound r resp with
  | none => simp
  | some y =>
    by_cases hy : y ∈ m
    · simp only [hy, if_true, Option.some.injEq]
      exact ⟨.inl, fun h => h.elim id (· ▸ hy)⟩
    · simp only [hy, if_false, List.mem_cons, Option.some.injEq, eq_comm (a := x), or_comm]

/-- along every path of `p`, started with the ghost `m`, every request that writes a composed
resource past the API server's own ownership checks is addressed to a reference in the ghost -/
def Disc : List Ref → P → Prop
  | _, .ret _ => True
  | m, .call r c => (∀ x, target r = some x → x ∈ m) ∧ ∀ resp, respOK r resp → Disc (mineAfter m r resp) (c resp)

theorem disc_mono {p : P} : ∀ {m m' : List Ref}, Disc m p → (∀ x ∈ m, x ∈ m') → Disc m' p := by
  induction p with
  | ret a => intro _ _ _ _; trivial
  | call r c ih =>
    intro m m' h hs
    refine ⟨fun x hx => hs x (h.1 x hx), ?_⟩
    intro resp hok
    apply ih resp (h.2 resp hok)
    intro x hx
    rcases mem_mineAfter.mp hx with h1 | h1
    · exact mem_mineAfter.mpr (Or.inl (hs x h1))
    · exact mem_mineAfter.mpr (Or.inr h1)

/-- `Disc` is an instance of Base's `Kept` (what `Xp.C02CrdEnv.Disc` is by definition): the ghost is `m`, a reply that `respOK`
allows moves it by `mineAfter`; `interference_guarantees` and `foreign_throughout` go through this form -/
theorem Disc.kept {m : List Ref} {p : P} (h : Disc m p) :
    Kept (fun m r resp m' => respOK r resp ∧ m' = mineAfter m r resp) (fun m r => ∀ x, target r = some x → x ∈ m)
      (fun _ _ => True) p m :=
  Kept.of_unfold Disc (fun _ _ _ => trivial) (fun _ _ _ h => ⟨h.1, fun resp _ ⟨hok, e⟩ => e ▸ h.2 resp hok⟩) h

theorem disc_of_issues {p : P} (h : Issues (fun r => target r = none) p) : ∀ m, Disc m p := by
  induction h with
  | ret a => intro _; trivial
  | call r c hq _ ih =>
    intro m
    exact ⟨(by intro x hx; rw [hq] at hx; cases hx), fun resp _ => ih resp _⟩

theorem disc_onErrorO (m : List Ref) (l : Option Nat) : Disc m (onErrorO l) :=
  disc_of_issues (issues_onErrorO_status l rfl) m
theorem disc_onError (m : List Ref) (l : Nat) : Disc m (onError l) := disc_onErrorO m _
theorem disc_onConflict (m : List Ref) : Disc m onConflict := trivial
theorem disc_finish (m : List Ref) (l : Nat) (b : Bool) : Disc m (finish l b) :=
  disc_of_issues (issues_finish l b rfl) m

theorem disc_ite {c : Prop} [Decidable c] {m : List Ref} {a b : P} (ha : c → Disc m a) (hb : ¬ c → Disc m b) :
    Disc m (if c then a else b) := by
  split
  · exact ha ‹_›
  · exact hb ‹_›

theorem no_target {r : Req} (h : target r = none) (m : List Ref) : ∀ x, target r = some x → x ∈ m :=
  fun x hx => by rw [h] at hx; cases hx

theorem disc_call {m : List Ref} {r : Req} {c : Resp → P} (ht : target r = none)
    (hc : ∀ resp, Disc (mineAfter m r resp) (c resp)) : Disc m (.call r c) :=
  ⟨no_target ht m, fun resp _ => hc resp⟩

theorem disc_get {m : List Ref} {k n : String} {rq : Req} (hrq : rq = .getObj k n ∨ rq = .getCached k n)
    {c : Resp → P}
    (hfound : ∀ o m', key o = ⟨k, n⟩ → (∀ x ∈ m, x ∈ m') → (o.ctrl ≠ .other → key o ∈ m') → Disc m' (c (.found o)))
    (hrest : ∀ resp, quiet resp = true → Disc m (c resp)) : Disc m (.call rq c) := by
  refine ⟨no_target (by rcases hrq with rfl | rfl <;> rfl) m, fun resp hok => ?_⟩
  cases resp with
  | found o =>
    have hkn : o.kind = k ∧ o.name = n := by rcases hrq with rfl | rfl <;> exact hok
    have hkey : key o = ⟨k, n⟩ := by rw [key, hkn.1, hkn.2]
    refine hfound o _ hkey (fun x hx => mem_mineAfter.mpr (.inl hx)) (fun hc => mem_mineAfter.mpr (.inr ?_))
    rw [readFound_found hrq, if_neg hc, hkey]
  | _ =>
    rw [mineAfter_quiet m rq rfl]
    exact hrest _ rfl

theorem disc_readThrough {m : List Ref} {k n : String} (lrv : Nat) {found : CObj → P} {rest : P}
    (hfound : ∀ o m', key o = ⟨k, n⟩ → (∀ x ∈ m, x ∈ m') → (o.ctrl ≠ .other → key o ∈ m') → Disc m' (found o))
    (hrest : Disc m rest) : Disc m (readThrough lrv k n found rest) := by
  refine disc_get (.inr rfl) hfound (fun resp hn => ?_)
  cases resp with
  | found o => cases hn
  | notFound =>
    refine disc_get (.inl rfl) hfound (fun resp2 hn2 => ?_)
    cases resp2 with
    | found o => cases hn2
    | notFound => exact hrest
    | _ => exact disc_onError _ _
  | _ => exact disc_onError _ _

theorem disc_wcall (m : List Ref) (lrv : Nat) (r : Req) (k : Resp → P) (hr : isRead r = false)
    (ht : ∀ x, target r = some x → x ∈ m) (hk : ∀ resp, Disc m (k resp)) : Disc m (wcall lrv r k) := by
  unfold wcall
  refine ⟨ht, ?_⟩
  intro resp _
  rw [show mineAfter m r resp = m by simp only [mineAfter, readFound_write hr]]
  cases resp with
  | err => exact disc_onError m lrv
  | conflict => exact disc_onConflict m
  | _ => exact hk _

theorem disc_collect (m : List Ref) (lrv : Nat) (o : CObj) (k : P) (ho : key o ∈ m) (hk : Disc m k) :
    Disc m (collect lrv o k) :=
  disc_wcall m lrv _ _ rfl (fun _ hx => Option.some.inj hx ▸ ho) fun _ =>
    disc_wcall m lrv _ _ rfl (fun _ hx => Option.some.inj hx ▸ ho) fun _ => hk

theorem disc_observeFn (lrv : Nat) (k : Obs → P) : ∀ (refs : List Ref) (acc : Obs) (m : List Ref),
    (∀ p ∈ acc, key p.2 ∈ m) →
    (∀ m' obs, (∀ x ∈ m, x ∈ m') → (∀ p ∈ obs, key p.2 ∈ m') → Disc m' (k obs)) →
    Disc m (observeFn lrv refs acc k) := by
  intro refs
  induction refs with
  | nil => intro acc m hacc hk; exact hk m acc (fun _ h => h) hacc
  | cons r rs ih =>
    intro acc m hacc hk
    rw [observeFn_step]
    refine disc_ite (fun _ => ih acc m hacc hk) fun _ => disc_readThrough lrv ?_ (ih acc m hacc hk)
    -- what follows a Get that returned `o`: an object kept is one whose reference the ghost holds
    intro o m' _ hs ho
    have hk' : ∀ m'' obs, (∀ x ∈ m', x ∈ m'') → (∀ p ∈ obs, key p.2 ∈ m'') → Disc m'' (k obs) :=
      fun m'' obs h => hk m'' obs (fun x hx => h x (hs x hx))
    refine disc_ite (fun _ => ih acc m' (fun p hp => hs _ (hacc p hp)) hk') fun hc => ?_
    refine disc_ite (fun _ => disc_onError _ _) fun _ => ih _ m' ?_ hk'
    intro p hp
    rcases mem_obsInsert hp with h1 | h1
    · exact hs _ (hacc p h1)
    · exact h1 ▸ ho hc

theorem disc_renderFn (lrv : Nat) (obs : Obs) (k : List Named → P) (m : List Ref) (hk : ∀ named, Disc m (k named))
    (ds : List Desired) (fresh : List String) (acc : List Named) : Disc m (renderFn lrv obs ds fresh acc k) := by
  fun_induction renderFn lrv obs ds fresh acc k with
  | case1 => exact hk _
  | case2 _ _ _ _ _ _ _ ih => exact ih hk                   -- the observed name is inherited
  | case3 => exact disc_onError _ _                          -- the generator gave up
  | case4 _ _ _ _ _ _ _ ih =>                                -- one availability probe
    refine disc_call rfl fun resp => ?_
    cases resp with
    | notFound => exact ih hk
    | _ => exact disc_onError _ _

theorem disc_gcFn (lrv : Nat) (k : P) (m : List Ref) (hk : Disc m k) :
    ∀ (os : List CObj), (∀ o ∈ os, key o ∈ m) → Disc m (gcFn lrv os k) := by
  intro os
  induction os with
  | nil => intro _; exact hk
  | cons o os ih =>
    intro hos
    exact disc_collect m lrv o _ (hos o (List.mem_cons_self ..)) (ih fun o' ho' => hos o' (List.mem_cons_of_mem _ ho'))

theorem disc_applyFn (lrv : Nat) (k : Bool → P) (m : List Ref) (hk : ∀ b, Disc m (k b)) :
    ∀ (ns : List Named) (b : Bool), Disc m (applyFn lrv ns b k) := by
  intro ns
  induction ns with
  | nil => intro b; exact hk b
  | cons n ns ih =>
    intro b
    refine disc_wcall m lrv _ _ rfl (no_target rfl m) fun resp => ?_
    cases resp <;> exact ih _

theorem disc_composeFn (lrv : Nat) (refs : List Ref) (out : Obs → FnOut) (ch : Choices)
    (hch : ∀ l x, x ∈ ch.gcOrder l → x ∈ l) (m : List Ref) : Disc m (composeFn lrv refs out ch) := by
  unfold composeFn
  apply disc_observeFn lrv _ refs [] m (by intro p hp; cases hp)
  intro m1 obs _ hobs
  split
  · exact disc_onError _ _
  · rename_i ds _
    refine disc_renderFn lrv obs _ m1 (fun named => ?_) _ _ _
    apply disc_gcFn lrv _ m1
    · apply disc_wcall m1 lrv _ _ rfl (no_target rfl m1)
      intro _
      apply disc_applyFn lrv _ m1
      intro synced
      refine disc_call rfl fun resp => ?_
      cases resp with
      | okRv rv => exact disc_finish _ _ _
      | conflict => exact disc_onConflict _
      | _ => exact disc_onErrorO _ _
    · -- the loop iterates over observed resources, whose references the ghost holds
      intro o ho
      have := hch _ _ ho
      simp only [List.mem_map, List.mem_filter] at this
      obtain ⟨p, ⟨hp, _⟩, rfl⟩ := this
      exact hobs p hp

theorem disc_associatePT (lrv : Nat) (tmpl : List Desired) (k : Assoc → P) : ∀ (refs : List Ref) (acc : Assoc) (m : List Ref),
    (∀ a, Disc m (k a)) → Disc m (associatePT lrv tmpl refs acc k) := by
  intro refs
  induction refs with
  | nil => intro acc m hk; exact hk acc
  | cons r rs ih =>
    intro acc m hk
    rw [associatePT_step]
    refine disc_ite (fun _ => ih acc m hk) fun _ => disc_readThrough lrv ?_ (ih acc m hk)
    -- what follows a Get that returned `o`: garbage is collected only if `o` was not foreign
    intro o m' _ hs ho
    have hk' : ∀ a, Disc m' (k a) := fun a => disc_mono (hk a) hs
    refine disc_ite (fun _ => disc_onError _ _) fun _ => ?_
    refine disc_ite (fun _ => ih _ _ hk') fun _ => ?_
    refine disc_ite (fun _ => disc_onError _ _) fun hc => disc_collect m' lrv o _ (ho hc) (ih _ _ hk')

theorem disc_renderPT (lrv : Nat) (a : Assoc) (k : List Rendered → P) : ∀ (ds : List Desired) (fresh : List String)
    (acc : List Rendered) (m : List Ref), (∀ rs, Disc m (k rs)) → Disc m (renderPT lrv a ds fresh acc k) := by
  intro ds
  induction ds with
  | nil => intro fresh acc m hk; exact hk _
  | cons d ds ih =>
    intro fresh acc m hk
    simp only [renderPT]
    split
    · split
      · exact ih _ _ _ hk
      · exact disc_onError _ _
    · split
      · exact ih _ _ _ hk
      · refine disc_call rfl fun resp => ?_
        have hk' : ∀ (rq : Req) rs, Disc (mineAfter m rq resp) (k rs) :=
          fun rq rs => disc_mono (hk rs) fun x hx => mem_mineAfter.mpr (.inl hx)
        cases resp <;> exact ih _ _ _ (hk' _)

theorem disc_applyPT (lrv : Nat) (k : Bool → P) : ∀ (rs : List Rendered) (b : Bool) (m : List Ref),
    (∀ b', Disc m (k b')) → Disc m (applyPT lrv rs b k) := by
  intro rs
  induction rs with
  | nil => intro b m hk; exact hk b
  | cons r rs ih =>
    intro b m hk
    show Disc m (if (!r.rendered) = true then _ else _)
    refine disc_ite (fun _ => ih _ m hk) fun _ => ?_
    refine disc_get (.inr rfl) (fun o m' hkey hs ho => ?_) (fun resp hn => ?_)
    · -- Apply read the object: MustBeControllableBy, then the merge patch of what it read
      refine disc_ite (fun _ => disc_onError _ _) fun hc => ?_
      refine disc_wcall m' lrv _ _ rfl (fun _ hx => Option.some.inj hx ▸ hkey ▸ ho hc) fun resp2 => ?_
      cases resp2 with
      | notFound => exact disc_onError _ _
      | _ => exact ih _ _ fun b' => disc_mono (hk b') hs
    · cases resp with
      | found o => cases hn
      | notFound =>
        refine disc_wcall m lrv _ _ rfl (no_target rfl m) fun resp2 => ?_
        cases resp2 with
        | exists_ => exact disc_onError _ _
        | _ => exact ih _ _ hk
      | _ => exact disc_onError _ _

theorem disc_composePT (lrv : Nat) (refs : List Ref) (tmpl : List Desired) (fresh : List String) (ver : String)
    (m : List Ref) : Disc m (composePT lrv refs tmpl fresh ver) := by
  unfold composePT
  apply disc_associatePT lrv tmpl _ refs [] m
  intro a
  apply disc_renderPT lrv a _ tmpl fresh [] m
  intro rs
  apply disc_wcall m lrv _ _ rfl (no_target rfl m)
  intro rsp
  apply disc_applyPT _ _ rs true m
  intro synced
  refine disc_call rfl fun resp => ?_
  cases resp with
  | xr _ _ _ => exact disc_wcall m _ _ _ rfl (no_target rfl m) fun _ => disc_finish _ _ _
  | _ => exact disc_onError _ _

/-- what the discipline asks of the nondeterministic choices: the garbage-collection loop
iterates over (part of) the map it was given -/
def ModeDisc : Mode → Prop
  | .fn _ ch => ∀ l x, x ∈ ch.gcOrder l → x ∈ l
  | .pt _ _ _ => True

theorem disc_reconcile_of_body (md : Mode)
    (hbody : ∀ (m' : List Ref) (lrv : Nat) (refs : List Ref),
      Disc m' (match md with
        | .fn out ch => composeFn lrv refs out ch
        | .pt tmpl fresh ver => composePT lrv refs tmpl fresh ver)) (m : List Ref) : Disc m (reconcile md) := by
  unfold reconcile
  refine disc_call rfl fun resp => ?_
  cases resp with
  | xr fin rv refs =>
    change Disc m _
    refine disc_ite (fun _ => hbody _ _ _) fun _ => ?_
    refine disc_call rfl fun resp2 => ?_
    cases resp2 with
    | okRv rv' => exact hbody _ _ _
    | conflict => exact disc_onConflict _
    | _ => exact disc_onError _ _
  | _ => trivial

theorem disc_reconcile (md : Mode) (hm : ModeDisc md) (m : List Ref) : Disc m (reconcile md) := by
  apply disc_reconcile_of_body
  intro m' lrv refs
  cases md with
  | fn out ch => exact disc_composeFn lrv refs out ch hm m'
  | pt tmpl fresh ver => exact disc_composePT lrv refs tmpl fresh ver m'

/-- the effect of request `r` on the composed resources `s.objs`, with the reply. `rewrote`: the
object with one key is rewritten (by its Delete, which marks it, by a merge patch addressed to it, or
because it is stored and not foreign), keeping its key and making nothing foreign -/
inductive Eff (s : St) (r : Req) : List CObj → Resp → Prop
  | read (k n : String) (o : CObj) (hr : r = .getObj k n ∨ r = .getCached k n) (hf : findObj s.objs k n = some o) :
      Eff s r s.objs (.found o)
  | same (resp : Resp) (hn : quiet resp = true) : Eff s r s.objs resp
  | rewrote (k n : String) (f : CObj → CObj) (hk : ∀ o, key (f o) = key o) (hc : ∀ o, (f o).ctrl = .other → o.ctrl = .other)
      (hw : r = .delete k n ∨ (∃ a c, r = .mergePatch k n a c) ∨ ∃ o, findObj s.objs k n = some o ∧ o.ctrl ≠ .other) :
      Eff s r (mapObj s.objs k n f) .ok
  | removed (k n : String) (hr : r = .delete k n) : Eff s r (removeObj s.objs k n) .ok
  | added (x : CObj) (hf : findObj s.objs x.kind x.name = none) (hc : x.ctrl ≠ .other) : Eff s r (s.objs ++ [x]) .ok

theorem eff_base (s : St) (r : Req) : Eff s r (C01.exec s r).1.objs (C01.exec s r).2 := by
  fun_cases C01.exec s r with
  | case4 k n o h => exact .read k n o (.inl rfl) h                       -- getObj, found
  | case7 k n _ o h => exact .read k n o (.inr rfl) h                     -- getCached, in the cache and found
  | case11 k n => exact .rewrote k n _ (fun _ => rfl) (fun _ h => h) (.inl rfl)   -- delete, finalizer: marked
  | case12 k n => exact .removed k n rfl                                  -- delete, no finalizer
  | case21 k n _ _ _ o h hc =>                                            -- apply over an object that is not foreign
    exact .rewrote k n _ (fun _ => rfl) (fun _ h => Ctrl.noConfusion h) (.inr (.inr ⟨o, h, hc⟩))
  | case22 _ _ _ _ _ h => exact .added _ h (fun h => Ctrl.noConfusion h)  -- apply, new object
  | case25 _ _ _ _ h => exact .added _ h (fun h => Ctrl.noConfusion h)    -- create
  | case29 k n a c =>                                                     -- merge patch of an object that is not foreign
    exact .rewrote k n _ (fun _ => rfl) (fun _ h => Ctrl.noConfusion h) (.inr (.inl ⟨a, c, rfl⟩))
  | _ => exact .same _ rfl                          -- every other branch: a reply without an object, nothing changes

theorem exec_spec (w : W) (r : Req) :
    Eff w.base r (exec w r).1.base.objs (exec w r).2 ∧
    (exec w r).1.mine = mineAfter w.mine r (exec w r).2 ∧ (exec w r).1.stale = staleAfter w.stale r (exec w r).2 := by
  fun_cases exec w r with
  | case1 => exact ⟨.same _ rfl, rfl, rfl⟩                                -- the stale clean-up, refused
  | case3 k n a c =>                                                      -- the merge patch over a foreign object
    exact ⟨.rewrote k n _ (fun _ => rfl) (fun _ h => Ctrl.noConfusion h) (.inr (.inl ⟨a, c, rfl⟩)), rfl, rfl⟩
  | _ => exact ⟨eff_base w.base _, rfl, rfl⟩                              -- everything else is `Xp.C01.exec`

theorem exec_eff (w : W) (r : Req) : Eff w.base r (exec w r).1.base.objs (exec w r).2 := (exec_spec w r).1

namespace Eff
variable {s : St} {r : Req} {l : List CObj} {resp : Resp}

theorem nodup (h : Eff s r l resp) (hn : (s.objs.map key).Nodup) : (l.map key).Nodup := by
  cases h with
  | read | same => exact hn
  | rewrote k n f hk => rw [map_key_mapObj hk]; exact hn
  | removed => exact nodup_removeObj hn
  | added x hf =>
    rw [List.map_append, List.nodup_append]
    refine ⟨hn, by simp, ?_⟩
    intro a ha b hb
    simp at hb
    subst hb
    obtain ⟨o, ho, rfl⟩ := List.mem_map.mp ha
    intro he
    exact findObj_none hf o ho (by simpa [key] using he)

theorem foreign_pred (h : Eff s r l resp) : ∀ o' ∈ l, o'.ctrl = .other →
    ∃ o ∈ s.objs, o.ctrl = .other ∧ key o = key o' := by
  intro o' ho' hc
  cases h with
  | read | same => exact ⟨o', ho', hc, rfl⟩
  | rewrote k n f hk hf =>
    obtain ⟨o0, h0, rfl⟩ := mem_mapObj.mp ho'
    split at hc
    · exact ⟨o0, h0, hf _ hc, by rw [if_pos ‹_›, hk]⟩
    · exact ⟨o0, h0, hc, by rw [if_neg ‹_›]⟩
  | removed => exact ⟨o', (mem_removeObj.mp ho').1, hc, rfl⟩
  | added x _ hx =>
    rcases List.mem_append.mp ho' with h | h
    · exact ⟨o', h, hc, rfl⟩
    · rw [List.mem_singleton.mp h] at hc; exact absurd hc hx

theorem frame (h : Eff s r l resp) (hn : (s.objs.map key).Nodup) {o : CObj} (ho : o ∈ s.objs) (hc : o.ctrl = .other) :
    o ∈ l ∨ r = .delete o.kind o.name ∨ ∃ a c, r = .mergePatch o.kind o.name a c := by
  cases h with
  | read | same => exact .inl ho
  | rewrote k n f _ _ hw =>
    by_cases hk : o.kind = k ∧ o.name = n
    · rcases hw with hw | ⟨a, c, hw⟩ | ⟨o1, hf, h1⟩
      · exact .inr (.inl (by rw [hk.1, hk.2]; exact hw))
      · exact .inr (.inr ⟨a, c, by rw [hk.1, hk.2]; exact hw⟩)
      · obtain ⟨hm1, hk1, hn1⟩ := findObj_some hf
        have : o = o1 := eq_of_key_eq hn ho hm1 (by simp [key, hk.1, hk.2, hk1, hn1])
        exact absurd (this ▸ hc) h1
    · exact .inl (mem_mapObj.mpr ⟨o, ho, by rw [if_neg hk]⟩)
  | removed k n hr =>
    by_cases hk : o.kind = k ∧ o.name = n
    · exact .inr (.inl (by rw [hk.1, hk.2]; exact hr))
    · exact .inl (mem_removeObj.mpr ⟨ho, hk⟩)
  | added => exact .inl (List.mem_append_left _ ho)

theorem found {o : CObj} (h : Eff s r l (.found o)) : l = s.objs ∧ o ∈ s.objs ∧ respOK r (.found o) := by
  cases h with
  | read k n _ hr hf =>
    obtain ⟨hm, hk, hn⟩ := findObj_some hf
    exact ⟨rfl, hm, by rcases hr with rfl | rfl <;> exact ⟨hk, hn⟩⟩
  | same _ hn => cases hn

theorem respOK (h : Eff s r l resp) : respOK r resp := by
  cases resp with
  | found o => exact h.found.2.2
  | _ => exact respOK_quiet r rfl

end Eff

theorem lift_resp (w : W) (r : Req) : (lift w r).2 = (C01.exec w.base r).2 := rfl
theorem lift_base (w : W) (r : Req) : (lift w r).1.base = (C01.exec w.base r).1 := rfl

theorem exec_respOK (w : W) (r : Req) : respOK r (exec w r).2 := (exec_eff w r).respOK

/-- what the third party may do between two calls: anything, as long as the API server bumps the
resourceVersion of what it writes (an object that is foreign now and was not there like this
before is stale), copies do not become current again by themselves, object keys stay unique,
and the reconcile's own bookkeeping is not its to touch -/
structure Rely (w w' : W) : Prop where
  mine : w'.mine = w.mine
  stale : ∀ x ∈ w.stale, x ∈ w'.stale
  nodup : (w.base.objs.map key).Nodup → (w'.base.objs.map key).Nodup
  foreign : ∀ o ∈ w'.base.objs, o.ctrl = .other → o ∈ w.base.objs ∨ key o ∈ w'.stale

theorem Rely.rfl (w : W) : Rely w w := ⟨by rfl, fun _ h => h, fun h => h, fun _ h _ => Or.inl h⟩

theorem adopt_rely (k n : String) (w : W) : Rely w (adopt k n w) := by
  fun_cases adopt k n w with
  | case2 =>                                          -- an object that is not foreign yet: taken over, and stale
    refine ⟨rfl, fun x hx => List.mem_cons_of_mem _ hx, ?_, ?_⟩
    · intro hn; simp only; rw [map_key_mapObj (by intro _; rfl)]; exact hn
    · intro o' ho' hc
      obtain ⟨o0, h0, rfl⟩ := mem_mapObj.mp ho'
      split
      · rename_i hm
        right
        simp [key, hm.1, hm.2]
      · exact Or.inl h0
  | _ => exact Rely.rfl w

/-- the fence: object keys are unique, and a composed resource controlled by somebody else of
which the reconcile holds a copy has moved on since that copy was read -/
structure Inv (w : W) : Prop where
  nodup : (w.base.objs.map key).Nodup
  fence : ∀ o ∈ w.base.objs, o.ctrl = .other → key o ∈ w.mine → key o ∈ w.stale

theorem inv_rely {w w' : W} (h : Inv w) (r : Rely w w') : Inv w' := by
  refine ⟨r.nodup h.nodup, ?_⟩
  intro o ho hc hm
  rcases r.foreign o ho hc with h1 | h1
  · exact r.stale _ (h.fence o h1 hc (r.mine ▸ hm))
  · exact h1

/-- a foreign object after the call was foreign, under the same key, before; the one copy a reply adds
to the ghost is of an object that is not foreign -/
theorem Eff.inv {w w' : W} {r : Req} {l : List CObj} {resp : Resp} (he : Eff w.base r l resp) (h : Inv w)
    (hobjs : w'.base.objs = l) (hmine : w'.mine = mineAfter w.mine r resp)
    (hstale : w'.stale = staleAfter w.stale r resp) : Inv w' := by
  subst hobjs
  refine ⟨he.nodup h.nodup, fun o' ho' hc hm => ?_⟩
  rw [hmine] at hm
  rw [hstale]
  obtain ⟨o, ho, hoc, hk⟩ := he.foreign_pred o' ho' hc
  cases hrf : readFound r resp with
  | none =>
    simp only [mineAfter, staleAfter, hrf] at hm ⊢
    exact hk ▸ h.fence o ho hoc (hk ▸ hm)
  | some x =>
    obtain ⟨o1, hresp, hc1, hr⟩ := readFound_some hrf
    obtain ⟨_, hm1, hok⟩ := (hresp ▸ he).found
    have hx : key o1 = x := by
      have : o1.kind = x.kind ∧ o1.name = x.name := by rcases hr with rfl | rfl <;> exact hok
      rw [key, this.1, this.2]
    have hne : key o' ≠ x := fun e => hc1 (eq_of_key_eq h.nodup ho hm1 (hk.trans (e.trans hx.symm)) ▸ hoc)
    have hm' : key o' ∈ w.mine :=
      (mem_mineAfter.mp hm).resolve_right fun h1 => hne (Option.some.inj (hrf.symm.trans h1)).symm
    simp only [staleAfter, hrf, List.mem_filter, decide_eq_true_eq]
    exact ⟨hk ▸ h.fence o ho hoc (hk ▸ hm'), hne⟩

theorem exec_inv (w : W) (r : Req) (h : Inv w) : Inv (exec w r).1 :=
  (exec_spec w r).1.inv h rfl (exec_spec w r).2.1 (exec_spec w r).2.2

/-- The second conjunct (the store the reconcile leaves behind, crashed or not) is what lets
reconciles follow one another: `interference_guarantees_history`. -/
theorem interference_guarantees (md : Mode) (hmd : ModeDisc md) (env : Env W) (henv : ∀ k w, Rely w (env k w))
    (plan : Plan) (w : W) (hw : Inv w) :
    (∀ x ∈ ownE sem env plan 0 (reconcile md) w, Inv x.1 ∧ ∀ t, target x.2 = some t → t ∈ x.1.mine) ∧
    Inv (runE sem env plan 0 (reconcile md) w).1 :=
  (disc_reconcile md hmd w.mine).kept.sound
    W.mine hw (fun _ _ hr => ⟨hr.mine, fun hs => inv_rely hs hr⟩)
    (fun s r _ => ⟨⟨exec_respOK s r, (exec_spec s r).2.1⟩, exec_inv s r⟩)
    (fun m o r _ => ⟨respOK_errResp o r, (mineAfter_errResp m o r).symm⟩) env henv plan 0

theorem Eff.foreign_kept {w : W} {r : Req} {l : List CObj} {resp : Resp} (he : Eff w.base r l resp) (hi : Inv w)
    (hg : ∀ t, target r = some t → t ∈ w.mine) (o : CObj) (ho : o ∈ w.base.objs) (hc : o.ctrl = .other) :
    o ∈ l ∨ ((r = .delete o.kind o.name ∨ ∃ a c, r = .mergePatch o.kind o.name a c) ∧ key o ∈ w.mine ∧ key o ∈ w.stale) := by
  rcases he.frame hi.nodup ho hc with h | h
  · exact .inl h
  · -- either request is addressed to `o`: the guard puts its reference in the ghost, the fence makes it stale
    have hm : key o ∈ w.mine := hg _ (by rcases h with h | ⟨_, _, h⟩ <;> rw [h] <;> rfl)
    exact .inr ⟨h, hm, hi.fence o ho hc hm⟩

theorem foreignAt_iff (w : W) (x : Ref) : foreignAt w x = true ↔ ∃ o ∈ w.base.objs, key o = x ∧ o.ctrl = .other := by
  simp only [foreignAt, List.any_eq_true, Bool.and_eq_true, beq_iff_eq]
  constructor
  · rintro ⟨o, ho, ⟨hk, hn⟩, hc⟩; exact ⟨o, ho, by rw [key, hk, hn], hc⟩
  · rintro ⟨o, ho, hk, hc⟩; subst hk; exact ⟨o, ho, ⟨rfl, rfl⟩, hc⟩

theorem update_refused_on_foreign (w : W) (k n : String) (hi : Inv w) (hm : (⟨k, n⟩ : Ref) ∈ w.mine)
    (hf : foreignAt w ⟨k, n⟩ = true) : exec w (.gcUpdate k n) = (w, .conflict) := by
  obtain ⟨o, ho, hk, hc⟩ := (foreignAt_iff w _).mp hf
  have hs : (⟨k, n⟩ : Ref) ∈ w.stale := hk ▸ hi.fence o ho hc (hk ▸ hm)
  have hsome : (findObj w.base.objs k n).isSome = true := by
    cases hfo : findObj w.base.objs k n with
    | some _ => rfl
    | none => exact absurd (by simpa [key] using hk) (findObj_none hfo o ho)
  simp [exec, hs, hsome]

/-- a world is within the hypotheses: unique keys and an empty ghost (a reconcile starts
without copies) -/
theorem inv_start (s : St) (hn : (s.objs.map key).Nodup) (st : List Ref) : Inv ⟨s, [], st⟩ :=
  ⟨hn, fun _ _ _ h => by cases h⟩

/-! Without a third party, over `Xp.C01.sem`: the fence with nothing stale, `Inv ⟨s, m, []⟩`, says that no copy in
`m` is of a foreign object. That ties the ghost to the stores of `Xp.C01.sem`, which do not carry it
(`Kept.wpE_link`). -/

theorem inv_base_exec {m : List Ref} {s : St} (r : Req) (h : Inv ⟨s, m, []⟩) :
    Inv ⟨(C01.exec s r).1, mineAfter m r (C01.exec s r).2, []⟩ :=
  (eff_base s r).inv h rfl rfl (by unfold staleAfter; split <;> rfl)

/-- a write that the API server does not check itself wants a copy (`Disc`), and no copy is of a foreign
object (the fence with nothing stale) -/
theorem foreign_throughout (md : Mode) (hmd : ModeDisc md) (plan : Plan) {o : CObj} (hc : o.ctrl = .other) (s : St)
    (hs : (s.objs.map key).Nodup ∧ o ∈ s.objs) :
    ∀ s' ∈ reach C01.sem plan 0 (reconcile md) s, (s'.objs.map key).Nodup ∧ o ∈ s'.objs := by
  have hw := (disc_reconcile md hmd []).kept.wpE_link (sem := C01.sem) (R := Eq) (fun m s => Inv ⟨s, m, []⟩)
    (fun _ _ _ h e => e ▸ h) (fun m s r h _ => ⟨_, ⟨(eff_base s r).respOK, rfl⟩, inv_base_exec r h⟩)
    (fun m o r _ => ⟨respOK_errResp o r, (mineAfter_errResp m o r).symm⟩) (inv_start s hs.1 [])
  refine hw.reach hs ?_ plan 0
  rintro t r ⟨hn, ho⟩ ⟨m, hi, hg⟩
  -- nothing is stale, so the window of `Eff.foreign_kept` is closed
  exact ⟨(eff_base t r).nodup hn, ((eff_base t r).foreign_kept hi hg o ho hc).elim id fun h => nomatch h.2.2⟩

/-- a new reconcile holds no copies of composed resources -/
def resetGhost (w : W) : W := { w with mine := [], stale := [] }

theorem inv_reset {w : W} (h : Inv w) : Inv (resetGhost w) :=
  ⟨h.nodup, fun _ _ _ hm => by cases hm⟩

/-- the own calls of a history of reconciles, each with its own third party, fault plan and
mode (function output, templates, generated names, loop orders) -/
def ownRounds : List (Env W × Plan × Mode) → W → List (W × Req)
  | [], _ => []
  | (env, plan, md) :: h, w =>
    ownE sem env plan 0 (reconcile md) (resetGhost w) ++ ownRounds h (runE sem env plan 0 (reconcile md) (resetGhost w)).1

theorem interference_guarantees_history (h : List (Env W × Plan × Mode))
    (hh : ∀ e ∈ h, (∀ k w, Rely w (e.1 k w)) ∧ ModeDisc e.2.2) (w : W) (hw : Inv w) :
    ∀ x ∈ ownRounds h w, Inv x.1 ∧ ∀ t, target x.2 = some t → t ∈ x.1.mine :=
  rounds_forall ownRounds (fun _ _ _ => rfl) Inv _ (fun _ _ _ hx => nomatch hx) h
    (fun e he _ hs => interference_guarantees e.2.2 (hh e he).2 e.1 (hh e he).1 e.2.1 _ (inv_reset hs)) w hw

end Xp.C02World
