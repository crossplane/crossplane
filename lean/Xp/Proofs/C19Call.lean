import Xp.Proofs.C19Thread
import Xp.Proofs.C19Next
/-
C19 — the server's side of one API call of a reconcile as a relation (`CallEff`, `call_eff`): what
the request of a reconcile that satisfies the thread invariant does to the store, and what it is
answered. Every fact about a call is proved against this relation: the store invariant, the thread
invariant of the other reconciles (`StoreInv.call`, `TInv.call`) and, composed with `Next`, the
thread invariant of the reconcile that goes on (`next_ok`).
-/
namespace Xp.C19

theorem request_ok {s : Store} {t : Thread} (hb : ThreadBase s t) (hf : PcFacts s t) {u' : Usage}
    (h : t.request = .updU u') :
    u'.name = t.uname ∧ u'.rv = t.u.rv ∧ OwnSub t.u u' ∧ (t.u.ready = true → u'.of = t.u.of) ∧
    ((t.u.deleting = true ∧ u'.fin = false) ∨
      ((t.u.deleting = true → u'.fin = true) ∧ UsageOk s (u'.onto t.u))) := by
  obtain ⟨nm, pc, u, orv, ord, seen⟩ := t
  cases pc with
  | ofUpdate pick =>
    cases h
    exact ⟨hb.name, rfl, .refl u, fun hr => (hb.ok.readyOf hr hf.1).elim,
      .inr ⟨hb.ok.delFin, hb.ok.delFin, fun _ => hf.2, hb.ok.readyBy, hb.ok.owned⟩⟩
  | byUpdate pick =>
    cases h
    -- a Usage whose spec.by is unresolved is not ready
    have hnr : u.ready = true → u.by_ = none := by
      intro hr
      cases hu : u.by_ with
      | none => rfl
      | some b => exact absurd (hf.2.2 b hu) (hb.ok.readyBy hr b hu)
    exact ⟨hb.name, rfl, .refl u, fun _ => rfl, .inr ⟨hb.ok.delFin, hb.ok.delFin, hb.ok.readyOf,
      fun hr b hbb => by simp [Usage.onto, hnr hr] at hbb,
      fun hr b hbb => by simp [Usage.onto, hnr hr] at hbb⟩⟩
  | dRemoveFin =>
    cases h
    exact ⟨hb.name, rfl, .refl u, fun _ => rfl, .inl ⟨hf.1, rfl⟩⟩
  | addFin =>
    cases h
    exact ⟨hb.name, rfl, .refl u, fun _ => rfl,
      .inr ⟨fun _ => rfl, fun _ => rfl, hb.ok.readyOf, hb.ok.readyBy, hb.ok.owned⟩⟩
  | addDetails =>
    cases h
    exact ⟨hb.name, rfl, .refl u, fun _ => rfl,
      .inr ⟨fun _ => hf.2.2.2, hb.ok.delFin, hb.ok.readyOf, hb.ok.readyBy, hb.ok.owned⟩⟩
  | addOwner ref =>
    cases h
    obtain ⟨_, _, _, h4, b, hby, hborn⟩ := hf
    refine ⟨hb.name, rfl, addOwnerRef_uids _ ref, fun _ => rfl,
      .inr ⟨fun _ => h4, hb.ok.delFin, hb.ok.readyOf, hb.ok.readyBy, fun _ b' hb' => ?_⟩⟩
    cases hby.symm.trans hb'
    exact ⟨ref, mem_addOwnerRef _ _, hborn⟩
  | byList => simp only [Thread.request] at h; split at h <;> cases h
  | dGetUsing => simp only [Thread.request] at h; split at h <;> cases h
  | getUsing => simp only [Thread.request] at h; split at h <;> cases h
  | _ => cases h

/-- The server, asked `q` by the reconcile `t`, goes from `s` to `s'` and answers `resp`. An error
reply - which is also what an injected fault looks like - leaves the store alone. The request is an
index: for a reconcile at a known program counter `cases` keeps the constructors of its request.
`listed` (any request), `gone` (any Usage in the reply) and `readyKept` (no premise) say less than
the server does: no fact proved from the relation needs more of them. -/
inductive CallEff (s : Store) (t : Thread) : Req → Store → Resp → Prop where
  | failed (q : Req) (e : Err) : CallEff s t q s (.err e)
  | gotUsage (n : String) (x : Usage) : s.getU n = some x → CallEff s t (.getU n) s (.usage x)
  | gotRes (g k n : String) (r : Res) : s.getR g k n = some r → CallEff s t (.getR g k n) s (.res r)
  | listed (q : Req) (l : List Res) : (∀ r ∈ l, r ∈ s.res) → CallEff s t q s (.rlist l)
  | counted (key : String) : CallEff s t (.listU key) s (.count (s.countU key))
  | kept (u' : Usage) : t.u ∈ s.usages → t.u = u'.onto t.u → CallEff s t (.updU u') s (.usage t.u)
  | wrote (u' : Usage) : t.u ∈ s.usages → t.u.name = t.uname → u'.name = t.uname →
      (t.u.ready = true → u'.of = t.u.of) → OwnSub t.u u' → UsageOk s (u'.onto t.u) →
      CallEff s t (.updU u') (s.putU { u'.onto t.u with rv := s.nextRv }).bump (.usage { u'.onto t.u with rv := s.nextRv })
  | gone (u' n : Usage) : u'.fin = false → t.u ∈ s.usages → t.u.deleting = true →
      CallEff s t (.updU u') (s.dropU t.uname).bump (.usage n)
  | readyKept (u' : Usage) : CallEff s t (.updStatus u') s (.usage t.u)
  | ready : t.pc = .status → t.u ∈ s.usages → t.u.name = t.uname → UsageOk s { t.u with ready := true } →
      CallEff s t (.updStatus { t.u with ready := true }) (s.putU { t.u with ready := true, rv := s.nextRv }).bump
        (.usage { t.u with ready := true, rv := s.nextRv })
  | res (q : Res) (s' : Store) (resp : Resp) : UpdRSpec s q s' resp →
      (q.inUse = true ∨ ∃ used, t.pc = .dUnlabel used ∧ q = { used with inUse := false }) → CallEff s t (.updR q) s' resp

/-- what the server does with the request of a reconcile: the one place where the writes' case
specifications meet what the reconcile knows (its copy is the stored version, `ThreadBase.hit`; the
Update it asks for is admissible, `request_ok`) -/
theorem call_eff {s : Store} {t : Thread} (ht : TInv s t) :
    CallEff s t t.request (s.exec t.request).1 (s.exec t.request).2 := by
  rcases request_cases t with h | ⟨u', h, hp, _⟩ | ⟨used, ⟨_, h⟩ | ⟨hpc, h⟩⟩ | ⟨hpc, h⟩
  · generalize t.request = q at h ⊢
    cases q with
    | getU n =>
      show CallEff s t _ s (match s.getU n with | some u => .usage u | none => .err .notFound)
      cases hg : s.getU n with
      | none => exact .failed _ _
      | some x => exact .gotUsage n x hg
    | getR g k n =>
      show CallEff s t _ s (match s.getR g k n with | some r => .res r | none => .err .notFound)
      cases hg : s.getR g k n with
      | none => exact .failed _ _
      | some r => exact .gotRes g k n r hg
    | listR g k sel => exact .listed _ _ (fun r hr => (List.mem_filter.mp hr).1)
    | listU key => exact .counted key
    | _ => cases h
  · obtain ⟨hb, hf⟩ := ht.facts (Pc.isGet_false hp)
    obtain ⟨hname, hrv, hsub, hof, hfin⟩ := request_ok hb hf h
    rw [h]
    show CallEff s t _ (s.updU u').1 (s.updU u').2
    fun_cases Store.updU s u' with
    | case1 | case2 => exact .failed _ _
    | case3 x hg hx hon =>  -- nothing to change
      obtain ⟨rfl, hmem⟩ := hb.hit hg hname ((Decidable.not_not.mp hx).trans hrv)
      exact .kept u' hmem hon.symm
    | case4 x hg hx _ hd =>  -- the finalizer of a terminating Usage goes
      obtain ⟨rfl, hmem⟩ := hb.hit hg hname ((Decidable.not_not.mp hx).trans hrv)
      simp only [Bool.and_eq_true, Bool.not_eq_true'] at hd
      exact hname ▸ .gone u' _ hd.2 hmem hd.1
    | case5 x hg hx _ hd =>
      obtain ⟨rfl, hmem⟩ := hb.hit hg hname ((Decidable.not_not.mp hx).trans hrv)
      simp only [Bool.and_eq_true, Bool.not_eq_true'] at hd
      exact .wrote u' hmem hb.name hname hof hsub (hfin.resolve_left hd).2
  · rw [h]; exact .res _ _ _ (updR_spec s _) (.inl rfl)
  · rw [h]; exact .res _ _ _ (updR_spec s _) (.inr ⟨used, hpc, rfl⟩)
  · obtain ⟨hb, hf⟩ := ht.at_pc hpc rfl
    rw [h]
    show CallEff s t _ (s.updStatus { t.u with ready := true }).1 (s.updStatus { t.u with ready := true }).2
    fun_cases Store.updStatus s { t.u with ready := true } with
    | case1 | case2 => exact .failed _ _
    | case3 x hg hx _ =>  -- ready already
      obtain ⟨rfl, _⟩ := hb.hit hg hb.name (Decidable.not_not.mp hx)
      exact .readyKept _
    | case4 x hg hx _ =>
      obtain ⟨rfl, hmem⟩ := hb.hit hg hb.name (Decidable.not_not.mp hx)
      exact .ready hpc hmem hb.name
        ⟨fun hd => absurd (hf.1.symm.trans hd) Bool.false_ne_true, fun _ => hf.2.1, fun _ => hf.2.2.1, fun _ => hf.2.2.2.2⟩

theorem staleResp_none (r : Req) (resp : Resp) : staleResp none r resp = resp := by
  unfold staleResp
  split <;> first | rfl | simp_all

theorem step_eff {s : Store} {t : Thread} (ht : TInv s t) (o : Outcome) :
    ∃ resp, CallEff s t t.request (t.step o none s).store resp ∧
      ((t.step o none s).after = t.next s.usages resp ∨ (t.step o none s).after = .done .crashed) := by
  cases o with
  | ok => exact ⟨_, call_eff ht, .inl (congrArg (t.next s.usages) (staleResp_none _ _))⟩
  | crashAfter => exact ⟨_, call_eff ht, .inr rfl⟩
  | fail => exact ⟨_, .failed _ .other, .inl rfl⟩
  | crashBefore => exact ⟨_, .failed _ .other, .inr rfl⟩
  | conflict =>
    cases hw : t.request.isWrite
    · exact ⟨_, .failed _ .other, .inl (by simp [Thread.step, faultResp, hw])⟩
    · exact ⟨_, .failed _ .conflict, .inl (by simp [Thread.step, faultResp, hw])⟩

theorem StoreInv.call {s s' : Store} {t : Thread} {q : Req} {resp : Resp} (hs : StoreInv s)
    (hc : CallEff s t q s' resp) : StoreInv s' := by
  cases hc with
  | wrote u' _ _ _ _ _ hok => exact hs.putU_bump rfl (hok.withRv _)
  | gone _ _ _ _ _ => exact (hs.dropU _).bump
  | ready _ _ _ hok => exact hs.putU_bump rfl (hok.withRv _)
  | res _ _ _ spec _ => exact hs.updR spec
  | _ => exact hs

theorem CallEff.born {s s' : Store} {t : Thread} {q : Req} {resp : Resp} (hc : CallEff s t q s' resp) :
    ∀ e ∈ s.born, e ∈ s'.born := by
  cases hc with
  | res _ _ _ spec _ => exact spec.sameUsages.born
  | _ => exact fun _ h => h

theorem TInv.call {s s' : Store} {t y : Thread} {q : Req} {resp : Resp} (h : TInv s y) (hc : CallEff s t q s' resp)
    (hne : t.uname ≠ y.uname) : TInv s' y := by
  rcases h with h | ⟨h1, h2⟩
  · exact .inl h
  refine .inr ⟨?_, h2.mono hc.born⟩
  cases hc with
  | wrote u' _ _ hn _ _ _ => exact h1.putU_other (n := { u'.onto t.u with rv := s.nextRv }) (hn ▸ hne)
  | gone _ _ _ _ _ => exact h1.dropU_other hne
  | ready _ _ hn _ => exact h1.putU_other (n := { t.u with ready := true, rv := s.nextRv }) (hn ▸ hne)
  | res _ _ _ spec _ => exact h1.sameUsages spec.sameUsages
  | _ => exact h1

theorem CallEff.own {s s' : Store} {t : Thread} {n u' : Usage} (hb : ThreadBase s t)
    (hc : CallEff s t (.updU u') s' (.usage n)) (hd : t.u.deleting = true → u'.fin = true) :
    ThreadBase s' { t with u := n } ∧ ∃ rv, n = { u'.onto t.u with rv := rv } := by
  cases hc with
  | kept _ _ he => exact ⟨hb, u'.rv, he⟩
  | wrote _ hm _ hn _ _ hok =>
    refine ⟨⟨hn, Nat.lt_succ_self _, fun y hy hyn _ => ?_, fun hf => ?_, (hok.withRv _).mono (fun _ h => h)⟩, _, rfl⟩
    · rcases mem_putU.mp hy with ⟨_, hne⟩ | ⟨rfl, _⟩
      · exact absurd (hyn.trans hn.symm) hne
      · rfl
    · exact ⟨_, mem_putU.mpr (.inr ⟨rfl, _, hm, hb.name.trans hn.symm⟩), hn, hf, rfl, id⟩
  | gone _ _ hf _ hdel => rw [hd hdel] at hf; cases hf

theorem CallEff.sameUsages {s s' : Store} {t : Thread} {q : Req} {resp : Resp} (hc : CallEff s t q s' resp)
    (h : ∀ x, resp ≠ .usage x) : SameUsages s s' := by
  cases hc with
  | res _ _ _ spec _ => exact spec.sameUsages
  | gotUsage _ _ _ | kept _ _ _ | wrote _ _ _ _ _ _ _ | gone _ _ _ _ _ | readyKept _ | ready _ _ _ _ =>
    exact absurd rfl (h _)
  | _ => exact .refl s

theorem CallEff.res_eq {s s' : Store} {t : Thread} {u' : Usage} {resp : Resp} (hc : CallEff s t (.updU u') s' resp) :
    s'.res = s.res := by
  cases hc <;> rfl

theorem CallEff.of_getU {s s' : Store} {t : Thread} {n : String} {x : Usage} (hc : CallEff s t (.getU n) s' (.usage x)) :
    s' = s ∧ s.getU n = some x := by
  cases hc with
  | gotUsage _ _ hg => exact ⟨rfl, hg⟩

theorem CallEff.of_getR {s s' : Store} {t : Thread} {g k n : String} {r : Res} (hc : CallEff s t (.getR g k n) s' (.res r)) :
    s' = s ∧ s.getR g k n = some r := by
  cases hc with
  | gotRes _ _ _ _ hg => exact ⟨rfl, hg⟩

/-- the Get of the using resource: at this program counter the request is a `match` on `spec.by` -/
theorem CallEff.of_getUsing {s s' : Store} {t : Thread} {b : RSpec} {g : Res} (hpc : t.pc = .getUsing)
    (hby : t.u.by_ = some b) (hc : CallEff s t t.request s' (.res g)) :
    s' = s ∧ s.getR (groupOf b.av) b.kind b.name = some g := by
  obtain ⟨nm, pc, u, orv, ord, seen⟩ := t
  cases hpc
  simp only [Thread.request, show u.by_ = some b from hby] at hc
  exact hc.of_getR

theorem CallEff.of_count {s s' : Store} {t : Thread} {key : String} {c : Nat} (hc : CallEff s t (.listU key) s' (.count c)) :
    s' = s ∧ c = s.countU key := by
  cases hc; exact ⟨rfl, rfl⟩

theorem CallEff.of_rlist {s s' : Store} {t : Thread} {q : Req} {l : List Res} (hc : CallEff s t q s' (.rlist l)) :
    s' = s ∧ ∀ r ∈ l, r ∈ s.res := by
  cases hc with
  | listed _ _ hl => exact ⟨rfl, hl⟩
  | res _ _ _ spec _ => cases spec

theorem CallEff.of_res {s s' : Store} {t : Thread} {q r : Res} (hc : CallEff s t (.updR q) s' (.res r)) :
    UpdRSpec s q s' (.res r) := by
  cases hc with
  | res _ _ _ spec _ => exact spec

theorem CallEff.unlabel {s s' : Store} (hs : StoreInv s) {t : Thread} {q : Req} {resp : Resp} (hc : CallEff s t q s' resp) :
    ∀ r ∈ s.res, r.inUse = true → ∀ r' ∈ s'.res, r'.key = r.key → r'.inUse = false →
      ∃ used, t.pc = .dUnlabel used ∧ used.key = r.key := by
  intro r hr hin r' hr' hk hno
  -- a resource of `r`'s key that was there before is `r`, labelled
  have same : r' ∈ s.res → False := fun hr' => by
    rw [hs.res_inj hr' hr hk, hin] at hno; cases hno
  cases hc with
  | res q _ _ spec hq =>
    rcases spec.res_from r' hr' with h' | ⟨k, h'⟩
    · exact (same h').elim
    · rcases hq with hq | ⟨used, hpc, rfl⟩
      · rw [hno, hq] at h'; cases h'
      · exact ⟨used, hpc, k.symm.trans hk⟩
  | _ => exact (same hr').elim

theorem base_of_get {s : Store} (hs : StoreInv s) {nm : String} {x : Usage} (hg : s.getU nm = some x)
    (pc : Pc) (orv : Nat) (ord : Bool) (seen : List Usage) : ThreadBase s ⟨nm, pc, x, orv, ord, seen⟩ := by
  have hx := getU_some hg
  refine ⟨hx.2, hs.rvU x hx.1, ?_, ?_, hs.usageOk hx.1⟩
  · intro y hy hyn _
    exact hs.usageUniq y hy x hx.1 (hyn.trans hx.2.symm)
  · intro hf
    exact ⟨x, hx.1, hx.2, hf, rfl, fun h => h⟩

theorem pick_ne {s : Store} (hs : StoreInv s) {l : List Res} (hl : ∀ r ∈ l, r ∈ s.res) {osel : Option Sel}
    {os : List OwnerRef} {n : String} (hn : resolvePick osel os l = some n) : n ≠ "" := by
  obtain ⟨r, hr, hrn⟩ := resolvePick_mem hn
  exact hrn ▸ hs.resName r (hl r hr)

theorem next_ok {s s' : Store} (hs : StoreInv s) {t : Thread} (ht : TInv s t) {resp : Resp}
    (hc : CallEff s t t.request s' resp) : AfterOk s' t.uname (t.next s.usages resp) := by
  obtain ⟨nm, pc, u, orv, ord, seen⟩ := t
  have h := next_spec ⟨nm, pc, u, orv, ord, seen⟩ s.usages resp
  generalize Thread.next ⟨nm, pc, u, orv, ord, seen⟩ s.usages resp = a at h ⊢
  change Next _ _ pc _ _ at h
  have got : ∀ x, CallEff s ⟨nm, .getUsage, u, orv, ord, seen⟩ (.getU nm) s' (.usage x) →
      AfterOk s' nm (Thread.afterGet ⟨nm, .getUsage, x, x.rv, x.ready, seen⟩) := fun x hc => by
    obtain ⟨rfl, hg⟩ := hc.of_getU
    exact afterGet_ok (base_of_get hs hg .getUsage x.rv x.ready seen)
  rcases ht with hget | ⟨hb, hf⟩
  · -- the first call: nothing is known yet, and only the Usage itself lets the reconcile go on
    obtain rfl := Pc.eq_getUsage hget
    cases h with
    | got x => exact got x hc
    | ended _ _ r _ => trivial
  -- unless the reply is a Usage, the reconcile's copy is as good as before
  have hb' : (∀ x, resp ≠ .usage x) → ThreadBase s' ⟨nm, pc, u, orv, ord, seen⟩ :=
    fun h => hb.sameUsages (hc.sameUsages h)
  cases h with
  | got x => exact got x hc
  | ended _ _ r _ | reported n => trivial
  | ofPicked l p hp =>
    obtain ⟨rfl, hl⟩ := hc.of_rlist
    exact goto_ok hb (.ofUpdate p) ⟨hf, pick_ne hs hl hp⟩
  | ofSet p n =>
    -- `e` says what `n` is; it is used where a fact about `n` is wanted (`e ▸ _`, the fields then compute) and not
    -- substituted into the context: with that term in every hypothesis the proof is slow to check
    obtain ⟨hb', _, e⟩ := hc.own hb hb.ok.delFin
    exact afterOf_ok hb' (e ▸ hf.2)
  | byPicked l p hp =>
    obtain ⟨rfl, hl⟩ := hc.of_rlist
    exact goto_ok hb (.byUpdate p) ⟨hf.1, pick_ne hs hl hp, hf.2⟩
  | bySet p n =>
    obtain ⟨hb', _, e⟩ := hc.own hb hb.ok.delFin
    refine afterResolve_ok hb' ⟨e ▸ hf.1, fun b hbb => ?_⟩
    obtain ⟨b0, _, rfl⟩ := Option.map_eq_some_iff.mp (e ▸ hbb)
    exact hf.2.1
  | userGone => exact goto_ok (hb' fun _ => Resp.noConfusion) .dGetUsed hf
  | usedFound r =>
    obtain ⟨rfl, hg⟩ := hc.of_getR
    exact goto_ok hb (.dList r) ⟨hf.1, hf.2, Res.key_eq.mp (getR_some hg).2⟩
  | usedGone => exact afterUnlabel_ok (hb' fun _ => Resp.noConfusion) hf
  | last used c hlt =>
    obtain ⟨rfl, rfl⟩ := hc.of_count
    obtain ⟨x, hx, hxn, _, hxo, hxd⟩ := hb.hold (hb.ok.delFin hf.1)
    exact goto_ok (hb.goto (.dList used) _) (.dUnlabel used)
      ⟨hf.1, hf.2.1, hf.2.2, sole_listed (hb.goto (.dList used) _) hf.1 hf.2.1 hlt, x, hx, hxn, hxd hf.1, hxo⟩
  | notLast used c _ | unlabelled used r => exact afterUnlabel_ok (hb' fun _ => Resp.noConfusion) ⟨hf.1, hf.2.1⟩
  | finSet n =>
    have ⟨hnd, hne, hbr⟩ := hf
    obtain ⟨hb', _, e⟩ := hc.own hb (fun _ => rfl)
    exact afterFin_ok hb' (e ▸ ⟨hnd, hne, hbr, rfl⟩)
  | detailsSet n =>
    obtain ⟨hb', _, e⟩ := hc.own hb (fun _ => hf.2.2.2)
    exact goto_ok hb' .getUsed (e ▸ hf)
  | toLabel r _ =>
    have ⟨hnd, hne, hbr, hfu⟩ := hf
    obtain ⟨rfl, hg⟩ := hc.of_getR
    exact goto_ok hb (.label r) ⟨hnd, hne, hbr, hfu, Res.key_eq.mp (getR_some hg).2⟩
  | isLabelled r _ => exact afterLabel_ok (hb' fun _ => Resp.noConfusion) hf
  | labelled used r =>
    have ⟨hnd, hne, hbr, hfu, _⟩ := hf
    exact afterLabel_ok (hb' fun _ => Resp.noConfusion) ⟨hnd, hne, hbr, hfu⟩
  | isOwned g o os hos ho =>
    obtain ⟨h1, h2, h3, h4, b, hby⟩ := hf
    obtain ⟨rfl, hg⟩ := hc.of_getUsing rfl hby
    refine afterOwner_ok hb ⟨h1, h2, h3, h4, fun b' hb' => ?_⟩
    cases hby.symm.trans hb'
    exact ⟨o, hos ▸ List.mem_cons_self, ho ▸ hs.born_of_get hg⟩
  | toOwn g =>
    obtain ⟨h1, h2, h3, h4, b, hby⟩ := hf
    obtain ⟨rfl, hg⟩ := hc.of_getUsing rfl hby
    exact goto_ok hb (.addOwner ⟨g.uid, false, g.kind, g.name⟩) ⟨h1, h2, h3, h4, b, hby, hs.born_of_get hg⟩
  | ownerSet ref n =>
    have ⟨h1, h2, h3, h4, b, hby, hborn⟩ := hf
    obtain ⟨hb', _, e⟩ := hc.own hb (fun _ => h4)
    refine afterOwner_ok hb' (e ▸ ⟨h1, h2, h3, h4, fun b' hbb => ?_⟩)
    cases hby.symm.trans hbb
    exact ⟨ref, mem_addOwnerRef _ _, hc.born _ hborn⟩

end Xp.C19
