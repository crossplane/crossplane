import Xp.Proofs.C20Tls
import Xp.Proofs.C20Crds
import Xp.Proofs.C20Mig
import Xp.Proofs.C20InstallFix
/-
C20: the post-condition of every step (`StepDone`), that it is a fixpoint of the step, that a completed step
establishes it, and that later steps of the initializer keep it – at every instant, under every fault plan.
-/
namespace Xp.C20
open Xp

variable {α β : Type}

/-- what a completed step leaves behind -/
def StepDone : Step → Store → Prop
  | .tls ca sv cl, s => TlsDone ca sv cl s
  | .crds ref d, s => CrdsDone ref d s
  | .whcs ref svc d, s => WhcsDone ref svc d s
  | .mig crd old, s => MigDone crd old s
  | .lock, s => s.lock.isSome = true
  | .install p c f, s => InstallDone p c f s
  | .sc _, s => s.sc.isSome = true
  | .drc, s => s.drc.isSome = true

/-- what a step needs in order to establish its post-condition: distinct declarations -/
def StepHyp : Step → Store → Prop
  | .crds _ d, _ => (objNames d.objs).Nodup
  | .whcs _ _ d, _ => (whcKeys d.objs).Nodup
  | .install p c f, s => InstallHyp p c f s
  | _, _ => True

theorem evalOk_withNonce (n : Nat) (p : P Res) (s : Store) :
    evalOk (withNonce n p) s = ((evalOk p s).1, ((evalOk p s).2, n)) := by
  unfold withNonce
  rw [evalOk_bind]; rfl

theorem step_fix (g : Generator) (n : Nat) (st : Step) (s : Store) (h : StepDone st s) : Fixes (st.prog g n) s (.ok, n) := by
  have wrap : ∀ p : P Res, Fixes p s .ok → Fixes (withNonce n p) s (.ok, n) := fun p hp => moves_bind hp (moves_ret _ s)
  cases st with
  | tls ca sv cl => exact tls_fix g ca sv cl n s h
  | crds ref d => exact wrap _ (crds_fix ref d s h)
  | whcs ref svc d => exact wrap _ (whcs_fix ref svc d s h)
  | mig crd old => exact wrap _ (mig_fix crd old s h)
  | lock => exact wrap _ (lock_fix s h)
  | install p c f => exact wrap _ (install_fix p c f s h)
  | sc ns => exact wrap _ (sc_fix ns s h)
  | drc => exact wrap _ (drc_fix s h)

theorem step_establishes (g : Generator) (n n' : Nat) (st : Step) (s t : Store) (hyp : StepHyp st s)
    (h : evalOk (st.prog g n) s = (t, (.ok, n'))) : StepDone st t := by
  have unwrap : ∀ p : P Res, evalOk (withNonce n p) s = (t, (.ok, n')) → evalOk p s = (t, .ok) := by
    intro p hp
    rw [evalOk_withNonce] at hp
    simp only [Prod.mk.injEq] at hp
    exact Prod.ext hp.1 hp.2.1
  cases st with
  | tls ca sv cl => exact tls_establishes g ca sv cl n s t n' h
  | crds ref d => exact crds_establishes ref d hyp s t (unwrap _ h)
  | whcs ref svc d => exact whcs_establishes ref svc d hyp s t (unwrap _ h)
  | mig crd old => exact mig_establishes crd old s t (unwrap _ h)
  | lock => exact lock_establishes s t (unwrap _ h)
  | install p c f => exact install_establishes p c f s t hyp (unwrap _ h)
  | sc ns => exact sc_establishes ns s t (unwrap _ h)
  | drc => exact drc_establishes s t (unwrap _ h)

/-- `okAfter a b`: the post-condition of `a` is not disturbed by a later step `b` -/
def okAfter : Step → Step → Bool
  | .crds ref _, .tls ca _ _ => ref ≠ some ca
  | .crds _ _, .crds _ _ => false
  | .whcs ref _ _, .tls ca _ _ => ref ≠ ca
  | .whcs _ _ _, .whcs _ _ _ => false
  | .mig crd _, .mig crd' _ => crd ≠ crd'
  | .mig _ _, .crds _ _ => false
  | .install _ _ _, .install _ _ _ => false
  | _, _ => true

/-- a CRD write that changes `stored` only -/
def StoredWrite (r : Req) : Prop := r.comp = some .crds → ∃ n vs, r = .patchCrdStored n vs

theorem crdFix_storedWrite {s : Store} {f : CrdFile} {cb : Blob} {r : Req} (h : CrdFix f cb s) (hq : StoredWrite r) :
    CrdFix f cb (exec s r).1 := by
  have he := exec_eff s r
  generalize exec s r = y at he ⊢
  cases he with
  | createCrd c hf => obtain ⟨_, _, e⟩ := hq rfl; cases e
  | patchCrd f' cb' c hf => obtain ⟨_, _, e⟩ := hq rfl; cases e
  | patchCrdStored n vs c₀ hf =>
    obtain ⟨⟨c, hc⟩, hall⟩ := h
    refine ⟨⟨_, find_map_some _ _ _ (fun x => by by_cases e : x.name = n <;> simp [e]) _ hc⟩, fun c' hc'm hn => ?_⟩
    obtain ⟨c0, hc0, rfl⟩ := List.mem_map.mp hc'm
    by_cases h0 : c0.name = n
    · rw [if_pos h0] at hn ⊢
      have := hall c0 hc0 hn
      simp only [patchCrdWith] at this ⊢
      cases c0; simp_all
    · rw [if_neg h0] at hn ⊢
      exact hall c0 hc0 hn
  | _ => exact h

theorem isSome_of_kept {γ : Type} {a b : Option γ} (h : ∀ v, a = some v → b = some v) (ha : a.isSome = true) :
    b.isSome = true := by
  cases a with
  | none => cases ha
  | some v => rw [h v rfl]; rfl

/-- the request class that keeps the post-condition of step `a` -/
def Keeps : Step → Req → Prop
  | .tls _ _ _, r => TlsKeep r
  | .crds ref _, r => (∀ x, ref = some x → SafeFor x r) ∧ StoredWrite r
  | .whcs ref _ _, r => SafeFor ref r ∧ r.comp ≠ some .whcs
  | .mig crd _, r => r.comp = some .crds → ∃ n vs, r = .patchCrdStored n vs ∧ n ≠ crd
  | .install _ _ _, r => r.comp ≠ some .pkgs
  | _, _ => True

theorem exec_done {a : Step} {s : Store} {r : Req} (h : StepDone a s) (hq : Keeps a r) : StepDone a (exec s r).1 := by
  cases a with
  | tls ca sv cl => exact exec_tlsDone h hq
  | crds ref d =>
    obtain ⟨cb, hb, hp, hobjs⟩ := h
    refine ⟨cb, bundleIs_safeFor hb hq.1, hp, ?_⟩
    intro o ho
    obtain ⟨f, e, hg, hfix⟩ := hobjs o ho
    exact ⟨f, e, hg, crdFix_storedWrite hfix hq.2⟩
  | whcs ref svc d =>
    obtain ⟨cb, hb, hp, hobjs⟩ := h
    refine ⟨cb, bundleIs_safeFor hb (fun x hx => by cases hx; exact hq.1), hp, ?_⟩
    intro o ho
    obtain ⟨f, e, ⟨w, hw⟩, hall⟩ := hobjs o ho
    have ew := frame_whcs s r hq.2
    exact ⟨f, e, ⟨w, by simp only [findWhc] at hw ⊢; rw [ew]; exact hw⟩, fun w' hw' => hall w' (ew ▸ hw')⟩
  | mig crd old =>
    have he := exec_eff s r
    generalize exec s r = y at he ⊢
    cases he with
    | createCrd c hf => obtain ⟨_, _, e, _⟩ := hq rfl; cases e
    | patchCrd f' cb' c hf => obtain ⟨_, _, e, _⟩ := hq rfl; cases e
    | patchCrdStored n vs c₀ hf =>
      obtain ⟨_, _, e, hne⟩ := hq rfl
      cases e
      -- the status patch of another CRD: the lookup of `crd` and the objects named `crd` are as before
      have hfind : findCrd { s with crds := s.crds.map fun c => if c.name = n then { c with stored := vs } else c } crd =
          findCrd s crd :=
        find_map_other _ _ _ _ fun x hx => ⟨decide_eq_false fun e => hne (hx.symm.trans e), decide_eq_false fun e => hne (hx.symm.trans e)⟩
      simp only [StepDone, MigDone, hfind] at h ⊢
      refine h.imp_right fun ⟨c, hc, h⟩ => ⟨c, hc, h.imp_right fun h c' hc' hn => ?_⟩
      obtain ⟨c0, hc0, rfl⟩ := List.mem_map.mp hc'
      by_cases h0 : c0.name = n
      · rw [if_pos h0] at hn
        exact absurd (h0.symm.trans hn) hne
      · rw [if_neg h0] at hn ⊢
        exact h c0 hc0 hn
    | _ => exact h
  | lock => exact isSome_of_kept (exec_singletons_kept s r).1 h
  | install p c f =>
    have e := frame_pkgs s r hq
    obtain ⟨l, hb, hf⟩ := installDone_iff.mp h
    refine installDone_iff.mpr ⟨l, fun k => ?_, fun k nr hnr => ?_⟩
    · rw [show listing (exec s r).1 k = listing s k by simp only [listing, e]]
      exact hb k
    · obtain ⟨⟨q, hq'⟩, hall⟩ := hf k nr hnr
      exact ⟨⟨q, by simp only [findPkg] at hq' ⊢; rw [e]; exact hq'⟩, fun q' hq'' => hall q' (e ▸ hq'')⟩
  | sc ns => exact isSome_of_kept (exec_singletons_kept s r).2.1 h
  | drc => exact isSome_of_kept (exec_singletons_kept s r).2.2 h

theorem tlsUpd_safeFor {ca x : String} (hx : x ≠ ca) {old new : Secret} (h : TlsUpd ca old new) (hn : new.name = x) :
    hasMaterial old = false :=
  h.2.elim id fun ⟨e, _⟩ => absurd (hn.symm.trans e) hx

theorem keeps_of_comp {a : Step} {r : Req} (hs : r.comp ≠ some .secrets) (hr : r.comp ≠ some (stepComp a)) : Keeps a r := by
  cases a with
  | tls ca sv cl => exact onUpdate_of_comp hs
  | crds ref d => exact ⟨fun _ _ => onUpdate_of_comp hs, fun e => absurd e hr⟩
  | whcs ref svc d => exact ⟨onUpdate_of_comp hs, hr⟩
  | mig crd old => exact fun e => absurd e hr
  | install p c f => exact hr
  | _ => trivial

/-- a later step other than a TLS step or a migrator: `okAfter` says it does not write the component the
post-condition of `a` speaks of -/
theorem keeps_of_only {a b : Step} {r : Req} (h : okAfter a b = true) (hb : stepComp b ≠ .secrets)
    (hm : ∀ c o, b ≠ .mig c o) (hr : Only (stepComp b) r) : Keeps a r := by
  have hs := only_comp_ne hr (Ne.symm hb)
  cases a with
  | tls ca sv cl => exact onUpdate_of_comp hs
  | crds ref d =>
    refine keeps_of_comp hs (only_comp_ne hr fun e => ?_)
    cases b with
    | crds _ _ => exact Bool.noConfusion h
    | mig c o => exact hm c o rfl
    | _ => exact Comp.noConfusion e
  | whcs ref svc d =>
    refine keeps_of_comp hs (only_comp_ne hr fun e => ?_)
    cases b with
    | whcs _ _ _ => exact Bool.noConfusion h
    | _ => exact Comp.noConfusion e
  | mig crd old =>
    refine keeps_of_comp hs (only_comp_ne hr fun e => ?_)
    cases b with
    | crds _ _ => exact Bool.noConfusion h
    | mig c o => exact hm c o rfl
    | _ => exact Comp.noConfusion e
  | install p c f =>
    refine keeps_of_comp hs (only_comp_ne hr fun e => ?_)
    cases b with
    | install _ _ _ => exact Bool.noConfusion h
    | _ => exact Comp.noConfusion e
  | _ => trivial

theorem keeps_tls {g : Generator} {a : Step} {ca : String} {sv cl : Option TlsRef} {r : Req}
    (h : okAfter a (.tls ca sv cl) = true) (hr : TlsReq g ca (optRefs sv cl) r) : Keeps a r := by
  have hu := tlsReq_upd hr
  have hc : ∀ c, c ≠ Comp.secrets → r.comp ≠ some c := fun c hc => only_comp_ne (tlsReq_only hr) hc
  cases a with
  | tls ca' sv' cl' => exact hu.mono fun _ _ => tlsUpd_keep
  | crds ref d =>
    refine ⟨fun x hx => hu.mono fun _ _ => tlsUpd_safeFor fun e => ?_, fun e => absurd e (hc _ nofun)⟩
    subst hx e
    simp [okAfter] at h
  | whcs ref svc d => exact ⟨hu.mono fun _ _ => tlsUpd_safeFor fun e => by subst e; simp [okAfter] at h, hc _ nofun⟩
  | mig crd old => exact fun e => absurd e (hc _ nofun)
  | install p c f => exact hc _ nofun
  | _ => trivial

theorem keeps_mig {a : Step} {crd' old' : String} {r : Req} (h : okAfter a (.mig crd' old') = true)
    (hm : MigReq crd' r) : Keeps a r := by
  have hr := migReq_only hm
  have hs : r.comp = some .crds → ∃ vs, r = .patchCrdStored crd' vs := by
    intro e
    rcases hm with h' | h'
    · rw [h'] at e; cases e
    · exact h'
  cases a with
  | tls ca sv cl => exact onUpdate_of_comp (only_comp_ne hr nofun)
  | crds ref d =>
    exact ⟨fun _ _ => onUpdate_of_comp (only_comp_ne hr nofun), fun e => (hs e).elim fun vs e' => ⟨crd', vs, e'⟩⟩
  | whcs ref svc d => exact ⟨onUpdate_of_comp (only_comp_ne hr nofun), only_comp_ne hr nofun⟩
  | mig crd old =>
    intro e
    obtain ⟨vs, e'⟩ := hs e
    exact ⟨crd', vs, e', fun e'' => by subst e''; simp [okAfter] at h⟩
  | install p c f => exact only_comp_ne hr nofun
  | _ => trivial

theorem step_issues_keeps (g : Generator) (n : Nat) (a b : Step) (h : okAfter a b = true) :
    Issues (Keeps a) (b.prog g n) := by
  by_cases hm : ∃ c o, b = .mig c o
  · obtain ⟨c, o, rfl⟩ := hm
    exact withNonce_issues n (Issues.mono (fun _ => keeps_mig h) (migrateStep_issues c o))
  · exact step_issues_of _ g n b (fun ca sv cl e r hr => keeps_tls (e ▸ h) hr)
      (fun r hc hr => keeps_of_only h hc (fun c o e => hm ⟨c, o, e⟩) hr)

theorem done_stable (g : Generator) (n : Nat) (a b : Step) (h : okAfter a b = true) (plan : Plan) (k : Nat)
    (s : Store) (hd : StepDone a s) : ∀ x ∈ reach sem plan k (b.prog g n) s, StepDone a x :=
  reach_inv sem (StepDone a) (Keeps a) (fun _ _ hi hq => exec_done hi hq) plan k _ (step_issues_keeps g n a b h) s hd

end Xp.C20
