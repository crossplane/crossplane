import Xp.Model.C04Conn
/-
The cache of Xp/Model/C04Conn.lean as a map keyed by function name (`cget` after erasing and
appending), the endpoint `getConn` wants, and the count behind garbage collection.
-/
namespace Xp.C04
open Xp.C04Conn

theorem cget_append_new (c : Conns) (fn ep : String) : cget (cerase c fn ++ [(fn, ep)]) fn = some ep := by
  have h : (cerase c fn).find? (fun p => decide (p.1 = fn)) = none := by
    apply List.find?_eq_none.mpr
    intro p hp
    have := (List.mem_filter.mp hp).2
    simpa using this
  simp [cget, List.find?_append, h]

theorem cget_other (c : Conns) (fn ep m : String) (hm : m ≠ fn) :
    cget (cerase c fn ++ [(fn, ep)]) m = cget c m := by
  have h2 : ([(fn, ep)] : Conns).find? (fun p => decide (p.1 = m)) = none := by simp [Ne.symm hm]
  have h1 : (cerase c fn).find? (fun p => decide (p.1 = m)) = c.find? (fun p => decide (p.1 = m)) := by
    unfold cerase
    rw [List.find?_filter]
    congr 1
    funext a
    by_cases h : a.1 = m
    · simp [h, hm]
    · simp [h]
  simp only [cget, List.find?_append, h1, h2]
  cases List.find? (fun p => decide (p.1 = m)) c <;> rfl

theorem wanted_some {revs : List Rev} {fn ep : String} (h : wanted revs fn = some ep) :
    ∃ r ∈ revs, r.fn = fn ∧ r.active = true ∧ r.endpoint = ep ∧ ep ≠ "" := by
  revert h
  fun_cases wanted revs fn with
  | case1 => exact fun h => nomatch h  -- no Active revision
  | case2 => exact fun h => nomatch h  -- its endpoint is empty
  | case3 r hfind hne =>
    intro h
    cases h
    have hr := List.find?_some hfind
    simp only [decide_eq_true_eq] at hr
    exact ⟨r, List.mem_of_find?_eq_some hfind, hr.1, hr.2, rfl, hne⟩

theorem filter_split_length {α : Type} (p : α → Bool) (l : List α) :
    (l.filter fun x => !p x).length + (l.filter p).length = l.length := by
  rw [List.length_eq_countP_add_countP p (l := l), List.countP_eq_length_filter, List.countP_eq_length_filter, Nat.add_comm]
  simp

end Xp.C04
