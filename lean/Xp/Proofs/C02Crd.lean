import Xp.Model.C02Crd
/-
C02, site "an XRD defining its CRDs": proofs about the model of the definition / offered
reconcilers (Xp.Model.C02Crd).

 * `Slot`, `exec_slot`: what one request of the API server does to the CRD slot and the
   resourceVersion counter; `exec_frame` (and the rely of Proofs/C02CrdEnv) are read off it.
 * `Wp (NoWrite c)`: under every fault plan no applied request is addressed to the CRD while the
   slot holds `c`; one walk through the reconcilers (`wp_reconcile`) serves `reach`
   (`holds_throughout`, by `WpE.reach` of Base.Prog) and, in Props/C02.lean, `run` and `applied` (`WpE.run`, `WpE.applied`).
 * fault-free runs (`evalOk`): `evalOk_reconcile_live` reduces a reconcile of a live XRD to
   `applyCRD`, whose three outcomes are `evalOk_applyCRD_foreign`, `evalOk_applyCRD`
   (`apply_controllable`) and `evalOk_applyCRD_absent` (`crd_absent_created`).
-/
namespace Xp.C02Crd
open Xp

/-- the requests that can change a stored CRD (a Create answers AlreadyExists) -/
def Req.writesCRD : Req → Bool
  | .updateCRD _ | .deleteCRD => true
  | _ => false

/-- addressed to the CRD at all (create included) -/
def Req.targetsCRD : Req → Bool
  | .createCRD | .updateCRD _ | .deleteCRD => true
  | _ => false

theorem Req.not_writesCRD {r : Req} (h : r.targetsCRD = false) : r.writesCRD = false := by
  cases r <;> first | rfl | cases h

theorem exec_getCRD (s : St) : exec s .getCRD = (s, .crd s.crd) := rfl
theorem exec_getXRD (s : St) : exec s .getXRD = (s, .xrd s.xrd) := rfl

/-- what request `r` did to the CRD slot and the resourceVersion counter on the way from `s` to `s'`:
a CRD it wrote has the next resourceVersion, and the counter never goes back -/
inductive Slot (s : St) (r : Req) (s' : St) : Prop
  | kept (hc : s'.crd = s.crd) (hn : s.next ≤ s'.next)
  | wrote (c : CRD) (hr : r.writesCRD = true ∨ s.crd = none) (hc : s'.crd = some c) (hrv : c.rv = s.next + 1)
      (hn : s'.next = s.next + 1)
  | removed (hr : r.writesCRD = true) (hc : s'.crd = none) (hn : s.next ≤ s'.next)

theorem exec_slot (s : St) (r : Req) : Slot s r (exec s r).1 := by
  fun_cases exec s r with
  | case5 | case9 => exact .kept rfl (Nat.le_succ _)          -- the XRD's finalizer / condition changes
  | case12 h => exact .wrote _ (.inr h) rfl rfl rfl            -- Create into an empty slot
  | case16 =>                                                  -- Update that changes the CRD
    simp only [settleCRD]
    split
    · exact .removed rfl rfl (Nat.le_succ _)                   -- … deleting, and the finalizer went with the Update
    · exact .wrote _ (.inl rfl) rfl rfl rfl
  | case19 => exact .wrote _ (.inl rfl) rfl rfl rfl            -- Delete of a CRD with a finalizer: marked
  | case20 => exact .removed rfl rfl (Nat.le_refl _)           -- Delete of a CRD without
  | _ => exact .kept rfl (Nat.le_refl _)                       -- every other branch replies and leaves the store

theorem exec_frame (s : St) (c : CRD) (r : Req) (hs : s.crd = some c) (hr : r.writesCRD = false) :
    (exec s r).1.crd = some c := by
  cases exec_slot s r with
  | kept hc _ => exact hc.trans hs
  | wrote _ hw _ _ _ =>
    rcases hw with hw | hw
    · rw [hr] at hw; cases hw
    · rw [hs] at hw; cases hw
  | removed hw _ _ => rw [hr] at hw; cases hw

abbrev Holds (c : CRD) : St → Prop := fun t => t.crd = some c

/-- `Wp G Q p s`: from `s`, under every fault plan, every request `p` gets applied satisfies
`G` (evaluated on the store at that moment) and every result it returns satisfies `Q`: the
rely/guarantee weakest precondition of Base.Prog for an environment that does nothing. -/
abbrev Wp (G : St → Req → Prop) (Q : Res → Prop) (p : P) (s : St) : Prop :=
  WpE sem Eq G p (fun _ a => Q a) s

/-- guarantee: while the slot holds `c`, nothing addressed to the CRD is applied -/
abbrev NoWrite (c : CRD) : St → Req → Prop := fun t r => t.crd = some c ∧ r.targetsCRD = false

theorem NoWrite.keeps {c : CRD} {t : St} {r : Req} (h : NoWrite c t r) : Holds c (sem.exec t r).1 :=
  exec_frame t c r h.1 (Req.not_writesCRD h.2)

theorem holds_throughout {c : CRD} {Q : Res → Prop} {p : P} {s : St} (h : Wp (NoWrite c) Q p s) (hs : Holds c s)
    (plan : Plan) (k : Nat) : ∀ s' ∈ reach sem plan k p s, Holds c s' :=
  h.reach hs (fun _ _ _ => NoWrite.keeps) plan k

theorem wp_step (c : CRD) (Q : Res → Prop) (r : Req) (k : Resp → P) (s : St) (hs : Holds c s)
    (hr : r.targetsCRD = false)
    (hk : ∀ x s', Holds c s' → Wp (NoWrite c) Q (k x) s') : Wp (NoWrite c) Q (.call r k) s :=
  WpE.call ⟨hs, hr⟩ (hk _ _ (NoWrite.keeps ⟨hs, hr⟩)) (hk _ _ hs) (hk _ _ hs)

theorem wp_getCRD (c : CRD) (Q : Res → Prop) (k : Resp → P) (s : St) (hs : Holds c s)
    (hk1 : Wp (NoWrite c) Q (k (.crd (some c))) s) (hk2 : Wp (NoWrite c) Q (k .err) s) :
    Wp (NoWrite c) Q (.call .getCRD k) s := by
  refine WpE.call ⟨hs, rfl⟩ ?_ hk2 hk2
  show Wp (NoWrite c) Q (k (.crd s.crd)) s
  rw [show s.crd = some c from hs]
  exact hk1

theorem wp_getXRD (c : CRD) (Q : Res → Prop) (k : Resp → P) (s : St) (hs : Holds c s)
    (hk1 : Wp (NoWrite c) Q (k (.xrd s.xrd)) s) (hk2 : Wp (NoWrite c) Q (k .err) s) :
    Wp (NoWrite c) Q (.call .getXRD k) s :=
  WpE.call ⟨hs, rfl⟩ hk1 hk2 hk2

abbrev AnyRes : Res → Prop := fun _ => True
abbrev NotOk : Res → Prop := fun a => a ≠ .ok

theorem issues_removeFinalizer (d : XRD) : Issues (fun r => r.targetsCRD = false) (removeFinalizer d) := by
  unfold removeFinalizer
  split
  · refine Issues.call _ _ rfl ?_
    intro x; cases x <;> exact Issues.ret _
  · exact Issues.ret _

theorem issues_afterApply (d : XRD) (est : Bool) : Issues (fun r => r.targetsCRD = false) (afterApply d est) := by
  unfold afterApply
  split
  · refine Issues.call _ _ rfl ?_
    intro x; cases x <;> exact Issues.ret _
  · exact Issues.ret _

theorem wp_of_issues (c : CRD) {p : P} (hp : Issues (fun r => r.targetsCRD = false) p) (s : St) (hs : Holds c s) :
    Wp (NoWrite c) AnyRes p s :=
  (hp.wpE (R := Eq) hs (fun _ _ ht hq => NoWrite.keeps ⟨ht, hq⟩) (fun _ _ ht e => e ▸ ht)).mono
    (fun _ _ h => h) (fun _ _ _ => trivial)

theorem wp_applyCRD (c : CRD) (ho : c.ctrl = .other) (d : XRD) (s : St) (hs : Holds c s) :
    Wp (NoWrite c) NotOk (applyCRD d) s := by
  unfold applyCRD
  apply wp_getCRD c _ _ s hs
  · simp only [if_pos ho]
    exact Res.noConfusion
  · exact Res.noConfusion

theorem wp_live (c : CRD) (ho : c.ctrl = .other) (d : XRD) (s : St) (hs : Holds c s) :
    Wp (NoWrite c) NotOk (live d) s := by
  unfold live
  split
  · exact wp_applyCRD c ho d s hs
  · apply wp_step c _ _ _ s hs rfl
    intro x s' hs'
    cases x with
    | wrote rv _ => exact wp_applyCRD c ho _ s' hs'
    | _ => exact Res.noConfusion

theorem wp_deletion (c : CRD) (hn : c.ctrl ≠ .xrd) (w : Which) (d : XRD) (s : St) (hs : Holds c s) :
    Wp (NoWrite c) AnyRes (deletion w d) s := by
  unfold deletion
  apply wp_step c _ _ _ s hs rfl
  intro x s' hs'
  cases x with
  | wrote rv _ =>
    apply wp_getCRD c _ _ s' hs'
    · simp only [if_neg hn]
      exact wp_of_issues c (issues_removeFinalizer _) s' hs'
    · trivial
  | _ => trivial

/-- **What either reconciler does about a CRD that is not the XRD's own**, under every fault plan: nothing
is addressed to one that is somebody else's, nor, once the XRD is being deleted, to one that is nobody's
(`IsControlledBy`); and the reconcile ends in success only if the XRD is gone or being deleted. -/
theorem wp_reconcile (c : CRD) (w : Which) (s : St) (hs : Holds c s)
    (hd : c.ctrl = .other ∨ c.ctrl ≠ .xrd ∧ ∃ d, s.xrd = some d ∧ d.del = true) :
    Wp (NoWrite c) (fun a => a = .ok → ∀ d, s.xrd = some d → d.del = true) (reconcile w) s := by
  have hn : c.ctrl ≠ .xrd := hd.elim (fun ho e => nomatch ho.symm.trans e) (·.1)
  unfold reconcile
  refine wp_getXRD c _ _ s hs ?_ nofun
  cases hx : s.xrd with
  | none => exact fun _ _ h => nomatch h
  | some d =>
    simp only
    split
    · exact nofun
    · split
      · next hdel =>
        exact (wp_deletion c hn w d s hs).mono (fun _ _ h => h) fun _ _ _ _ _ e => Option.some.inj e ▸ hdel
      · next hlive =>
        -- a live XRD applies: only a CRD that is somebody else's is safe from that
        rcases hd with ho | ⟨_, d', e, hd'⟩
        · exact (wp_live c ho d s hs).mono (fun _ _ h => h) fun _ _ ha e => absurd e ha
        · exact absurd (Option.some.inj (hx.symm.trans e) ▸ hd') hlive

theorem safe_afterApply (c : CRD) (d : XRD) (est : Bool) (s : St) (hs : Holds c s) :
    Safe sem (Holds c) (afterApply d est) s :=
  (wp_of_issues c (issues_afterApply d est) s hs).safe hs fun _ _ _ => NoWrite.keeps

/-- the XRD can be rendered by reconciler `w` -/
def renderable (w : Which) (d : XRD) : Prop := w = .offered → d.claim = true

theorem not_unrenderable {w : Which} {d : XRD} (hr : renderable w d) : ¬ (w = .offered ∧ d.claim = false) :=
  fun ⟨h1, h2⟩ => by rw [hr h1] at h2; cases h2

theorem evalOk_call {α : Type} (r : Req) (c : Resp → Prog Req Resp α) (s : St) :
    evalOk sem (.call r c) s = evalOk sem (c (exec s r).2) (exec s r).1 := rfl

theorem run_ret {α : Type} (plan : Plan) (k : Nat) (a : α) (s : St) :
    run sem plan k (.ret a : Prog Req Resp α) s = (s, some a) := rfl

/-- a live XRD that can be rendered: after the Get and AddFinalizer the reconcile is `applyCRD`
with the XRD as it is stored by then, over the same CRD slot -/
theorem evalOk_reconcile_live (w : Which) (s : St) (d : XRD) (hx : s.xrd = some d) (hl : d.del = false)
    (hr : renderable w d) :
    ∃ d' s', evalOk sem (reconcile w) s = evalOk sem (applyCRD d') s' ∧
      s'.xrd = some d' ∧ s'.crd = s.crd ∧ d'.cond = d.cond := by
  unfold reconcile
  rw [evalOk_call, exec_getXRD, hx]
  simp only [if_neg (not_unrenderable hr), hl, Bool.false_eq_true, if_false]
  unfold live
  by_cases hf : d.fin = true
  · rw [if_pos hf]; exact ⟨d, s, rfl, hx, rfl, rfl⟩
  · rw [if_neg hf, evalOk_call]
    have he : exec s (.updateXRD true d.rv) =
        ({ s with xrd := some { d with fin := true, rv := s.next + 1 }, next := s.next + 1 }, .wrote (s.next + 1) false) := by
      simp [exec, hx, hf, settleXRD]
    rw [he]
    exact ⟨_, _, rfl, rfl, rfl, rfl⟩

theorem evalOk_applyCRD_foreign (d : XRD) (s : St) (c : CRD) (hc : s.crd = some c) (ho : c.ctrl = .other) :
    evalOk sem (applyCRD d) s = (s, .err) := by
  unfold applyCRD
  rw [evalOk_call, exec_getCRD, hc]
  simp only [if_pos ho]
  rfl

theorem exec_statusXRD (s : St) (d : XRD) (hx : s.xrd = some d) (c : Cond) :
    ∃ s' rv, exec s (.statusXRD c d.rv) = (s', .wrote rv false) ∧ s'.crd = s.crd := by
  simp only [exec, hx, ne_eq, not_true_eq_false, if_false]
  split
  · exact ⟨_, _, rfl, rfl⟩
  · exact ⟨_, _, rfl, rfl⟩

theorem evalOk_afterApply (d : XRD) (est : Bool) (s : St) (hx : s.xrd = some d) :
    (evalOk sem (afterApply d est) s).1.crd = s.crd ∧
    (evalOk sem (afterApply d est) s).2 = if est then .ok else .requeue := by
  unfold afterApply
  cases est with
  | false => exact ⟨rfl, rfl⟩
  | true =>
    obtain ⟨s', rv, he, hc⟩ := exec_statusXRD s d hx .watching
    rw [if_pos rfl, evalOk_call, he]
    exact ⟨hc, rfl⟩

theorem exec_updateCRD_ok (s : St) (c : CRD) (hc : s.crd = some c) (hnd : c.del = false) :
    ∃ rv, (exec s (.updateCRD c.rv)).1.crd = some { renderedOver c with rv := rv } ∧
      (exec s (.updateCRD c.rv)).1.xrd = s.xrd ∧ (exec s (.updateCRD c.rv)).2 = .wrote rv c.est := by
  by_cases hsame : renderedOver c = c
  · refine ⟨c.rv, ?_⟩
    simp only [exec, hc, ne_eq, not_true_eq_false, if_false, hsame, if_true, and_self]
  · refine ⟨s.next + 1, ?_⟩
    -- the CRD is not being deleted, so losing its finalizer does not make it go away
    have hkeep : settleCRD { renderedOver c with rv := s.next + 1 } = some { renderedOver c with rv := s.next + 1 } := by
      simp [settleCRD, renderedOver, hnd]
    simp only [exec, hc, ne_eq, not_true_eq_false, if_false, hsame, hkeep, and_self]

theorem evalOk_applyCRD (d : XRD) (s : St) (c : CRD) (hx : s.xrd = some d)
    (hc : s.crd = some c) (hn : c.ctrl ≠ .other) (hnd : c.del = false) :
    ∃ rv, (evalOk sem (applyCRD d) s).1.crd = some { renderedOver c with rv := rv } ∧
      (evalOk sem (applyCRD d) s).2 = if c.est then .ok else .requeue := by
  unfold applyCRD
  rw [evalOk_call, exec_getCRD, hc]
  simp only [if_neg hn]
  rw [evalOk_call]
  obtain ⟨rv, h1, h2, h3⟩ := exec_updateCRD_ok s c hc hnd
  rw [h3]
  have := evalOk_afterApply d c.est (exec s (.updateCRD c.rv)).1 (h2 ▸ hx)
  exact ⟨rv, this.1.trans h1, this.2⟩

theorem evalOk_applyCRD_absent (d : XRD) (s : St) (hc : s.crd = none) :
    evalOk sem (applyCRD d) s =
      ({ s with crd := some ⟨.xrd, false, .rendered, false, false, false, s.next + 1⟩, next := s.next + 1 }, .requeue) := by
  unfold applyCRD
  rw [evalOk_call, exec_getCRD, hc]
  simp only
  rw [evalOk_call]
  simp only [exec, hc, afterApply, Bool.false_eq_true, if_false]
  rfl

theorem apply_controllable (w : Which) (s : St) (d : XRD) (c : CRD)
    (hx : s.xrd = some d) (hl : d.del = false) (hr : renderable w d)
    (hc : s.crd = some c) (hn : c.ctrl ≠ .other) (hnd : c.del = false) :
    ∃ rv, (run sem Plan.allOk 0 (reconcile w) s).1.crd = some { renderedOver c with rv := rv } ∧
      (run sem Plan.allOk 0 (reconcile w) s).2 = some (if c.est then .ok else .requeue) := by
  obtain ⟨d', s', he, hx', hc', _⟩ := evalOk_reconcile_live w s d hx hl hr
  obtain ⟨rv, h1, h2⟩ := evalOk_applyCRD d' s' c hx' (hc'.trans hc) hn hnd
  rw [run_allOk, he]
  exact ⟨rv, h1, congrArg some h2⟩

/-- **An absent CRD is created**, controlled by the XRD; the reconcile requeues until the API
server has established it. -/
theorem crd_absent_created (w : Which) (s : St) (d : XRD)
    (hx : s.xrd = some d) (hl : d.del = false) (hr : renderable w d) (hc : s.crd = none) :
    ∃ rv, (run sem Plan.allOk 0 (reconcile w) s).1.crd = some ⟨.xrd, false, .rendered, false, false, false, rv⟩ ∧
      (run sem Plan.allOk 0 (reconcile w) s).2 = some .requeue := by
  obtain ⟨d', s', he, _, hc', _⟩ := evalOk_reconcile_live w s d hx hl hr
  rw [run_allOk, he, evalOk_applyCRD_absent d' s' (hc'.trans hc)]
  exact ⟨_, rfl, rfl⟩

/-- a live XRD without finalizer that offers a claim; the CRD with the derived name is
established, has an old body and a plain owner reference, and is controlled by someone else -/
def exForeign : St :=
  { xrd := some ⟨false, false, false, true, .none, 1⟩, crd := some ⟨.other, true, .old, true, false, false, 2⟩, next := 2 }

/-- fault-free: the finalizer is added (rv 3), the CRD is read, nothing else happens: error -/
example : run sem Plan.allOk 0 (reconcile .definition) exForeign =
    ({ exForeign with xrd := some ⟨false, true, false, true, .none, 3⟩, next := 3 }, some .err) := by decide
example : run sem Plan.allOk 0 (reconcile .offered) exForeign =
    ({ exForeign with xrd := some ⟨false, true, false, true, .none, 3⟩, next := 3 }, some .err) := by decide
/-- the three calls; the finalizer update is the only write -/
example : applied sem Plan.allOk 0 (reconcile .definition) exForeign = [.getXRD, .updateXRD true 1, .getCRD] := by decide
/-- a conflict on the finalizer update is the one way to a requeue -/
example : (run sem (Plan.at 1 .conflict) 0 (reconcile .definition) exForeign).2 = some .requeue := by decide

/-- the same world, the CRD without a controller reference: it is adopted, its body rendered,
the plain owner reference replaced, Established kept, and the reconcile succeeds -/
def exUncontrolled : St :=
  { exForeign with crd := some ⟨.none, true, .old, true, false, false, 2⟩ }
example : run sem Plan.allOk 0 (reconcile .definition) exUncontrolled =
    ({ xrd := some ⟨false, true, false, true, .watching, 5⟩, crd := some ⟨.xrd, false, .rendered, true, false, false, 4⟩, next := 5 },
     some .ok) := by decide

/-- the XRD's own, up-to-date CRD: the Update is a no-op (same resourceVersion) -/
def exOwn : St :=
  { exForeign with crd := some ⟨.xrd, false, .rendered, true, false, false, 2⟩ }
example : (run sem Plan.allOk 0 (reconcile .offered) exOwn).1.crd = exOwn.crd := by decide
/-- the XRD's own, outdated CRD: rendered at a new resourceVersion -/
example : (run sem Plan.allOk 0 (reconcile .offered) { exOwn with crd := some ⟨.xrd, false, .old, false, false, false, 2⟩ }) =
    ({ xrd := some ⟨false, true, false, true, .none, 3⟩, crd := some ⟨.xrd, false, .rendered, false, false, false, 4⟩, next := 4 },
     some .requeue) := by decide

/-- a deleting XRD (only this reconciler's finalizer): a foreign or uncontrolled CRD is
orphaned and the XRD goes away … -/
def exDeleting (c : CRD) : St :=
  { xrd := some ⟨true, true, false, true, .watching, 1⟩, crd := some c, next := 2 }
example : run sem Plan.allOk 0 (reconcile .definition) (exDeleting ⟨.other, false, .rendered, true, false, false, 2⟩) =
    ({ xrd := none, crd := some ⟨.other, false, .rendered, true, false, false, 2⟩, next := 4 }, some .ok) := by decide
example : (run sem Plan.allOk 0 (reconcile .definition) (exDeleting ⟨.none, false, .rendered, true, false, false, 2⟩)).1.crd =
    some ⟨.none, false, .rendered, true, false, false, 2⟩ := by decide
/-- … while a CRD the XRD controls IS deleted (the guard is what makes the difference) -/
example : run sem Plan.allOk 0 (reconcile .definition) (exDeleting ⟨.xrd, false, .rendered, true, false, false, 2⟩) =
    ({ xrd := some ⟨true, true, false, true, .terminating, 3⟩, crd := none, next := 3 }, some .requeue) := by decide
example : (run sem Plan.allOk 0 (reconcile .offered) (exDeleting ⟨.xrd, false, .rendered, true, false, false, 2⟩)).1.crd = none := by decide

end Xp.C02Crd
