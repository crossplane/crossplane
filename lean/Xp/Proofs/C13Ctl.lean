import Xp.Proofs.C13Data
/-
C13: the list of controller objects (`modCtl`, what is read of an object: `fieldOf`, with the model's
`srcsOf`, `stoppedOf` and their twin `cancelledOf` as instances) and what becomes of the sources, the two
flags, the registrations and the informer tables under any global action (one statement per part of the
state, by cases on the action).
-/
namespace Xp.C13

theorem modCtl_length (cid : Nat) (f : Ctl → Ctl) (objs : List Ctl) : (modCtl cid f objs).length = objs.length := by
  unfold modCtl
  split <;> simp

theorem getElem?_modCtl (cid : Nat) (f : Ctl → Ctl) (objs : List Ctl) (k : Nat) :
    (modCtl cid f objs)[k]? = if k = cid then objs[k]?.map f else objs[k]? := by
  unfold modCtl
  split
  · rename_i c hc
    rw [getElem?_set_of_some hc]
    by_cases e : k = cid
    · rw [if_pos e, if_pos e, e, hc]; rfl
    · rw [if_neg e, if_neg e]
  · rename_i hc
    by_cases e : k = cid
    · rw [if_pos e, e, hc]; rfl
    · rw [if_neg e]

def srcsOfObjs (objs : List Ctl) (cid : Nat) : List (Wid × Nat) :=
  match objs[cid]? with
  | some c => c.sources
  | none => []

def stoppedOfObjs (objs : List Ctl) (cid : Nat) : Bool :=
  match objs[cid]? with
  | some c => c.stopped
  | none => false

theorem srcsOf_eq (s : Sys) (cid : Nat) : srcsOf s cid = srcsOfObjs s.objs cid := rfl
theorem stoppedOf_eq (s : Sys) (cid : Nat) : stoppedOf s cid = stoppedOfObjs s.objs cid := rfl

/-- what is read of controller `cid` (`srcsOfObjs`, `stoppedOfObjs`): a field `p` of the object, `d`
if there is none -/
def fieldOf {β : Type} (p : Ctl → β) (d : β) (objs : List Ctl) (cid : Nat) : β :=
  match objs[cid]? with
  | some c => p c
  | none => d

section field
variable {β : Type} (p : Ctl → β) (d : β)

theorem fieldOf_of_some {objs : List Ctl} {k : Nat} {c : Ctl} (h : objs[k]? = some c) : fieldOf p d objs k = p c := by
  simp only [fieldOf, h]

/-- `f` changes the field by `g`; only an object that exists is changed (`g d` need not be `d`) -/
theorem fieldOf_modCtl_valid {f : Ctl → Ctl} {g : β → β} (hf : ∀ c, p (f c) = g (p c)) (cid : Nat) (objs : List Ctl)
    (k : Nat) :
    fieldOf p d (modCtl cid f objs) k =
      if k = cid ∧ cid < objs.length then g (fieldOf p d objs cid) else fieldOf p d objs k := by
  unfold fieldOf
  rw [getElem?_modCtl]
  by_cases e : k = cid
  · subst e
    by_cases hl : k < objs.length
    · rw [if_pos rfl, if_pos ⟨rfl, hl⟩, List.getElem?_eq_getElem hl]; exact hf _
    · rw [if_pos rfl, if_neg fun x => hl x.2, List.getElem?_eq_none (Nat.le_of_not_lt hl)]; rfl
  · rw [if_neg e, if_neg fun x => e x.1]

theorem fieldOf_modCtl_fix {f : Ctl → Ctl} {g : β → β} (hf : ∀ c, p (f c) = g (p c)) (hd : g d = d) (cid : Nat)
    (objs : List Ctl) (k : Nat) :
    fieldOf p d (modCtl cid f objs) k = if k = cid then g (fieldOf p d objs cid) else fieldOf p d objs k := by
  unfold fieldOf
  rw [getElem?_modCtl]
  by_cases e : k = cid
  · subst e
    rw [if_pos rfl, if_pos rfl]
    cases objs[k]? with
    | none => exact hd.symm
    | some c => exact hf c
  · rw [if_neg e, if_neg e]

theorem fieldOf_modCtl_same {f : Ctl → Ctl} (hf : ∀ c, p (f c) = p c) (cid : Nat) (objs : List Ctl) (k : Nat) :
    fieldOf p d (modCtl cid f objs) k = fieldOf p d objs k := by
  rw [fieldOf_modCtl_fix p d (g := id) hf rfl]
  split
  · rename_i e; rw [e]; rfl
  · rfl

theorem getElem?_append_new (objs : List Ctl) (x : Ctl) (k : Nat) :
    (objs ++ [x])[k]? = if k = objs.length then some x else objs[k]? := by
  by_cases e : k = objs.length
  · subst e; simp
  · rw [if_neg e, List.getElem?_append]
    split
    · rfl
    · rw [List.getElem?_eq_none (by simp; omega), List.getElem?_eq_none (by omega)]

theorem fieldOf_append_new {x : Ctl} (hx : p x = d) (objs : List Ctl) (k : Nat) :
    fieldOf p d (objs ++ [x]) k = fieldOf p d objs k := by
  unfold fieldOf
  rw [getElem?_append_new]
  by_cases e : k = objs.length
  · rw [if_pos e, e, List.getElem?_eq_none (Nat.le_refl _)]
    exact hx
  · rw [if_neg e]

end field

theorem srcsOfObjs_valid {objs : List Ctl} {cid : Nat} {w : Wid} {r : Nat}
    (h : aget w (srcsOfObjs objs cid) = some r) : cid < objs.length := by
  unfold srcsOfObjs at h
  rcases Nat.lt_or_ge cid objs.length with hl | hl
  · exact hl
  · rw [List.getElem?_eq_none hl] at h; simp at h

/-- after rewriting with this equation every other field of the new state is that of `s` by `rfl` -/
theorem apply_getInformer (g : Nat) (f : Bool) (s : Sys) :
    ∃ tr lv ng, (Act.getInformer g f).apply s = { s with tracked := tr, live := lv, nextGen := ng } := by
  simp only [Act.apply]
  split
  · exact ⟨_, _, _, rfl⟩
  · split <;> exact ⟨_, _, _, rfl⟩

theorem apply_objs_length_ge (a : Act) (s : Sys) : s.objs.length ≤ (a.apply s).objs.length := by
  cases a
  case newCtl n =>
    show s.objs.length ≤ (s.objs ++ [_]).length
    rw [List.length_append]
    exact Nat.le_add_right _ _
  case finishStop | addReg | delReg => exact Nat.le_of_eq (modCtl_length _ _ _).symm
  case getInformer g f =>
    obtain ⟨_, _, _, e⟩ := apply_getInformer g f s
    rw [e]
    exact Nat.le_refl _
  case nop | logEv | rmInformer => exact Nat.le_refl _

theorem mem_regs_apply {a : Act} {s : Sys} {r : Reg} (h : r ∈ (a.apply s).regs) :
    r ∈ s.regs ∨ ∃ cid wid h', a = .addReg cid wid h' ∧ r = ⟨s.nextReg, cid, wid, h'⟩ := by
  cases a
  case getInformer g f =>
    obtain ⟨_, _, _, e⟩ := apply_getInformer g f s
    rw [e] at h
    exact Or.inl h
  case addReg cid wid h' =>
    rcases List.mem_cons.1 h with rfl | h
    · exact Or.inr ⟨_, _, _, rfl, rfl⟩
    · exact Or.inl h
  case delReg | rmInformer => exact Or.inl (List.mem_filter.1 h).1
  all_goals exact Or.inl h

theorem nextReg_le_apply (a : Act) (s : Sys) : s.nextReg ≤ (a.apply s).nextReg := by
  cases a
  case getInformer g f =>
    obtain ⟨_, _, _, e⟩ := apply_getInformer g f s
    rw [e]
    exact Nat.le_refl _
  case addReg => exact Nat.le_succ _
  all_goals exact Nat.le_refl _

theorem apply_getInformer_tracked (g : Nat) (f : Bool) (s : Sys) (g' : Nat) :
    g' ∈ ((Act.getInformer g f).apply s).tracked ↔ g' = g ∨ g' ∈ s.tracked := by
  have key : g' ∈ (if s.tracked.contains g then s.tracked else g :: s.tracked) ↔ g' = g ∨ g' ∈ s.tracked := by
    split
    · rename_i hc
      have hg : g ∈ s.tracked := by simpa [List.contains_iff_mem] using hc
      constructor
      · exact Or.inr
      · rintro (rfl | h)
        · exact hg
        · exact h
    · simp
  simp only [Act.apply]
  split
  · exact key
  · split <;> exact key

theorem apply_getInformer_live (g : Nat) (f : Bool) (s : Sys) (g' h : Nat) :
    aget g' ((Act.getInformer g f).apply s).live = some h ↔
      aget g' s.live = some h ∨ (f = false ∧ g' = g ∧ aget g s.live = none ∧ h = s.nextGen) := by
  simp only [Act.apply]
  split
  · rename_i hf; simp [hf]
  · rename_i hf
    have hf' : f = false := by simpa using hf
    split
    · rename_i v hv
      constructor
      · exact Or.inl
      · rintro (h1 | ⟨_, _, h3, _⟩)
        · exact h1
        · rw [hv] at h3; cases h3
    · rename_i hv
      simp only [aget_cons]
      by_cases e : g = g'
      · subst e
        simp [hv, hf', eq_comm]
      · simp only [e, if_false]
        constructor
        · exact Or.inl
        · rintro (h1 | ⟨_, h2, _, _⟩)
          · exact h1
          · exact absurd h2.symm e

theorem srcsOf_apply (a : Act) (s : Sys) (k : Nat) :
    srcsOf (a.apply s) k = match a with
      | .addReg cid wid _ => if k = cid ∧ cid < s.objs.length then aset wid s.nextReg (srcsOf s cid) else srcsOf s k
      | .delReg cid wid _ => if k = cid then adel wid (srcsOf s cid) else srcsOf s k
      | _ => srcsOf s k := by
  cases a <;> dsimp only
  case addReg cid wid h => exact fieldOf_modCtl_valid (·.sources) [] (fun _ => rfl) cid s.objs k
  case delReg cid wid reg => exact fieldOf_modCtl_fix (·.sources) [] (g := adel wid) (fun _ => rfl) rfl cid s.objs k
  case finishStop n cid =>
    refine fieldOf_modCtl_same (·.sources) [] ?_ cid s.objs k
    exact fun _ => rfl
  case newCtl n => exact fieldOf_append_new (·.sources) [] rfl s.objs k
  case getInformer g f =>
    obtain ⟨_, _, _, e⟩ := apply_getInformer g f s
    rw [e]; rfl
  all_goals rfl

/-- `c.cancel()` was called on controller `cid` (the twin of the model's `stoppedOf`) -/
def cancelledOf (s : Sys) (cid : Nat) : Bool := fieldOf (·.cancelled) false s.objs cid

/-- `p` is one of the flags `cancelled`, `stopped`: only `finishStop` sets it -/
theorem flagOf_apply {p : Ctl → Bool} (hstop : ∀ c : Ctl, p { c with cancelled := true, stopped := true } = true)
    (hsrc : ∀ (c : Ctl) l, p { c with sources := l } = p c) (hnew : ∀ n, p ⟨n, [], false, false⟩ = false)
    (a : Act) (s : Sys) (k : Nat) :
    fieldOf p false (a.apply s).objs k = match a with
      | .finishStop _ cid => if k = cid ∧ cid < s.objs.length then true else fieldOf p false s.objs k
      | _ => fieldOf p false s.objs k := by
  cases a <;> dsimp only
  case finishStop n cid => exact fieldOf_modCtl_valid p false (g := fun _ => true) hstop cid s.objs k
  case addReg | delReg => exact fieldOf_modCtl_same p false (fun c => hsrc c _) _ s.objs k
  case newCtl n => exact fieldOf_append_new p false (hnew n) s.objs k
  case getInformer g f =>
    obtain ⟨_, _, _, e⟩ := apply_getInformer g f s
    rw [e]
  all_goals rfl

theorem stoppedOf_apply (a : Act) (s : Sys) (k : Nat) :
    stoppedOf (a.apply s) k = match a with
      | .finishStop _ cid => if k = cid ∧ cid < s.objs.length then true else stoppedOf s k
      | _ => stoppedOf s k :=
  flagOf_apply (p := (·.stopped)) (fun _ => rfl) (fun _ _ => rfl) (fun _ => rfl) a s k

theorem cancelledOf_apply (a : Act) (s : Sys) (k : Nat) :
    cancelledOf (a.apply s) k = match a with
      | .finishStop _ cid => if k = cid ∧ cid < s.objs.length then true else cancelledOf s k
      | _ => cancelledOf s k :=
  flagOf_apply (p := (·.cancelled)) (fun _ => rfl) (fun _ _ => rfl) (fun _ => rfl) a s k

end Xp.C13
