import Xp.Proofs.C06Exec
import Xp.Base.List
/-
C06: the store invariant `Inv`, the "possible future" preorder `Fut` under which thread-local
knowledge is stable, the guarantee `G` of a request, and their preservation by every API call under its
guarantee (`exec_inv_fut`) and by every environment step (`env_inv_fut`); the scripted environment actions
of the harness are environment steps (`applyEnv_env`).
-/
namespace Xp.C06

/-- `b` keeps the name of whatever resourceRef `a` has (the reference's name is set-once) -/
def refExt (a b : Claim) : Prop := ∀ n, a.refName = some n → b.refName = some n

theorem refExt_refl (a : Claim) : refExt a a := fun _ h => h

theorem refExt_trans {a b c : Claim} (h1 : refExt a b) (h2 : refExt b c) : refExt a c :=
  fun n h => h2 n (h1 n h)

theorem refName_of_ref {c : Claim} {r : XRef} (h : c.ref = some r) : c.refName = some r.name := by
  rw [Claim.refName, h]; rfl

/-- some stored version of the claim carried `spec.resourceRef.name = n` -/
def acked (s : St) (n : Name) : Prop := ∃ v ∈ s.hist, v.refName = some n

/-- `x` carries a claimRef that is not this claim's reference (it differs in at least one of name,
namespace, group, version, kind) -/
def XR.foreignTo (x : XR) (me : CRef) : Prop := ∃ r, x.cref = some r ∧ r ≠ me

/-- XR `n` exists and its claimRef names another claim, in a world WITHOUT other claims' controllers
(`St.peers = false`). There the fact "not foreign" is stable (nobody but this controller sets a
claimRef); in a world with peers nothing of the kind is (`foreignAt` is then constantly false and
the guarantee about unconditional writes is void: see `SeenRv` for what remains). -/
def foreignAt (s : St) (n : Name) : Prop := s.peers = false ∧ ∃ x, s.xrs n = some x ∧ x.foreignTo s.me

/-- XR `n` exists and its claimRef names another claim — in ANY world (cf. `foreignAt`) -/
def foreignNow (s : St) (n : Name) : Prop := ∃ x, s.xrs n = some x ∧ x.foreignTo s.me

/-- some state XR `n` ever had carried resourceVersion `v` and was not bound to another claim: what a
thread knows after reading such a state; a write that carries `v` can only take effect on a state
with the same claimRef (`Inv.rvU`), in every world -/
def SeenRv (s : St) (n : Name) (v : Nat) : Prop := ∃ x, some x ∈ s.xhist n ∧ x.rv = v ∧ ¬ x.foreignTo s.me

/-- some state the name `n` ever had since the start was absent, unbound or bound to this claim: what a thread
knows after ANY read of the name that passed the bound check (or answered NotFound), in every world -/
def SeenNF (s : St) (n : Name) : Prop := ∃ ox ∈ s.xhist n, ∀ x, ox = some x → ¬ x.foreignTo s.me

/-- what the reconcile knows about the name before an UNCONDITIONAL request: in a world without other claims'
controllers the XR is not foreign NOW; in every world it was not foreign in SOME state of the name -/
def NF (s : St) (n : Name) : Prop := ¬ foreignAt s n ∧ SeenNF s n

/-- XR `n` exists and its claimRef is exactly this claim's reference -/
def boundAt (s : St) (n : Name) : Prop := ∃ x, s.xrs n = some x ∧ x.cref = some s.me

/-- the ghost trace is well formed: every `create n` has an older `ack n` (or `n` was
already recorded before the start, `P0`), and no write hit a foreign-bound XR — an unconditional one
(`xrWrite`) only under `strict` (`Inv.trace`: the world has no other claims' controllers) -/
def TraceOk (P0 : Name → Prop) (strict : Prop) (me : CRef) : List Ev → Prop
  | [] => True
  | e :: t => TraceOk P0 strict me t ∧ (∀ n, e = .create n → Ev.ack n ∈ t ∨ P0 n) ∧
      (∀ n r, e = .xrWrite n (some r) → strict → r = me) ∧ (∀ n r, e = .xrWriteG n (some r) → r = me)

/-- newest-first history: strictly decreasing rv, set-once reference name -/
def HistOk (l : List Claim) : Prop :=
  l.Pairwise (fun newer older => older.rv < newer.rv ∧ refExt older newer)

/-- The store invariant. `P0`: the names the claim had recorded as referenced before the start (`acked s0` in
`Init.inv`, Proofs/C06Run.lean), so that `ackd` and `TraceOk` speak of the trace since the start only. -/
structure Inv (P0 : Name → Prop) (s : St) : Prop where
  rvLt : ∀ v ∈ s.hist, v.rv < s.nextRv
  mono : HistOk s.hist
  cur : ∀ c, s.claim = some c → ∃ t, s.hist = c :: t
  bound : ∀ n, boundAt s n → acked s n
  ackd : ∀ n, acked s n → Ev.ack n ∈ s.trace ∨ P0 n
  ackHist : ∀ n, Ev.ack n ∈ s.trace → acked s n
  p0 : ∀ n, P0 n → acked s n
  trace : TraceOk P0 (s.peers = false) s.me s.trace
  /-- every stored version of the claim is the same object: `cm.GetReference()` never changes -/
  idOk : ∀ v ∈ s.hist, v.id = s.me
  /-- the stored state of every XR name is in its history (at its head in every store `setXR`/`putXR` build; membership is
  all the proofs use) -/
  xcur : ∀ n, s.xrs n ∈ s.xhist n
  /-- an XR that is bound to another claim now has been so in every state the name ever had:
  nobody but this controller sets a claimRef, and it only ever writes its own -/
  xfor : ∀ n, foreignAt s n → ∀ ox ∈ s.xhist n, ∃ x, ox = some x ∧ x.foreignTo s.me
  /-- resourceVersions of XR states are below the counter … -/
  xrvLt : ∀ n x, some x ∈ s.xhist n → x.rv < s.nextRv
  /-- … and two states of a name with the same resourceVersion carry the same claimRef -/
  rvU : ∀ n a b, some a ∈ s.xhist n → some b ∈ s.xhist n → a.rv = b.rv → a.cref = b.cref

/-- `s'` is a possible future of `s`: what a thread learnt in `s` and may still rely on in `s'` -/
structure Fut (s s' : St) : Prop where
  hist : ∀ v ∈ s.hist, v ∈ s'.hist
  notForeign : ∀ n, ¬ foreignAt s n → ¬ foreignAt s' n
  xh : ∀ n ox, ox ∈ s.xhist n → ox ∈ s'.xhist n
  me : s'.me = s.me

theorem Fut.refl (s : St) : Fut s s := ⟨fun _ h => h, fun _ h => h, fun _ _ h => h, rfl⟩

theorem Fut.trans {a b c : St} (h1 : Fut a b) (h2 : Fut b c) : Fut a c :=
  ⟨fun v h => h2.hist v (h1.hist v h), fun n h => h2.notForeign n (h1.notForeign n h),
    fun n ox h => h2.xh n ox (h1.xh n ox h), h2.me.trans h1.me⟩

theorem Fut.seen {s s' : St} (h : Fut s s') {n : Name} {v : Nat} (hs : SeenRv s n v) : SeenRv s' n v := by
  obtain ⟨x, hx, hv, hnf⟩ := hs
  exact ⟨x, h.xh n _ hx, hv, by rw [h.me]; exact hnf⟩

theorem Fut.nf {s s' : St} (h : Fut s s') {n : Name} (hs : NF s n) : NF s' n := by
  obtain ⟨hnf, ox, hox, hx⟩ := hs
  exact ⟨h.notForeign n hnf, ox, h.xh n _ hox, by rw [h.me]; exact hx⟩

theorem Fut.acked {s s' : St} (h : Fut s s') {n : Name} (ha : acked s n) : acked s' n := by
  obtain ⟨v, hv, hr⟩ := ha
  exact ⟨v, h.hist v hv, hr⟩

/-- The guarantee: what must hold of a request at the instant it is applied. -/
def G (s : St) : Req → Prop
  | .getClaim _ => True
  | .getXR _ _ => True
  | .updClaimStatus _ => True
  | .updClaim c => ∃ v ∈ s.hist, v.rv = c.rv ∧ refExt v c
  | .upgradeXR n rv _ => (¬ foreignAt s n ∧ SeenRv s n rv) ∧ acked s n
  | .deleteXR n _ => NF s n ∧ acked s n
  | .createXR n _ cref => acked s n ∧ cref = s.me
  | .patchXR n rv cref => ((acked s n ∧ NF s n) ∧ cref = s.me) ∧ ∀ v, rv = some v → SeenRv s n v
  | .applyXR n cref => (acked s n ∧ NF s n) ∧ cref = s.me

theorem G.fut {s s' : St} {r : Req} (h : G s r) (hf : Fut s s') : G s' r := by
  cases r with
  | getClaim | getXR | updClaimStatus => trivial
  | updClaim c => exact h.imp fun v hv => ⟨hf.hist v hv.1, hv.2⟩
  | upgradeXR n rv d => exact ⟨⟨hf.notForeign n h.1.1, hf.seen h.1.2⟩, hf.acked h.2⟩
  | deleteXR n fg => exact ⟨hf.nf h.1, hf.acked h.2⟩
  | createXR n b c => exact ⟨hf.acked h.1, h.2.trans hf.me.symm⟩
  | patchXR n rv c =>
    obtain ⟨⟨⟨hack, hnf⟩, hme⟩, hseen⟩ := h
    exact ⟨⟨⟨hf.acked hack, hf.nf hnf⟩, hme.trans hf.me.symm⟩, fun v hv => hf.seen (hseen v hv)⟩
  | applyXR n c => exact ⟨⟨hf.acked h.1.1, hf.nf h.1.2⟩, h.2.trans hf.me.symm⟩

variable {P0 : Name → Prop}

theorem traceOk_at {strict : Prop} {me : CRef} (post : List Ev) {e : Ev} {pre : List Ev}
    (h : TraceOk P0 strict me (post ++ e :: pre)) :
    (∀ n, e = .create n → Ev.ack n ∈ pre ∨ P0 n) ∧ (∀ n r, e = .xrWrite n (some r) → strict → r = me) ∧
      ∀ n r, e = .xrWriteG n (some r) → r = me := by
  induction post with
  | nil => exact h.2
  | cons p ps ih => exact ih h.1

theorem hist_rv_inj {l : List Claim} (h : HistOk l) {a b : Claim} (ha : a ∈ l) (hb : b ∈ l)
    (hrv : a.rv = b.rv) : a = b := by
  rcases pairwise_mem_cases h ha hb with e | ⟨hlt, _⟩ | ⟨hlt, _⟩
  · exact e
  · omega
  · omega

theorem hist_ref_unique {l : List Claim} (h : HistOk l) {a b : Claim} (ha : a ∈ l) (hb : b ∈ l)
    {n m : Name} (hn : a.refName = some n) (hm : b.refName = some m) : n = m := by
  rcases pairwise_mem_cases h ha hb with e | ⟨_, hx⟩ | ⟨_, hx⟩
  · subst e; rw [hn] at hm; exact Option.some.inj hm
  · have := hx m hm; rw [hn] at this; exact Option.some.inj this
  · have := hx n hn; rw [hm] at this; exact (Option.some.inj this).symm

theorem acked_unique {s : St} (hi : Inv P0 s) {n m : Name} (hn : acked s n) (hm : acked s m) : n = m := by
  obtain ⟨a, ha, han⟩ := hn
  obtain ⟨b, hb, hbm⟩ := hm
  exact hist_ref_unique hi.mono ha hb han hbm

theorem cur_mem {s : St} (hi : Inv P0 s) {c : Claim} (hc : s.claim = some c) : c ∈ s.hist := by
  obtain ⟨t, ht⟩ := hi.cur c hc
  rw [ht]; exact List.mem_cons_self

theorem not_foreign_of_hist {s : St} (hi : Inv P0 s) {n : Name} {ox : Option XR}
    (hox : ox ∈ s.xhist n) (h : ∀ x, ox = some x → ¬ x.foreignTo s.me) : ¬ foreignAt s n := by
  intro hf
  obtain ⟨x, hx, hc⟩ := hi.xfor n hf ox hox
  exact h x hx hc

theorem nf_of_hist {s : St} (hi : Inv P0 s) {n : Name} {ox : Option XR}
    (hox : ox ∈ s.xhist n) (h : ∀ x, ox = some x → ¬ x.foreignTo s.me) : NF s n :=
  ⟨not_foreign_of_hist hi hox h, ox, hox, h⟩

/-- `TraceOk`'s clause for one event, in the state it is appended to -/
def EvOk (P0 : Name → Prop) (s : St) : Ev → Prop
  | .ack n => acked s n
  | .create n => Ev.ack n ∈ s.trace ∨ P0 n
  | .xrWrite _ was => s.peers = false → ∀ r, was = some r → r = s.me
  | .xrWriteG _ was => ∀ r, was = some r → r = s.me

theorem Inv.evOk {s : St} (hi : Inv P0 s) {e : Ev} (he : e ∈ s.trace) : EvOk P0 s e := by
  obtain ⟨post, pre, hsplit⟩ := List.append_of_mem he
  have h := traceOk_at post (hsplit ▸ hi.trace)
  cases e with
  | ack n => exact hi.ackHist n he
  | create n => exact (h.1 n rfl).imp_left fun hm => hsplit ▸ List.mem_append_right _ (List.mem_cons_of_mem _ hm)
  | xrWrite n was => exact fun hp r hr => h.2.1 n r (hr ▸ rfl) hp
  | xrWriteG n was => exact fun r hr => h.2.2 n r (hr ▸ rfl)

theorem emit_ok {s s' : St} (h : Inv P0 s' ∧ Fut s s') (e : Ev) (he : EvOk P0 s' e) :
    Inv P0 (emit s' e) ∧ Fut s (emit s' e) :=
  ⟨{ h.1 with
      ackd := fun n ha => (h.1.ackd n ha).imp_left (List.mem_cons_of_mem _)
      ackHist := fun n hm => by
        rcases List.mem_cons.mp hm with hm | hm
        · subst hm; exact he
        · exact h.1.ackHist n hm
      trace := ⟨h.1.trace, fun n hn => by subst hn; exact he, fun n r hn hp => by subst hn; exact he hp r rfl,
        fun n r hn => by subst hn; exact he r rfl⟩ },
    h.2.trans ⟨fun _ hv => hv, fun _ hn => hn, fun _ _ hx => hx, rfl⟩⟩

theorem acked_pushClaim {s : St} {c : Claim} {n : Name} (h : acked s n) : acked (pushClaim s c).1 n := by
  obtain ⟨v, hv, hr⟩ := h
  exact ⟨v, List.mem_cons_of_mem _ hv, hr⟩

theorem pushClaim_resp_mem (s : St) (c : Claim) : (pushClaim s c).2 ∈ (pushClaim s c).1.hist :=
  List.mem_cons_self

theorem traceOk_append_acks {strict : Prop} {me : CRef} {extra tr : List Ev} (h : TraceOk P0 strict me tr)
    (he : ∀ e ∈ extra, ∃ n, e = Ev.ack n) : TraceOk P0 strict me (extra ++ tr) := by
  induction extra with
  | nil => exact h
  | cons e es ih =>
    obtain ⟨n, rfl⟩ := he e List.mem_cons_self
    exact ⟨ih (fun e' h' => he e' (List.mem_cons_of_mem _ h')), fun _ hm => Ev.noConfusion hm,
      fun _ _ hm => Ev.noConfusion hm, fun _ _ hm => Ev.noConfusion hm⟩

theorem inv_fut_pushClaim {s : St} (hi : Inv P0 s) {cur c : Claim} (extra : List Ev)
    (hc : s.claim = some cur) (hext : refExt cur c)
    (hextra : ∀ e ∈ extra, ∃ n, e = Ev.ack n ∧ c.refName = some n)
    (hack : ∀ n, c.refName = some n → Ev.ack n ∈ extra ++ s.trace ∨ P0 n) (hid : c.id = s.me) :
    Inv P0 (pushClaim { s with trace := extra ++ s.trace } c).1 ∧
      Fut s (pushClaim { s with trace := extra ++ s.trace } c).1 := by
  obtain ⟨t, ht⟩ := hi.cur cur hc
  -- every stored version is extended by the current one, hence by `c`
  have hcur : ∀ v ∈ s.hist, refExt v cur := by
    intro v hv
    have hmono : (cur :: t).Pairwise _ := ht ▸ hi.mono
    rcases List.mem_cons.mp (ht ▸ hv) with rfl | hv
    · exact refExt_refl _
    · exact ((List.pairwise_cons.mp hmono).1 v hv).2
  have hacked : ∀ n, acked s n → acked (pushClaim { s with trace := extra ++ s.trace } c).1 n :=
    fun _ h => acked_pushClaim (s := { s with trace := extra ++ s.trace }) h
  have hlt : s.nextRv < s.nextRv + 1 := Nat.lt_succ_self _
  refine ⟨?_, fun _ h => List.mem_cons_of_mem _ h, fun _ h => h, fun _ _ h => h, rfl⟩
  exact
    { rvLt := fun v hv => by
        rcases List.mem_cons.mp hv with rfl | hv
        · exact hlt
        · exact Nat.lt_trans (hi.rvLt v hv) hlt
      mono := List.pairwise_cons.mpr ⟨fun v hv => ⟨hi.rvLt v hv, refExt_trans (hcur v hv) hext⟩, hi.mono⟩
      cur := fun c' hc' => by
        change (if _ then none else some _) = some c' at hc'
        split at hc'
        · cases hc'
        · cases hc'; exact ⟨_, rfl⟩
      bound := fun n hb => hacked n (hi.bound n hb)
      ackd := fun n ⟨v, hv, hr⟩ => by
        rcases List.mem_cons.mp hv with rfl | hv
        · exact hack n hr
        · exact (hi.ackd n ⟨v, hv, hr⟩).imp_left (List.mem_append_right _)
      ackHist := fun n hn => by
        rcases List.mem_append.mp hn with hn | hn
        · obtain ⟨m, hm, hr⟩ := hextra _ hn
          cases hm
          exact ⟨_, List.mem_cons_self, hr⟩
        · exact hacked n (hi.ackHist n hn)
      p0 := fun n hn => hacked n (hi.p0 n hn)
      trace := traceOk_append_acks hi.trace (fun e he => (hextra e he).imp fun _ h => h.1)
      idOk := fun v hv => by
        rcases List.mem_cons.mp hv with rfl | hv
        · exact hid
        · exact hi.idOk v hv
      xcur := hi.xcur
      xfor := hi.xfor
      xrvLt := fun n x hx => Nat.lt_trans (hi.xrvLt n x hx) hlt
      rvU := hi.rvU }

theorem inv_fut_pushClaim_same {s : St} (hi : Inv P0 s) {cur c : Claim}
    (hc : s.claim = some cur) (href : c.refName = cur.refName) (hid : c.id = cur.id) :
    Inv P0 (pushClaim s c).1 ∧ Fut s (pushClaim s c).1 :=
  inv_fut_pushClaim hi (c := c) [] hc (fun _ hn => href ▸ hn) (fun _ he => nomatch he)
    (fun n hn => hi.ackd n ⟨cur, cur_mem hi hc, href ▸ hn⟩) (hid.trans (hi.idOk cur (cur_mem hi hc)))

theorem inv_fut_tick {s : St} (hi : Inv P0 s) (k : Nat) (o : List Side) :
    Inv P0 { s with nextRv := s.nextRv + k, others := o } ∧ Fut s { s with nextRv := s.nextRv + k, others := o } :=
  ⟨{ hi with
      rvLt := fun v hv => Nat.lt_of_lt_of_le (hi.rvLt v hv) (Nat.le_add_right _ _)
      xrvLt := fun n x hx => Nat.lt_of_lt_of_le (hi.xrvLt n x hx) (Nat.le_add_right _ _) },
    ⟨fun _ h => h, fun _ h => h, fun _ _ h => h, rfl⟩⟩

theorem foreignNow_setXR {s : St} {n m : Name} {ox : Option XR} (h : foreignNow (setXR s n ox) m) :
    foreignNow s m ∨ (m = n ∧ ∃ x, ox = some x ∧ x.foreignTo s.me) := by
  obtain ⟨x, hx, hc⟩ := h
  rcases xrs_setXR_cases hx with ⟨e, hx'⟩ | ⟨_, hx'⟩
  · exact Or.inr ⟨e, x, hx', hc⟩
  · exact Or.inl ⟨x, hx', hc⟩

theorem inv_fut_setXR {s : St} (hi : Inv P0 s) (n : Name) (ox : Option XR)
    (hb : ∀ x, ox = some x → x.cref = some s.me → acked s n)
    (hfo : ∀ x, ox = some x → s.peers = false → x.foreignTo s.me → foreignAt s n)
    (hrv : ∀ x, ox = some x → x.rv < s.nextRv ∧ ∀ b, some b ∈ s.xhist n → b.rv = x.rv → b.cref = x.cref) :
    Inv P0 (setXR s n ox) ∧ Fut s (setXR s n ox) := by
  have hfor : ∀ m, foreignAt (setXR s n ox) m → foreignAt s m := by
    intro m ⟨hp, hm⟩
    rcases foreignNow_setXR hm with h | ⟨rfl, x, hx, hc⟩
    · exact ⟨hp, h⟩
    · exact hfo x hx hp hc
  refine ⟨{ hi with bound := ?_, xcur := ?_, xfor := ?_, xrvLt := ?_, rvU := ?_ },
    ⟨fun _ hv => hv, fun m hm hf => hm (hfor m hf), fun m oy => xhist_subset_setXR s n ox, rfl⟩⟩
  · intro m ⟨x, hx, hc⟩
    rcases xrs_setXR_cases hx with ⟨rfl, hx'⟩ | ⟨_, hx'⟩
    · exact hb x hx' hc
    · exact hi.bound m ⟨x, hx', hc⟩
  · intro m
    rw [setXR_xrs, setXR_xhist]
    split
    · exact List.mem_cons_self
    · exact hi.xcur m
  · intro m hm oy hoy
    rcases mem_xhist_setXR hoy with ⟨rfl, rfl⟩ | hoy
    · obtain ⟨_, x, hx, hc⟩ := hm
      exact ⟨x, by rwa [setXR_xrs, if_pos rfl] at hx, hc⟩
    · exact hi.xfor m (hfor m hm) oy hoy
  · intro m y hy
    rcases mem_xhist_setXR hy with ⟨rfl, rfl⟩ | hy
    · exact (hrv y rfl).1
    · exact hi.xrvLt m y hy
  · intro m a b ha hb' hab
    rcases mem_xhist_setXR ha with ⟨rfl, ea⟩ | ha1
    · rcases mem_xhist_setXR hb' with ⟨_, eb⟩ | hb1
      · exact congrArg XR.cref (Option.some.inj (ea.trans eb.symm))
      · exact ((hrv a ea.symm).2 b hb1 hab.symm).symm
    · rcases mem_xhist_setXR hb' with ⟨rfl, eb⟩ | hb1
      · exact (hrv b eb.symm).2 a ha1 hab
      · exact hi.rvU m a b ha1 hb1 hab

theorem inv_fut_putXR {s : St} (hi : Inv P0 s) (n : Name) (x : XR)
    (hb : x.cref = some s.me → acked s n) (hfo : s.peers = false → x.foreignTo s.me → foreignAt s n) :
    Inv P0 (putXR s n x).1 ∧ Fut s (putXR s n x).1 :=
  have h1 := inv_fut_tick hi 1 s.others
  have h2 := inv_fut_setXR h1.1 n (some { x with rv := s.nextRv }) (fun _ hy => by cases hy; exact hb)
    (fun _ hy => by cases hy; exact hfo)
    (fun _ hy => by cases hy; exact ⟨Nat.lt_succ_self _, fun b hb' e => absurd e (Nat.ne_of_lt (hi.xrvLt n b hb'))⟩)
  ⟨h2.1, h1.2.trans h2.2⟩

theorem inv_fut_put_keep {s : St} (hi : Inv P0 s) {n : Name} {x : XR} (hx : s.xrs n = some x)
    (x' : XR) (hc : x'.cref = x.cref) : Inv P0 (putXR s n x').1 ∧ Fut s (putXR s n x').1 :=
  inv_fut_putXR hi n x' (fun h => hi.bound n ⟨x, hx, hc ▸ h⟩) (fun hp ⟨r, hr, hne⟩ => ⟨hp, x, hx, r, hc ▸ hr, hne⟩)

theorem not_foreignTo_of_cref {x : XR} {me : CRef} (h : x.cref = some me) : ¬ x.foreignTo me :=
  fun ⟨_, hr, hne⟩ => hne (Option.some.inj (h ▸ hr)).symm

theorem inv_fut_put_own {s : St} (hi : Inv P0 s) {n : Name} (hack : acked s n)
    (x' : XR) (hc : x'.cref = some s.me) : Inv P0 (putXR s n x').1 ∧ Fut s (putXR s n x').1 :=
  inv_fut_putXR hi n x' (fun _ => hack) (fun _ h => absurd h (not_foreignTo_of_cref hc))

/-- as `inv_fut_put_keep`, for a state stored under the resourceVersion it had (`setXR`, no new rv): `hr` stands where
`putXR` has the fresh counter value -/
theorem inv_fut_set_keep {s : St} (hi : Inv P0 s) {n : Name} {x : XR} (hx : s.xrs n = some x)
    (x' : XR) (hc : x'.cref = x.cref) (hr : x'.rv = x.rv) :
    Inv P0 (setXR s n (some x')) ∧ Fut s (setXR s n (some x')) := by
  have hxm : some x ∈ s.xhist n := hx ▸ hi.xcur n
  refine inv_fut_setXR hi n (some x') ?_ ?_ ?_
  · intro y hy h
    cases hy
    exact hi.bound n ⟨x, hx, hc ▸ h⟩
  · intro y hy hp ⟨r, hr', hne⟩
    cases hy
    exact ⟨hp, x, hx, r, hc ▸ hr', hne⟩
  · intro y hy
    cases hy
    exact ⟨hr ▸ hi.xrvLt n x hxm, fun b hb hbr => (hi.rvU n b x hb hxm (hbr.trans hr)).trans hc.symm⟩

theorem inv_fut_remove {s : St} (hi : Inv P0 s) (n : Name) : Inv P0 (setXR s n none) ∧ Fut s (setXR s n none) :=
  inv_fut_setXR hi n none (fun _ hy => nomatch hy) (fun _ hy => nomatch hy) (fun _ hy => nomatch hy)

theorem was_me_of_not_foreign {s : St} {n : Name} {x : XR} (hx : s.xrs n = some x) (h : ¬ foreignAt s n) :
    s.peers = false → ∀ r, x.cref = some r → r = s.me :=
  fun hp r hc => Classical.byContradiction fun hne => h ⟨hp, x, hx, r, hc, hne⟩

theorem was_me_of_seen {s : St} (hi : Inv P0 s) {n : Name} {x : XR} (hx : s.xrs n = some x)
    (h : SeenRv s n x.rv) : ∀ r, x.cref = some r → r = s.me := by
  intro r hc
  obtain ⟨y, hy, hrv, hnf⟩ := h
  have heq : y.cref = x.cref := hi.rvU n y x hy (hx ▸ hi.xcur n) hrv
  exact Classical.byContradiction fun hne => hnf ⟨r, heq ▸ hc, hne⟩

theorem inv_fut_delState {s : St} (hi : Inv P0 s) {n : Name} {x : XR} (hx : s.xrs n = some x)
    (x1 : XR) (hc : x1.cref = x.cref) (hr : x1.rv = x.rv) :
    Inv P0 (delState s n x x1) ∧ Fut s (delState s n x x1) := by
  rcases delState_cases s n x x1 with e | e | e | e <;> rw [e]
  · exact ⟨hi, Fut.refl s⟩
  · exact inv_fut_set_keep hi hx x1 hc hr
  · exact inv_fut_put_keep hi hx _ hc
  · exact inv_fut_remove hi n

theorem mem_ackOf {c : Claim} {e : Ev} : e ∈ ackOf c ↔ ∃ n, e = Ev.ack n ∧ c.refName = some n := by
  unfold ackOf
  split
  · next n hn =>
    refine ⟨fun h => ⟨n, List.mem_singleton.mp h, hn⟩, fun ⟨m, hm, hr⟩ => ?_⟩
    cases hn.symm.trans hr
    exact List.mem_singleton.mpr hm
  · next hn => exact ⟨fun h => (nomatch h), fun ⟨m, _, hr⟩ => (nomatch hn.symm.trans hr)⟩

theorem Eff.inv_fut {s s' : St} {r : Req} {resp : Resp} (hi : Inv P0 s) (he : Eff s r s' resp)
    (hg : G s r) :
    Inv P0 s' ∧ Fut s s' := by
  cases he with
  | reject | getClaim | getXR => exact ⟨hi, Fut.refl s⟩
  | updClaim c cur hc hrv =>
    obtain ⟨v, hv, hvr, hext⟩ := hg
    have hcur : v = cur := hist_rv_inj hi.mono hv (cur_mem hi hc) (hvr.trans hrv)
    exact inv_fut_pushClaim hi (ackOf c) hc (hcur ▸ hext) (fun _ => mem_ackOf.mp)
      (fun n hn => Or.inl (List.mem_append_left _ (mem_ackOf.mpr ⟨n, rfl, hn⟩))) (hi.idOk cur (cur_mem hi hc))
  | updClaimStatus cur hc => exact inv_fut_pushClaim_same hi hc rfl rfl
  | deleteXR n fg x x1 hx hc hr =>
    have hf := delState_sameWorld s n x x1
    obtain ⟨⟨hnf, _⟩, _⟩ := hg
    exact emit_ok (inv_fut_delState hi hx x1 hc hr) (.xrWrite n x.cref)
      (fun hp r hr => (was_me_of_not_foreign hx hnf (hf.2.1.symm.trans hp) r hr).trans hf.1.symm)
  | write r n x' e hw =>
    cases hw with
    | upgradeXR n d x hx =>
      obtain ⟨⟨_, hseen⟩, _⟩ := hg
      exact emit_ok (inv_fut_put_keep hi hx { x with mf := (applyUpDec d x.mf).getD x.mf } rfl) (.xrWriteG n x.cref)
        (was_me_of_seen hi hx hseen)
    | createXR n cref hx =>
      obtain ⟨hack, rfl⟩ := hg
      exact emit_ok (inv_fut_put_own hi hack _ rfl) (.create n) (hi.ackd n hack)
    | patchXR n cref x hx =>
      obtain ⟨⟨⟨hack, hnf, _⟩, rfl⟩, _⟩ := hg
      exact emit_ok (inv_fut_put_own hi hack _ rfl) (.xrWrite n x.cref) (was_me_of_not_foreign (s := s) hx hnf)
    | patchXRG n cref x hx =>
      obtain ⟨⟨⟨hack, _⟩, rfl⟩, hseen⟩ := hg
      exact emit_ok (inv_fut_put_own hi hack _ rfl) (.xrWriteG n x.cref) (was_me_of_seen hi hx (hseen _ rfl))
    | applyCreate n cref hx =>
      obtain ⟨⟨hack, _⟩, rfl⟩ := hg
      exact emit_ok (inv_fut_put_own hi hack _ rfl) (.create n) (hi.ackd n hack)
    | applyXR n cref x hx =>
      obtain ⟨⟨hack, hnf, _⟩, rfl⟩ := hg
      exact emit_ok (inv_fut_put_own hi hack _ rfl) (.xrWrite n x.cref) (was_me_of_not_foreign (s := s) hx hnf)

theorem exec_inv_fut {s : St} (hi : Inv P0 s) (r : Req) (hg : G s r) :
    Inv P0 (exec s r).1 ∧ Fut s (exec s r).1 :=
  (exec_eff s r).inv_fut hi hg

theorem env_inv_fut {s s' : St} (hi : Inv P0 s) (he : Env s s') : Inv P0 s' ∧ Fut s s' := by
  cases he with
  | xrWrite n x x' hx hc => exact inv_fut_put_keep hi hx x' hc
  | xrRemove n => exact inv_fut_remove hi n
  | xrCreate n x' hx hc =>
    exact inv_fut_putXR hi n x' (fun h => nomatch hc ▸ h) (fun _ ⟨_, hr, _⟩ => nomatch hc ▸ hr)
  | peerWrite n x' hp hb =>
    exact inv_fut_putXR hi n x' (fun h => (hb h).elim fun x hx => hi.bound n ⟨x, hx⟩) (fun h => nomatch hp ▸ h)
  | xrSet n x x' hx hc hr => exact inv_fut_set_keep hi hx x' hc hr
  | claimWrite c c' hc href hid => exact inv_fut_pushClaim_same hi hc href hid
  | claimGone => exact ⟨{ hi with cur := fun c h => nomatch h }, ⟨fun _ h => h, fun _ h => h, fun _ _ h => h, rfl⟩⟩
  | tick k o => exact inv_fut_tick hi k o

/-- which scripted actions are environment steps of the world `peers` for the claim `me`: a claimRef
is only ever set by the controller of ANOTHER claim, and only where such controllers exist; an action
on another claim's object is a claim action -/
def EnvAct.adm (peers : Bool) (me : CRef) : EnvAct → Prop
  | .xrCreate _ (some r) _ => peers = true ∧ r ≠ me
  | .xrBind _ r _ => peers = true ∧ r ≠ me
  | .other _ a => a = .claimDelete ∨ a = .claimTouch ∨ ∃ t, a = .claimRetype t
  | _ => True

theorem applyEnv_claim_frame (s : St) (a : EnvAct) (h : a = .claimDelete ∨ a = .claimTouch ∨ ∃ t, a = .claimRetype t) :
    ∃ k, (applyEnv s a).xrs = s.xrs ∧ (applyEnv s a).xhist = s.xhist ∧ (applyEnv s a).peers = s.peers ∧
      (applyEnv s a).others = s.others ∧ (applyEnv s a).nextRv = s.nextRv + k := by
  fun_cases applyEnv s a with
  | case10 | case13 | case16 => exact ⟨1, rfl, rfl, rfl, rfl, rfl⟩         -- a new version of the claim is stored (the branches are named in `applyEnv_env`)
  | case9 | case11 | case12 | case14 | case15 | case17 | case18 => exact ⟨0, rfl, rfl, rfl, rfl, rfl⟩   -- it stays as it is, or goes
  | _ => rcases h with h | h | ⟨_, h⟩ <;> cases h                          -- not an action on the claim

theorem swap_of_frame (s s' : St) (j : Nat) (d : Side) (hd : s.others[j]? = some d) (ho : s'.others = s.others) :
    swap s' j = ⟨d.me, d.claim, d.hist, s'.xrs, s'.xhist, s'.nextRv, d.trace, s'.peers, s.others.set j s'.side⟩ := by
  unfold swap
  rw [ho, hd]
  rfl

theorem swap_back (s X : St) (j : Nat) (d : Side) (hd : s.others[j]? = some d) (hx : X.xrs = s.xrs)
    (hxh : X.xhist = s.xhist) (hp : X.peers = s.peers) (ho : X.others = s.others.set j s.side) (k : Nat)
    (hn : X.nextRv = s.nextRv + k) :
    swap X j = { s with nextRv := s.nextRv + k, others := X.others.set j X.side } := by
  have hget : X.others[j]? = some s.side := by
    rw [ho, List.getElem?_set_self (List.getElem?_eq_some_iff.mp hd).1]
  rw [swap_of_frame X X j s.side hget rfl, hx, hxh, hp, hn]
  rfl

theorem applyEnv_env (s : St) (a : EnvAct) (h : a.adm s.peers s.me) : applyEnv s a = s ∨ Env s (applyEnv s a) := by
  fun_cases applyEnv s a with
  | case1 n g x hx => exact .inr (.xrWrite s n x _ hx rfl)                 -- xrTouch
  | case3 n x hx => exact .inr (.xrRemove s n)                             -- xrRemove
  | case6 n x hx => exact .inr (.xrWrite s n x _ hx rfl)                   -- xrDelete: finalizers, not terminating yet
  | case7 n x hx => exact .inr (.xrRemove s n)                             -- xrDelete: no finalizers
  | case10 c hc => exact .inr (.claimWrite s c _ hc rfl rfl)               -- claimDelete: finalizer, not terminating yet
  | case11 => exact .inr (.claimGone s)                                    -- claimDelete: no finalizer
  | case13 c hc => exact .inr (.claimWrite s c c hc rfl rfl)               -- claimTouch
  | case16 t c hc r hr => exact .inr (.claimWrite s c _ hc (refName_of_ref hr).symm rfl)   -- claimRetype
  | case20 n r uid hx =>                                                   -- xrCreate: by hand, or by another claim's controller
    cases r with
    | none => exact .inr (.xrCreate s n _ hx rfl)
    | some r => exact .inr (.peerWrite s n _ h.1 fun hc => absurd (Option.some.inj hc) h.2)
  | case22 n r uid x hx => exact .inr (.peerWrite s n _ h.1 fun hc => absurd (Option.some.inj hc) h.2)   -- xrBind
  | case24 j a d hd =>
    -- the action changes only the claim in slot `j`: seen from this claim, resourceVersions are consumed
    have hsw : swap s j = { s.load d with others := s.others.set j s.side } := by
      unfold swap; rw [hd]
    rw [hsw]
    obtain ⟨k, h1, h2, h3, h4, h5⟩ := applyEnv_claim_frame { s.load d with others := s.others.set j s.side } a h
    exact .inr (swap_back s _ j d hd h1 h2 h3 h4 k h5 ▸ Env.tick s k _)
  | _ => exact .inl rfl                                                    -- nothing to act on, or nothing to change

theorem env_me_peers {s s' : St} (h : Env s s') : s'.me = s.me ∧ s'.peers = s.peers := by
  have put : ∀ n x, (putXR s n x).1.me = s.me ∧ (putXR s n x).1.peers = s.peers :=
    fun n x => ⟨(putXR_sameWorld s n x).1, (putXR_sameWorld s n x).2.1⟩
  cases h with
  | xrWrite n x x' => exact put n x'
  | xrCreate n x' => exact put n x'
  | peerWrite n x' => exact put n x'
  | xrRemove | xrSet | tick | claimWrite | claimGone => exact ⟨rfl, rfl⟩

theorem applyEnv_me_peers (s : St) (a : EnvAct) (h : a.adm s.peers s.me) :
    (applyEnv s a).me = s.me ∧ (applyEnv s a).peers = s.peers := by
  rcases applyEnv_env s a h with e | e
  · rw [e]; exact ⟨rfl, rfl⟩
  · exact env_me_peers e

end Xp.C06
