import Xp.Model.C17ResF
import Xp.Proofs.C17Res
/-
C17: Resolve with a missing Lock / a failing call. Without faults it is `resolveI`; a run that
ends without error ran `resolveTail` on a lock one of its Gets returned (`ReadBy` says which), hence
"satisfied" is sound (`resolveF_sound`; Props `satisfied_sound_under_interference` is the case without a
failing call).
-/
namespace Xp.C17

theorem failAt_none (k : Nat) : failAt none k = none := rfl

theorem tailF_nofault (o : Oracle) (upg : Bool) (self : Pkg) (env : Interf) (l1 : List Pkg) (d : Dag) (imp : List Dep) (k : Nat) :
    tailF o upg self env none l1 d imp k = (resolveTailI false o upg self l1 d imp env.upd).lift := by
  unfold tailF resolveTailI
  by_cases hp : l1.any (fun lp => lp.name == self.name) = true
  · simp [hp]
  · simp only [hp, failAt_none, Bool.false_eq_true, if_false]
    cases env.upd with
    | none => rfl
    | some w => rfl

theorem refreshF_nofault (o : Oracle) (upg : Bool) (self : Pkg) (env : Interf) (stored : List Pkg) (k : Nat) :
    refreshF o upg self env none stored k =
      (match init o upg (env.refresh.getD stored) with
       | .error _ => (⟨self.deps.length, 0, 0, .initDag, env.refresh.getD stored⟩ : ResOut)
       | .ok (d, implied) => resolveTailI false o upg self (env.refresh.getD stored) d implied env.upd).lift := by
  unfold refreshF
  simp only [failAt_none]
  cases init o upg (env.refresh.getD stored) with
  | error e => rfl
  | ok r => obtain ⟨d, imp⟩ := r; exact tailF_nofault ..

theorem restF_nofault (o : Oracle) (upg : Bool) (self : Pkg) (env : Interf) (l : List Pkg) (k : Nat) :
    restF o upg self env none l k = (resolveI false o upg l self env).lift := by
  unfold restF resolveI
  cases hi : init o upg l with
  | error e => rfl
  | ok r =>
    dsimp only [failAt]
    by_cases hm : l.any (movedEntry self) = true
    · rw [if_pos hm, if_pos hm]
      by_cases hn : (env.rmGet.getD l).any (fun lp => lp.name == self.name) = true
      · rw [if_pos hn, if_pos hn]
        cases env.rmUpd with
        | some w => rfl
        | none => exact refreshF_nofault ..
      · rw [if_neg hn, if_neg hn, removeSelf_of_no_name _ _ (Bool.eq_false_iff.2 hn)]
        exact refreshF_nofault ..
    · rw [if_neg hm, if_neg hm]
      exact tailF_nofault ..

theorem tailF_ok {o : Oracle} {upg : Bool} {self : Pkg} {env : Interf} {f : Option Fault} {l1 : List Pkg} {d : Dag}
    {imp : List Dep} {k : Nat} (h : (tailF o upg self env f l1 d imp k).err = .res .none) :
    tailF o upg self env f l1 d imp k = (resolveTail o upg self l1 d imp).lift := by
  unfold tailF at h ⊢
  by_cases hp : l1.any (fun lp => lp.name == self.name) = true
  · simp [hp]
  · rw [if_neg hp] at h ⊢
    cases hf : failAt f k with
    | some c => rw [hf] at h; simp at h
    | none =>
      rw [hf] at h
      dsimp only at h ⊢
      cases hu : env.upd with
      | some w => rw [hu] at h; simp at h
      | none => rfl

theorem refreshF_ok {o : Oracle} {upg : Bool} {self : Pkg} {env : Interf} {f : Option Fault} {stored : List Pkg} {k : Nat}
    (h : (refreshF o upg self env f stored k).err = .res .none) :
    ∃ d imp, init o upg (env.refresh.getD stored) = .ok (d, imp) ∧
      refreshF o upg self env f stored k = (resolveTail o upg self (env.refresh.getD stored) d imp).lift := by
  unfold refreshF at h ⊢
  cases hf : failAt f k with
  | some c => rw [hf] at h; simp at h
  | none =>
    rw [hf] at h
    dsimp only at h ⊢
    cases hi : init o upg (env.refresh.getD stored) with
    | error e => rw [hi] at h; simp at h
    | ok r =>
      obtain ⟨d, imp⟩ := r
      rw [hi] at h
      dsimp only at h ⊢
      exact ⟨d, imp, rfl, tailF_ok h⟩

/-- which lock the checks of a run that ends without error ran on: the lock as last read, or —
RemoveSelf's Get (call `k`) having failed with NotFound, which the code takes for "nothing to
remove" — what the refreshing Get returned -/
def ReadBy (self : Pkg) (env : Interf) (f : Option Fault) (l : List Pkg) (k : Nat) (l1 : List Pkg) : Prop :=
  l1 = lastRead l self env ∨
  (l.any (movedEntry self) = true ∧ failAt f k = some .notFound ∧ l1 = env.refresh.getD (env.rmGet.getD l))

theorem restF_ok {o : Oracle} {upg : Bool} {self : Pkg} {env : Interf} {f : Option Fault} {l : List Pkg} {k : Nat}
    (h : (restF o upg self env f l k).err = .res .none) :
    ∃ l1 d imp, ReadBy self env f l k l1 ∧
      init o upg l1 = .ok (d, imp) ∧ restF o upg self env f l k = (resolveTail o upg self l1 d imp).lift := by
  unfold restF at h ⊢
  cases hi : init o upg l with
  | error e => rw [hi] at h; simp at h
  | ok r =>
    obtain ⟨d0, imp0⟩ := r
    rw [hi] at h
    dsimp only at h ⊢
    by_cases hm : l.any (movedEntry self) = true
    · rw [if_pos hm] at h ⊢
      have hlast : lastRead l self env = env.refresh.getD (removeSelf (env.rmGet.getD l) self.name) := by
        unfold lastRead; rw [if_pos hm]
      cases hf : failAt f k with
      | some c =>
        rw [hf] at h
        dsimp only at h ⊢
        by_cases hc : c = .notFound
        · rw [if_pos hc] at h ⊢
          obtain ⟨d, imp, h1, h2⟩ := refreshF_ok h
          exact ⟨_, d, imp, .inr ⟨hm, hc ▸ hf, rfl⟩, h1, h2⟩
        · simp [hc] at h
      | none =>
        rw [hf] at h
        dsimp only at h ⊢
        by_cases hn : (env.rmGet.getD l).any (fun lp => lp.name == self.name) = true
        · rw [if_pos hn] at h ⊢
          cases hf1 : failAt f (k + 1) with
          | some c => rw [hf1] at h; simp at h
          | none =>
            rw [hf1] at h
            dsimp only at h ⊢
            cases hu : env.rmUpd with
            | some w => rw [hu] at h; simp at h
            | none =>
              rw [hu] at h
              dsimp only at h ⊢
              obtain ⟨d, imp, h1, h2⟩ := refreshF_ok h
              exact ⟨_, d, imp, .inl hlast.symm, h1, h2⟩
        · rw [if_neg hn] at h ⊢
          obtain ⟨d, imp, h1, h2⟩ := refreshF_ok h
          -- no entry with the revision's name: RemoveSelf would have removed nothing
          rw [removeSelf_of_no_name _ _ (Bool.eq_false_iff.2 hn)] at hlast
          exact ⟨_, d, imp, .inl hlast.symm, h1, h2⟩
    · rw [if_neg hm] at h ⊢
      exact ⟨l, d0, imp0, .inl (by unfold lastRead; rw [if_neg hm]), hi, tailF_ok h⟩

theorem resolveF_ok {o : Oracle} {upg : Bool} {lock : Option (List Pkg)} {self : Pkg} {env : Interf} {f : Option Fault}
    (h : (resolveF o upg lock self env f).err = .res .none) :
    ∃ l1 d imp, ReadBy self env f (lock.getD []) 1 l1 ∧ init o upg l1 = .ok (d, imp) ∧
      resolveF o upg lock self env f = (resolveTail o upg self l1 d imp).lift := by
  -- a Lock that had to be created is empty: no RemoveSelf, whatever the call numbers
  have key : lock = none → (restF o upg self env f [] 2).err = .res .none →
      ∃ l1 d imp, ReadBy self env f (lock.getD []) 1 l1 ∧ init o upg l1 = .ok (d, imp) ∧
        restF o upg self env f [] 2 = (resolveTail o upg self l1 d imp).lift := by
    rintro rfl hr
    obtain ⟨l1, d, imp, hl | ⟨hm, _⟩, hi, he⟩ := restF_ok hr
    · exact ⟨l1, d, imp, .inl hl, hi, he⟩
    · cases hm
  unfold resolveF at h ⊢
  cases hf0 : failAt f 0 with
  | some c =>
    rw [hf0] at h
    dsimp only at h ⊢
    by_cases hc : c = .notFound
    · rw [if_pos hc] at h ⊢
      cases hf1 : failAt f 1 with
      | some c1 => rw [hf1] at h; simp at h
      | none =>
        rw [hf1] at h
        cases lock with
        | some l => simp at h
        | none => dsimp only at h ⊢; exact key rfl h
    · simp [hc] at h
  | none =>
    rw [hf0] at h
    cases lock with
    | none =>
      dsimp only at h ⊢
      cases hf1 : failAt f 1 with
      | some c1 => rw [hf1] at h; simp at h
      | none => rw [hf1] at h; dsimp only at h ⊢; exact key rfl h
    | some l => dsimp only at h ⊢; exact restF_ok h

/-- Soundness of "satisfied" in its most general form: the hypothesis is asked of the lock the checks
ran on only. -/
theorem resolveF_sound {o : Oracle} {upg : Bool} {lock : Option (List Pkg)} {self : Pkg} {env : Interf} {f : Option Fault}
    (hown : ∀ l1, ReadBy self env f (lock.getD []) 1 l1 → OwnEntry l1 self)
    (h : (resolveF o upg lock self env f).err = .res .none) :
    ∃ L, (resolveF o upg lock self env f).lock = some L ∧
      lockNb L self.source = some (self.deps.map (·.pkg)) ∧
      (∀ e ∈ self.deps, ∃ p ∈ L, p.source = e.pkg ∧ VersionOk o e p.version) ∧
      (∀ m, Reach (lockNb L) self.source m → m ∈ L.map (·.source)) := by
  obtain ⟨l1, d, imp, hread, hi, he⟩ := resolveF_ok h
  rw [he] at h ⊢
  exact ⟨_, rfl, resolveTail_sound o upg self l1 d imp hi (hown l1 hread) (ResErrF.res.inj h)⟩

end Xp.C17
