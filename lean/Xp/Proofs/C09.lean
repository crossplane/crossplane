import Xp.Model.C09
import Xp.Base.List
/-
Lemmas next to Model/C09.lean: lookup in the association lists (`dget` in a duplicate-free map, after
`dset`, after a merge patch, in the filtered details; `dset` keeps keys distinct), most of them the laws
of `Keyed` (Base/List.lean) read through `keyed`; the guard and the no-op test of the publisher; and
`extract`: what one config does to the accumulator (`extract_cons`), hence that its result is `Built`
from the accumulator out of the connection secret, the fixed values and the fields.
-/
namespace Xp.C09

theorem dget_cons_self (p : String × String) (ps : Data) : dget (p :: ps) p.1 = some p.2 := by
  simp only [dget, List.find?, decide_true, Option.map_some]

theorem dget_cons_ne {p : String × String} {k : String} (h : p.1 ≠ k) (ps : Data) :
    dget (p :: ps) k = dget ps k := by
  simp only [dget, List.find?, h, decide_false]

theorem keyed : Keyed (fun k d => dget d k) fun k v d => dset d k v :=
  .of_find? (fun _ _ => rfl) fun _ _ _ _ _ => rfl

theorem dget_of_mem {d : Data} (hn : (d.map (·.1)).Nodup) {kv : String × String} (h : kv ∈ d) :
    dget d kv.1 = some kv.2 := by
  rw [dget, find?_of_nodup_map hn h fun _ => decide_eq_true_iff]; rfl

theorem dget_mem_values (d : Data) (k v : String) (h : dget d k = some v) : v ∈ d.map (·.2) :=
  List.mem_map.mpr ⟨(k, v), keyed.mem_of_get h, rfl⟩

theorem dget_dset_self (d : Data) (k v : String) : dget (dset d k v) k = some v :=
  keyed.get_set_self k v d

theorem dget_dset_ne (d : Data) (k k' v : String) (h : k' ≠ k) : dget (dset d k v) k' = dget d k' :=
  keyed.get_set_ne h v d

theorem dget_dset_cases (d : Data) (n x k v : String) (h : dget (dset d n x) k = some v) :
    v = x ∨ dget d k = some v := by
  by_cases hk : k = n
  · subst hk; rw [dget_dset_self] at h; exact Or.inl (Option.some.inj h).symm
  · rw [dget_dset_ne d n k x hk] at h; exact Or.inr h

theorem dget_eq_none {d : Data} {k : String} : dget d k = none ↔ k ∉ d.map (·.1) :=
  keyed.get_eq_none k d

theorem dset_keys_nodup (d : Data) (k v : String) (h : (d.map (·.1)).Nodup) : ((dset d k v).map (·.1)).Nodup :=
  keyed.nodup_keys_set k v h

theorem dget_mergeData (cur desired : Data) (hn : (desired.map (·.1)).Nodup) (k : String) :
    dget (mergeData cur desired) k = (dget desired k).orElse (fun _ => dget cur k) :=
  Option.or_eq_orElse ▸ keyed.get_merge (fun _ => rfl) (fun _ _ _ _ => rfl) k cur hn

theorem dget_desiredData (filter : List String) (details : Data) (k : String) :
    dget (desiredData filter details) k = if allowed filter k then dget details k else none :=
  keyed.get_filter_key (allowed filter) k details

theorem desiredData_nodup (filter : List String) (details : Data) (hn : (details.map (·.1)).Nodup) :
    ((desiredData filter details).map (·.1)).Nodup :=
  (List.filter_sublist.map _).nodup hn

/-- the data of a slot ([] when absent) -/
def slotData : Slot → Data
  | none => []
  | some s => s.data

theorem not_controllable {s : Secret}
    (h : s.ctrl = .other ∨ s.ctrl = .xr ∨ ((s.ctrl = .none ∨ s.ctrl = .xrPlain) ∧ s.conn = false)) :
    controllable s .owner = false := by
  unfold controllable
  rcases h with h | h | ⟨h | h, h'⟩
  · rw [h]; rfl
  · rw [h]; rfl
  · rw [h]; exact h'
  · rw [h]; exact h'

theorem needsUpdate_eq_false {cur desired : Data} :
    needsUpdate cur desired = false ↔ ∀ kv ∈ desired, dget cur kv.1 = some kv.2 := by
  simp only [needsUpdate, List.any_eq_false, ne_eq, decide_eq_true_eq, Decidable.not_not]

theorem extract_cons {conn : Data} {f : String → Option String} {c : Cfg} {cs : List Cfg} {acc d : Data}
    (h : extract conn f (c :: cs) acc = some d) :
    extract conn f cs acc = some d ∨
    ∃ v, extract conn f cs (dset acc c.name v) = some d ∧
      (c.value = some v ∨ (∃ k, dget conn k = some v) ∨ ∃ p, f p = some v) := by
  unfold extract at h
  split at h
  next => cases h
  next =>
    split at h
    next =>
      split at h
      next => cases h
      next v hv => exact Or.inr ⟨v, h, Or.inl hv⟩
    next =>
      split at h
      next => cases h
      next k _ =>
        split at h
        next => exact Or.inl h
        next v hv => exact Or.inr ⟨v, h, Or.inr (Or.inl ⟨k, hv⟩)⟩
    next =>
      split at h
      next => cases h
      next p _ =>
        split at h
        next => exact Or.inl h
        next v hv => exact Or.inr ⟨v, h, Or.inr (Or.inr ⟨p, hv⟩)⟩
    next => exact Or.inl h

/-- `d` arises from `acc` by setting keys, one after the other, to values of which `S` holds: all that
`extract` and, template by template, `foldDetails` do to the details. That the keys stay distinct
and where the values come from are read off it. -/
inductive Built (S : String → Prop) : Data → Data → Prop
  | refl (acc : Data) : Built S acc acc
  | set {acc d : Data} {v : String} (n : String) : S v → Built S (dset acc n v) d → Built S acc d

namespace Built
variable {S : String → Prop} {acc mid d : Data}

theorem trans (h : Built S acc mid) (h' : Built S mid d) : Built S acc d := by
  induction h with
  | refl => exact h'
  | set n hv _ ih => exact .set n hv (ih h')

theorem nodup (h : Built S acc d) (hn : (acc.map (·.1)).Nodup) : (d.map (·.1)).Nodup := by
  induction h with
  | refl => exact hn
  | set n _ _ ih => exact ih (dset_keys_nodup _ n _ hn)

theorem src (h : Built S acc d) {k v : String} (hk : dget d k = some v) : dget acc k = some v ∨ S v := by
  induction h with
  | refl => exact Or.inl hk
  | set n hv _ ih =>
    refine (ih hk).elim (fun h1 => ?_) Or.inr
    rcases dget_dset_cases _ _ _ _ _ h1 with rfl | h0
    · exact Or.inr hv
    · exact Or.inl h0

end Built

theorem extract_built {conn : Data} {f : String → Option String} {S : String → Prop}
    (hc : ∀ k v, dget conn k = some v → S v) (hf : ∀ p v, f p = some v → S v) (cfgs : List Cfg) (acc d : Data)
    (hv : ∀ v ∈ cfgs.filterMap (·.value), S v) (h : extract conn f cfgs acc = some d) : Built S acc d := by
  induction cfgs generalizing acc with
  | nil => cases h; exact .refl _
  | cons c cs ih =>
    have tail := fun acc' => ih acc' fun v h3 => hv v (((List.sublist_cons_self c cs).filterMap _).subset h3)
    rcases extract_cons h with h' | ⟨x, h', hx⟩
    · exact tail acc h'
    · refine .set c.name ?_ (tail _ h')
      rcases hx with hx | ⟨key, hx⟩ | ⟨p, hx⟩
      · exact hv x (by simp [hx])
      · exact hc key x hx
      · exact hf p x hx

end Xp.C09
