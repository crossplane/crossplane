import Xp.Proofs.C06Inv
/-
C06, rely/guarantee safety of the reconcile program: `Ok p s`, shown for the whole reconciler from any
state, for every cache lag and name oracle (`ok_reconcile`), piece by piece along the model's programs: at each call
the guarantee `G` from what is known, then one case per reply the request can get (`Rep`: an error, or the reply of
its kind, with what it tells). `Xp.C06.reach_inv` at the end of the file lifts it to every reachable state of the
interleaved system.
-/
namespace Xp.C06

/-- The replies a request can get: an error, or what a request of its kind returns; with what each tells about the state
right after the call. All of it is membership in the ghost histories, which survives every possible future. -/
inductive Rep (s : St) : Req → Resp → Prop where
  | err (r : Req) (e : Err) : (∀ n sel, r = .getXR n sel → e = .notFound → none ∈ s.xhist n) → Rep s r (.err e)
  | getClaim (pick : Option Nat) (c : Claim) : c ∈ s.hist → Rep s (.getClaim pick) (.claim c)
  | getXR (n : Name) (sel : Option (List (Option XR) → Option (Option XR))) (x : XR) : some x ∈ s.xhist n →
      Rep s (.getXR n sel) (.xr x)
  | updClaim (c c1 : Claim) : c1 ∈ s.hist → c1.ref = c.ref → Rep s (.updClaim c) (.claim c1)
  | updClaimStatus (rv : Nat) (c1 : Claim) : c1 ∈ s.hist → Rep s (.updClaimStatus rv) (.claim c1)
  /-- by `Inv.rvU`: the state returned has the claimRef of the state whose resourceVersion the patch carried -/
  | upgradeXR (n : Name) (rv : Nat) (d : UpDec) (x' : XR) : (SeenRv s n rv → SeenRv s n x'.rv) →
      Rep s (.upgradeXR n rv d) (.xr x')
  | deleteXR (n : Name) (fg : Bool) : Rep s (.deleteXR n fg) .ok
  | createXR (n : Name) (b : Bool) (c : CRef) (x : XR) : Rep s (.createXR n b c) (.xr x)
  | patchXR (n : Name) (rv : Option Nat) (c : CRef) (x : XR) : Rep s (.patchXR n rv c) (.xr x)
  | applyXR (n : Name) (c : CRef) (x : XR) : Rep s (.applyXR n c) (.xr x)

theorem Rep.admissible (s : St) {r : Req} {e : Err} (h : admissible r e = true) : Rep s r (.err e) :=
  .err r e fun _ _ hr he => by subst hr he; cases h

theorem Eff.rep {P0 : Name → Prop} {s s' : St} {r : Req} {resp : Resp} (hi : Inv P0 s) (hi' : Inv P0 s')
    (he : Eff s r s' resp) : Rep s' r resp := by
  cases he with
  | reject r e h => exact .admissible s h
  | getClaim pick c h =>
    refine .getClaim pick c ?_
    rcases h with h | h
    · cases pick with
      | none => cases h
      | some i => exact List.mem_of_getElem? h
    · exact cur_mem hi h
  | getXR n sel ox h =>
    have hm : ox ∈ s.xhist n := h.elim List.mem_of_mem_drop (fun e => e ▸ hi.xcur n)
    cases ox with
    | none => exact .err _ _ fun _ _ hr _ => by cases hr; exact hm
    | some x => exact .getXR n sel x hm
  | updClaim c cur => exact .updClaim c _ (pushClaim_resp_mem _ _) rfl
  | updClaimStatus cur => exact .updClaimStatus _ _ (pushClaim_resp_mem _ _)
  | deleteXR n fg => exact .deleteXR n fg
  | write r n x' e hw =>
    cases hw with
    | upgradeXR n d x hx =>
      refine .upgradeXR n _ d _ fun ⟨z, hz, hzrv, hznf⟩ => ⟨_, putXR_snd_mem s n _, rfl, fun ⟨c, hc, hne⟩ => hznf ⟨c, ?_, hne⟩⟩
      exact (hi'.rvU n z x hz (xhist_subset_putXR s n _ (hx ▸ hi.xcur n)) hzrv).trans hc
    | createXR => exact .createXR ..
    | patchXR | patchXRG => exact .patchXR ..
    | applyCreate | applyXR => exact .applyXR ..

/-- whatever the environment does between two calls of `p` (any possible future of `s` that satisfies the
store invariant), every request `p` issues satisfies the guarantee `G` at the instant it is applied, for
every outcome of every call: applied, failed with an admissible error, applied with the reply lost -/
def Ok (P0 : Name → Prop) : P → St → Prop
  | .ret _, _ => True
  | .call r k, s => ∀ s', Fut s s' → Inv P0 s' →
      G s' r ∧ Ok P0 (k (exec s' r).2) (exec s' r).1 ∧ (∀ e, admissible r e = true → Ok P0 (k (.err e)) s') ∧
        ∀ e, admissible r e = true → Ok P0 (k (.err e)) (exec s' r).1

theorem ok_fut {P0 : Name → Prop} {p : P} {s s1 : St} (h : Ok P0 p s) (hf : Fut s s1) : Ok P0 p s1 := by
  cases p with
  | ret a => trivial
  | call r k => exact fun s' hf' hi' => h s' (hf.trans hf') hi'

theorem ok_ret {P0 : Name → Prop} (a : Res) (s : St) : Ok P0 (.ret a) s := trivial

theorem ok_call {P0 : Name → Prop} {r : Req} {k : Resp → P} {s : St} (hG : G s r)
    (hk : ∀ s'' resp, Fut s s'' → Inv P0 s'' → Rep s'' r resp → Ok P0 (k resp) s'') : Ok P0 (.call r k) s := by
  intro s' hf hi
  have g := hG.fut hf
  obtain ⟨hie, hfe⟩ := exec_inv_fut hi r g
  exact ⟨g, hk _ _ (hf.trans hfe) hie ((exec_eff s' r).rep hi hie), fun e he => hk _ _ hf hi (.admissible s' he),
    fun e he => hk _ _ (hf.trans hfe) hie (.admissible _ he)⟩

variable {P0 : Name → Prop}

theorem ok_updClaim {cm c : Claim} {k : Resp → P} {s : St} (hcm : cm ∈ s.hist) (hrv : c.rv = cm.rv) (hext : refExt cm c)
    (herr : ∀ e s', Ok P0 (k (.err e)) s')
    (hk : ∀ s' cm1, Fut s s' → Inv P0 s' → cm1 ∈ s'.hist → cm1.ref = c.ref → Ok P0 (k (.claim cm1)) s') :
    Ok P0 (.call (.updClaim c) k) s := by
  refine ok_call ⟨cm, hcm, hrv.symm, hext⟩ ?_
  intro s'' resp hf hi hrf
  cases hrf with
  | err _ e => exact herr e _
  | updClaim _ cm1 h1 h2 => exact hk _ cm1 hf hi h1 h2

theorem ok_statusThen (cm : Claim) (r : Res) (s : St) : Ok P0 (statusThen cm r) s := by
  unfold statusThen
  refine ok_call trivial ?_
  intro s'' resp _ _ hrf
  cases hrf <;> exact ok_ret _ _

theorem ok_failWith (cm : Claim) (e : Err) (s : St) : Ok P0 (failWith cm e) s := by
  cases e with
  | conflict => exact ok_ret _ _
  | notFound | invalid | «exists» | other => exact ok_statusThen _ _ _

theorem ok_genName (xpick : Nat → Option (List (Option XR) → Option (Option XR))) (t j : Nat) (cands : List Name) (k : Option Name → P)
    (s : St) (hsome : ∀ n s', Fut s s' → NF s' n → Ok P0 (k (some n)) s') (hnone : ∀ s', Ok P0 (k none) s') :
    Ok P0 (genName xpick t j cands k) s := by
  fun_induction genName xpick t j cands k generalizing s with
  | case1 | case2 => exact hnone s                                       -- no try left, no candidate left
  | case3 t j c cs k ih =>
    refine ok_call trivial ?_
    intro s'' resp hf'' hi'' hrf
    cases hrf with
    | getXR => exact ih s'' (fun n s' hf' => hsome n s' (hf''.trans hf')) hnone
    | err _ e habs =>
      cases e with
      | notFound => exact hsome c s'' hf'' (nf_of_hist hi'' (habs _ _ rfl rfl) (fun x h => by cases h))
      | conflict | invalid | «exists» | other => exact hnone _

theorem refExt_setRef {cm : Claim} {n : Name} (t : GVK) (h : cm.refName = none ∨ cm.refName = some n) :
    refExt cm { cm with ref := some (mkXRef t n) } := by
  intro m hm
  show some n = some m
  rcases h with h | h
  · rw [h] at hm; cases hm
  · rw [h] at hm; exact hm

theorem ok_ssaBind (cfg : Cfg) (cm : Claim) (n : Name) (s : St) (hcm : cm ∈ s.hist) (hnf : NF s n)
    (href : cm.refName = none ∨ cm.refName = some n) : Ok P0 (ssaBind cfg cm n) s := by
  unfold ssaBind
  refine ok_updClaim hcm rfl (refExt_setRef _ href) (fun _ _ => ok_failWith _ _ _) ?_
  intro s2 cm1 hf2 hi2 hcm1 href1
  refine ok_call ⟨⟨⟨cm1, hcm1, refName_of_ref href1⟩, hf2.nf hnf⟩, hi2.idOk _ (hf2.hist _ hcm)⟩ ?_
  intro s3 resp _ _ hrf
  cases hrf with
  | err => exact ok_failWith _ _ _
  | applyXR _ _ x =>
    dsimp only
    split
    · refine ok_call trivial ?_
      intro s4 resp _ _ hrf
      cases hrf with
      | err => exact ok_failWith _ _ _
      | updClaimStatus => exact ok_statusThen _ _ _
    · exact ok_statusThen _ _ _

theorem ok_csaPost (cm1 : Claim) (s : St) : Ok P0 (csaPost cm1) s := by
  unfold csaPost
  refine ok_call trivial ?_
  intro s2 resp _ _ hrf
  cases hrf with
  | err => exact ok_failWith _ _ _
  | updClaimStatus _ cm2 hcm2 =>
    exact ok_updClaim hcm2 rfl (refExt_refl _) (fun _ _ => ok_failWith _ _ _) fun _ _ _ _ _ _ => ok_statusThen _ _ _

theorem ok_csaApply (cfg : Cfg) (xr : Option XR) (cm1 : Claim) (n : Name) (s : St) (hcm1 : cm1 ∈ s.hist)
    (href : cm1.refName = some n) (hnf : NF s n) (hseen : ∀ v, xr.map XR.rv = some v → SeenRv s n v) :
    Ok P0 (csaApply cfg xr cm1 n) s := by
  have hack : acked s n := ⟨cm1, hcm1, href⟩
  unfold csaApply
  refine ok_call trivial ?_
  intro s2 resp hf2 hi2 hrf
  have hid := hi2.idOk _ (hf2.hist _ hcm1)
  cases hrf with
  | getXR _ _ cur =>
    dsimp only
    split
    · exact ok_csaPost _ _
    · refine ok_call ⟨⟨⟨hf2.acked hack, hf2.nf hnf⟩, hid⟩, fun v hv => hf2.seen (hseen v hv)⟩ ?_
      intro s3 resp _ _ hrf
      cases hrf with
      | err => exact ok_failWith _ _ _
      | patchXR => exact ok_csaPost _ _
  | err _ e =>
    cases e with
    | notFound =>
      refine ok_call ⟨hf2.acked hack, hid⟩ ?_
      intro s3 resp _ _ hrf
      cases hrf with
      | err => exact ok_failWith _ _ _
      | createXR => exact ok_csaPost _ _
    | conflict | invalid | «exists» | other => exact ok_failWith _ _ _

theorem ok_csaBindNew (cfg : Cfg) (xr : Option XR) (cm : Claim) (n : Name) (s : St) (hcm : cm ∈ s.hist)
    (href : cm.refName = none ∨ cm.refName = some n) (hnf : NF s n) (hseen : ∀ v, xr.map XR.rv = some v → SeenRv s n v) :
    Ok P0 (csaBindNew cfg xr cm n) s := by
  unfold csaBindNew
  refine ok_updClaim hcm rfl (refExt_setRef _ href) (fun _ _ => ok_failWith _ _ _) ?_
  intro s2 cm1 hf2 _ hcm1 href1
  exact ok_csaApply cfg xr cm1 n s2 hcm1 (refName_of_ref href1) (hf2.nf (n := n) hnf)
    (fun v hv => hf2.seen (hseen v hv))

theorem ok_finalizeClaim (cm : Claim) (s : St) (hcm : cm ∈ s.hist) : Ok P0 (finalizeClaim cm) s := by
  unfold finalizeClaim
  split
  · exact ok_updClaim hcm rfl (fun _ h => h) (fun e _ => by cases e <;> exact ok_statusThen _ _ _)
      fun _ _ _ _ _ _ => ok_statusThen _ _ _
  · exact ok_statusThen _ _ _

/-- what the reconcile has established once the bound check has passed, and may rely on in every possible future -/
structure Knows (s : St) (cm : Claim) (xr : Option (Name × XR)) : Prop where
  mem : cm ∈ s.hist
  nf : ∀ n, cm.refName = some n → NF s n
  seen : ∀ n x, xr = some (n, x) → cm.refName = some n ∧ SeenRv s n x.rv

theorem Knows.fut {s s' : St} {cm : Claim} {xr : Option (Name × XR)} (k : Knows s cm xr) (hf : Fut s s') :
    Knows s' cm xr :=
  ⟨hf.hist _ k.mem, fun n hn => hf.nf (k.nf n hn), fun n x hx => ⟨(k.seen n x hx).1, hf.seen (k.seen n x hx).2⟩⟩

theorem ok_deletePath (cm : Claim) (xr : Option (Name × XR)) (s : St) (k : Knows s cm xr) :
    Ok P0 (deletePath cm xr) s := by
  have hcm := k.mem
  unfold deletePath
  cases xr with
  | none => exact ok_finalizeClaim cm s hcm
  | some p =>
    obtain ⟨n, x⟩ := p
    obtain ⟨href, _⟩ := k.seen n x rfl
    dsimp only
    split
    · exact ok_statusThen _ _ _
    · refine ok_call ⟨k.nf n href, cm, hcm, href⟩ ?_
      intro s2 resp hf2 _ hrf
      cases hrf with
      | deleteXR =>
        dsimp only
        split
        · exact ok_ret _ _
        · exact ok_finalizeClaim cm s2 (hf2.hist _ hcm)
      | err _ e =>
        cases e with
        | notFound =>
          dsimp only
          split
          · exact ok_ret _ _
          · exact ok_finalizeClaim cm s2 (hf2.hist _ hcm)
        | conflict | invalid | «exists» | other => exact ok_statusThen _ _ _

theorem ok_syncSSA (cfg : Cfg) (cm : Claim) {xr : Option (Name × XR)} (s : St) (k : Knows s cm xr) :
    Ok P0 (syncSSA cfg cm) s := by
  unfold syncSSA
  cases href : cm.refName with
  | some n => exact ok_ssaBind cfg cm n s k.mem (k.nf n href) (Or.inr href)
  | none =>
    refine ok_genName cfg.xpick 10 2 cfg.cands _ s ?_ (fun s1 => ok_statusThen _ _ _)
    intro n s1 hf1 hnf1
    exact ok_ssaBind cfg cm n s1 (hf1.hist cm k.mem) hnf1 (Or.inl href)

theorem ok_syncCSA (cfg : Cfg) (cm : Claim) (xr : Option (Name × XR)) (s : St) (k : Knows s cm xr) :
    Ok P0 (syncCSA cfg cm (xr.map (·.2))) s := by
  have hseen : ∀ n, cm.refName = some n → ∀ v, (xr.map (·.2)).map XR.rv = some v → SeenRv s n v := by
    intro n hn v hv
    cases xr with
    | none => cases hv
    | some p =>
      cases hv
      obtain ⟨hm, hs⟩ := k.seen p.1 p.2 rfl
      cases hn.symm.trans hm
      exact hs
  unfold syncCSA
  cases href : cm.ref with
  | some r =>
    have hrn := refName_of_ref href
    dsimp only
    split
    · exact ok_csaApply cfg _ cm r.name s k.mem hrn (k.nf _ hrn) (hseen _ hrn)
    · exact ok_csaBindNew cfg _ cm r.name s k.mem (Or.inr hrn) (k.nf _ hrn) (hseen _ hrn)
  | none =>
    have hrn : cm.refName = none := by rw [Claim.refName, href]; rfl
    cases xr with
    | some p => exact nomatch hrn.symm.trans (k.seen p.1 p.2 rfl).1
    | none =>
      refine ok_genName cfg.xpick 10 2 cfg.cands _ s ?_ (fun s1 => ok_statusThen _ _ _)
      intro n s1 hf1 hnf1
      exact ok_csaBindNew cfg none cm n s1 (hf1.hist cm k.mem) (Or.inl hrn) hnf1 (fun v hv => nomatch hv)

theorem ok_syncWith (cfg : Cfg) (cm : Claim) (xr : Option (Name × XR)) (s : St) (k : Knows s cm xr) :
    Ok P0 (syncWith cfg cm xr) s := by
  unfold syncWith
  split
  · exact ok_syncSSA cfg cm s k
  · exact ok_syncCSA cfg cm xr s k

theorem ok_bindPath (cfg : Cfg) (cm : Claim) (xr : Option (Name × XR)) (s : St) (k : Knows s cm xr) :
    Ok P0 (bindPath cfg cm xr) s := by
  unfold bindPath
  split
  · exact ok_syncWith cfg cm xr s k
  · refine ok_updClaim k.mem rfl (fun _ h => h) (fun _ _ => ok_failWith _ _ _) ?_
    intro s2 cm1 hf2 _ hcm1 href1
    have hrn : cm1.refName = cm.refName := by rw [Claim.refName, href1]; rfl
    have k2 := k.fut hf2
    exact ok_syncWith cfg cm1 xr s2
      ⟨hcm1, fun n hn => k2.nf n (hrn ▸ hn), fun n x hx => ⟨hrn ▸ (k2.seen n x hx).1, (k2.seen n x hx).2⟩⟩

theorem ok_restOf (cfg : Cfg) (cm : Claim) (xr : Option (Name × XR)) (s : St) (k : Knows s cm xr) :
    Ok P0 (restOf cfg cm xr) s := by
  unfold restOf
  split
  · exact ok_deletePath cm xr s k
  · exact ok_bindPath cfg cm xr s k

theorem ok_afterCheck (cfg : Cfg) (cm : Claim) (xr : Option (Name × XR)) (s : St) (k : Knows s cm xr) :
    Ok P0 (afterCheck cfg cm xr) s := by
  unfold afterCheck
  cases xr with
  | none => exact ok_restOf cfg cm none s k
  | some p =>
    obtain ⟨n, x⟩ := p
    generalize upgradeOf cfg (some (n, x)) = up
    cases up with
    | none => exact ok_restOf cfg cm _ s k
    | some d =>
      dsimp only
      obtain ⟨href, hsx⟩ := k.seen n x rfl
      refine ok_call ⟨⟨(k.nf n href).1, hsx⟩, cm, k.mem, href⟩ ?_
      intro s2 resp hf2 _ hrf
      have k2 := k.fut hf2
      cases hrf with
      | upgradeXR _ _ _ x' hs' =>
        exact ok_restOf cfg cm _ s2 ⟨k2.mem, k2.nf, fun m z h => by cases h; exact ⟨href, hs' (hf2.seen hsx)⟩⟩
      | err _ e =>
        cases e with
        | notFound => exact ok_restOf cfg cm _ s2 k2
        | conflict | invalid | «exists» | other => exact ok_failWith _ _ _

theorem ok_checked_none (cfg : Cfg) (cm : Claim) (s : St) (hi : Inv P0 s) (hcm : cm ∈ s.hist)
    (habs : ∀ n, cm.refName = some n → none ∈ s.xhist n) : Ok P0 (checked cfg cm none) s :=
  ok_afterCheck cfg cm none s ⟨hcm, fun n hn => nf_of_hist hi (habs n hn) (fun x h => by cases h), fun n x h => by cases h⟩

theorem ok_checked_some (cfg : Cfg) (cm : Claim) (n : Name) (x : XR) (s : St) (hi : Inv P0 s) (hcm : cm ∈ s.hist)
    (href : cm.refName = some n) (hxs : some x ∈ s.xhist n) : Ok P0 (checked cfg cm (some (n, x))) s := by
  unfold checked
  dsimp only
  split
  · exact ok_statusThen _ _ _
  · rename_i hne
    have hnfx : ¬ x.foreignTo s.me := by
      intro ⟨r, hr, hrne⟩
      apply hne
      unfold unbound
      rw [hr, hi.idOk _ hcm]
      simpa using hrne
    refine ok_afterCheck cfg cm _ s ⟨hcm, ?_, fun m y h => by cases h; exact ⟨href, x, hxs, rfl, hnfx⟩⟩
    intro m hm
    rw [href] at hm; cases hm
    exact nf_of_hist hi hxs (fun y hy => by cases hy; exact hnfx)

theorem ok_withClaim (cfg : Cfg) (cm : Claim) (s : St) (hi : Inv P0 s) (hcm : cm ∈ s.hist) : Ok P0 (withClaim cfg cm) s := by
  unfold withClaim
  cases href : cm.refName with
  | none => exact ok_checked_none cfg cm s hi hcm (fun n hn => nomatch href.symm.trans hn)
  | some n =>
    dsimp only
    refine ok_call trivial ?_
    intro s2 resp hf2 hi2 hrf
    cases hrf with
    | getXR _ _ x hx => exact ok_checked_some cfg cm n x s2 hi2 (hf2.hist _ hcm) href hx
    | err _ e habs =>
      cases e with
      | notFound =>
        refine ok_checked_none cfg cm s2 hi2 (hf2.hist _ hcm) fun m hm => ?_
        cases href.symm.trans hm
        exact habs _ _ rfl rfl
      | conflict | invalid | «exists» | other => exact ok_statusThen _ _ _

theorem ok_reconcile (cfg : Cfg) (s : St) : Ok P0 (reconcile cfg) s := by
  unfold reconcile
  refine ok_call trivial ?_
  intro s2 resp _ hi2 hrf
  cases hrf with
  | getClaim _ cm hcm => exact ok_withClaim cfg cm s2 hi2 hcm
  | err _ e => cases e <;> exact ok_ret _ _

theorem reach_inv {s0 : St} (h0 : Inv P0 s0) {sys : Sys} (hr : Reach s0 sys) :
    Inv P0 sys.st ∧ ∀ p, sys.thread = some p → Ok P0 p sys.st := by
  induction hr with
  | init => exact ⟨h0, fun p h => by cases h⟩
  | step a b _ hstep ih =>
    obtain ⟨hi, hok⟩ := ih
    cases hstep with
    | env s s' t he =>
      obtain ⟨hi', hf⟩ := env_inv_fut hi he
      exact ⟨hi', fun p hp => ok_fut (hok p hp) hf⟩
    | start s t cfg =>
      exact ⟨hi, fun p hp => by cases hp; exact ok_reconcile cfg s⟩
    | callOk s r k =>
      have h := hok _ rfl s (Fut.refl s) hi
      exact ⟨(exec_inv_fut hi r h.1).1, fun p hp => by cases hp; exact h.2.1⟩
    | callErr s r k e he =>
      have h := hok _ rfl s (Fut.refl s) hi
      exact ⟨hi, fun p hp => by cases hp; exact h.2.2.1 e he⟩
    | callLost s r k e he =>
      have h := hok _ rfl s (Fut.refl s) hi
      exact ⟨(exec_inv_fut hi r h.1).1, fun p hp => by cases hp; exact h.2.2.2 e he⟩
    | done s a =>
      exact ⟨hi, fun p hp => by cases hp⟩

end Xp.C06
