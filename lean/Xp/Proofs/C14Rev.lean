import Xp.Model.C14
/-
The revisioner clauses of C14: `friendlyID` on character lists and the equations of `revisionName`
(the model of `PackageRevisioner.Revision`) branch by branch.
-/
namespace Xp.C14

/-- `friendlyID` on the characters.  A string literal is `String.ofList` of its characters, so on
literals this turns a statement about `friendlyID` into one about `friendlyIDL` on closed lists. -/
theorem friendlyID_ofList (n h : List Char) :
    friendlyID (String.ofList n) (String.ofList h) = String.ofList (friendlyIDL n h) := by
  simp [friendlyID]

theorem friendlyID_hash_take (n : String) (h : List Char) :
    friendlyID n (String.ofList h) = friendlyID n (String.ofList (h.take 12)) := by
  simp [friendlyID, friendlyIDL, List.take_take]

theorem revisionName_branch (p : Pkg) :
    (p.spec.pull = .never ∧ skipsFetch p = true) ∨
    (p.spec.pull ≠ .never ∧ (p.spec.pull = .ifNotPresent ∧ p.status.curId = p.spec.source) ∧ skipsFetch p = true) ∨
    (p.spec.pull ≠ .never ∧ ¬(p.spec.pull = .ifNotPresent ∧ p.status.curId = p.spec.source) ∧ skipsFetch p = false) := by
  unfold skipsFetch
  by_cases h1 : p.spec.pull = .never
  · exact .inl ⟨h1, by simp [h1]⟩
  · by_cases h2 : p.spec.pull = .ifNotPresent ∧ p.status.curId = p.spec.source
    · exact .inr (.inl ⟨h1, h2, by simp [h2.1, h2.2]⟩)
    · exact .inr (.inr ⟨h1, h2, by simpa [h1] using h2⟩)

theorem revisionName_never (env : Env) (p : Pkg) (h : p.spec.pull = .never) :
    revisionName env p = .ok (friendlyID p.name p.spec.source) := by
  rw [revisionName, if_pos h]

theorem revisionName_recorded (env : Env) (p : Pkg) (h1 : p.spec.pull ≠ .never)
    (h2 : p.spec.pull = .ifNotPresent ∧ p.status.curId = p.spec.source) :
    revisionName env p = .ok p.status.curRev := by
  rw [revisionName, if_neg h1, if_pos h2]

theorem revisionName_fetched (env : Env) (p : Pkg) (h1 : p.spec.pull ≠ .never)
    (h2 : ¬(p.spec.pull = .ifNotPresent ∧ p.status.curId = p.spec.source)) :
    revisionName env p =
      if env.parseOk p.spec.source = false then .error ()
      else match env.head p.spec.source with
        | .err _ => .error ()
        | .nil => .ok ""
        | .digest d => .ok (friendlyID p.name d) := by
  rw [revisionName, if_neg h1, if_neg h2]
  cases env.parseOk p.spec.source <;> rfl

theorem revisionName_digest {env : Env} {p : Pkg} {d : String} (hq : p.spec.pull = .always ∨ p.spec.pull = .unset)
    (hpo : env.parseOk p.spec.source = true) (hhd : env.head p.spec.source = .digest d) :
    revisionName env p = .ok (friendlyID p.name d) := by
  have hn : p.spec.pull ≠ .never := by
    rcases hq with h | h
    · rw [h]; decide
    · rw [h]; decide
  have hi : ¬(p.spec.pull = .ifNotPresent ∧ p.status.curId = p.spec.source) := by
    rcases hq with h | h
    · rw [h]; exact fun x => nomatch x.1
    · rw [h]; exact fun x => nomatch x.1
  rw [revisionName_fetched env p hn hi, hpo, hhd]
  rfl

/-- The reconcile consults the registry only through `revisionName`, which keeps 12 characters of a digest: a
registry that answers every Head with the digest `d` may as well answer with `d.take 12`. -/
theorem pkgReconcile_digest_take (d : List Char) (ok : String → Bool) (pname : String) :
    pkgReconcile { head := fun _ => .digest (String.ofList d), parseOk := ok } pname =
      pkgReconcile { head := fun _ => .digest (String.ofList (d.take 12)), parseOk := ok } pname := by
  have h : ∀ p, revisionName { head := fun _ => .digest (String.ofList d), parseOk := ok } p =
      revisionName { head := fun _ => .digest (String.ofList (d.take 12)), parseOk := ok } p := fun p => by
    simp only [revisionName, friendlyID_hash_take p.name d]
  simp only [pkgReconcile, reconcileWith, afterList, h]

end Xp.C14
