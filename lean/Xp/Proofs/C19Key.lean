import Xp.Proofs.C19Store
/-
C19 — the rendered index key `group.kind.name` is injective on identifiers as the API server
admits them (groups without upper-case letters, Kinds starting with one and dot-free); and `groupOf`
on characters, for the closed facts about the composer's probe table.
-/
namespace Xp

theorem split_at_first {α : Type} {p : α → Bool} {l l' r r' : List α} {c c' : α} (hl : ∀ a ∈ l, p a = true)
    (hl' : ∀ a ∈ l', p a = true) (hc : p c = false) (hc' : p c' = false) (h : l ++ c :: r = l' ++ c' :: r') :
    l = l' ∧ c = c' ∧ r = r' := by
  have hll := congrArg (List.takeWhile p) h
  rw [takeWhile_append_cons hl hc, takeWhile_append_cons hl' hc'] at hll
  subst hll
  exact ⟨rfl, List.cons.inj (List.append_cancel_left h)⟩

end Xp

namespace Xp.C19

theorem indexKey_toList (g k n : String) :
    (indexKey g k n).toList = g.toList ++ '.' :: (k.toList ++ '.' :: n.toList) := by
  have hd : (".":String).toList = ['.'] := by decide
  simp only [indexKey, String.toList_append, hd, List.append_assoc, List.cons_append, List.nil_append]

/-- the Kind starts at the first capital of the rendered key and ends at the first dot after it -/
theorem indexKey_inj {g k n g' k' n' : String} (hg : lowerId g) (hk : kindId k) (hg' : lowerId g') (hk' : kindId k')
    (h : indexKey g k n = indexKey g' k' n') : g = g' ∧ k = k' ∧ n = n' := by
  have hl := congrArg String.toList h
  rw [indexKey_toList, indexKey_toList] at hl
  obtain ⟨⟨K, ks, ek, hK⟩, hkd⟩ := hk
  obtain ⟨⟨K', ks', ek', hK'⟩, hkd'⟩ := hk'
  rw [ek] at hl hkd
  rw [ek'] at hl hkd'
  have low : ∀ {g : String}, lowerId g → ∀ a ∈ g.toList ++ ['.'], (!a.isUpper) = true := fun hg a ha => by
    rcases List.mem_append.mp ha with ha | ha
    · rw [hg a ha]; rfl
    · cases List.mem_singleton.mp ha; decide
  have nodot : ∀ {K : Char} {ks : List Char}, '.' ∉ K :: ks → ∀ a ∈ ks, (a != '.') = true :=
    fun h a ha => bne_iff_ne.mpr fun e => h (e ▸ List.mem_cons_of_mem _ ha)
  obtain ⟨e1, rfl, e2⟩ := split_at_first (p := fun a : Char => !a.isUpper) (low hg) (low hg') (by rw [hK]; rfl)
    (by rw [hK']; rfl) (by simpa using hl)
  obtain ⟨rfl, _, e3⟩ := split_at_first (p := (· != '.')) (nodot hkd) (nodot hkd') (by decide) (by decide) e2
  exact ⟨String.ext (List.append_cancel_right e1), String.ext (ek.trans ek'.symm), String.ext e3⟩

theorem indexedBy_iff_names {u : Usage} {r : Res} (hu : lowerId (groupOf u.of.av) ∧ kindId u.of.kind)
    (hr : lowerId r.group ∧ kindId r.kind) :
    u.indexedBy (indexKey r.group r.kind r.name) = true ↔ u.names r = true := by
  constructor
  · intro h
    obtain ⟨hne, hkey⟩ := (Usage.indexedBy_iff u _).mp h
    obtain ⟨h1, h2, h3⟩ := indexKey_inj hu.1 hu.2 hr.1 hr.2 hkey
    exact (u.names_iff r).mpr ⟨hne, (Res.key_eq.mpr ⟨h1.symm, h2.symm, h3.symm⟩).symm⟩
  · exact names_indexedBy

theorem lowerId_groupOf {av : String} (h : lowerId av) : lowerId (groupOf av) := by
  have hempty : lowerId "" := by intro c hc; simp at hc
  unfold groupOf parseGV
  simp only
  split
  · exact hempty
  · split
    · exact hempty
    · intro c hc
      simp only [Option.getD_some, String.toList_ofList] at hc
      exact h c ((List.takeWhile_sublist _).mem hc)
    · exact hempty

/-- `groupOf` on the characters: a closed fact about `groupOf "lit"` is rewritten with `groupOf_ofList`
(the literal unifies with `String.ofList ?l`) and evaluated on `List Char` (Base/Str.lean) -/
def groupL (l : List Char) : List Char :=
  if l = [] ∨ l = ['/'] then [] else if l.count '/' = 1 then l.takeWhile (· ≠ '/') else []

theorem groupOf_ofList (l : List Char) : groupOf (String.ofList l) = String.ofList (groupL l) := by
  unfold groupOf parseGV groupL
  rw [String.toList_ofList]
  simp only
  split
  · rfl
  · split
    · next h0 => rw [if_neg (by omega)]; rfl
    · next h1 => rw [if_pos h1]; rfl
    · next h0 h1 => rw [if_neg h1]; rfl

theorem respects_of_model (l : List (String × String × Bool))
    (h : l.all (fun (av, k, b) => b == composerRespects av k) = true)
    (hm : ("apiextensions.crossplane.io/v1beta1", "Usage", true) ∈ l) :
    l.all (fun (av, k, b) =>
      (!(av == "apiextensions.crossplane.io/v1beta1" && k == "Usage") || b) &&
      (!b || (groupOf av == "apiextensions.crossplane.io" && k == "Usage"))) = true := by
  rw [List.all_eq_true] at h ⊢
  have hv : composerRespects "apiextensions.crossplane.io/v1beta1" "Usage" = true := (beq_iff_eq.mp (h _ hm)).symm
  rintro ⟨av, k, b⟩ hm
  obtain rfl : b = composerRespects av k := beq_iff_eq.mp (h _ hm)
  have h1 : (!(av == "apiextensions.crossplane.io/v1beta1" && k == "Usage") || composerRespects av k) = true := by
    cases hx : (av == "apiextensions.crossplane.io/v1beta1" && k == "Usage") with
    | false => rfl
    | true =>
      obtain ⟨e1, e2⟩ := Bool.and_eq_true_iff.mp hx
      rw [beq_iff_eq.mp e1, beq_iff_eq.mp e2, hv]; rfl
  have h2 : (!composerRespects av k || (groupOf av == "apiextensions.crossplane.io" && k == "Usage")) = true := by
    unfold composerRespects
    cases (groupOf av == "apiextensions.crossplane.io" && k == "Usage") <;> rfl
  exact Bool.and_eq_true_iff.mpr ⟨h1, h2⟩

end Xp.C19
