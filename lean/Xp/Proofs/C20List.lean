import Xp.Model.C20
import Xp.Base.List
/-
C20: lists of objects keyed by a name – lookups after an append or a patch at a key, sorting, and Apply on a keyed
collection (`upsert`: create when no object has the key, else patch every object with it; `FixL`: its fixpoints).
Stated once over a key predicate; the stores of packages, CRDs and webhook configurations are instances (of secrets
only in `find_map_replace` of C20Inv: the other lookups of secrets are proved there directly).
-/
namespace Xp.C20

theorem find_append_some {γ : Type} (l : List γ) (x : γ) (p : γ → Bool) (v : γ) (h : l.find? p = some v) :
    (l ++ [x]).find? p = some v := by simp [List.find?_append, h]

theorem find_map_some {γ : Type} (l : List γ) (p : γ → Bool) (f : γ → γ) (hf : ∀ x, p (f x) = p x) (v : γ)
    (h : l.find? p = some v) : (l.map f).find? p = some (f v) := by
  rw [List.find?_map]
  have : (p ∘ f) = p := funext hf
  rw [this, h]; rfl

theorem find_map_other {γ : Type} (l : List γ) (p : γ → Bool) (k : γ → Prop) [DecidablePred k] (f : γ → γ)
    (h : ∀ x, k x → p x = false ∧ p (f x) = false) : (l.map fun x => if k x then f x else x).find? p = l.find? p := by
  induction l with
  | nil => rfl
  | cons x xs ih =>
    simp only [List.map_cons, List.find?_cons, ih]
    by_cases hx : k x
    · rw [if_pos hx, (h x hx).1, (h x hx).2]
    · rw [if_neg hx]

theorem sortBy_perm {γ : Type} (le : γ → γ → Bool) (l : List γ) : (sortBy le l).Perm l :=
  perm_insertionSort (insertBy le) (fun _ => rfl) (fun x y ys => by rw [insertBy]; split <;> simp)
    rfl (fun _ _ => rfl) l

theorem mem_sortBy {γ : Type} (le : γ → γ → Bool) (y : γ) (l : List γ) : y ∈ sortBy le l ↔ y ∈ l :=
  (sortBy_perm le l).mem_iff

section upsert
variable {γ : Type} (key : γ → Prop) [DecidablePred key]

/-- resource.APIPatchingApplicator.Apply on a keyed collection: the object is created when no object has the key,
otherwise every object with the key is patched -/
def upsert (new : γ) (patch : γ → γ) (l : List γ) : List γ :=
  match l.find? (fun x => decide (key x)) with
  | none => l ++ [new]
  | some _ => l.map fun x => if key x then patch x else x

/-- an object with the key exists and every such object is a fixpoint of the patch -/
def FixL (patch : γ → γ) (l : List γ) : Prop :=
  (∃ x, l.find? (fun x => decide (key x)) = some x) ∧ ∀ x ∈ l, key x → patch x = x

variable {new : γ} {patch : γ → γ}

theorem upsert_fix (hk : ∀ x, key (patch x) ↔ key x) (hnew : key new) (hpn : patch new = new)
    (hidem : ∀ x, patch (patch x) = patch x) (l : List γ) : FixL key patch (upsert key new patch l) := by
  unfold upsert
  cases hf : l.find? (fun x => decide (key x)) with
  | none =>
    refine ⟨⟨new, ?_⟩, fun x hx hkx => ?_⟩
    · rw [List.find?_append, hf]; simp [hnew]
    · rcases List.mem_append.mp hx with hx | hx
      · have := List.find?_eq_none.mp hf x hx
        simp [hkx] at this
      · rw [List.mem_singleton.mp hx]; exact hpn
  | some v =>
    have hv : key v := by simpa using List.find?_some hf
    refine ⟨⟨patch v, ?_⟩, fun x hx hkx => ?_⟩
    · rw [find_map_some _ _ _ (fun x => ?_) _ hf, if_pos hv]
      by_cases e : key x <;> simp [e, hk]
    · obtain ⟨x0, _, rfl⟩ := List.mem_map.mp hx
      by_cases e : key x0
      · rw [if_pos e]; exact hidem x0
      · rw [if_neg e] at hkx; exact absurd hkx e

theorem upsert_other {key' : γ → Prop} [DecidablePred key'] {patch' : γ → γ} (hk : ∀ x, key (patch x) ↔ key x)
    (hnew : key new) (hdis : ∀ x, key x → ¬ key' x) (l : List γ) (h : FixL key' patch' l) :
    FixL key' patch' (upsert key new patch l) := by
  obtain ⟨⟨v, hv⟩, hall⟩ := h
  have hf' : ∀ x, key' (if key x then patch x else x) ↔ key' x := by
    intro x
    by_cases e : key x
    · rw [if_pos e]
      exact ⟨fun h => absurd h (hdis _ ((hk x).mpr e)), fun h => absurd h (hdis _ e)⟩
    · rw [if_neg e]
  unfold upsert
  cases l.find? (fun x => decide (key x)) with
  | none =>
    refine ⟨⟨v, find_append_some _ _ _ _ hv⟩, fun x hx hkx => ?_⟩
    rcases List.mem_append.mp hx with hx | hx
    · exact hall x hx hkx
    · rw [List.mem_singleton.mp hx] at hkx; exact absurd hkx (hdis _ hnew)
  | some _ =>
    have hkv : key' v := by simpa using List.find?_some hv
    refine ⟨⟨_, find_map_some _ _ _ (fun x => by simp [hf' x]) _ hv⟩, fun x hx hkx => ?_⟩
    obtain ⟨x0, hx0, rfl⟩ := List.mem_map.mp hx
    have hk0 := (hf' x0).mp hkx
    rw [if_neg fun e => hdis _ e hk0] at hkx ⊢
    exact hall x0 hx0 hk0

theorem FixL.map_eq {l : List γ} (h : FixL key patch l) : (l.map fun x => if key x then patch x else x) = l :=
  (List.map_congr_left fun x hx => by
    by_cases e : key x
    · rw [if_pos e]; exact h.2 x hx e
    · rw [if_neg e]).trans (List.map_id' _)

theorem FixL.upsert_eq {l : List γ} (h : FixL key patch l) : upsert key new patch l = l := by
  obtain ⟨x, hx⟩ := h.1
  rw [upsert, hx]
  exact h.map_eq
end upsert

end Xp.C20
