import Xp.Proofs.C07Keys
import Xp.Model.C07Meta
/-
C07, the server-side syncer at the value level: the metadata of the body it applies (`ssaPatch_labels`,
`ssaPatch_anns`), the claim and the status it writes back (`ssaClaim_spec`, `alookup_ssaStatus`), the outcome of
`syncSSA` (`syncSSA_cm/_xr/_prev`), what server-side apply stores and leaves alone in spec, labels and annotations
(`applySSA_spec_untouched`, `applySSA_spec_set`, `applySSA_anns`), the metadata of
claim bodies (`ClaimMetaOf`), and what can become of the configuration last applied (`PrevFrom`).
-/
namespace Xp.C07
open Xp

theorem specFields_eq {o : KObj} {fs : AL J} (h : o.spec = some (.obj fs)) : o.specFields = fs := by
  rw [KObj.specFields, h, objFields]

theorem ssaPatch_labels (c : Cfg) (gen : String) (cm : KObj) (xr : Option KObj) (cs : AL J) (k : String) :
    alookup k (ssaPatch c gen cm xr cs).labels =
      if k = Xp.Gen.labelKeyClaimNamespace then some c.claimNS
      else if k = Xp.Gen.labelKeyClaimName then some cm.name
      else if reserved k then none else alookup k cm.labels := by
  simp only [ssaPatch, claimLabels, addAll]
  rw [alookup_aset, alookup_aset, alookup_withoutReserved]

theorem ssaPatch_anns_eq (c : Cfg) (gen : String) (cm : KObj) (xr : Option KObj) (cs : AL J) :
    (ssaPatch c gen cm xr cs).anns =
      if extName xr != "" then aset extNameKey (extName xr) (withoutReserved cm.anns) else withoutReserved cm.anns := by
  simp only [ssaPatch, KObj.anns]
  split
  · rw [getD_setAnn, getD_nonEmptyUnreserved]
  · exact getD_nonEmptyUnreserved _

theorem ssaPatch_anns (c : Cfg) (gen : String) (cm : KObj) (xr : Option KObj) (cs : AL J) (k : String) :
    alookup k (ssaPatch c gen cm xr cs).anns =
      if k = extNameKey ∧ extName xr ≠ "" then some (extName xr)
      else if reserved k then none else alookup k cm.anns := by
  rw [ssaPatch_anns_eq]
  by_cases hen : extName xr = ""
  · simp [hen, alookup_withoutReserved]
  · simp [hen, alookup_aset, alookup_withoutReserved]

theorem ssaPatch_reserved_labels (c : Cfg) (gen : String) (cm : KObj) (xr : Option KObj) (cs : AL J) (k : String)
    (hk : reserved k = true) : alookup k (ssaPatch c gen cm xr cs).labels = none := by
  rw [ssaPatch_labels]
  simp [ne_of_reserved hk reserved_own_keys.2.2, ne_of_reserved hk reserved_own_keys.2.1, hk]

theorem ssaPatch_reserved_anns (c : Cfg) (gen : String) (cm : KObj) (xr : Option KObj) (cs : AL J) (k : String)
    (hk : reserved k = true) : alookup k (ssaPatch c gen cm xr cs).anns = none := by
  rw [ssaPatch_anns]
  simp [ne_of_reserved hk reserved_own_keys.1, hk]

/-- `cm.SetCompositionReference(xr's)` when the claim has none -/
theorem alookup_setCompositionRef (xs s1 : AL J) (k : String) :
    alookup k (match alookup "compositionRef" xs, alookup "compositionRef" s1 with
      | some r, none => aset "compositionRef" r s1
      | _, _ => s1) =
    if k = "compositionRef" then
      (match alookup k s1 with
       | some v => some v
       | none => alookup k xs)
    else alookup k s1 := by
  by_cases hk : k = "compositionRef"
  · subst hk
    simp only [if_true]
    cases hc : alookup "compositionRef" s1 with
    | some v => cases alookup "compositionRef" xs <;> exact hc
    | none =>
      cases alookup "compositionRef" xs with
      | none => exact hc
      | some r => exact alookup_aset_self _ _ _
  · simp only [hk, if_false]
    split
    · exact alookup_aset_ne _ _ _ hk _
    · rfl

/-- `cm.SetCompositionRevisionReference(xr's)` under Automatic when the XR has one; `v` is the
binding of `k` before -/
theorem alookup_setRevisionRef (xs s2 : AL J) (k : String) (v : Option J) (h2 : alookup k s2 = v) :
    alookup k (if policyOf xs == some "Automatic" then
        match alookup "compositionRevisionRef" xs with
        | some r => aset "compositionRevisionRef" r s2
        | none => s2
      else s2) =
    if k = "compositionRevisionRef" then
      (if policyOf xs = some "Automatic" then
        match alookup k xs with
        | some r => some r
        | none => v
       else v)
    else v := by
  subst h2
  by_cases hk : k = "compositionRevisionRef"
  · subst hk
    simp only [if_true]
    by_cases ha : policyOf xs = some "Automatic"
    · simp only [ha, beq_self_eq_true, if_true]
      cases alookup "compositionRevisionRef" xs with
      | none => rfl
      | some r => exact alookup_aset_self _ _ _
    · simp [ha]
  · simp only [hk, if_false]
    split
    · split
      · exact alookup_aset_ne _ _ _ hk _
      · rfl
    · rfl

theorem ssaClaim_spec (c : Cfg) (name : String) (cm : KObj) (xr : Option KObj) (cs : AL J) (k : String) :
    alookup k (ssaClaim c name cm xr cs).specFields =
      if k = "resourceRef" then some (xrRefJ c name)
      else if k = "compositionRef" then
        (match alookup k cs with
         | some v => some v
         | none => alookup k (xrSpecFields xr))
      else if k = "compositionRevisionRef" then
        (if policyOf (xrSpecFields xr) = some "Automatic" then
          match alookup k (xrSpecFields xr) with
          | some r => some r
          | none => alookup k cs
         else alookup k cs)
      else alookup k cs := by
  refine (alookup_setRevisionRef (xrSpecFields xr) _ k _
    (alookup_setCompositionRef (xrSpecFields xr) (aset "resourceRef" (xrRefJ c name) cs) k)).trans ?_
  simp only [alookup_aset]
  by_cases h1 : k = "resourceRef"
  · subst h1; simp
  · by_cases h2 : k = "compositionRef"
    · subst h2; simp
    · simp [h1, h2]

theorem alookup_keepConditions (cst st : AL J) (k : String) :
    alookup k (keepConditions cst st) =
      if k = "conditions" then (match alookup "conditions" cst with | some v => some v | none => alookup k st)
      else alookup k st := by
  unfold keepConditions
  cases alookup "conditions" cst with
  | none => exact (ite_self _).symm
  | some v => simp only [alookup_aset]

theorem alookup_keepPublished (cst st : AL J) (k : String) :
    alookup k (keepPublished cst st) =
      if k = "connectionDetails" then (match ownPublished cst with | some v => some v | none => alookup k st)
      else alookup k st := by
  unfold keepPublished ownPublished
  cases h1 : alookup "connectionDetails" cst with
  | none => exact (ite_self _).symm
  | some v =>
    cases v with
    | obj cd =>
      cases h2 : alookup "lastPublishedTime" cd with
      | none => simp only [h2]; exact (ite_self _).symm
      | some t => simp only [h2, alookup_aset]
    | _ => exact (ite_self _).symm

theorem alookup_ssaStatus (cst xst : AL J) (k : String) :
    alookup k (ssaStatus cst xst) =
      if k = "connectionDetails" then ownPublished cst
      else if k = "conditions" then alookup "conditions" cst
      else if statusMachinery k then none else alookup k xst := by
  have hcd : statusMachinery "connectionDetails" = true := by simp [statusMachinery]
  have hco : statusMachinery "conditions" = true := by simp [statusMachinery]
  have hne : ("connectionDetails" : String) ≠ "conditions" := by simp
  unfold ssaStatus
  rw [alookup_keepPublished, alookup_keepConditions, alookup_withoutKeys, statusProps_contains]
  by_cases h1 : k = "connectionDetails"
  · subst h1
    simp only [if_true, hne, if_false, hcd]
    cases ownPublished cst <;> rfl
  · by_cases h2 : k = "conditions"
    · subst h2
      simp only [h1, if_false, if_true, hco]
      cases alookup "conditions" cst <;> rfl
    · simp [h1, h2]

theorem applySSA_status (cur prev : Option KObj) (p : KObj) :
    (applySSA cur prev p).status = match cur with | none => none | some x => x.status := by
  cases cur <;> rfl

theorem applySSA_status_some (x : KObj) (prev : Option KObj) (p : KObj) :
    (applySSA (some x) prev p).status = x.status := rfl

theorem syncSSA_cm (c : Cfg) (gen : String) (s : St) (cs : AL J) (h : s.cm.spec = some (.obj cs)) :
    (syncSSA c gen s).st.cm =
      (let p := ssaPatch c gen s.cm s.xr cs
       let cm1 := storeClaimUpdate s.cm (ssaClaim c p.name s.cm s.xr cs)
       match (applySSA s.xr s.prev p).status with
       | some (.obj xst) => storeClaimStatus cm1 { cm1 with status := some (.obj (ssaStatus cm1.statusFields xst)) }
       | _ => cm1) := by
  unfold syncSSA
  rw [h]
  simp only []
  cases (applySSA s.xr s.prev (ssaPatch c gen s.cm s.xr cs)).status with
  | none => rfl
  | some v => cases v <;> rfl

theorem syncSSA_xr (c : Cfg) (gen : String) (s : St) (cs : AL J) (h : s.cm.spec = some (.obj cs)) :
    (syncSSA c gen s).st.xr = some (applySSA s.xr s.prev (ssaPatch c gen s.cm s.xr cs)) := by
  unfold syncSSA
  rw [h]
  simp only []
  split <;> rfl

theorem syncSSA_prev (c : Cfg) (gen : String) (s : St) (cs : AL J) (h : s.cm.spec = some (.obj cs)) :
    (syncSSA c gen s).st.prev = some (ssaPatch c gen s.cm s.xr cs) := by
  unfold syncSSA
  rw [h]
  simp only []
  split <;> rfl

theorem applySSA_specFields (x : KObj) (prev : Option KObj) (p : KObj) (pf : AL J) (hp : p.spec = some (.obj pf)) :
    (applySSA (some x) prev p).specFields =
      ssaMergeF (match x.spec with
        | some (.obj xs) => ssaRemoveF xs pf (match prev with | some q => q.specFields | none => [])
        | _ => []) pf := by
  simp only [applySSA, KObj.specFields, hp, ssaMergeV, objFields]
  cases x.spec with
  | none => rfl
  | some v => cases v <;> rfl

/-- the `match` is how `applySSA` (labels, spec) and `applySSA_anns` read a map off the applied configuration -/
theorem alookup_ofPrev {α} (prev : Option KObj) (f : KObj → AL α) (k : String)
    (hq : ∀ q, prev = some q → alookup k (f q) = none) :
    alookup k (match (generalizing := false) prev with | some q => f q | none => []) = none := by
  cases prev with
  | none => rfl
  | some q => exact hq q rfl

theorem applySSA_spec_untouched (x : KObj) (prev : Option KObj) (p : KObj) (pf : AL J) (k : String)
    (hp : p.spec = some (.obj pf)) (hk : alookup k pf = none)
    (hprev : ∀ q, prev = some q → alookup k q.specFields = none) :
    alookup k (applySSA (some x) prev p).specFields = alookup k x.specFields := by
  have hprev' := alookup_ofPrev prev (·.specFields) k hprev
  rw [applySSA_specFields x prev p pf hp, ssaMergeF_untouched k pf _ hk, KObj.specFields]
  cases x.spec with
  | none => rfl
  | some v =>
    cases v with
    | obj xs => exact ssaRemoveF_untouched k pf _ xs hprev'
    | _ => rfl

theorem applySSA_spec_set (cur : Option KObj) (prev : Option KObj) (p : KObj) (pf : AL J) (k : String) (v : J)
    (hp : p.spec = some (.obj pf)) (hnd : NoDup pf) (hk : alookup k pf = some v) (hv : ∀ l, v ≠ .obj l) :
    alookup k (applySSA cur prev p).specFields = some v := by
  cases cur with
  | none => simp only [applySSA, KObj.specFields, hp, objFields]; exact hk
  | some x => rw [applySSA_specFields x prev p pf hp, ssaMergeF_set k v pf _ hnd hk, ssaMergeV_atom _ v hv]

theorem applySSA_keeps_owned (c : Cfg) (gen : String) (rcm : KObj) (rxr : Option KObj) (cs : AL J)
    (cur : KObj) (prev : Option KObj) (hv : ClaimValid cs)
    (hprev : ∀ q, prev = some q → ∀ k, XrOwned k → alookup k q.specFields = none) :
    let y := applySSA (some cur) prev (ssaPatch c gen rcm rxr cs)
    (∀ k, XrOwned k → alookup k y.specFields = alookup k cur.specFields) ∧ y.status = cur.status ∧ y.name = cur.name :=
  ⟨fun k hk => applySSA_spec_untouched cur prev _ _ k rfl (specToXR_not_owned c rcm _ hv hk)
    fun q hq => hprev q hq k hk, rfl, rfl⟩

theorem applySSA_labels_untouched (x : KObj) (prev : Option KObj) (p : KObj) (k : String)
    (hp : alookup k p.labels = none) (hq : ∀ q, prev = some q → alookup k q.labels = none) :
    alookup k (applySSA (some x) prev p).labels = alookup k x.labels :=
  alookup_applied x.labels p.labels _ k hp (alookup_ofPrev prev (·.labels) k hq)

theorem applySSA_anns (x : KObj) (prev : Option KObj) (p : KObj) :
    (applySSA (some x) prev p).anns =
      addAll (ssaRemoveS x.anns p.anns (match prev with | some q => q.anns | none => [])) p.anns := by
  -- `a0`: the annotations after removal of what the manager no longer applies
  have key : ∀ (a0 : Option (AL String)) (r : AL String), a0.getD [] = r →
      (match p.annotations with
        | some m => some (addAll (a0.getD []) m)
        | none => a0).getD [] = addAll r (p.annotations.getD []) := by
    intro a0 r h
    rw [← h]
    cases p.annotations <;> rfl
  simp only [applySSA, KObj.anns]
  apply key
  cases prev with
  | none => rfl
  | some q =>
    simp only []
    cases q.annotations with
    | none => rfl
    | some pa =>
      cases x.annotations with
      | none => exact (ssaRemoveS_nil _ _).symm
      | some xa =>
        simp only [Option.getD_some]
        split
        · rename_i he
          simp only [Bool.and_eq_true] at he
          exact (List.isEmpty_iff.mp he.1).symm
        · rfl

theorem applySSA_anns_untouched (x : KObj) (prev : Option KObj) (p : KObj) (k : String)
    (hp : alookup k p.anns = none) (hq : ∀ q, prev = some q → alookup k q.anns = none) :
    alookup k (applySSA (some x) prev p).anns = alookup k x.anns := by
  rw [applySSA_anns]
  exact alookup_applied x.anns p.anns _ k hp (alookup_ofPrev prev (·.anns) k hq)

theorem ClaimMetaOf_status (cm : KObj) (en : String) (b : KObj) (st : Option J)
    (h : ClaimMetaOf cm en b) : ClaimMetaOf cm en { b with status := st } := h

theorem ClaimMetaOf_spec (cm : KObj) (en : String) (b : KObj) (sp : Option J)
    (h : ClaimMetaOf cm en b) : ClaimMetaOf cm en { b with spec := sp } := h

theorem ClaimMetaOf_self (cm : KObj) : ClaimMetaOf cm "" cm :=
  ⟨rfl, rfl, fun k => by simp⟩

/-- `if en != "" { meta.SetExternalName(cm, en) }` -/
theorem ClaimMetaOf_setExt {cm b b' : KObj} {en : String} (h : ClaimMetaOf cm "" b) (hn : b'.name = b.name)
    (hl : b'.labels = b.labels)
    (ha : b'.annotations = if en != "" then setAnn b.annotations extNameKey en else b.annotations) :
    ClaimMetaOf cm en b' := by
  obtain ⟨h1, h2, h3⟩ := h
  refine ⟨hn.trans h1, hl.trans h2, fun k => ?_⟩
  rw [KObj.anns, ha]
  by_cases hen : en = ""
  · subst hen
    simpa [KObj.anns] using h3 k
  · have : (en != "") = true := by simp [hen]
    simp only [this, if_true, getD_setAnn, alookup_aset, ne_eq, hen, not_false_eq_true, and_true]
    by_cases hk : k = extNameKey
    · simp [hk]
    · simpa [hk, KObj.anns] using h3 k

theorem ssaClaim_meta (c : Cfg) (name : String) (cm : KObj) (xr : Option KObj) (cs : AL J) :
    ClaimMetaOf cm (extName xr) (ssaClaim c name cm xr cs) :=
  ClaimMetaOf_setExt (ClaimMetaOf_self cm) rfl rfl rfl

/-- what a step of a history, or a stretch of a sync in the call-level model, can make of the applied
configuration: leave it, clear it (the XR was deleted, or created anew), or replace it by the body of an XR
write it may make (`Q`) -/
def PrevFrom (Q : Write → Prop) (p p' : Option KObj) : Prop :=
  p' = p ∨ p' = none ∨ ∃ wr, Q wr ∧ wr.isXR = true ∧ p' = some wr.body

theorem PrevFrom.trans {Q : Write → Prop} {a b c : Option KObj} (h : PrevFrom Q a b) (h' : PrevFrom Q b c) :
    PrevFrom Q a c := by
  rcases h' with rfl | h'
  · exact h
  · exact .inr h'

theorem PrevFrom.keeps {Q : Write → Prop} {p p' : Option KObj} {P : KObj → Prop} (h : PrevFrom Q p p')
    (hQ : ∀ wr, Q wr → wr.isXR = true → P wr.body) (hp : ∀ q, p = some q → P q) : ∀ q, p' = some q → P q := by
  intro q hq
  rcases h with rfl | rfl | ⟨wr, hwr, hx, rfl⟩
  · exact hp q hq
  · cases hq
  · cases hq
    exact hQ wr hwr hx

end Xp.C07
