import Xp.Proofs.C16
import Xp.Proofs.C16Store
import Xp.Proofs.C16None
import Xp.Proofs.C16Phase
/-
C16: the validate phase, in the world of `Model/C16World.lean` (third-party writes before each
Get and between a Get and its dry run, cached reads that miss or lag); `validateAll` of
`Model/C16.lean` is the case `VInterf.none`.

(1) The phase writes nothing: the store it ends in is the initial one with the third party's writes
applied (`ByActs`) — the initial one itself when nobody writes, and in general `TInv`. (2) Whatever
a goroutine read — an object of the store at that moment, or an older version out of the cache — is
a VERSION (`Seen`), and `current` as kept for the establish phase describes it (`CDSeen`). (3) The
goroutine of a blocked object fails, provided its read is fresh and the third party leaves its key
alone; then the phase fails. Last, the two ways Establish can end (`establishV_cases`): failed at the
TLS secret or in the validate phase, in a store that differs from the initial one by third-party
writes only, or as the establish phase ends, started from such a store.
-/
namespace Xp.C16

variable (rejects : Obj → Bool) (fault : Fault) (vi : VInterf) (tp : Interf) (p : Parent) (control : Bool)

/-- the third party's puts during the validate phase -/
def VInterf.Puts (vi : VInterf) (a : Obj) : Prop := ∃ i, Act.put a ∈ vi.get i ∨ Act.put a ∈ vi.dry i

/-- the third party's writes during the validate phase -/
def VInterf.Acts (vi : VInterf) (a : Act) : Prop := ∃ i, a ∈ vi.get i ∨ a ∈ vi.dry i

theorem VInterf.acts_none (a : Act) : ¬ VInterf.none.Acts a :=
  fun ⟨_, h⟩ => by rcases h with h | h <;> cases h

/-- no validate-phase write of the third party concerns key `k` -/
def VInterf.Quiet (vi : VInterf) (k : String) : Prop := ∀ i a, (a ∈ vi.get i ∨ a ∈ vi.dry i) → a.key ≠ k

/-- what the cache may serve: an older version of the object asked for, handed out before
the call started -/
def StaleOK (s : Store) (vi : VInterf) (xs : List (Nat × Desired)) : Prop :=
  ∀ x ∈ xs, ∀ v, vi.stale x.1 = some (some v) → v.key = x.2.key ∧ Seen s v

theorem StaleOK.mono {s s' : Store} {vi : VInterf} {xs : List (Nat × Desired)} (hf : Frozen s s')
    (h : StaleOK s vi xs) : StaleOK s' vi xs :=
  fun x hx v hv => ⟨(h x hx v hv).1, (h x hx v hv).2.mono hf⟩

theorem StaleOK.none (s : Store) (xs : List (Nat × Desired)) : StaleOK s VInterf.none xs :=
  fun _ _ _ hv => nomatch hv

/-- the mutated `current` kept from validate to establish describes a version `c₀` (an object of
the store at that moment, or an older version out of the cache) -/
def CDSeen (s : Store) (cd : CD) : Prop :=
  ∀ cur, cd.current = some cur → ∃ c₀, Seen s c₀ ∧ c₀.key = cd.desired.key ∧ cur.key = c₀.key ∧
    cur.rv = c₀.rv ∧ cur.body = c₀.body ∧ (∀ u, hasUid c₀.owners u → hasUid cur.owners u) ∧
    (∀ u, ctrl cur.owners u → ctrl c₀.owners u)

theorem CDSeen.mono {s s' : Store} {cd : CD} (hf : Frozen s s') (h : CDSeen s cd) : CDSeen s' cd := by
  intro cur hcur
  obtain ⟨c₀, hs, r⟩ := h cur hcur
  exact ⟨c₀, hs.mono hf, r⟩

theorem cdseen_key (s : Store) (cd : CD) (h : CDSeen s cd) : ∀ cur, cd.current = some cur → cur.key = cd.desired.key := by
  intro cur hcur
  obtain ⟨c₀, _, hk₀, hck, _⟩ := h cur hcur
  exact hck.trans hk₀

/-- the object Establish would submit for `d` in state `s` (the dry-run and the
real request carry this same object), if it gets as far as a request -/
def submission (p : Parent) (control : Bool) (s : Store) (d : Desired) : Option Obj :=
  match s.get d.key with
  | none => if control then some { desiredObj d with owners := createRefs p } else none
  | some cur =>
    match updateSub p control cur (desiredObj d) with
    | .ok o => some o
    | .error _ => none

/-- a different revision or owner controls the existing object: some controller
reference is neither the parent's nor the parent's package's -/
def ForeignControlled (p : Parent) (s : Store) (d : Desired) : Prop :=
  ∃ cur, s.get d.key = some cur ∧
    ∃ r ∈ cur.owners, r.isCtrl = true ∧ r.uid ≠ p.uid ∧ ∀ q, pkgRef p = some q → r.uid ≠ q.uid

variable (s : Store) (xs : List (Nat × Desired)) (i : Nat) (d : Desired)

/-- (first case: `enrichControlledResource` refused the object before any call) -/
theorem validateOneV_store :
    validateOneV rejects fault vi p control s i d = (s, .err .other) ∨
    (validateOneV rejects fault vi p control s i d).1 = applyActs s (vi.get i) ∨
    (validateOneV rejects fault vi p control s i d).1 = applyActs (applyActs s (vi.get i)) (vi.dry i) := by
  unfold validateOneV
  split
  · exact Or.inl rfl
  · fun_cases validateGoV rejects fault vi p control s i d with
    | case5 => exact Or.inr (Or.inr (by rw [liftW_fst, apiCreate_dry]))    -- nothing read, an active parent: dry-run create
    | case8 => exact Or.inr (Or.inr (by rw [liftW_fst, apiUpdate_dry]))    -- dry-run update
    | _ => exact Or.inr (Or.inl rfl)

theorem validateOneV_byActs :
    ByActs vi.Acts s (validateOneV rejects fault vi p control s i d).1 := by
  have h1 : ByActs vi.Acts s (applyActs s (vi.get i)) := .acts s _ fun a ha => ⟨i, Or.inl ha⟩
  rcases validateOneV_store rejects fault vi p control s i d with h | h | h <;> rw [h]
  · exact ByActs.refl _ s
  · exact h1
  · exact h1.trans (.acts _ _ fun a ha => ⟨i, Or.inr ha⟩)

theorem viewOf_some {s₀ s1 : Store} {i : Nat} {d : Desired} {cur : Obj}
    (hw : WF s1) (hf : Frozen s₀ s1)
    (hst : ∀ v, vi.stale i = some (some v) → v.key = d.key ∧ Seen s₀ v)
    (h : viewOf vi s1 i d = some cur) : cur.key = d.key ∧ Seen s1 cur := by
  unfold viewOf at h
  split at h
  · exact ⟨get_key h, Seen.of_mem hw (get_mem h)⟩
  · rename_i v hv
    subst h
    obtain ⟨hk, hs⟩ := hst cur hv
    exact ⟨hk, hs.mono hf⟩

theorem validateOneV_ok {s : Store} {i : Nat} {d : Desired} {cd : CD}
    (h : (validateOneV rejects fault vi p control s i d).2 = .ok cd) :
    cd.desired.key = d.key ∧
    match viewOf vi (applyActs s (vi.get i)) i d with
    | none => cd.current = none
    | some c₀ => ∃ cur, cd.current = some cur ∧ cur.key = c₀.key ∧ cur.rv = c₀.rv ∧ cur.body = c₀.body ∧
        (∀ u, hasUid c₀.owners u → hasUid cur.owners u) ∧ (∀ u, ctrl cur.owners u → ctrl c₀.owners u) := by
  unfold validateOneV at h
  split at h
  · cases h
  · revert h
    fun_cases validateGoV rejects fault vi p control s i d with
    | case5 _ _ hview =>      -- nothing read, an active parent: dry-run create
      intro h
      cases liftW_ok h
      rw [hview]
      exact ⟨rfl, rfl⟩
    | case6 _ _ hview =>      -- nothing read, an inactive parent: no call
      intro h
      cases h
      rw [hview]
      exact ⟨rfl, rfl⟩
    | case8 _ _ c₀ hview sub hsub cd' =>     -- dry-run update
      intro h
      obtain rfl := liftW_ok h
      rw [hview]
      obtain ⟨_, ht, hf⟩ := updateSub_ok p control hsub
      cases control with
      | true =>
        exact ⟨(ht rfl).1, _, rfl, rfl, rfl, rfl, fun u hu => hasUid_withPkg p _ _ hu,
          fun u hu => ctrl_withPkg p _ _ hu⟩
      | false =>
        cases hf rfl
        exact ⟨rfl, _, rfl, rfl, rfl, rfl, fun u hu => hasUid_addOwner _ _ _ (hasUid_withPkg p _ _ hu),
          fun u hu => ctrl_withPkg p _ _ (ctrl_addOwner_of_not _ _ _ rfl hu)⟩
    | _ => nofun      -- a crash or an error at the Get, `AddControllerReference` refused

theorem validateOneV_cdseen {s : Store} {i : Nat} {d : Desired} {cd : CD} (hw : WF s)
    (hst : ∀ v, vi.stale i = some (some v) → v.key = d.key ∧ Seen s v)
    (h : (validateOneV rejects fault vi p control s i d).2 = .ok cd) :
    CDSeen (validateOneV rejects fault vi p control s i d).1 cd := by
  obtain ⟨hk, hv⟩ := validateOneV_ok rejects fault vi p control h
  intro cur hcur
  split at hv
  · rw [hv] at hcur; cases hcur
  · rename_i c₀ hview
    obtain ⟨cur', hc', r⟩ := hv
    rw [hc'] at hcur
    cases hcur
    obtain ⟨hkey, hseen⟩ := viewOf_some vi (applyActs_wf _ _ hw) (applyActs_frozen _ _) hst hview
    refine ⟨c₀, ?_, hkey.trans hk.symm, r⟩
    rcases validateOneV_store rejects fault vi p control s i d with e | e | e
    · rw [e] at h; cases h
    · rw [e]; exact hseen
    · rw [e]; exact hseen.mono (applyActs_frozen _ _)

theorem validateAllV_byActs :
    ByActs vi.Acts s (validateAllV rejects fault vi p control s xs).1 :=
  validateAllV_ind rejects fault vi p control (ByActs vi.Acts s) xs s (ByActs.refl _ s) fun s' i d _ h =>
    h.trans (validateOneV_byActs rejects fault vi p control s' i d)

theorem validateAllV_writes_nothing (hw : WF s) :
    TInv vi.Puts s (validateAllV rejects fault vi p control s xs).1 :=
  (TInv.refl _ s hw).byActs (validateAllV_byActs rejects fault vi p control s xs) fun _ h => h

theorem validateAll_store : (validateAll rejects fault p control s xs).1 = s := by
  rw [← validateAllV_none]
  exact (validateAllV_byActs rejects fault VInterf.none p control s xs).eq VInterf.acts_none

theorem validateAllV_cdseen {s s2 : Store} {xs : List (Nat × Desired)} {cds : List (Nat × CD)}
    (hw : WF s) (hst : StaleOK s vi xs)
    (h : validateAllV rejects fault vi p control s xs = (s2, .ok cds)) : ∀ x ∈ cds, CDSeen s2 x.2 := by
  induction xs generalizing s cds with
  | nil => cases h; exact fun x hx => nomatch hx
  | cons x rest ih =>
    obtain ⟨s1, cd, cds', h1, h2, rfl⟩ := validateAllV_cons_ok rejects fault vi p control h
    have hcd := validateOneV_cdseen rejects fault vi p control hw (hst x List.mem_cons_self) (by rw [h1])
    have hb1 := validateOneV_byActs rejects fault vi p control s x.1 x.2
    rw [h1] at hcd hb1
    have hf2 := (validateAllV_byActs rejects fault vi p control s1 rest).frozen
    rw [h2] at hf2
    intro y hy
    rcases List.mem_cons.mp hy with e | e
    · subst e; exact hcd.mono hf2
    · exact ih (hb1.wf hw) (fun y hy => hst.mono hb1.frozen y (List.mem_cons_of_mem _ hy)) h2 y e

theorem validateAll_fst {rejects : Obj → Bool} {fault : Fault} {p : Parent} {control : Bool}
    {s s1 : Store} {xs : List (Nat × Desired)} {r : R (List (Nat × CD))}
    (h : validateAll rejects fault p control s xs = (s1, r)) : s1 = s := by
  rw [← validateAll_store rejects fault p control s xs, h]

theorem validateAll_shape {s s1 : Store} {xs : List (Nat × Desired)} {cds : List (Nat × CD)}
    (h : validateAll rejects fault p control s xs = (s1, .ok cds)) :
    (∀ x ∈ xs, ∃ cd, (x.1, cd) ∈ cds) ∧
    (∀ y ∈ cds, ∃ d, (y.1, d) ∈ xs ∧ y.2.desired.key = d.key ∧ y.2.current.isSome = (s.get d.key).isSome ∧
      ∀ cur, y.2.current = some cur → cur.key = y.2.desired.key) := by
  induction xs generalizing cds with
  | nil => cases h; exact ⟨nofun, nofun⟩
  | cons x rest ih =>
    rw [← validateAllV_none] at h
    obtain ⟨s2, cd, cds', h1, h2, rfl⟩ := validateAllV_cons_ok rejects fault VInterf.none p control h
    have hs2 : s2 = s := by
      have := (validateOneV_byActs rejects fault VInterf.none p control s x.1 x.2).eq VInterf.acts_none
      rwa [h1] at this
    subst hs2
    rw [validateAllV_none] at h2
    obtain ⟨ih1, ih2⟩ := ih h2
    obtain ⟨hk, hv⟩ := validateOneV_ok rejects fault VInterf.none p control (by rw [h1])
    have hsome : cd.current.isSome = (s2.get x.2.key).isSome ∧
        ∀ cur, cd.current = some cur → cur.key = cd.desired.key := by
      have hview : viewOf VInterf.none (applyActs s2 (VInterf.none.get x.1)) x.1 x.2 = s2.get x.2.key := rfl
      rw [hview] at hv
      cases hg : s2.get x.2.key <;> rw [hg] at hv
      · rw [hv]; exact ⟨rfl, nofun⟩
      · obtain ⟨cur, hc, hck, _⟩ := hv
        rw [hc]
        exact ⟨rfl, fun _ e => by cases e; rw [hck, hk]; exact get_key hg⟩
    exact ⟨List.forall_mem_cons.mpr ⟨⟨cd, List.mem_cons_self⟩, fun y hy => (ih1 y hy).imp fun _ h => List.mem_cons_of_mem _ h⟩,
      List.forall_mem_cons.mpr ⟨⟨x.2, List.mem_cons_self, hk, hsome⟩,
        fun y hy => (ih2 y hy).imp fun _ h => ⟨List.mem_cons_of_mem _ h.1, h.2⟩⟩⟩

theorem validateAll_cdseen {s s1 : Store} {xs : List (Nat × Desired)} {cds : List (Nat × CD)} (hw : WF s)
    (h : validateAll rejects fault p control s xs = (s1, .ok cds)) : ∀ y ∈ cds, CDSeen s y.2 := by
  cases validateAll_fst h
  rw [← validateAllV_none] at h
  exact validateAllV_cdseen rejects fault VInterf.none p control hw (StaleOK.none s xs) h

/-- this Establish cannot take the object over: a foreign controller, a submission the server
rejects, or a CRD with webhook conversion and no CA bundle (the hypothesis `hb` that
`all_or_nothing`, `all_or_nothing_interf`, `all_or_nothing_world` of Props/C16.lean write out) -/
def Blocked (s : Store) (d : Desired) : Prop :=
  (control = true ∧ ForeignControlled p s d) ∨
  (∃ o, submission p control s d = some o ∧ rejects o = true) ∨
  (control = true ∧ d.needsCA = true ∧ p.tls ≠ .present)

theorem blocked_congr {s s' : Store} {d : Desired} (h : s'.get d.key = s.get d.key)
    (hb : Blocked rejects p control s d) : Blocked rejects p control s' d := by
  rcases hb with ⟨hc, cur, hcur, r⟩ | ⟨o, ho, hr⟩ | h3
  · exact Or.inl ⟨hc, cur, h ▸ hcur, r⟩
  · refine Or.inr (Or.inl ⟨o, ?_, hr⟩)
    unfold submission at ho ⊢
    rw [h]
    exact ho
  · exact Or.inr (Or.inr h3)

/-- A foreign controller makes the submitted object carry two controller references, which the
server refuses (`updateSub_foreign_invalid`); a rejected object is rejected at its dry run; the CRD
is refused before any call. -/
theorem validateOneV_blocked (hq : vi.Quiet d.key) (hs : vi.stale i = none)
    (hb : Blocked rejects p control s d) : (validateOneV rejects fault vi p control s i d).2.failed := by
  have hview : viewOf vi (applyActs s (vi.get i)) i d = s.get d.key := by
    unfold viewOf
    rw [hs]
    exact applyActs_get_ne _ _ _ fun a ha => hq i a (Or.inl ha)
  unfold validateOneV
  split
  · trivial
  rename_i hn
  have hb1 : (control = true ∧ ForeignControlled p s d) ∨ ∃ o, submission p control s d = some o ∧ rejects o = true :=
    hb.elim Or.inl fun h => h.elim Or.inr fun ⟨hc, hca, ht⟩ => absurd (by simp [hc, hca, ht]) hn
  fun_cases validateGoV rejects fault vi p control s i d with
  | case5 _ _ hget hc =>      -- nothing read, an active parent: dry-run create of the submission
    rw [hview] at hget
    apply liftW_failed
    rcases hb1 with ⟨_, cur, hcur, _⟩ | ⟨o, ho, hrej⟩
    · rw [hget] at hcur
      cases hcur
    · unfold submission at ho
      rw [hget, hc] at ho
      cases ho
      exact apiCreate_rejected _ _ _ _ _ hrej
  | case6 _ _ hget hc =>      -- nothing read, an inactive parent: such an object is not blocked
    rw [hview] at hget
    rcases hb1 with ⟨hc', _⟩ | ⟨o, ho, _⟩
    · exact absurd hc' hc
    · unfold submission at ho
      rw [hget] at ho
      simp only [hc] at ho
      cases ho
  | case8 _ _ cur hget sub hsub =>     -- dry-run update
    rw [hview] at hget
    apply liftW_failed
    rcases hb1 with ⟨hc, cur', hcur', r, hr, hrc, hne, hq'⟩ | ⟨o, ho, hrej⟩
    · rw [hget] at hcur'
      cases hcur'
      subst hc
      exact apiUpdate_invalid _ _ _ _ _ (updateSub_foreign_invalid p hr hrc hne hq' hsub)
    · unfold submission at ho
      rw [hget] at ho
      simp only [hsub] at ho
      cases ho
      exact apiUpdate_rejected _ _ _ _ _ hrej
  | _ => trivial      -- a crash or an error at the Get, `AddControllerReference` refused

theorem validateAllV_failed (hm : (i, d) ∈ xs)
    (hq : vi.Quiet d.key) (hs : vi.stale i = none) (hb : Blocked rejects p control s d) :
    (validateAllV rejects fault vi p control s xs).2.failed := by
  cases hr : validateAllV rejects fault vi p control s xs with
  | mk s2 r =>
    cases r with
    | err e => trivial
    | crash => trivial
    | ok cds =>
      -- the goroutines leave the key alone, so the object stays blocked, and its goroutine cannot succeed
      rw [validateAllV_eq] at hr
      refine absurd rfl (phase_ok (fun s' => s'.get d.key = s.get d.key) (fun x _ => x ≠ (i, d))
        (fun s' j a _ h => ((validateOneV_byActs rejects fault vi p control s' j a).get
          fun a ⟨i, h⟩ => hq i a h).trans h)
        (fun s' j a s1 cd _ h h1 e => ?_) (fun _ _ _ _ _ _ h => h) rfl hr (i, d) hm)
      cases e
      have hf := validateOneV_blocked rejects fault vi p control s' i d hq hs (blocked_congr rejects p control h hb)
      rw [h1] at hf
      exact hf

theorem validateAll_blocked (hm : (i, d) ∈ xs)
    (hb : Blocked rejects p control s d) : (validateAll rejects fault p control s xs).2.failed := by
  rw [← validateAllV_none]
  exact validateAllV_failed rejects fault VInterf.none p control s xs i d hm
    (fun i a h => (VInterf.acts_none a ⟨i, h⟩).elim) rfl hb

variable (objs : List Desired) (vorder eorder : List Nat)

theorem establishV_cases :
    (∃ sv r, ByActs vi.Acts s sv ∧ establishV rejects fault vi tp p control s objs vorder eorder = (sv, r) ∧ r.failed) ∨
    (∃ sv cds, ByActs vi.Acts s sv ∧ validateAllV rejects fault vi p control s (pick objs vorder) = (sv, .ok cds) ∧
      establishV rejects fault vi tp p control s objs vorder eorder =
        establishAllI rejects fault tp p control (applyActs sv tp.mid) (pickCD cds eorder)) := by
  have hb := validateAllV_byActs rejects fault vi p control s (pick objs vorder)
  fun_cases establishV rejects fault vi tp p control s objs vorder eorder with
  | case3 =>      -- the TLS secret was read (or is not needed)
    fun_cases establishCoreV rejects fault vi tp p control s objs vorder eorder with
    | case1 sv cds h =>
      rw [h] at hb
      exact Or.inr ⟨sv, cds, hb, h, rfl⟩
    | case2 sv e h | case3 sv h =>
      rw [h] at hb
      exact Or.inl ⟨sv, _, hb, rfl, trivial⟩
  | _ => exact Or.inl ⟨s, _, ByActs.refl _ s, rfl, trivial⟩

theorem establishI_cases :
    (∃ r, establishI rejects fault tp p control s objs vorder eorder = (s, r) ∧ r.failed) ∨
    (∃ cds, validateAll rejects fault p control s (pick objs vorder) = (s, .ok cds) ∧
      establishI rejects fault tp p control s objs vorder eorder =
        establishAllI rejects fault tp p control (applyActs s tp.mid) (pickCD cds eorder)) := by
  rw [← establishV_none]
  rcases establishV_cases rejects fault VInterf.none tp p control s objs vorder eorder with ⟨sv, r, hb, h⟩ | ⟨sv, cds, hb, hv, h⟩ <;>
    cases hb.eq VInterf.acts_none
  · exact Or.inl ⟨r, h⟩
  · exact Or.inr ⟨cds, validateAllV_none .. ▸ hv, h⟩

theorem establishV_validate_failed
    (hf : (validateAllV rejects fault vi p control s (pick objs vorder)).2.failed) :
    ByActs vi.Acts s (establishV rejects fault vi tp p control s objs vorder eorder).1 ∧
    ∀ refs, (establishV rejects fault vi tp p control s objs vorder eorder).2 ≠ .ok refs := by
  rcases establishV_cases rejects fault vi tp p control s objs vorder eorder with ⟨sv, r, hb, h, hr⟩ | ⟨sv, cds, _, hv, _⟩
  · rw [h]
    exact ⟨hb, hr.ne_ok⟩
  · rw [hv] at hf
    exact hf.elim

theorem establishI_validate_failed
    (hf : (validateAll rejects fault p control s (pick objs vorder)).2.failed) :
    (establishI rejects fault tp p control s objs vorder eorder).1 = s ∧
    ∀ refs, (establishI rejects fault tp p control s objs vorder eorder).2 ≠ .ok refs := by
  rw [← validateAllV_none] at hf
  rw [← establishV_none]
  have h := establishV_validate_failed rejects fault VInterf.none tp p control s objs vorder eorder hf
  exact ⟨h.1.eq VInterf.acts_none, h.2⟩

end Xp.C16
