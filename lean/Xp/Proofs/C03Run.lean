import Xp.Model.C03
/-
The extra-resources loop of Xp/Model/C03.lean (`fetchP`, `fetchAll`, `runFunctionP`): what it can
return under arbitrary fault plans (`ends_runFunctionP`), and its fault-free run as the pure
interpreter `Xp.C04.runFetching` (`okVal_runFunctionP`).

First, for any `Sem`, the two ways a program is walked here, by recursion on the program so that what
earlier replies revealed can be used: `Ends` — the sibling of Base's `Emits` for the results a program
can return, told apart by whether a call failed — and the result of the fault-free run (`okVal`).
-/
namespace Xp

section generic
variable {S Req Resp α : Type}

/-- `Ends sem Q p s b`: started in store `s`, whatever the fault plan does, a result `a` that `p`
returns satisfies `Q f a`, where `f` tells whether a call has been answered with an error (fault
`fail` or `conflict`) — on the way, or before `p` started if `b`. -/
def Ends (sem : Sem S Req Resp) (Q : Bool → α → Prop) : Prog Req Resp α → S → Bool → Prop
  | .ret a, _, b => Q b a
  | .call r c, s, b =>
      Ends sem Q (c (sem.exec s r).2) (sem.exec s r).1 b ∧
      Ends sem Q (c (sem.errResp .fail r)) s true ∧ Ends sem Q (c (sem.errResp .conflict r)) s true

theorem Ends.mono {sem : Sem S Req Resp} {Q Q' : Bool → α → Prop} (hqq : ∀ f a, Q f a → Q' f a) :
    ∀ (p : Prog Req Resp α) (s : S) (b : Bool), Ends sem Q p s b → Ends sem Q' p s b := by
  intro p
  induction p with
  | ret a => exact fun _ b h => hqq b a h
  | call r c ih => exact fun s b h => ⟨ih _ _ _ h.1, ih _ _ _ h.2.1, ih _ _ _ h.2.2⟩

theorem Ends.run {sem : Sem S Req Resp} {Q : Bool → α → Prop} (plan : Plan) :
    ∀ (p : Prog Req Resp α) (k : Nat) (s : S) (b : Bool), Ends sem Q p s b →
      ∀ a, (Xp.run sem plan k p s).2 = some a →
        ∃ f, Q f a ∧ (b = true → f = true) ∧
          ((∃ e ∈ callLog sem plan k p s, e.2.1 = .fail ∨ e.2.1 = .conflict) → f = true) := by
  intro p
  induction p with
  | ret a =>
    intro k s b h x hx
    cases hx
    exact ⟨b, h, id, fun ⟨_, he, _⟩ => nomatch he⟩
  | call r c ih =>
    intro k s b h a ha
    unfold Xp.run at ha
    unfold callLog
    split at ha
    · obtain ⟨f, hq, hb, hf⟩ := ih _ _ _ b h.1 a ha
      refine ⟨f, hq, hb, fun ⟨e, he, hfault⟩ => ?_⟩
      rcases List.mem_cons.mp he with rfl | he'
      · exact hfault.elim (nomatch ·) (nomatch ·)
      · exact hf ⟨e, he', hfault⟩
    · obtain ⟨f, hq, hb, _⟩ := ih _ _ _ true h.2.1 a ha
      exact ⟨f, hq, fun _ => hb rfl, fun _ => hb rfl⟩
    · obtain ⟨f, hq, hb, _⟩ := ih _ _ _ true h.2.2 a ha
      exact ⟨f, hq, fun _ => hb rfl, fun _ => hb rfl⟩
    · cases ha
    · cases ha

/-- the result of the fault-free run: Base's `evalOk` without the store (`Xp.C01.runOk` of Proofs/C01Prog.lean is the same
run as a `run … Plan.allOk` with its store, for the C01 programs) -/
def okVal (sem : Sem S Req Resp) (p : Prog Req Resp α) (s : S) : α := (evalOk sem p s).2

theorem okVal_call (sem : Sem S Req Resp) (r : Req) (c : Resp → Prog Req Resp α) (s : S) :
    okVal sem (.call r c) s = okVal sem (c (sem.exec s r).2) (sem.exec s r).1 := rfl

theorem run_allOk_snd (sem : Sem S Req Resp) (p : Prog Req Resp α) (k : Nat) (s : S) :
    (run sem Plan.allOk k p s).2 = some (okVal sem p s) := by
  rw [run_allOk]
  rfl

end generic

end Xp

namespace Xp.C03
open Xp.C04 (ClusterObj Request Response hasFatal Extra)

theorem fexec_fst (cl : List ClusterObj) (r : FReq) : (fexec cl r).1 = cl := by
  cases r <;> rfl

theorem fsem_exec : fsem.exec = fexec := rfl

theorem fexec_getExtra (cl : List ClusterObj) (kind n : String) :
    fexec cl (.getExtra kind n) =
      (cl, if cl.any (fun o => o.kind = kind ∧ o.name = n) then .found n else .notFound) := rfl

theorem fetchVal_name (cl : List ClusterObj) (kind n : String) :
    fetchVal cl ⟨kind, .name n⟩ = if cl.any (fun o => o.kind = kind ∧ o.name = n) then some [n] else none := rfl

theorem ends_fetchP {α : Type} {Q : Bool → α → Prop} (cl : List ClusterObj) (sel : Option Selector)
    (c : Option Fetched → Prog FReq FResp α) (b : Bool) (herr : ∀ b', Ends fsem Q (c none) cl b')
    (hok : fetchable sel = true → Ends fsem Q (c (some ((sel.map (fetchVal cl)).getD none))) cl b) :
    Ends fsem Q (fetchP sel c) cl b :=
  match sel with
  | none => herr b
  | some ⟨_, .unset⟩ => herr b
  | some ⟨kind, .labels ls⟩ => ⟨hok rfl, herr true, herr true⟩
  | some ⟨kind, .name n⟩ => by
    refine ⟨?_, herr true, herr true⟩
    have h := hok rfl
    rw [Option.map_some, Option.getD_some, fetchVal_name] at h
    rw [fsem_exec, fexec_getExtra]
    generalize cl.any (fun o => o.kind = kind ∧ o.name = n) = found at h ⊢
    cases found with
    | false => exact h
    | true => exact h

/-- what a successful pass of the fetch loop hands to the function: the `extra` of the next
request in `Rounds.next` -/
def fetchedOf (cl : List ClusterObj) (rs : Reqs) : Extra :=
  rs.map fun p => (p.1, (p.2.map (fetchVal cl)).getD none)

theorem ends_fetchAll {α : Type} {Q : Bool → α → Prop} (cl : List ClusterObj) (c : Option Extra → Prog FReq FResp α)
    (b : Bool) (herr : ∀ b', Ends fsem Q (c none) cl b') :
    ∀ (rs : Reqs) (acc : Extra),
      ((∀ p ∈ rs, fetchable p.2 = true) → Ends fsem Q (c (some (acc ++ fetchedOf cl rs))) cl b) →
      Ends fsem Q (fetchAll rs acc c) cl b := by
  intro rs
  induction rs with
  | nil => exact fun acc hok => List.append_nil acc ▸ hok (fun _ h => nomatch h)
  | cons p rest ih =>
    intro acc hok
    refine ends_fetchP cl p.2 _ b herr fun hf => ih _ fun hall => ?_
    rw [List.append_assoc]
    exact hok (List.forall_mem_cons.mpr ⟨hf, hall⟩)

/-- What `RunFunction` has established when it returns `res` (the parameters are `runFunctionP`'s): at most
`fuel` more requests were sent; if a read was answered with an error (`faulted`), `res` is the error; and an
answer `rsp` is the function's answer to the last request, reached through `Rounds` (every requirement
fetched, every request carrying exactly the cluster's answer to the requirements before it), and `rsp` is
fatal or its requirements EQUAL those of the previous round. -/
def Returned (f : XFn) (order : Reqs → Reqs) (cl : List ClusterObj) (fuel : Nat) (req : Request) (prev : Option Reqs)
    (tr : List Request) (faulted : Bool) (res : List Request × RunResult) : Prop :=
  res.1.length ≤ tr.length + fuel ∧ (faulted = true → res.2 = .err) ∧
  ∀ rsp, res.2 = .ok rsp → ∃ n rq pv, Rounds f cl order n req prev rq pv ∧ f rq = some rsp ∧
    (hasFatal rsp.base.results = true ∨ rsp.reqs = pv) ∧ n < fuel ∧ res.1.length = tr.length + n + 1

theorem length_snoc_le (tr : List Request) (req : Request) (fuel : Nat) :
    (tr ++ [req]).length ≤ tr.length + (fuel + 1) := by
  rw [List.length_append]
  exact Nat.add_le_add_left (Nat.succ_le_succ (Nat.zero_le _)) _

theorem returned_err {f : XFn} {order : Reqs → Reqs} {cl : List ClusterObj} {fuel : Nat} {req : Request}
    {prev : Option Reqs} {tr : List Request} (b : Bool) :
    Returned f order cl (fuel + 1) req prev tr b (tr ++ [req], .err) :=
  ⟨length_snoc_le tr req fuel, fun _ => rfl,
    fun _ h => nomatch h⟩

theorem returned_ok {f : XFn} {order : Reqs → Reqs} {cl : List ClusterObj} {fuel : Nat} {req : Request}
    {prev : Option Reqs} {tr : List Request} {rsp : Rsp} (hf : f req = some rsp)
    (h : hasFatal rsp.base.results = true ∨ rsp.reqs = prev) :
    Returned f order cl (fuel + 1) req prev tr false (tr ++ [req], .ok rsp) :=
  ⟨length_snoc_le tr req fuel, (fun h => nomatch h),
    fun _ e => by
      cases e
      exact ⟨0, req, prev, Rounds.here _ _, hf, h, Nat.succ_pos _, List.length_append⟩⟩

theorem Returned.round {f : XFn} {order : Reqs → Reqs} {cl : List ClusterObj} {fuel : Nat} {req : Request}
    {prev : Option Reqs} {tr : List Request} {rsp : Rsp} (hf : f req = some rsp)
    (hfat : hasFatal rsp.base.results = false) (hne : rsp.reqs ≠ prev)
    (hall : ∀ p ∈ order (rsp.reqs.getD []), fetchable p.2 = true) {b : Bool} {res : List Request × RunResult}
    (h : Returned f order cl fuel
      { req with extra := fetchedOf cl (order (rsp.reqs.getD [])), ctx := rsp.base.ctx } rsp.reqs (tr ++ [req]) b res) :
    Returned f order cl (fuel + 1) req prev tr b res := by
  obtain ⟨hb, herr, hok⟩ := h
  rw [List.length_append, List.length_singleton, Nat.add_right_comm] at hb
  refine ⟨hb, herr, fun r hr => ?_⟩
  obtain ⟨n, rq, pv, hr, hfr, hacc, hn, hlen⟩ := hok r hr
  rw [List.length_append, List.length_singleton, Nat.add_right_comm tr.length 1 n] at hlen
  exact ⟨n + 1, rq, pv, Rounds.next rsp hf hfat hne hall hr, hfr, hacc, Nat.succ_lt_succ hn, hlen⟩

theorem ends_runFunctionP (f : XFn) (order : Reqs → Reqs) (cl : List ClusterObj) (fuel : Nat) (req : Request)
    (prev : Option Reqs) (tr : List Request) :
    Ends fsem (Returned f order cl fuel req prev tr) (runFunctionP f order fuel req prev tr) cl false := by
  fun_induction runFunctionP f order fuel req prev tr with
  | case1 => exact ⟨Nat.le_refl _, (fun h => nomatch h), fun _ h => nomatch h⟩   -- no call left
  | case2 => exact returned_err _   -- the function errs
  | case3 _ _ _ _ _ hf hfat => exact returned_ok hf (Or.inl hfat)   -- a fatal result
  | case4 _ _ _ _ hf => exact returned_ok hf (Or.inr rfl)   -- the requirements of the round before
  | case5 _ _ _ _ _ hf hfat hst ih =>   -- another round, if every requirement is fetched
    refine ends_fetchAll cl _ false ?_ _ [] fun hall => ?_
    · exact returned_err
    exact Ends.mono (fun _ _ => Returned.round hf (Bool.eq_false_iff.mpr hfat) hst hall) _ _ _ (ih _)

theorem returned_of_run (f : XFn) (order : Reqs → Reqs) (cl : List ClusterObj) (fuel : Nat) (req : Request)
    (prev : Option Reqs) (tr : List Request) (plan : Plan) (k : Nat) {res : List Request × RunResult}
    (h : (run fsem plan k (runFunctionP f order fuel req prev tr) cl).2 = some res) :
    ∃ faulted, Returned f order cl fuel req prev tr faulted res ∧
      ((∃ e ∈ callLog fsem plan k (runFunctionP f order fuel req prev tr) cl, e.2.1 = .fail ∨ e.2.1 = .conflict) →
        faulted = true) :=
  (Ends.run plan _ k cl false (ends_runFunctionP f order cl fuel req prev tr) _ h).imp fun _ h => ⟨h.1, h.2.2⟩

theorem rounds_prev {f : XFn} {cl : List ClusterObj} {order : Reqs → Reqs} {n : Nat} {req rq : Request} {prev pv : Option Reqs}
    (h : Rounds f cl order n req prev rq pv) : n = 0 ∧ pv = prev ∨ ∃ rq0 rsp0, f rq0 = some rsp0 ∧ rsp0.reqs = pv ∧
      hasFatal rsp0.base.results = false := by
  induction h with
  | here req prev => exact Or.inl ⟨rfl, rfl⟩
  | next rsp hf hfat _ _ _ ih =>
    rcases ih with ⟨_, rfl⟩ | h
    · exact Or.inr ⟨_, rsp, hf, rfl, hfat⟩
    · exact Or.inr h

/-- selectors of the C04 model that name at most one way of matching -/
def WFSel (s : Xp.C04.Sel) : Prop := s.name ≠ "" → s.labels = []

/-- requirements on which the translation `ofReqs` of Model/C03 loses nothing (`ofReqs_inj`): C04's `Sel` has a name and
labels side by side, C03's `Selector` one way of matching -/
def WFReqs (l : List (String × Xp.C04.Sel)) : Prop := ∀ p ∈ l, WFSel p.2

theorem ofSel_inj {s t : Xp.C04.Sel} (hs : WFSel s) (ht : WFSel t) (h : ofSel s = ofSel t) : s = t := by
  obtain ⟨sk, sn, sl⟩ := s
  obtain ⟨tk, tn, tl⟩ := t
  simp only [WFSel] at hs ht
  simp only [ofSel] at h
  by_cases h1 : sn = ""
  · by_cases h2 : tn = ""
    · -- both match by labels
      rw [if_neg (fun hn => hn h1), if_neg (fun hn => hn h2)] at h
      cases h
      rw [h1, h2]
    · rw [if_neg (fun hn => hn h1), if_pos h2] at h
      cases h
  · by_cases h2 : tn = ""
    · rw [if_pos h1, if_neg (fun hn => hn h2)] at h
      cases h
    · -- both match by name: neither carries labels
      rw [if_pos h1, if_pos h2] at h
      cases h
      rw [hs h1, ht h1]

theorem ofReqs_inj {a b : List (String × Xp.C04.Sel)} (ha : WFReqs a) (hb : WFReqs b) (h : ofReqs a = ofReqs b) : a = b := by
  unfold ofReqs at h
  by_cases h1 : a = []
  · by_cases h2 : b = []
    · rw [h1, h2]
    · rw [if_pos h1, if_neg h2] at h
      cases h
  · by_cases h2 : b = []
    · rw [if_neg h1, if_pos h2] at h
      cases h
    · rw [if_neg h1, if_neg h2] at h
      replace h := Option.some.inj h
      clear h1 h2
      induction a generalizing b with
      | nil =>
        cases b with
        | nil => rfl
        | cons y ys => cases h
      | cons x xs ih =>
        cases b with
        | nil => cases h
        | cons y ys =>
          rw [List.map_cons, List.map_cons] at h
          obtain ⟨hxy, hrest⟩ := List.cons.inj h
          obtain ⟨hname, hsome⟩ := Prod.mk.inj hxy
          have hsel : x.2 = y.2 := ofSel_inj (ha x (List.mem_cons_self ..)) (hb y (List.mem_cons_self ..))
            (Option.some.inj hsome)
          rw [Prod.ext hname hsel,
            ih (fun p hp => ha p (List.mem_cons_of_mem _ hp)) (fun p hp => hb p (List.mem_cons_of_mem _ hp)) hrest]

theorem getD_ofReqs (l : List (String × Xp.C04.Sel)) :
    (ofReqs l).getD [] = l.map fun p => (p.1, some (ofSel p.2)) := by
  unfold ofReqs
  split
  · rename_i h
    rw [h]
    rfl
  · rfl

theorem okVal_fetchP {α : Type} (cl : List ClusterObj) (sel : Selector) (c : Option Fetched → Prog FReq FResp α)
    (hf : fetchable (some sel) = true) :
    okVal fsem (fetchP (some sel) c) cl = okVal fsem (c (some (fetchVal cl sel))) cl := by
  obtain ⟨kind, m⟩ := sel
  cases m with
  | name n =>
    rw [fetchP, okVal_call, fsem_exec, fexec_getExtra, fetchVal_name]
    generalize cl.any (fun o => o.kind = kind ∧ o.name = n) = found
    cases found with
    | false => rfl
    | true => rfl
  | labels ls => rfl
  | unset => cases hf

theorem okVal_fetchAll {α : Type} (cl : List ClusterObj) (c : Option Extra → Prog FReq FResp α) :
    ∀ (l : List (String × Xp.C04.Sel)) (acc : Extra),
      okVal fsem (fetchAll (l.map fun p => (p.1, some (ofSel p.2))) acc c) cl =
        okVal fsem (c (some (acc ++ l.map fun p => (p.1, Xp.C04.fetch cl p.2)))) cl := by
  intro l
  induction l with
  | nil => exact fun acc => (List.append_nil acc).symm ▸ rfl
  | cons p rest ih =>
    intro acc
    have hsel : fetchable (some (ofSel p.2)) = true := by
      unfold ofSel
      split <;> rfl
    have hval : fetchVal cl (ofSel p.2) = Xp.C04.fetch cl p.2 := by
      unfold ofSel Xp.C04.fetch
      split <;> rfl
    rw [List.map_cons, fetchAll, okVal_fetchP cl _ _ hsel, hval]
    exact (ih _).trans (by rw [List.map_cons, List.append_assoc]; rfl)

/-- the outcome of C04's `runFetching` as a result of `runFunctionP`: the response with its requirements translated, as `liftFn` does -/
def liftOutcome : Xp.C04.Outcome → RunResult
  | .ok r => .ok ⟨r, ofReqs r.reqs⟩
  | .err => .err

theorem okVal_runFunctionP (f : Xp.C04.Fn) (hwf : ∀ rq r, f rq = some r → WFReqs r.reqs) (cl : List ClusterObj)
    (fuel : Nat) (req : Request) (prev : List (String × Xp.C04.Sel)) (tr : List Request) (hprev : WFReqs prev) :
    okVal fsem (runFunctionP (liftFn f) id fuel req (ofReqs prev) tr) cl =
      (tr ++ (Xp.C04.runFetching cl f fuel req prev).1, liftOutcome (Xp.C04.runFetching cl f fuel req prev).2) := by
  fun_induction Xp.C04.runFetching cl f fuel req prev generalizing tr with
  | case1 =>   -- no call left
    rw [runFunctionP, List.append_nil]
    rfl
  | case2 _ _ _ hf =>   -- the function errs
    rw [runFunctionP, liftFn, hf]
    rfl
  | case3 _ _ _ _ hf hfat =>   -- a fatal result
    rw [runFunctionP, liftFn, hf]
    dsimp only [Option.map_some]
    rw [if_pos hfat]
    rfl
  | case4 _ _ _ hf hfat =>   -- the requirements of the round before
    rw [runFunctionP, liftFn, hf]
    dsimp only [Option.map_some]
    rw [if_neg hfat, if_pos rfl]
    rfl
  | case5 _ _ _ _ hf hfat hst _ _ ih =>   -- another round: every requirement of a C04 function is fetched
    have hw := hwf _ _ hf
    rw [runFunctionP, liftFn, hf]
    dsimp only [Option.map_some]
    rw [if_neg hfat, if_neg fun h => hst (ofReqs_inj hw hprev h), id, getD_ofReqs, okVal_fetchAll]
    exact (ih _ hw).trans (by rw [List.append_assoc]; rfl)

end Xp.C03
