import Xp.Proofs.C16Evolve
import Xp.Proofs.C16None
import Xp.Proofs.C16Phase
/-
C16: ReleaseObjects, in the world of `Model/C16World.lean` (third-party writes before the Get of
a reference's goroutine and between that Get and its Update); `release` of `Model/C16.lean` is the
case `RInterf.none`.

The Update of a goroutine carries the resourceVersion its Get returned, so — whatever the third
party did in between — it can only replace the very object that Get read; what it writes is that
object with the revision's entry flipped (`QR`). Everything else in the store is the third party's.
-/
namespace Xp.C16

variable (rejects : Obj → Bool) (fault : Fault) (ri : RInterf) (p : Parent) (ran : Nat → Bool)

/-- what ReleaseObjects of parent `p` may do to an object -/
structure QR (p : Parent) (o o' : Obj) : Prop where
  key : o'.key = o.key
  body : o'.body = o.body
  /-- no owner entry is dropped: Kubernetes GC has no reason to collect the object -/
  uids : ∀ u, hasUid o.owners u → hasUid o'.owners u
  /-- nobody becomes controller -/
  ctrls : ∀ u, ctrl o'.owners u → ctrl o.owners u
  /-- the parent is (still) an owner … -/
  mine : hasUid o'.owners p.uid
  /-- … but its (first) entry is no controller reference any more -/
  released : ∀ r, o'.owners.find? (fun r => r.uid = p.uid) = some r → r.isCtrl = false

theorem QR.trans (a b c : Obj) (h1 : QR p a b) (h2 : QR p b c) : QR p a c where
  key := h2.key.trans h1.key
  body := h2.body.trans h1.body
  uids := fun u h => h2.uids u (h1.uids u h)
  ctrls := fun u h => h1.ctrls u (h2.ctrls u h)
  mine := h2.mine
  released := h2.released

theorem releaseSub_some {cur sub : Obj} (h : releaseSub p cur = some sub) :
    ∃ r, r.uid = p.uid ∧ r.isCtrl = false ∧ sub = { cur with owners := addOwner cur.owners r } := by
  revert h
  fun_cases releaseSub p cur with
  | case1 r hr _ =>      -- its first entry is a controller reference: flipped
    exact fun h => by
      cases h
      exact ⟨{ r with controller := some false }, by simpa using List.find?_some hr, rfl,
        by rw [flipFirst_eq_addOwner hr]⟩
  | case2 => nofun      -- it is not one: nothing to do
  | case3 hnone =>      -- the revision has no entry: a plain one is appended
    exact fun h => by cases h; exact ⟨asOwner p, rfl, rfl, by rw [addOwner_eq_append hnone]⟩

theorem releaseSub_QR {cur sub : Obj} (n : Nat) (h : releaseSub p cur = some sub) :
    QR p cur { sub with rv := n } := by
  obtain ⟨r, hu, hc, rfl⟩ := releaseSub_some p h
  exact ⟨rfl, rfl, fun u h => hasUid_addOwner _ _ _ h, fun u h => ctrl_addOwner_of_not _ _ _ hc h,
    ⟨r, mem_addOwner_self _ _, hu⟩, fun x hx => by
      rw [← hu, find_addOwner_self] at hx
      cases hx
      exact hc⟩

theorem releaseSub_key {cur sub : Obj} (h : releaseSub p cur = some sub) :
    sub.key = cur.key ∧ sub.rv = cur.rv := by
  obtain ⟨_, _, _, rfl⟩ := releaseSub_some p h
  exact ⟨rfl, rfl⟩

theorem releaseSub_none {cur : Obj} (h : releaseSub p cur = none) :
    hasUid cur.owners p.uid ∧ NotCtrlBy cur p.uid := by
  revert h
  fun_cases releaseSub p cur with
  | case2 r hr hc =>      -- the revision's first entry is no controller reference
    refine fun _ => ⟨⟨r, List.mem_of_find?_eq_some hr, by simpa using List.find?_some hr⟩, fun r' hr' => ?_⟩
    rw [hr] at hr'
    cases hr'
    simpa using hc
  | _ => nofun

/-- the third party's puts during one ReleaseObjects call -/
def RInterf.Puts (ri : RInterf) (a : Obj) : Prop := ∃ i, Act.put a ∈ ri.get i ∨ Act.put a ∈ ri.upd i

variable (s : Store) (refs : List Ref) (order : List Nat)

theorem releaseOneV_spec (i : Nat) (ref : Ref) :
    (∃ r, r ≠ .ok () ∧ releaseOneV rejects fault ri p ran s i ref = (s, r)) ∨
    (∃ r, releaseOneV rejects fault ri p ran s i ref = (applyActs s (ri.get i), r) ∧
      (r = .ok () → ∀ cur, (applyActs s (ri.get i)).get ref.key = some cur → releaseSub p cur = none)) ∨
    (∃ cur sub, (applyActs s (ri.get i)).get ref.key = some cur ∧ releaseSub p cur = some sub ∧
      releaseOneV rejects fault ri p ran s i ref =
        liftW () (apiUpdate rejects false (fault i .real) (applyActs (applyActs s (ri.get i)) (ri.upd i)) sub)) := by
  fun_cases releaseOneV rejects fault ri p ran s i ref with
  | case1 | case2 => exact Or.inl ⟨_, by nofun, rfl⟩      -- no kind; cancelled
  | case7 _ _ _ _ hget =>      -- the object is absent
    exact Or.inr (Or.inl ⟨_, rfl, fun _ cur hc => by rw [hget] at hc; cases hc⟩)
  | case8 _ _ _ _ cur hget hsub =>      -- it needs no change
    exact Or.inr (Or.inl ⟨_, rfl, fun _ cur' hc => by rw [hget] at hc; cases hc; exact hsub⟩)
  | case9 _ _ _ _ cur hget sub hsub => exact Or.inr (Or.inr ⟨cur, sub, hget, hsub, rfl⟩)
  | _ => exact Or.inr (Or.inl ⟨_, rfl, nofun⟩)      -- a fault at the Get

/-- an object after ReleaseObjects in the world: some `b` — an object of the initial store
or one the third party put — either untouched or rewritten by ReleaseObjects within `QR` -/
def RGood (p : Parent) (P : Obj → Prop) (l₀ : List Obj) (o' : Obj) : Prop :=
  ∃ b, (b ∈ l₀ ∨ PutBy P b) ∧ (o' = b ∨ QR p b o')

/-- as `IInv`, for ReleaseObjects: every object classified by `RGood` -/
structure RVInv (p : Parent) (P : Obj → Prop) (s₀ s : Store) : Prop where
  wf : WF s
  frozen : Frozen s₀ s
  objs : ∀ o' ∈ s.objs, RGood p P s₀.objs o'

theorem RVInv.refl (P : Obj → Prop) (s : Store) (hw : WF s) : RVInv p P s s :=
  ⟨hw, Frozen.refl s, fun o h => ⟨o, Or.inl h, Or.inl rfl⟩⟩

theorem RVInv.acts {p : Parent} {P : Obj → Prop} {s₀ s : Store} (hi : RVInv p P s₀ s) (as : List Act)
    (hP : ∀ o, Act.put o ∈ as → P o) : RVInv p P s₀ (applyActs s as) :=
  ⟨applyActs_wf s as hi.wf, hi.frozen.trans (applyActs_frozen s as),
    applyActs_objs _ P s as hP (fun o n h => ⟨{ o with rv := n }, Or.inr ⟨o, h, rfl, rfl, rfl⟩, Or.inl rfl⟩) hi.objs⟩

theorem releaseOneV_inv (s₀ s : Store) (i : Nat) (ref : Ref) (hi : RVInv p ri.Puts s₀ s) :
    RVInv p ri.Puts s₀ (releaseOneV rejects fault ri p ran s i ref).1 := by
  have h1 : RVInv p ri.Puts s₀ (applyActs s (ri.get i)) := hi.acts _ fun _ h => ⟨i, Or.inl h⟩
  have h2 := h1.acts (ri.upd i) fun _ h => ⟨i, Or.inr h⟩
  rcases releaseOneV_spec rejects fault ri p ran s i ref with ⟨_, _, h⟩ | ⟨_, h, _⟩ | ⟨cur, sub, hget, hsub, h⟩ <;> rw [h]
  · exact hi
  · exact h1
  · rw [liftW_fst]
    have he := apiUpdate_effect rejects false (fault i .real) (applyActs (applyActs s (ri.get i)) (ri.upd i)) sub
    refine ⟨effect_wf (Or.inr he) h2.wf, h2.frozen.trans (effect_frozen (Or.inr he)), fun o' ho' => ?_⟩
    rcases he.mem o' ho' with hm | ⟨rfl, c, g1, g2, _⟩
    · exact h2.objs o' hm
    · -- the object replaced is the object the Get of this goroutine read
      have ⟨hsk, hsrv⟩ := releaseSub_key p hsub
      have hcm := get_mem g1
      obtain ⟨rfl, _⟩ := (Seen.of_mem h1.wf (get_mem hget)).hit (applyActs_frozen _ _) hcm
        ((get_key g1).trans hsk) (g2.trans hsrv)
      have hq := releaseSub_QR p (applyActs (applyActs s (ri.get i)) (ri.upd i)).nextRv hsub
      obtain ⟨b, hb, hr⟩ := h2.objs c hcm
      exact ⟨b, hb, Or.inr (hr.elim (fun e => e ▸ hq) fun q => QR.trans p _ _ _ q hq)⟩

theorem releaseV_inv (hw : WF s) :
    RVInv p ri.Puts s (releaseV rejects fault ri p ran s refs order).1 :=
  releaseAllV_ind rejects fault ri p ran (RVInv p ri.Puts s) _ s (RVInv.refl p _ s hw) fun s' i k _ h =>
    releaseOneV_inv rejects fault ri p ran s s' i k h

theorem releaseV_log :
    LogExt false s.log (releaseV rejects fault ri p ran s refs order).1.log := by
  refine releaseAllV_ind rejects fault ri p ran (fun s' => LogExt false s.log s'.log) _ s (LogExt.refl _ _)
    fun s' i k _ h => h.trans ?_
  rcases releaseOneV_spec rejects fault ri p ran s' i k with ⟨_, _, h⟩ | ⟨_, h, _⟩ | ⟨_, sub, _, _, h⟩ <;> rw [h]
  · exact LogExt.refl _ _
  · rw [applyActs_log]; exact LogExt.refl _ _
  · have := apiUpdate_ext false rejects false (fault i .real) (applyActs (applyActs s' (ri.get i)) (ri.upd i)) sub
    rwa [applyActs_log, applyActs_log, ← liftW_fst ()] at this

/-- every stored object with key `k` is the third party's, or has `p` as an owner whose
(first) entry is no controller reference -/
def ReleasedOrThird (p : Parent) (P : Obj → Prop) (k : String) (l : List Obj) : Prop :=
  ∀ o' ∈ l, o'.key = k → PutBy P o' ∨ (hasUid o'.owners p.uid ∧ NotCtrlBy o' p.uid)

theorem releaseOneV_ok (s s' : Store) (i : Nat) (ref : Ref) (hw : WF s)
    (h : releaseOneV rejects fault ri p ran s i ref = (s', .ok ())) :
    ∀ o' ∈ s'.objs, o'.key = ref.key → hasUid o'.owners p.uid ∧ NotCtrlBy o' p.uid := by
  have hw1 : WF (applyActs s (ri.get i)) := applyActs_wf _ _ hw
  intro o' ho' hk
  rcases releaseOneV_spec rejects fault ri p ran s i ref with ⟨r, hr, e⟩ | ⟨r, e, hnone⟩ | ⟨cur, sub, hget, hsub, e⟩ <;>
    rw [e] at h
  · cases h; exact absurd rfl hr
  · cases h
    have hg : (applyActs s (ri.get i)).get ref.key = some o' := by
      cases hg : (applyActs s (ri.get i)).get ref.key with
      | none => exact absurd hk (get_none hg o' ho')
      | some c => rw [hw1.keys c (get_mem hg) o' ho' ((get_key hg).trans hk.symm)]
    exact releaseSub_none p (hnone rfl o' hg)
  · obtain ⟨c, hget', rfl⟩ := apiUpdate_ok (liftW_eq_ok h).1
    have hsk := (releaseSub_key p hsub).1
    have hq := releaseSub_QR p 0 hsub
    unfold NotCtrlBy
    rw [replaceObj_owners none (applyActs_wf _ _ hw1) hget' o' ho'
      (hk.trans ((get_key hget).symm.trans hsk.symm))]
    exact ⟨hq.mine, hq.released⟩

/-- `ReleasedOrThird` holds when the goroutine of the reference ends (`releaseOneV_ok`), and whatever
the goroutines after it rewrite is released as well (`QR`). -/
theorem releaseAllV_ok {s s' : Store} {xs : List (Nat × Ref)} (hw : WF s)
    (h : releaseAllV rejects fault ri p ran s xs = (s', .ok ())) : ∀ x ∈ xs, ReleasedOrThird p ri.Puts x.2.key s'.objs := by
  rw [releaseAllV_eq] at h
  have one := fun s i k (hw : WF s) =>
    releaseOneV_inv rejects fault ri p ran s s i k (RVInv.refl p _ s hw)
  refine phase_ok WF (fun x s => ReleasedOrThird p ri.Puts x.2.key s.objs) (fun s i k _ hw => (one s i k hw).wf)
    (fun s i k s1 _ _ hw h1 o' ho' hk => Or.inr (releaseOneV_ok rejects fault ri p ran s s1 i k hw h1 o' ho' hk))
    (fun x s i k _ hw hx o' ho' hk => ?_) hw h
  obtain ⟨b, hb, hr⟩ := (one s i k hw).objs o' ho'
  rcases hr with rfl | q
  · exact hb.elim (fun hb => hx o' hb hk) Or.inl
  · exact Or.inr ⟨q.mine, q.released⟩

theorem releaseV_ok {s s' : Store} {refs : List Ref} {order : List Nat} (hw : WF s)
    (h : releaseV rejects fault ri p ran s refs order = (s', .ok ()))
    (j : Nat) (k : Ref) (hk : refs[j]? = some k) (hj : j ∈ order) : ReleasedOrThird p ri.Puts k.key s'.objs :=
  releaseAllV_ok rejects fault ri p ran hw h (j, k) (mem_pick hk hj)

theorem releaseV_released {s s' : Store} {refs : List Ref} {order : List Nat} (hw : WF s)
    (hl : ∀ o ∈ s.objs, ctrl o.owners p.uid → ∃ k ∈ refs, k.key = o.key)
    (ho : ∀ j, j < refs.length → j ∈ order)
    (h : releaseV rejects fault ri p ran s refs order = (s', .ok ())) :
    ∀ o' ∈ s'.objs, PutBy ri.Puts o' ∨ NotCtrlBy o' p.uid := by
  have hinv := releaseV_inv rejects fault ri p ran s refs order hw
  rw [h] at hinv
  intro o' ho'
  obtain ⟨b, hb, hrw⟩ := hinv.objs o' ho'
  rcases hrw with rfl | q
  · rcases hb with hb | hb
    · by_cases hc : ctrl o'.owners p.uid
      · obtain ⟨k, hkm, hkk⟩ := hl o' hb hc
        obtain ⟨j, hj, hjk⟩ := List.getElem_of_mem hkm
        exact (releaseV_ok rejects fault ri p ran hw h j k (by rw [List.getElem?_eq_getElem hj, hjk]) (ho j hj)
          o' ho' hkk.symm).imp id (·.2)
      · exact Or.inr (notCtrlBy_of_not_ctrl o' p.uid hc)
    · exact Or.inl hb
  · exact Or.inr q.released

/-- carried through ReleaseObjects when nobody interferes: nothing appears, nothing disappears -/
structure RInv (p : Parent) (s₀ s : Store) : Prop where
  wf : WF s
  ev : Evolves (QR p) (fun _ => False) s₀.objs s.objs

theorem RInv.refl (s : Store) (hw : WF s) : RInv p s s := ⟨hw, Evolves.refl _ _ _⟩

theorem releaseOne_inv (s₀ s : Store) (i : Nat) (ref : Ref) (hi : RInv p s₀ s) :
    RInv p s₀ (releaseOne rejects fault p ran s i ref).1 := by
  rw [← releaseOneV_none]
  rcases releaseOneV_spec rejects fault RInterf.none p ran s i ref with ⟨_, _, h⟩ | ⟨_, h, _⟩ | ⟨cur, sub, hget, hsub, h⟩ <;>
    rw [h]
  · exact hi
  · exact hi
  · rw [liftW_fst]
    have hget : s.get ref.key = some cur := hget
    have he := apiUpdate_effect rejects false (fault i .real) s sub
    refine ⟨effect_wf (Or.inr he) hi.wf, Evolves.trans (QR.trans p) (fun a b h _ => h) hi.ev
      (ueffect_evolves _ _ s _ sub he hi.wf fun c hc _ _ => ?_)⟩
    rw [(releaseSub_key p hsub).1, get_key hget, hget] at hc
    cases hc
    exact releaseSub_QR p s.nextRv hsub

theorem release_inv (hw : WF s) :
    RInv p s (release rejects fault p ran s refs order).1 := by
  rw [← releaseV_none]
  exact releaseAllV_ind rejects fault RInterf.none p ran (RInv p s) _ s (RInv.refl p s hw) fun s' i k _ h =>
    releaseOne_inv rejects fault p ran s s' i k h

end Xp.C16
