import Xp.Model.C17
import Xp.Base.List
/-
C17: what `init` (MapDag.Init / MapUpgradingDag.Init) builds from the lock contents, in closed form
(`init_core`): up to parent constraints, the lock packages' nodes followed by one `*Dependency` node
per dependency absent from the lock. The form is carried over the edges once (`Grows`); neighbours
(`lockNb`), keys, implied nodes and parent constraints are read off it.
-/
namespace Xp.C17

theorem Dag.has_eq (d : Dag) (id : String) : d.has id = (d.nb id).isSome := by
  unfold Dag.has Dag.nb
  cases d.get id with
  | none => rfl
  | some _ => rfl

theorem Dag.get_some {d : Dag} {id : String} {n : Node} (h : d.get id = some n) : n ∈ d ∧ n.id = id := by
  unfold Dag.get at h
  exact ⟨List.mem_of_find?_eq_some h, by simpa using List.find?_some h⟩

theorem Dag.get_append (d e : Dag) (id : String) : Dag.get (d ++ e) id = (d.get id).or (e.get id) := by
  unfold Dag.get
  rw [List.find?_append]

theorem Dag.nb_append (d e : Dag) (id : String) : Dag.nb (d ++ e) id = (d.nb id).or (e.nb id) := by
  unfold Dag.nb
  rw [Dag.get_append]
  cases d.get id <;> rfl

theorem Dag.get_map_same_id (d : Dag) (f : Node → Node) (hf : ∀ n, (f n).id = n.id) (id : String) :
    Dag.get (d.map f) id = (d.get id).map f := by
  unfold Dag.get
  rw [List.find?_map]
  have : ((fun n : Node => n.id == id) ∘ f) = (fun n => n.id == id) := by
    funext n; simp [Function.comp, hf]
  rw [this]

/-- a node without its parent constraints: all that `get`, `nb`, `has` and the keys look at -/
def Node.core (n : Node) : Node := { n with parents := [] }

theorem Dag.get_core (d : Dag) (id : String) : Dag.get (d.map Node.core) id = (d.get id).map Node.core :=
  Dag.get_map_same_id d Node.core (fun _ => rfl) id

theorem Dag.keys_core (d : Dag) : Dag.keys (d.map Node.core) = d.keys := by
  unfold Dag.keys; rw [List.map_map]; rfl

theorem Dag.nb_core (d : Dag) (id : String) : Dag.nb (d.map Node.core) id = d.nb id := by
  unfold Dag.nb
  rw [Dag.get_core]
  cases d.get id <;> rfl

theorem Dag.has_iff_mem_keys (d : Dag) (id : String) : d.has id = true ↔ id ∈ d.keys := by
  unfold Dag.has Dag.get Dag.keys
  rw [List.find?_isSome]
  simp only [List.mem_map, beq_iff_eq]

theorem Dag.nb_isSome_iff (d : Dag) (id : String) : (d.nb id).isSome = true ↔ id ∈ d.keys := by
  rw [← Dag.has_eq]; exact d.has_iff_mem_keys id

/-- neighbour function read off the lock contents: a lock package points at its dependencies;
a dependency that is not itself a lock package is a node without neighbours -/
def lockNb (pkgs : List Pkg) (id : String) : Option (List String) :=
  match pkgs.find? (fun p => p.source == id) with
  | some p => some (p.deps.map (·.pkg))
  | none => if (pkgs.flatMap (·.deps)).any (fun e => e.pkg == id) then some [] else none

theorem lockNb_closed (pkgs : List Pkg) : Closed (lockNb pkgs) := by
  intro n m h
  unfold Edge lockNb at h
  cases hf : pkgs.find? (fun p => p.source == n) with
  | none =>
    rw [hf] at h
    simp only [] at h
    split at h <;> simp at h
  | some p =>
    rw [hf] at h
    simp only [Option.getD_some, List.mem_map] at h
    obtain ⟨e, he, rfl⟩ := h
    have hp : p ∈ pkgs := List.mem_of_find?_eq_some hf
    unfold lockNb
    cases pkgs.find? (fun p => p.source == e.pkg) with
    | some _ => rfl
    | none =>
      have : (pkgs.flatMap (·.deps)).any (fun x => x.pkg == e.pkg) = true := by
        rw [List.any_eq_true]
        exact ⟨e, List.mem_flatMap.2 ⟨p, hp, he⟩, by simp⟩
      simp [this]

theorem addNodes_spec : ∀ (ns : List Node) (d0 d : Dag), addNodes d0 ns = .ok d →
    d = d0 ++ ns ∧ (d0.keys.Nodup → d.keys.Nodup)
  | [], d0, d, h => by cases h; exact ⟨(List.append_nil _).symm, id⟩
  | n :: rest, d0, d, h => by
    unfold addNodes addNode at h
    by_cases hhas : d0.has n.id = true
    · rw [if_pos hhas] at h; cases h
    · rw [if_neg hhas] at h
      obtain ⟨rfl, hn⟩ := addNodes_spec rest _ d h
      refine ⟨by simp, fun h0 => hn ?_⟩
      unfold Dag.keys
      rw [List.map_append, List.nodup_append]
      refine ⟨h0, by simp, fun a ha b hb e => hhas ((d0.has_iff_mem_keys _).2 ?_)⟩
      cases List.mem_singleton.1 hb
      exact (show a = n.id from e) ▸ ha

theorem keys_pkgNodes (pkgs : List Pkg) : Dag.keys (pkgs.map pkgNode) = pkgs.map (·.source) := by
  unfold Dag.keys; rw [List.map_map]; rfl

theorem get_pkgNodes (pkgs : List Pkg) (id : String) :
    Dag.get (pkgs.map pkgNode) id = (pkgs.find? (fun p => p.source == id)).map pkgNode := by
  unfold Dag.get
  rw [List.find?_map]
  rfl

theorem nb_pkgNodes (pkgs : List Pkg) (id : String) :
    Dag.nb (pkgs.map pkgNode) id = (pkgs.find? (fun p => p.source == id)).map (fun p => p.deps.map (·.pkg)) := by
  unfold Dag.nb
  rw [get_pkgNodes]
  cases pkgs.find? (fun p : Pkg => p.source == id) <;> rfl

theorem nb_depNodes : ∀ (l : List Dep) (id : String),
    Dag.nb (l.map depNode) id = if l.any (fun e => e.pkg == id) then some [] else none
  | [], _ => rfl
  | e :: l, id => by
    have ih := nb_depNodes l id
    unfold Dag.nb Dag.get at ih ⊢
    simp only [List.map_cons, List.find?_cons, List.any_cons, depNode] at ih ⊢
    by_cases hb : (e.pkg == id) = true
    · simp only [hb]; rfl
    · simp only [hb]; exact ih

theorem addEdge_cases {o : Oracle} {upg : Bool} {d d' : Dag} {frm : String} {to : Dep} {i : Bool}
    (h : addEdge o upg d frm to = .ok (d', i)) :
    ∃ f, d.get frm = some f ∧
      ((d.get to.pkg = none ∧ i = true ∧ ∃ ps, d' = d ++ [{ depNode to with parents := ps }]) ∨
       (d.has to.pkg = true ∧
          ((upg = true ∧ d' = addParents d to.pkg (neighborCons f to.pkg)) ∨ (upg = false ∧ d' = d ∧ i = false)))) := by
  unfold addEdge at h
  cases hf : d.get frm with
  | none => rw [hf] at h; cases h
  | some f =>
    rw [hf] at h
    refine ⟨f, rfl, ?_⟩
    dsimp only at h
    cases hg : d.get to.pkg with
    | none =>
      rw [hg] at h
      cases h
      exact .inl ⟨rfl, rfl, _, rfl⟩
    | some org =>
      rw [hg] at h
      dsimp only at h
      refine .inr ⟨by unfold Dag.has; rw [hg]; rfl, ?_⟩
      cases upg with
      | false =>
        rw [if_neg nofun] at h
        cases h
        exact .inr ⟨rfl, rfl, rfl⟩
      | true =>
        refine .inl ⟨rfl, ?_⟩
        rw [if_pos rfl] at h
        by_cases hv : (!validCon o org.con to.con) = true
        · rw [if_pos hv] at h; cases h; rfl
        · rw [if_neg hv] at h; cases h; rfl

/-- the targets among `es` that are absent from `ks`, each at its first mention -/
def fresh : List String → List Dep → List Dep
  | _, [] => []
  | ks, e :: es => if ks.contains e.pkg then fresh ks es else e :: fresh (ks ++ [e.pkg]) es

theorem fresh_append : ∀ (es1 es2 : List Dep) (ks : List String),
    fresh ks (es1 ++ es2) = fresh ks es1 ++ fresh (ks ++ (fresh ks es1).map (·.pkg)) es2
  | [], es2, ks => by simp [fresh]
  | e :: es1, es2, ks => by
    simp only [List.cons_append, fresh]
    split
    · exact fresh_append es1 es2 ks
    · rw [fresh_append es1 es2]; simp

theorem mem_fresh : ∀ (es : List Dep) (ks : List String) (x : String),
    x ∈ (fresh ks es).map (·.pkg) ↔ x ∉ ks ∧ x ∈ es.map (·.pkg)
  | [], ks, x => by simp [fresh]
  | e :: es, ks, x => by
    unfold fresh
    by_cases hc : ks.contains e.pkg = true
    · rw [if_pos hc, mem_fresh es ks x]
      have : e.pkg ∈ ks := List.contains_iff_mem.1 hc
      simp only [List.map_cons, List.mem_cons]
      constructor
      · exact fun ⟨a, b⟩ => ⟨a, .inr b⟩
      · rintro ⟨a, b | b⟩
        · exact absurd (b ▸ this) a
        · exact ⟨a, b⟩
    · rw [if_neg hc]
      have hn : e.pkg ∉ ks := fun h => hc (List.contains_iff_mem.2 h)
      simp only [List.map_cons, List.mem_cons, mem_fresh es (ks ++ [e.pkg]) x, List.mem_append, List.not_mem_nil, or_false, not_or]
      constructor
      · rintro (rfl | ⟨⟨a, _⟩, b⟩)
        · exact ⟨hn, .inl rfl⟩
        · exact ⟨a, .inr b⟩
      · rintro ⟨a, b | b⟩
        · exact .inl b
        · by_cases hx : x = e.pkg
          · exact .inl hx
          · exact .inr ⟨⟨a, hx⟩, b⟩

theorem fresh_nodup : ∀ (es : List Dep) (ks : List String), ((fresh ks es).map (·.pkg)).Nodup
  | [], _ => by simp [fresh]
  | e :: es, ks => by
    unfold fresh
    split
    · exact fresh_nodup es ks
    · rw [List.map_cons, List.nodup_cons]
      exact ⟨fun h => ((mem_fresh es _ _).1 h).1 (by simp), fresh_nodup es _⟩

/-- The effect of a run of AddEdge calls towards `es` (one AddEdge, the AddEdges of one lock package,
all of Init), in a form that composes: `pc x` are the parent constraints the node under `x` gains.
`imp`, `imp'`: the implied list before and after. It keeps its entries and gains the absent targets (`sup`), and nothing
else unless upgrades are on (`exact`): the upgrading DAG also reports a present node whose version violates the constraint. -/
structure Grows (upg : Bool) (d d' : Dag) (es imp imp' : List Dep) (pc : String → List String) : Prop where
  core : d'.map Node.core = d.map Node.core ++ (fresh d.keys es).map depNode
  sup : ∀ x, x ∈ imp ∨ x ∈ fresh d.keys es → x ∈ imp'
  exact : upg = false → imp' = imp ++ fresh d.keys es
  parents : upg = true → ∀ x n, d.get x = some n → ∃ n', d'.get x = some n' ∧ n'.parents = n.parents ++ pc x

section
variable {upg : Bool} {d d1 d2 : Dag} {es es1 es2 imp imp1 imp2 : List Dep} {pc pc1 pc2 : String → List String}

theorem Grows.keys (g : Grows upg d d1 es imp imp1 pc) : d1.keys = d.keys ++ (fresh d.keys es).map (·.pkg) := by
  rw [← Dag.keys_core d1, g.core]
  unfold Dag.keys
  rw [List.map_append, List.map_map, List.map_map]
  rfl

theorem Grows.get_core (g : Grows upg d d1 es imp imp1 pc) {x : String} {m : Node}
    (h : (d.get x).map Node.core = some m) : (d1.get x).map Node.core = some m := by
  rw [← Dag.get_core, g.core, Dag.get_append, Dag.get_core, h]
  rfl

theorem Grows.congr (g : Grows upg d d1 es imp imp1 pc) (h : ∀ x, pc x = pc1 x) : Grows upg d d1 es imp imp1 pc1 :=
  (funext h : pc = pc1) ▸ g

theorem Grows.refl (upg : Bool) (d : Dag) (imp : List Dep) : Grows upg d d [] imp imp (fun _ => []) :=
  ⟨(List.append_nil _).symm, fun _ h => h.elim id nofun, fun _ => (List.append_nil _).symm,
    fun _ _ n h => ⟨n, h, (List.append_nil _).symm⟩⟩

theorem Grows.trans (g1 : Grows upg d d1 es1 imp imp1 pc1) (g2 : Grows upg d1 d2 es2 imp1 imp2 pc2) :
    Grows upg d d2 (es1 ++ es2) imp imp2 (fun x => pc1 x ++ pc2 x) := by
  have hf : fresh d.keys (es1 ++ es2) = fresh d.keys es1 ++ fresh d1.keys es2 := by rw [fresh_append, g1.keys]
  refine ⟨?_, fun x hx => ?_, fun hu => ?_, fun hu x n hn => ?_⟩
  · rw [g2.core, g1.core, hf, List.map_append, List.append_assoc]
  · rw [hf, List.mem_append] at hx
    rcases hx with h | h | h
    · exact g2.sup x (.inl (g1.sup x (.inl h)))
    · exact g2.sup x (.inl (g1.sup x (.inr h)))
    · exact g2.sup x (.inr h)
  · rw [g2.exact hu, g1.exact hu, hf, List.append_assoc]
  · obtain ⟨n1, h1, e1⟩ := g1.parents hu x n hn
    obtain ⟨n2, h2, e2⟩ := g2.parents hu x n1 h1
    exact ⟨n2, h2, by rw [e2, e1, List.append_assoc]⟩

end

theorem addEdge_grows {o : Oracle} {upg : Bool} {d d' : Dag} {frm : String} {to : Dep} {i : Bool}
    (h : addEdge o upg d frm to = .ok (d', i)) (imp : List Dep) :
    ∃ f, d.get frm = some f ∧
      Grows upg d d' [to] imp (if i then imp ++ [to] else imp) (fun x => if to.pkg == x then neighborCons f x else []) := by
  obtain ⟨f, hf, ⟨hg, rfl, ps, rfl⟩ | ⟨hh, hcase⟩⟩ := addEdge_cases h
  · -- the target is absent: appended and implied; no node that was there has its identifier
    have hfr : fresh d.keys [to] = [to] := by
      have : to.pkg ∉ d.keys := fun hm => by
        have := (d.has_iff_mem_keys _).2 hm
        unfold Dag.has at this; rw [hg] at this; cases this
      simp [fresh, this]
    refine ⟨f, hf, ?_, fun x hx => ?_, fun _ => by rw [hfr]; rfl, fun _ x n hn => ⟨n, by rw [Dag.get_append, hn]; rfl, ?_⟩⟩
    · rw [hfr, List.map_append]; rfl
    · rw [hfr] at hx; exact List.mem_append.2 hx
    · have : (to.pkg == x) = false := Bool.eq_false_iff.2 fun hb => by
        rw [beq_iff_eq.1 hb, hn] at hg; cases hg
      rw [this]; exact (List.append_nil _).symm
  · -- the target is there: the nodes stay, up to the parent constraints the upgrading DAG adds to it
    have hfr : fresh d.keys [to] = [] := by
      simp [fresh, (d.has_iff_mem_keys _).1 hh]
    have hsup : ∀ x, x ∈ imp ∨ x ∈ fresh d.keys [to] → x ∈ (if i then imp ++ [to] else imp) := fun x hx => by
      rw [hfr] at hx
      have := hx.elim id nofun
      split
      · exact List.mem_append_left _ this
      · exact this
    rcases hcase with ⟨hu, rfl⟩ | ⟨hu, rfl, rfl⟩
    · refine ⟨f, hf, ?_, hsup, fun h' => (by rw [hu] at h'; cases h'), fun _ x n hn => ?_⟩
      · rw [hfr, List.map_nil, List.append_nil]
        unfold addParents
        rw [List.map_map]
        exact List.map_congr_left fun n _ => by simp only [Function.comp]; split <;> rfl
      · unfold addParents
        rw [Dag.get_map_same_id _ _ (fun n => by split <;> rfl), hn]
        refine ⟨_, rfl, ?_⟩
        obtain ⟨_, rfl⟩ := Dag.get_some hn
        by_cases hb : to.pkg = n.id
        · simp [hb]
        · simp [hb, Ne.symm hb]
    · exact ⟨f, hf, by rw [hfr]; exact (List.append_nil _).symm, hsup, fun _ => by rw [hfr]; exact (List.append_nil _).symm,
        fun h' => by rw [hu] at h'; cases h'⟩

theorem addEdges_grows (o : Oracle) (upg : Bool) (p : Pkg) :
    ∀ (es : List Dep) (d : Dag) (imp : List Dep) (d' : Dag) (imp' : List Dep),
      addEdges o upg p.source d es imp = .ok (d', imp') → (d.get p.source).map Node.core = some (pkgNode p) →
      Grows upg d d' es imp imp' (fun x => (es.filter (fun e => e.pkg == x)).flatMap fun _ => neighborCons (pkgNode p) x)
  | [], d, imp, d', imp', h, _ => by
    simp only [addEdges, Except.ok.injEq, Prod.mk.injEq] at h
    obtain ⟨rfl, rfl⟩ := h
    exact Grows.refl upg d imp
  | e :: es, d, imp, d', imp', h, hp => by
    unfold addEdges at h
    split at h
    · cases h
    · rename_i d1 i h1
      obtain ⟨f, hf, g1⟩ := addEdge_grows h1 imp
      rw [hf] at hp
      have g2 := addEdges_grows o upg p es d1 _ d' imp' h (g1.get_core (by rw [hf]; exact hp))
      -- `neighborCons` reads only what `core` keeps
      have hnc : ∀ x, neighborCons f.core x = neighborCons (pkgNode p) x := fun x =>
        congrArg (neighborCons · x) (Option.some.inj hp)
      refine (g1.trans g2).congr fun x => ?_
      rw [show neighborCons f x = _ from hnc x, List.filter_cons]
      split <;> rfl

/-- what the upgrading DAG records as ParentConstraints of the lock package `x`: for every lock
package `p`, in lock order, for every dependency entry of `p` on `x`, the constraint of `p`'s
first entry on `x` -/
def lockParents (pkgs : List Pkg) (x : String) : List String :=
  pkgs.flatMap fun p => (p.deps.filter (fun e => e.pkg == x)).flatMap fun _ => neighborCons (pkgNode p) x

theorem initEdges_grows (o : Oracle) (upg : Bool) :
    ∀ (ps : List Pkg) (d : Dag) (imp : List Dep) (d' : Dag) (imp' : List Dep),
      initEdges o upg d ps imp = .ok (d', imp') → (∀ p ∈ ps, (d.get p.source).map Node.core = some (pkgNode p)) →
      Grows upg d d' (ps.flatMap (·.deps)) imp imp' (lockParents ps)
  | [], d, imp, d', imp', h, _ => by
    simp only [initEdges, Except.ok.injEq, Prod.mk.injEq] at h
    obtain ⟨rfl, rfl⟩ := h
    exact Grows.refl upg d imp
  | p :: ps, d, imp, d', imp', h, hp => by
    unfold initEdges at h
    split at h
    · cases h
    · rename_i d1 imp1 h1
      have g1 := addEdges_grows o upg p p.deps d imp d1 imp1 h1 (hp p (List.mem_cons_self ..))
      have g2 := initEdges_grows o upg ps d1 imp1 d' imp' h fun q hq => g1.get_core (hp q (List.mem_cons_of_mem _ hq))
      exact g1.trans g2

theorem init_phases {o : Oracle} {upg : Bool} {pkgs : List Pkg} {d : Dag} {imp : List Dep}
    (h : init o upg pkgs = .ok (d, imp)) :
    (pkgs.map (·.source)).Nodup ∧ initEdges o upg (pkgs.map pkgNode) pkgs [] = .ok (d, imp) := by
  unfold init at h
  cases ha : addNodes [] (pkgs.map pkgNode) with
  | error e => rw [ha] at h; cases h
  | ok d0 =>
    rw [ha] at h
    obtain ⟨hd0, hn0⟩ := addNodes_spec _ _ _ ha
    cases (hd0.trans (List.nil_append _) : d0 = pkgs.map pkgNode)
    exact ⟨keys_pkgNodes pkgs ▸ hn0 List.nodup_nil, h⟩

theorem init_grows {o : Oracle} {upg : Bool} {pkgs : List Pkg} {d : Dag} {imp : List Dep}
    (h : init o upg pkgs = .ok (d, imp)) :
    (pkgs.map (·.source)).Nodup ∧ (∀ p ∈ pkgs, Dag.get (pkgs.map pkgNode) p.source = some (pkgNode p)) ∧
      Grows upg (pkgs.map pkgNode) d (pkgs.flatMap (·.deps)) [] imp (lockParents pkgs) := by
  obtain ⟨hnd, h⟩ := init_phases h
  have hget : ∀ p ∈ pkgs, Dag.get (pkgs.map pkgNode) p.source = some (pkgNode p) := fun p hp => by
    rw [get_pkgNodes, find?_of_nodup_map hnd hp fun _ => beq_iff_eq]; rfl
  exact ⟨hnd, hget, initEdges_grows o upg pkgs _ [] d imp h fun p hp => by rw [hget p hp]; rfl⟩

/-- the dependencies absent from the lock, each at its first mention -/
def absentDeps (pkgs : List Pkg) : List Dep := fresh (pkgs.map (·.source)) (pkgs.flatMap (·.deps))

theorem mem_absentDeps {pkgs : List Pkg} {x : String} : x ∈ (absentDeps pkgs).map (·.pkg) ↔
    x ∈ (pkgs.flatMap (·.deps)).map (·.pkg) ∧ x ∉ pkgs.map (·.source) :=
  (mem_fresh ..).trans and_comm

theorem init_core {o : Oracle} {upg : Bool} {pkgs : List Pkg} {d : Dag} {imp : List Dep}
    (h : init o upg pkgs = .ok (d, imp)) :
    (pkgs.map (·.source)).Nodup ∧ d.map Node.core = pkgs.map pkgNode ++ (absentDeps pkgs).map depNode ∧
      d.keys = pkgs.map (·.source) ++ (absentDeps pkgs).map (·.pkg) ∧
      (∀ e ∈ absentDeps pkgs, e ∈ imp) ∧ (upg = false → imp = absentDeps pkgs) := by
  obtain ⟨hnd, _, g⟩ := init_grows h
  have hk := g.keys
  have hc := g.core
  have hs := g.sup
  have he := g.exact
  rw [keys_pkgNodes] at hk hc hs he
  exact ⟨hnd, by rw [hc, List.map_map]; rfl, hk, fun e h => hs e (.inr h), he⟩

theorem init_graph {o : Oracle} {upg : Bool} {pkgs : List Pkg} {d : Dag} {imp : List Dep}
    (h : init o upg pkgs = .ok (d, imp)) :
    d.nb = lockNb pkgs ∧ (∀ n, (lockNb pkgs n).isSome = true ↔ n ∈ d.keys) ∧ d.keys.Nodup ∧
      d.keys.length = d.length := by
  obtain ⟨hnd, hcore, hkeys, _, _⟩ := init_core h
  have nbeq : d.nb = lockNb pkgs := by
    funext id
    rw [← Dag.nb_core, hcore]
    unfold lockNb
    rw [Dag.nb_append, nb_pkgNodes]
    cases hf : pkgs.find? (fun p => p.source == id) with
    | some p => rfl
    | none =>
      rw [Option.map_none, Option.none_or, nb_depNodes]
      have hid : id ∉ pkgs.map (·.source) := fun hm => by
        obtain ⟨p, hp, rfl⟩ := List.mem_map.1 hm
        exact absurd (List.find?_eq_none.1 hf p hp) (by simp)
      -- absent from the lock: a node iff some lock package depends on it
      have : ∀ l : List Dep, l.any (fun e => e.pkg == id) = true ↔ id ∈ l.map (·.pkg) := fun l => by
        rw [List.any_eq_true, List.mem_map]
        exact ⟨fun ⟨e, he, hb⟩ => ⟨e, he, beq_iff_eq.1 hb⟩, fun ⟨e, he, hb⟩ => ⟨e, he, beq_iff_eq.2 hb⟩⟩
      rw [Bool.eq_iff_iff.2 ((this _).trans ((mem_absentDeps.trans (and_iff_left hid)).trans (this _).symm))]
  refine ⟨nbeq, fun n => nbeq ▸ d.nb_isSome_iff n, ?_, List.length_map ..⟩
  rw [hkeys, List.nodup_append]
  exact ⟨hnd, fresh_nodup _ _, fun a ha b hb e => (mem_absentDeps.1 hb).2 (e ▸ ha)⟩

theorem init_keys {o : Oracle} {upg : Bool} {pkgs : List Pkg} {d : Dag} {imp : List Dep}
    (h : init o upg pkgs = .ok (d, imp)) {id : String} (hk : d.has id = true) :
    id ∈ pkgs.map (·.source) ∨ id ∈ imp.map (·.pkg) := by
  obtain ⟨_, _, hkeys, hsup, _⟩ := init_core h
  rw [Dag.has_iff_mem_keys, hkeys, List.mem_append] at hk
  refine hk.imp_right fun hm => ?_
  obtain ⟨e, he, hpe⟩ := List.mem_map.1 hm
  exact List.mem_map.2 ⟨e, hsup e he, hpe⟩

theorem init_pkgNodes {o : Oracle} {upg : Bool} {pkgs : List Pkg} {d : Dag} {imp : List Dep}
    (h : init o upg pkgs = .ok (d, imp)) :
    ∀ n ∈ d, n.isPkg = true → ∃ p ∈ pkgs, p.source = n.id ∧ n.con = p.version := by
  obtain ⟨_, hcore, _⟩ := init_core h
  intro n hn hp
  have := List.mem_map_of_mem (f := Node.core) hn
  rw [hcore] at this
  rcases List.mem_append.1 this with hm | hm
  · obtain ⟨p, hp, e⟩ := List.mem_map.1 hm
    exact ⟨p, hp, congrArg Node.id e, (congrArg Node.con e).symm⟩
  · obtain ⟨e, _, he⟩ := List.mem_map.1 hm
    have := congrArg Node.isPkg he
    rw [show n.core.isPkg = n.isPkg from rfl, hp] at this
    cases this

end Xp.C17
