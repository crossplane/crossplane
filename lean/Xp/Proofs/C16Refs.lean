import Xp.Proofs.C16WorldRec
import Xp.Proofs.C16Success
/-
C16: `status.objectRefs` and deactivation.

`ReleaseObjects` and the inactive shortcut of the reconciler trust
`status.objectRefs` to list everything the revision controls. The list is only ever replaced
by a *successful* Establish, and only the reconciled revision's own list changes
(`reconcileRevV_refs`); Establish writes objects of the package only (`establish_keys`). Hence
"everything the revision controls is listed, and the whole package is listed" (`Stable`)
survives failed reconciles of the revision, reconciles of other revisions and its own inactive
reconciles; and a successful inactive reconcile of a revision whose controlled objects are
all listed leaves it controller of nothing.
-/
namespace Xp.C16

variable (sys : Sys) (r : Rev) (e : Env) (w : World)

theorem reconcileRevI_refs_inactive (tp : Interf) (hr : r.active = false)
    (hn : (sys.refs r.parent.uid).length > 0) : (reconcileRevI sys r e tp).1.refs = sys.refs := by
  rw [← reconcileRevV_none]
  rcases reconcileRevV_cases sys r e { e := tp } with ⟨_, _, h, _⟩ | ⟨_, _, _, _, hs⟩
  · rw [h]
  · rw [(hs hr).1] at hn      -- Establish follows only when nothing is recorded
    cases hn

/-- everything revision `u` controls is listed in its `status.objectRefs` -/
def Listed (sys : Sys) (u : Nat) : Prop :=
  ∀ o ∈ sys.store.objs, ctrl o.owners u → ∃ k ∈ sys.refs u, k.key = o.key

theorem reconcileRevV_released {sys sys' : Sys} {r : Rev} {e : Env} {w : World} (hw : WF sys.store)
    (hr : r.active = false) (hl : Listed sys r.parent.uid)
    (hst : StaleOK sys.store w.v (pick r.objs e.vorder))
    (ho : ∀ j, j < (sys.refs r.parent.uid).length → j ∈ e.rorder)
    (h : reconcileRevV sys r e w = (sys', .ok ())) :
    ∀ o' ∈ sys'.store.objs, PutBy w.Puts o' ∨ NotCtrlBy o' r.parent.uid := by
  have h1 : ∀ s1, releaseV e.rejects e.fault w.r r.parent e.ran sys.store (sys.refs r.parent.uid) e.rorder = (s1, .ok ()) →
      ∀ o' ∈ s1.objs, PutBy w.Puts o' ∨ NotCtrlBy o' r.parent.uid := fun s1 heq o' ho' =>
    (releaseV_released e.rejects e.fault w.r r.parent e.ran hw hl ho heq o' ho').imp
      (PutBy.mono fun a ha => Or.inr (Or.inr ha)) id
  rcases reconcileRevV_cases sys r e w with ⟨s1, x, e1, _, hx⟩ | ⟨_, s1, e1, _, hs⟩ <;> rw [e1] at h
  · -- the reconcile ends after ReleaseObjects
    cases h
    exact h1 s1 (hx rfl).2
  · -- nothing recorded: Establish(control=false) follows
    obtain ⟨_, heq⟩ := hs hr
    intro o' ho'
    have hrel := releaseV_inv e.rejects e.fault w.r r.parent e.ran sys.store (sys.refs r.parent.uid) e.rorder hw
    rw [heq] at hrel
    have hstore := establishAndRecordV_store sys s1 r e w
    rw [h, hr] at hstore
    rw [hstore] at ho'
    exact establishV_released e.rejects e.fault w.v w.e r.parent s1 r.objs e.vorder e.eorder hrel.wf (hst.mono hrel.frozen)
      (fun a ha => ha.elim Or.inl fun h => Or.inr (Or.inl h)) (h1 s1 heq) o' ho'

/-- everything `u` controls is listed, and every object of its package (keys `K`) is listed: what a
healthy revision has after a successful reconcile -/
structure Stable (sys : Sys) (u : Nat) (K : String → Prop) : Prop where
  listed : Listed sys u
  whole : ∀ key, K key → ∃ k ∈ sys.refs u, k.key = key

theorem reconcileRev_ctrl_back (hw : WF sys.store) (u : Nat)
    (hu : r.active = true → r.parent.uid ≠ u) :
    ∀ o' ∈ (reconcileRev sys r e).1.store.objs, ctrl o'.owners u →
      ∃ o ∈ sys.store.objs, o.key = o'.key ∧ ctrl o.owners u := by
  intro o' ho' hc
  rcases (reconcileRev_good sys r e hw (fun v => v = r.parent.uid ∧ r.active = true) (fun ha => ⟨rfl, ha⟩)
    o' ho').ctrls u hc with h | ⟨h1, h2⟩ | ⟨_, hf, _⟩
  · exact h
  · exact absurd h1.symm (hu h2)
  · exact hf.elim

theorem Stable.keep {sys sys' : Sys} {u : Nat} {K : String → Prop} (hs : Stable sys u K)
    (hr : sys'.refs u = sys.refs u)
    (hb : ∀ o' ∈ sys'.store.objs, ctrl o'.owners u → ∃ o ∈ sys.store.objs, o.key = o'.key ∧ ctrl o.owners u) :
    Stable sys' u K := by
  refine ⟨fun o' ho' hc => ?_, fun key hk => hr ▸ hs.whole key hk⟩
  obtain ⟨o, hom, hk, hco⟩ := hb o' ho' hc
  obtain ⟨k, hkm, hkk⟩ := hs.listed o hom hco
  exact ⟨k, hr ▸ hkm, hkk.trans hk⟩

theorem stable_other (hw : WF sys.store) (u : Nat) (K : String → Prop)
    (hs : Stable sys u K) (hne : r.parent.uid ≠ u) : Stable (reconcileRev sys r e).1 u K :=
  hs.keep ((reconcileRev_refs sys r e).2 u (Ne.symm hne)) (reconcileRev_ctrl_back sys r e hw u fun _ => hne)

theorem stable_inactive (hw : WF sys.store) (K : String → Prop)
    (hs : Stable sys r.parent.uid K) (hina : r.active = false) : Stable (reconcileRev sys r e).1 r.parent.uid K := by
  have hback := reconcileRev_ctrl_back sys r e hw r.parent.uid (fun ha => by rw [hina] at ha; cases ha)
  by_cases hlen : (sys.refs r.parent.uid).length > 0
  · have hsame := reconcileRevI_refs_inactive sys r e Interf.none hina hlen
    rw [reconcileRevI_none] at hsame
    exact hs.keep (congrFun hsame _) hback
  · -- an empty list: nothing is controlled, nothing is in `K`
    have hnil := List.eq_nil_of_length_eq_zero (Nat.eq_zero_of_not_pos hlen)
    refine ⟨fun o' ho' hc => ?_, fun key hk => ?_⟩
    · obtain ⟨o, hom, _, hco⟩ := hback o' ho' hc
      obtain ⟨k, hkm, _⟩ := hs.listed o hom hco
      rw [hnil] at hkm
      cases hkm
    · obtain ⟨k, hkm, _⟩ := hs.whole key hk
      rw [hnil] at hkm
      cases hkm

/-- the list is kept, and whatever the revision newly controls is an object of its package
(`establish_keys`), which is listed -/
theorem stable_failed (K : String → Prop)
    (hs : Stable sys r.parent.uid K) (hact : r.active = true) (hK : ∀ d ∈ r.objs, K d.key)
    (hfail : (reconcileRev sys r e).2 ≠ .ok ()) : Stable (reconcileRev sys r e).1 r.parent.uid K := by
  have hsame : (reconcileRev sys r e).1.refs = sys.refs := (reconcileRev_refs sys r e).1 hfail
  refine ⟨fun o' ho' hc => ?_, fun key hk => by rw [hsame]; exact hs.whole key hk⟩
  have hst : (reconcileRev sys r e).1.store =
      (establish e.rejects e.fault r.parent r.active sys.store r.objs e.vorder e.eorder).1 := by
    unfold reconcileRev
    rw [if_pos hact]
    exact establishAndRecord_store sys sys.store r e
  rw [hst] at ho'
  rw [hsame]
  rcases establish_keys e.rejects e.fault r.parent r.active sys.store r.objs e.vorder e.eorder o' ho' with h1 | ⟨d, hd, hdk⟩
  · exact hs.listed o' h1 hc
  · obtain ⟨k, hkm, hkk⟩ := hs.whole d.key (hK d hd)
    exact ⟨k, hkm, hkk.trans hdk⟩

/-- what a step of a history may be without endangering `Stable sys u K`: a reconcile of another
revision, an inactive reconcile, or a FAILED reconcile of `u` over a package within `K` -/
def BenignStep (sys : Sys) (u : Nat) (K : String → Prop) (r : Rev) (e : Env) : Prop :=
  r.parent.uid ≠ u ∨ r.active = false ∨ ((∀ d ∈ r.objs, K d.key) ∧ (reconcileRev sys r e).2 ≠ .ok ())

theorem stable_step (hw : WF sys.store) (u : Nat) (K : String → Prop)
    (hs : Stable sys u K) (hb : BenignStep sys u K r e) : Stable (reconcileRev sys r e).1 u K := by
  by_cases hne : r.parent.uid = u
  · subst hne
    rcases hb with h | h | ⟨hK, hfail⟩
    · exact absurd rfl h
    · exact stable_inactive sys r e hw K hs h
    · cases hact : r.active with
      | true => exact stable_failed sys r e K hs hact hK hfail
      | false => exact stable_inactive sys r e hw K hs hact
  · exact stable_other sys r e hw u K hs hne

/-- every step of the history, at the state it meets, is benign -/
def Benign (u : Nat) (K : String → Prop) : Sys → List (Rev × Env) → Prop
  | _, [] => True
  | sys, (r, e) :: rest => BenignStep sys u K r e ∧ Benign u K (reconcileRev sys r e).1 rest

end Xp.C16
