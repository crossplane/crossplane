import Xp.Model.C16World
/-
C16: a phase is a fold of goroutines. `validateAllV`, `establishAllI` and `releaseAllV` are the same
recursion over the goroutines in completion order (`phase`), which differ in the goroutine and in
how the results are collected; what every phase keeps (`phase_ind`) and what its success means
(`phase_cons_ok`; `phase_ok`: what each goroutine guarantees on success holds at the end, if the
goroutines after it keep it) are proved for `phase`. The list a phase runs over is `pick xs order`,
the inputs in completion order (`mem_pick_iff`).
-/
namespace Xp.C16

/-- the goroutines of an errgroup in completion order: an error does not stop the others, a crash
ends the process, the first error is the phase's -/
def phase {α β γ : Type} (f : Store → Nat → α → Store × R β) (nil : γ) (cons : Nat → β → γ → γ) :
    Store → List (Nat × α) → Store × R γ
  | s, [] => (s, .ok nil)
  | s, (i, a) :: rest =>
    match f s i a with
    | (s1, .crash) => (s1, .crash)
    | (s1, .err e) =>
      match phase f nil cons s1 rest with
      | (s2, .crash) => (s2, .crash)
      | (s2, _) => (s2, .err e)
    | (s1, .ok b) =>
      match phase f nil cons s1 rest with
      | (s2, .ok c) => (s2, .ok (cons i b c))
      | (s2, .err e) => (s2, .err e)
      | (s2, .crash) => (s2, .crash)

section
variable {α β γ : Type} (f : Store → Nat → α → Store × R β) (nil : γ) (cons : Nat → β → γ → γ)

theorem phase_fst_cons (s : Store) (i : Nat) (a : α) (rest : List (Nat × α)) :
    (phase f nil cons s ((i, a) :: rest)).1 = (f s i a).1 ∨
    (phase f nil cons s ((i, a) :: rest)).1 = (phase f nil cons (f s i a).1 rest).1 := by
  rw [phase]
  cases f s i a with | mk s1 r =>
  cases r with
  | crash => exact Or.inl rfl
  | _ =>
    dsimp only
    rcases phase f nil cons s1 rest with ⟨s2, _ | _ | _⟩ <;> exact Or.inr rfl

theorem phase_ind (I : Store → Prop) (xs : List (Nat × α)) (s : Store) (h0 : I s)
    (step : ∀ s i a, (i, a) ∈ xs → I s → I (f s i a).1) : I (phase f nil cons s xs).1 := by
  induction xs generalizing s with
  | nil => exact h0
  | cons x rest ih =>
    have h1 := step s x.1 x.2 List.mem_cons_self h0
    rcases phase_fst_cons f nil cons s x.1 x.2 rest with h | h <;> rw [h]
    · exact h1
    · exact ih _ h1 fun s i a hm => step s i a (List.mem_cons_of_mem _ hm)

theorem phase_cons_ok {f : Store → Nat → α → Store × R β} {nil : γ} {cons : Nat → β → γ → γ}
    {s s2 : Store} {i : Nat} {a : α} {rest : List (Nat × α)} {c : γ}
    (h : phase f nil cons s ((i, a) :: rest) = (s2, .ok c)) :
    ∃ s1 b c', f s i a = (s1, .ok b) ∧ phase f nil cons s1 rest = (s2, .ok c') ∧ c = cons i b c' := by
  unfold phase at h
  split at h
  · cases h
  · split at h <;> cases h
  · rename_i s1 b heq
    split at h
    · rename_i s2' c' heq2
      cases h
      exact ⟨s1, b, c', heq, heq2, rfl⟩
    · cases h
    · cases h

theorem phase_ok {f : Store → Nat → α → Store × R β} {nil : γ} {cons : Nat → β → γ → γ}
    (I : Store → Prop) (G : Nat × α → Store → Prop) {xs : List (Nat × α)} {s s' : Store} {c : γ}
    (hI : ∀ s i a, (i, a) ∈ xs → I s → I (f s i a).1)
    (hG : ∀ s i a s1 b, (i, a) ∈ xs → I s → f s i a = (s1, .ok b) → G (i, a) s1)
    (hkeep : ∀ x s i a, (i, a) ∈ xs → I s → G x s → G x (f s i a).1)
    (h0 : I s) (h : phase f nil cons s xs = (s', .ok c)) : ∀ x ∈ xs, G x s' := by
  induction xs generalizing s c with
  | nil => exact nofun
  | cons x rest ih =>
    obtain ⟨s1, b, c', h1, h2, _⟩ := phase_cons_ok h
    have hI1 : I s1 := by
      have := hI s x.1 x.2 List.mem_cons_self h0
      rwa [h1] at this
    intro y hy
    rcases List.mem_cons.mp hy with rfl | e
    · -- what this goroutine guarantees is kept by the ones that follow
      have := phase_ind f nil cons (fun s => I s ∧ G y s) rest s1 ⟨hI1, hG s y.1 y.2 s1 b List.mem_cons_self h0 h1⟩
        fun s i a hm h => ⟨hI s i a (List.mem_cons_of_mem _ hm) h.1, hkeep y s i a (List.mem_cons_of_mem _ hm) h.1 h.2⟩
      rw [h2] at this
      exact this.2
    · exact ih (fun s i a hm => hI s i a (List.mem_cons_of_mem _ hm))
        (fun s i a s1 b hm => hG s i a s1 b (List.mem_cons_of_mem _ hm))
        (fun x s i a hm => hkeep x s i a (List.mem_cons_of_mem _ hm)) hI1 h2 y e

end

variable (rejects : Obj → Bool) (fault : Fault) (vi : VInterf) (tp : Interf) (ri : RInterf) (p : Parent)
  (control : Bool) (ran : Nat → Bool)

theorem validateAllV_eq (s : Store) (xs : List (Nat × Desired)) :
    validateAllV rejects fault vi p control s xs =
      phase (validateOneV rejects fault vi p control) [] (fun i cd cds => (i, cd) :: cds) s xs := by
  fun_induction validateAllV rejects fault vi p control s xs <;> simp_all [phase]

theorem establishAllI_eq (s : Store) (ys : List (Nat × CD)) :
    establishAllI rejects fault tp p control s ys =
      phase (establishOneI rejects fault tp p control) [] (fun _ k ks => k :: ks) s ys := by
  fun_induction establishAllI rejects fault tp p control s ys <;> simp_all [phase]

theorem releaseAllV_eq (s : Store) (xs : List (Nat × Ref)) :
    releaseAllV rejects fault ri p ran s xs = phase (releaseOneV rejects fault ri p ran) () (fun _ _ u => u) s xs := by
  fun_induction releaseAllV rejects fault ri p ran s xs <;> simp_all [phase]
  split <;> assumption

theorem validateAllV_ind (I : Store → Prop) (xs : List (Nat × Desired)) (s : Store) (h0 : I s)
    (step : ∀ s i d, (i, d) ∈ xs → I s → I (validateOneV rejects fault vi p control s i d).1) :
    I (validateAllV rejects fault vi p control s xs).1 :=
  validateAllV_eq .. ▸ phase_ind _ _ _ I xs s h0 step

theorem validateAllV_cons_ok {s s2 : Store} {i : Nat} {d : Desired} {rest : List (Nat × Desired)} {cds : List (Nat × CD)}
    (h : validateAllV rejects fault vi p control s ((i, d) :: rest) = (s2, .ok cds)) :
    ∃ s1 cd cds', validateOneV rejects fault vi p control s i d = (s1, .ok cd) ∧
      validateAllV rejects fault vi p control s1 rest = (s2, .ok cds') ∧ cds = (i, cd) :: cds' := by
  simp only [validateAllV_eq] at h ⊢
  exact phase_cons_ok h

theorem establishAllI_ind (I : Store → Prop) (ys : List (Nat × CD)) (s : Store) (h0 : I s)
    (step : ∀ s i cd, (i, cd) ∈ ys → I s → I (establishOneI rejects fault tp p control s i cd).1) :
    I (establishAllI rejects fault tp p control s ys).1 :=
  establishAllI_eq .. ▸ phase_ind _ _ _ I ys s h0 step

theorem releaseAllV_ind (I : Store → Prop) (xs : List (Nat × Ref)) (s : Store) (h0 : I s)
    (step : ∀ s i k, (i, k) ∈ xs → I s → I (releaseOneV rejects fault ri p ran s i k).1) :
    I (releaseAllV rejects fault ri p ran s xs).1 :=
  releaseAllV_eq .. ▸ phase_ind _ _ _ I xs s h0 step

theorem mem_pick_iff {α : Type} {xs : List α} {order : List Nat} {j : Nat} {x : α} :
    (j, x) ∈ pick xs order ↔ xs[j]? = some x ∧ j ∈ order := by
  unfold pick
  rw [List.mem_filterMap]
  constructor
  · rintro ⟨i, hi, hx⟩
    cases hxi : xs[i]? <;> rw [hxi] at hx <;> cases hx
    exact ⟨hxi, hi⟩
  · exact fun ⟨hx, hj⟩ => ⟨j, hj, by rw [hx]; rfl⟩

theorem mem_pick {α : Type} {xs : List α} {order : List Nat} {j : Nat} {x : α}
    (hx : xs[j]? = some x) (hj : j ∈ order) : (j, x) ∈ pick xs order :=
  mem_pick_iff.mpr ⟨hx, hj⟩

theorem pick_nil {α : Type} (order : List Nat) : pick ([] : List α) order = [] := by
  unfold pick
  induction order with
  | nil => rfl
  | cons i is ih => simp

end Xp.C16
