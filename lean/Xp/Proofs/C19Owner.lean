import Xp.Proofs.C19Trk
import Xp.Proofs.C19Sys
/-
C19 — ownership is by uid, over schedules. A reconcile of a Usage during which the Usage and the
resource its spec.by refers to exist throughout (as the same objects, same uids: `Held` of the
model, `Along` the schedule) leaves the Usage with an owner reference carrying that resource's
CURRENT uid — for every number of workers, every interleaving with other actions and every fault
plan (`Trk.step`, `trk_run`, `trk_final`, `owner_after_poll`).
-/
namespace Xp.C19

theorem SysStep.grows {sys sys' : Sys} {a : Action} (h : SysInv sys) (st : SysStep sys a sys') :
    Grows sys.store sys'.store := by
  cases st with
  | env _ s' e => exact .env h.store e
  | call n o t s' resp a _ hc _ => exact .call h.store hc
  | _ => exact .same h.store rfl

/-- the tracking facts of every in-flight reconcile of Usage `n` -/
def Trk (n : String) (b : RSpec) (U : Nat) (sys : Sys) : Prop :=
  ∀ t ∈ sys.threads, t.uname = n → t.pc.isGet = false → TrkT sys.store n b U t

theorem Held.usage {n : String} {V : Nat} {b : RSpec} {U : Nat} {sys : Sys} (h : Held n V b U sys) :
    ∃ y ∈ sys.store.usages, y.name = n ∧ y.by_ = some b := by
  obtain ⟨⟨y, hy, h1, _, h3⟩, _⟩ := h
  exact ⟨y, hy, h1, h3⟩

theorem Trk.step {sys sys' : Sys} {a : Action} (h : SysInv sys) (st : SysStep sys a sys') {n : String} {V : Nat}
    {b : RSpec} {U : Nat} (hpre : Held n V b U sys) (hpost : Held n V b U sys') (ht : Trk n b U sys) : Trk n b U sys' := by
  have g := st.grows h
  cases st with
  | env _ s' e => exact fun t ht' hn hg => (ht t ht' hn hg).env g hpost.usage
  | idle => exact ht
  | start m _ _ =>
    intro t ht' hn hg
    rcases List.mem_append.mp ht' with h1 | h1
    · exact ht t h1 hn hg
    · cases List.mem_singleton.mp h1; cases hg
  | call m o t s' resp a hsome hc ha =>
    obtain ⟨htm, rfl⟩ := thread?_some hsome
    intro x hx hxn hxg
    rcases mem_settle hx with ⟨hx, _⟩ | rfl
    · exact (ht x hx hxn hxg).env g hpost.usage
    · -- the continuation of the call: the reconcile of `n` itself
      rcases ha with ha | ha
      · have hk := next_ok h.store (h.threads t htm) hc
        rw [← ha] at hk
        have key := next_trk h.store (h.threads t htm) (hk.1.symm.trans hxn) hpre.2 hpre.usage hpost.usage
          (fun hg => ht t htm (hk.1.symm.trans hxn) hg) hc
        rw [← ha] at key
        exact key
      · cases ha

theorem trk_run {sys : Sys} (h : SysInv sys) (bs : List Action) (hf : listFresh bs) {n : String} {V : Nat}
    {b : RSpec} {U : Nat} (hh : Along (Held n V b U) sys bs) (ht : Trk n b U sys) : Trk n b U (sys.run bs) := by
  induction bs generalizing sys with
  | nil => exact ht
  | cons a as ih =>
    have hfa := hf a List.mem_cons_self
    exact ih (h.exec a hfa) (fun x hx => hf x (List.mem_cons_of_mem _ hx)) hh.2
      (ht.step h (exec_sysStep h a hfa) hh.1 hh.2.head)

theorem trk_final {sys : Sys} (h : SysInv sys) (o : Outcome) {n : String} {V : Nat} {b : RSpec} {U : Nat}
    (hpre : Held n V b U sys) (hpost : Held n V b U (sys.exec (.step n o none)).1) (ht : Trk n b U sys)
    (req : Req) (reply : Option Resp) (hrep : (sys.exec (.step n o none)).2 = .call req reply (some .poll)) :
    Owns (sys.exec (.step n o none)).1.store n U := by
  rcases exec_step sys n o with ⟨_, e⟩ | ⟨t, hth, e1, e2⟩
  · rw [e] at hrep; cases hrep
  · obtain ⟨htm, htn⟩ := thread?_some hth
    rw [e1] at hpost ⊢
    rw [e2] at hrep
    obtain ⟨resp, hc, ha⟩ := step_eff (h.threads t htm) o
    have key := next_trk h.store (h.threads t htm) htn hpre.2 hpre.usage hpost.usage (fun hg => ht t htm htn hg) hc
    rcases ha with ha | ha <;> rw [ha] at hrep
    · cases hafter : t.next sys.store.usages resp with
      | cont t' => rw [hafter] at hrep; cases hrep
      | done r =>
        rw [hafter] at hrep key
        cases hrep
        exact key rfl
    · cases hrep

theorem Trk.of_none {sys : Sys} {n : String} {b : RSpec} {U : Nat} (h : sys.thread? n = none) : Trk n b U sys :=
  fun t ht hn => absurd hn (thread?_none h t ht)

theorem owner_after_poll {sys : Sys} (h : SysInv sys) (bs : List Action) (hf : listFresh bs) (o : Outcome) {n : String}
    {V : Nat} {b : RSpec} {U : Nat} (hidle : sys.thread? n = none)
    (hheld : Along (Held n V b U) sys (bs ++ [.step n o none])) (req : Req) (reply : Option Resp)
    (hpoll : ((sys.run bs).exec (.step n o none)).2 = .call req reply (some .poll)) :
    SysInv ((sys.run bs).exec (.step n o none)).1 ∧
    Owns ((sys.run bs).exec (.step n o none)).1.store n U := by
  obtain ⟨hb, hpre, hpost⟩ := hheld.append
  exact ⟨(h.run bs hf).exec _ rfl,
    trk_final (h.run bs hf) o hpre hpost (trk_run h bs hf hb (Trk.of_none hidle)) req reply hpoll⟩

end Xp.C19
