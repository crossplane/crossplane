import Xp.Proofs.C10Total
/-
Helper lemmas for C10: the patch layer never yields `panic` on object roots; the object a patch reads
from (`sourceOf`) and what `Apply` does when the source path is missing there; the filter of the render
loop keeps the to-XR patches away from the XR.
-/
namespace Xp.C10

theorem stepGet_np (it : V) (s : Seg) : NP (stepGet it s) := by
  fun_cases stepGet it s with
  | _ => trivial

theorem getIn_np (it : V) (segs : List Seg) : NP (getIn it segs) := by
  fun_induction getIn it segs with
  | case2 => assumption                                  -- the first segment was read: the rest of the path
  | case3 => exact NP.of_eq ‹_› (stepGet_np _ _)         -- the first segment cannot be read
  | _ => trivial

theorem getValue_np (root : V) (segs : List Seg) : NP (getValue root segs) := by
  fun_cases getValue root segs with
  | case2 => exact getIn_np _ _                          -- a path with segments
  | _ => trivial

theorem getPath_np (root : V) (p : Path) : NP (getPath root p) := by
  fun_cases getPath root p with
  | case2 => exact getValue_np _ _                       -- a path that parses
  | _ => trivial

theorem mergeVals_np (orc : List Orc) (d s : V) : NP (mergeVals orc d s) := by
  fun_cases mergeVals orc d s with
  | case3 | case4 | case5 =>
    -- both sides non-nil: mergo's verdict, looked up in the oracle table
    split
    · trivial
    · split <;> trivial
  | _ => trivial

theorem mergeValue_np (orc : List Orc) (m : List (String × V)) (segs : List Seg) (v : V) (mo : Option MergeOpts) :
    NP (mergeValue orc (.obj m) segs v mo) := by
  unfold mergeValue
  dsimp only
  split
  · -- the error comes from reading the destination
    refine NP.of_eq ‹_› ?_
    split
    · trivial
    · split
      · trivial
      · exact NP.of_eq ‹_› (getValue_np (.obj m) segs)
    · split <;> trivial
  · split
    · exact NP.of_eq ‹_› (mergeVals_np orc _ v)
    · exact setValue_obj_no_panic m segs _

theorem mergeValue_shape (orc : List Orc) (m : List (String × V)) (segs : List Seg) (v r : V) (mo : Option MergeOpts) :
    mergeValue orc (.obj m) segs v mo = .ok r → ∃ m', r = .obj m' := by
  fun_cases mergeValue orc (.obj m) segs v mo with
  | case3 => exact fun h => let ⟨_, _, hs⟩ := setValue_ok h; setIn_obj_shape m segs _ r hs   -- the merged value is set
  | _ => nofun

theorem fromUnstructured_np (t : V) : NPo (fromUnstructured t).err := by
  fun_cases fromUnstructured t with
  | _ => trivial

theorem patchToObject_np (orc : List Orc) (path : Path) (v : V) (m : List (String × V)) (mo : Option MergeOpts) :
    NPo (patchToObject orc path v (.obj m) mo).err := by
  fun_cases patchToObject orc path v (.obj m) mo with
  | case2 => exact NP.of_eq ‹_› (mergeValue_np orc m _ v mo)  -- the merge fails
  | case3 => exact fromUnstructured_np _                 -- it goes through: the object is decoded again
  | _ => trivial

theorem mergeAll_np (orc : List Orc) (v : V) (mo : Option MergeOpts) (root : V) (paths : List (List Seg)) :
    (∃ m, root = .obj m) → NP (mergeAll orc v mo root paths) := by
  fun_induction mergeAll orc v mo root paths with
  | case1 root => exact fun _ => trivial
  | case2 root p ps e h =>
    rintro ⟨m, rfl⟩
    exact NP.of_eq h (mergeValue_np orc m p v mo)
  | case3 root p ps r h ih =>
    -- the merge at `p` went through: what it returns is an object again
    rintro ⟨m, rfl⟩
    exact ih (mergeValue_shape orc m p v r mo h)

theorem expandIn_np (segs : List Seg) : ∀ it, NP (expandIn it segs) := by
  induction segs with
  | nil => intro it; unfold expandIn; trivial
  | cons s rest ih =>
    have harr : ∀ (l : List V) (i : Nat), NP (expandIn.goArr rest i l) := by
      intro l
      induction l with
      | nil => intro i; unfold expandIn.goArr; trivial
      | cons x xs ihl =>
        intro i
        unfold expandIn.goArr
        split
        · exact NP.of_eq ‹_› (ih x)
        · split
          · exact NP.of_eq ‹_› (ihl (i + 1))
          · trivial
    have hobj : ∀ (l : List (String × V)), NP (expandIn.goObj rest l) := by
      intro l
      induction l with
      | nil => unfold expandIn.goObj; trivial
      | cons x xs ihl =>
        obtain ⟨k, x⟩ := x
        unfold expandIn.goObj
        split
        · exact NP.of_eq ‹_› (ih x)
        · split
          · exact NP.of_eq ‹_› ihl
          · trivial
    intro it
    unfold expandIn
    split
    · split
      · exact harr _ _
      · exact hobj _
      · trivial
      · trivial
    · have hs := stepGet_np it s
      split
      · trivial
      · exact NP.of_eq ‹_› hs
      · split
        · exact NP.of_eq ‹_› (ih _)
        · trivial

theorem patchToMultiple_np (orc : List Orc) (path : Path) (v : V) (m : List (String × V)) (mo : Option MergeOpts) :
    NPo (patchToMultiple orc path v (.obj m) mo).err := by
  fun_cases patchToMultiple orc path v (.obj m) mo with
  | case2 => exact NP.of_eq ‹_› (expandIn_np _ (.obj m))  -- the wildcards cannot be expanded
  | case4 => exact NP.of_eq ‹_› (mergeAll_np orc v mo _ _ ⟨m, rfl⟩)  -- a merge fails
  | case5 => exact fromUnstructured_np _                 -- all go through: the object is decoded again
  | _ => trivial

theorem applyFromFieldPath_np {sel : List String → Int → Except E String} (hsel : ∀ groups g, NP (sel groups g))
    (p : Patch) (src : V) (m : List (String × V)) : NPo (applyFromFieldPathWith sel p src (.obj m)).err := by
  fun_cases applyFromFieldPathWith sel p src (.obj m) with
  | case4 => exact NP.of_eq ‹_› (getPath_np src _)        -- the source cannot be read, for another reason than notFound
  | case5 => exact NP.of_eq ‹_› (resolveAll_np hsel p.xfs _)  -- a transform fails
  | case6 => exact patchToMultiple_np _ _ _ _ _          -- a destination with wildcards
  | case7 => exact patchToObject_np _ _ _ _ _            -- a plain destination
  | _ => trivial

theorem combineVars_np (p : Patch) (src : V) (vs : List Path) : NP (combineVars p src vs) := by
  fun_induction combineVars p src vs with
  | case4 => exact NP.of_eq ‹_› (getPath_np src _)       -- the variable cannot be read, for another reason than notFound
  | case5 => exact NP.of_eq ‹_› ‹NP _›                   -- a later variable cannot
  | _ => trivial

theorem combineVars_missing (p : Patch) (src : V) (post : List Path) (v : Path) (hm : getPath src v = .error .notFound) :
    ∀ pre : List Path, (∀ u ∈ pre, ∃ x, getPath src u = .ok x) →
      combineVars p src (pre ++ v :: post) = if p.optional then .ok none else .error .notFound := by
  intro pre
  induction pre with
  | nil => intro _; simp only [List.nil_append, combineVars, hm]
  | cons u us ih =>
    intro hp
    obtain ⟨x, hx⟩ := hp u List.mem_cons_self
    simp only [List.cons_append, combineVars, hx, ih fun w hw => hp w (List.mem_cons_of_mem _ hw)]
    cases p.optional <;> rfl

theorem combineVals_np (c : Combine) (vars : List V) : NP (combineVals c vars) := by
  fun_cases combineVals c vars with
  | case4 => exact NP.of_eq ‹_› (orcStr_np _ _ _)          -- outside the computed fragment: the oracle's error
  | _ => trivial

theorem applyCombine_np {sel : List String → Int → Except E String} (hsel : ∀ groups g, NP (sel groups g))
    (p : Patch) (src : V) (m : List (String × V)) : NPo (applyCombineWith sel p src (.obj m)).err := by
  fun_cases applyCombineWith sel p src (.obj m) with
  | case4 => exact NP.of_eq ‹_› (combineVars_np p src _)  -- a variable cannot be read
  | case6 => exact NP.of_eq ‹_› (combineVals_np _ _)     -- the values cannot be combined
  | case7 => exact NP.of_eq ‹_› (resolveAll_np hsel p.xfs _)  -- a transform fails
  | case8 => exact patchToObject_np _ _ _ _ _            -- the destination is patched
  | _ => trivial

theorem applyWith_np {sel : List String → Int → Except E String} (hsel : ∀ groups g, NP (sel groups g))
    (p : Patch) (mx mc : List (String × V)) (only : List String) : NPo (applyWith sel p (.obj mx) (.obj mc) only).err := by
  fun_cases applyWith sel p (.obj mx) (.obj mc) only with
  | case2 => exact applyFromFieldPath_np hsel p _ mc     -- FromCompositeFieldPath: into the composed resource
  | case3 => exact applyFromFieldPath_np hsel p _ mx     -- ToCompositeFieldPath: into the composite
  | case4 => exact applyCombine_np hsel p _ mc           -- CombineFromComposite
  | case5 => exact applyCombine_np hsel p _ mx           -- CombineToComposite
  | _ => trivial

theorem apply_filtered {p : Patch} {only : List String} (xr cd : V) (h : filtered p only = true) : apply p xr cd only = ⟨xr, cd, none⟩ := by
  simp [apply, applyWith, h]

/-- the object a patch reads from -/
def sourceOf (p : Patch) (xr cd : V) : V :=
  if p.getType = "FromCompositeFieldPath" ∨ p.getType = "CombineFromComposite" then xr else cd

theorem apply_missing (p : Patch) (xr cd : V) (only : List String) (fp : Path)
    (ht : p.getType = "FromCompositeFieldPath" ∨ p.getType = "ToCompositeFieldPath") (hnf : filtered p only = false)
    (hf : p.fromPath = some fp) (hmiss : getPath (sourceOf p xr cd) fp = .error .notFound) :
    apply p xr cd only = ⟨xr, cd, if p.optional then none else some .notFound⟩ := by
  unfold apply applyWith
  rw [hnf]
  -- the same steps for both types: the dispatch on the type and the source are computed
  rcases ht with ht | ht <;>
  · simp [sourceOf, ht] at hmiss
    simp only [ht, applyFromFieldPathWith, hf, hmiss]
    cases p.optional <;> rfl

theorem apply_missing_combine (p : Patch) (xr cd : V) (only : List String) (c : Combine) (tp : Path) (pre post : List Path) (v : Path)
    (ht : p.getType = "CombineFromComposite" ∨ p.getType = "CombineToComposite") (hnf : filtered p only = false)
    (hc : p.combine = some c) (hto : p.toPath = some tp) (hvars : c.variables = pre ++ v :: post)
    (hpre : ∀ u ∈ pre, ∃ x, getPath (sourceOf p xr cd) u = .ok x) (hmiss : getPath (sourceOf p xr cd) v = .error .notFound) :
    apply p xr cd only = ⟨xr, cd, if p.optional then none else some .notFound⟩ := by
  have hlen : ¬ (pre ++ v :: post).length < 1 := by simp
  have hcv := combineVars_missing p (sourceOf p xr cd) post v hmiss pre hpre
  unfold apply applyWith
  rw [hnf]
  rcases ht with ht | ht <;>
  · simp [sourceOf, ht] at hcv
    simp only [ht, applyCombineWith, hc, hto, hvars, hlen, hcv, ↓reduceIte]
    cases p.optional <;> rfl

theorem type_of_getType {p : Patch} {s : String} (h : p.getType = s) (hs : s ≠ "FromCompositeFieldPath") : p.type = s := by
  unfold Patch.getType at h
  split at h
  · exact absurd h.symm hs
  · exact h

theorem apply_fromXR_xr (p : Patch) (xr cd : V) : (apply p xr cd patchTypesFromXR).xr = xr := by
  unfold apply
  fun_cases applyWith selectGroup p xr cd patchTypesFromXR with
  | case3 | case5 =>
    -- a to-XR type is the raw `Type`, which the filter rejects
    rename_i hnf ht _
    rw [filtered, type_of_getType ht (by decide)] at hnf
    exact absurd rfl hnf
  | _ => rfl

end Xp.C10
