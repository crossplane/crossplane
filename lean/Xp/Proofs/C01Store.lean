import Xp.Model.C01
import Xp.Base.List
/-
C01, the store both composers work on: the invariant `Good`, what garbage collection does to a store
(`Shrunk`), the equations of `exec` for the reads and the requests both composers issue, the invariant
`Mid` between the write of the references and the end of the reconcile with the requests that keep it
(`AfterRefs`, `Mid.step`), and what a composer knows when it writes the references (`Ready`, `Mid.of_ready`).
-/
namespace Xp.C01

def key (o : CObj) : Ref := ⟨o.kind, o.name⟩

/-- The invariant carried at every instant. -/
structure Good (s : St) : Prop where
  nodup : (s.objs.map key).Nodup
  named : ∀ o ∈ s.objs, o.name ≠ ""
  noLeak : ∀ o ∈ s.objs, o.ctrl = .xr → o.deleting = false → key o ∈ s.refs
  obsUniq : ∀ o1 ∈ s.objs, ∀ o2 ∈ s.objs, key o1 ∈ s.refs → key o2 ∈ s.refs →
    o1.annot = o2.annot → o1.annot ≠ "" → o1 = o2
  /-- every object recorded as foreign-controlled at the start is still there, byte for byte -/
  frame : ∀ o ∈ s.foreign0, o.ctrl = .other ∧ o ∈ s.objs

theorem Good.atMostOne {s : St} (hg : Good s) : ∀ o1 ∈ s.objs, ∀ o2 ∈ s.objs, o1.ctrl = .xr → o1.deleting = false →
    o2.ctrl = .xr → o2.deleting = false → o1.annot = o2.annot → o1.annot ≠ "" → o1 = o2 :=
  fun o1 h1 o2 h2 c1 d1 c2 d2 => hg.obsUniq o1 h1 o2 h2 (hg.noLeak o1 h1 c1 d1) (hg.noLeak o2 h2 c2 d2)

theorem Good.congr {s s' : St} (hg : Good s) (hr : s'.refs = s.refs) (ho : s'.objs = s.objs)
    (hf : s'.foreign0 = s.foreign0) : Good s' := by
  refine ⟨ho ▸ hg.nodup, ho ▸ hg.named, ?_, ?_, ?_⟩
  · rw [hr, ho]; exact hg.noLeak
  · rw [hr, ho]; exact hg.obsUniq
  · rw [hf, ho]; exact hg.frame

theorem Good.withMiss {s : St} (hg : Good s) (ms : List Ref) : Good { s with miss := ms } :=
  hg.congr rfl rfl rfl

/-- `obsUniq` in the form the example stores are checked by: the referenced objects carry pairwise
distinct annotations -/
theorem Good.of_nodup_annots {s : St} (h1 : (s.objs.map key).Nodup) (h2 : ∀ o ∈ s.objs, o.name ≠ "")
    (h3 : ∀ o ∈ s.objs, o.ctrl = .xr → o.deleting = false → key o ∈ s.refs)
    (h4 : ((s.objs.filter fun o => key o ∈ s.refs).map (·.annot)).Nodup)
    (h5 : ∀ o ∈ s.foreign0, o.ctrl = .other ∧ o ∈ s.objs) : Good s :=
  ⟨h1, h2, h3, fun _ m1 _ m2 k1 k2 ha _ =>
    eq_of_map_nodup h4 (List.mem_filter.mpr ⟨m1, by simpa using k1⟩) (List.mem_filter.mpr ⟨m2, by simpa using k2⟩) ha, h5⟩

theorem findObj_some {objs : List CObj} {k n : String} {o : CObj} (h : findObj objs k n = some o) :
    o ∈ objs ∧ o.kind = k ∧ o.name = n := by
  unfold findObj at h
  have h1 := List.mem_of_find?_eq_some h
  have h2 := List.find?_some h
  simp at h2
  exact ⟨h1, h2.1, h2.2⟩

theorem findObj_none {objs : List CObj} {k n : String} (h : findObj objs k n = none) :
    ∀ o ∈ objs, ¬ (o.kind = k ∧ o.name = n) := by
  unfold findObj at h
  intro o ho hk
  have := List.find?_eq_none.mp h o ho
  simp [hk] at this

theorem key_eq_iff (o : CObj) (k n : String) : key o = ⟨k, n⟩ ↔ (o.kind = k ∧ o.name = n) := by
  simp [key]

theorem findObj_ref_some {objs : List CObj} {r : Ref} {o : CObj} (h : findObj objs r.kind r.name = some o) :
    o ∈ objs ∧ key o = r :=
  ⟨(findObj_some h).1, (key_eq_iff o r.kind r.name).mpr (findObj_some h).2⟩

theorem findObj_ref_none {objs : List CObj} {r : Ref} (h : findObj objs r.kind r.name = none) :
    ∀ o ∈ objs, key o ≠ r :=
  fun o ho hk => findObj_none h o ho ((key_eq_iff o r.kind r.name).mp hk)

theorem mem_snoc {α : Type} {l : List α} {x r : α} (h : x ∈ l ++ [r]) : x ∈ l ∨ x = r := by
  simpa using h

theorem eq_of_key_eq {objs : List CObj} (hn : (objs.map key).Nodup) {o1 o2 : CObj}
    (h1 : o1 ∈ objs) (h2 : o2 ∈ objs) (hk : key o1 = key o2) : o1 = o2 :=
  eq_of_map_nodup hn h1 h2 hk

theorem findObj_of_key {objs : List CObj} (hn : (objs.map key).Nodup) {o : CObj} (h : o ∈ objs) {k n : String}
    (hk : key o = ⟨k, n⟩) : findObj objs k n = some o :=
  find?_of_nodup_map hn h fun o' => by rw [hk, key_eq_iff]; exact decide_eq_true_iff

theorem mem_removeObj {objs : List CObj} {k n : String} {o : CObj} :
    o ∈ removeObj objs k n ↔ o ∈ objs ∧ ¬ (o.kind = k ∧ o.name = n) := by
  simp only [removeObj, List.mem_filter, decide_eq_true_eq]

theorem mem_mapObj {objs : List CObj} {k n : String} {f : CObj → CObj} {o : CObj} :
    o ∈ mapObj objs k n f ↔ ∃ o0 ∈ objs, o = (if o0.kind = k ∧ o0.name = n then f o0 else o0) := by
  simp [mapObj, eq_comm]

theorem map_key_mapObj {objs : List CObj} {k n : String} {f : CObj → CObj}
    (hf : ∀ o, key (f o) = key o) : (mapObj objs k n f).map key = objs.map key := by
  simp only [mapObj, List.map_map]
  apply List.map_congr_left
  intro o _
  simp only [Function.comp]
  split
  · exact hf o
  · rfl

theorem mapObj_fix {objs : List CObj} (hn : (objs.map key).Nodup) {k n : String} {o : CObj}
    (hf : findObj objs k n = some o) {f : CObj → CObj} (h : f o = o) : mapObj objs k n f = objs := by
  unfold mapObj
  conv => rhs; rw [← List.map_id objs]
  apply List.map_congr_left
  intro o2 ho2
  split
  · rename_i hm
    obtain ⟨hmo, hko, hno⟩ := findObj_some hf
    rw [eq_of_key_eq hn ho2 hmo ((key_eq_iff o2 o.kind o.name).mpr ⟨hm.1.trans hko.symm, hm.2.trans hno.symm⟩), h]
    rfl
  · rfl

theorem nodup_removeObj {objs : List CObj} {k n : String} (hn : (objs.map key).Nodup) :
    ((removeObj objs k n).map key).Nodup := by
  unfold removeObj
  exact (List.filter_sublist.map key).nodup hn

/-- what garbage collection does to a store: `s'` is `s` with some objects removed or marked terminating;
refs unchanged -/
structure Shrunk (s s' : St) : Prop where
  refs : s'.refs = s.refs
  nodup : (s'.objs.map key).Nodup
  sub : ∀ o' ∈ s'.objs, ∃ o ∈ s.objs, key o' = key o ∧ o'.annot = o.annot ∧ o'.ctrl = o.ctrl ∧
    (o'.deleting = false → o' = o)
  foreign0 : s'.foreign0 = s.foreign0
  keepForeign : ∀ o ∈ s.objs, o.ctrl = .other → o ∈ s'.objs
  miss : s'.miss = s.miss

theorem Shrunk.rfl' {s : St} (hn : (s.objs.map key).Nodup) : Shrunk s s :=
  ⟨rfl, hn, fun o ho => ⟨o, ho, rfl, rfl, rfl, fun _ => rfl⟩, rfl, fun _ h _ => h, rfl⟩

theorem Shrunk.trans {s1 s2 s3 : St} (h12 : Shrunk s1 s2) (h23 : Shrunk s2 s3) : Shrunk s1 s3 := by
  refine ⟨h23.refs.trans h12.refs, h23.nodup, ?_, h23.foreign0.trans h12.foreign0,
    fun o ho hc => h23.keepForeign o (h12.keepForeign o ho hc) hc, h23.miss.trans h12.miss⟩
  intro o3 ho3
  obtain ⟨o2, ho2, hk, ha, hc, hd⟩ := h23.sub o3 ho3
  obtain ⟨o1, ho1, hk', ha', hc', hd'⟩ := h12.sub o2 ho2
  refine ⟨o1, ho1, hk.trans hk', ha.trans ha', hc.trans hc', ?_⟩
  intro h
  have e := hd h
  subst e
  exact hd' h

theorem Shrunk.good {s s' : St} (hg : Good s) (h : Shrunk s s') : Good s' := by
  refine ⟨h.nodup, ?_, ?_, ?_, ?_⟩
  rotate_right
  · intro o ho
    rw [h.foreign0] at ho
    exact ⟨(hg.frame o ho).1, h.keepForeign o (hg.frame o ho).2 (hg.frame o ho).1⟩
  · intro o' ho'
    obtain ⟨o, ho, hk, _⟩ := h.sub o' ho'
    have := hg.named o ho
    simp only [key, Ref.mk.injEq] at hk
    rw [hk.2]; exact this
  · intro o' ho' hc hd
    obtain ⟨o, ho, _, _, _, he⟩ := h.sub o' ho'
    have e := he hd
    subst e
    rw [h.refs]
    exact hg.noLeak _ ho hc hd
  · intro a ha b hb hka hkb hab hne
    obtain ⟨a0, ha0, hk1, han1, hc1, _⟩ := h.sub a ha
    obtain ⟨b0, hb0, hk2, han2, hc2, _⟩ := h.sub b hb
    rw [h.refs] at hka hkb
    have : a0 = b0 := hg.obsUniq a0 ha0 b0 hb0 (hk1 ▸ hka) (hk2 ▸ hkb)
      (by rw [← han1, ← han2]; exact hab) (by rw [← han1]; exact hne)
    subst this
    exact eq_of_key_eq h.nodup ha hb (hk1.trans hk2.symm)

theorem Shrunk.dead_persist {s s' : St} (h : Shrunk s s') (K : Ref)
    (hd : ∀ o ∈ s.objs, key o = K → o.deleting = true) : ∀ o ∈ s'.objs, key o = K → o.deleting = true := by
  intro o' ho' hk
  obtain ⟨o, ho, hk', _, _, he⟩ := h.sub o' ho'
  cases hdel : o'.deleting with
  | true => rfl
  | false =>
    have e := he hdel
    subst e
    have := hd _ ho hk
    rw [hdel] at this; cases this

theorem Shrunk.absent {s s' : St} (h : Shrunk s s') {k n : String} (hf : findObj s.objs k n = none) :
    findObj s'.objs k n = none := by
  cases hf' : findObj s'.objs k n with
  | none => rfl
  | some o' =>
    obtain ⟨o, ho, hk, _⟩ := h.sub o' (findObj_some hf').1
    exact absurd ((key_eq_iff o k n).mp (hk.symm.trans ((key_eq_iff o' k n).mpr (findObj_some hf').2))) (findObj_none hf o ho)

theorem exec_delete_none {s : St} {k n : String} (h : findObj s.objs k n = none) :
    exec s (.delete k n) = (s, .notFound) := by simp [exec, h]

theorem exec_delete_fin {s : St} {k n : String} {o : CObj} (h : findObj s.objs k n = some o) (hf : o.fin = true) :
    exec s (.delete k n) = ({ s with objs := mapObj s.objs k n (fun o => { o with deleting := true }) }, .ok) := by
  simp [exec, h, hf]

theorem exec_delete_nofin {s : St} {k n : String} {o : CObj} (h : findObj s.objs k n = some o) (hf : o.fin = false) :
    exec s (.delete k n) = ({ s with objs := removeObj s.objs k n }, .ok) := by
  simp [exec, h, hf]

theorem exec_delete_shrunk (s : St) (hn : (s.objs.map key).Nodup) (k n : String)
    (hnf : ∀ x ∈ s.objs, key x = ⟨k, n⟩ → x.ctrl ≠ .other) :
    Shrunk s (exec s (.delete k n)).1 ∧
    ∀ o ∈ (exec s (.delete k n)).1.objs, key o = ⟨k, n⟩ → o.deleting = true := by
  have hkeep : ∀ o ∈ s.objs, o.ctrl = .other → ¬ (o.kind = k ∧ o.name = n) :=
    fun o ho hc hm => hnf o ho ((key_eq_iff o k n).mpr hm) hc
  cases hf : findObj s.objs k n with
  | none =>
    rw [exec_delete_none hf]
    exact ⟨Shrunk.rfl' hn, fun o ho hk => absurd ((key_eq_iff o k n).mp hk) (findObj_none hf o ho)⟩
  | some o0 =>
    cases hfin : o0.fin with
    | true =>
      rw [exec_delete_fin hf hfin]
      refine ⟨⟨rfl, ?_, ?_, rfl, ?_, rfl⟩, ?_⟩
      · exact (map_key_mapObj (objs := s.objs) (k := k) (n := n) (f := fun o => { o with deleting := true })
          fun _ => rfl).symm ▸ hn
      · intro o' ho'
        obtain ⟨o, ho, rfl⟩ := mem_mapObj.mp ho'
        refine ⟨o, ho, ?_⟩
        split
        · exact ⟨rfl, rfl, rfl, fun h => by simp at h⟩
        · exact ⟨rfl, rfl, rfl, fun _ => rfl⟩
      · intro o ho hc
        exact mem_mapObj.mpr ⟨o, ho, by simp [hkeep o ho hc]⟩
      · intro o' ho' hk
        obtain ⟨o, ho, rfl⟩ := mem_mapObj.mp ho'
        by_cases hm : o.kind = k ∧ o.name = n
        · simp [hm]
        · simp only [hm, if_false] at hk ⊢
          exact absurd ((key_eq_iff o k n).mp hk) hm
    | false =>
      rw [exec_delete_nofin hf hfin]
      refine ⟨⟨rfl, nodup_removeObj hn, ?_, rfl, ?_, rfl⟩, ?_⟩
      · intro o' ho'
        exact ⟨o', (mem_removeObj.mp ho').1, rfl, rfl, rfl, fun _ => rfl⟩
      · intro o ho hc
        exact mem_removeObj.mpr ⟨ho, hkeep o ho hc⟩
      · intro o' ho' hk
        exact absurd ((key_eq_iff o' k n).mp hk) (mem_removeObj.mp ho').2

theorem exec_gcUpdate_state (s : St) (k n : String) : (exec s (.gcUpdate k n)).1 = s := by
  simp only [exec]; split <;> rfl

theorem exec_statusUpdate_state (s : St) (rv : Option Nat) : (exec s (.statusUpdate rv)).1 = s := by
  simp only [exec]; split <;> rfl

theorem exec_statusUpdate_ok (s : St) : exec s (.statusUpdate (some s.xrRv)) = (s, .ok) := by
  simp [exec]

theorem exec_getXR (s : St) : exec s .getXR = (s, .xr s.xrFin s.xrRv s.refs) := by simp [exec]

theorem exec_addFinalizer (s : St) : exec s (.addFinalizer s.xrRv) =
    ({ s with xrFin := true, xrRv := s.xrRv + 1 }, .okRv (s.xrRv + 1)) := by simp [exec]

theorem exec_statusPatch (s : St) : exec s .statusPatch = (s, .okRv s.xrRv) := by simp [exec]

theorem exec_patchXR (s : St) : exec s .patchXR = (s, .ok) := by simp [exec]

theorem exec_create_exists {s : St} {k n a : String} {c : Nat} {o : CObj} (hf : findObj s.objs k n = some o) :
    exec s (.create k n a c) = (s, .exists_) := by
  simp only [exec, hf]

theorem exec_getObj_some {s : St} {k n : String} {o : CObj} (h : findObj s.objs k n = some o) :
    exec s (.getObj k n) = (s, .found o) := by simp [exec, h]

theorem exec_getObj_none {s : St} {k n : String} (h : findObj s.objs k n = none) :
    exec s (.getObj k n) = (s, .notFound) := by simp [exec, h]

theorem exec_getCached_miss {s : St} {k n : String} (h : (⟨k, n⟩ : Ref) ∈ s.miss) :
    exec s (.getCached k n) = (s, .notFound) := by simp [exec, h]

theorem exec_getCached_hit {s : St} {k n : String} (h : (⟨k, n⟩ : Ref) ∉ s.miss) :
    exec s (.getCached k n) = exec s (.getObj k n) := by simp [exec, h]

theorem exec_getCached_none {s : St} {k n : String} (h : findObj s.objs k n = none) :
    exec s (.getCached k n) = (s, .notFound) := by
  by_cases hm : (⟨k, n⟩ : Ref) ∈ s.miss
  · exact exec_getCached_miss hm
  · rw [exec_getCached_hit hm, exec_getObj_none h]

theorem exec_getCached_some {s : St} {k n : String} {o : CObj} (h : findObj s.objs k n = some o)
    (hm : (⟨k, n⟩ : Ref) ∉ s.miss) : exec s (.getCached k n) = (s, .found o) := by
  rw [exec_getCached_hit hm, exec_getObj_some h]

theorem exec_getCached_resp (s : St) (k n : String) :
    exec s (.getCached k n) = (s, .notFound) ∨
    ∃ o, findObj s.objs k n = some o ∧ exec s (.getCached k n) = (s, .found o) := by
  cases hf : findObj s.objs k n with
  | none => exact Or.inl (exec_getCached_none hf)
  | some o =>
    by_cases hm : (⟨k, n⟩ : Ref) ∈ s.miss
    · exact Or.inl (exec_getCached_miss hm)
    · exact Or.inr ⟨o, rfl, exec_getCached_some hf hm⟩

theorem exec_read_state {s : St} {r : Req} (h : isRead r = true) : (exec s r).1 = s := by
  cases r with
  | getXR => rfl
  | getObj k n => simp only [exec]; split <;> rfl
  | getCached k n => rcases exec_getCached_resp s k n with e | ⟨_, _, e⟩ <;> rw [e]
  | _ => cases h

/-- the two fields of the store that the API server does not hold: the cache misses are an input of the
reconcile, `foreign0` is a ghost -/
theorem exec_inputs (s : St) (r : Req) : (exec s r).1.miss = s.miss ∧ (exec s r).1.foreign0 = s.foreign0 := by
  -- every branch of `exec` returns `s`, or `s` with other fields updated
  fun_cases exec s r <;> exact ⟨rfl, rfl⟩

theorem exec_miss (s : St) (r : Req) : (exec s r).1.miss = s.miss := (exec_inputs s r).1

theorem exec_foreign0 (s : St) (r : Req) : (exec s r).1.foreign0 = s.foreign0 := (exec_inputs s r).2

/-- the names the generator proposes are not names of objects that exist but are missing from
the cache: then "the cache says the name is free" means the name is free. (The code accepts
this risk knowingly: `names.nameGenerator.GenerateName` probes a random 5-character suffix with
the cached client, "names can become unavailable shortly after".) -/
def FreshAvoids (miss : List Ref) (fresh : List String) : Prop := ∀ x ∈ fresh, ∀ r ∈ miss, r.name ≠ x

theorem FreshAvoids.tail {miss : List Ref} {x : String} {xs : List String} (h : FreshAvoids miss (x :: xs)) :
    FreshAvoids miss xs := fun y hy => h y (List.mem_cons_of_mem _ hy)

theorem FreshAvoids.head {miss : List Ref} {x : String} {xs : List String} (h : FreshAvoids miss (x :: xs))
    (k : String) : (⟨k, x⟩ : Ref) ∉ miss := fun hm => h x (List.mem_cons_self ..) _ hm rfl

theorem FreshAvoids.nil (fresh : List String) : FreshAvoids [] fresh := fun _ _ _ h => by cases h

/-- an entry of the freshly persisted reference list: (composition resource name, reference) -/
abbrev Ent := String × Ref

/-- invariant from the refs write to the end of the reconcile. `tagged` and `inj`: a referenced object carries the
resource name of its entry, and that name determines the entry; from them `Mid.good` recovers `Good`'s distinct resource names. -/
structure Mid (s : St) (ents : List Ent) : Prop where
  nodup : (s.objs.map key).Nodup
  namedObjs : ∀ o ∈ s.objs, o.name ≠ ""
  refs : ∀ r, r ∈ s.refs ↔ ∃ e ∈ ents, r = e.2
  noLeak : ∀ o ∈ s.objs, o.ctrl = .xr → o.deleting = false → key o ∈ s.refs
  tagged : ∀ o ∈ s.objs, key o ∈ s.refs → ∃ e ∈ ents, key o = e.2 ∧ o.annot = e.1
  inj : ∀ e1 ∈ ents, ∀ e2 ∈ ents, e1.1 = e2.1 → e1 = e2
  frame : ∀ o ∈ s.foreign0, o.ctrl = .other ∧ o ∈ s.objs

theorem Mid.good {s : St} {ents : List Ent} (h : Mid s ents) : Good s := by
  refine ⟨h.nodup, h.namedObjs, h.noLeak, ?_, h.frame⟩
  intro o1 ho1 o2 ho2 hk1 hk2 ha _
  obtain ⟨n1, hn1, e1, a1⟩ := h.tagged o1 ho1 hk1
  obtain ⟨n2, hn2, e2, a2⟩ := h.tagged o2 ho2 hk2
  have : n1 = n2 := h.inj n1 hn1 n2 hn2 (by rw [← a1, ← a2]; exact ha)
  subst this
  exact eq_of_key_eq h.nodup ho1 ho2 (e1.trans e2.symm)

theorem Mid.congr {s s' : St} {ents : List Ent} (h : Mid s ents) (hr : s'.refs = s.refs) (ho : s'.objs = s.objs)
    (hf : s'.foreign0 = s.foreign0) : Mid s' ents := by
  refine ⟨ho ▸ h.nodup, ho ▸ h.namedObjs, ?_, ?_, ?_, h.inj, ?_⟩
  · rw [hr]; exact h.refs
  · rw [hr, ho]; exact h.noLeak
  · rw [hr, ho]; exact h.tagged
  · rw [hf, ho]; exact h.frame

theorem Mid.of_write {s : St} {ents : List Ent} (h : Mid s ents) {e : Ent} (he : e ∈ ents) (hne : e.2.name ≠ "")
    {objs' : List CObj} (hn : (objs'.map key).Nodup)
    (hsub : ∀ o' ∈ objs', o' ∈ s.objs ∨ (key o' = e.2 ∧ o'.annot = e.1))
    (hframe : ∀ o ∈ s.foreign0, o ∈ objs') : Mid { s with objs := objs' } ents := by
  have hkr : e.2 ∈ s.refs := (h.refs _).mpr ⟨e, he, rfl⟩
  refine ⟨hn, ?_, h.refs, ?_, ?_, h.inj, fun o ho => ⟨(h.frame o ho).1, hframe o ho⟩⟩
  · intro o ho
    rcases hsub o ho with ho | ⟨hk, _⟩
    · exact h.namedObjs o ho
    · exact fun hn' => hne ((congrArg Ref.name hk).symm.trans hn')
  · intro o ho hc hd
    rcases hsub o ho with ho | ⟨hk, _⟩
    · exact h.noLeak o ho hc hd
    · exact hk.symm ▸ hkr
  · intro o ho hk'
    rcases hsub o ho with ho | ⟨hk, ha⟩
    · exact h.tagged o ho hk'
    · exact ⟨e, he, hk, ha⟩

theorem Mid.add {s : St} {ents : List Ent} (h : Mid s ents) {e : Ent} (he : e ∈ ents) (hne : e.2.name ≠ "")
    (hf : findObj s.objs e.2.kind e.2.name = none) {newObj : CObj} (hnk : key newObj = e.2) (hna : newObj.annot = e.1) :
    Mid { s with objs := s.objs ++ [newObj] } ents := by
  apply h.of_write he hne
  · simp only [List.map_append, List.map_cons, List.map_nil]
    apply List.nodup_append.mpr
    refine ⟨h.nodup, by simp, ?_⟩
    intro a ha b hb
    simp only [List.mem_singleton] at hb
    obtain ⟨o, ho, rfl⟩ := List.mem_map.mp ha
    subst hb
    rw [hnk]
    exact findObj_ref_none hf o ho
  · intro o' ho'
    rcases mem_snoc ho' with ho' | rfl
    · exact Or.inl ho'
    · exact Or.inr ⟨hnk, hna⟩
  · intro o ho; exact List.mem_append_left _ (h.frame o ho).2

theorem Mid.overwrite {s : St} {ents : List Ent} (h : Mid s ents) {e : Ent} (he : e ∈ ents) (hne : e.2.name ≠ "")
    {o0 : CObj} (hf : findObj s.objs e.2.kind e.2.name = some o0) (hc : o0.ctrl ≠ .other)
    {f : CObj → CObj} (hfk : ∀ o, key (f o) = key o) (hfa : ∀ o, (f o).annot = e.1) :
    Mid { s with objs := mapObj s.objs e.2.kind e.2.name f } ents := by
  obtain ⟨hm0, hk0⟩ := findObj_ref_some hf
  apply h.of_write he hne
  · rw [map_key_mapObj hfk]; exact h.nodup
  · intro o' ho'
    obtain ⟨o1, ho1, rfl⟩ := mem_mapObj.mp ho'
    split
    · rename_i hm
      exact Or.inr ⟨(hfk o1).trans ((key_eq_iff o1 _ _).mpr hm), hfa o1⟩
    · exact Or.inl ho1
  · intro o ho
    obtain ⟨hco, hm⟩ := h.frame o ho
    refine mem_mapObj.mpr ⟨o, hm, ?_⟩
    rw [if_neg]
    intro hk
    exact hc (eq_of_key_eq h.nodup hm hm0 (((key_eq_iff o _ _).mpr hk).trans hk0.symm) ▸ hco)

theorem mid_apply {s : St} {ents : List Ent} (h : Mid s ents) (e : Ent) (he : e ∈ ents) (hne : e.2.name ≠ "") (c : Nat) :
    Mid (exec s (.apply e.2.kind e.2.name e.1 c)).1 ents := by
  by_cases hinv : c = invalidContent
  · simp only [exec, hinv, if_true]
    exact h
  cases hf : findObj s.objs e.2.kind e.2.name with
  | none =>
    simp only [exec, hinv, if_false, hf]
    exact h.add he hne hf rfl rfl
  | some o0 =>
    by_cases hc0 : o0.ctrl = .other
    · simp only [exec, hinv, if_false, hf, hc0, if_true]
      exact h
    · simp only [exec, hinv, if_false, hf, hc0]
      exact h.overwrite he hne hf hc0 (fun _ => rfl) fun _ => rfl

theorem mid_create {s : St} {ents : List Ent} (h : Mid s ents) (e : Ent) (he : e ∈ ents) (hne : e.2.name ≠ "") (c : Nat) :
    Mid (exec s (.create e.2.kind e.2.name e.1 c)).1 ents := by
  cases hf : findObj s.objs e.2.kind e.2.name with
  | some o => rw [exec_create_exists hf]; exact h
  | none =>
    by_cases hinv : c = invalidContent
    · simp only [exec, hf, hinv, if_true]; exact h
    simp only [exec, hf, hinv, if_false]
    exact h.add he hne hf rfl rfl

theorem mid_mergePatch {s : St} {ents : List Ent} (h : Mid s ents) (e : Ent) (he : e ∈ ents) (hne : e.2.name ≠ "") (c : Nat) :
    Mid (exec s (.mergePatch e.2.kind e.2.name e.1 c)).1 ents := by
  by_cases hinv : c = invalidContent
  · simp only [exec, hinv, if_true]
    split <;> exact h
  cases hf : findObj s.objs e.2.kind e.2.name with
  | none => simp only [exec, hinv, if_false, hf]; exact h
  | some o =>
    by_cases hc : o.ctrl = .other
    · simp only [exec, hinv, if_false, hf, hc, if_true]
      exact h
    simp only [exec, hinv, if_false, hf, hc]
    exact h.overwrite he hne hf hc (fun _ => rfl) fun _ => rfl

/-- What a composer issues once it has written the references `ents`: reads, writes to the XR that leave its
references alone, and the write of an entry's object. Each keeps `Mid` in any store (`Mid.step`), so from the
reference write on the invariant is a fact about the program text (`Issues`), whatever the replies. -/
def AfterRefs (ents : List Ent) : Req → Prop
  | .apply k n a _ | .create k n a _ | .mergePatch k n a _ => (a, ⟨k, n⟩) ∈ ents ∧ n ≠ ""
  | .getXR | .getObj _ _ | .getCached _ _ | .patchXR | .statusPatch | .statusUpdate _ => True
  | _ => False

theorem Mid.step {s : St} {ents : List Ent} (h : Mid s ents) {r : Req} (hr : AfterRefs ents r) : Mid (exec s r).1 ents := by
  cases r with
  | apply k n a c => exact mid_apply h (a, ⟨k, n⟩) hr.1 hr.2 c
  | create k n a c => exact mid_create h (a, ⟨k, n⟩) hr.1 hr.2 c
  | mergePatch k n a c => exact mid_mergePatch h (a, ⟨k, n⟩) hr.1 hr.2 c
  | getXR | getObj _ _ | getCached _ _ => rw [exec_read_state rfl]; exact h
  | patchXR => rw [exec_patchXR]; exact h
  | statusPatch => rw [exec_statusPatch]; exact h
  | statusUpdate l => rw [exec_statusUpdate_state]; exact h
  | _ => exact hr.elim

def wanted (ds : List Desired) (a : String) : Bool := ds.any (·.rname = a)

theorem wanted_iff {ds : List Desired} {a : String} : wanted ds a = true ↔ ∃ d ∈ ds, d.rname = a := by
  simp [wanted]

/-- What a composer knows when it decides the new references, `look` being its record of the resources
found (resource name ↦ reference) and `done` the references of the start store `s0` dealt with so far. Loop invariant
of AssociateTemplates; the function composer is there once its garbage collection is through (`ready_of_observed` in Proofs/C01.lean). -/
structure Ready (s0 s : St) (ds : List Desired) (look : String → Option Ref) (done : List Ref) : Prop where
  sh : Shrunk s0 s
  refs : ∀ x ∈ done, x ∈ s0.refs
  kept : ∀ o ∈ s.objs, key o ∈ done → o.ctrl = .xr → wanted ds o.annot = true → look o.annot = some (key o)
  gone : ∀ o ∈ s.objs, key o ∈ done → o.ctrl = .xr → wanted ds o.annot ≠ true → o.deleting = true
  bwd : ∀ t r, look t = some r → ∃ o ∈ s0.objs, key o = r ∧ o.annot = t

/-- where the metadata.name of a rendered resource comes from: the resource recorded under its resource
name, or a generated name that no object of its kind carries -/
def Slot (s : St) (look : String → Option Ref) (d : Desired) (name : String) : Prop :=
  look d.rname = some ⟨d.kind, name⟩ ∨ look d.rname = none ∧ findObj s.objs d.kind name = none ∧ name ≠ ""

section ready
variable {s0 s : St} {ds : List Desired} {look : String → Option Ref} {done : List Ref}

theorem Slot.name_ne (hg0 : Good s0) (h : Ready s0 s ds look done) {s1 : St} {d : Desired} {name : String}
    (hs : Slot s1 look d name) : name ≠ "" := by
  rcases hs with hl | ⟨_, _, hne⟩
  · obtain ⟨o, ho, hk, _⟩ := h.bwd _ _ hl
    exact fun hn => hg0.named o ho ((congrArg Ref.name hk).trans hn)
  · exact hne

/-- **When the new references are persisted, every live composed resource controlled by the XR is among
them** (the step NoLeak rests on, for both composers). -/
theorem Mid.of_ready {s' : St} (hg0 : Good s0) (h : Ready s0 s ds look s0.refs) (hnd : (ds.map (·.rname)).Nodup)
    (hobjs : s'.objs = s.objs) (hf0 : s'.foreign0 = s.foreign0)
    {α : Type} {l : List α} {d : α → Desired} {name : α → String} (hd : l.map d = ds)
    (hrefs : ∀ r, r ∈ s'.refs ↔ ∃ x ∈ l, r = ⟨(d x).kind, name x⟩)
    -- `hslot`: `Slot s look (d x) (name x)` without its `name x ≠ ""`, which this step does not need
    (hslot : ∀ x ∈ l, look (d x).rname = some ⟨(d x).kind, name x⟩ ∨
      look (d x).rname = none ∧ findObj s.objs (d x).kind (name x) = none) :
    Mid s' (l.map fun x => ((d x).rname, ⟨(d x).kind, name x⟩)) := by
  have hg := h.sh.good hg0
  refine ⟨hobjs ▸ hg.nodup, hobjs ▸ hg.named, ?_, ?_, ?_, ?_, hf0 ▸ hobjs ▸ hg.frame⟩
  · intro r
    rw [hrefs]
    constructor
    · rintro ⟨x, hx, rfl⟩
      exact ⟨_, List.mem_map.mpr ⟨x, hx, rfl⟩, rfl⟩
    · rintro ⟨_, he, rfl⟩
      obtain ⟨x, hx, rfl⟩ := List.mem_map.mp he
      exact ⟨x, hx, rfl⟩
  · rw [hobjs]
    intro o ho hc hdel
    have hkr : key o ∈ s0.refs := h.sh.refs ▸ hg.noLeak o ho hc hdel
    by_cases hw : wanted ds o.annot = true
    · -- still wanted: recorded, so its entry inherited its name
      obtain ⟨d', hd', hdn⟩ := wanted_iff.mp hw
      obtain ⟨x, hx, rfl⟩ := List.mem_map.mp (hd ▸ hd')
      have hl := h.kept o ho hkr hc hw
      rw [← hdn] at hl
      rcases hslot x hx with hs | ⟨hs, _⟩
      · exact (hrefs _).mpr ⟨x, hx, Option.some.inj (hl.symm.trans hs)⟩
      · rw [hl] at hs; cases hs
    · -- no longer wanted: it was garbage collected, so it cannot be live
      have := h.gone o ho hkr hc hw
      rw [hdel] at this; cases this
  · rw [hobjs]
    intro o ho hk
    obtain ⟨x, hx, hkx⟩ := (hrefs _).mp hk
    refine ⟨_, List.mem_map.mpr ⟨x, hx, rfl⟩, hkx, ?_⟩
    rcases hslot x hx with hs | ⟨_, hs⟩
    · -- the object behind an inherited reference is the one recorded under the entry's name
      obtain ⟨o2, ho2, hk2, ha2⟩ := h.bwd _ _ hs
      obtain ⟨o0, ho0, hk0, ha0, _, _⟩ := h.sh.sub o ho
      rw [ha0, eq_of_key_eq hg0.nodup ho0 ho2 (hk0.symm.trans (hkx.trans hk2.symm)), ha2]
    · exact absurd hkx (findObj_ref_none (r := ⟨(d x).kind, name x⟩) hs o ho)
  · intro e1 h1 e2 h2 he
    obtain ⟨x1, hx1, rfl⟩ := List.mem_map.mp h1
    obtain ⟨x2, hx2, rfl⟩ := List.mem_map.mp h2
    rw [eq_of_map_nodup (f := fun x => (d x).rname) (by rw [← hd, List.map_map] at hnd; exact hnd) hx1 hx2 he]

end ready

end Xp.C01
