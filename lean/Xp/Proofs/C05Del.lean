import Xp.Proofs.C05
import Xp.Model.C05Claim
/-
The deletion branches of the XR and the claim reconcile: what they store is `markDeleted` of what was
stored (`reconcileDeleted_cases`, `claimDeleted_cases`); what a step leaves of the object
(`delStep_cases`, `cdelStep_cases`); the induction over a trace (`trace_invariant`).
-/
namespace Xp.C05

/-- the Synced condition a deletion branch ends with -/
inductive Mark where
  | paused | error | success

def Mark.cond : Mark → Cond
  | .paused => reconcilePaused
  | .error => reconcileError
  | .success => reconcileSuccess

theorem Mark.cond_type (m : Mark) : m.cond.type = "Synced" := by cases m <;> rfl

/-- what is stored: `d` = the Deleting condition is (still) in the status -/
def markDeleted (cs : List Cond) (d : Bool) (m : Mark) : List Cond :=
  setCond (if d then setCond cs deleting else cs) m.cond

theorem findC_markDeleted_ready (cs : List Cond) (d : Bool) (m : Mark) :
    findC (markDeleted cs d m) "Ready" = if d then some deleting else findC cs "Ready" := by
  unfold markDeleted
  rw [findC_setCond_ne _ _ _ (m.cond_type ▸ ready_ne_synced)]
  cases d
  · rfl
  · exact findC_setCond_self cs deleting

theorem markDeleted_synced_true_iff (cs : List Cond) (d : Bool) (m : Mark) :
    statusOf (markDeleted cs d m) "Synced" = some "True" ↔ m = .success := by
  rw [← m.cond_type, markDeleted, statusOf_setCond_self, Option.some.injEq]
  cases m
  case success => exact ⟨fun _ => rfl, fun _ => rfl⟩
  all_goals exact ⟨fun h => absurd h status_false_ne_true, nofun⟩

theorem findC_markDeleted_other (cs : List Cond) (d : Bool) (m : Mark) (t : String) (ht : t ≠ "Ready" ∧ t ≠ "Synced") :
    findC (markDeleted cs d m) t = findC cs t := by
  unfold markDeleted
  rw [findC_setCond_ne _ _ _ (m.cond_type ▸ ht.2)]
  cases d
  · rfl
  · exact findC_setCond_ne cs deleting t ht.1

theorem markDeleted_ready_true_only_if_before (cs : List Cond) (d : Bool) (m : Mark) (h : statusOf (markDeleted cs d m) "Ready" = some "True") :
    statusOf cs "Ready" = some "True" := by
  rw [statusOf_eq, findC_markDeleted_ready] at h
  cases d
  · exact h
  · exact absurd (Option.some.inj h) status_false_ne_true

/-- the deletion went through: connection details unpublished and the finalizer removed (or not
there any more / already gone with the object) -/
def DelCall.succeeds (c : DelCall) (fin : Bool) : Prop :=
  c.fault = none ∨ ∃ e, c.fault = some (.removeFinalizer, e) ∧ (fin = false ∨ e = .notFound)

/-- Deleting is missing from a stored status only in the pause branch and, without the repair
(`re = false`), after RemoveFinalizer's Update went through. -/
theorem reconcileDeleted_cases (re : Bool) (old : St) (fin : Bool) (c : DelCall) (st : St)
    (h : reconcileDeleted re old fin c = some st) :
    ∃ d m, st = { old with conds := markDeleted old.conds d m } ∧
      (d = false → c.paused = true ∨ (re = false ∧ fin = true ∧ c.fault = none)) ∧
      (c.paused = false → (m = .success ↔ c.succeeds fin)) := by
  have ok : ∀ {S : Prop}, S → (Mark.success = Mark.success ↔ S) := fun h => ⟨fun _ => h, fun _ => rfl⟩
  have bad : ∀ {S : Prop}, ¬ S → (Mark.error = Mark.success ↔ S) := fun h => ⟨nofun, fun hs => absurd hs h⟩
  revert h
  unfold DelCall.succeeds
  -- the exits that store nothing (case1: Get fails or the update is lost; case5: conflict) close by `cases h`
  fun_cases reconcileDeleted re old fin c <;> intro h <;> cases h
  case case2 hp => exact ⟨false, .paused, rfl, fun _ => Or.inl hp, fun h => nomatch hp.symm.trans h⟩
  case case3 hf =>                                         -- UnpublishConnection fails
    refine ⟨true, .error, rfl, nofun, fun _ => bad ?_⟩
    rw [hf]
    rintro (h | ⟨_, h, _⟩) <;> cases h
  case case4 e hf hb =>                                    -- RemoveFinalizer: nothing to remove, or NotFound
    exact ⟨true, .success, rfl, nofun, fun _ => ok (Or.inr ⟨e, hf, by simpa using hb⟩)⟩
  case case6 e hf hb _ =>                                  -- RemoveFinalizer fails
    refine ⟨true, .error, rfl, nofun, fun _ => bad ?_⟩
    rw [hf]
    rintro (h | ⟨_, ⟨⟩, h⟩)
    · cases h
    · exact hb (by simpa using h)
  case case7 hf hb =>                                      -- the Update reset the XR in memory
    have ⟨h1, h2⟩ : fin = true ∧ re = false := by simpa using hb
    exact ⟨false, .success, rfl, fun _ => Or.inr ⟨h2, h1, hf⟩, fun _ => ok (Or.inl hf)⟩
  case case8 hf _ => exact ⟨true, .success, rfl, nofun, fun _ => ok (Or.inl hf)⟩

theorem claimDeleted_cases (re : Bool) (w : CDelWorld) (c : CDelCall) (cs : List Cond)
    (h : claimDeleted re w c = some cs) :
    ∃ d m, cs = markDeleted w.conds d m ∧
      (d = false → c.paused = true ∨ c.xrReadFails w = true ∨ (re = false ∧ w.fin = true)) := by
  have done : ∃ d, claimDelDone re w = markDeleted w.conds d .success ∧ (d = false → re = false ∧ w.fin = true) := by
    unfold claimDelDone
    cases w.fin
    case false => exact ⟨true, rfl, nofun⟩
    cases re
    case true => exact ⟨true, rfl, nofun⟩
    exact ⟨false, rfl, fun _ => ⟨rfl, rfl⟩⟩
  obtain ⟨d, hd, hleft⟩ := done
  revert h
  fun_cases claimDeleted re w c <;> intro h <;> cases h
  case case2 hp => exact ⟨false, .paused, rfl, fun _ => Or.inl hp⟩
  case case3 hx => exact ⟨false, .error, rfl, fun _ => Or.inr (Or.inl hx)⟩             -- the read of the XR fails
  case case5 | case9 => exact ⟨d, .success, hd, fun h => Or.inr (Or.inr (hleft h))⟩    -- through to the end
  case case7 => exact ⟨true, .success, rfl, nofun⟩                                      -- RemoveFinalizer: nothing to remove, or NotFound
  all_goals exact ⟨true, .error, rfl, nofun⟩                                            -- Delete, Unpublish, RemoveFinalizer fail

theorem delStep_cases (re : Bool) (x : DelXR) (c : DelCall) :
    delStep re (some x) c = (none, false) ∨
    ∃ x', delStep re (some x) c = (some x', (reconcileDeleted re x.st x.fin c).isSome) ∧
      x'.st = (reconcileDeleted re x.st x.fin c).getD x.st := by
  dsimp only [delStep]
  cases c.removes x.fin
  · cases reconcileDeleted re x.st x.fin c <;> exact Or.inr ⟨_, rfl, rfl⟩
  · cases x.held
    · exact Or.inl rfl
    · cases reconcileDeleted re x.st x.fin c <;> exact Or.inr ⟨_, rfl, rfl⟩

theorem cdelStep_cases (re : Bool) (w : CDelWorld) (c : CDelCall) :
    cdelStep re (some w) c = (none, false) ∨
    ∃ w', cdelStep re (some w) c = (some w', (claimDeleted re w c).isSome) ∧
      w'.conds = (claimDeleted re w c).getD w.conds := by
  dsimp only [cdelStep]
  cases c.removes w
  · cases claimDeleted re w c <;> exact Or.inr ⟨_, rfl, rfl⟩
  · cases w.held
    · exact Or.inl rfl
    · cases claimDeleted re w c <;> exact Or.inr ⟨_, rfl, rfl⟩

/-- Whatever the writer of a deletion branch preserves, every trace of reconciles preserves: a step
removes the object or leaves it with what the writer stored, if anything (`hcases`: `delStep_cases`,
`cdelStep_cases`). `trace` is any function with the two equations of `delTrace` / `cdelTrace`. -/
theorem trace_invariant {σ κ β : Type} {step : Option σ → κ → Option σ × Bool} {view : σ → β} {write : σ → κ → Option β}
    {trace : Option σ → List κ → List (Option β × Bool)} (hnil : ∀ x, trace x [] = [])
    (hcons : ∀ x c cs, trace x (c :: cs) = ((step x c).1.map view, (step x c).2) :: trace (step x c).1 cs)
    (hgone : ∀ c, (step none c).1 = none)
    (hcases : ∀ x c, step (some x) c = (none, false) ∨
      ∃ x', step (some x) c = (some x', (write x c).isSome) ∧ view x' = (write x c).getD (view x))
    {Q : β → Prop} (hwrite : ∀ x c b, write x c = some b → Q (view x) → Q b)
    (x : Option σ) (hx : ∀ z, x = some z → Q (view z)) (cs : List κ) :
    ∀ p ∈ trace x cs, ∀ b, p.1 = some b → Q b := by
  induction cs generalizing x with
  | nil => rw [hnil]; exact nofun
  | cons c cs ih =>
    have hx' : ∀ z, (step x c).1 = some z → Q (view z) := by
      cases x with
      | none => rw [hgone]; exact nofun
      | some x =>
        intro z hz
        rcases hcases x c with h1 | ⟨_, h1, hv⟩ <;> rw [h1] at hz <;> cases hz
        rw [hv]
        cases hw : write x c
        · exact hx x rfl
        · exact hwrite x c _ hw (hx x rfl)
    rw [hcons]
    intro p hp b hb
    rcases List.mem_cons.mp hp with rfl | hp
    · obtain ⟨z, hz, rfl⟩ := Option.map_eq_some_iff.mp hb
      exact hx' z hz
    · exact ih _ hx' p hp b hb

end Xp.C05
