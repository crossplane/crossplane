import Xp.Model.C16
/-
C16: owner-reference lists — `hasUid`, `ctrl`, `NotCtrlBy`, and what `addOwner`, `addController`,
`withPkg`, `pkgRef`, `ctrlCount` and `flipFirst` (`addOwner` of the flipped entry) do to them; the
object `update` submits (`updateSub_ok`).
-/
namespace Xp.C16

/-- some entry carries uid `u` -/
def hasUid (l : List ORef) (u : Nat) : Prop := ∃ r ∈ l, r.uid = u
/-- some entry with uid `u` is a controller reference -/
def ctrl (l : List ORef) (u : Nat) : Prop := ∃ r ∈ l, r.uid = u ∧ r.isCtrl = true

/-- `u`'s owner entry on `o` (the first one carrying its uid, as `ReleaseObjects` and
`meta.AddOwnerReference` look it up), if any, is not a controller reference -/
def NotCtrlBy (o : Obj) (u : Nat) : Prop :=
  ∀ x, o.owners.find? (fun r => r.uid = u) = some x → x.isCtrl = false

theorem notCtrlBy_of_not_ctrl (o : Obj) (u : Nat) (h : ¬ ctrl o.owners u) : NotCtrlBy o u := by
  intro x hx
  cases hc : x.isCtrl with
  | false => rfl
  | true =>
    exact absurd ⟨x, List.mem_of_find?_eq_some hx, by simpa using List.find?_some hx, hc⟩ h

theorem mem_addOwner_self (l : List ORef) (r : ORef) : r ∈ addOwner l r := by
  fun_induction addOwner l r <;> simp_all

theorem find_addOwner_self (l : List ORef) (r : ORef) :
    (addOwner l r).find? (fun x => x.uid = r.uid) = some r := by
  fun_induction addOwner l r <;> simp_all

theorem flipFirst_eq_addOwner {l : List ORef} {u : Nat} {x : ORef} (h : l.find? (fun r => r.uid = u) = some x) :
    flipFirst l u = addOwner l { x with controller := some false } := by
  induction l with
  | nil => cases h
  | cons y ys ih =>
    unfold flipFirst addOwner
    rw [List.find?_cons] at h
    by_cases hy : y.uid = u
    · simp only [hy, decide_true, Option.some.injEq] at h
      subst h
      simp only [hy, if_true]
    · simp only [hy, decide_false] at h
      have hx : x.uid = u := by simpa using List.find?_some h
      simp only [hy, hx, if_false, ih h]

theorem addOwner_eq_append {l : List ORef} {r : ORef} (h : l.find? (fun x => x.uid = r.uid) = none) :
    addOwner l r = l ++ [r] := by
  induction l with
  | nil => rfl
  | cons y ys ih =>
    rw [List.find?_cons] at h
    unfold addOwner
    by_cases hy : y.uid = r.uid
    · simp [hy] at h
    · simp only [hy, decide_false] at h
      simp only [hy, if_false, ih h, List.cons_append]

theorem mem_addOwner (l : List ORef) (r x : ORef) (h : x ∈ addOwner l r) : x = r ∨ x ∈ l := by
  induction l with
  | nil => simp [addOwner] at h; exact Or.inl h
  | cons y ys ih =>
    unfold addOwner at h
    split at h
    · rcases List.mem_cons.mp h with h | h
      · exact Or.inl h
      · exact Or.inr (List.mem_cons_of_mem _ h)
    · rcases List.mem_cons.mp h with h | h
      · exact Or.inr (h ▸ List.mem_cons_self)
      · rcases ih h with h | h
        · exact Or.inl h
        · exact Or.inr (List.mem_cons_of_mem _ h)

theorem mem_addOwner_of_ne (l : List ORef) (r x : ORef) (h : x ∈ l) (hne : x.uid ≠ r.uid) : x ∈ addOwner l r := by
  induction l with
  | nil => cases h
  | cons y ys ih =>
    unfold addOwner
    rcases List.mem_cons.mp h with h | h
    · subst h
      simp [hne]
    · split
      · exact List.mem_cons_of_mem _ h
      · exact List.mem_cons_of_mem _ (ih h)

theorem hasUid_addOwner (l : List ORef) (r : ORef) (u : Nat) (h : hasUid l u) : hasUid (addOwner l r) u := by
  obtain ⟨x, hx, hu⟩ := h
  by_cases e : x.uid = r.uid
  · exact ⟨r, mem_addOwner_self l r, by rw [← e, hu]⟩
  · exact ⟨x, mem_addOwner_of_ne l r x hx e, hu⟩

theorem ctrl_addOwner_of_not (l : List ORef) (r : ORef) (u : Nat) (hr : r.isCtrl = false)
    (h : ctrl (addOwner l r) u) : ctrl l u := by
  obtain ⟨x, hx, hu, hc⟩ := h
  rcases mem_addOwner l r x hx with e | e
  · subst e; rw [hr] at hc; cases hc
  · exact ⟨x, e, hu, hc⟩

theorem two_le_length_of_mem {α : Type} (m : List α) (a b : α) (ha : a ∈ m) (hb : b ∈ m) (hne : a ≠ b) :
    2 ≤ m.length := by
  match m, ha, hb with
  | [x], ha, hb =>
    simp at ha hb
    exact absurd (ha.trans hb.symm) hne
  | _ :: _ :: _, _, _ => simp

theorem ctrlCount_ge_two (l : List ORef) (a b : ORef) (ha : a ∈ l) (hb : b ∈ l) (hne : a ≠ b)
    (hca : a.isCtrl = true) (hcb : b.isCtrl = true) : 2 ≤ ctrlCount l := by
  unfold ctrlCount
  exact two_le_length_of_mem _ a b (List.mem_filter.mpr ⟨ha, hca⟩) (List.mem_filter.mpr ⟨hb, hcb⟩) hne

theorem ctrl_unique (l : List ORef) (a b : ORef) (h : ctrlCount l ≤ 1) (ha : a ∈ l) (hb : b ∈ l)
    (hca : a.isCtrl = true) (hcb : b.isCtrl = true) : a = b := by
  by_cases e : a = b
  · exact e
  · have := ctrlCount_ge_two l a b ha hb e hca hcb
    omega

theorem controllerOf_some (l : List ORef) (c : ORef) (h : controllerOf l = some c) : c ∈ l ∧ c.isCtrl = true := by
  unfold controllerOf at h
  exact ⟨List.mem_of_find?_eq_some h, by simpa using List.find?_some h⟩

theorem controllerOf_none (l : List ORef) (h : controllerOf l = none) (r : ORef) (hr : r ∈ l) : r.isCtrl = false := by
  unfold controllerOf at h
  have := List.find?_eq_none.mp h r hr
  simpa using this

theorem asController_isCtrl (p : Parent) : (asController p).isCtrl = true := rfl
theorem asOwner_isCtrl (p : Parent) : (asOwner p).isCtrl = false := rfl
theorem asController_uid (p : Parent) : (asController p).uid = p.uid := rfl
theorem asOwner_uid (p : Parent) : (asOwner p).uid = p.uid := rfl

theorem ctrl_only {l : List ORef} {p : Parent} (h : ctrlCount l ≤ 1) (hm : asController p ∈ l) (u : Nat)
    (hc : ctrl l u) : u = p.uid := by
  obtain ⟨r, hr, hu, hrc⟩ := hc
  rw [← hu, ctrl_unique l r (asController p) h hr hm hrc rfl]
  rfl

/-- the owner reference a revision holds on what it establishes -/
def mineRef (p : Parent) (control : Bool) : ORef := if control then asController p else asOwner p

theorem mineRef_uid (p : Parent) (control : Bool) : (mineRef p control).uid = p.uid := by
  cases control <;> rfl

theorem pkgRef_controller {p : Parent} {q : ORef} (h : pkgRef p = some q) : q.controller = some false := by
  unfold pkgRef at h
  cases hf : p.owners.find? (fun r => r.name = p.label) with
  | none => simp [hf] at h
  | some r => simp [hf] at h; subst h; rfl

theorem pkgRef_not_ctrl {p : Parent} {q : ORef} (h : pkgRef p = some q) : q.isCtrl = false := by
  unfold ORef.isCtrl
  rw [pkgRef_controller h]
  rfl

theorem hasUid_withPkg (p : Parent) (l : List ORef) (u : Nat) (h : hasUid l u) : hasUid (withPkg p l) u := by
  unfold withPkg
  split
  · exact hasUid_addOwner _ _ _ h
  · exact h

theorem ctrl_withPkg (p : Parent) (l : List ORef) (u : Nat) (h : ctrl (withPkg p l) u) : ctrl l u := by
  unfold withPkg at h
  split at h
  · rename_i q hq
    exact ctrl_addOwner_of_not _ _ _ (pkgRef_not_ctrl hq) h
  · exact h

theorem mem_withPkg_of_ne (p : Parent) (l : List ORef) (x : ORef) (h : x ∈ l)
    (hne : ∀ q, pkgRef p = some q → x.uid ≠ q.uid) : x ∈ withPkg p l := by
  unfold withPkg
  split
  · rename_i q hq
    exact mem_addOwner_of_ne _ _ _ h (hne q hq)
  · exact h

theorem pkg_mem_withPkg (p : Parent) (l : List ORef) (q : ORef) (h : pkgRef p = some q) : q ∈ withPkg p l := by
  unfold withPkg
  rw [h]
  exact mem_addOwner_self _ _

variable (p : Parent) (control : Bool)

theorem addController_ok {l : List ORef} {r : ORef} {refs : List ORef} (h : addController l r = .ok refs) :
    refs = addOwner l r := by
  revert h
  fun_cases addController l r with
  | case2 => nofun      -- another controller
  | _ => exact fun h => by cases h; rfl

theorem updateSub_ok {cur des sub : Obj} (h : updateSub p control cur des = .ok sub) :
    sub.rv = cur.rv ∧
    (control = true → sub.key = des.key ∧ sub.body = des.body ∧
      sub.owners = addOwner (withPkg p cur.owners) (asController p)) ∧
    (control = false → sub = { cur with owners := addOwner (withPkg p cur.owners) (asOwner p) }) := by
  revert h
  fun_cases updateSub p control cur des with
  | case1 => nofun      -- `AddControllerReference` refused
  | case2 hc refs hrefs =>      -- a controlling parent
    exact fun h => by
      cases h
      exact ⟨rfl, fun _ => ⟨rfl, rfl, addController_ok hrefs⟩, fun hf => by rw [hf] at hc; cases hc⟩
  | case3 hc => exact fun h => by cases h; exact ⟨rfl, fun h => absurd h hc, fun _ => rfl⟩

theorem updateSub_owners {cur des sub : Obj} (h : updateSub p control cur des = .ok sub) :
    sub.owners = addOwner (withPkg p cur.owners) (mineRef p control) := by
  obtain ⟨_, ht, hf⟩ := updateSub_ok p control h
  cases control
  · rw [hf rfl]
    rfl
  · exact (ht rfl).2.2

theorem updateSub_key {cur des sub : Obj} (h : updateSub p control cur des = .ok sub) :
    sub.key = (if control then des.key else cur.key) ∧ sub.rv = cur.rv := by
  obtain ⟨hrv, ht, hf⟩ := updateSub_ok p control h
  cases control with
  | true => exact ⟨(ht rfl).1, hrv⟩
  | false => rw [hf rfl]; exact ⟨rfl, rfl⟩

theorem updateSub_foreign_invalid {cur des sub : Obj} {r : ORef} (hr : r ∈ cur.owners)
    (hc : r.isCtrl = true) (hne : r.uid ≠ p.uid) (hq : ∀ q, pkgRef p = some q → r.uid ≠ q.uid)
    (h : updateSub p true cur des = .ok sub) : 2 ≤ ctrlCount sub.owners := by
  rw [updateSub_owners p true h]
  exact ctrlCount_ge_two _ r (asController p)
    (mem_addOwner_of_ne _ _ r (mem_withPkg_of_ne p _ r hr hq) hne) (mem_addOwner_self _ _)
    (fun e => hne (e ▸ rfl)) hc rfl

end Xp.C16
