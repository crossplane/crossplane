import Xp.Model.C11
import Xp.Base.List
/-
Lemmas for C11. Go maps are association lists (`keyed`, the layering law `lookup_setAll`). Every version of a derived CRD
is `decorate (mkVersion vr s mx) cols mach` (`derive_zip`, `derive_all`), whose schema is written out once
(`schema_decorate`, `gen*_base`): what Props/C11 says of a derived version is a lookup in that literal. The rest inverts
the functions that can fail (`forXR_ok`, `allCrds_ok`, `admission_allowed_iff`, ..).
-/
namespace Xp.C11

theorem keyed : Keyed (@lookup α) setKey :=
  ⟨⟨fun _ => rfl, fun _ _ _ _ => rfl⟩, fun _ _ => rfl, fun _ _ _ _ _ => rfl⟩

theorem lookup_setKey_self (k : String) (v : α) (m : List (String × α)) : lookup k (setKey k v m) = some v :=
  keyed.get_set_self k v m

theorem lookup_setKey_ne (k k2 : String) (v : α) (h : k2 ≠ k) (m : List (String × α)) :
    lookup k2 (setKey k v m) = lookup k2 m :=
  keyed.get_set_ne h v m

theorem prop_setKey_self (root : Schema) (k : String) (v : Schema) (ps : List (String × Schema)) :
    prop { root with props := setKey k v ps } k = v := by
  simp [prop, lookup_setKey_self]

theorem lookup_eq_none_iff (k : String) (m : List (String × α)) : lookup k m = none ↔ k ∉ keys m :=
  keyed.get_eq_none k m

/-- the layering law of `for k, v := range kvs { m[k] = v }`; `hnd` because `setAll` leaves the LAST value of a
repeated key of `kvs` where `lookup k kvs` finds the first -/
theorem lookup_setAll (k : String) (m kvs : List (String × α)) (hnd : (keys kvs).Nodup) :
    lookup k (setAll m kvs) = ((lookup k kvs) <|> (lookup k m)) :=
  (keyed.get_merge (fun _ => rfl) (fun _ _ _ _ => rfl) k m hnd).trans Option.or_eq_orElse

theorem lookup_setAll_of_mem (k : String) (m kvs : List (String × α)) (hnd : (keys kvs).Nodup) (h : k ∈ keys kvs) :
    lookup k (setAll m kvs) = lookup k kvs := by
  rw [lookup_setAll k m kvs hnd]
  cases hl : lookup k kvs with
  | none => exact absurd h ((lookup_eq_none_iff k kvs).mp hl)
  | some v => rfl

theorem lookup_setAll_of_not_mem (k : String) (m kvs : List (String × α)) (hnd : (keys kvs).Nodup) (h : k ∉ keys kvs) :
    lookup k (setAll m kvs) = lookup k m := by
  rw [lookup_setAll k m kvs hnd, (lookup_eq_none_iff k kvs).mpr h]; rfl

theorem lookup_setAll_nil (k : String) (kvs : List (String × α)) (hnd : (keys kvs).Nodup) :
    lookup k (setAll [] kvs) = lookup k kvs := by
  rw [lookup_setAll k [] kvs hnd]; cases lookup k kvs <;> rfl

theorem keys_setKey_of_mem (k : String) (v : α) (m : List (String × α)) (h : k ∈ keys m) : keys (setKey k v m) = keys m := by
  induction m with
  | nil => cases h
  | cons x xs ih =>
    by_cases hk : x.1 = k
    · simp [setKey, keys, hk]
    · simpa [setKey, keys, hk] using ih ((List.mem_cons.mp h).resolve_left (Ne.symm hk))

theorem genVersion_ok (vr : Version) (mx : Int) (cv : CrdVersion) (h : genVersion vr mx = .ok cv) :
    ∃ s, vr.schema = .ok s ∧ cv = mkVersion vr s mx := by
  revert h
  fun_cases genVersion vr mx
  case case3 s hs => exact fun h => ⟨s, hs, by cases h; rfl⟩   -- the schema parsed
  all_goals exact nofun

theorem genVersions_ok (vs : List Version) (mx : Int) (cols : List String) (mach : List (String × Schema))
    (cvs : List CrdVersion) (h : genVersions vs mx cols mach = .ok cvs) :
    Zip (fun vr cv => ∃ s, vr.schema = .ok s ∧ cv = decorate (mkVersion vr s mx) cols mach) vs cvs := by
  revert cvs
  fun_induction genVersions vs mx cols mach
  case case1 => exact fun _ h => by cases h; exact .nil
  case case4 vr rest cv hcv cvs' hrest ih =>   -- this version and the rest went through
    intro _ h
    cases h
    obtain ⟨s, hs, rfl⟩ := genVersion_ok vr mx cv hcv
    exact .cons ⟨s, hs, rfl⟩ (ih _ hrest)
  all_goals exact fun _ => nofun

theorem zip_imp {R S : α → β → Prop} {l1 : List α} {l2 : List β} (h : Zip R l1 l2) (f : ∀ a b, R a b → S a b) : Zip S l1 l2 := by
  induction h with
  | nil => exact Zip.nil
  | cons hr _ ih => exact Zip.cons (f _ _ hr) ih

theorem zip_mem_right {R : α → β → Prop} {l1 : List α} {l2 : List β} (h : Zip R l1 l2) : ∀ b ∈ l2, ∃ a, R a b := by
  induction h with
  | nil => nofun
  | cons hr _ ih => exact List.forall_mem_cons.mpr ⟨⟨_, hr⟩, ih⟩

theorem zip_mem_left {R : α → β → Prop} {l1 : List α} {l2 : List β} (h : Zip R l1 l2) : ∀ a ∈ l1, ∃ b, R a b := by
  induction h with
  | nil => nofun
  | cons hr _ ih => exact List.forall_mem_cons.mpr ⟨⟨_, hr⟩, ih⟩

theorem zip_filter_length {f : α → Bool} {g : β → Bool} {l1 : List α} {l2 : List β}
    (h : Zip (fun a b => g b = f a) l1 l2) : (l2.filter g).length = (l1.filter f).length := by
  induction h with
  | nil => rfl
  | cons hr _ ih =>
    simp only [List.filter_cons, hr]
    split <;> simp [ih]

/-- the closed forms from here to `schema_decorate` have the entries of the regenerated `xcrdBaseProps` written in:
like Props' `base_schema`, they stop holding when BaseProps changes in the tree -/
theorem genSpec_base (s : Schema) : genSpec Xp.Gen.xcrdBaseProps s =
    { type := "object", required := (prop s "spec").required, preserveUnknown := (prop s "spec").preserveUnknown,
      xValidations := (prop s "spec").xValidations, oneOf := (prop s "spec").oneOf,
      description := (prop s "spec").description, props := setAll [] (prop s "spec").props } := by
  simp [genSpec, Xp.Gen.xcrdBaseProps, prop, lookup]

theorem genStatus_base (s : Schema) : genStatus Xp.Gen.xcrdBaseProps s =
    { type := "object", required := (prop s "status").required, xValidations := (prop s "status").xValidations,
      oneOf := (prop s "status").oneOf, description := (prop s "status").description,
      props := setAll (setAll [] (prop s "status").props) Xp.Gen.xcrdStatusProps } := by
  simp [genStatus, Xp.Gen.xcrdBaseProps, prop, lookup]

theorem genMetadata_base (s : Schema) (mx : Int) : genMetadata Xp.Gen.xcrdBaseProps s mx =
    { type := "object", props := [("name", { type := "string", maxLength := some (nameMaxLength s mx) })] } := by
  simp [genMetadata, Xp.Gen.xcrdBaseProps, prop, lookup]

theorem schema_decorate (vr : Version) (s : Schema) (mx : Int) (cols : List String) (mach : List (String × Schema)) :
    (decorate (mkVersion vr s mx) cols mach).schema =
      { type := "object", required := ["spec"], description := s.description,
        props := [("apiVersion", { type := "string" }), ("kind", { type := "string" }),
                  ("metadata", genMetadata Xp.Gen.xcrdBaseProps s mx),
                  ("spec", { genSpec Xp.Gen.xcrdBaseProps s with props := setAll (genSpec Xp.Gen.xcrdBaseProps s).props mach }),
                  ("status", genStatus Xp.Gen.xcrdBaseProps s)] } := by
  simp [decorate, mkVersion, writeSpecProps, genSchema, Xp.Gen.xcrdBaseProps, prop, lookup, setKey]

theorem nameMaxLength_eq (s : Schema) (mx : Int) :
    nameMaxLength s mx = match (prop (prop s "metadata") "name").maxLength with
      | some a => min a mx
      | none => mx := by
  unfold nameMaxLength
  cases (prop (prop s "metadata") "name").maxLength with
  | none => rfl
  | some a =>
    by_cases h : a < mx
    · exact (if_pos h).trans (Int.min_eq_left (Int.le_of_lt h)).symm
    · exact (if_neg h).trans (Int.min_eq_right (Int.not_lt.mp h)).symm

theorem keys_withDefault (key : String) (pol : Option String) (t : List (String × Schema)) (h : key ∈ keys t) :
    keys (withDefault key pol t) = keys t := by
  cases pol with
  | none => rfl
  | some p => simp only [withDefault]; exact keys_setKey_of_mem _ _ _ h

theorem lookup_withDefault (key : String) (pol : Option String) (t : List (String × Schema)) (k : String) (h : key ∈ keys t) :
    lookup k (withDefault key pol t) = (lookup k t).map fun std => if k = key then applyDefault pol std else std := by
  by_cases hk : k = key
  · subst hk
    cases hs : lookup k t with
    | none => exact absurd h ((lookup_eq_none_iff k t).mp hs)
    | some std => cases pol <;> simp [withDefault, applyDefault, lookup_setKey_self, hs]
  · cases pol <;> simp [withDefault, lookup_setKey_ne _ _ _ hk, hk]

theorem nodup_tableOf (w : Which) : (keys (tableOf w)).Nodup := by
  cases w <;> simp [tableOf, keys, Xp.Gen.xcrdSpecPropsXR, Xp.Gen.xcrdSpecPropsClaim]

theorem nodup_statusProps : (keys Xp.Gen.xcrdStatusProps).Nodup := by simp [keys, Xp.Gen.xcrdStatusProps]

theorem machineryOf_eq (w : Which) (xrd : Xrd) :
    machineryOf w xrd = withDefault (policyKey w) (policyOf w xrd) (tableOf w) := by cases w <;> rfl

theorem policyKey_mem (w : Which) : policyKey w ∈ keys (tableOf w) := by
  cases w <;> simp [policyKey, tableOf, keys, Xp.Gen.xcrdSpecPropsXR, Xp.Gen.xcrdSpecPropsClaim]

theorem keys_machineryOf (w : Which) (xrd : Xrd) : keys (machineryOf w xrd) = keys (tableOf w) :=
  machineryOf_eq w xrd ▸ keys_withDefault _ _ _ (policyKey_mem w)

theorem nodup_machineryOf (w : Which) (xrd : Xrd) : (keys (machineryOf w xrd)).Nodup :=
  keys_machineryOf w xrd ▸ nodup_tableOf w

theorem lookup_machineryOf (w : Which) (xrd : Xrd) (k : String) :
    lookup k (machineryOf w xrd) =
      (lookup k (tableOf w)).map fun std => if k = policyKey w then applyDefault (policyOf w xrd) std else std :=
  machineryOf_eq w xrd ▸ lookup_withDefault _ _ _ k (policyKey_mem w)

theorem lookup_spec_props {vr : Version} {s : Schema} {mx : Int} {cols : List String} {mach : List (String × Schema)}
    (hnd : (keys mach).Nodup) (k : String) :
    lookup k (prop (decorate (mkVersion vr s mx) cols mach).schema "spec").props =
      (lookup k mach <|> lookup k (setAll [] (prop s "spec").props)) := by
  rw [schema_decorate, genSpec_base]
  simp [prop, lookup, lookup_setAll k _ _ hnd]

theorem lookup_status_props {vr : Version} {s : Schema} {mx : Int} {cols : List String} {mach : List (String × Schema)} (k : String) :
    lookup k (prop (decorate (mkVersion vr s mx) cols mach).schema "status").props =
      (lookup k Xp.Gen.xcrdStatusProps <|> lookup k (setAll [] (prop s "status").props)) := by
  rw [schema_decorate, genStatus_base]
  simp [prop, lookup, lookup_setAll k _ _ nodup_statusProps]

theorem forXR_ok (xrd : Xrd) (crd : Crd) (h : forXR xrd = .ok crd) :
    ∃ vs, genVersions xrd.versions Xp.Gen.xcrdMaxNameLengthXR Xp.Gen.xcrdPrinterColumnsXR (xrSpecMachinery xrd) = .ok vs ∧
      crd = { name := xrd.name, labels := crdLabels xrd, annotations := xrd.metaAnnotations, owners := [controllerRef xrd],
              scope := "Cluster", group := xrd.group,
              names := { xrd.names with categories := xrd.names.categories ++ [Xp.Gen.categoryComposite] },
              versions := vs, conversion := xrd.conversion } := by
  revert h
  fun_cases forXR xrd
  case case2 vs hvs => exact fun h => ⟨vs, hvs, by cases h; rfl⟩   -- the versions went through
  all_goals exact nofun

theorem forClaim_ok (xrd : Xrd) (crd : Crd) (h : forClaim xrd = .ok crd) :
    ∃ c vs, validateClaimNames xrd = .ok c ∧
      genVersions xrd.versions Xp.Gen.xcrdMaxNameLengthClaim Xp.Gen.xcrdPrinterColumnsClaim (claimSpecMachinery xrd) = .ok vs ∧
      crd = { name := c.plural ++ "." ++ xrd.group, labels := crdLabels xrd, annotations := xrd.metaAnnotations,
              owners := [controllerRef xrd], scope := "Namespaced", group := xrd.group,
              names := { c with categories := c.categories ++ [Xp.Gen.categoryClaim] },
              versions := vs, conversion := xrd.conversion } := by
  revert h
  fun_cases forClaim xrd
  case case3 c hc vs hvs => exact fun h => ⟨c, vs, hc, hvs, by cases h; rfl⟩   -- the names passed, the versions went through
  all_goals exact nofun

theorem derive_zip {w : Which} {xrd : Xrd} {crd : Crd} (h : derive w xrd = .ok crd) {R : Version → CrdVersion → Prop}
    (hR : ∀ vr s, vr.schema = .ok s →
      R vr (decorate (mkVersion vr s (maxNameLengthOf w)) (columnsOf w) (machineryOf w xrd))) :
    Zip R xrd.versions crd.versions := by
  have hz : ∀ {vs}, genVersions xrd.versions (maxNameLengthOf w) (columnsOf w) (machineryOf w xrd) = .ok vs →
      Zip R xrd.versions vs :=
    fun hvs => zip_imp (genVersions_ok _ _ _ _ _ hvs) fun _ _ ⟨s, hs, e⟩ => e ▸ hR _ s hs
  cases w with
  | xr => obtain ⟨vs, hvs, rfl⟩ := forXR_ok xrd crd h; exact hz hvs
  | claim => obtain ⟨c, vs, _, hvs, rfl⟩ := forClaim_ok xrd crd h; exact hz hvs

theorem derive_all {w : Which} {xrd : Xrd} {crd : Crd} (h : derive w xrd = .ok crd) {P : CrdVersion → Prop}
    (hP : ∀ vr s, P (decorate (mkVersion vr s (maxNameLengthOf w)) (columnsOf w) (machineryOf w xrd))) :
    ∀ cv ∈ crd.versions, P cv :=
  fun cv hcv => (zip_mem_right (derive_zip h fun vr s _ => hP vr s) cv hcv).elim fun _ h => h

/-- the summand `validateUpdate` has for each immutable field -/
theorem guard_eq_nil {p : Prop} [Decidable p] {a : String} : (if p then [a] else []) = [] ↔ ¬ p := by
  by_cases h : p
  · simp [h]
  · simp [h]

theorem validateClaimNames_some (d : Xrd) (c : Names) (hc : d.claimNames = some c) :
    (claimNamesCollide c d.names ∧ ∃ n, validateClaimNames d = .error (.conflictingClaimName n)) ∨
    (¬ claimNamesCollide c d.names ∧ validateClaimNames d = .ok c) := by
  simp only [validateClaimNames, hc, claimNamesCollide]
  by_cases h1 : c.kind = d.names.kind
  · exact .inl ⟨.inl h1, _, if_pos h1⟩
  by_cases h2 : c.plural = d.names.plural
  · exact .inl ⟨.inr (.inl h2), _, by rw [if_neg h1, if_pos h2]⟩
  by_cases h3 : c.singular ≠ "" ∧ c.singular = d.names.singular
  · exact .inl ⟨.inr (.inr (.inl h3)), _, by rw [if_neg h1, if_neg h2, if_pos h3]⟩
  by_cases h4 : c.listKind ≠ "" ∧ c.listKind = d.names.listKind
  · exact .inl ⟨.inr (.inr (.inr h4)), _, by rw [if_neg h1, if_neg h2, if_neg h3, if_pos h4]⟩
  · exact .inr ⟨fun h => h.elim h1 (·.elim h2 (·.elim h3 h4)), by rw [if_neg h1, if_neg h2, if_neg h3, if_neg h4]⟩

theorem validateClaimNames_ok (d : Xrd) (c : Names) (h : validateClaimNames d = .ok c) :
    d.claimNames = some c ∧ ¬ claimNamesCollide c d.names := by
  cases hd : d.claimNames with
  | none => simp only [validateClaimNames, hd] at h; cases h
  | some c' =>
    rcases validateClaimNames_some d c' hd with ⟨_, n, hn⟩ | ⟨hno, hok⟩
    · rw [hn] at h; cases h
    · rw [hok] at h; cases h; exact ⟨rfl, hno⟩

theorem allCrds_ok (xrd : Xrd) (crds : List (String × Crd)) (h : allCrds xrd = .ok crds) :
    ∃ x, forXR xrd = .ok x ∧ ((xrd.claimNames = none ∧ crds = [("xr", x)]) ∨
      ∃ cc, forClaim xrd = .ok cc ∧ crds = [("xr", x), ("claim", cc)]) := by
  revert h
  fun_cases allCrds xrd
  case case2 x hx hn => exact fun h => ⟨x, hx, .inl ⟨hn, by cases h; rfl⟩⟩   -- no claim names: the composite's CRD alone
  case case4 x hx _ _ cc hcc => exact fun h => ⟨x, hx, .inr ⟨cc, hcc, by cases h; rfl⟩⟩   -- both CRDs
  all_goals exact nofun

theorem allCrds_collide (xrd : Xrd) (c : Names) (hc : xrd.claimNames = some c) (hcol : claimNamesCollide c xrd.names)
    (crds : List (String × Crd)) : allCrds xrd ≠ .ok crds := by
  intro h
  obtain ⟨x, _, ⟨hn, _⟩ | ⟨cc, hcc, _⟩⟩ := allCrds_ok xrd crds h
  · rw [hc] at hn; cases hn
  · obtain ⟨c', _, hv, _, _⟩ := forClaim_ok xrd cc hcc
    obtain ⟨h0, hno⟩ := validateClaimNames_ok xrd c' hv
    rw [hc] at h0; cases h0; exact hno hcol

theorem dryRun_allowed_iff (server : Crd → Bool) (crds : List (String × Crd)) :
    dryRun server crds = .allowed ↔ ∀ p ∈ crds, server p.2 = true := by
  fun_induction dryRun server crds <;> simp_all

-- `.allowed` is the value of one branch only (no validation error, `allCrds` succeeds, the dry-run loop runs
-- through, `dryRun_allowed_iff`); every other branch ends in another constructor of `Admission`
theorem admission_allowed_iff (errs : List String) (xrd : Xrd) (server : Crd → Bool) :
    admission errs xrd server = .allowed ↔ errs = [] ∧ ∃ crds, allCrds xrd = .ok crds ∧ ∀ p ∈ crds, server p.2 = true := by
  fun_cases admission errs xrd server <;> simp_all [dryRun_allowed_iff]

theorem admission_collide (errs : List String) (xrd : Xrd) (c : Names) (hc : xrd.claimNames = some c)
    (hcol : claimNamesCollide c xrd.names) (server : Crd → Bool) : admission errs xrd server ≠ .allowed := by
  intro h
  obtain ⟨_, crds, hcr, _⟩ := (admission_allowed_iff _ _ _).mp h
  exact allCrds_collide xrd c hc hcol crds hcr

theorem reconcileStep_eq (w : Which) (xrd : Xrd) (stored : Option Crd) : reconcileStep w xrd stored = derive w xrd := by
  unfold reconcileStep
  cases derive w xrd with
  | error e => rfl
  | ok d => cases stored <;> rfl

-- `isEstablished` and `find?` walk the conditions alike: the first one of type Established decides
theorem isEstablished_iff_find (conds : List (String × String)) :
    isEstablished conds = true ↔ conds.find? (·.1 = "Established") = some ("Established", "True") := by
  fun_induction isEstablished conds <;> simp_all

theorem genSchema_read (s : Schema) (mx : Int) : genSchema (readSchema s) mx = genSchema s mx := by
  have h1 : prop (readSchema s) "spec" = readSpec (prop s "spec") := by simp [prop, lookup, readSchema]
  have h2 : prop (readSchema s) "status" = readStatus (prop s "status") := by simp [prop, lookup, readSchema]
  have h3 : (prop (prop (readSchema s) "metadata") "name").maxLength = (prop (prop s "metadata") "name").maxLength := by
    simp [prop, lookup, readSchema]
  -- `readSpec` / `readStatus` keep exactly the fields that occur in the closed forms of `genSpec` / `genStatus`
  simp only [genSchema, genSpec_base, genStatus_base, genMetadata_base, nameMaxLength, h1, h2, h3]
  rfl

theorem genVersion_read (vr : Version) (mx : Int) : genVersion vr.read mx = genVersion vr mx := by
  unfold genVersion Version.read
  cases h : vr.schema with
  | absent => rfl
  | bad => rfl
  | ok s => simp only [mkVersion, genSchema_read]

theorem genVersions_read (vs : List Version) (mx : Int) (cols : List String) (mach : List (String × Schema)) :
    genVersions (vs.map Version.read) mx cols mach = genVersions vs mx cols mach := by
  induction vs with
  | nil => rfl
  | cons v rest ih => simp only [List.map_cons, genVersions, genVersion_read, ih]

end Xp.C11
