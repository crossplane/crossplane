import Xp.Model.C09World
import Xp.Proofs.C09
/-
The flow of connection details through the composers: what `foldDetails` / `flowDetails` return is
`Built` (Proofs/C09.lean) from the accumulator out of the templates' values, for any predicate `S` that
holds of them. So the keys are distinct, and a theorem about what a reconcile publishes
(`flowStep_values` in Props/C09.lean) asks nothing of the details.
-/
namespace Xp.C09

/-- the values a template can contribute: the values of its resource's connection secret, its
fixed values, the name of its resource -/
def tmplValues (t : Tmpl) : List String :=
  (t.secret.getD []).map (·.2) ++ t.cfgs.filterMap (·.value) ++ [t.cdName]

theorem tmplCfg_values (cfgs : List Cfg) : (cfgs.map tmplCfg).filterMap (·.value) = cfgs.filterMap (·.value) := by
  induction cfgs with
  | nil => rfl
  | cons c cs ih => simp only [List.map_cons, List.filterMap_cons, ih, tmplCfg]

theorem foldDetails_cons {t : Tmpl} {ts : List Tmpl} {acc d : Data} (h : foldDetails (t :: ts) acc = some d) :
    ∃ acc', extract (t.secret.getD []) (tmplFieldAt t) (t.cfgs.map tmplCfg) acc = some acc' ∧
      foldDetails ts acc' = some d := by
  unfold foldDetails at h
  split at h
  · cases h
  split at h
  · cases h
  · exact ⟨_, ‹_›, h⟩

theorem foldDetails_built {S : String → Prop} (ts : List Tmpl) (acc d : Data) (hS : ∀ t ∈ ts, ∀ v ∈ tmplValues t, S v)
    (h : foldDetails ts acc = some d) : Built S acc d := by
  induction ts generalizing acc with
  | nil => cases h; exact .refl _
  | cons t ts ih =>
    obtain ⟨acc', h1, h2⟩ := foldDetails_cons h
    have here : ∀ v ∈ tmplValues t, S v := hS t (List.mem_cons_self ..)
    refine .trans (extract_built
      (fun k v h => here v (List.mem_append_left _ (List.mem_append_left _ (dget_mem_values _ k v h))))
      (fun p v h => ?_) _ acc acc'
      (fun v h => here v (List.mem_append_left _ (List.mem_append_right _ (tmplCfg_values t.cfgs ▸ h)))) h1)
      (ih acc' (fun t' ht' => hS t' (List.mem_cons_of_mem _ ht')) h2)
    -- the only field a template's reader resolves is the name of its resource
    simp only [tmplFieldAt, fieldReader] at h
    split at h
    · exact here v (List.mem_append_right _ (Option.some.inj h ▸ List.mem_singleton_self _))
    · cases h

theorem flowDetails_folds {fn : Bool} {ts : List Tmpl} {d : Data} (h : flowDetails fn ts = some d) :
    ∃ ts', foldDetails ts' [] = some d ∧ ∀ t ∈ ts', t ∈ ts ∧ t.ctrl ≠ .other := by
  unfold flowDetails at h
  cases fn with
  | true => exact ⟨_, h, fun t ht => by simpa using List.mem_filter.mp ht⟩
  | false =>
    simp only [Bool.false_eq_true, if_false] at h
    split at h
    · cases h
    · rename_i hany
      exact ⟨ts, h, fun t ht => ⟨ht, fun hc => hany (List.any_eq_true.mpr ⟨t, ht, by simp [hc]⟩)⟩⟩

theorem flowDetails_built {fn : Bool} {ts : List Tmpl} {d : Data} (h : flowDetails fn ts = some d) :
    Built (fun v => ∃ t ∈ ts, t.ctrl ≠ .other ∧ v ∈ tmplValues t) [] d := by
  obtain ⟨ts', hf, hsub⟩ := flowDetails_folds h
  exact foldDetails_built ts' [] d (fun t ht _ hv => ⟨t, (hsub t ht).1, (hsub t ht).2, hv⟩) hf

theorem flowDetails_nodup {fn : Bool} {ts : List Tmpl} {d : Data} (h : flowDetails fn ts = some d) :
    (d.map (·.1)).Nodup :=
  (flowDetails_built h).nodup List.nodup_nil

end Xp.C09
