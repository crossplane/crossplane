import Xp.Proofs.C13Ctl
/-
C13: the data invariant `DataInv` of the fixed engine (engine and cache data only: no thread, no `next`,
as the imports show) and that every action performed under its precondition `ActKnows` keeps it
(`DataInv_apply`: a statement about `Act.apply` alone).
-/
namespace Xp.C13

/-- The part of the invariant that speaks of the engine's and the cache's data only (no thread). The
one-live-watch and no-orphan clauses are `own` with `regUniq`: a live registration IS the source its
controller records for that watch, so there is one per controller and watch, and `Stop` /
`StopWatches`, which walk the sources, reach all of them. -/
structure DataInv (s : Sys) : Prop where
  regId : ∀ r ∈ s.regs, r.id < s.nextReg
  regUniq : ∀ r1 ∈ s.regs, ∀ r2 ∈ s.regs, r1.id = r2.id → r1 = r2
  /-- a registration sits on the informer of its kind that exists now: handlers die with the
  informer they were added to (`Act.rmInformer`), and adding to a replaced informer fails -/
  regLive : ∀ r ∈ s.regs, aget r.wid.gvk s.live = some r.gen
  /-- an informer that exists is in the tracking cache's active set: the kinds of the live
  registrations are in every ActiveInformers snapshot taken now -/
  liveTracked : ∀ (g h : Nat), aget g s.live = some h → g ∈ s.tracked
  own : ∀ r ∈ s.regs, aget r.wid (srcsOf s r.cid) = some r.id
  ctlValid : ∀ (n cid : Nat), aget n s.ctrls = some cid → cid < s.objs.length ∧ stoppedOf s cid = false
  ctlInj : ∀ (n1 n2 cid : Nat), aget n1 s.ctrls = some cid → aget n2 s.ctrls = some cid → n1 = n2
  stopClean : ∀ cid : Nat, stoppedOf s cid = true → srcsOf s cid = [] ∧ ∀ r ∈ s.regs, r.cid ≠ cid
  cancelStop : ∀ cid : Nat, cancelledOf s cid = stoppedOf s cid

theorem DataInv_init (ops : List Op) : DataInv (init ops) where
  regId := nofun
  regUniq := nofun
  regLive := nofun
  liveTracked := nofun
  own := nofun
  ctlValid := nofun
  ctlInj := nofun
  stopClean := nofun
  cancelStop := fun _ => rfl

/-- What the thread that performs an action knows at that moment (from its `TFacts`: `act_knows`): `Stop`
finishes a controller its name maps to and that has no source left; a source is recorded for an
existing, not stopped controller that has no registration for this watch, on the current informer;
a source that is deleted was recorded. -/
def ActKnows (s : Sys) : Act → Prop
  | .finishStop n cid => aget n s.ctrls = some cid ∧ srcsOf s cid = []
  | .addReg cid wid h => cid < s.objs.length ∧ stoppedOf s cid = false ∧ aget wid.gvk s.live = some h ∧
      ∀ r ∈ s.regs, r.cid = cid → r.wid ≠ wid
  | .delReg cid wid reg => aget wid (srcsOf s cid) = some reg
  | _ => True

section
variable {s : Sys} {act : Act}

theorem regId_apply (hinv : DataInv s) : ∀ r ∈ (act.apply s).regs, r.id < (act.apply s).nextReg := by
  intro r hr
  rcases mem_regs_apply hr with h | ⟨_, _, _, rfl, rfl⟩
  · exact Nat.lt_of_lt_of_le (hinv.regId r h) (nextReg_le_apply act s)
  · exact Nat.lt_succ_self _

theorem regUniq_apply (hinv : DataInv s) :
    ∀ r1 ∈ (act.apply s).regs, ∀ r2 ∈ (act.apply s).regs, r1.id = r2.id → r1 = r2 := by
  -- a new registration has an id no old one has
  intro r1 h1 r2 h2 e
  rcases mem_regs_apply h1 with h1 | ⟨_, _, _, rfl, rfl⟩
  · rcases mem_regs_apply h2 with h2 | ⟨_, _, _, _, rfl⟩
    · exact hinv.regUniq r1 h1 r2 h2 e
    · exact absurd (hinv.regId r1 h1) (by rw [e]; exact Nat.lt_irrefl _)
  · rcases mem_regs_apply h2 with h2 | ⟨_, _, _, hh, rfl⟩
    · exact absurd (hinv.regId r2 h2) (by rw [← e]; exact Nat.lt_irrefl _)
    · cases hh; rfl

theorem regLive_apply (hinv : DataInv s) (hk : ActKnows s act) :
    ∀ r ∈ (act.apply s).regs, aget r.wid.gvk (act.apply s).live = some r.gen := by
  cases act
  case getInformer g f =>
    intro r hr
    refine (apply_getInformer_live g f _ _ _).2 (Or.inl (hinv.regLive r ?_))
    obtain ⟨_, _, _, e⟩ := apply_getInformer g f s
    rw [e] at hr
    exact hr
  case addReg cid wid h =>
    simp only [Act.apply]
    intro r hr
    rcases List.mem_cons.1 hr with rfl | hr'
    · exact hk.2.2.1
    · exact hinv.regLive r hr'
  case delReg cid wid reg =>
    simp only [Act.apply]
    intro r hr; exact hinv.regLive r (List.mem_filter.1 hr).1
  case rmInformer g =>
    simp only [Act.apply]
    intro r hr
    obtain ⟨hr1, hr2⟩ := List.mem_filter.1 hr
    have hne : g ≠ r.wid.gvk := by
      intro e; simp [e] at hr2
    rw [aget_adel_ne hne]
    exact hinv.regLive r hr1
  all_goals exact hinv.regLive

theorem liveTracked_apply (hinv : DataInv s) :
    ∀ (g h : Nat), aget g (act.apply s).live = some h → g ∈ (act.apply s).tracked := by
  cases act
  case getInformer g0 f =>
    intro g h hg
    rw [apply_getInformer_tracked]
    rcases (apply_getInformer_live g0 f _ _ _).1 hg with h1 | ⟨_, h2, _, _⟩
    · exact Or.inr (hinv.liveTracked g h h1)
    · exact Or.inl h2
  case rmInformer g0 =>
    simp only [Act.apply]
    intro g h hg
    have hne : g0 ≠ g := by
      intro e; subst e; rw [aget_adel_self] at hg; cases hg
    rw [aget_adel_ne hne] at hg
    refine List.mem_filter.2 ⟨hinv.liveTracked g h hg, ?_⟩
    simpa using fun e => hne e.symm
  all_goals exact hinv.liveTracked

theorem own_of_same {s s' : Sys} (hinv : DataInv s) (hsrc : ∀ cid, srcsOf s' cid = srcsOf s cid)
    (hregs : ∀ r ∈ s'.regs, r ∈ s.regs) : ∀ r ∈ s'.regs, aget r.wid (srcsOf s' r.cid) = some r.id := by
  intro r hr
  rw [hsrc]
  exact hinv.own r (hregs r hr)

theorem own_apply (hinv : DataInv s) (hk : ActKnows s act) :
    ∀ r ∈ (act.apply s).regs, aget r.wid (srcsOf (act.apply s) r.cid) = some r.id := by
  cases act
  case addReg cid wid h =>
    obtain ⟨hv, _, _, hnew⟩ := hk
    intro r hr
    simp only [srcsOf_apply]
    rcases List.mem_cons.1 hr with rfl | hr'
    · rw [if_pos ⟨rfl, hv⟩]; exact aget_aset_self _ _ _
    · by_cases ec : r.cid = cid
      · rw [if_pos ⟨ec, hv⟩, aget_aset_ne fun e => hnew r hr' ec e.symm]
        exact ec ▸ hinv.own r hr'
      · rw [if_neg fun x => ec x.1]; exact hinv.own r hr'
  case delReg cid wid reg =>
    intro r hr
    simp only [srcsOf_apply]
    obtain ⟨hr1, hr2⟩ := List.mem_filter.1 hr
    have hown := hinv.own r hr1
    by_cases ec : r.cid = cid
    · rw [if_pos ec]
      rw [ec] at hown
      by_cases ew : r.wid = wid
      · -- the recorded source of this watch is the registration that is deleted
        rw [ew, hk] at hown
        cases hown
        simp at hr2
      · rw [aget_adel_ne fun e => ew e.symm]
        exact hown
    · rw [if_neg ec]; exact hown
  -- the other actions leave the sources alone and add no registration
  all_goals exact own_of_same hinv (srcsOf_apply _ s) fun r hr => (mem_regs_apply hr).resolve_right nofun

theorem ctl_of_same {s s' : Sys} (hinv : DataInv s) (hc : s'.ctrls = s.ctrls) (hl : s.objs.length ≤ s'.objs.length)
    (hs : ∀ cid, stoppedOf s' cid = stoppedOf s cid) :
    (∀ (n cid : Nat), aget n s'.ctrls = some cid → cid < s'.objs.length ∧ stoppedOf s' cid = false) ∧
    (∀ (n1 n2 cid : Nat), aget n1 s'.ctrls = some cid → aget n2 s'.ctrls = some cid → n1 = n2) := by
  rw [hc]
  exact ⟨fun n cid h => ⟨Nat.lt_of_lt_of_le (hinv.ctlValid n cid h).1 hl, (hs cid).trans (hinv.ctlValid n cid h).2⟩,
    hinv.ctlInj⟩

theorem ctl_apply (hinv : DataInv s) (hk : ActKnows s act) :
    (∀ (n cid : Nat), aget n (act.apply s).ctrls = some cid →
      cid < (act.apply s).objs.length ∧ stoppedOf (act.apply s) cid = false) ∧
    (∀ (n1 n2 cid : Nat), aget n1 (act.apply s).ctrls = some cid →
      aget n2 (act.apply s).ctrls = some cid → n1 = n2) := by
  have hl := apply_objs_length_ge act s
  cases act
  case newCtl n =>
    -- the new object has index `s.objs.length`, which no name maps to yet (`ctlValid`)
    refine ⟨?_, ?_⟩
    · intro n' c hc
      rw [stoppedOf_apply]
      simp only [Act.apply, List.length_append, List.length_cons, List.length_nil, aget_cons] at hc ⊢
      split at hc
      · cases hc
        refine ⟨by omega, ?_⟩
        simp [stoppedOf]
      · have := hinv.ctlValid n' c hc
        exact ⟨by omega, this.2⟩
    · intro n1 n2 c h1 h2
      simp only [Act.apply, aget_cons] at h1 h2
      split at h1
      · rename_i e1
        cases h1
        split at h2
        · rename_i e2; rw [← e1, ← e2]
        · have := (hinv.ctlValid n2 _ h2).1; omega
      · split at h2
        · cases h2
          have := (hinv.ctlValid n1 _ h1).1; omega
        · exact hinv.ctlInj n1 n2 c h1 h2
  case finishStop n cid =>
    -- the other names map to other controllers, which stay as they are
    have key : ∀ n' c, aget n' (adel n s.ctrls) = some c → n' ≠ n ∧ aget n' s.ctrls = some c ∧ c ≠ cid := by
      intro n' c hc
      have hne : n ≠ n' := by
        intro e; subst e; rw [aget_adel_self] at hc; cases hc
      rw [aget_adel_ne hne] at hc
      refine ⟨fun e => hne e.symm, hc, ?_⟩
      intro e; subst e
      exact hne (hinv.ctlInj n n' c hk.1 hc)
    refine ⟨?_, ?_⟩
    · intro n' c hc
      simp only [Act.apply] at hc
      obtain ⟨_, hc', hne⟩ := key n' c hc
      rw [stoppedOf_apply]
      simp only [Act.apply, modCtl_length, hne, false_and, if_false]
      exact hinv.ctlValid n' c hc'
    · intro n1 n2 c h1 h2
      simp only [Act.apply] at h1 h2
      exact hinv.ctlInj n1 n2 c (key n1 c h1).2.1 (key n2 c h2).2.1
  case getInformer g f =>
    obtain ⟨_, _, _, e⟩ := apply_getInformer g f s
    rw [e]
    exact ⟨hinv.ctlValid, hinv.ctlInj⟩
  -- the other actions leave `e.controllers` and the stopped flags alone
  all_goals exact ctl_of_same hinv rfl hl (stoppedOf_apply _ s)

theorem stop_apply (hinv : DataInv s) (hk : ActKnows s act) (k : Nat) :
    cancelledOf (act.apply s) k = stoppedOf (act.apply s) k ∧
    (stoppedOf (act.apply s) k = true → srcsOf (act.apply s) k = [] ∧ ∀ r ∈ (act.apply s).regs, r.cid ≠ k) := by
  rw [cancelledOf_apply, stoppedOf_apply, srcsOf_apply]
  cases act <;> dsimp only
  case finishStop n cid =>
    split
    · -- the controller that is stopped has no source left, hence (`own`) no registration
      rename_i e
      rw [e.1]
      refine ⟨rfl, fun _ => ⟨hk.2, fun r hr hc => ?_⟩⟩
      have := hinv.own r hr
      rw [hc, hk.2] at this
      cases this
    · exact ⟨hinv.cancelStop k, hinv.stopClean k⟩
  case addReg cid wid h =>
    refine ⟨hinv.cancelStop k, fun hs => ?_⟩
    -- the controller a handler is added for is not stopped
    have e : k ≠ cid := fun e => by rw [e, hk.2.1] at hs; cases hs
    obtain ⟨h1, h2⟩ := hinv.stopClean k hs
    rw [if_neg fun x => e x.1]
    refine ⟨h1, fun r hr => ?_⟩
    rcases List.mem_cons.1 hr with rfl | hr'
    · exact fun x => e x.symm
    · exact h2 r hr'
  case delReg cid wid reg =>
    refine ⟨hinv.cancelStop k, fun hs => ?_⟩
    obtain ⟨h1, h2⟩ := hinv.stopClean k hs
    refine ⟨?_, fun r hr => h2 r (List.mem_filter.1 hr).1⟩
    split
    · rename_i e; rw [← e, h1]; rfl
    · exact h1
  -- the other actions leave the objects alone and add no registration
  all_goals exact ⟨hinv.cancelStop k, fun hs =>
    ⟨(hinv.stopClean k hs).1, fun r hr => (hinv.stopClean k hs).2 r ((mem_regs_apply hr).resolve_right nofun)⟩⟩

theorem DataInv_apply (hinv : DataInv s) (hk : ActKnows s act) : DataInv (act.apply s) where
  regId := regId_apply hinv
  regUniq := regUniq_apply hinv
  regLive := regLive_apply hinv hk
  liveTracked := liveTracked_apply hinv
  own := own_apply hinv hk
  ctlValid := (ctl_apply hinv hk).1
  ctlInj := (ctl_apply hinv hk).2
  stopClean := fun k => (stop_apply hinv hk k).2
  cancelStop := fun k => (stop_apply hinv hk k).1

end

theorem DataInv.set_threads {s : Sys} (h : DataInv s) (ths : List Thread) : DataInv { s with threads := ths } :=
  ⟨h.regId, h.regUniq, h.regLive, h.liveTracked, h.own, h.ctlValid, h.ctlInj, h.stopClean, h.cancelStop⟩

end Xp.C13
