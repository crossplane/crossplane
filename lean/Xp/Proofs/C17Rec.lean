import Xp.Model.C17Rec
/-
C17, lock reconciler at the level of its API calls. One call of the simulated server as a list of
effects (`Step`), and what it tells the ghost record (`Served`, no world in it). The coherence
invariant is kept by every call, every third-party act and the cache (`Coh.step`). Every write the
reconciler issues is justified by what the running Reconcile was served (`Guar`): proved about the
program and the replies alone (`Just`, an instance of `Xp.Kept` of Base/Prog.lean), and carried to
worlds next to other clients, together with the coherence invariant, by `Just.wp` (`Kept.wpE`, `WpE.inv`).
-/
namespace Xp.C17

theorem mem_setImage {kind name : String} {img : Option String} {rv : Nat} :
    ∀ (ps : List PkgObj), ∃ p0 : PkgObj, ∀ q ∈ setImage kind name img rv ps, q ∈ ps ∨ q = { p0 with image := img, rv := rv }
  | [] => ⟨⟨"", "", none, 0⟩, fun q h => by simp [setImage] at h⟩
  | p :: ps => by
    unfold setImage
    by_cases hk : sameKey kind name p = true
    · refine ⟨p, fun q h => ?_⟩
      simp only [hk, if_true] at h
      rcases List.mem_cons.mp h with h | h
      · exact Or.inr h
      · exact Or.inl (List.mem_cons_of_mem _ h)
    · obtain ⟨p0, ih⟩ := mem_setImage (kind := kind) (name := name) (img := img) (rv := rv) ps
      refine ⟨p0, fun q h => ?_⟩
      simp only [hk] at h
      rcases List.mem_cons.mp h with h | h
      · exact Or.inl (h ▸ List.mem_cons_self ..)
      · rcases ih q h with h' | h'
        · exact Or.inl (List.mem_cons_of_mem _ h')
        · exact Or.inr h'

theorem mem_putCached {p : PkgObj} : ∀ (qs : List PkgObj), ∀ q ∈ putCached p qs, q ∈ qs ∨ q = p
  | [], q, h => by simp [putCached] at h; exact Or.inr h
  | x :: xs, q, h => by
    unfold putCached at h
    by_cases hk : sameKey p.kind p.name x = true
    · simp only [hk, if_true] at h
      rcases List.mem_cons.mp h with h | h
      · exact Or.inr h
      · exact Or.inl (List.mem_cons_of_mem _ h)
    · simp only [hk] at h
      rcases List.mem_cons.mp h with h | h
      · exact Or.inl (h ▸ List.mem_cons_self ..)
      · rcases mem_putCached xs q h with h' | h'
        · exact Or.inl (List.mem_cons_of_mem _ h')
        · exact Or.inr h'

theorem lastMatch_spec (refOf : String → Option RefInfo) (repo : String) (ps : List PkgObj) (acc : Option (PkgObj × RefInfo))
    (p : PkgObj) (pref : RefInfo) (h : lastMatch refOf repo ps acc = some (p, pref)) :
    acc = some (p, pref) ∨ (p ∈ ps ∧ p.image.bind refOf = some pref ∧ pref.repo = repo) := by
  fun_induction lastMatch refOf repo ps acc with
  | case1 acc => exact .inl h
  | case2 acc x xs r hx ih =>  -- the image of `x` parses: `x` takes the accumulator's place if the repository is the one asked for
    refine (ih h).elim (fun h' => ?_) (.inr ∘ And.imp_left (List.mem_cons_of_mem _))
    split at h'
    · next hr => cases h'; exact .inr ⟨List.mem_cons_self .., hx, hr⟩
    · exact .inl h'
  | case3 acc x xs hx ih => exact (ih h).imp_right (And.imp_left (List.mem_cons_of_mem _))  -- it does not parse

theorem lastMatch_mem {refOf : String → Option RefInfo} {repo : String} {ps : List PkgObj} {p : PkgObj} {pref : RefInfo}
    (h : lastMatch refOf repo ps none = some (p, pref)) : p ∈ ps ∧ p.image.bind refOf = some pref ∧ pref.repo = repo :=
  (lastMatch_spec refOf repo ps none p pref h).resolve_left nofun

/-- What one call does, by effect: `Step w r w' resp` lists the ways `execRec w r` can come out.
Every property of a single call below is read off this list. -/
inductive Step (w : RWorld) : Req → RWorld → Resp → Prop
  /-- nothing is applied: NotFound, Conflict, an unreachable registry -/
  | fail (r : Req) (e : ErrClass) : e ≠ .alreadyExists → Step w r w (.err e)
  | secret (ref : String) : Step w (.pullSecret ref) w (.ok 0)
  | inject (r : Req) (e : ErrClass) : w.inject = some e → Step w r { w with inject := none } (.err e)
  | getLock (l : LockObj) : w.clock = some l → Step w .getLock { w with seen := { w.seen with lock := some l } } (.lock l)
  | list (kind : String) : Step w (.listPkgs kind)
      { w with seen := { w.seen with pkgs := some (w.cpkgs.filter (fun p => p.kind == kind)) } }
      (.pkgs (w.cpkgs.filter (fun p => p.kind == kind)))
  | tags (repo : String) (ts : List String) : Step w (.tags repo) { w with seen := { w.seen with tags := some ts } } (.tags ts)
  | getPkg (kind name : String) (p : PkgObj) : w.cpkgs.find? (sameKey kind name) = some p →
      Step w (.getPkg kind name) { w with seen := { w.seen with existing := some p } } (.pkg p)
  | taken (kind name image : String) :
      Step w (.createPkg kind name image) { w with seen := { w.seen with taken := true } } (.err .alreadyExists)
  | created (kind name image : String) : Step w (.createPkg kind name image)
      { w with pkgs := w.pkgs ++ [⟨kind, name, some image, w.next⟩], next := w.next + 1,
               seen := { w.seen with writes := w.seen.writes + 1 } } (.ok w.next)
  | updated (kind name image : String) (rv : Nat) (p : PkgObj) : w.pkgs.find? (sameKey kind name) = some p → p.rv = rv →
      Step w (.updatePkg kind name image rv)
        { w with pkgs := setImage kind name (some image) w.next w.pkgs, next := w.next + 1,
                 seen := { w.seen with writes := w.seen.writes + 1 } } (.ok w.next)
  | updateLock (pkgs : List Pkg) (fin : Bool) (rv : Nat) (l : LockObj) : w.lock = some l → l.rv = rv →
      Step w (.updateLock pkgs fin rv)
        { w with lock := some { l with pkgs := pkgs, fin := fin, rv := w.next }, next := w.next + 1 } (.ok w.next)
  | statusLock (c : Option Bool) (rv : Nat) (l : LockObj) : w.lock = some l → l.rv = rv →
      Step w (.statusLock c rv)
        { w with lock := some { l with resolved := c, rv := w.next }, next := w.next + 1 } (.ok w.next)

theorem exec_step (w : RWorld) (r : Req) : Step w r (execRec w r).1 (execRec w r).2 := by
  fun_cases execRec w r with
  | case1 r e h => exact .inject r e h
  | case3 _ l h => exact .getLock l h
  | case6 _ ps fin rv l h hr => exact .updateLock ps fin rv l h (Decidable.not_not.1 hr)
  | case9 _ c rv l h hr => exact .statusLock c rv l h (Decidable.not_not.1 hr)
  | case10 _ kind => exact .list kind
  | case11 _ ref => exact .secret ref
  | case13 _ repo ts => exact .tags repo ts
  | case15 _ kind name p h => exact .getPkg kind name p h
  | case16 _ kind name image => exact .taken kind name image
  | case17 _ kind name image => exact .created kind name image
  | case20 _ kind name image rv p h hr => exact .updated kind name image rv p h (Decidable.not_not.1 hr)
  | _ => exact .fail _ _ (by decide)  -- the nine branches that refuse: NotFound, Conflict, an unreachable registry

/-- How the ghost record moves over one call, applied or not, as far as request and reply tell:
`Step` without the world. -/
inductive Served (sn : Seen) : Req → Resp → Seen → Prop
  | err (r : Req) (e : ErrClass) : Served sn r (.err e) sn
  | taken (kind name image : String) : Served sn (.createPkg kind name image) (.err .alreadyExists) { sn with taken := true }
  | lock (l : LockObj) : Served sn .getLock (.lock l) { sn with lock := some l }
  | pkgs (kind : String) (ps : List PkgObj) : Served sn (.listPkgs kind) (.pkgs ps) { sn with pkgs := some ps }
  | tags (repo : String) (ts : List String) : Served sn (.tags repo) (.tags ts) { sn with tags := some ts }
  | pkg (kind name : String) (p : PkgObj) : p.kind = kind → p.name = name →
      Served sn (.getPkg kind name) (.pkg p) { sn with existing := some p }
  | ok (r : Req) (rv : Nat) : Served sn r (.ok rv) { sn with writes := if r.isPkgWrite then sn.writes + 1 else sn.writes }

theorem Step.served {w w' : RWorld} {r : Req} {resp : Resp} (h : Step w r w' resp) : Served w.seen r resp w'.seen := by
  cases h with
  | fail r e | inject r e => exact .err r e
  | secret | created | updated | updateLock | statusLock => exact .ok _ _
  | getLock l => exact .lock l
  | list kind => exact .pkgs kind _
  | tags repo ts => exact .tags repo ts
  | getPkg kind name p hf =>
    have := List.find?_some hf
    simp only [sameKey, Bool.and_eq_true, beq_iff_eq] at this
    exact .pkg kind name p this.1 this.2
  | taken k n i => exact .taken k n i

/-- The step every operation has the shape of: a stored object stays, goes, or is written at
resourceVersion `next` (the Lock, or the one package `q0`), and the cache and the ghost record
receive copies of stored or cached objects. Old objects are below `next`, so a copy that carries
the resourceVersion of a stored object is a copy of that object. -/
theorem Coh.step {w w' : RWorld} (hc : Coh w) (q0 : Option PkgObj) (hn : w.next ≤ w'.next)
    (hl : ∀ l, w'.lock = some l → w.lock = some l ∨ (l.rv = w.next ∧ w.next < w'.next))
    (hp : ∀ q ∈ w'.pkgs, q ∈ w.pkgs ∨ (q0 = some q ∧ q.rv = w.next ∧ w.next < w'.next))
    (hcl : ∀ c, w'.clock = some c → w.clock = some c ∨ w.lock = some c)
    (hcp : ∀ c ∈ w'.cpkgs, c ∈ w.cpkgs ∨ c ∈ w.pkgs)
    (hsl : ∀ c, w'.seen.lock = some c → w.seen.lock = some c ∨ w.clock = some c)
    (hsp : ∀ ps, w'.seen.pkgs = some ps → w.seen.pkgs = some ps ∨ ∀ c ∈ ps, c ∈ w.cpkgs) : Coh w' := by
  -- copies of the Lock, old and new, and what they say against the stored Lock of `w`
  have clockOld : ∀ c, w'.clock = some c → c.rv < w.next ∧ ∀ l, w.lock = some l → c.rv = l.rv → c = l :=
    fun c h => (hcl c h).elim (fun h' => ⟨hc.clockRv c h', fun l => hc.clockEq c l h'⟩)
      (fun h' => ⟨hc.lockRv c h', fun l hl _ => Option.some.inj (h'.symm.trans hl)⟩)
  have seenLockOld : ∀ c, w'.seen.lock = some c → c.rv < w.next ∧ ∀ l, w.lock = some l → c.rv = l.rv → c = l :=
    fun c h => (hsl c h).elim (fun h' => ⟨hc.seenLockRv c h', fun l => hc.seenLockEq c l h'⟩)
      (fun h' => ⟨hc.clockRv c h', fun l => hc.clockEq c l h'⟩)
  have cpkgOld : ∀ c ∈ w'.cpkgs, c.rv < w.next ∧ ∀ p ∈ w.pkgs, c.rv = p.rv → c = p :=
    fun c h => (hcp c h).elim (fun h' => ⟨hc.cpkgRv c h', hc.cpkgEq c h'⟩) (fun h' => ⟨hc.pkgRv c h', hc.pkgUniq c h'⟩)
  have seenPkgOld : ∀ ps, w'.seen.pkgs = some ps → ∀ c ∈ ps, c.rv < w.next ∧ ∀ p ∈ w.pkgs, c.rv = p.rv → c = p :=
    fun ps h c hm => (hsp ps h).elim (fun h' => ⟨hc.seenPkgRv ps h' c hm, hc.seenPkgEq ps h' c hm⟩)
      (fun h' => ⟨hc.cpkgRv c (h' c hm), hc.cpkgEq c (h' c hm)⟩)
  -- a copy against the stored objects of `w'`: an old one by the above, a new one sits at `next`
  have lockEq : ∀ c, (c.rv < w.next ∧ ∀ l, w.lock = some l → c.rv = l.rv → c = l) →
      ∀ l, w'.lock = some l → c.rv = l.rv → c = l := fun c hc' l h he =>
    (hl l h).elim (fun h' => hc'.2 l h' he) (fun h' => absurd (he ▸ hc'.1) (h'.1 ▸ Nat.lt_irrefl _))
  have pkgEq : ∀ c, (c.rv < w.next ∧ ∀ p ∈ w.pkgs, c.rv = p.rv → c = p) →
      ∀ p ∈ w'.pkgs, c.rv = p.rv → c = p := fun c hc' p h he =>
    (hp p h).elim (fun h' => hc'.2 p h' he) (fun h' => absurd (he ▸ hc'.1) (h'.2.1 ▸ Nat.lt_irrefl _))
  have pkgRv : ∀ p ∈ w'.pkgs, p.rv < w'.next := fun p h =>
    (hp p h).elim (fun h' => Nat.lt_of_lt_of_le (hc.pkgRv p h') hn) (fun h' => h'.2.1 ▸ h'.2.2)
  exact {
    lockRv := fun l h => (hl l h).elim (fun h' => Nat.lt_of_lt_of_le (hc.lockRv l h') hn) (fun h' => h'.1 ▸ h'.2)
    pkgRv := pkgRv
    clockRv := fun c h => Nat.lt_of_lt_of_le (clockOld c h).1 hn
    cpkgRv := fun c h => Nat.lt_of_lt_of_le (cpkgOld c h).1 hn
    seenLockRv := fun c h => Nat.lt_of_lt_of_le (seenLockOld c h).1 hn
    seenPkgRv := fun ps h c hm => Nat.lt_of_lt_of_le (seenPkgOld ps h c hm).1 hn
    pkgUniq := fun p hp1 q hq1 he =>
      (hp p hp1).elim (fun h1 => pkgEq p ⟨hc.pkgRv p h1, hc.pkgUniq p h1⟩ q hq1 he)
        (fun h1 => (hp q hq1).elim
          (fun h2 => (pkgEq q ⟨hc.pkgRv q h2, hc.pkgUniq q h2⟩ p hp1 he.symm).symm)
          (fun h2 => Option.some.inj (h1.1.symm.trans h2.1)))
    clockEq := fun c l h1 => lockEq c (clockOld c h1) l
    seenLockEq := fun c l h1 => lockEq c (seenLockOld c h1) l
    cpkgEq := fun c h1 => pkgEq c (cpkgOld c h1)
    seenPkgEq := fun ps h0 c h1 => pkgEq c (seenPkgOld ps h0 c h1) }

/-- the cache / the ghost record receive copies of stored or cached objects -/
theorem Coh.serve {w w' : RWorld} (hc : Coh w) (hn : w'.next = w.next) (h1 : w'.lock = w.lock) (h2 : w'.pkgs = w.pkgs)
    (hcl : w'.clock = w.clock ∨ w'.clock = w.lock)
    (hcp : ∀ q ∈ w'.cpkgs, q ∈ w.cpkgs ∨ q ∈ w.pkgs)
    (hsl : w'.seen.lock = w.seen.lock ∨ w'.seen.lock = w.clock)
    (hsp : w'.seen.pkgs = w.seen.pkgs ∨ ∃ ps, w'.seen.pkgs = some ps ∧ ∀ q ∈ ps, q ∈ w.cpkgs) : Coh w' :=
  hc.step none (Nat.le_of_eq hn.symm) (fun _ h => .inl (h1 ▸ h)) (fun _ h => .inl (h2 ▸ h))
    (fun _ h => hcl.elim (fun e => .inl (e ▸ h)) (fun e => .inr (e ▸ h))) hcp
    (fun _ h => hsl.elim (fun e => .inl (e ▸ h)) (fun e => .inr (e ▸ h)))
    (fun _ h => hsp.elim (fun e => .inl (e ▸ h))
      (fun ⟨_, e, hm⟩ => .inr (Option.some.inj (e.symm.trans h) ▸ hm)))

theorem Coh.congr {w w' : RWorld} (hc : Coh w) (h1 : w'.lock = w.lock) (h2 : w'.pkgs = w.pkgs)
    (h3 : w'.clock = w.clock) (h4 : w'.cpkgs = w.cpkgs) (h5 : w'.next = w.next)
    (h6 : w'.seen.lock = w.seen.lock) (h7 : w'.seen.pkgs = w.seen.pkgs) : Coh w' :=
  hc.serve h5 h1 h2 (.inl h3) (fun _ h => .inl (h4 ▸ h)) (.inl h6) (.inl h7)

/-- a write: the object written (the Lock, or the one package `q0`) gets the resourceVersion
`next`, everything else stays -/
theorem Coh.bump {w w' : RWorld} (hc : Coh w) (hn : w'.next = w.next + 1)
    (hl : w'.lock = w.lock ∨ ∃ l', w'.lock = some l' ∧ l'.rv = w.next)
    (hq : ∃ q0 : PkgObj, q0.rv = w.next ∧ ∀ q ∈ w'.pkgs, q ∈ w.pkgs ∨ q = q0)
    (h3 : w'.clock = w.clock) (h4 : w'.cpkgs = w.cpkgs)
    (h6 : w'.seen.lock = w.seen.lock) (h7 : w'.seen.pkgs = w.seen.pkgs) : Coh w' := by
  obtain ⟨q0, hq0, hq⟩ := hq
  have hlt : w.next < w'.next := hn ▸ Nat.lt_succ_self _
  refine hc.step (some q0) (Nat.le_of_lt hlt) (fun l h => ?_) (fun q h => ?_)
    (fun _ h => .inl (h3 ▸ h)) (fun _ h => .inl (h4 ▸ h)) (fun _ h => .inl (h6 ▸ h)) (fun _ h => .inl (h7 ▸ h))
  · rcases hl with hl | ⟨l', hl, hr⟩
    · exact .inl (hl ▸ h)
    · exact .inr ⟨Option.some.inj (hl.symm.trans h) ▸ hr, hlt⟩
  · exact (hq q h).imp_right (fun (e : q = q0) => ⟨by rw [e], by rw [e]; exact hq0, hlt⟩)

-- the `hq` of `Coh.bump` for the three kinds of write: no package is touched, one is appended, one gets a new image
theorem written_none (w : RWorld) : ∃ q0 : PkgObj, q0.rv = w.next ∧ ∀ q ∈ w.pkgs, q ∈ w.pkgs ∨ q = q0 :=
  ⟨⟨"", "", none, w.next⟩, rfl, fun _ h => .inl h⟩

theorem written_append (w : RWorld) (q0 : PkgObj) (h0 : q0.rv = w.next) :
    ∃ q0' : PkgObj, q0'.rv = w.next ∧ ∀ q ∈ w.pkgs ++ [q0], q ∈ w.pkgs ∨ q = q0' :=
  ⟨q0, h0, fun _ h => (List.mem_append.mp h).imp_right List.mem_singleton.1⟩

theorem written_setImage (w : RWorld) (kind name : String) (img : Option String) :
    ∃ q0 : PkgObj, q0.rv = w.next ∧ ∀ q ∈ setImage kind name img w.next w.pkgs, q ∈ w.pkgs ∨ q = q0 := by
  obtain ⟨p0, hp0⟩ := mem_setImage (kind := kind) (name := name) (img := img) (rv := w.next) w.pkgs
  exact ⟨_, rfl, hp0⟩

/-- stored objects disappear (a delete), the rest stays -/
theorem Coh.shrink {w w' : RWorld} (hc : Coh w) (hn : w'.next = w.next)
    (hl : w'.lock = w.lock ∨ w'.lock = none) (hp : ∀ q ∈ w'.pkgs, q ∈ w.pkgs)
    (h3 : w'.clock = w.clock) (h4 : w'.cpkgs = w.cpkgs)
    (h6 : w'.seen.lock = w.seen.lock) (h7 : w'.seen.pkgs = w.seen.pkgs) : Coh w' :=
  hc.step none (Nat.le_of_eq hn.symm)
    (fun _ h => .inl (hl.elim (· ▸ h) (fun e => absurd (e.symm.trans h) nofun))) (fun q h => .inl (hp q h))
    (fun _ h => .inl (h3 ▸ h)) (fun _ h => .inl (h4 ▸ h)) (fun _ h => .inl (h6 ▸ h)) (fun _ h => .inl (h7 ▸ h))

theorem coh_exec {w : RWorld} (hc : Coh w) (r : Req) : Coh (execRec w r).1 := by
  have h := exec_step w r
  generalize (execRec w r).1 = w', (execRec w r).2 = resp at h
  cases h with
  | fail | secret => exact hc
  | inject | tags | getPkg | taken => exact hc.congr rfl rfl rfl rfl rfl rfl rfl
  | getLock l hcl => exact hc.serve rfl rfl rfl (.inl rfl) (fun q h => .inl h) (.inr hcl.symm) (.inl rfl)
  | list kind =>
    exact hc.serve rfl rfl rfl (.inl rfl) (fun q h => .inl h) (.inl rfl)
      (.inr ⟨_, rfl, fun q h => (List.mem_filter.mp h).1⟩)
  | updateLock | statusLock => exact hc.bump rfl (.inr ⟨_, rfl, rfl⟩) (written_none w) rfl rfl rfl rfl
  | created => exact hc.bump rfl (.inl rfl) (written_append w _ rfl) rfl rfl rfl rfl
  | updated => exact hc.bump rfl (.inl rfl) (written_setImage w _ _ _) rfl rfl rfl rfl

/-- every third-party act, the cache catching up and the registry keep them coherent too and
leave the ghost record alone -/
theorem applyWAct_rely (w : RWorld) (a : WAct) : RelyW w (applyWAct w a) := by
  cases a with
  | setLock pkgs =>
    simp only [applyWAct]
    cases w.lock <;>
      exact ⟨rfl, fun hc => hc.bump rfl (.inr ⟨_, rfl, rfl⟩) (written_none w) rfl rfl rfl rfl⟩
  | delLock => exact ⟨rfl, fun hc => hc.shrink rfl (.inr rfl) (fun q h => h) rfl rfl rfl rfl⟩
  | setPkg kind name image =>
    simp only [applyWAct]
    by_cases hx : w.pkgs.any (sameKey kind name) = true
    · rw [if_pos hx]; exact ⟨rfl, fun hc => hc.bump rfl (.inl rfl) (written_setImage w _ _ _) rfl rfl rfl rfl⟩
    · rw [if_neg hx]; exact ⟨rfl, fun hc => hc.bump rfl (.inl rfl) (written_append w _ rfl) rfl rfl rfl rfl⟩
  | delPkg kind name =>
    exact ⟨rfl, fun hc => hc.shrink rfl (.inl rfl) (fun q h => (List.mem_filter.mp h).1) rfl rfl rfl rfl⟩
  | syncLock => exact ⟨rfl, fun hc => hc.serve rfl rfl rfl (.inr rfl) (fun q h => .inl h) (.inl rfl) (.inl rfl)⟩
  | syncPkg kind name =>
    simp only [applyWAct]
    cases hf : w.pkgs.find? (sameKey kind name) with
    | some p =>
      refine ⟨rfl, fun hc => hc.serve rfl rfl rfl (.inl rfl) (fun q h => ?_) (.inl rfl) (.inl rfl)⟩
      exact (mem_putCached w.cpkgs q h).imp_right (fun (e : q = p) => e ▸ List.mem_of_find?_eq_some hf)
    | none =>
      exact ⟨rfl, fun hc => hc.serve rfl rfl rfl (.inl rfl) (fun q h => .inl (List.mem_filter.mp h).1) (.inl rfl) (.inl rfl)⟩
  | setTags repo t => exact ⟨rfl, fun hc => hc.congr rfl rfl rfl rfl rfl rfl rfl⟩
  | err e => exact ⟨rfl, fun hc => hc.congr rfl rfl rfl rfl rfl rfl rfl⟩

theorem RelyW.refl (w : RWorld) : RelyW w w := ⟨rfl, id⟩

theorem RelyW.trans {a b c : RWorld} (h1 : RelyW a b) (h2 : RelyW b c) : RelyW a c :=
  ⟨h2.1.trans h1.1, fun h => h2.2 (h1.2 h)⟩

theorem exec_keep_tags {w : RWorld} {r : Req} (h : ∀ rp, r ≠ .tags rp) : (execRec w r).1.seen.tags = w.seen.tags := by
  have hs := (exec_step w r).served
  generalize (execRec w r).2 = resp, (execRec w r).1.seen = sn' at hs
  cases hs with
  | tags rp => exact absurd rfl (h rp)
  | _ => rfl

/-! ### every write is justified

`Guar`, `NameOk` and the number of writes look at the ghost record only, and the other clients
cannot touch it (`RelyW`): hence `Just`, about program and replies, and worlds once, in `Just.wp`. -/

/-- the postcondition of one Reconcile in `rec_every_call_justified` -/
abbrev RPost (cfg : RCfg) : RWorld → RRes → Prop :=
  fun s res => Coh s ∧ s.seen.writes ≤ 1 ∧ (res.err = .none → NameOk cfg s.seen)

abbrev Wp (cfg : RCfg) (p : RProg) (s : RWorld) : Prop := WpE recSem RelyW (GuarC cfg) p (RPost cfg) s

/-- the guarantee and the postcondition of `rec_every_call_justified`, for a program that has been
served `sn` so far, against every sequence of replies -/
def Just (cfg : RCfg) : RProg → Seen → Prop :=
  Kept Served (fun sn r => ∀ w : RWorld, w.seen = sn → Guar cfg w r)
    (fun sn res => sn.writes ≤ 1 ∧ (res.err = .none → NameOk cfg sn))

/-- The arguments in order. `Kept.wpE`: the ghost is `seen`, `RelyW` leaves it alone, a reply and a refusal move it by
`Served`. `WpE.inv`: `RelyW` and every call keep `Coh`. `mono`: guarantee and postcondition in the shape of `GuarC`, `RPost`. -/
theorem Just.wp {cfg : RCfg} {p : RProg} {s : RWorld} (h : Just cfg p s.seen) (hc : Coh s) : Wp cfg p s :=
  ((h.wpE (sem := recSem) (·.seen) (fun _ _ hr => hr.1) (fun s r _ => (exec_step s r).served)
      (fun _ o r _ => by cases o <;> exact .err r _)).inv hc (fun _ _ hs hr => hr.2 hs) (fun _ r hs _ => coh_exec hs r)).mono
    (fun _ _ hg => ⟨hg.1, hg.2 _ rfl⟩) fun _ _ hq => ⟨hq.1, hq.2⟩

theorem just_finishWrap {cfg : RCfg} {sn : Seen} (c : Option Bool) (rv : Nat) (hw : sn.writes ≤ 1) (hn : NameOk cfg sn) :
    Just cfg (finishWrap c rv) sn := by
  refine ⟨fun _ _ => trivial, fun resp sn' h => ?_⟩
  cases h <;> exact ⟨hw, fun _ => hn⟩

theorem just_finishErr {cfg : RCfg} {sn : Seen} (rv : Nat) (e : RErr) (he : e ≠ .none) (hw : sn.writes ≤ 1) :
    Just cfg (finishErr rv e) sn := by
  refine ⟨fun _ _ => trivial, fun resp sn' h => ?_⟩
  cases h <;> exact ⟨hw, fun h => absurd h he⟩

/-- what the running Reconcile has been served after its Get, before any package write -/
structure Got (sn : Seen) (l : LockObj) : Prop where
  lock : sn.lock = some l
  writes : sn.writes = 0
  taken : sn.taken = false

/-- `Got` of a world's ghost record, together with the world's coherence; the proofs below need `Got` only -/
structure Ctx (s : RWorld) (l : LockObj) : Prop where
  coh : Coh s
  lock : s.seen.lock = some l
  writes : s.seen.writes = 0
  taken : s.seen.taken = false

theorem Got.le {sn : Seen} {l : LockObj} (h : Got sn l) : sn.writes ≤ 1 := by rw [h.writes]; omega

theorem Got.nameOk {cfg : RCfg} {sn : Seen} {l : LockObj} (h : Got sn l) : NameOk cfg sn := .inl h.taken

/-- what the Lock served says about `dep` -/
structure Dec (cfg : RCfg) (l : LockObj) (d : Dag) (dep : Dep) (ref : RefInfo) : Prop where
  served : ∃ rest, init cfg.o cfg.upg l.pkgs = .ok (d, dep :: rest) ∧ ∃ res, sort d d.keys = .ok res
  ref : cfg.refOf dep.pkg = some ref

theorem Dec.servedDep {cfg : RCfg} {l : LockObj} {d : Dag} {dep : Dep} {ref : RefInfo} (h : Dec cfg l d dep ref)
    {sn : Seen} (hl : sn.lock = some l) : ServedDep cfg sn d dep := by
  obtain ⟨rest, hi, hs⟩ := h.served
  exact ⟨l, rest, hl, hi, hs⟩

/-- checkExistingPackage: the Get of the object that holds the name, and the verdict on it -/
theorem just_getExisting {cfg : RCfg} {sn : Seen} {l : LockObj} {d : Dag} {dep : Dep} {ref : RefInfo} (rv : Nat)
    (hw : sn.writes ≤ 1) (hl : sn.lock = some l) (hd : Dec cfg l d dep ref) :
    Just cfg (.call (.getPkg (cfg.kindOf dep.pkg) ref.pkgName) (kExisting cfg ref rv)) sn := by
  refine ⟨fun _ _ => trivial, fun resp sn' h => ?_⟩
  cases h with
  | pkg _ _ p hk hn =>
    unfold kExisting
    simp only []
    cases himg : p.image.bind cfg.refOf with
    | none => exact just_finishErr _ _ nofun hw
    | some eref =>
      simp only []
      by_cases hrepo : eref.repo = ref.repo
      · rw [if_pos hrepo]
        exact just_finishWrap _ _ hw (.inr ⟨d, dep, ref, p, eref, hd.servedDep hl, hd.ref, rfl, hk, hn, himg, hrepo⟩)
      · rw [if_neg hrepo]; exact just_finishErr _ _ nofun hw
  | _ => exact just_finishErr _ _ nofun hw

theorem kCreate_err {cfg : RCfg} {dep : Dep} {ref : RefInfo} {rv : Nat} {e : ErrClass} (h : e ≠ .alreadyExists) :
    kCreate cfg dep ref rv (.err e) = finishErr rv (.create e) := by
  cases e <;> first | rfl | exact absurd rfl h

theorem just_createP {cfg : RCfg} {sn : Seen} {l : LockObj} {d : Dag} {dep : Dep} {ref : RefInfo} (rv : Nat) {v : String}
    (hx : Got sn l) (hd : Dec cfg l d dep ref) (hv : toInstall cfg.o dep.con sn.tags = .ok v)
    (hu : cfg.upg = true → ∃ ps, sn.pkgs = some ps ∧ lastMatch cfg.refOf ref.repo ps none = none) :
    Just cfg (createP cfg dep ref rv v) sn := by
  unfold createP
  by_cases hv0 : v = ""
  · rw [if_pos hv0]; exact just_finishWrap _ _ hx.le hx.nameOk
  · rw [if_neg hv0]
    by_cases hk : cfg.kindOf dep.pkg = ""
    · rw [if_pos hk]; exact just_finishErr _ _ nofun hx.le
    · rw [if_neg hk]
      refine ⟨fun w hw => ?_, fun resp sn' h => ?_⟩
      · subst hw
        exact ⟨hx.writes, d, dep, ref, v, hd.servedDep hx.lock, hd.ref, rfl, rfl, rfl, hv0, hv, hu⟩
      · cases h with
        | err _ e =>
          by_cases he : e = .alreadyExists
          · subst he; exact just_getExisting rv hx.le hx.lock hd
          · rw [kCreate_err he]; exact just_finishErr _ _ nofun hx.le
        | taken => exact just_getExisting rv hx.le hx.lock hd
        | ok => exact just_finishWrap _ _ (Nat.le_of_eq (congrArg (· + 1) hx.writes)) (.inl hx.taken)

theorem just_fetchP {cfg : RCfg} {sn : Seen} {l : LockObj} {ref : RefInfo} {onPull onFetch : RProg} {k : List String → RProg}
    (hx : Got sn l) (hpull : Just cfg onPull sn) (hfetch : Just cfg onFetch sn)
    (hk : ∀ ts, Got { sn with tags := some ts } l → Just cfg (k ts) { sn with tags := some ts }) :
    Just cfg (fetchP ref onPull onFetch k) sn := by
  refine ⟨fun _ _ => trivial, fun resp sn' h => ?_⟩
  cases h with
  | err => exact hpull
  | ok =>
    refine ⟨fun _ _ => trivial, fun resp sn' h => ?_⟩
    cases h with
    | tags _ ts => exact hk ts ⟨hx.lock, hx.writes, hx.taken⟩
    | _ => exact hfetch

theorem just_installP {cfg : RCfg} {sn : Seen} {l : LockObj} {d : Dag} {dep : Dep} {ref : RefInfo} (rv : Nat)
    (hx : Got sn l) (hd : Dec cfg l d dep ref)
    (hu : cfg.upg = true → ∃ ps, sn.pkgs = some ps ∧ lastMatch cfg.refOf ref.repo ps none = none) :
    Just cfg (installP cfg dep ref rv) sn := by
  unfold installP
  cases hdg : cfg.o.digest dep.con with
  | some dg => exact just_createP rv hx hd (by simp [toInstall, hdg]) hu
  | none =>
    by_cases hcon : cfg.o.conOk dep.con = true
    · simp only [hcon, Bool.not_true, Bool.false_eq_true, if_false]
      refine just_fetchP hx (just_finishErr _ _ nofun hx.le) (just_finishErr _ _ nofun hx.le) fun ts hx' => ?_
      exact just_createP rv hx' hd (by simp [toInstall, hdg, hcon]) hu
    · simp only [hcon, Bool.not_false, if_true]
      exact just_finishErr _ _ nofun hx.le

theorem just_writeUpdP {cfg : RCfg} {sn : Seen} {l : LockObj} {d : Dag} {dep : Dep} {ref : RefInfo} (rv : Nat)
    {ps : List PkgObj} {p : PkgObj} {pref : RefInfo} {v : String}
    (hx : Got sn l) (hd : Dec cfg l d dep ref) (hupg : cfg.upg = true)
    (hps : sn.pkgs = some ps) (hm : lastMatch cfg.refOf ref.repo ps none = some (p, pref))
    (hv : toUpdate cfg.o (parentsOf d dep.pkg) pref.ident cfg.down sn.tags = .ok v) :
    Just cfg (writeUpdP ref rv p v) sn := by
  refine ⟨fun w hw => ?_, fun resp sn' h => ?_⟩
  · subst hw
    exact ⟨hx.writes, hupg, d, dep, ref, ps, p, pref, v, hd.servedDep hx.lock, hd.ref, hps, hm, rfl, rfl, rfl, rfl, hv⟩
  · cases h with
    | err => exact just_finishErr _ _ nofun hx.le
    | ok => exact just_finishWrap _ _ (Nat.le_of_eq (congrArg (· + 1) hx.writes)) (.inl hx.taken)

theorem just_updateP {cfg : RCfg} {sn : Seen} {l : LockObj} {d : Dag} {dep : Dep} {ref : RefInfo} (rv : Nat)
    {ps : List PkgObj} {p : PkgObj} {pref : RefInfo}
    (hx : Got sn l) (hd : Dec cfg l d dep ref) (hupg : cfg.upg = true)
    (hps : sn.pkgs = some ps) (hm : lastMatch cfg.refOf ref.repo ps none = some (p, pref)) :
    Just cfg (updateP cfg d dep ref rv p pref) sn := by
  unfold updateP
  cases hdg : digestToUpdate cfg.o (parentsOf d dep.pkg) with
  | error e => exact just_finishErr _ _ nofun hx.le
  | ok dg =>
    simp only []
    by_cases hne : dg = ""
    · subst hne
      simp only [ne_eq, not_true_eq_false, if_false]
      refine just_fetchP hx (just_finishErr _ _ nofun hx.le) (just_finishErr _ _ nofun hx.le) fun ts hx' => ?_
      unfold pickP
      by_cases hall : (parentsOf d dep.pkg).all cfg.o.conOk = true
      · simp only [hall, Bool.not_true, Bool.false_eq_true, if_false]
        cases hver : cfg.o.ver pref.ident with
        | none => exact ⟨hx'.le, nofun⟩
        | some cur =>
          simp only []
          cases hpick : pickUpdate (satAll cfg.o (parentsOf d dep.pkg)) cur cfg.down (sortTags (parseTags cfg.o ts)) none with
          | none => exact just_finishErr _ _ nofun hx'.le
          | some v => exact just_writeUpdP rv hx' hd hupg hps hm (by simp [toUpdate, hdg, hall, hver, hpick])
      · simp only [hall, Bool.not_false, if_true]
        exact just_finishErr _ _ nofun hx'.le
    · simp only [ne_eq, hne, not_false_eq_true, if_true]
      exact just_writeUpdP rv hx hd hupg hps hm (by simp [toUpdate, hdg, hne])

theorem just_depP {cfg : RCfg} {sn : Seen} {l : LockObj} {d : Dag} {dep : Dep} (rv : Nat)
    (hx : Got sn l) (hsv : ∃ rest, init cfg.o cfg.upg l.pkgs = .ok (d, dep :: rest) ∧ ∃ res, sort d d.keys = .ok res) :
    Just cfg (depP cfg d dep rv) sn := by
  unfold depP
  cases href : cfg.refOf dep.pkg with
  | none => exact just_finishWrap _ _ hx.le hx.nameOk
  | some ref =>
    have hd : Dec cfg l d dep ref := ⟨hsv, href⟩
    simp only []
    by_cases hupg : cfg.upg = true
    · rw [if_pos hupg]
      by_cases hk : cfg.kindOf dep.pkg = ""
      · rw [if_pos hk]; exact just_finishErr _ _ nofun hx.le
      · rw [if_neg hk]
        refine ⟨fun _ _ => trivial, fun resp sn' h => ?_⟩
        cases h with
        | pkgs _ ps =>
          have hx' : Got { sn with pkgs := some ps } l := ⟨hx.lock, hx.writes, hx.taken⟩
          unfold kList
          simp only []
          cases hm : lastMatch cfg.refOf ref.repo ps none with
          | none => exact just_installP rv hx' hd (fun _ => ⟨ps, rfl, hm⟩)
          | some pp => exact just_updateP rv hx' hd hupg rfl hm
        | _ => exact just_finishErr _ _ nofun hx.le
    · rw [if_neg hupg]
      exact just_installP rv hx hd (fun h => absurd h hupg)

theorem just_afterFin {cfg : RCfg} {sn : Seen} {l : LockObj} (rv : Nat) (hx : Got sn l) :
    Just cfg (afterFin cfg l rv) sn := by
  unfold afterFin
  cases hi : init cfg.o cfg.upg l.pkgs with
  | error e => exact just_finishErr _ _ nofun hx.le
  | ok di =>
    obtain ⟨d, implied⟩ := di
    simp only []
    cases hs : sort d d.keys with
    | error e => exact just_finishErr _ _ nofun hx.le
    | ok res =>
      simp only []
      cases implied with
      | nil => exact just_finishWrap _ _ hx.le hx.nameOk
      | cons dep rest => exact just_depP rv hx ⟨rest, hi, res, hs⟩

theorem just_ensureFin {cfg : RCfg} {sn : Seen} {l : LockObj} (want : Bool) (onErr : ErrClass → RErr)
    (hne : ∀ e, onErr e ≠ .none) {k : Nat → RProg}
    (hx : Got sn l) (hk : ∀ rv, Just cfg (k rv) sn) : Just cfg (ensureFin l want onErr k) sn := by
  unfold ensureFin
  by_cases hf : l.fin = want
  · rw [if_pos hf]; exact hk _
  · rw [if_neg hf]
    refine ⟨fun w hw => ?_, fun resp sn' h => ?_⟩
    · subst hw
      exact ⟨l, hx.lock, rfl, rfl, Bool.eq_not.2 (Ne.symm hf)⟩
    · have hsn : sn' = sn := by cases h <;> rfl
      subst hsn
      unfold kFin
      split
      · exact hk _
      · exact ⟨hx.le, fun _ => hx.nameOk⟩
      · split
        · exact hk _
        · exact ⟨hx.le, fun h => absurd h (hne _)⟩
      · exact ⟨hx.le, fun h => absurd h (hne _)⟩

theorem reconcileP_just (cfg : RCfg) : Just cfg (reconcileP cfg) {} := by
  refine ⟨fun _ _ => trivial, fun resp sn' h => ?_⟩
  cases h with
  | lock l =>
    have hx : Got { lock := some l } l := ⟨rfl, rfl, rfl⟩
    unfold kGet
    simp only []
    by_cases he : l.pkgs.isEmpty = true
    · rw [if_pos he]
      exact just_ensureFin false _ (by intro e; simp) hx (fun rv => just_finishWrap _ _ hx.le hx.nameOk)
    · rw [if_neg he]
      exact just_ensureFin true _ (by intro e; simp) hx (fun rv => just_afterFin rv hx)
  | err _ e => cases e <;> exact ⟨Nat.zero_le _, fun _ => .inl rfl⟩
  | ok => exact ⟨Nat.zero_le _, fun _ => .inl rfl⟩

theorem reconcileP_wp (cfg : RCfg) (w : RWorld) (hc : Coh w) (hs : w.seen = {}) : Wp cfg (reconcileP cfg) w :=
  Just.wp (hs ▸ reconcileP_just cfg) hc

theorem Coh.fresh {w : RWorld} (hc : Coh w) : Coh w.fresh :=
  hc.step none (Nat.le_refl _) (fun _ h => .inl h) (fun _ h => .inl h) (fun _ h => .inl h) (fun _ h => .inl h)
    nofun nofun

end Xp.C17
