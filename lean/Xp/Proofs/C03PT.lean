import Xp.Proofs.C03Fn
/-
C03 for the patch-and-transform associator (`associatePT` inside `composePT`): which garbage-collection
requests it can issue under every fault plan, and which it has applied by the time the references are
written — two instances of the loop's rule (`associatePT_rule`, Xp/Proofs/C01Prog.lean), each with what it
carries through the deletes. No invariant of the store is needed: the only facts used are how `findObj` sees
the store after a delete.
-/
namespace Xp.C01
variable {Q X : Req → Prop}

theorem findObj_removeObj_other (objs : List CObj) {k n k' n' : String} (h : ¬ (k' = k ∧ n' = n)) :
    findObj (removeObj objs k n) k' n' = findObj objs k' n' := by
  unfold findObj removeObj
  rw [List.find?_filter]
  refine congrArg (List.find? · objs) (funext fun o => ?_)
  by_cases h2 : o.kind = k' ∧ o.name = n'
  · obtain ⟨rfl, rfl⟩ := h2
    simp only [h, not_false_eq_true, decide_true, and_self]
  · simp only [h2, decide_false, Bool.false_eq_true, and_false]

theorem findObj_removeObj_same (objs : List CObj) (k n : String) : findObj (removeObj objs k n) k n = none := by
  unfold findObj removeObj
  apply List.find?_eq_none.mpr
  intro x hx
  have h := (List.mem_filter.mp hx).2
  rw [decide_eq_true_eq] at h
  simpa using h

theorem findObj_mapObj (objs : List CObj) (k n k' n' : String) (f : CObj → CObj)
    (hf : ∀ o, (f o).kind = o.kind ∧ (f o).name = o.name) :
    findObj (mapObj objs k n f) k' n' =
      (findObj objs k' n').map (fun o => if o.kind = k ∧ o.name = n then f o else o) := by
  have hkn : ∀ o : CObj, (if o.kind = k ∧ o.name = n then f o else o).kind = o.kind ∧
      (if o.kind = k ∧ o.name = n then f o else o).name = o.name := fun o => by
    split
    · exact hf o
    · exact ⟨rfl, rfl⟩
  unfold findObj mapObj
  rw [List.find?_map]
  refine congrArg _ (congrArg (List.find? · objs) (funext fun o => ?_))
  rw [Function.comp_apply, (hkn o).1, (hkn o).2]

/-- the store after a delete: unchanged (nothing to delete), the object marked terminating (it
carries a finalizer), or the object removed -/
theorem exec_delete_objs (s : St) (k n : String) :
    (exec s (.delete k n)).1.objs = s.objs ∨
    (exec s (.delete k n)).1.objs = mapObj s.objs k n (fun o => { o with deleting := true }) ∨
    (exec s (.delete k n)).1.objs = removeObj s.objs k n := by
  cases hf : findObj s.objs k n with
  | none =>
    rw [exec_delete_none hf]
    exact Or.inl rfl
  | some o =>
    cases hfin : o.fin with
    | true =>
      rw [exec_delete_fin hf hfin]
      exact Or.inr (Or.inl rfl)
    | false =>
      rw [exec_delete_nofin hf hfin]
      exact Or.inr (Or.inr rfl)

theorem findObj_delete {s : St} {k n k' n' : String} {o' : CObj}
    (h : findObj (exec s (.delete k n)).1.objs k' n' = some o') :
    ∃ o, findObj s.objs k' n' = some o ∧ o'.annot = o.annot ∧ o'.ctrl = o.ctrl := by
  rcases exec_delete_objs s k n with e | e | e
  · rw [e] at h
    exact ⟨o', h, rfl, rfl⟩
  · rw [e, findObj_mapObj _ _ _ _ _ (fun o => { o with deleting := true }) fun _ => ⟨rfl, rfl⟩] at h
    cases hf' : findObj s.objs k' n' with
    | none =>
      rw [hf'] at h
      cases h
    | some o =>
      rw [hf'] at h
      cases h
      refine ⟨o, rfl, ?_⟩
      dsimp only
      split
      · exact ⟨rfl, rfl⟩
      · exact ⟨rfl, rfl⟩
  · rw [e] at h
    by_cases hk : k' = k ∧ n' = n
    · rw [hk.1, hk.2, findObj_removeObj_same] at h
      cases h
    · rw [findObj_removeObj_other _ hk] at h
      exact ⟨o', h, rfl, rfl⟩

theorem findObj_delete_other {s : St} {k n k' n' : String} (hk : ¬ (k' = k ∧ n' = n)) :
    findObj (exec s (.delete k n)).1.objs k' n' = findObj s.objs k' n' := by
  rcases exec_delete_objs s k n with e | e | e
  · rw [e]
  · rw [e, findObj_mapObj _ _ _ _ _ (fun o => { o with deleting := true }) fun _ => ⟨rfl, rfl⟩]
    cases hf' : findObj s.objs k' n' with
    | none => rfl
    | some o =>
      obtain ⟨_, h1, h2⟩ := findObj_some hf'
      rw [Option.map_some, if_neg fun h => hk ⟨h1.symm.trans h.1, h2.symm.trans h.2⟩]
  · rw [e]
    exact findObj_removeObj_other _ hk

/-- `objs` came from `objs0` by deletes only, as far as `findObj` can tell: the `sub` field of `Shrunk`
(Proofs/C01Store.lean) read through `findObj`, which asks no unique keys of either list -/
def Faded (objs0 objs : List CObj) : Prop :=
  ∀ k n o, findObj objs k n = some o → ∃ o0, findObj objs0 k n = some o0 ∧ o.annot = o0.annot ∧ o.ctrl = o0.ctrl

theorem Faded.delete {objs0 : List CObj} {s : St} (h : Faded objs0 s.objs) (k n : String) :
    Faded objs0 (exec s (.delete k n)).1.objs := by
  intro k' n' o' ho'
  obtain ⟨o, ho, ha, hc⟩ := findObj_delete ho'
  obtain ⟨o0, ho0, ha0, hc0⟩ := h k' n' o ho
  exact ⟨o0, ho0, ha.trans ha0, hc.trans hc0⟩

theorem emits_associatePT (hQ : ∀ r, NoGc r → Q r)
    (objs0 : List CObj) (refs0 : List Ref) (lrv : Nat) (tmpl : List Desired) (k : Assoc → P)
    (hk : ∀ a, Issues Q (k a))
    (hgc : ∀ kk n o, (⟨kk, n⟩ : Ref) ∈ refs0 → n ≠ "" → findObj objs0 kk n = some o → o.annot ≠ "" →
      tmpl.any (·.rname = o.annot) = false → o.ctrl ≠ .other → Q (.gcUpdate kk n) ∧ Q (.delete kk n)) :
    ∀ (rs : List Ref) (acc : Assoc) (s : St), (∀ r ∈ rs, r ∈ refs0) → Faded objs0 s.objs →
      Emits sem Q (associatePT lrv tmpl rs acc k) s := by
  intro rs acc s hrs hfd
  have hW := emits_walker fun r h => hQ r h.noGc
  -- `R`: the reference is one of `refs0`; `J`: the store has faded from `objs0`, which only the collection (`?_`) has to restore
  refine associatePT_rule (Emits sem Q) (· ∈ refs0) (fun _ _ s => Faded objs0 s.objs) lrv tmpl
    (fun _ => hW.readThrough) (fun _ => hW.onErrorO _ _) (fun _ h _ _ => h)
    (fun _ _ h _ _ _ _ => h) ?_ k rs [] acc s hrs hfd (fun a s' _ => (hk a).emits s')
  intro done a s r o p hfd hr hn hf ha ht hc hp
  obtain ⟨_, hk1, hk2⟩ := findObj_some hf
  obtain ⟨o0, hf0, ha0, hc0⟩ := hfd _ _ _ hf
  refine hW.collect ?_ (hp (hfd.delete _ _))
  rw [hk1, hk2]
  exact hgc r.kind r.name o0 hr hn hf0 (ha0 ▸ ha) (ha0 ▸ Bool.eq_false_iff.mpr ht) (hc0 ▸ hc)

theorem issues_renderPT (lrv : Nat) (a : Assoc) (k : List Rendered → P) (hk : ∀ rs, Issues NoGc (k rs))
    (ds : List Desired) (fresh : List String) (acc : List Rendered) : Issues NoGc (renderPT lrv a ds fresh acc k) := by
  fun_induction renderPT lrv a ds fresh acc k with
  | case1 => exact hk _   -- no template left
  | case2 _ _ _ _ _ _ _ _ ih => exact ih hk   -- the name of the associated reference
  | case3 => exact issues_onErrorO_status _ trivial   -- the reference is of another kind
  | case4 _ _ _ _ _ ih => exact ih hk   -- no candidate left: unrendered
  | case5 _ _ _ _ _ _ _ ih1 ih2 =>   -- one availability probe; without a name the template stays unrendered
    refine Issues.call _ _ trivial fun x => ?_
    cases x with
    | notFound => exact ih1 hk
    | _ => exact ih2 hk

/-- what `composePT` does once the association is complete -/
def ptTail (lrv : Nat) (tmpl : List Desired) (fresh : List String) (ver : String) (a : Assoc) : P :=
  renderPT lrv a tmpl fresh [] fun rs =>
  wcall lrv (.updateXR lrv ver (rs.map rkey)) fun rsp =>
  let lrv' := match rsp with | .okRv rv => rv | _ => lrv
  applyPT lrv' rs true fun synced =>
  .call .getXR fun
    | .xr _ _ _ => wcall lrv' .patchXR fun _ => finish lrv' synced
    | _ => onError lrv'

theorem issues_ptTail (lrv : Nat) (tmpl : List Desired) (fresh : List String) (ver : String) (a : Assoc) :
    Issues NoGc (ptTail lrv tmpl fresh ver a) := by
  unfold ptTail
  refine issues_renderPT _ _ _ (fun rs => ?_) _ _ _
  refine issues_wcall _ _ _ trivial trivial fun rsp => ?_
  refine issues_applyPT _ _ trivial (fun synced => ?_) _ _ fun _ _ _ => ⟨trivial, trivial, trivial⟩
  refine Issues.call _ _ trivial fun x => ?_
  cases x with
  | xr _ _ _ => exact issues_wcall _ _ _ trivial trivial fun _ => issues_finish _ _ trivial
  | _ => exact issues_onErrorO_status _ trivial

theorem emits_composePT (hQ : ∀ r, NoGc r → Q r) (tmpl : List Desired) (fresh : List String)
    (ver : String) (lrv : Nat) (s0 s : St) (hobjs : s.objs = s0.objs)
    (hgc : ∀ kk n o, (⟨kk, n⟩ : Ref) ∈ s0.refs → n ≠ "" → findObj s0.objs kk n = some o → o.annot ≠ "" →
      tmpl.any (·.rname = o.annot) = false → o.ctrl ≠ .other → Q (.gcUpdate kk n) ∧ Q (.delete kk n)) :
    Emits sem Q (composePT lrv s0.refs tmpl fresh ver) s :=
  emits_associatePT hQ s0.objs s0.refs lrv tmpl _ (fun a => (issues_ptTail lrv tmpl fresh ver a).mono hQ) hgc
    s0.refs [] s (fun _ h => h) (hobjs ▸ fun _ _ o h => ⟨o, h, rfl, rfl⟩)

/-- The loop errors before it reaches `r`, or collects `r` when it reaches it — or earlier, under the same
key: until then the deletes leave `r`'s object as it was. -/
theorem applies_associatePT (lrv : Nat) (tmpl : List Desired) (k : Assoc → P) {r : Ref} (hrn : r.name ≠ "")
    (hx : X (.gcUpdate r.kind r.name) ∨ X (.delete r.kind r.name)) (rs : List Ref) (acc : Assoc) (s : St) (hr : r ∈ rs)
    (o : CObj) (hf : findObj s.objs r.kind r.name = some o) (ht : tmpl.any (·.rname = o.annot) = false) :
    Applies X (associatePT lrv tmpl rs acc k) s := by
  -- carried through the loop: `r` is still to come, and its object is there as it was
  refine associatePT_rule (Applies X) (fun _ => True)
    (fun done _ s => r ∉ done ∧ findObj s.objs r.kind r.name = some o) lrv tmpl
    (fun _ => applies_walker.readThrough) (fun _ => applies_walker.onErrorO _ _) ?_ ?_ ?_ k rs [] acc s (fun _ _ => trivial)
    ⟨List.not_mem_nil, hf⟩ fun _ _ h => absurd (List.mem_append_right _ hr) h.1
  · -- a reference without an object is not `r`
    rintro done _ s r0 ⟨hnd, hf⟩ _ h0
    refine ⟨fun h => (List.mem_append.mp h).elim hnd fun h => ?_, hf⟩
    cases List.mem_singleton.mp h
    exact h0.elim hrn fun h0 => nomatch hf.symm.trans h0
  · -- nor is one whose object carries a template's name
    rintro done _ s r0 o0 ⟨hnd, hf⟩ _ hf0 _ ht0
    refine ⟨fun h => (List.mem_append.mp h).elim hnd fun h => ?_, hf⟩
    cases List.mem_singleton.mp h
    cases hf0.symm.trans hf
    cases ht0.symm.trans ht
  · rintro done _ s r0 o0 p ⟨hnd, hf⟩ _ _ hf0 _ _ _ hp
    obtain ⟨_, hk1, hk2⟩ := findObj_some hf0
    by_cases hsame : r.kind = r0.kind ∧ r.name = r0.name
    · rw [hsame.1, hsame.2, ← hk1, ← hk2] at hx
      exact applies_collect (hx.imp_right Or.inl)
    · refine applies_collect (Or.inr (Or.inr (hp ⟨fun h => (List.mem_append.mp h).elim hnd fun h => ?_, ?_⟩)))
      · cases List.mem_singleton.mp h
        exact hsame ⟨rfl, rfl⟩
      · rw [hk1, hk2, findObj_delete_other hsame]
        exact hf

/-- **P&T: every reference whose template is gone is collected before the references are written — under
every fault plan.** -/
theorem pt_collects (tmpl : List Desired) (fresh : List String) (ver : String) (plan : Plan) (k : Nat) (s : St)
    (hdone : (run sem plan k (reconcile (.pt tmpl fresh ver)) s).2 = some .success ∨
      ∃ e ∈ callLog sem plan k (reconcile (.pt tmpl fresh ver)) s, RefsWrite e.1)
    {kind name : String} (hr : (⟨kind, name⟩ : Ref) ∈ s.refs) (hn : name ≠ "") {o : CObj}
    (hf : findObj s.objs kind name = some o) (ht : tmpl.any (·.rname = o.annot) = false) :
    Req.gcUpdate kind name ∈ applied sem plan k (reconcile (.pt tmpl fresh ver)) s ∧
    Req.delete kind name ∈ applied sem plan k (reconcile (.pt tmpl fresh ver)) s := by
  have target : ∀ X : Req → Prop, X (.gcUpdate kind name) ∨ X (.delete kind name) →
      ∃ x ∈ applied sem plan k (reconcile (.pt tmpl fresh ver)) s, X x := fun X hX =>
    (applies_walker.reconcile _ s id fun lrv s' hobjs =>
      applies_associatePT lrv tmpl _ (r := ⟨kind, name⟩) hn hX s.refs [] s' hr o (hobjs ▸ hf) ht).mem plan k hdone
  obtain ⟨_, h1, rfl⟩ := target (· = .gcUpdate kind name) (Or.inl rfl)
  obtain ⟨_, h2, rfl⟩ := target (· = .delete kind name) (Or.inr rfl)
  exact ⟨h1, h2⟩

end Xp.C01

namespace Xp.C03
open Xp.C01

/-- The justification every garbage-collection request `(kind, name)` of the P&T composer has:
`(kind, name)` is a (named) reference of the XR whose object, in the store the reconcile
started from, is annotated with a name that is no template of the composition, and is not
controlled by someone else. -/
def PtGcJustified (tmpl : List Desired) (s : St) (kind name : String) : Prop :=
  ∃ o, (⟨kind, name⟩ : Ref) ∈ s.refs ∧ name ≠ "" ∧ findObj s.objs kind name = some o ∧ o.annot ≠ "" ∧
    (∀ t ∈ tmpl, t.rname ≠ o.annot) ∧ o.ctrl ≠ .other

/-- **P&T: only justified requests, under every fault plan** (the `Emits` fact behind
`pt_gc_only_templateless`). -/
theorem emits_pt_justified (tmpl : List Desired) (fresh : List String) (ver : String) (s : St) :
    Emits sem (GcOnly (PtGcJustified tmpl s)) (reconcile (.pt tmpl fresh ver)) s := by
  refine (emits_walker fun _ h => GcOnly.of_noGc h.noGc).reconcile _ s (GcOnly.of_noGc trivial) fun lrv s' hobjs => ?_
  refine emits_composePT (fun _ => GcOnly.of_noGc) tmpl fresh ver lrv s s' hobjs fun kk n o hr hn hf ha ht hc => ?_
  exact GcOnly.pair ⟨o, hr, hn, hf, ha, fun t htm he => by simpa [he] using List.any_eq_false.mp ht t htm, hc⟩

/-- **P&T exactness under every fault plan**: every target by `pt_collects`, nothing else by `emits_pt_justified`;
each target is annotated and not controlled by another owner, or the association would have stopped at it. -/
theorem pt_exact (tmpl : List Desired) (fresh : List String) (ver : String) (plan : Plan) (k : Nat) (s : St)
    (hdone : (run sem plan k (reconcile (.pt tmpl fresh ver)) s).2 = some .success ∨
      ∃ e ∈ callLog sem plan k (reconcile (.pt tmpl fresh ver)) s, RefsWrite e.1) (kind name : String) :
    (Req.delete kind name ∈ applied sem plan k (reconcile (.pt tmpl fresh ver)) s ↔
      ∃ o, (⟨kind, name⟩ : Ref) ∈ s.refs ∧ name ≠ "" ∧ findObj s.objs kind name = some o ∧
        ∀ t ∈ tmpl, t.rname ≠ o.annot) ∧
    (Req.gcUpdate kind name ∈ applied sem plan k (reconcile (.pt tmpl fresh ver)) s ↔
      ∃ o, (⟨kind, name⟩ : Ref) ∈ s.refs ∧ name ≠ "" ∧ findObj s.objs kind name = some o ∧
        ∀ t ∈ tmpl, t.rname ≠ o.annot) ∧
    (∀ o, (⟨kind, name⟩ : Ref) ∈ s.refs → name ≠ "" → findObj s.objs kind name = some o →
      (∀ t ∈ tmpl, t.rname ≠ o.annot) → o.annot ≠ "" ∧ o.ctrl ≠ .other) := by
  have hlog := (emits_pt_justified tmpl fresh ver s).applied plan k
  have hex := gc_exact_of (T := fun kind name => ∃ o, (⟨kind, name⟩ : Ref) ∈ s.refs ∧ name ≠ "" ∧
      findObj s.objs kind name = some o ∧ ∀ t ∈ tmpl, t.rname ≠ o.annot) hlog
    (fun _ _ ⟨o, hr, hn, hf, _, hnt, _⟩ => ⟨o, hr, hn, hf, hnt⟩)
    (fun kind name ⟨o, hr, hn, hf, hnt⟩ => pt_collects tmpl fresh ver plan k s hdone hr hn hf
      (List.any_eq_false.mpr fun t htm => by simpa using hnt t htm)) kind name
  refine ⟨hex.1, hex.2, fun o hr hn hf hnt => ?_⟩
  obtain ⟨o', _, _, hf', ha, _, hc⟩ := hlog _ (hex.1.mpr ⟨o, hr, hn, hf, hnt⟩) _ _ (Or.inl rfl)
  cases hf.symm.trans hf'
  exact ⟨ha, hc⟩

end Xp.C03
