import Xp.Proofs.C20Tls
import Xp.Proofs.C20Install
import Xp.Proofs.C20Crds
/-
C20: other writers on EVERY object (packages, CRDs, webhook configurations, Lock, defaults - not only the TLS
secrets) and every class of error reply.

* `semAny er`: a refused call is answered with ANY reply (`er`): the guarantees of our own calls
  (`own_step_keeps_any`, `own_write_shape_any` of Proofs/C20Peer.lean, `exec_untouched`) and the rely/guarantee
  results (`kept_under_interference_any`, `untouched_under_interference`) do not depend on the class of an error;
* `semK e`: a refused call is answered with an error of class `e`;
  - packages (`install_requests_follow_lists`): every package request of the installer names
    `resolve (buildIndex L) r` where `L` is what OUR List call of that kind returned - the listing of the
    store AT THE MOMENT of that call, whatever another writer did before or does afterwards;
  - CA bundle (`ca_bundle_current_at_every_write` of Props/C20, through `step_bundle_wp`): every CRD / webhook
    configuration we write carries tls.crt of the webhook TLS secret as it is stored AT THE MOMENT of the write
    (rely: nobody rewrites a secret holding material).
-/
namespace Xp.C20
open Xp

variable {α β : Type}

@[simp] theorem semK_exec (e : Err) : (semK e).exec = exec := rfl
@[simp] theorem semK_errResp (e : Err) (o : Outcome) (r : Req) : (semK e).errResp o r = .err e := rfl

/-- `sem` is the case "every refused call is answered with an error of no particular class" -/
theorem semK_other : semK .other = sem := rfl

theorem semK_semAny (e : Err) : semK e = semAny (fun _ _ => .err e) := rfl

/-- the rely for defaults / foreign fields: the other writers leave them alone too -/
def PeerUntouches (env : Env Store) : Prop := ∀ k s, Untouched s (env k s)

theorem untouched_under_interference (er : Outcome → Req → Resp) (env : Env Store) (henv : PeerUntouches env)
    (plan : Plan) (k : Nat) (p : P α) (s : Store) :
    Untouched s (runE (semAny er) env plan k p s).1 :=
  (runE_rel (semAny er) Untouched untouched_refl (fun _ _ _ => untouched_trans) (fun _ => True)
    (fun s r _ => exec_untouched s r) env henv plan k p (Issues.any p) s).1

/-- `L` is what the List of kind `kd` was answered with, as far as the own applied calls `own` tell: the listing
of the store at the moment of an own `listPkgs kd`, or – only when refused calls are answered NotFound ("the kind
is not served") – nothing. -/
def ListedIn (e : Err) (own : List (Store × Req)) (kd : PKind) (L : List Pkg) : Prop :=
  (e = .notFound ∧ L = []) ∨ ∃ y ∈ own, y.2 = .listPkgs kd ∧ L = listing y.1 kd

theorem listedIn_mono {e : Err} {own own' : List (Store × Req)} {kd : PKind} {L : List Pkg}
    (h : ListedIn e own kd L) (hsub : ∀ y ∈ own, y ∈ own') : ListedIn e own' kd L := by
  rcases h with h | ⟨y, hy, h1, h2⟩
  · exact Or.inl h
  · exact Or.inr ⟨y, hsub y hy, h1, h2⟩

theorem ownE_listOf (e : Err) (env : Env Store) (plan : Plan) (kd : PKind) (cont : List Pkg → P Res) (k : Nat) (s : Store) :
    ∀ x ∈ ownE (semK e) env plan k (listOf kd cont) s,
      x.2 = .listPkgs kd ∨
      ∃ L, ListedIn e (ownE (semK e) env plan k (listOf kd cont) s) kd L ∧
        x ∈ ownE (semK e) env plan (k+1) (cont L) (env k s) ∧
        ∀ y ∈ ownE (semK e) env plan (k+1) (cont L) (env k s), y ∈ ownE (semK e) env plan k (listOf kd cont) s := by
  intro x hx
  unfold listOf at hx ⊢
  cases hk : plan k with
  | ok =>
    rw [ownE_ok _ env plan k _ _ s hk] at hx ⊢
    simp only [semK_exec, exec_listPkgs] at hx ⊢
    rcases List.mem_cons.mp hx with h | h
    · left; rw [h]
    · right
      exact ⟨listing (env k s) kd, Or.inr ⟨(env k s, .listPkgs kd), by simp, rfl, rfl⟩, h,
        fun y hy => List.mem_cons_of_mem _ hy⟩
  | fail =>
    rw [ownE_fail _ env plan k _ _ s hk] at hx ⊢
    simp only [semK_errResp] at hx ⊢
    cases e with
    | notFound => right; exact ⟨[], Or.inl ⟨rfl, rfl⟩, hx, fun y hy => hy⟩
    | alreadyExists => simp [ownE] at hx
    | conflict => simp [ownE] at hx
    | other => simp [ownE] at hx
  | conflict =>
    rw [ownE_conflict _ env plan k _ _ s hk] at hx ⊢
    simp only [semK_errResp] at hx ⊢
    cases e with
    | notFound => right; exact ⟨[], Or.inl ⟨rfl, rfl⟩, hx, fun y hy => hy⟩
    | alreadyExists => simp [ownE] at hx
    | conflict => simp [ownE] at hx
    | other => simp [ownE] at hx
  | crashBefore =>
    rw [ownE_crashBefore _ env plan k _ _ s hk] at hx
    simp at hx
  | crashAfter =>
    rw [ownE_crashAfter _ env plan k _ _ s hk] at hx
    simp at hx
    left; rw [hx]

theorem install_requests_follow_lists (e : Err) (env : Env Store) (plan : Plan) (k : Nat) (s : Store) (p c f : List Img) :
    ∀ x ∈ ownE (semK e) env plan k (installStep p c f) s, ∀ kd n r, x.2.pkgTarget = some (kd, n, r) →
      ∃ L, ListedIn e (ownE (semK e) env plan k (installStep p c f) s) kd L ∧ n = resolve (buildIndex L) r := by
  intro x hx kd n r ht
  unfold installStep installWith at hx ⊢
  rcases ownE_listOf e env plan .provider _ k s x hx with h | ⟨Lp, hLp, hx1, sub1⟩
  · rw [h] at ht; simp [Req.pkgTarget] at ht
  rcases ownE_listOf e env plan .configuration _ (k+1) (env k s) x hx1 with h | ⟨Lc, hLc, hx2, sub2⟩
  · rw [h] at ht; simp [Req.pkgTarget] at ht
  rcases ownE_listOf e env plan .function _ (k+1+1) (env (k+1) (env k s)) x hx2 with h | ⟨Lf, hLf, hx3, sub3⟩
  · rw [h] at ht; simp [Req.pkgTarget] at ht
  have hq := ownE_issues (semK e) _ env plan (k+1+1+1) _ (installBody_issues (perKind Lp Lc Lf) p c f) _ x hx3
  refine ⟨perKind Lp Lc Lf kd, ?_, hq kd n r ht⟩
  cases kd with
  | provider => exact hLp
  | configuration => exact listedIn_mono hLc sub1
  | function => exact listedIn_mono hLf (fun y hy => sub1 y (sub2 y hy))

theorem install_no_second_at_list_time (e : Err) (env : Env Store) (plan : Plan) (k : Nat) (s : Store) (p c f : List Img) :
    ∀ x ∈ ownE (semK e) env plan k (installStep p c f) s, ∀ kd n r, x.2.pkgTarget = some (kd, n, r) →
      e = .notFound ∨
      ∃ y ∈ ownE (semK e) env plan k (installStep p c f) s, y.2 = .listPkgs kd ∧
        (InstalledSrc y.1 kd r.src → ∃ q0 ∈ y.1.pkgs, q0.kind = kd ∧ q0.name = n) := by
  intro x hx kd n r ht
  obtain ⟨L, hL, hn⟩ := install_requests_follow_lists e env plan k s p c f x hx kd n r ht
  rcases hL with ⟨he, _⟩ | ⟨y, hy, h1, h2⟩
  · exact Or.inl he
  · right
    refine ⟨y, hy, h1, ?_⟩
    intro hi
    obtain ⟨q0, h0, hk0, hn0⟩ := resolved_name_installed y.1 kd r hi
    exact ⟨q0, h0, hk0, by rw [hn0, hn, h2]⟩

/-- every caBundle a request writes -/
def Req.bundles : Req → List Blob
  | .createCrd c => if c.conv then [c.bundle] else []
  | .patchCrd f cb => if f.conv then [cb] else []
  | .createWhc w => w.hooks.map (·.bundle)
  | .patchWhc _ _ hooks => hooks.map (·.bundle)
  | _ => []

/-- the guarantee: every caBundle a request carries is tls.crt of one of the TLS secrets `refs`, as stored now -/
def BundleG (refs : List String) (s : Store) (r : Req) : Prop :=
  ∀ cb ∈ r.bundles, ∃ ref ∈ refs, BundleIs (some ref) cb s

/-- request class of the CRD / webhook-configuration loops once the bundle `cb` has been read -/
def BundleReq (cb : Blob) (r : Req) : Prop := r.comp ≠ some .secrets ∧ ∀ b ∈ r.bundles, b = cb

def NoBundle (r : Req) : Prop := r.bundles = []

theorem noBundle_G {refs : List String} {s : Store} {r : Req} (h : NoBundle r) : BundleG refs s r := by
  intro cb hcb; rw [h] at hcb; cases hcb

theorem bundle_secret_kept {cas : List String} {ref : String} (href : ref ∉ cas) {s s' : Store} {sec : Secret}
    (h : findSecret s ref = some sec) (hne : sec.crt ≠ .empty) (hk : KeptFrom cas s s') : findSecret s' ref = some sec :=
  hk ref sec h (Or.inr ⟨by rw [find_name h]; exact href, by simp [hasMaterial, hne]⟩)

theorem bundleIs_kept {cas : List String} {ref : String} (href : ref ∉ cas) {cb : Blob} {s s' : Store}
    (h : BundleIs (some ref) cb s) (hk : KeptFrom cas s s') : BundleIs (some ref) cb s' := by
  obtain ⟨sec, h1, h2, h3⟩ := h
  exact ⟨sec, bundle_secret_kept href h1 (h2 ▸ h3) hk, h2, h3⟩

theorem bundles_comp {r : Req} (h : r.bundles ≠ []) : r.comp ≠ some .secrets := by
  cases r with
  | createSecret x => exact absurd rfl h
  | updateSecret old new => exact absurd rfl h
  | _ => nofun

theorem bundle_body_wp (e : Err) (cas refs : List String) (ref : String) (href : ref ∉ cas) (hmem : ref ∈ refs)
    (cb : Blob) (p : P α) (hp : Issues (BundleReq cb) p) (s : Store) (hs : BundleIs (some ref) cb s) :
    WpE (semK e) (KeptFrom cas) (BundleG refs) p (fun _ _ => True) s := by
  refine (hp.wpE hs (fun x r hi hq => bundleIs_safeFor hi fun _ _ => onUpdate_of_comp hq.1) fun _ _ hi hk => bundleIs_kept href hi hk).mono ?_
    fun _ _ _ => trivial
  rintro x r ⟨hi, hq⟩ b hb
  rw [hq.2 b hb]
  exact ⟨ref, hmem, hi⟩

theorem noBundle_wp (e : Err) (cas refs : List String) (p : P α) (hp : Issues NoBundle p) (s : Store) :
    WpE (semK e) (KeptFrom cas) (BundleG refs) p (fun _ _ => True) s :=
  (hp.guar _).mono (fun _ _ h => noBundle_G h) fun _ _ _ => trivial

theorem noBundle_of_comp {r : Req} (h1 : r.comp ≠ some .crds) (h2 : r.comp ≠ some .whcs) : NoBundle r := by
  cases r <;> first | rfl | exact absurd rfl h1 | exact absurd rfl h2

theorem crdReq_bundle {cb : Blob} {r : Req} (h : CrdReq cb r) : BundleReq cb r := by
  obtain ⟨f, _, rfl | rfl | rfl⟩ := h
  · exact ⟨nofun, nofun⟩
  · refine ⟨nofun, fun b hb => ?_⟩
    simp only [Req.bundles, newCrd] at hb
    split at hb
    · rename_i hc; simpa [hc] using hb
    · cases hb
  · refine ⟨nofun, fun b hb => ?_⟩
    simp only [Req.bundles] at hb
    split at hb
    · simpa using hb
    · cases hb

/-- without a webhook TLS secret no CRD with webhook conversion is ever applied: no bundle is written -/
theorem crdReq_noBundle {r : Req} (h : CrdReq .empty r) : NoBundle r := by
  obtain ⟨f, hf, h⟩ := h
  have hconv : f.conv = false := by
    cases hc : f.conv with
    | false => rfl
    | true => exact absurd ⟨hc, rfl⟩ hf
  rcases h with rfl | rfl | rfl
  · rfl
  · simp [NoBundle, Req.bundles, newCrd, hconv]
  · simp [NoBundle, Req.bundles, hconv]

theorem whcApply_bundle {f : WhcFile} {cb : Blob} {svc : Svc} {r : Req} (h : WhcApply f cb svc r) : BundleReq cb r := by
  have hd : ∀ b ∈ (desiredHooks f cb svc).map (·.bundle), b = cb := by
    intro b hb
    simp only [desiredHooks, List.map_map, List.mem_map, Function.comp] at hb
    obtain ⟨_, _, rfl⟩ := hb; rfl
  rcases h with rfl | rfl | rfl
  · exact ⟨nofun, nofun⟩
  · exact ⟨nofun, hd⟩
  · exact ⟨nofun, hd⟩

theorem getBundle_bundle_wp (e : Err) (cas refs : List String) (ref : String) (s : Store) :
    WpE (semK e) (KeptFrom cas) (BundleG refs) (getBundle ref)
      (fun t b => ∀ cb, b = some cb → BundleIs (some ref) cb t) s :=
  ((getBundle_wp e _ ref s).and_issues (getBundle_issues (Q := NoBundle) ref rfl)).mono (fun _ _ h => noBundle_G h.2)
    fun _ _ h => h

theorem crdsStep_wp (e : Err) (cas refs : List String) (tlsRef : Option String) (d : Dir)
    (href : ∀ ref, tlsRef = some ref → ref ∉ cas ∧ ref ∈ refs) (s : Store) :
    WpE (semK e) (KeptFrom cas) (BundleG refs) (crdsStep tlsRef d) (fun _ _ => True) s := by
  unfold crdsStep
  cases tlsRef with
  | none => exact noBundle_wp e cas refs _ (Issues.mono (fun _ => crdReq_noBundle) (crdsBody_issues d .empty)) s
  | some ref =>
    obtain ⟨h1, h2⟩ := href ref rfl
    dsimp only
    refine (getBundle_bundle_wp e cas refs ref s).bind ?_
    intro t b hb
    cases b with
    | none => trivial
    | some cb =>
      exact bundle_body_wp e cas refs ref h1 h2 cb _ (Issues.mono (fun _ => crdReq_bundle) (crdsBody_issues d cb)) t (hb cb rfl)

theorem whcsStep_wp (e : Err) (cas refs : List String) (ref : String) (svc : Svc) (d : Dir)
    (h1 : ref ∉ cas) (h2 : ref ∈ refs) (s : Store) :
    WpE (semK e) (KeptFrom cas) (BundleG refs) (whcsStep ref svc d) (fun _ _ => True) s := by
  rw [whcsStep_eq]
  refine (getBundle_bundle_wp e cas refs ref s).bind ?_
  intro t b hb
  cases b with
  | none => trivial
  | some cb =>
    refine bundle_body_wp e cas refs ref h1 h2 cb _ ?_ t (hb cb rfl)
    dsimp only
    by_cases hp : d.parseErr = true
    · rw [if_pos hp]; exact .ret _
    · rw [if_neg hp]; exact Issues.mono (fun _ ⟨_, h⟩ => whcApply_bundle h) (whcLoop_issues cb svc d.objs)

/-- the webhook TLS secrets the CRD / webhook-configuration steps of a list read their bundle from -/
def bundleRefs : List Step → List String
  | [] => []
  | .crds (some ref) _ :: rest => ref :: bundleRefs rest
  | .whcs ref _ _ :: rest => ref :: bundleRefs rest
  | _ :: rest => bundleRefs rest

theorem step_bundle_wp (e : Err) (g : Generator) (cas refs : List String) (st : Step)
    (hst : ∀ ref, ref ∈ bundleRefs [st] → ref ∉ cas ∧ ref ∈ refs) (n : Nat) (s : Store) :
    WpE (semK e) (KeptFrom cas) (BundleG refs) (st.prog g n) (fun _ _ => True) s := by
  have lift : ∀ (p : P Res), WpE (semK e) (KeptFrom cas) (BundleG refs) p (fun _ _ => True) s →
      WpE (semK e) (KeptFrom cas) (BundleG refs) (withNonce n p) (fun _ _ => True) s :=
    fun p hp => hp.bind fun _ _ _ => trivial
  -- a step that writes neither CRDs nor webhook configurations
  have key : ∀ st : Step, stepComp st ≠ .crds → stepComp st ≠ .whcs →
      WpE (semK e) (KeptFrom cas) (BundleG refs) (st.prog g n) (fun _ _ => True) s := fun st h1 h2 =>
    noBundle_wp e cas refs _ (Issues.mono (fun r h => noBundle_of_comp (only_comp_ne h (Ne.symm h1)) (only_comp_ne h (Ne.symm h2)))
      (step_issues_only g n st)) s
  cases st with
  | crds ref d =>
    refine lift _ (crdsStep_wp e cas refs ref d ?_ s)
    intro r hr
    subst hr
    exact hst r (by simp [bundleRefs])
  | whcs ref svc d =>
    obtain ⟨h1, h2⟩ := hst ref (by simp [bundleRefs])
    exact lift _ (whcsStep_wp e cas refs ref svc d h1 h2 s)
  | mig crd old =>
    refine lift _ (noBundle_wp e cas refs _ (Issues.mono (fun r h => ?_) (migrateStep_issues crd old)) s)
    rcases h with h | ⟨vs, rfl⟩
    · exact noBundle_of_comp (by rw [h]; nofun) (by rw [h]; nofun)
    · rfl
  | tls ca sv cl => exact key _ nofun nofun
  | lock => exact key _ nofun nofun
  | install p c f => exact key _ nofun nofun
  | sc ns => exact key _ nofun nofun
  | drc => exact key _ nofun nofun

theorem bundleRefs_cons (st : Step) (rest : List Step) : bundleRefs (st :: rest) = bundleRefs [st] ++ bundleRefs rest := by
  cases st with
  | crds ref d => cases ref <;> simp [bundleRefs]
  | _ => simp [bundleRefs]

theorem runSteps_bundle_wp (e : Err) (g : Generator) (cas refs : List String) (steps : List Step)
    (hst : ∀ ref ∈ bundleRefs steps, ref ∉ cas ∧ ref ∈ refs) (n d : Nat) (s : Store) :
    WpE (semK e) (KeptFrom cas) (BundleG refs) (runSteps g steps n d) (fun _ _ => True) s :=
  runSteps_wpE (semK e) _ _ g steps
    (fun st h n s => step_bundle_wp e g cas refs st (fun ref hr => hst ref (mem_collect bundleRefs_cons h hr)) n s) n d s

theorem bundleRefs_init (cfg : Cfg) :
    bundleRefs (initSteps cfg) = if cfg.webhook then [cfg.server, cfg.server] else [] := by
  unfold initSteps
  cases hw : cfg.webhook <;> by_cases he : cfg.ess = "" <;> simp [he, migrators, bundleRefs]

end Xp.C20
