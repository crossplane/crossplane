import Xp.Model.C17Glue
/-
C17: ParsePackageSourceFromReference (`parseSourceL`, over `strings.Cut` and `strings.LastIndex`: `cutAt`,
`lastIdx1`) and the conversion of the meta's dependsOn entries into lock dependencies (`metaToLock`,
`metaDepsToLock`).
-/
namespace Xp.C17

theorem cutAt_noat {s : List Char} (h : '@' ∉ s) : cutAt s = s := by
  induction s with
  | nil => rfl
  | cons c cs ih =>
    have hc : c ≠ '@' := fun e => h (e ▸ List.mem_cons_self ..)
    have hcs : '@' ∉ cs := fun m => h (List.mem_cons_of_mem _ m)
    simp only [cutAt, hc, if_false, ih hcs]

theorem cutAt_append_at {a b : List Char} (h : '@' ∉ a) : cutAt (a ++ '@' :: b) = a := by
  induction a with
  | nil => simp [cutAt]
  | cons c cs ih =>
    have hc : c ≠ '@' := fun e => h (e ▸ List.mem_cons_self ..)
    have hcs : '@' ∉ cs := fun m => h (List.mem_cons_of_mem _ m)
    simp only [List.cons_append, cutAt, hc, if_false, ih hcs]

theorem lastIdx1_append (sep : Char) (a b : List Char) :
    ∀ (i acc : Nat), lastIdx1 sep (a ++ b) i acc = lastIdx1 sep b (i + a.length) (lastIdx1 sep a i acc) := by
  induction a with
  | nil => intro i acc; simp [lastIdx1]
  | cons c cs ih =>
    intro i acc
    simp only [List.cons_append, lastIdx1, List.length_cons]
    rw [ih]
    congr 1
    omega

theorem lastIdx1_absent (sep : Char) (b : List Char) (h : ∀ c ∈ b, c ≠ sep) :
    ∀ (i acc : Nat), lastIdx1 sep b i acc = acc := by
  induction b with
  | nil => intro i acc; rfl
  | cons c cs ih =>
    intro i acc
    have hc : c ≠ sep := h c (List.mem_cons_self ..)
    simp only [lastIdx1, hc, if_false]
    exact ih (fun x hx => h x (List.mem_cons_of_mem _ hx)) _ _

theorem lastIdx1_lt (sep : Char) (a : List Char) :
    ∀ (i acc : Nat), acc < i → lastIdx1 sep a i acc < i + a.length := by
  induction a with
  | nil => intro i acc h; simpa [lastIdx1] using h
  | cons c cs ih =>
    intro i acc h
    simp only [lastIdx1, List.length_cons]
    have : (if c = sep then i else acc) < i + 1 := by split <;> omega
    have := ih (i + 1) _ this
    omega

theorem parseSourceL_tag (repo tag : List Char) (hr : '@' ∉ repo)
    (ht : ∀ c ∈ tag, c ≠ ':' ∧ c ≠ '/' ∧ c ≠ '@') : parseSourceL (repo ++ ':' :: tag) = repo := by
  have hno : '@' ∉ repo ++ ':' :: tag := by
    intro hm
    rcases List.mem_append.1 hm with h | h
    · exact hr h
    · cases h with
      | tail _ h' => exact (ht _ h').2.2 rfl
  have hcolon : lastIdx ':' (repo ++ ':' :: tag) = 1 + repo.length := by
    unfold lastIdx
    rw [lastIdx1_append]
    simp only [lastIdx1, if_true]
    exact lastIdx1_absent ':' tag (fun c hc => (ht c hc).1) _ _
  have hslash : lastIdx '/' (repo ++ ':' :: tag) < 1 + repo.length := by
    unfold lastIdx
    rw [lastIdx1_append]
    have hne : ¬ (':' = '/') := by decide
    simp only [lastIdx1, hne, if_false]
    rw [lastIdx1_absent '/' tag (fun c hc => (ht c hc).2.1)]
    exact lastIdx1_lt '/' repo 1 0 (by omega)
  unfold parseSourceL
  simp only [cutAt_noat hno]
  rw [if_pos (by omega), hcolon]
  exact List.take_left' (by omega)

theorem parseSourceL_digest (x dg : List Char) (hx : '@' ∉ x) :
    parseSourceL (x ++ '@' :: dg) = parseSourceL x := by
  unfold parseSourceL
  simp only [cutAt_append_at hx, cutAt_noat hx]

theorem parseSourceL_bare (s : List Char) (hs : '@' ∉ s) (hb : lastIdx ':' s ≤ lastIdx '/' s) :
    parseSourceL s = s := by
  unfold parseSourceL
  simp only [cutAt_noat hs]
  rw [if_neg (by omega)]

theorem parseSourceL_no_at (s : List Char) : '@' ∉ parseSourceL s := by
  have hcut : ∀ t : List Char, '@' ∉ cutAt t := by
    intro t
    induction t with
    | nil => simp [cutAt]
    | cons c cs ih =>
      unfold cutAt
      split
      · simp
      · rename_i hc
        intro hm
        cases hm with
        | head => exact hc rfl
        | tail _ h => exact ih h
  unfold parseSourceL
  simp only
  split
  · intro hm; exact hcut s (List.mem_of_mem_take hm)
  · exact hcut s

theorem metaToLock_some {m : MetaDep} {d : LockDep} (h : metaToLock m = some d) :
    (∃ a k p, m.apiVersion = some a ∧ m.kind = some k ∧ m.pkg = some p ∧
      d = ⟨p, some a, some k, none, m.version⟩) ∨
    (∃ t s, d = ⟨s, none, none, some t, m.version⟩ ∧
      ((t = Xp.Gen.c17TypeConfiguration ∧ m.configuration = some s) ∨
       (t = Xp.Gen.c17TypeProvider ∧ m.configuration = none ∧ m.provider = some s) ∨
       (t = Xp.Gen.c17TypeFunction ∧ m.configuration = none ∧ m.provider = none ∧ m.function = some s))) := by
  unfold metaToLock at h
  split at h
  next a k p ha hk hp => exact .inl ⟨a, k, p, ha, hk, hp, (Option.some.inj h).symm⟩
  next =>
    right
    split at h
    next c hc => exact ⟨_, c, (Option.some.inj h).symm, .inl ⟨rfl, hc⟩⟩
    next hc =>
      split at h
      next p hp => exact ⟨_, p, (Option.some.inj h).symm, .inr (.inl ⟨rfl, hc, hp⟩)⟩
      next hp =>
        split at h
        next f hf => exact ⟨_, f, (Option.some.inj h).symm, .inr (.inr ⟨rfl, hc, hp, hf⟩)⟩
        next => cases h

theorem metaToLock_none {m : MetaDep} : metaToLock m = none ↔
    (m.apiVersion = none ∨ m.kind = none ∨ m.pkg = none) ∧
      m.configuration = none ∧ m.provider = none ∧ m.function = none := by
  unfold metaToLock
  split
  next a k p ha hk hp => simp [ha, hk, hp]
  next hex =>
    have h1 : m.apiVersion = none ∨ m.kind = none ∨ m.pkg = none := by
      cases ha : m.apiVersion with
      | none => exact .inl rfl
      | some a =>
        cases hk : m.kind with
        | none => exact .inr (.inl rfl)
        | some k =>
          cases hp : m.pkg with
          | none => exact .inr (.inr rfl)
          | some p => exact (hex a k p ha hk hp).elim
    -- the first deprecated field that is set gives a dependency; none set, none given
    cases m.configuration with
    | some c => exact ⟨nofun, fun h => nomatch h.2.1⟩
    | none =>
      cases m.provider with
      | some p => exact ⟨nofun, fun h => nomatch h.2.2.1⟩
      | none =>
        cases m.function with
        | some f => exact ⟨nofun, fun h => nomatch h.2.2.2⟩
        | none => exact ⟨fun _ => ⟨h1, rfl, rfl, rfl⟩, fun _ => rfl⟩

theorem metaToLock_con {m : MetaDep} {d : LockDep} (h : metaToLock m = some d) : d.con = m.version := by
  rcases metaToLock_some h with ⟨_, _, _, _, _, _, rfl⟩ | ⟨_, _, rfl, _⟩ <;> rfl

theorem metaDepsToLock_map : ∀ (ms : List MetaDep) (ds : List LockDep), metaDepsToLock ms = some ds →
    ms.map metaToLock = ds.map some := by
  intro ms
  induction ms with
  | nil => intro ds h; simp only [metaDepsToLock, Option.some.injEq] at h; subst h; rfl
  | cons m ms ih =>
    intro ds h
    unfold metaDepsToLock at h
    cases hm : metaToLock m with
    | none => rw [hm] at h; cases h
    | some d =>
      rw [hm] at h
      cases hr : metaDepsToLock ms with
      | none => rw [hr] at h; cases h
      | some rest =>
        rw [hr] at h
        simp only [Option.map_some, Option.some.injEq] at h
        subst h
        simp only [List.map_cons, hm, ih rest hr]

theorem metaDepsToLock_none_iff : ∀ (ms : List MetaDep), metaDepsToLock ms = none ↔ ∃ m ∈ ms, metaToLock m = none := by
  intro ms
  induction ms with
  | nil => simp [metaDepsToLock]
  | cons m ms ih =>
    unfold metaDepsToLock
    cases hm : metaToLock m with
    | none => simp [hm]
    | some d =>
      simp only [Option.map_eq_none_iff, ih, List.mem_cons, exists_eq_or_imp, hm]
      simp

end Xp.C17
