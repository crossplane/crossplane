import Xp.Proofs.C13Ctl
import Xp.Proofs.C13Next
/-
C13: what a thread knows at its pc (`TValid`: its controller exists; `TFacts`: what it read under the
locks it holds), the lock discipline of writes (`act_frame`: a step leaves alone what the stepping
thread does not hold for writing), and hence that a step of one thread keeps what another knows
(`TFacts_other`).
-/
namespace Xp.C13

/-- the controller object a pc refers to -/
def Pc.cid? : Pc → Option Nat
  | .relCE cid _ | .relC cid _ | .spC _ cid | .spLoop _ cid | .spGI _ cid _ _ | .spRH _ cid _ _ _
  | .swAI cid _ | .swCR cid _ _ | .swCRrel cid _ _ _ | .swCW cid _ _ | .swAI2 cid _
  | .swGI cid _ _ _ _ | .swAH cid _ _ _ _ _
  | .xwCR cid _ | .xwCRrel cid _ _ | .xwCW cid _ | .xwGI cid _ _ _ _ | .xwRH cid _ _ _ _ _
  | .gwCR cid | .gwCRrel cid _ | .gcCR cid _ _ | .gcCRrel cid _ _ _ => some cid
  | .swLU o _ | .xwLU o _ | .gwLU o | .gcLU o _ _ => o
  | _ => none

theorem swPc_cid (cid : Nat) (a : List Nat) (st : List Wid) (o) : (swPc cid a st o).cid? = some cid := by
  cases o with
  | none => rfl
  | some p => obtain ⟨w, r⟩ := p; rfl

theorem xwPc_cid (cid k : Nat) (o) : (xwPc cid k o).cid? = some cid := by
  cases o with
  | none => rfl
  | some p => obtain ⟨w, r, l⟩ := p; rfl

/-- every controller object a thread refers to exists -/
def TValid (s : Sys) (t : Thread) : Prop := ∀ c, t.pc.cid? = some c → c < s.objs.length

/-- what a thread knows at its pc: what it read under the locks it still holds -/
def TFacts (s : Sys) (t : Thread) : Prop :=
  match t.pc with
  | .spC n cid | .spLoop n cid => aget n s.ctrls = some cid
  | .spGI n cid wid reg | .spRH n cid wid reg _ =>
      aget n s.ctrls = some cid ∧ aget wid (srcsOf s cid) = some reg
  | .xwGI cid wid reg _ _ | .xwRH cid wid reg _ _ _ => aget wid (srcsOf s cid) = some reg
  | .swAI2 cid _ => stoppedOf s cid = false
  -- middle clause (the D2 repair): every registration of `cid` is on a kind of `a`, the ActiveInformers read under
  -- `c.mx`, or was started by this call (`st`); with the last clause and `DataInv.own`: none yet for `wid`
  | .swGI cid a st wid _ | .swAH cid a st wid _ _ =>
      stoppedOf s cid = false ∧ (∀ r ∈ s.regs, r.cid = cid → r.wid.gvk ∈ a ∨ r.wid ∈ st) ∧
      ¬((aget wid (srcsOf s cid)).isSome = true ∧ (wid.gvk ∈ a ∨ wid ∈ st))
  | _ => True

/-- what a thread that holds the `c.mx` of controller `cid` for writing relies on while others step -/
def Untouched (s s' : Sys) (cid : Nat) : Prop :=
  srcsOf s' cid = srcsOf s cid ∧ stoppedOf s' cid = stoppedOf s cid ∧ ∀ r ∈ s'.regs, r.cid = cid → r ∈ s.regs

/-- the lock discipline of writes (`writes_hold_locks` is the contrapositive) -/
theorem act_frame {cfg : Cfg} {s : Sys} {i : Nat} {t : Thread} {ch : Choice} {pc' : Pc} {act : Act}
    (hn : next cfg s i t ch = some (pc', act)) :
    (t.pc.held.e ≠ .w → (act.apply s).ctrls = s.ctrls) ∧
    (∀ cid, t.pc.held.c ≠ some (cid, .w) → Untouched s (act.apply s) cid) := by
  -- an action that writes is performed at a known pc (`act_at`), and `Pc.held` there is the lock that guards
  -- what it writes
  cases act
  case newCtl n =>
    rw [(act_at hn : t.pc = _)]
    exact ⟨fun h => absurd rfl h, fun cid _ => ⟨srcsOf_apply _ s cid, stoppedOf_apply _ s cid, fun _ hr _ => hr⟩⟩
  case finishStop n cid =>
    rw [(act_at hn).1]
    refine ⟨fun h => absurd rfl h, fun k hk => ⟨srcsOf_apply _ s k, ?_, fun _ hr _ => hr⟩⟩
    have e : k ≠ cid := fun e => hk (e ▸ rfl)
    simp only [stoppedOf_apply]
    exact if_neg fun x => e x.1
  case addReg cid wid h' =>
    obtain ⟨a, st, rest, hpc, _⟩ := act_at hn
    rw [hpc]
    refine ⟨fun _ => rfl, fun k hk => ?_⟩
    have e : k ≠ cid := fun e => hk (e ▸ rfl)
    refine ⟨?_, stoppedOf_apply _ s k, ?_⟩
    · simp only [srcsOf_apply]
      exact if_neg fun x => e x.1
    · intro r hr hrk
      rcases List.mem_cons.1 hr with rfl | hr'
      · exact absurd hrk.symm e
      · exact hr'
  case delReg cid wid reg =>
    have hheld : t.pc.held.c = some (cid, .w) := by
      rcases act_at hn with ⟨n, h', hpc⟩ | ⟨rest, k, h', hpc⟩
      · rw [hpc]; rfl
      · rw [hpc]; rfl
    refine ⟨fun _ => rfl, fun k hk => ⟨?_, stoppedOf_apply _ s k, fun _ hr _ => (List.mem_filter.1 hr).1⟩⟩
    have e : k ≠ cid := fun e => hk (e ▸ hheld)
    simp only [srcsOf_apply]
    exact if_neg e
  case getInformer g f =>
    obtain ⟨_, _, _, e⟩ := apply_getInformer g f s
    rw [e]
    exact ⟨fun _ => rfl, fun cid _ => ⟨rfl, rfl, fun _ hr _ => hr⟩⟩
  -- nop, logEv, rmInformer
  all_goals exact ⟨fun _ => rfl, fun cid _ => ⟨rfl, rfl, fun r hr _ => (mem_regs_apply hr).resolve_right nofun⟩⟩

theorem TFacts_frame {s s' : Sys} {t : Thread}
    (hctrls : t.pc.held.e = .w → s'.ctrls = s.ctrls)
    (hc : ∀ cid, t.pc.held.c = some (cid, .w) → Untouched s s' cid)
    (h : TFacts s t) : TFacts s' t := by
  obtain ⟨op, pc⟩ := t
  cases pc <;> simp only [TFacts] at h ⊢ <;> try trivial
  case spC | spLoop => rw [hctrls rfl]; exact h
  case spGI | spRH =>
    obtain ⟨e1, _, _⟩ := hc _ rfl
    rw [hctrls rfl, e1]; exact h
  case xwGI | xwRH =>
    obtain ⟨e1, _, _⟩ := hc _ rfl
    rw [e1]; exact h
  case swAI2 =>
    obtain ⟨_, e2, _⟩ := hc _ rfl
    rw [e2]; exact h
  case swGI | swAH =>
    obtain ⟨e1, e2, e3⟩ := hc _ rfl
    rw [e1, e2]
    exact ⟨h.1, fun r hr hcid => h.2.1 r (e3 r hr hcid) hcid, h.2.2⟩

theorem TFacts_other {cfg : Cfg} {s : Sys} {i j : Nat} {t tj : Thread} {ch : Choice} {pc' : Pc} {act : Act}
    (hm : Mutex s) (hij : i ≠ j) (ht : s.threads[i]? = some t) (htj : s.threads[j]? = some tj)
    (hn : next cfg s i t ch = some (pc', act)) (h : TFacts s tj) : TFacts (act.apply s) tj := by
  obtain ⟨hctrls, hctl⟩ := act_frame hn
  apply TFacts_frame _ _ h
  · -- `tj` holds `e.mx` for writing, so the thread that stepped does not
    intro hw
    refine hctrls fun hwi => ?_
    have h2 := hm.excl_e hij ht htj hwi
    rw [hw] at h2
    cases h2
  · -- `tj` holds this controller's lock for writing, so the thread that stepped does not
    intro cid hw
    exact hctl cid fun hwi => nomatch hm.excl_c hij ht htj hwi hw

end Xp.C13
