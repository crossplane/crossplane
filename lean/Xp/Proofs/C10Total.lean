import Xp.Proofs.C10Path
/-
Helper lemmas for C10: no function of the transform model returns `panic` (the model's rendering of a Go
run-time panic). Each proof goes by the cases of its function (`fun_cases`, `fun_induction`): a branch that
rests on another function is named, the comment says which branch it is; every other branch ends in a value
or in a literal error, where `NP` computes to `True` (`| _ => trivial`). Where a match on an oracle's answer
sits below an `if` or a `let` the cases leave it in the goal: it is `split` there.
The only place where `panic` could arise is the regexp group selection: the functions that take it
(`…With sel`) are total for every total `sel`; `selectGroup` is total because its guard covers the whole range
(`selectGroup_np`).
-/
namespace Xp.C10

theorem orcStr_np (o : Orc) (i : V) (k : String) : NP (orcStr o i k) := by
  fun_cases orcStr o i k with
  | _ => trivial

theorem orcVal_np (o : Orc) (i : V) (k : String) : NP (orcVal o i k) := by
  fun_cases orcVal o i k with
  | _ => trivial

theorem fmtV_np (o : Orc) (x : V) : NP (fmtV o x) := by
  fun_cases fmtV o x with
  | case5 => exact orcStr_np _ _ _                     -- a float, an array, a map
  | _ => trivial

theorem upperOf_np (o : Orc) (x : V) : NP (upperOf o x) := by
  fun_cases upperOf o x with
  | case1 => exact NP.of_eq ‹_› (fmtV_np o x)          -- the text of the input cannot be had
  | case3 => exact orcStr_np _ _ _                     -- text that is not ASCII
  | _ => trivial

theorem lowerOf_np (o : Orc) (x : V) : NP (lowerOf o x) := by
  fun_cases lowerOf o x with
  | case1 => exact NP.of_eq ‹_› (fmtV_np o x)          -- the text of the input cannot be had
  | case3 => exact orcStr_np _ _ _                     -- text that is not ASCII
  | _ => trivial

theorem fmtStr_np (o : Orc) (f : String) (x : V) : NP (fmtStr o f x) := by
  fun_cases fmtStr o f x with
  | case2 => exact orcStr_np _ _ _                     -- outside the computed fragment
  | _ => trivial

theorem selectGroup_out_of_range (groups : List String) (g : Int) (h : g < 0 ∨ g ≥ groups.length) :
    selectGroup groups g = .error .noMatch := by
  unfold selectGroup
  have : (groups.length == 0 || decide (g < 0) || decide (g ≥ groups.length)) = true := by
    rcases h with h | h <;> simp [h]
  simp [this]

theorem selectGroup_in_range (groups : List String) (g : Int) (h0 : 0 ≤ g) (h1 : g < groups.length) :
    ∃ s, selectGroup groups g = .ok s ∧ groups[g.toNat]? = some s := by
  unfold selectGroup
  have hlen : groups.length ≠ 0 := by omega
  have hn : g.toNat < groups.length := by omega
  have hc : (groups.length == 0 || decide (g < 0) || decide (g ≥ groups.length)) = false := by
    simp [hlen]; omega
  simp only [hc, Bool.false_eq_true, if_false]
  have : groups[g.toNat]? = some groups[g.toNat] := List.getElem?_eq_getElem hn
  rw [this]
  exact ⟨_, rfl, rfl⟩

theorem selectGroup_np (groups : List String) (g : Int) : NP (selectGroup groups g) := by
  by_cases h : g < 0 ∨ g ≥ groups.length
  · rw [selectGroup_out_of_range groups g h]; trivial
  · obtain ⟨s, hs, _⟩ := selectGroup_in_range groups g (by omega) (by omega)
    rw [hs]; trivial

theorem resolveMath_np (o : Orc) (m : MathCfg) (v : V) : NP (resolveMath o m v) := by
  fun_cases resolveMath o m v with
  | case8 => exact orcVal_np _ _ _                       -- a float times the factor
  | case9 | case10 | case11 | case12 | case13 | case14 | case15 | case16 =>
    -- a float against a bound: the oracle's verdict on the comparison
    split
    · split <;> trivial
    · trivial
    · exact NP.of_eq ‹_› (orcVal_np _ _ _)
  | _ => trivial

theorem resolveMap_np (p : List (String × Raw)) (v : V) : NP (resolveMap p v) := by
  fun_cases resolveMap p v with
  | _ => trivial

theorem rawOrNil_np (r : Raw) : NP (rawOrNil r) := by
  fun_cases rawOrNil r with
  | _ => trivial

theorem patternMatches_np (o : Orc) (i : Nat) (p : Pattern) (v : V) : NP (patternMatches o i p v) := by
  fun_cases patternMatches o i p v with
  | case7 | case8 | case9 =>
    -- a regexp that compiles, a string input: the test of the oracle's input and its verdict
    split
    · split <;> trivial
    · trivial
  | _ => trivial

theorem matchLoop_np (o : Orc) (v : V) (i : Nat) (ps : List Pattern) : NP (matchLoop o v i ps) := by
  fun_induction matchLoop o v i ps with
  | case2 => exact NP.of_eq ‹_› (patternMatches_np o _ _ v)  -- the pattern cannot be tested
  | case4 => exact NP.of_eq ‹_› (rawOrNil_np _)          -- a match whose result does not decode
  | case5 => assumption                                  -- no match: the later patterns
  | _ => trivial

theorem resolveMatch_np (o : Orc) (m : MatchCfg) (v : V) : NP (resolveMatch o m v) := by
  fun_cases resolveMatch o m v with
  | case1 => exact NP.of_eq ‹_› (matchLoop_np o v 0 m.patterns)  -- a pattern fails
  | case5 => exact rawOrNil_np _                       -- no pattern matched: the fallback value
  | _ => trivial

theorem orcGroups_np (o : Orc) (k : V) : NP (orcGroups o k) := by
  fun_cases orcGroups o k with
  | case1 => exact NP.of_eq ‹_› (orcVal_np o k "groups")  -- the oracle has no answer
  | _ => trivial

theorem stringConvert_np (o : Orc) (c : String) (v : V) : NP (stringConvert o c v) := by
  fun_cases stringConvert o c v with
  | case1 => exact upperOf_np o v                        -- ToUpper
  | case2 => exact lowerOf_np o v                        -- ToLower
  | case6 => exact NP.of_eq ‹_› (orcVal_np o v "json")   -- ToJson: the oracle's error
  | case11 => exact NP.of_eq ‹_› (orcVal_np o v "b64d")  -- FromBase64: the oracle's error
  | case7 | case12 | case13 | case14 | case15 => exact orcStr_np _ _ _   -- ToBase64 and the four hashes
  | _ => trivial

theorem fmtAll_np (o : Orc) (i : Nat) (l : List V) : NP (fmtAll o i l) := by
  fun_induction fmtAll o i l with
  | case2 i x xs sx e h =>
    -- the element's own text failed: a scalar's is computed, any other comes from the oracle's list or is `oracleMiss`
    refine NP.of_eq h ?_
    unfold sx
    split
    case h_5 =>
      split
      · split <;> trivial
      · trivial
    all_goals trivial
  | case3 => exact NP.of_eq ‹_› ‹NP _›                  -- a later element's
  | _ => trivial

theorem stringJoin_np (o : Orc) (sep : String) (v : V) : NP (stringJoin o sep v) := by
  unfold stringJoin
  split
  · split
    · split
      · exact NP.of_eq ‹_› (fmtAll_np o 0 _)
      · trivial
    · trivial
  · trivial

theorem convFn_np (o : Orc) (a b c : String) (v : V) : NP (convFn o a b c v) := by
  fun_cases convFn o a b c v with
  | case5 | case6 | case7 | case8 | case19 | case20 | case21 | case22 =>
    -- string → float64 (both formats), object, array: the oracle's answer, `null` standing for a parse error
    split
    · trivial
    · exact orcVal_np _ _ _
  | case11 | case17 => exact orcVal_np _ _ _             -- int64 → float64, float64 → int64
  | case15 | case16 =>                                   -- float64 → string
    split
    · trivial
    · exact NP.of_eq ‹_› (orcStr_np _ _ _)
  | _ => trivial

theorem resolveConvert_np (o : Orc) (c : ConvCfg) (v : V) : NP (resolveConvert o c v) := by
  fun_cases resolveConvert o c v with
  | case6 => exact convFn_np _ _ _ _ _                   -- a pair of types the table holds
  | _ => trivial

variable {sel : List String → Int → Except E String} (hsel : ∀ groups g, NP (sel groups g))
include hsel

theorem stringRegexp_np (o : Orc) (r : RegexpCfg) (v : V) : NP (stringRegexpWith sel o r v) := by
  fun_cases stringRegexpWith sel o r v with
  | case2 => exact NP.of_eq ‹_› (fmtV_np o v)            -- the text of the input cannot be had
  | case3 => exact NP.of_eq ‹_› (orcGroups_np o v)       -- the oracle has no groups
  | case4 => exact hsel _ _                              -- the selection among the groups
  | _ => trivial

theorem resolveString_np (o : Orc) (t : StrCfg) (v : V) : NP (resolveStringWith sel o t v) := by
  fun_cases resolveStringWith sel o t v with
  | case2 => exact fmtStr_np _ _ _                       -- Format
  | case4 => exact stringConvert_np _ _ _                -- Convert
  | case7 | case10 => exact NP.of_eq ‹_› (fmtV_np o v)  -- TrimPrefix, TrimSuffix: the input's text
  | case12 => exact stringRegexp_np hsel _ _ _           -- Regexp
  | case14 => exact stringJoin_np _ _ _                  -- Join
  | _ => trivial

theorem resolve_np (t : Xf) (v : V) : NP (resolveWith sel t v) := by
  fun_cases resolveWith sel t v with
  | case2 => exact resolveMath_np _ _ _                  -- math
  | case4 => exact resolveMap_np _ _                     -- map
  | case6 => exact resolveMatch_np _ _ _                 -- match
  | case9 => exact NP.of_eq ‹_› (resolveString_np hsel t.orc _ v)  -- string: its error
  | case11 => exact resolveConvert_np _ _ _              -- convert
  | _ => trivial

theorem resolveAll_np (ts : List Xf) (v : V) : NP (resolveAllWith sel ts v) := by
  fun_induction resolveAllWith sel ts v with
  | case2 => assumption                                  -- the first transform went through: the later ones
  | case3 => exact NP.of_eq ‹_› (resolve_np hsel _ _)    -- the first transform fails
  | _ => trivial

end Xp.C10
