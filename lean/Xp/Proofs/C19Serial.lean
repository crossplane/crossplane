import Xp.Proofs.C19Marker
import Xp.Proofs.C19Call
/-
C19 — what a reconcile additionally knows while no other reconcile works on the same used
resource (`serialFacts`). For the marker a call of a reconcile is harmless, or the label removal, or
the status Update (`CallEff.harmless`): such a call keeps the marker invariant (`Marker.call`) and
re-establishes `serialFacts` of its own reconcile (`next_serial`); what the other reconciles know
survives every harmless change (`serialFacts_change`) and, when they hold a Usage of a DIFFERENT
used resource, the two calls that are not (`serialFacts_other`).
-/
namespace Xp.C19

/-- what a reconcile additionally knows at some program counters while no other reconcile works on the
same used resource -/
def serialFacts (s : Store) (uname : String) (u : Usage) : Pc → Prop
  | .dUnlabel _ => ∀ y ∈ s.usages, y.indexedBy (indexValue u.of.av u.of.kind u.of.name) = true →
      y.name = uname ∨ y.ready = false
  | .getUsing => Labelled s u
  | .addOwner _ => Labelled s u
  | .status => Labelled s u
  | _ => True

def AfterSerial (s : Store) : After → Prop
  | .cont t' => serialFacts s t'.uname t'.u t'.pc
  | .done _ => True

theorem Lands.serial {s : Store} {t : Thread} {a : After} (h : Lands t a) : AfterSerial s a := by
  cases h with
  | goto pc hp => cases pc <;> first | trivial | cases hp
  | out => trivial

theorem afterOwner_serial {s : Store} {t : Thread} (h : Labelled s t.u) : AfterSerial s t.afterOwner := by
  fun_cases Thread.afterOwner t with
  | case1 => exact h
  | case2 => trivial

theorem afterLabel_serial {s : Store} {t : Thread} (h : Labelled s t.u) : AfterSerial s t.afterLabel := by
  fun_cases Thread.afterLabel t with
  | case1 => exact afterOwner_serial h
  | case2 => exact h

theorem labelled_after_label {s s' : Store} (hs : StoreInv s) {u : Usage} {used : Res} (hk : usedKey used u)
    (hne : u.of.name ≠ "") {r : Res} (spec : UpdRSpec s { used with inUse := true } s' (.res r)) : Labelled s' u := by
  obtain ⟨⟨r', hr', k⟩, hall⟩ := spec.written hs
  have hn : u.names r' = true := (u.names_iff r').mpr ⟨hne, hk.key.symm.trans k.symm⟩
  exact ⟨⟨r', hr', hn⟩, fun z hz hnz => hall z hz ((names_same_key hn hnz).trans k)⟩

theorem CallEff.harmless {s s' : Store} {t : Thread} {q : Req} {resp : Resp} (hc : CallEff s t q s' resp) :
    Harmless s s' ∨
    (∃ used, t.pc = .dUnlabel used ∧ UpdRSpec s { used with inUse := false } s' resp) ∨
    (t.pc = .status ∧ s' = (s.putU { t.u with ready := true, rv := s.nextRv }).bump) := by
  cases hc with
  | wrote u' hm hn hn' hof _ _ =>
    exact .inl ⟨.putU hm (hn'.trans hn.symm) rfl id hof, fun _ hl _ => hl.sameRes rfl⟩
  | gone _ _ _ _ _ => exact .inl ⟨.sub fun _ h => (mem_dropU.mp h).1, fun _ hl _ => hl.sameRes rfl⟩
  | ready hpc _ _ _ => exact .inr (.inr ⟨hpc, rfl⟩)
  | res q _ _ spec hq =>
    rcases hq with hin | ⟨used, hpc, rfl⟩
    · exact .inl ⟨.sub fun _ h => spec.sameUsages.usages ▸ h, fun _ hl _ => hl.updR spec (fun _ _ _ => hin)⟩
    · exact .inr (.inl ⟨used, hpc, spec⟩)
  | _ => exact .inl ⟨.sub fun _ h => h, fun _ hl _ => hl⟩

/-- the label goes only when `serialFacts` says that no ready Usage names the resource, and a Usage
becomes ready only when `serialFacts` says that its resource is labelled -/
theorem Marker.call {s s' : Store} (hs : StoreInv s) (hm : Marker s) {t : Thread} (ht : TInv s t)
    (hsf : serialFacts s t.uname t.u t.pc) {q : Req} {resp : Resp} (hc : CallEff s t q s' resp) : Marker s' := by
  rcases hc.harmless with k | ⟨used, hpc, spec⟩ | ⟨hpc, rfl⟩
  · exact hm.change k
  · intro y hy hyr hyd
    have hy' : y ∈ s.usages := spec.sameUsages.usages ▸ hy
    refine (hm y hy' hyr hyd).updR spec (fun z hzk hz => ?_)
    -- a ready, not deleted Usage that names a resource of this key would be another Usage than the
    -- one being deleted, and `serialFacts` says there is none
    exfalso
    obtain ⟨hb, hdel, _, hk, _⟩ := ht.at_pc hpc rfl
    rw [hpc] at hsf
    obtain ⟨hy0, hyz⟩ := (y.names_iff z).mp hz
    rcases hsf y hy' (indexedBy_of_key hy0 (hyz.trans (hzk.trans hk.key))) with hyn | hynr
    · obtain ⟨w, hw, hwn, _, _, hwd⟩ := hb.hold (hb.ok.delFin hdel)
      have : y = w := hs.usageUniq y hy' w hw (hyn.trans hwn.symm)
      rw [this, hwd hdel] at hyd; cases hyd
    · rw [hynr] at hyr; cases hyr
  · rw [hpc] at hsf
    intro y hy hyr hyd
    rcases mem_putU.mp hy with ⟨hy', _⟩ | ⟨rfl, _⟩
    · exact (hm y hy' hyr hyd).sameRes rfl
    · exact (Labelled.of_eq hsf rfl).sameRes rfl

theorem CallEff.newly_ready {s s' : Store} {t : Thread} (hsf : serialFacts s t.uname t.u t.pc) {q : Req} {resp : Resp}
    (hc : CallEff s t q s' resp) : ∀ y' ∈ s'.usages, y'.ready = true →
      (∃ y ∈ s.usages, y.name = y'.name ∧ y.ready = true) ∨ Labelled s y' := by
  intro y' hy' hr
  rcases hc.harmless with k | ⟨used, _, spec⟩ | ⟨hpc, rfl⟩
  · rcases k.usages y' hy' with ⟨y, hy, hn, _, hrd, _⟩ | hnr
    · exact .inl ⟨y, hy, hn, hrd.trans hr⟩
    · rw [hnr] at hr; cases hr
  · exact .inl ⟨y', spec.sameUsages.usages ▸ hy', rfl, hr⟩
  · rw [hpc] at hsf
    rcases mem_putU.mp hy' with ⟨hy'', _⟩ | ⟨rfl, _⟩
    · exact .inl ⟨y', hy'', rfl, hr⟩
    · exact .inr (Labelled.of_eq hsf rfl)

theorem next_serial {s s' : Store} (hs : StoreInv s) {t : Thread} (ht : TInv s t)
    (hsf : serialFacts s t.uname t.u t.pc) {resp : Resp} (hc : CallEff s t t.request s' resp) :
    AfterSerial s' (t.next s.usages resp) := by
  obtain ⟨nm, pc, u, orv, ord, seen⟩ := t
  have h := next_spec ⟨nm, pc, u, orv, ord, seen⟩ s.usages resp
  generalize Thread.next ⟨nm, pc, u, orv, ord, seen⟩ s.usages resp = a at h ⊢
  change Next _ _ pc _ _ at h
  cases h with
  | got x => exact (afterGet_lands _).serial
  | ofSet p n => exact (afterOf_lands _).serial
  | bySet p n => exact (afterResolve_lands _).serial
  | finSet n => exact (afterFin_lands _).serial
  | usedGone | notLast used c _ | unlabelled used r => exact (afterUnlabel_lands _).serial
  | last used c hlt =>
    obtain ⟨rfl, rfl⟩ := hc.of_count
    obtain ⟨hb, hf⟩ := ht.facts rfl
    exact fun y hy hyi => .inl (sole_listed hb hf.1 hf.2.1 hlt y hy hyi)
  | isLabelled r hcond =>
    -- the used resource was read labelled, and it is the only resource of its key
    obtain ⟨hb, hf⟩ := ht.facts rfl
    obtain ⟨rfl, hg⟩ := hc.of_getR
    obtain ⟨hr, hk⟩ := getR_some hg
    have hin : r.inUse = true := by
      cases hb' : r.inUse with
      | true => rfl
      | false => exact absurd (.inl hb') hcond
    have hnr : u.names r = true := (u.names_iff r).mpr ⟨hf.2.1, hk.symm⟩
    refine afterLabel_serial ⟨⟨r, hr, hnr⟩, fun r' hr' hn' => ?_⟩
    rw [hs.res_inj hr' hr (names_same_key hnr hn')]; exact hin
  | labelled used r =>
    obtain ⟨hb, _, hne, _, _, hk⟩ := ht.facts rfl
    exact afterLabel_serial (labelled_after_label hs hk hne hc.of_res)
  | isOwned g o os _ _ =>
    obtain ⟨_, _, _, _, _, b, hby⟩ := ht.facts rfl
    cases (hc.of_getUsing rfl hby).1
    exact afterOwner_serial hsf
  | toOwn g =>
    obtain ⟨_, _, _, _, _, b, hby⟩ := ht.facts rfl
    cases (hc.of_getUsing rfl hby).1
    exact hsf
  | ownerSet ref n =>
    obtain ⟨hb, _, _, _, hfin, _⟩ := ht.facts rfl
    obtain ⟨_, _, e⟩ := hc.own hb (fun _ => hfin)
    exact afterOwner_serial ((Labelled.of_eq hsf (e ▸ rfl)).sameRes hc.res_eq)
  | _ => trivial

theorem serialFacts_change {s s' : Store} {t : Thread} (ht : TInv s t) (h : serialFacts s t.uname t.u t.pc)
    (k : Harmless s s') : serialFacts s' t.uname t.u t.pc := by
  obtain ⟨nm, pc, u, orv, ord, seen⟩ := t
  cases pc with
  | dUnlabel used =>
    intro y' hy' hi
    rcases k.usages y' hy' with ⟨y, hys, hn, ho, hrd, _⟩ | hnr
    · have hi' : y.indexedBy (indexValue u.of.av u.of.kind u.of.name) = true := by
        simp only [Usage.indexedBy_iff] at hi ⊢
        rw [ho]; exact hi
      exact (h y hys hi').imp (fun h1 => hn ▸ h1) (fun h2 => hrd ▸ h2)
    · exact .inr hnr
  | getUsing | addOwner _ | status =>
    -- the reconcile holds the finalizer: its Usage is in the store with the same spec.of
    obtain ⟨hb, _, _, _, hfin, _⟩ := ht.facts rfl
    obtain ⟨x, hx, _, _, hxo, _⟩ := hb.hold hfin
    exact k.labels u h ⟨x, hx, hxo⟩
  | _ => trivial

theorem not_names_of_key_ne {u y : Usage} {used : Res} (hk : usedKey used u)
    (hne : indexValue u.of.av u.of.kind u.of.name ≠ indexValue y.of.av y.of.kind y.of.name)
    (r : Res) (hr : r.key = used.key) : y.names r = false := by
  cases hb : y.names r with
  | false => rfl
  | true =>
    refine absurd ?_ hne
    rw [indexValue_eq, indexValue_eq, ((y.names_iff r).mp hb).2, hr, hk.key]

theorem keyed_of_ne {t : Thread} (hp : t.pc.holds = true) (h : t.u.of.name ≠ "") : t.keyed = true := by
  simp [Thread.keyed, hp, h]

theorem serialFacts_other {s s' : Store} {t y : Thread} (ht : TInv s t) (hy : TInv s y)
    (hfy : serialFacts s y.uname y.u y.pc)
    (hdis : t.keyed = true → y.keyed = true →
      indexValue t.u.of.av t.u.of.kind t.u.of.name ≠ indexValue y.u.of.av y.u.of.kind y.u.of.name)
    {q : Req} {resp : Resp} (hc : CallEff s t q s' resp) : serialFacts s' y.uname y.u y.pc := by
  rcases hc.harmless with k | ⟨used, hpc, spec⟩ | ⟨hpc, rfl⟩
  · exact serialFacts_change hy hfy k
  · -- the label goes from a resource that `y`, holding a Usage of another resource, does not care about
    obtain ⟨_, hf⟩ := ht.at_pc hpc rfl
    have htk : t.keyed = true := keyed_of_ne (by rw [hpc]; rfl) hf.2.1
    have lab : y.keyed = true → Labelled s y.u → Labelled s' y.u :=
      fun hyk hl => hl.updR spec (fun z hzk hz => by
        rw [not_names_of_key_ne hf.2.2.1 (hdis htk hyk) z hzk] at hz; cases hz)
    obtain ⟨ynm, ypc, yu, yorv, yord, yseen⟩ := y
    cases ypc with
    | dUnlabel yused => exact fun z hz => hfy z (spec.sameUsages.usages ▸ hz)
    | getUsing | addOwner _ | status =>
      exact lab (keyed_of_ne rfl (show yu.of.name ≠ "" from (hy.facts rfl).2.2.1)) hfy
    | _ => trivial
  · obtain ⟨_, hf⟩ := ht.at_pc hpc rfl
    have htk : t.keyed = true := keyed_of_ne (by rw [hpc]; rfl) hf.2.1
    obtain ⟨ynm, ypc, yu, yorv, yord, yseen⟩ := y
    cases ypc with
    | getUsing | addOwner _ | status => exact Labelled.sameRes hfy rfl
    | dUnlabel yused =>
      -- the Usage that becomes ready is indexed under another key than the one `y` counted
      intro z hz hzi
      rcases mem_putU.mp hz with ⟨hz', _⟩ | ⟨rfl, _⟩
      · exact hfy z hz' hzi
      · exact absurd ((Usage.indexedBy_iff _ _).mp hzi).2
          (hdis htk (keyed_of_ne rfl (show yu.of.name ≠ "" from (hy.facts rfl).2.2.1)))
    | _ => trivial

end Xp.C19
