import Xp.Proofs.C16Establish
/-
C16: Establish with a third party writing — between the phases and right before each real write
(`establishI`), and, in the world of `Model/C16World.lean`, also during the validate phase, whose
reads are cached and may miss or lag (`establishV`).

A real update can only replace the object of the store validate saw that it was computed from
(`update_hits_version`), and a create is only issued under `if control`; everything else in the
final store was put there by the third party: `IInv` (`Origin`) of the establish phase, relative to
the store `sv` the validate phase ended in (`establishAllI_inv`). `sv` differs from the initial store
by third-party writes only (`validateAllV_byActs`), with every `current` describing a version `sv`
has seen (`validateAllV_cdseen`); tracing the objects of `sv` back to the initial store or to a put
(`IInv.toV`) gives the classification `OriginV`.
-/
namespace Xp.C16

variable (rejects : Obj → Bool) (fault : Fault) (vi : VInterf) (tp : Interf) (p : Parent) (control : Bool)

/-- the third party's puts during one Establish -/
def Interf.Puts (tp : Interf) (a : Obj) : Prop := Act.put a ∈ tp.mid ∨ ∃ i, Act.put a ∈ tp.pre i

theorem Interf.puts_none (a : Obj) : ¬ Interf.none.Puts a :=
  fun h => by rcases h with h | ⟨_, h⟩ <;> cases h

/-- where an object of the store comes from, relative to the store `l₀` Establish started from -/
inductive Origin (p : Parent) (control : Bool) (P : Obj → Prop) (l₀ : List Obj) (o' : Obj) : Prop where
  /-- untouched -/
  | same : o' ∈ l₀ → Origin p control P l₀ o'
  /-- an object of `l₀`, rewritten by the revision within the role law `QE` -/
  | rewritten (o : Obj) : o ∈ l₀ → o.key = o'.key → QE p control o o' → Origin p control P l₀ o'
  /-- created by the revision within the role law `CE` (which requires `control = true`) -/
  | created : CE p control o' → Origin p control P l₀ o'
  /-- written by the third party -/
  | third : PutBy P o' → Origin p control P l₀ o'

/-- carried through the establish phase under interference: well formed, nothing older than `s₀.nextRv`
rewritten behind the revision's back, every object classified by `Origin` -/
structure IInv (p : Parent) (control : Bool) (P : Obj → Prop) (s₀ s : Store) : Prop where
  wf : WF s
  frozen : Frozen s₀ s
  objs : ∀ o' ∈ s.objs, Origin p control P s₀.objs o'

theorem IInv.refl (P : Obj → Prop) (s : Store) (hw : WF s) : IInv p control P s s :=
  ⟨hw, Frozen.refl s, fun _ h => .same h⟩

theorem IInv.acts {p : Parent} {control : Bool} {P : Obj → Prop} {s₀ s : Store} (hi : IInv p control P s₀ s)
    (as : List Act) (hP : ∀ o, Act.put o ∈ as → P o) : IInv p control P s₀ (applyActs s as) :=
  ⟨applyActs_wf s as hi.wf, hi.frozen.trans (applyActs_frozen s as),
    applyActs_objs _ P s as hP (fun o _ h => .third ⟨o, h, rfl, rfl, rfl⟩) hi.objs⟩

theorem IInv.create {p : Parent} {control : Bool} {P : Obj → Prop} {s₀ s s' : Store} {o : Obj}
    (hi : IInv p control P s₀ s) (he : CEffect s s' o)
    (hC : s.get o.key = none → ctrlCount o.owners ≤ 1 → CE p control { o with rv := s.nextRv }) :
    IInv p control P s₀ s' := by
  refine ⟨effect_wf (Or.inl he) hi.wf, hi.frozen.trans (effect_frozen (Or.inl he)), fun o' ho' => ?_⟩
  rcases he.mem o' ho' with h | ⟨rfl, h1, h2⟩
  · exact hi.objs o' h
  · exact .created (hC h1 h2)

theorem IInv.update {p : Parent} {control : Bool} {P : Obj → Prop} {s₀ s s' : Store} {o : Obj}
    (hi : IInv p control P s₀ s) (he : UEffect s s' o)
    (hQ : ∀ c, s.get o.key = some c → c.rv = o.rv → ctrlCount o.owners ≤ 1 →
      c ∈ s₀.objs ∧ QE p control c { o with rv := s.nextRv }) :
    IInv p control P s₀ s' := by
  refine ⟨effect_wf (Or.inr he) hi.wf, hi.frozen.trans (effect_frozen (Or.inr he)), fun o' ho' => ?_⟩
  rcases he.mem o' ho' with h | ⟨rfl, c, h1, h2, h3⟩
  · exact hi.objs o' h
  · exact .rewritten c (hQ c h1 h2 h3).1 (get_key h1) (hQ c h1 h2 h3).2

theorem establishOneI_inv (s₀ s : Store) (i : Nat) (cd : CD) (hi : IInv p control tp.Puts s₀ s) (hcd : CDSeen s₀ cd) :
    IInv p control tp.Puts s₀ (establishOneI rejects fault tp p control s i cd).1 := by
  have hiA := hi.acts (tp.pre i) fun _ h => Or.inr ⟨i, h⟩
  rcases establishOneI_spec rejects fault tp p control s i cd with ⟨_, e, _⟩ | ⟨rfl, _, e⟩ | ⟨cur, sub, hcur, hsub, e⟩ <;>
    rw [e]
  · exact hi
  · rw [liftW_fst]
    exact hiA.create (apiCreate_effect _ _ _ _ _) fun _ hv => createRefs_CE p cd.desired _ hv
  · rw [liftW_fst]
    exact hiA.update (apiUpdate_effect _ _ _ _ _) fun c hget hrv hv =>
      update_hits_version p control _ hiA.frozen hcd hcur hsub hget hrv hv

/-- `sv`: the store the validate phase ended in (in the world it is not the initial one) -/
theorem establishAllI_inv (sv : Store) (ys : List (Nat × CD)) (hw : WF sv) (hcd : ∀ y ∈ ys, CDSeen sv y.2) :
    IInv p control tp.Puts sv (establishAllI rejects fault tp p control (applyActs sv tp.mid) ys).1 :=
  establishAllI_ind rejects fault tp p control (IInv p control tp.Puts sv) ys _
    ((IInv.refl p control tp.Puts sv hw).acts tp.mid fun _ h => Or.inl h) fun s' i cd hm h =>
      establishOneI_inv rejects fault tp p control sv s' i cd h (hcd _ hm)

variable (s : Store) (objs : List Desired) (vorder eorder : List Nat)

theorem establishI_inv (hw : WF s) :
    IInv p control tp.Puts s (establishI rejects fault tp p control s objs vorder eorder).1 := by
  rcases establishI_cases rejects fault tp p control s objs vorder eorder with ⟨r, h, _⟩ | ⟨cds, hv, h⟩ <;> rw [h]
  · exact IInv.refl p control _ s hw
  · exact establishAllI_inv rejects fault tp p control s _ hw fun y hy =>
      validateAll_cdseen rejects fault p control hw hv y (mem_pickCD hy)

theorem establishOneI_log (i : Nat) (cd : CD) :
    LogExt control s.log (establishOneI rejects fault tp p control s i cd).1.log := by
  rcases establishOneI_spec rejects fault tp p control s i cd with ⟨_, e, _⟩ | ⟨rfl, _, e⟩ | ⟨_, sub, _, _, e⟩ <;>
    rw [e]
  · exact LogExt.refl _ _
  · have := apiCreate_ext rejects false (fault i .real) (applyActs s (tp.pre i)) { cd.desired with owners := createRefs p }
    rwa [applyActs_log, ← liftW_fst (⟨cd.desired.key, false⟩ : Ref)] at this
  · have := apiUpdate_ext control rejects false (fault i .real) (applyActs s (tp.pre i)) sub
    rwa [applyActs_log, ← liftW_fst (⟨cd.desired.key, true⟩ : Ref)] at this

theorem establishAllI_log (ys : List (Nat × CD)) :
    LogExt control s.log (establishAllI rejects fault tp p control s ys).1.log :=
  establishAllI_ind rejects fault tp p control (fun s' => LogExt control s.log s'.log) ys s (LogExt.refl _ _)
    fun s' i cd _ h => h.trans (establishOneI_log rejects fault tp p control s' i cd)

/-- where an object of the final store comes from, relative to the objects `l₀` Establish
started from: `Origin` plus the case the validate-phase interference adds — an object the
third party put, validated, and then rewritten by the revision within the role law -/
inductive OriginV (p : Parent) (control : Bool) (P : Obj → Prop) (l₀ : List Obj) (o' : Obj) : Prop where
  /-- untouched -/
  | same : o' ∈ l₀ → OriginV p control P l₀ o'
  /-- an object of `l₀`, rewritten by the revision within the role law `QE` -/
  | rewritten (o : Obj) : o ∈ l₀ → o.key = o'.key → QE p control o o' → OriginV p control P l₀ o'
  /-- created by the revision within the role law `CE` (which requires `control = true`) -/
  | created : CE p control o' → OriginV p control P l₀ o'
  /-- written by the third party -/
  | third : PutBy P o' → OriginV p control P l₀ o'
  /-- written by the third party, then rewritten by the revision within the role law `QE` -/
  | rethird (o : Obj) : PutBy P o → o.key = o'.key → QE p control o o' → OriginV p control P l₀ o'

/-- as `IInv`, with the objects classified by `OriginV` relative to `l₀`; `sv`: the store whose
resourceVersions are frozen -/
structure VIInv (p : Parent) (control : Bool) (P : Obj → Prop) (l₀ : List Obj) (sv s : Store) : Prop where
  wf : WF s
  frozen : Frozen sv s
  objs : ∀ o' ∈ s.objs, OriginV p control P l₀ o'

theorem VIInv.create {p : Parent} {control : Bool} {P : Obj → Prop} {l₀ : List Obj} {sv s s' : Store} {o : Obj}
    (hi : VIInv p control P l₀ sv s) (he : CEffect s s' o)
    (hC : s.get o.key = none → ctrlCount o.owners ≤ 1 → CE p control { o with rv := s.nextRv }) :
    VIInv p control P l₀ sv s' := by
  refine ⟨effect_wf (Or.inl he) hi.wf, hi.frozen.trans (effect_frozen (Or.inl he)), fun o' ho' => ?_⟩
  rcases he.mem o' ho' with h | ⟨rfl, h1, h2⟩
  · exact hi.objs o' h
  · exact .created (hC h1 h2)

theorem VIInv.update {p : Parent} {control : Bool} {P : Obj → Prop} {l₀ : List Obj} {sv s s' : Store} {o : Obj}
    (hi : VIInv p control P l₀ sv s) (he : UEffect s s' o)
    (hQ : ∀ c, s.get o.key = some c → c.rv = o.rv → ctrlCount o.owners ≤ 1 →
      (c ∈ l₀ ∨ PutBy P c) ∧ QE p control c { o with rv := s.nextRv }) :
    VIInv p control P l₀ sv s' := by
  refine ⟨effect_wf (Or.inr he) hi.wf, hi.frozen.trans (effect_frozen (Or.inr he)), fun o' ho' => ?_⟩
  rcases he.mem o' ho' with h | ⟨rfl, c, h1, h2, h3⟩
  · exact hi.objs o' h
  · obtain ⟨hc0, hq⟩ := hQ c h1 h2 h3
    exact hc0.elim (fun h => .rewritten c h (get_key h1) hq) fun h => .rethird c h (get_key h1) hq

theorem IInv.toV {p : Parent} {control : Bool} {P P' : Obj → Prop} {s sv s' : Store} (ht : TInv P' s sv)
    (hi : IInv p control P sv s') (hP : ∀ a, P a → P' a) : VIInv p control P' s.objs s s' :=
  ⟨hi.wf, ht.frozen.trans hi.frozen, fun o' ho' => by
    cases hi.objs o' ho' with
    | same h => exact (ht.objs o' h).elim .same .third
    | rewritten o ho hk q => exact (ht.objs o ho).elim (.rewritten o · hk q) (.rethird o · hk q)
    | created c => exact .created c
    | third t => exact .third (t.mono hP)⟩

/-- the third party's puts during one Establish call in the world -/
def EPuts (vi : VInterf) (tp : Interf) (a : Obj) : Prop := vi.Puts a ∨ tp.Puts a

theorem establishV_inv (hw : WF s)
    (hst : StaleOK s vi (pick objs vorder)) :
    VIInv p control (EPuts vi tp) s.objs s (establishV rejects fault vi tp p control s objs vorder eorder).1 := by
  rcases establishV_cases rejects fault vi tp p control s objs vorder eorder with ⟨sv, r, hb, h, _⟩ | ⟨sv, cds, hb, hv, h⟩ <;>
    rw [h] <;> have ht := (TInv.refl (EPuts vi tp) s hw).byActs hb fun _ h => Or.inl h
  · exact (IInv.refl p control _ _ ht.wf).toV ht fun _ h => h
  · have hcds := validateAllV_cdseen rejects fault vi p control hw hst hv
    exact (establishAllI_inv rejects fault tp p control sv _ ht.wf fun y hy => hcds _ (mem_pickCD hy)).toV ht
      fun _ h => Or.inr h

theorem establishV_released {P : Obj → Prop} (hw : WF s)
    (hst : StaleOK s vi (pick objs vorder)) (hP : ∀ a, EPuts vi tp a → P a)
    (h : ∀ o ∈ s.objs, PutBy P o ∨ NotCtrlBy o p.uid) :
    ∀ o' ∈ (establishV rejects fault vi tp p false s objs vorder eorder).1.objs, PutBy P o' ∨ NotCtrlBy o' p.uid := by
  intro o' ho'
  cases (establishV_inv rejects fault vi tp p false s objs vorder eorder hw hst).objs o' ho' with
  | same hs => exact h o' hs
  | rewritten o _ _ q => exact Or.inr (q.released rfl)
  | created c => exact absurd c.active (by simp)
  | third t => exact Or.inl (t.mono hP)
  | rethird o _ _ q => exact Or.inr (q.released rfl)

theorem establishV_log (hw : WF s) :
    LogExt control s.log (establishV rejects fault vi tp p control s objs vorder eorder).1.log := by
  rcases establishV_cases rejects fault vi tp p control s objs vorder eorder with ⟨sv, r, hb, h, _⟩ | ⟨sv, cds, hb, hv, h⟩ <;>
    rw [h] <;> have ht := (TInv.refl vi.Puts s hw).byActs hb fun _ h => h
  · rw [ht.log]
    exact LogExt.refl _ _
  · have := establishAllI_log rejects fault tp p control (applyActs sv tp.mid) (pickCD cds eorder)
    rwa [applyActs_log, ht.log] at this

theorem establishI_log (hw : WF s) :
    LogExt control s.log (establishI rejects fault tp p control s objs vorder eorder).1.log := by
  rw [← establishV_none]
  exact establishV_log rejects fault VInterf.none tp p control s objs vorder eorder hw

end Xp.C16
