import Xp.Proofs.C17Trace
import Xp.Proofs.C17Init
/-
C17, PackageDependencyManager.Resolve: lock-package nodes of the DAG carry the version recorded in the
lock; AddOrUpdateNodes; the dependency check loop; what `resolveTail` returns (`resolveTail_spec`);
RemoveSelf; the checks are sound on every DAG of a lock (`Graph`, `checks_sound`), hence for a lock
that holds only the revision's own entries (`resolveTail_sound`).
-/
namespace Xp.C17

/-- every lock-package node of `d` carries source and version of an entry of `pkgs` -/
def NodeInv (pkgs : List Pkg) (d : Dag) : Prop :=
  ∀ n ∈ d, n.isPkg = true → ∃ p ∈ pkgs, p.source = n.id ∧ n.con = p.version

theorem NodeInv.append {pkgs : List Pkg} {d : Dag} {n : Node} (h : NodeInv pkgs d)
    (hn : n.isPkg = true → ∃ p ∈ pkgs, p.source = n.id ∧ n.con = p.version) : NodeInv pkgs (d ++ [n]) := by
  intro x hx
  rcases List.mem_append.1 hx with h' | h'
  · exact h x h'
  · simp only [List.mem_singleton] at h'; subst h'; exact hn

theorem init_nodes {o : Oracle} {upg : Bool} {pkgs : List Pkg} {d : Dag} {imp : List Dep}
    (h : init o upg pkgs = .ok (d, imp)) {id : String} {n : Node} (hg : d.get id = some n) (hp : n.isPkg = true) :
    ∃ p ∈ pkgs, p.source = id ∧ n.con = p.version :=
  (Dag.get_some hg).2 ▸ (init_pkgNodes h : NodeInv pkgs d) n (Dag.get_some hg).1 hp

theorem addOrUpdate_get (upg : Bool) (d : Dag) (n : Node) (id : String) :
    ∃ n', n'.core = n.core ∧ Dag.get (addOrUpdate upg d n) id = if n.id == id then some n' else d.get id := by
  unfold addOrUpdate
  cases hg : d.get n.id with
  | none =>
    refine ⟨n, rfl, ?_⟩
    dsimp only
    rw [Dag.get_append]
    by_cases hid : n.id = id
    · subst hid; rw [hg]; simp [Dag.get]
    · rw [if_neg (by simpa using hid)]
      cases d.get id with
      | some _ => rfl
      | none => simp [Dag.get, hid]
  | some old =>
    -- the node stored: `n`, with the old parent constraints kept by the upgrading DAG
    obtain ⟨n', hn', hc⟩ : ∃ n', (if upg then { n with parents := n.parents ++ old.parents } else n) = n' ∧
        n'.core = n.core := ⟨_, rfl, by split <;> rfl⟩
    have h1 : n'.id = n.id := (congrArg Node.id hc :)
    refine ⟨n', hc, ?_⟩
    dsimp only
    have hid' : ∀ x : Node, (if (x.id == n.id) = true then n' else x).id = x.id := by
      intro x
      by_cases hx : (x.id == n.id) = true
      · rw [if_pos hx, h1]
        exact (beq_iff_eq.1 hx).symm
      · rw [if_neg hx]
    rw [hn', Dag.get_map_same_id d _ hid']
    by_cases hid : n.id = id
    · subst hid; rw [hg]; simp [(Dag.get_some hg).2]
    · rw [if_neg (by simpa using hid)]
      cases hd : d.get id with
      | none => rfl
      | some x => simp [(Dag.get_some hd).2, Ne.symm hid]

theorem addOrUpdate_nb (upg : Bool) (d : Dag) (n : Node) (id : String) :
    Dag.nb (addOrUpdate upg d n) id = if n.id == id then some (n.deps.map (·.pkg)) else d.nb id := by
  obtain ⟨n', hc, hget⟩ := addOrUpdate_get upg d n id
  unfold Dag.nb
  rw [hget]
  split
  · simp [show n'.deps = n.deps from (congrArg Node.deps hc :)]
  · rfl

theorem addOrUpdate_has (upg : Bool) (d : Dag) (n : Node) (id : String) :
    Dag.has (addOrUpdate upg d n) id = (n.id == id || d.has id) := by
  rw [Dag.has_eq, addOrUpdate_nb, Dag.has_eq]
  split
  · rename_i h; simp [h]
  · rename_i h; simp [h]

/-- the errors on which the loop over the direct dependencies stops -/
def checkErrs : List ResErr := [.notInGraph, .notLockPackage, .digestMismatch, .badConstraint, .badVersion]

theorem checkDep_cases (o : Oracle) (d : Dag) (e : Dep) :
    (checkDep o d e = none ∧ ∃ n, d.get e.pkg = some n ∧ n.isPkg = true ∧ VersionOk o e n.con) ∨
    (∃ err, checkDep o d e = some (err, false) ∧ err ∈ checkErrs) ∨
    checkDep o d e = some (.incompatible, true) := by
  unfold checkDep
  cases hg : d.get e.pkg with
  | none => exact .inr (.inl ⟨_, rfl, by decide⟩)
  | some n =>
    dsimp only
    by_cases hp : (!n.isPkg) = true
    · rw [if_pos hp]
      exact .inr (.inl ⟨_, rfl, by decide⟩)
    · rw [if_neg hp]
      cases hd : o.digest e.con with
      | some dg =>
        dsimp only
        by_cases hc : n.con ≠ dg
        · rw [if_pos hc]
          exact .inr (.inl ⟨_, rfl, by decide⟩)
        · rw [if_neg hc]
          exact .inl ⟨rfl, n, rfl, by simpa using hp, Or.inl ⟨dg, hd, Decidable.not_not.1 hc⟩⟩
      | none =>
        dsimp only
        by_cases h1 : (!o.conOk e.con) = true
        · rw [if_pos h1]
          exact .inr (.inl ⟨_, rfl, by decide⟩)
        · rw [if_neg h1]
          by_cases h2 : (o.ver n.con).isNone = true
          · rw [if_pos h2]
            exact .inr (.inl ⟨_, rfl, by decide⟩)
          · rw [if_neg h2]
            by_cases h3 : (!o.sat e.con n.con) = true
            · rw [if_pos h3]
              exact .inr (.inr rfl)
            · rw [if_neg h3]
              exact .inl ⟨rfl, n, rfl, by simpa using hp, Or.inr ⟨hd, by simpa using h1,
                Option.isSome_iff_ne_none.2 (by simpa using h2), by simpa using h3⟩⟩

theorem checkDeps_cases (o : Oracle) (d : Dag) : ∀ (es : List Dep) (k : Nat),
    (∃ k', checkDeps o d es k = .ok k' ∧ k ≤ k' ∧ (k' = k → ∀ e ∈ es, checkDep o d e = none)) ∨
    (∃ err, checkDeps o d es k = .error err ∧ err ∈ checkErrs)
  | [], k => .inl ⟨k, rfl, Nat.le_refl _, fun _ _ h => nomatch h⟩
  | e :: es, k => by
    unfold checkDeps
    rcases checkDep_cases o d e with ⟨hc, _⟩ | ⟨err, hc, herr⟩ | hc
    · rw [hc]
      rcases checkDeps_cases o d es k with ⟨k', h, hle, hall⟩ | h
      · exact .inl ⟨k', h, hle, fun hk x hx => (List.mem_cons.1 hx).elim (fun e => e ▸ hc) (hall hk x)⟩
      · exact .inr h
    · rw [hc]; exact .inr ⟨err, rfl, herr⟩
    · rw [hc]
      rcases checkDeps_cases o d es (k + 1) with ⟨k', h, hle, _⟩ | h
      · exact .inl ⟨k', h, by omega, fun hk => by omega⟩
      · exact .inr h

theorem checkDep_none {o : Oracle} {d : Dag} {e : Dep} (h : checkDep o d e = none) :
    ∃ n, d.get e.pkg = some n ∧ n.isPkg = true ∧ VersionOk o e n.con := by
  rcases checkDep_cases o d e with ⟨_, hn⟩ | ⟨_, h', _⟩ | h'
  · exact hn
  · rw [h] at h'; cases h'
  · rw [h] at h'; cases h'

theorem Reach.isSome_of_closed {nb : String → Option (List String)} (hc : Closed nb) {a b : String}
    (r : Reach nb a b) : (nb b).isSome = true := by
  induction r with
  | edge e => exact hc _ _ e
  | step _ _ ih => exact ih

/-- the three clauses of `resolveTail_spec` for a result whose error is neither none nor the conflict: every
branch of `resolveTail` that ends in an error is closed by it -/
theorem resOut_err {f i v : Int} {e : ResErr} {l : List Pkg} (h1 : e ≠ .none) (h2 : e ≠ .conflict) (P : Prop) :
    (⟨f, i, v, e, l⟩ : ResOut).lock = l ∧ (⟨f, i, v, e, l⟩ : ResOut).err ≠ .conflict ∧
      ((⟨f, i, v, e, l⟩ : ResOut).err = .none → P) :=
  ⟨rfl, h2, fun h => absurd h h1⟩

theorem resolveTail_spec (o : Oracle) (upg : Bool) (self : Pkg) (lock1 : List Pkg) (d : Dag) (implied : List Dep) :
    (resolveTail o upg self lock1 d implied).lock =
      (if lock1.any (fun lp => lp.name == self.name) then lock1 else lock1 ++ [self]) ∧
    (resolveTail o upg self lock1 d implied).err ≠ .conflict ∧
    ((resolveTail o upg self lock1 d implied).err = .none → ∃ tree : List String,
      let prExists := lock1.any (fun lp => lp.name == self.name)
      let d2 := if prExists then d else addOrUpdate upg d (pkgNode self)
      (prExists = false → ∀ e ∈ self.deps, d2.has e.pkg = true) ∧
      trace d2 self.source = .ok tree ∧
      (∀ i ∈ implied, i.pkg ∉ tree) ∧
      (∀ e ∈ self.deps, checkDep o d2 e = none)) := by
  unfold resolveTail
  simp only []
  generalize lock1.any (fun lp => lp.name == self.name) = prExists
  generalize (if prExists = true then d else addOrUpdate upg d (pkgNode self)) = d2
  generalize hcond : (!prExists && decide ((if prExists = true then (0 : Int) else
    ↑(self.deps.filter (fun e => d2.has e.pkg)).length) ≠ ↑self.deps.length)) = cond
  cases cond with
  | true => rw [if_pos rfl]; exact resOut_err (e := .missingDirect) (by decide) (by decide) _
  | false =>
    simp only [Bool.false_eq_true, if_false]
    cases ht : trace d2 self.source with
    | error e => exact resOut_err (e := .traceMissing) (by decide) (by decide) _
    | ok tree =>
      simp only []
      by_cases hmiss : (implied.filter (fun i => tree.contains i.pkg)).length ≠ 0
      · rw [if_pos hmiss]; exact resOut_err (e := .missingDeps) (by decide) (by decide) _
      · rw [if_neg hmiss]
        rcases checkDeps_cases o d2 self.deps 0 with ⟨k, hc, _, hall⟩ | ⟨err, hc, herr⟩
        · rw [hc]
          cases k with
          | succ k => exact resOut_err (e := .incompatible) (by decide) (by decide) _
          | zero =>
            refine ⟨rfl, (by decide : ResErr.none ≠ .conflict), fun _ => ⟨tree, ?_, rfl, ?_, hall rfl⟩⟩
            · intro hpf
              subst hpf
              have : (self.deps.filter (fun e => d2.has e.pkg)).length = self.deps.length := by
                simp at hcond; omega
              exact List.length_filter_eq_length_iff.1 this
            · intro i hi hmem
              have hnil : implied.filter (fun i => tree.contains i.pkg) = [] := by
                simpa using hmiss
              exact (List.filter_eq_nil_iff.1 hnil) i hi (List.contains_iff_mem.2 hmem)
        · rw [hc]
          have hne : err ≠ .none ∧ err ≠ .conflict :=
            (by decide : ∀ e ∈ checkErrs, e ≠ ResErr.none ∧ e ≠ ResErr.conflict) err herr
          exact resOut_err hne.1 hne.2 _

theorem removeSelf_eq_eraseP : ∀ (l : List Pkg) (name : String), removeSelf l name = l.eraseP (fun p => p.name == name)
  | [], _ => rfl
  | p :: ps, name => by
    unfold removeSelf
    rw [List.eraseP_cons, removeSelf_eq_eraseP ps name]
    cases p.name == name <;> rfl

theorem removeSelf_sub (l : List Pkg) (name : String) (p : Pkg) (h : p ∈ removeSelf l name) : p ∈ l :=
  List.mem_of_mem_eraseP (removeSelf_eq_eraseP l name ▸ h)

theorem mem_removeSelf_of_ne {p : Pkg} {name : String} (hn : p.name ≠ name) (l : List Pkg) (h : p ∈ l) :
    p ∈ removeSelf l name := by
  rw [removeSelf_eq_eraseP]
  exact (List.mem_eraseP_of_neg (by simpa using hn)).2 h

theorem removeSelf_of_no_name (l : List Pkg) (name : String) (h : l.any (fun lp => lp.name == name) = false) :
    removeSelf l name = l := by
  rw [removeSelf_eq_eraseP]
  exact List.eraseP_of_forall_not fun p hp hx => by
    rw [List.any_eq_true.2 ⟨p, hp, hx⟩] at h; cases h

theorem removeSelf_name (l : List Pkg) (name : String) (hn : (l.map (·.name)).Nodup) :
    ∀ p ∈ removeSelf l name, p.name ≠ name := by
  intro p hp hpn
  rw [removeSelf_eq_eraseP] at hp
  by_cases hex : ∃ a ∈ l, (a.name == name) = true
  · obtain ⟨a0, ha0, hx0⟩ := hex
    obtain ⟨a, l1, l2, hl1, ha, rfl, he⟩ := List.exists_of_eraseP (p := fun p => p.name == name) ha0 hx0
    rw [he] at hp
    rw [List.map_append, List.map_cons, List.nodup_append] at hn
    rcases List.mem_append.1 hp with h | h
    · exact hl1 p h (by simpa using hpn)
    · have han : a.name = name := by simpa using ha
      exact (List.nodup_cons.1 hn.2.1).1 (List.mem_map.2 ⟨p, h, hpn.trans han.symm⟩)
  · rw [List.eraseP_of_forall_not (fun a ha hx => hex ⟨a, ha, hx⟩)] at hp
    exact hex ⟨p, hp, by simpa using hpn⟩

/-- `d` is a DAG of the lock `lock` with implied nodes `imp`: its graph is the lock's, every node
is a lock package or implied, and lock-package nodes carry the lock's versions -/
structure Graph (lock : List Pkg) (d : Dag) (imp : List Dep) : Prop where
  nb_eq : d.nb = lockNb lock
  keys : ∀ m, d.has m = true → m ∈ lock.map (·.source) ∨ m ∈ imp.map (·.pkg)
  nodes : ∀ id n, d.get id = some n → n.isPkg = true → ∃ p ∈ lock, p.source = id ∧ n.con = p.version

theorem Graph.init {o : Oracle} {upg : Bool} {pkgs : List Pkg} {d : Dag} {imp : List Dep}
    (h : init o upg pkgs = .ok (d, imp)) : Graph pkgs d imp :=
  ⟨(init_graph h).1, fun _ => init_keys h, fun _ _ => init_nodes h⟩

/-- Resolve's AddOrUpdateNodes of the revision's own node, next to its entry appended to the lock -/
theorem Graph.addSelf {upg : Bool} {self : Pkg} {lock1 : List Pkg} {d : Dag} {imp : List Dep} (g : Graph lock1 d imp)
    (hfind : lock1.find? (fun p => p.source == self.source) = none)
    (hdirect : ∀ e ∈ self.deps, (addOrUpdate upg d (pkgNode self)).has e.pkg = true) :
    Graph (lock1 ++ [self]) (addOrUpdate upg d (pkgNode self)) imp := by
  have hnb : ∀ id, (addOrUpdate upg d (pkgNode self)).nb id =
      if self.source == id then some (self.deps.map (·.pkg)) else d.nb id := fun id => addOrUpdate_nb upg d _ id
  have hhas : ∀ id, (addOrUpdate upg d (pkgNode self)).has id = (self.source == id || d.has id) :=
    fun id => addOrUpdate_has upg d _ id
  refine ⟨funext fun id => ?_, fun m hmk => ?_, fun id n hg hp => ?_⟩
  · rw [hnb]
    by_cases hid : (self.source == id) = true
    · rw [if_pos hid, ← beq_iff_eq.1 hid]
      unfold lockNb
      rw [List.find?_append, hfind]; simp
    · have hne : (self.source == id) = false := Bool.eq_false_iff.2 hid
      rw [if_neg hid, g.nb_eq]
      unfold lockNb
      rw [List.find?_append]
      cases hf : lock1.find? (fun p => p.source == id) with
      | some p => rfl
      | none =>
        simp only [Option.none_or, List.find?_cons, hne, List.find?_nil, List.flatMap_append, List.flatMap_cons,
          List.flatMap_nil, List.append_nil, List.any_append]
        cases hA : (lock1.flatMap (·.deps)).any (fun e => e.pkg == id) with
        | true => rfl
        | false =>
          -- a direct dependency that is no node of the lock's graph would be missing from the DAG
          have : self.deps.any (fun e => e.pkg == id) = false := Bool.eq_false_iff.2 fun hs => by
            obtain ⟨e, he, hb⟩ := List.any_eq_true.1 hs
            have := hdirect e he
            rw [hhas, beq_iff_eq.1 hb, hne, Bool.false_or, Dag.has_eq, g.nb_eq] at this
            unfold lockNb at this
            rw [hf, hA] at this
            cases this
          rw [this]; rfl
  · rw [hhas] at hmk
    rw [List.map_append, List.mem_append]
    by_cases hs : (self.source == m) = true
    · exact .inl (.inr (List.mem_map.2 ⟨self, List.mem_singleton.2 rfl, beq_iff_eq.1 hs⟩))
    · rw [Bool.eq_false_iff.2 hs, Bool.false_or] at hmk
      exact (g.keys m hmk).imp_left .inl
  · obtain ⟨n', hc, hget⟩ := addOrUpdate_get upg d (pkgNode self) id
    rw [hget] at hg
    by_cases hs : ((pkgNode self).id == id) = true
    · rw [if_pos hs] at hg
      cases hg
      exact ⟨self, List.mem_append_right _ (List.mem_singleton.2 rfl), beq_iff_eq.1 hs, (congrArg Node.con hc :)⟩
    · rw [if_neg hs] at hg
      obtain ⟨p, hp1, hp2⟩ := g.nodes id n hg hp
      exact ⟨p, List.mem_append_left _ hp1, hp2⟩

theorem checks_sound {o : Oracle} {self : Pkg} {lock2 : List Pkg} {d2 : Dag} {implied : List Dep} {tree : List String}
    (g : Graph lock2 d2 implied) (hself : (lockNb lock2 self.source).isSome = true)
    (htrace : trace d2 self.source = .ok tree) (himp : ∀ i ∈ implied, i.pkg ∉ tree)
    (hchk : ∀ e ∈ self.deps, checkDep o d2 e = none) :
    (∀ e ∈ self.deps, ∃ p ∈ lock2, p.source = e.pkg ∧ VersionOk o e p.version) ∧
    (∀ m, Reach (lockNb lock2) self.source m → m ∈ lock2.map (·.source)) := by
  have hks : ∀ n, (lockNb lock2 n).isSome = true ↔ n ∈ d2.keys := fun n => g.nb_eq ▸ d2.nb_isSome_iff n
  obtain ⟨t, ht, hreach⟩ := traceG_spec (lockNb lock2) d2.keys hks (lockNb_closed lock2) self.source ((hks _).1 hself)
  unfold trace at htrace
  rw [g.nb_eq, ← show d2.keys.length = d2.length from List.length_map .., ht] at htrace
  cases htrace
  refine ⟨fun e he => ?_, fun m hm => ?_⟩
  · obtain ⟨n, hg, hp, hv⟩ := checkDep_none (hchk e he)
    obtain ⟨p, hp1, hp2, hp3⟩ := g.nodes _ n hg hp
    exact ⟨p, hp1, hp2, hp3 ▸ hv⟩
  · have hmk : d2.has m = true := (d2.has_iff_mem_keys m).2 ((hks m).1 (hm.isSome_of_closed (lockNb_closed lock2)))
    rcases g.keys m hmk with hs | hi
    · exact hs
    · obtain ⟨i, hi1, hi2⟩ := List.mem_map.1 hi
      exact absurd (hi2 ▸ (hreach m).2 hm) (himp i hi1)

theorem resolveTail_sound (o : Oracle) (upg : Bool) (self : Pkg) (lock1 : List Pkg) (d : Dag) (implied : List Dep)
    (hinit : init o upg lock1 = .ok (d, implied)) (hwf : OwnEntry lock1 self)
    (h : (resolveTail o upg self lock1 d implied).err = .none) :
    lockNb (resolveTail o upg self lock1 d implied).lock self.source = some (self.deps.map (·.pkg)) ∧
    (∀ e ∈ self.deps, ∃ p ∈ (resolveTail o upg self lock1 d implied).lock, p.source = e.pkg ∧ VersionOk o e p.version) ∧
    (∀ m, Reach (lockNb (resolveTail o upg self lock1 d implied).lock) self.source m →
      m ∈ (resolveTail o upg self lock1 d implied).lock.map (·.source)) := by
  obtain ⟨hlock, _, hfacts⟩ := resolveTail_spec o upg self lock1 d implied
  obtain ⟨tree, hdirect, htrace, himp, hchk⟩ := hfacts h
  rw [hlock]
  cases hpe : lock1.any (fun lp => lp.name == self.name) with
  | true =>
    rw [hpe] at htrace hchk
    simp only [if_true] at htrace hchk ⊢
    obtain ⟨q, hq, hqn⟩ := List.any_eq_true.1 hpe
    have hqs : q.source = self.source := hwf.named q hq (by simpa using hqn)
    -- the entry found under self's source carries self's dependencies
    have h0 : lockNb lock1 self.source = some (self.deps.map (·.pkg)) := by
      unfold lockNb
      cases hf : lock1.find? (fun p => p.source == self.source) with
      | none =>
        have := List.find?_eq_none.1 hf q hq
        simp [hqs] at this
      | some q' =>
        have hs' : q'.source = self.source := by simpa using List.find?_some hf
        simp only []
        rw [(hwf.own q' (List.mem_of_find?_eq_some hf) hs').2]
    exact ⟨h0, checks_sound (Graph.init hinit) (h0 ▸ rfl) htrace himp hchk⟩
  | false =>
    have hdirect' := hdirect hpe
    rw [hpe] at htrace hchk hdirect'
    simp only [Bool.false_eq_true, if_false] at htrace hchk hdirect' ⊢
    -- no entry of lock1 sits under self's source
    have hfind : lock1.find? (fun p => p.source == self.source) = none := by
      rw [List.find?_eq_none]
      intro p hp hs
      have hn := (hwf.own p hp (by simpa using hs)).1
      have : lock1.any (fun lp => lp.name == self.name) = true :=
        List.any_eq_true.2 ⟨p, hp, by simp [hn]⟩
      rw [hpe] at this; cases this
    have h0 : lockNb (lock1 ++ [self]) self.source = some (self.deps.map (·.pkg)) := by
      unfold lockNb
      rw [List.find?_append, hfind]
      simp
    exact ⟨h0, checks_sound ((Graph.init hinit).addSelf hfind hdirect') (h0 ▸ rfl) htrace himp hchk⟩

end Xp.C17
