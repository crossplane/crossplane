import Xp.Proofs.C01PT
/-
Quiescence of the patch-and-transform composer (named templates): from a store in which
every template has its composed resource with exactly the template's content, and
spec.resourceRefs is exactly the list of those resources IN TEMPLATE ORDER (the P&T
composer does not sort its references), a fault-free reconcile issues only no-op writes
(Update(XR) with unchanged references, one merge patch per template that changes nothing,
the final Apply(XR) and Status().Update) and returns the very same store, whatever names the
generator would have proposed: none is probed, none is consumed.
-/
namespace Xp.C01

/-- the templates as the render loop leaves them when template `i` inherits `names[i]` -/
def renderedOf (tmpl : List Desired) (names : List String) : List Rendered :=
  (tmpl.zip names).map fun p => ⟨p.1, p.2, true⟩

/-- the references the P&T composer writes for these templates and names: template order, unsorted -/
def refsPT (tmpl : List Desired) (names : List String) : List Ref :=
  List.zipWith (fun d n => (⟨d.kind, n⟩ : Ref)) tmpl names

/-- what "the composed state matches the desired state" means in the model for the P&T
composer: `names[i]` is the metadata.name of the composed resource of template `tmpl[i]`.

Not required (the statement is stronger without them): the full invariant `Good` (only
uniqueness of object keys is used), that the composed resources are not terminating (the
model's merge patch, like the real one, does not look at deletionTimestamp), that there are
no other objects in the store, or anything about the XR's resourceVersion. -/
structure SettledPT (s : St) (tmpl : List Desired) (names : List String) : Prop where
  /-- the XR carries its finalizer (otherwise the reconcile starts by adding it: a real write) -/
  fin : s.xrFin = true
  /-- an API server never holds two objects of the same kind and name (part of `Good`); without
  it "the object of template i" is not well defined (`mapObj` rewrites every match) -/
  nodupObjs : (s.objs.map key).Nodup
  len : names.length = tmpl.length
  /-- template names are pairwise distinct (`TmplOK.nodup`: enforced by Composition validation) -/
  nodup : (tmpl.map (·.rname)).Nodup
  /-- all templates are named (the model covers named templates only: an object without the
  composition-resource-name annotation makes `associatePT` leave the model) -/
  rnameNe : ∀ d ∈ tmpl, d.rname ≠ ""
  /-- a reference with an empty name is skipped by AssociateTemplates: its template would be
  rendered anew under a generated name -/
  nameNe : ∀ n ∈ names, n ≠ ""
  /-- the API server accepts every template's content (none is rejected as invalid: a rejected
  patch is not a change either, but the reconcile then reports `handled`, not `success`) -/
  valid : ∀ d ∈ tmpl, d.content ≠ invalidContent
  obj : ∀ p ∈ tmpl.zip names, ∃ o ∈ s.objs, o.kind = p.1.kind ∧ o.name = p.2 ∧ o.annot = p.1.rname ∧
    o.ctrl = .xr ∧ o.content = p.1.content
  refs : s.refs = refsPT tmpl names

/-- a rendered entry of a settled store -/
structure EntryPT (s : St) (tmpl : List Desired) (e : Rendered) : Prop where
  rendered : e.rendered = true
  mem : e.d ∈ tmpl
  nameNe : e.name ≠ ""
  rnameNe : e.d.rname ≠ ""
  valid : e.d.content ≠ invalidContent
  find : ∃ o, findObj s.objs e.d.kind e.name = some o ∧ o.annot = e.d.rname ∧ o.ctrl = .xr ∧
    o.content = e.d.content

theorem renderedOf_map_d (tmpl : List Desired) (names : List String) (h : names.length = tmpl.length) :
    (renderedOf tmpl names).map (·.d) = tmpl := by
  rw [renderedOf, List.map_map]
  exact List.map_fst_zip (Nat.le_of_eq h.symm)

theorem renderedOf_map_rkey (tmpl : List Desired) (names : List String) :
    (renderedOf tmpl names).map rkey = refsPT tmpl names := by
  simp [renderedOf, refsPT, List.zip_eq_zipWith, List.map_zipWith, rkey]

theorem SettledPT.entry {s : St} {tmpl : List Desired} {names : List String} (h : SettledPT s tmpl names)
    (e : Rendered) (he : e ∈ renderedOf tmpl names) : EntryPT s tmpl e := by
  obtain ⟨p, hz, rfl⟩ := List.mem_map.mp he
  have hd : p.1 ∈ tmpl := (List.of_mem_zip hz).1
  have hn : p.2 ∈ names := (List.of_mem_zip hz).2
  obtain ⟨o, ho, hk, hnm, ha, hc, hct⟩ := h.obj _ hz
  exact ⟨rfl, hd, h.nameNe _ hn, h.rnameNe _ hd, h.valid _ hd, o,
    findObj_of_key h.nodupObjs ho ((key_eq_iff o _ _).mpr ⟨hk, hnm⟩), ha, hc, hct⟩

/-- every reference is found and associated, nothing is garbage collected -/
theorem runOk_associatePT_settled {s : St} (lrv : Nat) (tmpl : List Desired) (k : Assoc → P) (R : St × Option Result) :
    ∀ (es : List Rendered) (acc : Assoc), (∀ e ∈ es, EntryPT s tmpl e) → (es.map (·.d.rname)).Nodup →
      (∀ a, (∀ e ∈ es, assocLookup a e.d.rname = some (rkey e)) →
        (∀ t, (∀ e ∈ es, e.d.rname ≠ t) → assocLookup a t = assocLookup acc t) → runOk (k a) s = R) →
      runOk (associatePT lrv tmpl (es.map rkey) acc k) s = R := by
  intro es
  induction es with
  | nil => intro acc _ _ hk; exact hk acc nofun (fun _ _ => rfl)
  | cons e es ih =>
    intro acc h hnd hk
    have he := h e (List.mem_cons_self ..)
    obtain ⟨o, hf, ha, _, _⟩ := he.find
    have hnm : ¬ (rkey e).name = "" := he.nameNe
    have hf' : findObj s.objs (rkey e).kind (rkey e).name = some o := hf
    have ha' : ¬ o.annot = "" := by rw [ha]; exact he.rnameNe
    have ht : (tmpl.any fun d => decide (d.rname = o.annot)) = true := by
      rw [List.any_eq_true]
      exact ⟨e.d, he.mem, by simp [ha]⟩
    simp only [List.map_cons, List.nodup_cons, List.mem_map, not_exists, not_and] at hnd
    rw [List.map_cons, associatePT_step, if_neg hnm, runOk_readThrough, hf']
    simp only [ha', if_false, ht, if_true]
    rw [ha]
    apply ih _ (fun x hx => h x (List.mem_cons_of_mem _ hx)) hnd.2
    intro a hin hout
    apply hk a
    · intro x hx
      rcases List.mem_cons.mp hx with rfl | hx
      · rw [hout _ (fun y hy => hnd.1 y hy), assocLookup_insert_self]
      · exact hin x hx
    · intro t ht'
      rw [hout t (fun y hy => ht' y (List.mem_cons_of_mem _ hy)),
        assocLookup_insert_ne _ _ _ _ (Ne.symm (ht' e (List.mem_cons_self ..)))]

theorem renderPTT_all_assoc (tries : Nat) (lrv : Nat) (a : Assoc) (k : List Rendered → P) :
    ∀ (es : List Rendered) (fresh : List String) (acc : List Rendered),
      (∀ e ∈ es, e.rendered = true ∧ assocLookup a e.d.rname = some (rkey e)) →
      renderPTT tries lrv a (es.map (·.d)) fresh acc k = k (acc.reverse ++ es) := by
  intro es
  induction es with
  | nil => intro fresh acc _; simp [renderPTT]
  | cons e es ih =>
    intro fresh acc h
    obtain ⟨hr, hl⟩ := h e (List.mem_cons_self ..)
    simp only [List.map_cons, renderPTT, hl, rkey, if_true]
    rw [ih fresh _ (fun x hx => h x (List.mem_cons_of_mem _ hx))]
    have : (⟨e.d, e.name, true⟩ : Rendered) = e := by
      cases e
      cases hr
      rfl
    simp [this]

theorem exec_updateXR_settled {s : St} {ver : String} (hv : s.refs = [] ∨ ver = s.refsVer) :
    exec s (.updateXR s.xrRv ver s.refs) = (s, .okRv s.xrRv) := by
  simp [exec, hv]

theorem exec_mergePatch_some {s : St} {k n a : String} {c : Nat} {o : CObj} (h : findObj s.objs k n = some o)
    (hc : o.ctrl ≠ .other) (hv : c ≠ invalidContent) : exec s (.mergePatch k n a c) =
      ({ s with objs := mapObj s.objs k n (fun o => { o with annot := a, ctrl := .xr, content := c }) }, .ok) := by
  simp [exec, h, hc, hv]

theorem exec_mergePatch_settled {s : St} {tmpl : List Desired} (hnd : (s.objs.map key).Nodup) {e : Rendered}
    (he : EntryPT s tmpl e) : exec s (.mergePatch e.d.kind e.name e.d.rname e.d.content) = (s, .ok) := by
  obtain ⟨o, hf, ha, hc, hct⟩ := he.find
  have hne : o.ctrl ≠ .other := by rw [hc]; decide
  -- the patch writes what the object already carries
  have hsame : { o with annot := e.d.rname, ctrl := .xr, content := e.d.content } = o := by
    cases o
    cases ha
    cases hc
    cases hct
    rfl
  rw [exec_mergePatch_some hf hne he.valid, mapObj_fix hnd hf hsame]

theorem runOk_applyPT_settled {s : St} {tmpl : List Desired} (hnd : (s.objs.map key).Nodup) (lrv : Nat) (k : Bool → P) :
    ∀ (l : List Rendered) (b : Bool), (∀ e ∈ l, EntryPT s tmpl e) → (∀ e ∈ l, rkey e ∉ s.miss) →
      runOk (applyPT lrv l b k) s = runOk (k b) s := by
  intro l
  induction l with
  | nil => intro b _ _; rfl
  | cons e l ih =>
    intro b hl hcached
    have hmiss : (⟨e.d.kind, e.name⟩ : Ref) ∉ s.miss := hcached e (List.mem_cons_self ..)
    have he := hl e (List.mem_cons_self ..)
    obtain ⟨o, hf, _, hc, _⟩ := he.find
    have hne : ¬ o.ctrl = .other := by rw [hc]; decide
    simp only [applyPT, he.rendered, Bool.not_true, Bool.false_eq_true, if_false]
    rw [runOk_call, exec_getCached_some hf hmiss]
    simp only [hne, if_false, wcall]
    rw [runOk_call, exec_mergePatch_settled hnd he]
    simp only []
    exact ih b (fun x hx => hl x (List.mem_cons_of_mem _ hx)) (fun x hx => hcached x (List.mem_cons_of_mem _ hx))

theorem QuietPT.quiescent_ptT (tries : Nat) {s : St} {tmpl : List Desired} {names : List String} (h : SettledPT s tmpl names)
    (fresh : List String) (ver : String) (hv : s.refs = [] ∨ ver = s.refsVer)
    (hcached : ∀ r ∈ s.refs, r ∉ s.miss) :
    runOk (reconcileT tries (.pt tmpl fresh ver)) s = (s, some .success) := by
  have hent : ∀ e ∈ renderedOf tmpl names, EntryPT s tmpl e := h.entry
  have hrefs : s.refs = (renderedOf tmpl names).map rkey := by rw [renderedOf_map_rkey]; exact h.refs
  have hd : (renderedOf tmpl names).map (·.d) = tmpl := renderedOf_map_d tmpl names h.len
  have hnd : ((renderedOf tmpl names).map (·.d.rname)).Nodup := by
    have : (renderedOf tmpl names).map (·.d.rname) = ((renderedOf tmpl names).map (·.d)).map (·.rname) := by
      rw [List.map_map]; rfl
    rw [this, hd]; exact h.nodup
  rw [reconcileT, runOk_call, exec_getXR, recContT_xr, h.fin, if_pos rfl]
  simp only [bodyT]
  unfold composePTT
  rw [show associatePT s.xrRv tmpl s.refs = associatePT s.xrRv tmpl ((renderedOf tmpl names).map rkey) by rw [← hrefs]]
  apply runOk_associatePT_settled _ _ _ _ _ [] hent hnd
  intro a hlook _
  rw [show renderPTT tries s.xrRv a tmpl = renderPTT tries s.xrRv a ((renderedOf tmpl names).map (·.d)) by rw [hd],
    renderPTT_all_assoc _ _ _ _ _ _ _ (fun e he => ⟨(hent e he).rendered, hlook e he⟩)]
  simp only [List.reverse_nil, List.nil_append, wcall, ← hrefs]
  rw [runOk_call, exec_updateXR_settled hv]
  simp only []
  rw [runOk_applyPT_settled h.nodupObjs _ _ _ true hent
    (fun e he => hcached _ (by rw [hrefs]; exact List.mem_map.mpr ⟨e, he, rfl⟩))]
  rw [runOk_call, exec_getXR]
  simp only []
  rw [runOk_call, exec_patchXR]
  simp only [finish]
  rw [runOk_call, exec_statusUpdate_ok]
  rfl

/-- **Quiescence (P&T composer).** `hv`: the stored references already carry the API version the
composition emits (rewriting them with another version is a real change). `hcached`: every
referenced composed resource is in the informer cache. This hypothesis is needed for the P&T
composer (not for the function composer): its `Apply` reads through the cache only, so for a
resource that exists but is missing from the cache it takes the Create branch, the API server
answers AlreadyExists and the reconcile ends in the error epilogue (`handled`, Synced=False)
instead of `success` — see `Xp.C01.quiescent_pt_needs_cache_witness` in Xp/Props/C01.lean. -/
theorem QuietPT.quiescent_pt {s : St} {tmpl : List Desired} {names : List String} (h : SettledPT s tmpl names)
    (fresh : List String) (ver : String) (hv : s.refs = [] ∨ ver = s.refsVer)
    (hcached : ∀ r ∈ s.refs, r ∉ s.miss) :
    runOk (reconcile (.pt tmpl fresh ver)) s = (s, some .success) :=
  reconcileT_one' _ ▸ QuietPT.quiescent_ptT 1 h fresh ver hv hcached

end Xp.C01
