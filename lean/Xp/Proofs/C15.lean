import Xp.Proofs.C15Step
import Xp.Proofs.C15Sig
import Xp.Base.List
/-
The cache invariant (`Inv`, under `Compat`) through one reconcile; histories: what one step of a world does (`step_est`,
`step_inv`, `step_verified`), what holds along a run (`run_forall`, `run_at`), and with verification enabled
`verified_authorized`.
-/
namespace Xp.C15

/-- What a revision's cache entry may be: its image's full stream, or a file that
cannot be read to EOF. -/
def EntryOK (r : Rev) (e : Entry) : Prop := e = .content r.docs ∨ ∃ h, e = .broken h

/-- The cache invariant: an entry that `Has` reports under the id a revision looks
up is the full package stream of that revision's image (or is unreadable). -/
def Inv (revs : List Rev) (c : Cache) : Prop :=
  ∀ r ∈ revs, ∀ e, c r.id = some e → EntryOK r e

/-- Revisions whose cache paths coincide carry the same image.  (`Store` writes
under the path of the revision's *name*.) -/
def Compat (revs : List Rev) : Prop :=
  ∀ r ∈ revs, ∀ r' ∈ revs, r'.never = false → r'.key = r.id → r'.docs = r.docs

theorem leftEntry_ok (r : Rev) (l : Left) (e : Entry) (h : leftEntry r l = some e) : EntryOK r e := by
  cases l with
  | none => cases h
  | nohdr => exact .inr ⟨false, (Option.some.inj h).symm⟩
  | hdr => exact .inr ⟨true, (Option.some.inj h).symm⟩
  | full => exact .inl (Option.some.inj h).symm

theorem storedEntry_ok (r : Rev) (f : Faults) (e : Entry) (h : storedEntry true r f = some e) : EntryOK r e := by
  unfold storedEntry at h
  split at h
  · rename_i hs
    simp only [Bool.not_true, Bool.or_false, Bool.and_eq_true] at hs
    simp only [hs.2, if_true, Option.some.injEq] at h
    exact Or.inl h.symm
  · split at h
    · exact leftEntry_ok r _ _ h
    · cases h

theorem pulled_some (r : Rev) (f : Faults) (p : Pkg) (h : pulled true r f = some p) : parse r.docs = some p := by
  unfold pulled at h
  split at h
  · cases h
  · split at h
    · simp at h
    · exact h

theorem Puts.found {r : Rev} {f : Faults} {w : Write} (hw : Puts true r f w) {c : Cache} {k : String} {x : Entry}
    (hx : (w.on c) k = some x) : c k = some x ∨ (k = r.key ∧ r.never = false ∧ EntryOK r x) := by
  cases w with
  | keep => exact .inl hx
  | set k' v =>
    rw [Write.on, set_apply] at hx
    by_cases hk : k = k'
    · rw [if_pos hk] at hx
      subst hx hk
      rcases hw _ _ rfl with ⟨_, hv⟩ | ⟨hk, hn, hv⟩
      · cases hv
      · exact .inr ⟨hk, hn, storedEntry_ok r f x hv.symm⟩
    · rw [if_neg hk] at hx
      exact .inl hx

theorem Puts.inv {revs : List Rev} (hc : Compat revs) {r : Rev} (hr : r ∈ revs) {f : Faults} {w : Write}
    (hw : Puts true r f w) {c : Cache} (h : Inv revs c) : Inv revs (w.on c) := by
  intro r' hr' x hx
  rcases hw.found hx with h0 | ⟨hk, hnv, hok⟩
  · exact h r' hr' x h0
  · -- `r` stored under its name what `r'` looks up: the two carry the same image
    exact hok.imp_left fun h2 => by rw [h2, hc r' hr' r hr hnv hk.symm]

/-- `fetch` preserves the cache invariant, for every fault plan. -/
theorem fetch_inv (revs : List Rev) (hc : Compat revs) (r : Rev) (hr : r ∈ revs) (f : Faults) (c : Cache)
    (h : Inv revs c) : Inv revs (fetch true r f c).1 := by
  obtain ⟨w, x, hf, hw⟩ := fetch_local true r f (c r.id)
  rw [hw c rfl]
  exact hf.puts.inv hc hr h

theorem FetchOutcome.declared {r : Rev} {f : Faults} {e : Option Entry} {w : Write} {p : Pkg}
    (h : FetchOutcome true r f e w (.parsed (some p))) (hinv : ∀ x, e = some x → EntryOK r x) : parse r.docs = some p := by
  cases h with
  | content he hq =>
    rcases hinv _ he with h1 | ⟨b, h1⟩
    · cases h1
      exact hq
    · cases h1
  | pulled _ _ _ hq => exact pulled_some r f p hq

theorem installs_declared {feature : Bool} {r : Rev} {f : Faults} {c : Cache} {st : RevSt}
    (hinv : ∀ e, c r.id = some e → EntryOK r e) (h : (recStep true feature r f c st).2.2.est ≠ none) :
    ∃ w p, parse r.docs = some p ∧ (recStep true feature r f c st).2.2.est = some p.objs ∧
      Reached true feature r f st (c r.id) w p := by
  obtain ⟨w, p, hr, he⟩ := recStep_est h
  exact ⟨w, p, hr.source.declared hinv, he, hr⟩

theorem recStep_inv {revs : List Rev} (hc : Compat revs) {r : Rev} (hr : r ∈ revs) (feature : Bool) (f : Faults)
    {c : Cache} (st : RevSt) (h : Inv revs c) : Inv revs (recStep true feature r f c st).1 := by
  obtain ⟨w, y, ho, hw⟩ := recStep_local true feature r f st (c r.id)
  rw [hw c rfl]
  exact ho.puts.inv hc hr h

theorem envStep_verif (a d : Bool) (st : RevSt) : (envStep a d st).verif = st.verif := by
  unfold envStep
  dsimp only
  split
  · rfl
  · split
    · split
      · rfl
      · rfl
    · rfl

theorem applyEnv_verif (e : Env) (st : RevSt) (h : (applyEnv e st).verif.isTrue = true) : st.verif.isTrue = true := by
  cases e with
  | none => exact h
  | touch => exact h
  | flip => exact h
  | wipe => cases h
  | recreate => cases h

/-- the revision a step is about (`configs` steps are about none; 0 by convention) -/
def Step.idx : Step → Nat
  | .reconcile i _ _ _ => i
  | .verify i _ => i
  | .configs _ => 0

theorem step_est {fixed feature : Bool} {revs : List Rev} {w : World} {s : Step}
    (h : (w.step fixed feature revs s).2.est ≠ none) :
    ∃ a d f r st wr p, revs[s.idx]? = some r ∧ w.sts[s.idx]? = some st ∧
      Reached fixed feature r f (envStep a d st) (w.cache r.id) wr p ∧ (w.step fixed feature revs s).2.est = some p.objs := by
  revert h
  fun_cases World.step fixed feature revs w s with
  | case1 i a d f r st hst hr st0 c' st' o ho =>   -- a reconcile of a revision that exists
    have ho' : o = (recStep fixed feature r f w.cache st0).2.2 := by rw [ho]
    subst ho'
    intro h
    obtain ⟨wr, p, hp, he⟩ := recStep_est h
    exact ⟨a, d, f, r, st, wr, p, hr, hst, hp, he⟩
  | _ => exact fun h => absurd rfl h

theorem step_inv (feature : Bool) (revs : List Rev) (hc : Compat revs) (w : World) (h : Inv revs w.cache) (s : Step) :
    Inv revs (w.step true feature revs s).1.cache := by
  fun_cases World.step true feature revs w s with
  | case1 i a d f r st _ hr st0 c' _ _ ho =>   -- a reconcile of a revision that exists
    have hc' : c' = (recStep true feature r f w.cache st0).1 := by rw [ho]
    subst hc'
    exact recStep_inv hc (List.mem_of_getElem? hr) feature f st0 h
  | _ => exact h

theorem step_verified (revs : List Rev) (w : World) (s : Step) (i : Nat) (st : RevSt)
    (hst : (w.step true true revs s).1.sts[i]? = some st) (hv : st.verif.isTrue = true) :
    (∃ st0, w.sts[i]? = some st0 ∧ st0.verif.isTrue = true) ∨
    (∃ sf r, s = .verify i sf ∧ revs[i]? = some r ∧
      ((verifCfgFor w.cfgs r.source sf.listErr).1 = .none ∨
       ((verifCfgFor w.cfgs r.source sf.listErr).1 = .some ∧ (verifCfgFor w.cfgs r.source sf.listErr).2 = true))) := by
  revert hst
  fun_cases World.step true true revs w s with
  | case1 j a d f r st0 hst0 hr st1 c' st' o ho =>   -- a reconcile: neither it nor the third party sets Verified to True
    intro hst
    rcases getElem?_set_eq_some hst with ⟨rfl, rfl⟩ | ⟨_, h⟩
    · have hst' : st' = (recStep true true r f w.cache st1).2.1 := by rw [ho]
      subst hst'
      refine .inl ⟨st0, hst0, ?_⟩
      rw [← envStep_verif a d st0, ← recStep_verif true true r f st1 w.cache]
      split at hv
      · exact applyEnv_verif _ _ hv
      · exact hv
    · exact .inl ⟨st, h, hv⟩
  | case3 j sf r st0 hst0 hr =>   -- a signature reconcile of a revision that exists
    intro hst
    rcases getElem?_set_eq_some hst with ⟨rfl, rfl⟩ | ⟨_, h⟩
    · exact ((sigStep_outcome _ _ sf st0).verified hv).imp (fun h => ⟨st0, hst0, h⟩) fun h => ⟨sf, r, rfl, hr, h⟩
    · exact .inl ⟨st, h, hv⟩
  | _ => exact fun hst => .inl ⟨st, hst, hv⟩

theorem run_forall (feature : Bool) (revs : List Rev) (hc : Compat revs) (P : Step → Out → Prop)
    (hP : ∀ w : World, Inv revs w.cache → ∀ s, P s (w.step true feature revs s).2)
    (steps : List Step) (w : World) (h : Inv revs w.cache) :
    Inv revs (World.run true feature revs w steps).1.cache ∧
    ∀ so ∈ steps.zip (World.run true feature revs w steps).2, P so.1 so.2 := by
  induction steps generalizing w with
  | nil => exact ⟨h, fun so hso => by simp [World.run] at hso⟩
  | cons s ss ih =>
    obtain ⟨h1, h2⟩ := ih _ (step_inv feature revs hc w h s)
    simp only [World.run]
    refine ⟨h1, fun so hso => ?_⟩
    simp only [List.zip_cons_cons, List.mem_cons] at hso
    rcases hso with rfl | hso
    · exact hP w h s
    · exact h2 so hso

theorem run_length (fixed feature : Bool) (revs : List Rev) (steps : List Step) (w : World) :
    (World.run fixed feature revs w steps).2.length = steps.length := by
  induction steps generalizing w with
  | nil => rfl
  | cons s ss ih => simp [World.run, ih]

/-- the world before step `k` of a history -/
def worldAt (fixed feature : Bool) (revs : List Rev) (w : World) (steps : List Step) (k : Nat) : World :=
  (World.run fixed feature revs w (steps.take k)).1

variable (fixed feature : Bool) (revs : List Rev) (w : World) (steps : List Step)

theorem run_at (n : Nat) (s : Step) (hs : steps[n]? = some s) :
    worldAt fixed feature revs w steps (n + 1) = ((worldAt fixed feature revs w steps n).step fixed feature revs s).1 ∧
    (World.run fixed feature revs w steps).2[n]? = some ((worldAt fixed feature revs w steps n).step fixed feature revs s).2 := by
  induction steps generalizing w n with
  | nil => cases hs
  | cons s0 ss ih =>
    cases n with
    | zero =>
      cases hs
      exact ⟨rfl, rfl⟩
    | succ n => exact ih (w.step fixed feature revs s0).1 n hs

/-- step `m` of the history is a signature reconcile of revision `i` that may
legitimately verify it: in the world it was taken from, no ImageConfig with a verification
section matches the revision's source, or the best match's validator accepted the image -/
def AuthorizedAt (revs : List Rev) (w : World) (steps : List Step) (i m : Nat) : Prop :=
  ∃ sf r, steps[m]? = some (.verify i sf) ∧ revs[i]? = some r ∧
    ((verifCfgFor (worldAt true true revs w steps m).cfgs r.source sf.listErr).1 = .none ∨
     ((verifCfgFor (worldAt true true revs w steps m).cfgs r.source sf.listErr).1 = .some ∧
      (verifCfgFor (worldAt true true revs w steps m).cfgs r.source sf.listErr).2 = true))

theorem verified_authorized (hw : ∀ (i : Nat) (st : RevSt), w.sts[i]? = some st → st.verif.isTrue = false)
    (k : Nat) (hk : k ≤ steps.length) (i : Nat) (st : RevSt) (hst : (worldAt true true revs w steps k).sts[i]? = some st)
    (hv : st.verif.isTrue = true) : ∃ m, m < k ∧ AuthorizedAt revs w steps i m := by
  induction k generalizing i st with
  | zero =>
    rw [hw i st hst] at hv
    cases hv
  | succ k ih =>
    have hs : steps[k]? = some steps[k] := List.getElem?_eq_getElem hk
    rw [(run_at true true revs w steps k _ hs).1] at hst
    rcases step_verified revs _ _ i st hst hv with ⟨st0, h0, hv0⟩ | ⟨sf, r, hsv, hr, hc⟩
    · obtain ⟨m, hm, ha⟩ := ih (Nat.le_of_lt hk) i st0 h0 hv0
      exact ⟨m, Nat.lt_succ_of_lt hm, ha⟩
    · exact ⟨k, Nat.lt_succ_self k, sf, r, hs.trans (congrArg some hsv), hr, hc⟩

end Xp.C15
