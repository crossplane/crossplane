import Xp.Model.C12
/-
The program logic of C12: one weakest precondition `Wp` for the model's most general way of running a
program (`runX`/`reachX`/`ownX`: other clients before every call, any error class, a semantics per call)
and its soundness `wp_sound` (every visible store, every own call, what is returned).

A *world* is what a program may meet: `Rep s r x` (a call `r` applied in store `s` may be answered `x`; the
store itself always moves by `exec`), `E e` (a call that is not applied may be answered `e`), `R s s'` (what
the others may do before a call). `Realises` says that a run stays within a world. The interference-free
`run`/`reach` of Base is the run `Env.none`, `FPlan.ofPlan`, `fun _ => sem` (`runX_plain`,
`reach_sublist_reachX`): the run of the world `Fresh`/`PlainErr`/`Eq` (`realises_plain`, `wp_sound_plain`).

What does not mention C12 comes first, in namespace `Xp`: `Wp` for any `Sem`, `Chain`, and `IssuesG`, the
fragment of `Wp` that does not look at the store (`IssuesG.wp`).
-/
namespace Xp

variable {S Req Resp α : Type}

/-- `Wp sem Rep E R G Post b p s`: in the world `Rep`/`E`/`R`, from store `s`, every request `p` issues satisfies the
guarantee `G` (store at that moment, request) and what it returns satisfies `Post`. The flag is "no error
reply so far": `Post true` speaks of the path on which every call was applied and answered. -/
def Wp (sem : Sem S Req Resp) (Rep : S → Req → Resp → Prop) (E : Resp → Prop) (R : S → S → Prop) (G : S → Req → Prop)
    (Post : Bool → α → S → Prop) : Bool → Prog Req Resp α → S → Prop
  | b, .ret a, s => Post b a s
  | b, .call r c, s => ∀ s', R s s' →
      G s' r ∧ (∀ x, Rep s' r x → Wp sem Rep E R G Post b (c x) (sem.exec s' r).1) ∧
      ∀ e, E e → Wp sem Rep E R G Post false (c e) s'

variable {sem : Sem S Req Resp} {Rep : S → Req → Resp → Prop} {E E' : Resp → Prop} {R : S → S → Prop}
  {G : S → Req → Prop} {Post Post' : Bool → α → S → Prop} {Q Q' : Req → Prop} {Rr : Req → Resp → Prop} {p : Prog Req Resp α}

theorem Wp.mono (hE : ∀ e, E' e → E e) (hP : ∀ b a s, Post b a s → Post' b a s) :
    ∀ (p : Prog Req Resp α) (b : Bool) (s : S), Wp sem Rep E R G Post b p s → Wp sem Rep E' R G Post' b p s := by
  intro p
  induction p with
  | ret a => exact fun b s h => hP b a s h
  | call r c ih =>
    intro b s h s' hr
    obtain ⟨h1, h2, h3⟩ := h s' hr
    exact ⟨h1, fun x hx => ih x b _ (h2 x hx), fun e he => ih e false _ (h3 e (hE e he))⟩

/-- the stores `l` visible on the way from `s` to `t`: what soundness concludes of a run, and what the events of
a history compose to (`Chain.append`) -/
structure Chain (Inv : S → Prop) (Rel : S → S → Prop) (s : S) (l : List S) (t : S) : Prop where
  mem : ∀ s' ∈ l, Inv s' ∧ Rel s s' ∧ Rel s' t
  pairwise : l.Pairwise Rel
  last : Inv t
  le : Rel s t

section Chain
variable {Inv : S → Prop} {Rel : S → S → Prop}

theorem Chain.sublist {s t : S} {l l' : List S} (hl : l'.Sublist l) (h : Chain Inv Rel s l t) : Chain Inv Rel s l' t :=
  ⟨fun s' hs' => h.mem s' (hl.subset hs'), h.pairwise.sublist hl, h.last, h.le⟩

variable (hrefl : ∀ s, Rel s s) (htrans : ∀ a b c, Rel a b → Rel b c → Rel a c)
include hrefl

theorem Chain.nil {s : S} (hs : Inv s) : Chain Inv Rel s [] s :=
  ⟨fun _ h => (nomatch h), .nil, hs, hrefl s⟩

include htrans

theorem Chain.cons {s t f : S} {l : List S} (hs : Inv s) (hst : Rel s t) (h : Chain Inv Rel t l f) :
    Chain Inv Rel s (s :: l) f := by
  have hsf := htrans _ _ _ hst h.le
  refine ⟨List.forall_mem_cons.mpr ⟨⟨hs, hrefl s, hsf⟩, fun s' hs' => ?_⟩,
    List.pairwise_cons.mpr ⟨fun s' hs' => htrans _ _ _ hst (h.mem s' hs').2.1, h.pairwise⟩, h.last, hsf⟩
  exact ⟨(h.mem s' hs').1, htrans _ _ _ hst (h.mem s' hs').2.1, (h.mem s' hs').2.2⟩

omit hrefl in
theorem Chain.append {s t f : S} {l l' : List S} (h : Chain Inv Rel s l t) (h' : Chain Inv Rel t l' f) :
    Chain Inv Rel s (l ++ l') f := by
  refine ⟨fun s' hs' => ?_, List.pairwise_append.mpr ⟨h.pairwise, h'.pairwise, fun x hx y hy =>
    htrans _ _ _ (h.mem x hx).2.2 (h'.mem y hy).2.1⟩, h'.last, htrans _ _ _ h.le h'.le⟩
  rcases List.mem_append.mp hs' with m | m
  · exact ⟨(h.mem s' m).1, (h.mem s' m).2.1, htrans _ _ _ (h.mem s' m).2.2 h'.le⟩
  · exact ⟨(h'.mem s' m).1, htrans _ _ _ h.le (h'.mem s' m).2.1, (h'.mem s' m).2.2⟩

end Chain

/-- `Issues` relative to a reply relation `Rr` ("given" the replies): every request the program can
issue along replies admitted by `Rr` satisfies `Q`. Where the admissibility of a request rests on what was
read before, `Issues`, which speaks of all replies, is too strong. It is `Kept` of Base/Prog.lean without a
ghost: `T _ r x _ := Rr r x`, guard `Q`, post `True`. -/
inductive IssuesG (Q : Req → Prop) (Rr : Req → Resp → Prop) : Prog Req Resp α → Prop where
  | ret (a : α) : IssuesG Q Rr (.ret a)
  | call (r : Req) (c : Resp → Prog Req Resp α) : Q r → (∀ x, Rr r x → IssuesG Q Rr (c x)) → IssuesG Q Rr (.call r c)

theorem IssuesG.of_issues (h : ∀ r, Q' r → Q r) (hp : Issues Q' p) : IssuesG Q Rr p := by
  induction hp with
  | ret a => exact .ret a
  | call r c hq _ ih => exact .call r c (h r hq) fun x _ => ih x

theorem IssuesG.wp (hRep : ∀ s r x, Rep s r x → Rr r x) (hE : ∀ r e, E e → Rr r e) (hpost : ∀ b a s, Post b a s)
    (hp : IssuesG Q Rr p) : ∀ b s, Wp sem Rep E R (fun _ => Q) Post b p s := by
  induction hp with
  | ret a => exact fun b s => hpost b a s
  | call r c hq _ ih =>
    exact fun b s s' _ => ⟨hq, fun x hx => ih x (hRep _ r x hx) b _, fun e he => ih e (hE r e he) false _⟩

theorem wp_of_issues (hp : Issues Q p) (b : Bool) (s : S) : Wp sem Rep E R (fun _ => Q) (fun _ _ _ => True) b p s :=
  (IssuesG.of_issues (fun _ h => h) hp).wp (Rr := fun _ _ => True) (fun _ _ _ _ => trivial) (fun _ _ _ => trivial)
    (fun _ _ _ => trivial) b s

end Xp

namespace Xp.C12

variable {α : Type}

/-- the replies of the interference-free fault model to a call that is not applied -/
def PlainErr (e : Resp) : Prop := e = .error ∨ e = .conflict

theorem plainErr_errResp (o : Outcome) (r : Req) : PlainErr (sem.errResp o r) := by
  cases o with
  | conflict =>
    show PlainErr (if r.isWrite then Resp.conflict else Resp.error)
    split
    · exact Or.inr rfl
    · exact Or.inl rfl
  | _ => exact Or.inl rfl

theorem PlainErr.isErr {e : Resp} (h : PlainErr e) : e.isErr = true := by
  rcases h with rfl | rfl <;> rfl

theorem errResp_isErr (o : Outcome) (r : Req) : (sem.errResp o r).isErr = true := (plainErr_errResp o r).isErr

/-- the reply of the API server itself, from the store at that moment -/
def Fresh (s : Store) (r : Req) (x : Resp) : Prop := x = (exec s r).2

section Rules
variable {E : Resp → Prop} {R : Store → Store → Prop} {G : Store → Req → Prop} {Post : Bool → α → Store → Prop}

theorem wp_call_fresh {b : Bool} {r : Req} {c : Resp → P α} {s : Store} :
    Wp sem Fresh E R G Post b (.call r c) s ↔ ∀ s', R s s' →
      G s' r ∧ Wp sem Fresh E R G Post b (c (exec s' r).2) (exec s' r).1 ∧ ∀ e, E e → Wp sem Fresh E R G Post false (c e) s' :=
  ⟨fun h s' hr => ⟨(h s' hr).1, (h s' hr).2.1 _ rfl, (h s' hr).2.2⟩,
   fun h s' hr => ⟨(h s' hr).1, fun _ hx => hx ▸ (h s' hr).2.1, (h s' hr).2.2⟩⟩

theorem wp_call_plain {b : Bool} {r : Req} {c : Resp → P α} {s : Store} :
    Wp sem Fresh PlainErr Eq G Post b (.call r c) s ↔
      G s r ∧ Wp sem Fresh PlainErr Eq G Post b (c (exec s r).2) (exec s r).1 ∧
      Wp sem Fresh PlainErr Eq G Post false (c .error) s ∧ Wp sem Fresh PlainErr Eq G Post false (c .conflict) s := by
  rw [wp_call_fresh]
  simp only [PlainErr, forall_eq', or_imp, forall_and, forall_eq]

end Rules

theorem runX_ok (sm : Nat → Sem Store Req Resp) (env : Env Store) (plan : FPlan) {k : Nat} (h : plan k = .out .ok) (r : Req) (c : Resp → P α) (s : Store) :
    runX sm env plan k (.call r c) s =
      runX sm env plan (k+1) (c ((sm k).exec (env k s) r).2) ((sm k).exec (env k s) r).1 := by
  rw [runX]; simp only [h]

theorem ownX_ok (sm : Nat → Sem Store Req Resp) (env : Env Store) (plan : FPlan) {k : Nat} (h : plan k = .out .ok) (r : Req) (c : Resp → P α) (s : Store) :
    ownX sm env plan k (.call r c) s =
      (env k s, r) :: ownX sm env plan (k+1) (c ((sm k).exec (env k s) r).2) ((sm k).exec (env k s) r).1 := by
  rw [ownX]; simp only [h]

/-- `runX sm env plan` is a run of the world `Rep`/`E`/`R`, as long as the store satisfies `Inv` -/
structure Realises (Rep : Store → Req → Resp → Prop) (E : Resp → Prop) (R : Store → Store → Prop) (Inv : Store → Prop)
    (sm : Nat → Sem Store Req Resp) (env : Env Store) (plan : FPlan) : Prop where
  store : ∀ k s r, ((sm k).exec s r).1 = (exec s r).1
  rep : ∀ k s r, Inv s → Rep s r ((sm k).exec s r).2
  errResp : ∀ k o r, E ((sm k).errResp o r)
  reply : ∀ k e, plan k = .reply e → E e
  rely : ∀ k s, Inv s → R s (env k s)

theorem realises_fresh {E : Resp → Prop} {R : Store → Store → Prop} {Inv : Store → Prop} {env : Env Store} {plan : FPlan}
    (hE : ∀ o r, E (sem.errResp o r)) (hplan : ∀ k e, plan k = .reply e → E e) (henv : ∀ k s, Inv s → R s (env k s)) :
    Realises Fresh E R Inv (fun _ => sem) env plan :=
  ⟨fun _ _ _ => rfl, fun _ _ _ _ => rfl, fun _ => hE, hplan, henv⟩

section Sound
variable {Rep : Store → Req → Resp → Prop} {E : Resp → Prop} {R : Store → Store → Prop} {G : Store → Req → Prop}
  {Post : Bool → α → Store → Prop} {sm : Nat → Sem Store Req Resp} {env : Env Store} {plan : FPlan}

theorem wp_sound {Inv : Store → Prop} {Rel : Store → Store → Prop} (hrefl : ∀ s, Rel s s)
    (htrans : ∀ a b c, Rel a b → Rel b c → Rel a c) (hw : Realises Rep E R Inv sm env plan)
    (henv : ∀ k s, Inv s → Inv (env k s) ∧ Rel s (env k s))
    (hG : ∀ s r, Inv s → G s r → Inv (exec s r).1 ∧ Rel s (exec s r).1) :
    ∀ (p : P α) (b : Bool) (k : Nat) (s : Store), Inv s → Wp sem Rep E R G Post b p s →
      Chain Inv Rel s (reachX sm env plan k p s) (runX sm env plan k p s).1 ∧
      (∀ x ∈ ownX sm env plan k p s, Inv x.1 ∧ G x.1 x.2) ∧
      ∀ a, (runX sm env plan k p s).2 = some a →
        ∃ b', Post b' a (runX sm env plan k p s).1 ∧ ((∀ j, plan j = .out .ok) → b' = b) := by
  intro p
  induction p with
  | ret a =>
    intro b k s hs h
    exact ⟨.cons hrefl htrans hs (hrefl s) (.nil hrefl hs), fun _ h => (nomatch h), fun _ ha => Option.some.inj ha ▸ ⟨b, h, fun _ => rfl⟩⟩
  | call r c ih =>
    intro b k s hs h
    obtain ⟨he, le⟩ := henv k s hs
    obtain ⟨hg, h1, h2⟩ := h (env k s) (hw.rely k s hs)
    obtain ⟨hx, lx⟩ := hG _ r he hg
    -- the call is not applied: the continuation after an error reply runs from the store the others left
    have err : ∀ e, E e → plan k ≠ .out .ok →
        Chain Inv Rel s (s :: reachX sm env plan (k+1) (c e) (env k s)) (runX sm env plan (k+1) (c e) (env k s)).1 ∧
        (∀ x ∈ ownX sm env plan (k+1) (c e) (env k s), Inv x.1 ∧ G x.1 x.2) ∧
        ∀ a, (runX sm env plan (k+1) (c e) (env k s)).2 = some a →
          ∃ b', Post b' a (runX sm env plan (k+1) (c e) (env k s)).1 ∧ ((∀ j, plan j = .out .ok) → b' = b) :=
      fun e hE hk =>
        have ⟨i1, i2, i3⟩ := ih e false (k+1) _ he (h2 e hE)
        ⟨.cons hrefl htrans hs le i1, i2, fun a ha => (i3 a ha).imp fun _ hb => ⟨hb.1, fun ok => absurd (ok k) hk⟩⟩
    have own1 : ∀ x ∈ [(env k s, r)], Inv x.1 ∧ G x.1 x.2 := fun x hx => by rw [List.mem_singleton.mp hx]; exact ⟨he, hg⟩
    rw [reachX, runX, ownX]
    cases hk : plan k with
    | reply e => exact err e (hw.reply k e hk) (by simp [hk])
    | out o =>
      cases o <;> simp only [hw.store]
      · obtain ⟨i1, i2, i3⟩ := ih _ b (k+1) _ hx (h1 _ (hw.rep k _ r he))
        exact ⟨.cons hrefl htrans hs le (.cons hrefl htrans he lx i1),
          List.forall_mem_cons.mpr ⟨own1 _ (List.mem_singleton_self _), i2⟩, i3⟩
      · exact err _ (hw.errResp k .fail r) (by simp [hk])
      · exact err _ (hw.errResp k .conflict r) (by simp [hk])
      · exact ⟨.cons hrefl htrans hs le (.cons hrefl htrans he (hrefl _) (.nil hrefl he)), fun _ h => (nomatch h), fun _ h => (nomatch h)⟩
      · exact ⟨.cons hrefl htrans hs le (.cons hrefl htrans he lx (.cons hrefl htrans hx (hrefl _) (.nil hrefl hx))), own1,
          fun _ h => (nomatch h)⟩

end Sound

theorem runX_plain {sm : Nat → Sem Store Req Resp} (hsm : ∀ k s r, (sm k).exec s r = exec s r) (hse : ∀ k, (sm k).errResp = sem.errResp)
    (plan : Plan) : ∀ (p : P α) (k : Nat) (s : Store),
    runX sm Env.none (FPlan.ofPlan plan) k p s = run sem plan k p s := by
  intro p
  induction p with
  | ret a => intro k s; rfl
  | call r c ih =>
    intro k s
    rw [runX, run]
    simp only [FPlan.ofPlan, Env.none, hsm, hse]
    cases plan k <;> simp only [ih] <;> rfl

/-- `reachX` also lists the store the others left before each call, which here is the store before it -/
theorem reach_sublist_reachX (plan : Plan) : ∀ (p : P α) (k : Nat) (s : Store),
    (reach sem plan k p s).Sublist (reachX (fun _ => sem) Env.none (FPlan.ofPlan plan) k p s) := by
  intro p
  induction p with
  | ret a => intro k s; exact .refl _
  | call r c ih =>
    intro k s
    rw [reachX, reach]
    simp only [FPlan.ofPlan, Env.none]
    cases plan k <;> simp only []
    · exact .cons_cons _ (.cons _ (ih _ _ _))
    · exact .cons _ (ih _ _ _)
    · exact .cons _ (ih _ _ _)
    · exact .cons_cons _ (.cons _ .slnil)
    · exact .cons_cons _ (.cons _ (.refl _))

section Plain
variable {G : Store → Req → Prop} {Post : Bool → α → Store → Prop}

theorem realises_plain (Inv : Store → Prop) (plan : Plan) :
    Realises Fresh PlainErr Eq Inv (fun _ => sem) Env.none (FPlan.ofPlan plan) :=
  realises_fresh (env := Env.none) (plan := FPlan.ofPlan plan) plainErr_errResp (fun _ _ h => (nomatch h)) (fun _ _ _ => rfl)

theorem wp_sound_plain {Inv : Store → Prop} {Rel : Store → Store → Prop} (hrefl : ∀ s, Rel s s)
    (htrans : ∀ a b c, Rel a b → Rel b c → Rel a c) (hG : ∀ s r, Inv s → G s r → Inv (exec s r).1 ∧ Rel s (exec s r).1)
    (plan : Plan) (k : Nat) {b : Bool} {p : P α} {s : Store} (hs : Inv s) (h : Wp sem Fresh PlainErr Eq G Post b p s) :
    Chain Inv Rel s (reach sem plan k p s) (run sem plan k p s).1 ∧
    ∀ a, (run sem plan k p s).2 = some a → ∃ b', Post b' a (run sem plan k p s).1 ∧ (plan = Plan.allOk → b' = b) := by
  rw [← runX_plain (sm := fun _ => sem) (fun _ _ _ => rfl) (fun _ => rfl)]
  have ⟨h1, _, h3⟩ := wp_sound hrefl htrans (realises_plain Inv plan) (fun _ s hs => ⟨hs, hrefl s⟩) hG p b k s hs h
  exact ⟨h1.sublist (reach_sublist_reachX plan p k s), fun a ha => (h3 a ha).imp fun _ hb => ⟨hb.1, fun e => hb.2 fun _ => e ▸ rfl⟩⟩

end Plain

end Xp.C12
