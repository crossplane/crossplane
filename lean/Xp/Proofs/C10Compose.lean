import Xp.Proofs.C10Loop
/-
Helper lemmas for C10: the render loop; the Apply of the single-call model (`applyQ`), over which
`applyLoop` is the loop of C10Loop, and PTComposer.Compose of that model around it.
-/
namespace Xp.C10

/-- `g` maps `f` over a list and fails as soon as `f` does (the shape of `renderAll` and `inlineEach`):
a result has one entry per element, each what `f` made of it -/
theorem mapOpt_get {α β} (f : α → Option β) (g : List α → Option (List β)) (hnil : g [] = some [])
    (hcons : ∀ a as, g (a :: as) = match f a with
      | none => none
      | some b => (g as).map (b :: ·)) :
    ∀ (l : List α) (r : List β), g l = some r →
      r.length = l.length ∧ ∀ i (h1 : i < l.length) (h2 : i < r.length), f l[i] = some r[i] := by
  intro l
  induction l with
  | nil =>
    intro r h
    cases Option.some.inj (hnil.symm.trans h)
    exact ⟨rfl, fun i h => absurd h (Nat.not_lt_zero i)⟩
  | cons a as ih =>
    intro r h
    rw [hcons] at h
    split at h
    · cases h
    · rename_i b hb
      cases hg : g as with
      | none => rw [hg] at h; cases h
      | some bs =>
        rw [hg] at h
        cases Option.some.inj h
        obtain ⟨hl, hget⟩ := ih bs hg
        refine ⟨congrArg (· + 1) hl, fun i h1 h2 => ?_⟩
        cases i with
        | zero => exact hb
        | succ j => exact hget j (Nat.lt_of_succ_lt_succ h1) (Nat.lt_of_succ_lt_succ h2)

theorem renderAll_get (xr : V) : ∀ (tpls : List Tpl) (rs : List Rendered), renderAll xr tpls = some rs →
    rs.length = tpls.length ∧ ∀ i (h1 : i < tpls.length) (h2 : i < rs.length), renderTpl xr tpls[i] = some rs[i] :=
  mapOpt_get (renderTpl xr) (renderAll xr) rfl fun t _ => by rw [renderAll]; cases renderTpl xr t <;> rfl

theorem applyOpts_no_policy (ps : List Patch) (cur d : V) (h : ∀ p ∈ ps, p.policy = none) : applyOpts cur d ps = .ok d := by
  induction ps with
  | nil => rfl
  | cons p ps ih =>
    have hp : p.applyOpt = none := by
      unfold Patch.applyOpt
      rw [h p List.mem_cons_self]
      split <;> rfl
    unfold applyOpts
    rw [hp]
    exact ih fun q hq => h q (List.mem_cons_of_mem _ hq)

/-- The Apply of the single-call model as an `ApplyRes`: what `sentFor` says is sent, answered as
the scenario says; a failing apply option ends the Apply before anything is sent. `after` is what
the applicator would leave in memory (`applyLoop` does not read it). -/
def applyQ (i : Nat) (t : Tpl) (cd : V) : ApplyRes :=
  match sentFor t cd with
  | .error _ => ⟨none, none, some "option", cd⟩
  | .ok (b, st) =>
    let oc := match t.applyOutcome with
      | .ok => none
      | .invalid => some "invalid"
      | .error => some "error"
    ⟨some ⟨if t.refName == "" then "create" else "patch", some i⟩, some ⟨i, b, st⟩, oc,
      if t.refName == "" then cd else if oc.isNone then st else t.cur.getD .null⟩

theorem applyQ_write (i : Nat) (t : Tpl) (cd : V) (w : Write) (h : (applyQ i t cd).write = some w) : w.idx = some i := by
  unfold applyQ at h
  split at h
  · cases h
  · exact Option.some.inj h ▸ rfl

theorem applyQ_sent (i : Nat) (t : Tpl) (cd : V) (s : Sent) (h : (applyQ i t cd).sent = some s) :
    s.idx = i ∧ sentFor t cd = .ok (s.body, s.stored) := by
  unfold applyQ at h
  split at h
  · cases h
  · rename_i hs
    cases Option.some.inj h
    exact ⟨rfl, hs⟩

theorem applyQ_write_of_passes (i : Nat) (t : Tpl) (cd : V) (h : (applyQ i t cd).passes) : ∃ w, (applyQ i t cd).write = some w := by
  unfold applyQ at h ⊢
  cases hs : sentFor t cd with
  | error e => rw [hs] at h; simp [ApplyRes.passes, tolerated] at h
  | ok p => exact ⟨_, rfl⟩

theorem applyLoop_eq (l : List (Tpl × Rendered)) : ∀ i,
    applyLoop i l = ((loopOn (steps applyQ i l)).writes, (loopOn (steps applyQ i l)).sent,
      (loopOn (steps applyQ i l)).applied, (loopOn (steps applyQ i l)).aborted) := by
  induction l with
  | nil => intro i; rfl
  | cons x rest ih =>
    obtain ⟨t, r⟩ := x
    intro i
    unfold applyLoop steps
    rw [ih (i + 1)]
    cases hr : r.rendered
    · rfl
    · cases hs : sentFor t r.cd with
      | error e => simp [loopOn, ApplyRes.passes, applyQ, hs, tolerated]
      | ok p => cases ho : t.applyOutcome <;> simp [loopOn, ApplyRes.passes, applyQ, hs, ho, tolerated]

theorem composePT_eq (xr : V) (tpls : List Tpl) (uf : Bool) (rs : List Rendered) (hr : renderAll xr tpls = some rs) :
    composePT xr tpls uf = finish rs uf (loopOn (steps applyQ 0 (tpls.zip rs)))
      (observeLoop xr (zip3 tpls rs (loopOn (steps applyQ 0 (tpls.zip rs))).applied)).2 false := by
  unfold composePT
  rw [hr]
  dsimp only
  rw [applyLoop_eq]
  rfl

theorem composePT_around (xr : V) (tpls : List Tpl) (uf : Bool) (rs : List Rendered) (hr : renderAll xr tpls = some rs) :
    Around (composePT xr tpls uf) (loopOn (steps applyQ 0 (tpls.zip rs))) := by
  rw [composePT_eq xr tpls uf rs hr]
  exact finish_around _ _ _ _ _

end Xp.C10
