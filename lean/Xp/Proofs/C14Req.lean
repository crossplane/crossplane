import Xp.Model.C14World
import Xp.Proofs.C14
/-
The requests a reconcile can issue, whatever it is answered, as inductive sets computed once each
(`ApplyReq` ⊂ `Stage2Req` ⊂ `AfterListReq` ⊂ `ReconcileReq`); the clauses about single requests are read off them.
In the plain model the reconcile is walked up to the List of revisions, once (`reconcile_tri_of`): from there on the
request sets say what is applied (`reconcile_applied`), and a failing revisioner leaves only the early status writes
(`reconcile_err_tri`).  For what the reconciler was served, the same sets hold in ANY world of Model/C14World.lean
(`ownW_issues`, `reconcile_own_after`, `world_rev_write`): history GC relative to the served list, no revision write
without a resolved name.
-/
namespace Xp.C14

inductive ApplyReq (d : Rev) (hasRV : Bool) : Req → Prop
  | get : ApplyReq d hasRV (.getRev d.name)
  | patch : ApplyReq d hasRV (.patchRev d)
  | create : ApplyReq d hasRV (.createRev d hasRV)

theorem applyRev_issues (d : Rev) (hasRV : Bool) (uid : String) :
    Issues (ApplyReq d hasRV) (applyRev d hasRV uid) := by
  unfold applyRev
  refine .call _ _ .get fun x => ?_
  split
  · split
    · exact .call _ _ .patch fun _ => .ret _
    · exact .ret _
  · exact .call _ _ .create fun _ => .ret _
  · exact .ret _

/-- once the name `cur` is resolved and the List answered `listed`: a listed revision is applied with
desiredState Inactive, the collector's victim is deleted, the desired current revision is applied,
updated with the package's commonLabels, and (`cur`, the package's source) is recorded -/
inductive Stage2Req (victim : Option Rev) (p : Pkg) (cur : String) (listed : List Rev) : Req → Prop
  | deactivate {x : Rev} {r : Req} :
      x ∈ listed → ApplyReq { x with state := .inactive } true r → Stage2Req victim p cur listed r
  | collect {v : Rev} : victim = some v → Stage2Req victim p cur listed (.deleteRev v.name)
  | current {r : Req} :
      ApplyReq (desiredCurrent p cur listed) (findRev cur listed).isSome r → Stage2Req victim p cur listed r
  | relabel (pr : Rev) : Stage2Req victim p cur listed (.updateRev { pr with labels := p.spec.labels })
  | record : Stage2Req victim p cur listed
      (.statusPkg p.name { curRev := cur, curId := p.spec.source, pausedCond := p.status.pausedCond })

section stage2
variable (victim : Option Rev) (p : Pkg) (cur : String) (listed : List Rev)

theorem deactLoop_issues (uid : String) (l : List Rev) (hl : ∀ x ∈ l, x ∈ listed) :
    Issues (Stage2Req victim p cur listed) (deactLoop uid cur l) := by
  fun_induction deactLoop uid cur l with
  | case1 => exact .ret _
  | case2 x rest _ ih => exact ih fun y hy => hl y (List.mem_cons_of_mem _ hy)
  | case3 x rest _ _ ih => -- an Active non-current revision
    refine Issues.bind (Issues.mono (fun _ => .deactivate (hl x List.mem_cons_self)) (applyRev_issues _ _ _)) ?_
    intro a
    cases a with
    | ok _ => exact ih fun y hy => hl y (List.mem_cons_of_mem _ hy)
    | conflict => exact .ret _
    | err => exact .ret _
  | case4 x rest _ _ ih => exact ih fun y hy => hl y (List.mem_cons_of_mem _ hy)

theorem finishStatus_issues : Issues (Stage2Req victim p cur listed) (finishStatus p cur) := by
  unfold finishStatus
  refine .call _ _ .record fun x => ?_
  split <;> exact .ret _

theorem applyCurrent_issues : Issues (Stage2Req victim p cur listed) (applyCurrent p cur listed) := by
  unfold applyCurrent
  refine Issues.bind (Issues.mono (fun _ => .current) (applyRev_issues _ _ _)) ?_
  intro a
  cases a with
  | conflict => exact .ret _
  | err => exact .ret _
  | ok pr =>
    show Issues _ (if pr.labels = p.spec.labels then _ else _)
    split
    · exact finishStatus_issues victim p cur listed
    · refine .call _ _ (.relabel pr) fun x => ?_
      split
      · exact finishStatus_issues victim p cur listed
      · exact .ret _
      · exact .ret _

theorem stage2With_issues : Issues (Stage2Req victim p cur listed) (stage2With victim p cur listed) := by
  unfold stage2With
  refine Issues.bind (deactLoop_issues victim p cur listed _ _ fun _ h => h) ?_
  intro a
  cases a with
  | some r => exact .ret _
  | none =>
    cases victim with
    | none => exact applyCurrent_issues none p cur listed
    | some v =>
      refine .call _ _ (.collect rfl) fun x => ?_
      split
      · exact applyCurrent_issues (some v) p cur listed
      · exact .ret _

end stage2

section kinds
variable {victim : Option Rev} {p : Pkg} {cur : String} {listed : List Rev}

theorem Stage2Req.delete {n : String} (h : Stage2Req victim p cur listed (.deleteRev n)) :
    ∃ v, victim = some v ∧ v.name = n := by
  cases h with
  | deactivate _ ha => cases ha
  | collect hv => exact ⟨_, hv, rfl⟩
  | current ha => cases ha

/-- a Create the API server can accept (no resourceVersion) creates the desired current revision -/
theorem Stage2Req.create {d : Rev} (h : Stage2Req victim p cur listed (.createRev d false)) :
    d = desiredCurrent p cur listed := by
  -- the Create of the current revision carries `(findRev cur listed).isSome`, which no index unification
  -- can match against `false`: compare through an equation instead
  generalize hr : Req.createRev d false = r at h
  cases h with
  | deactivate _ ha => cases ha <;> cases hr
  | collect _ => cases hr
  | current ha =>
    cases ha with
    | get => cases hr
    | patch => cases hr
    | create => exact (Req.createRev.inj hr).1
  | relabel _ => cases hr
  | record => cases hr

theorem Stage2Req.patch {d : Rev} (h : Stage2Req victim p cur listed (.patchRev d)) :
    d = desiredCurrent p cur listed ∨ ∃ x ∈ listed, d = { x with state := .inactive } := by
  cases h with
  | deactivate hx ha => cases ha; exact .inr ⟨_, hx, rfl⟩
  | current ha => cases ha; exact .inl rfl

theorem Stage2Req.update {d : Rev} (h : Stage2Req victim p cur listed (.updateRev d)) :
    d.labels = p.spec.labels := by
  cases h with
  | deactivate _ ha => cases ha
  | current ha => cases ha
  | relabel _ => rfl

theorem Stage2Req.status {n : String} {st : Status} (h : Stage2Req victim p cur listed (.statusPkg n st)) :
    st.curRev = cur ∧ st.curId = p.spec.source := by
  cases h with
  | deactivate _ ha => cases ha
  | current ha => cases ha
  | record => exact ⟨rfl, rfl⟩

end kinds

/-- after the List answered `listed` to a reconcile that was handed package `p`: the pull-secret lookup, a
status write that keeps `p.status`, and - only once the revisioner resolved a non-empty name - the
requests of the second stage for that name and the collector's choice among `listed` -/
inductive AfterListReq (env : Env) (p : Pkg) (listed : List Rev) : Req → Prop
  | pullSecret : AfterListReq env p listed .listImageConfigs
  | keep : AfterListReq env p listed (.statusPkg p.name p.status)
  | stage2 {cur : String} {r : Req} : revisionName env p = .ok cur → cur ≠ "" →
      Stage2Req (gcVictim p.spec.limit cur listed) p cur listed r → AfterListReq env p listed r

theorem afterList_issues (env : Env) (p : Pkg) (listed : List Rev) :
    Issues (AfterListReq env p listed) (afterList false env p listed) := by
  have hst : ∀ r, Issues (AfterListReq env p listed) (statusThen p r) := by
    intro r
    unfold statusThen
    refine .call _ _ .keep fun x => ?_
    split <;> exact .ret _
  unfold afterList
  refine .call _ _ .pullSecret fun x => ?_
  split
  · cases hr : revisionName env p with
    | error u => exact hst _
    | ok cur =>
      show Issues _ (if cur = "" then _ else _)
      by_cases hc : cur = ""
      · rw [if_pos hc]; exact hst _
      · rw [if_neg hc]
        exact Issues.mono (fun _ => .stage2 hr hc) (stage2With_issues _ p cur listed)
  · exact .call _ _ .keep fun _ => .ret _

theorem AfterListReq.of_revWrite {env : Env} {p : Pkg} {listed : List Rev} {r : Req}
    (h : AfterListReq env p listed r) (hw : isRevWrite r = true) :
    ∃ cur, revisionName env p = .ok cur ∧ cur ≠ "" ∧ Stage2Req (gcVictim p.spec.limit cur listed) p cur listed r := by
  cases h with
  | pullSecret => cases hw
  | keep => cases hw
  | stage2 hr hne h2 => exact ⟨_, hr, hne, h2⟩

/-! ### the reconcile up to the List of revisions, in the plain model -/

theorem statusCall_tri {I : Store → Prop} {R : Req → Prop} {Q : Store → Res → Prop}
    (n : String) (st : Status) (r : Res) (s : Store)
    (hR : R (.statusPkg n st)) (hI : I (exec s (.statusPkg n st)).1)
    (hq : ∀ s', s'.revs = s.revs → Q s' r) (hq' : ∀ s', Q s' .err) :
    Tri I R Q (.call (.statusPkg n st) fun | .ok => .ret r | _ => .ret .err) s := by
  refine ⟨⟨hR, hI, ?_⟩, hq' _, hq' _⟩
  rcases exec_statusPkg_resp s n st with e | e
  · rw [e]; exact hq _ (exec_statusPkg_revs s n st)
  · rw [e]; exact hq' _

/-- The Get and the List only read, so it is enough that the results reachable without a package of that name are
fine, that the two pause writes are, and that `afterList` is - from the same store, for the stored package and its
listed revisions. -/
theorem reconcile_tri_of {I : Store → Prop} {R : Req → Prop} {Q : Store → Res → Prop}
    (env : Env) (pname : String) (s : Store) (hI : I s) (hget : R (.getPkg pname)) (hlist : R (.listRevs pname))
    (herr : ∀ s', Q s' .err) (hgone : (∀ p, s.pkg = some p → p.name ≠ pname) → Q s .gone)
    (hpause : ∀ p, s.pkg = some p → p.name = pname → p.spec.paused = true ∨ p.status.pausedCond = true → ∀ b,
      R (.statusPkg pname { p.status with pausedCond := b }) ∧
      I (exec s (.statusPkg pname { p.status with pausedCond := b })).1 ∧ ∀ s', Q s' .paused)
    (hafter : ∀ p, s.pkg = some p → p.name = pname → p.spec.paused = false → p.status.pausedCond = false →
      Tri I R Q (afterList false env p (s.revs.filter (labelled pname))) s) :
    Tri I R Q (pkgReconcile env pname) s := by
  unfold pkgReconcile reconcileWith
  refine ⟨⟨hget, ?_, ?_⟩, herr _, herr _⟩
  · rw [exec_getPkg_store]; exact hI
  · cases hp : s.pkg with
    | none => simp only [exec, hp]; exact hgone (fun p h => by rw [hp] at h; cases h)
    | some p =>
      by_cases hn : p.name = pname
      · have hex : exec s (.getPkg pname) = (s, .pkg p) := by simp [exec, hp, hn]
        rw [hex]
        have hwrite : p.spec.paused = true ∨ p.status.pausedCond = true → ∀ b,
            Tri I R Q (.call (.statusPkg pname { p.status with pausedCond := b })
              fun | .ok => .ret .paused | _ => .ret .err) s := by
          intro h b
          obtain ⟨h1, h2, h3⟩ := hpause p hp hn h b
          exact statusCall_tri _ _ _ _ h1 h2 (fun s' _ => h3 s') herr
        show Tri _ _ _ (if p.spec.paused = true then _ else _) s
        by_cases hpa : p.spec.paused = true
        · rw [if_pos hpa]
          exact hwrite (.inl hpa) true
        · rw [if_neg hpa]
          by_cases hpc : p.status.pausedCond = true
          · rw [if_pos hpc]
            exact hwrite (.inr hpc) false
          · rw [if_neg hpc]
            exact ⟨⟨hlist, hI, hafter p hp hn (Bool.eq_false_iff.mpr hpa) (Bool.eq_false_iff.mpr hpc)⟩, herr _, herr _⟩
      · have hex : exec s (.getPkg pname) = (s, .err .notFound) := by simp [exec, hp, hn]
        rw [hex]
        exact hgone (fun q hq => by rw [hp] at hq; cases hq; exact hn)

/-- a reconcile of `pname` from store `s`: the Get, the List, a pause write that keeps the stored package's
recorded revision, and what follows the List for the stored package and its stored revisions -/
inductive ReconcileReq (env : Env) (pname : String) (s : Store) : Req → Prop
  | get : ReconcileReq env pname s (.getPkg pname)
  | list : ReconcileReq env pname s (.listRevs pname)
  | pause {p : Pkg} (b : Bool) : s.pkg = some p →
      ReconcileReq env pname s (.statusPkg pname { p.status with pausedCond := b })
  | after {p : Pkg} {r : Req} : s.pkg = some p → p.name = pname →
      AfterListReq env p (s.revs.filter (labelled pname)) r → ReconcileReq env pname s r

theorem reconcile_applied (env : Env) (pname : String) (plan : Plan) (k : Nat) (s : Store) :
    ∀ r ∈ applied sem plan k (pkgReconcile env pname) s, ReconcileReq env pname s r :=
  Tri.applied plan k _ s
    (reconcile_tri_of (I := fun _ => True) (Q := fun _ _ => True) env pname s trivial .get .list
      (fun _ => trivial) (fun _ => trivial) (fun _ hp _ _ b => ⟨.pause b hp, trivial, fun _ => trivial⟩)
      (fun p hp hn _ _ =>
        Tri_of_issues (Issues.mono (fun _ => .after hp hn) (afterList_issues env p _)) s))

theorem ReconcileReq.of_revWrite {env : Env} {pname : String} {s : Store} {r : Req}
    (h : ReconcileReq env pname s r) (hw : isRevWrite r = true) :
    ∃ p cur, s.pkg = some p ∧ p.name = pname ∧ revisionName env p = .ok cur ∧ cur ≠ "" ∧
      Stage2Req (gcVictim p.spec.limit cur (s.revs.filter (labelled pname))) p cur (s.revs.filter (labelled pname)) r := by
  cases h with
  | get => cases hw
  | list => cases hw
  | pause _ _ => cases hw
  | after hp hn ha =>
    obtain ⟨cur, hr, hne, h2⟩ := ha.of_revWrite hw
    exact ⟨_, cur, hp, hn, hr, hne, h2⟩

theorem applied_delete (env : Env) (pname : String) (plan : Plan) (k : Nat) (s : Store) (n : String)
    (h : Req.deleteRev n ∈ applied sem plan k (pkgReconcile env pname) s) :
    ∃ p cur v, s.pkg = some p ∧ revisionName env p = .ok cur ∧ cur ≠ "" ∧
      gcVictim p.spec.limit cur (s.revs.filter (labelled pname)) = some v ∧ v.name = n := by
  obtain ⟨p, cur, hp, _, hr, hne, h2⟩ := (reconcile_applied env pname plan k s _ h).of_revWrite rfl
  obtain ⟨v, hv, e⟩ := h2.delete
  exact ⟨p, cur, v, hp, hr, hne, hv, e⟩

/-! ### a reconcile whose revisioner fails -/

/-- what such a reconcile must leave alone: the revisions, the package's identity and spec, and
the recorded current revision / current identifier (only conditions may change) -/
def Kept (s : Store) (p : Pkg) (s' : Store) : Prop :=
  s'.revs = s.revs ∧ ∃ p', s'.pkg = some p' ∧ p'.name = p.name ∧ p'.spec = p.spec ∧
    p'.status.curRev = p.status.curRev ∧ p'.status.curId = p.status.curId

theorem Kept.statusPkg {s : Store} {p : Pkg} (hp : s.pkg = some p) (n : String) (st : Status)
    (e1 : st.curRev = p.status.curRev) (e2 : st.curId = p.status.curId) :
    Kept s p (exec s (.statusPkg n st)).1 := by
  simp only [exec, hp]
  split
  · exact ⟨rfl, _, rfl, rfl, rfl, e1, e2⟩
  · exact ⟨rfl, p, hp, rfl, rfl, rfl, rfl⟩

/-- the verdict on the result: never `done`/`requeue`; exactly `err` for an unpaused package of that name -/
def QErr (pname : String) (p : Pkg) (_ : Store) (r : Res) : Prop :=
  (∀ c af, r ≠ .done c af) ∧ r ≠ .requeue ∧
  (p.name = pname → p.spec.paused = false → p.status.pausedCond = false → r = .err)

theorem reconcile_err_tri (env : Env) (pname : String) (s : Store) (p : Pkg)
    (hp : s.pkg = some p) (herr : revisionName env p = .error ()) :
    Tri (Kept s p) (fun r => isRevWrite r = false) (QErr pname p) (pkgReconcile env pname) s := by
  have herrq : ∀ s', QErr pname p s' .err := fun _ => ⟨fun _ _ => nofun, nofun, fun _ _ _ => rfl⟩
  have hst := Kept.statusPkg hp
  refine reconcile_tri_of env pname s ⟨rfl, p, hp, rfl, rfl, rfl, rfl⟩ rfl rfl herrq
    (fun hne => ⟨fun _ _ => nofun, nofun, fun h => absurd h (hne p hp)⟩) ?_ ?_
  · intro q hq _ hpa b
    rw [hp] at hq; cases hq
    refine ⟨rfl, hst _ { p.status with pausedCond := b } rfl rfl, fun _ => ⟨fun _ _ => nofun, nofun, fun _ h1 h2 => ?_⟩⟩
    rcases hpa with h | h
    · rw [h] at h1; cases h1
    · rw [h] at h2; cases h2
  · intro q hq _ _ _
    rw [hp] at hq; cases hq
    unfold afterList
    have hfail : Tri (Kept s p) (fun r => isRevWrite r = false) (QErr pname p)
        (.call (.statusPkg p.name p.status) fun _ => .ret Res.err) s :=
      ⟨⟨rfl, hst _ _ rfl rfl, herrq _⟩, herrq _, herrq _⟩
    refine ⟨⟨rfl, ⟨rfl, p, hp, rfl, rfl, rfl, rfl⟩, ?_⟩, hfail, hfail⟩
    show Tri _ _ _ (match revisionName env p with | .error _ => _ | .ok cur => _) s
    rw [herr]
    exact statusCall_tri _ _ _ _ rfl (hst _ _ rfl rfl) (fun s' _ => herrq s') herrq

variable {α : Type}

/-! ### the reconciler's own calls, in every world of Model/C14World.lean -/

theorem ownW_issues (Q : Req → Prop) (sc : Sched) (k : Nat) (p : P α) (hp : Issues Q p) (w : World) :
    ∀ x ∈ ownW sc k p w, Q x.2.1 := by
  fun_induction ownW sc k p w with
  | case1 => exact fun _ h => nomatch h
  | case2 k r c w _ ih => -- applied
    cases hp with | call _ _ hq hc => exact List.forall_mem_cons.mpr ⟨hq, ih (hc _)⟩
  | case3 k r c w e _ ih => cases hp with | call _ _ _ hc => exact ih (hc _) -- failed
  | case4 => exact fun _ h => nomatch h
  | case5 => cases hp with | call _ _ hq _ => exact List.forall_mem_cons.mpr ⟨hq, fun _ h => nomatch h⟩ -- crash after

theorem ownW_call (sc : Sched) (k : Nat) (r : Req) (c : Resp → P α) (w : World) (x : World × Req × Resp)
    (h : x ∈ ownW sc k (.call r c) w) :
    x.2.1 = r ∨ ∃ resp w', x ∈ ownW sc (k+1) (c resp) w' ∧
      heardW sc k (.call r c) w = (r, resp) :: heardW sc (k+1) (c resp) w' := by
  rw [ownW] at h
  rw [heardW]
  split at h
  · rcases List.mem_cons.mp h with e | h'
    · subst e; exact .inl rfl
    · exact .inr ⟨_, _, h', rfl⟩
  · exact .inr ⟨_, _, h, rfl⟩
  · cases h
  · exact .inl (by simpa using congrArg (·.2.1) (List.mem_singleton.mp h))

/-- what the reconciler was told before it decided: the package its Get answered and the revisions
its List answered (a NotFound answer to the List is taken as no revisions) -/
def heardCtx : List (Req × Resp) → Option (Pkg × List Rev)
  | (.getPkg _, .pkg p) :: (.listRevs _, .revs l) :: _ => some (p, l)
  | (.getPkg _, .pkg p) :: (.listRevs _, .err .notFound) :: _ => some (p, [])
  | _ => none

theorem reconcile_own_after (env : Env) (pname : String) (sc : Sched) (w0 : World) (x : World × Req × Resp)
    (hx : x ∈ ownW sc 0 (pkgReconcile env pname) w0) :
    (x.2.1 = .getPkg pname ∨ (∃ st, x.2.1 = .statusPkg pname st) ∨ x.2.1 = .listRevs pname) ∨
    ∃ p listed w2, heardCtx (heardW sc 0 (pkgReconcile env pname) w0) = some (p, listed) ∧
      x ∈ ownW sc 2 (afterList false env p listed) w2 := by
  -- `ownW_call` at the Get, then at the status update or the List; an answer of another kind leaves a `.ret`,
  -- whose `ownW` is `[]` (`simp [ownW] at h`), so `x` is one of these calls or lies in the `afterList` tail
  unfold pkgReconcile reconcileWith at hx ⊢
  rcases ownW_call sc 0 _ _ w0 x hx with e | ⟨resp, w1, h1, hh1⟩
  · exact .inl (.inl e)
  · rw [hh1]
    cases resp with
    | pkg p =>
      simp only [] at h1 ⊢
      by_cases hpa : p.spec.paused = true
      · rw [if_pos hpa] at h1
        rcases ownW_call sc 1 _ _ w1 x h1 with e | ⟨r2, w2, h2, _⟩
        · exact .inl (.inr (.inl ⟨_, e⟩))
        · cases r2 <;> simp [ownW] at h2
      · rw [if_neg hpa] at h1 ⊢
        by_cases hpc : p.status.pausedCond = true
        · rw [if_pos hpc] at h1
          rcases ownW_call sc 1 _ _ w1 x h1 with e | ⟨r2, w2, h2, _⟩
          · exact .inl (.inr (.inl ⟨_, e⟩))
          · cases r2 <;> simp [ownW] at h2
        · rw [if_neg hpc] at h1 ⊢
          rcases ownW_call sc 1 _ _ w1 x h1 with e | ⟨r2, w2, h2, hh2⟩
          · exact .inl (.inr (.inr e))
          · rw [hh2]
            cases r2 with
            | revs l => exact .inr ⟨p, l, w2, rfl, h2⟩
            | err e =>
              cases e with
              | notFound => exact .inr ⟨p, [], w2, rfl, h2⟩
              | conflict => simp [ownW] at h2
              | other => simp [ownW] at h2
            | pkg _ => simp [ownW] at h2
            | rev _ => simp [ownW] at h2
            | ok => simp [ownW] at h2
    | err e => cases e <;> simp [ownW] at h1
    | revs _ => simp [ownW] at h1
    | rev _ => simp [ownW] at h1
    | ok => simp [ownW] at h1

theorem world_rev_write (env : Env) (pname : String) (sc : Sched) (w0 : World) (x : World × Req × Resp)
    (hx : x ∈ ownW sc 0 (pkgReconcile env pname) w0) (hw : isRevWrite x.2.1 = true) :
    ∃ p listed cur, heardCtx (heardW sc 0 (pkgReconcile env pname) w0) = some (p, listed) ∧
      revisionName env p = .ok cur ∧ cur ≠ "" ∧ Stage2Req (gcVictim p.spec.limit cur listed) p cur listed x.2.1 := by
  rcases reconcile_own_after env pname sc w0 x hx with (e | ⟨st, e⟩ | e) | ⟨p, listed, w2, hc, h2⟩
  · rw [e] at hw; cases hw
  · rw [e] at hw; cases hw
  · rw [e] at hw; cases hw
  · obtain ⟨cur, hr, hne, h3⟩ := (ownW_issues _ sc 2 _ (afterList_issues env p listed) w2 x h2).of_revWrite hw
    exact ⟨p, listed, cur, hc, hr, hne, h3⟩

theorem world_delete_is_heard_victim (env : Env) (pname : String) (sc : Sched) (w0 : World)
    (x : World × Req × Resp) (n : String)
    (hx : x ∈ ownW sc 0 (pkgReconcile env pname) w0) (hn : x.2.1 = .deleteRev n) :
    ∃ p listed cur v, heardCtx (heardW sc 0 (pkgReconcile env pname) w0) = some (p, listed) ∧
      revisionName env p = .ok cur ∧ cur ≠ "" ∧ gcVictim p.spec.limit cur listed = some v ∧ v.name = n := by
  obtain ⟨p, listed, cur, hc, hr, hne, h3⟩ := world_rev_write env pname sc w0 x hx (by rw [hn]; rfl)
  rw [hn] at h3
  obtain ⟨v, hv, e⟩ := h3.delete
  exact ⟨p, listed, cur, v, hc, hr, hne, hv, e⟩

end Xp.C14
