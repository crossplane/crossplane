import Xp.Model.C15
/-
The signature verification controller: which config `ImageConfigStore.bestMatch` selects (the invariant of its two loops,
`bestMatch_spec`), and what `sigStep` does to the Verified condition (`SigOutcome`).
-/
namespace Xp.C15

variable (valid : ImgCfg → Bool) (image : String)

/-- invariant of the two loops: the accumulator is (0, none), or (m, some c) for a valid config `c` among `cs` that declares
a non-empty prefix of `image` of length `m` -/
def AccOK (cs : List ImgCfg) (acc : Nat × Option ImgCfg) : Prop :=
  acc = (0, none) ∨ ∃ c, acc.2 = some c ∧ c ∈ cs ∧ valid c = true ∧
    ∃ p ∈ c.prefixes, p.isPrefixOf image = true ∧ p.utf8ByteSize = acc.1 ∧ 0 < acc.1

theorem scanPrefixes_spec (cs : List ImgCfg) (c : ImgCfg) (hc : c ∈ cs) (hv : valid c = true) (ps : List String)
    (hps : ∀ p ∈ ps, p ∈ c.prefixes) (acc : Nat × Option ImgCfg) (h : AccOK valid image cs acc) :
    AccOK valid image cs (scanPrefixes image c ps acc) ∧ acc.1 ≤ (scanPrefixes image c ps acc).1 ∧
    ∀ p ∈ ps, p.isPrefixOf image = true → p.utf8ByteSize ≤ (scanPrefixes image c ps acc).1 := by
  induction ps generalizing acc with
  | nil => exact ⟨h, Nat.le_refl _, nofun⟩
  | cons p ps ih =>
    have hps' := fun q hq => hps q (List.mem_cons_of_mem _ hq)
    unfold scanPrefixes
    by_cases hcond : (p.isPrefixOf image && decide (p.utf8ByteSize > acc.1)) = true
    · rw [if_pos hcond]
      have hlt : acc.1 < p.utf8ByteSize := of_decide_eq_true (Bool.and_eq_true_iff.mp hcond).2
      obtain ⟨h1, h2, h3⟩ := ih hps' (p.utf8ByteSize, some c) (.inr ⟨c, rfl, hc, hv, p, hps p List.mem_cons_self,
        (Bool.and_eq_true_iff.mp hcond).1, rfl, Nat.zero_lt_of_lt hlt⟩)
      refine ⟨h1, Nat.le_trans (Nat.le_of_lt hlt) h2, fun q hq hm => ?_⟩
      rcases List.mem_cons.mp hq with rfl | hq
      · exact h2
      · exact h3 q hq hm
    · rw [if_neg hcond]
      obtain ⟨h1, h2, h3⟩ := ih hps' acc h
      refine ⟨h1, h2, fun q hq hm => ?_⟩
      rcases List.mem_cons.mp hq with rfl | hq
      · have : q.utf8ByteSize ≤ acc.1 := by simpa [hm] using hcond
        exact Nat.le_trans this h2
      · exact h3 q hq hm

theorem scanCfgs_spec (all cs : List ImgCfg) (hsub : ∀ c ∈ cs, c ∈ all) (acc : Nat × Option ImgCfg)
    (h : AccOK valid image all acc) :
    AccOK valid image all (scanCfgs valid image cs acc) ∧ acc.1 ≤ (scanCfgs valid image cs acc).1 ∧
    ∀ c ∈ cs, valid c = true → ∀ p ∈ c.prefixes, p.isPrefixOf image = true →
      p.utf8ByteSize ≤ (scanCfgs valid image cs acc).1 := by
  induction cs generalizing acc with
  | nil => exact ⟨h, Nat.le_refl _, nofun⟩
  | cons c cs ih =>
    have hsub' := fun d hd => hsub d (List.mem_cons_of_mem _ hd)
    unfold scanCfgs
    by_cases hv : valid c = true
    · rw [if_pos hv]
      obtain ⟨p1, p2, p3⟩ := scanPrefixes_spec valid image all c (hsub c List.mem_cons_self) hv c.prefixes
        (fun _ h => h) acc h
      obtain ⟨h1, h2, h3⟩ := ih hsub' _ p1
      refine ⟨h1, Nat.le_trans p2 h2, fun d hd hvd q hq hm => ?_⟩
      rcases List.mem_cons.mp hd with rfl | hd
      · exact Nat.le_trans (p3 q hq hm) h2
      · exact h3 d hd hvd q hq hm
    · rw [if_neg hv]
      obtain ⟨h1, h2, h3⟩ := ih hsub' acc h
      refine ⟨h1, h2, fun d hd hvd q hq hm => ?_⟩
      rcases List.mem_cons.mp hd with rfl | hd
      · exact absurd hvd hv
      · exact h3 d hd hvd q hq hm

theorem bestMatch_spec (cfgs : List ImgCfg) :
    match bestMatch valid image cfgs with
    | none => ∀ c ∈ cfgs, valid c = true → ∀ p ∈ c.prefixes, p.isPrefixOf image = true → p.utf8ByteSize = 0
    | some c => c ∈ cfgs ∧ valid c = true ∧ ∃ p ∈ c.prefixes, p.isPrefixOf image = true ∧ 0 < p.utf8ByteSize ∧
        ∀ c' ∈ cfgs, valid c' = true → ∀ p' ∈ c'.prefixes, p'.isPrefixOf image = true →
          p'.utf8ByteSize ≤ p.utf8ByteSize := by
  obtain ⟨hok, _, hge⟩ := scanCfgs_spec valid image cfgs cfgs (fun _ h => h) (0, none) (.inl rfl)
  unfold bestMatch
  rcases hok with h0 | ⟨c, hc, hm, hv, p, hp, hpre, hlen, hpos⟩
  · rw [h0] at hge ⊢
    exact fun c hc hv p hp hpre => Nat.le_zero.mp (hge c hc hv p hp hpre)
  · rw [hc]
    exact ⟨hm, hv, p, hp, hpre, hlen ▸ hpos, hlen ▸ hge⟩

/-- The results of `sigStep`: the revision as it was, or with the Verified condition set – to True only when no
verification config matches (skipped) or the validator accepted. -/
inductive SigOutcome (cfg : SigCfg) (valid : Bool) (st : RevSt) : RevSt × String → Prop
  | same {res : String} : SigOutcome cfg valid st (st, res)
  | set {res : String} (v : Verif) (h : v.isTrue = true → cfg = .none ∨ (cfg = .some ∧ valid = true)) :
      SigOutcome cfg valid st ({ st with verif := v }, res)

theorem sigStep_outcome (cfg : SigCfg) (valid : Bool) (sf : SigF) (st : RevSt) :
    SigOutcome cfg valid st (sigStep cfg valid sf st) := by
  unfold sigStep
  refine iteInduction (fun _ => .same) fun _ => iteInduction (fun _ => .same) fun _ =>
    iteInduction (fun _ => .same) fun _ => iteInduction (fun _ => .same) fun _ => ?_
  cases cfg with
  | err =>
    cases sf.stat with
    | true => exact .same
    | false => exact .set _ nofun
  | none => exact iteInduction (fun _ => .same) fun _ => .set _ fun _ => .inl rfl
  | some =>
    refine iteInduction (fun _ => .same) fun _ => ?_
    cases valid
    · exact .set _ nofun
    · exact .set _ fun _ => .inr ⟨rfl, rfl⟩

theorem SigOutcome.verified {cfg : SigCfg} {valid : Bool} {st : RevSt} {x : RevSt × String} (h : SigOutcome cfg valid st x)
    (hv : x.1.verif.isTrue = true) : st.verif.isTrue = true ∨ cfg = .none ∨ (cfg = .some ∧ valid = true) := by
  cases h with
  | same => exact .inl hv
  | set v h => exact .inr (h hv)

end Xp.C15
