import Xp.Proofs.C13Facts
import Xp.Proofs.C13DataInv
/-
C13: the inductive invariant `Inv` of the fixed engine: the data invariant and what every thread knows at
its pc. The thread that steps has the facts of its new pc (`TValid_self`, `TFacts_self`) and knows what
the action it performs requires (`act_knows`); the others keep theirs (`TFacts_other`); hence `Inv_step`,
`Inv_reachable`.
-/
namespace Xp.C13

/-- the invariant of the fixed engine (`Inv_reachable`); inductive together with `Mutex` -/
structure Inv (s : Sys) : Prop extends DataInv s where
  tvalid : ∀ (i : Nat) (t : Thread), s.threads[i]? = some t → TValid s t
  tfacts : ∀ (i : Nat) (t : Thread), s.threads[i]? = some t → TFacts s t

/-- the controller the new pc refers to is the one the old pc refers to, or was just looked up in
`e.controllers` -/
theorem TValid_self {s : Sys} {i : Nat} {t : Thread} {ch : Choice} {pc' : Pc} {act : Act}
    (hinv : Inv s) (ht : s.threads[i]? = some t)
    (hn : next Cfg.fixed s i t ch = some (pc', act)) : TValid (act.apply s) { t with pc := pc' } := by
  have hold := hinv.tvalid i t ht
  obtain ⟨op, pc⟩ := t
  intro c hc
  refine Nat.lt_of_lt_of_le ?_ (apply_objs_length_ge act s)
  cases next_inv hn
  case swLockedOld | swAI2 | swAH => rw [swPc_cid] at hc; exact hold c hc
  case xwCW | xwRH => rw [xwPc_cid] at hc; exact hold c hc
  -- the lookups in `e.controllers`
  case swLookup | xwLookup | xw0 | gwLookup | gc1 => exact (hinv.ctlValid _ _ hc).1
  case stopRunning => cases hc; exact (hinv.ctlValid _ _ ‹_›).1
  -- all others keep the controller of the old pc, or end at a pc that refers to none
  all_goals first
    | exact hold c hc
    | (cases hc; done)

theorem TFacts_swPc {s : Sys} {op : Op} {cid : Nat} {a : List Nat} {st ws : List Wid}
    (hst : stoppedOf s cid = false) (hJ : ∀ r ∈ s.regs, r.cid = cid → r.wid.gvk ∈ a ∨ r.wid ∈ st) :
    TFacts s ⟨op, swPc cid a st (swNext (srcsOf s cid) a st ws)⟩ := by
  cases hsw : swNext (srcsOf s cid) a st ws with
  | none => exact trivial
  | some p =>
    obtain ⟨w, rest⟩ := p
    exact ⟨hst, hJ, swNext_some hsw⟩

theorem TFacts_xwPc {s : Sys} {op : Op} {cid k : Nat} {ws : List Wid} :
    TFacts s ⟨op, xwPc cid k (xwNext (srcsOf s cid) ws)⟩ := by
  cases hxw : xwNext (srcsOf s cid) ws with
  | none => exact trivial
  | some p =>
    obtain ⟨w, reg, rest⟩ := p
    exact (xwNext_some hxw).1

theorem TFacts_getInformer {s : Sys} {t : Thread} (g : Nat) (f : Bool) (h : TFacts s t) :
    TFacts ((Act.getInformer g f).apply s) t := by
  obtain ⟨_, _, _, e⟩ := apply_getInformer g f s
  rw [e]
  exact h

theorem TFacts_self {s : Sys} {i : Nat} {t : Thread} {ch : Choice} {pc' : Pc} {act : Act}
    (hinv : Inv s) (ht : s.threads[i]? = some t)
    (hn : next Cfg.fixed s i t ch = some (pc', act)) : TFacts (act.apply s) { t with pc := pc' } := by
  have hold := hinv.tfacts i t ht
  have hval := hinv.tvalid i t ht
  obtain ⟨op, pc⟩ := t
  cases next_inv hn
  case stopRunning hc _ => exact hc
  case spLock => exact hold
  case spPick hreg => exact ⟨hold, hreg⟩
  case spGI n cid wid reg => exact TFacts_getInformer (t := ⟨op, .spGI n cid wid reg⟩) _ _ hold
  case spRH => exact hold.1
  case swLocked cid ws a hns _ =>
    have : stoppedOf s cid = false := by simpa [Cfg.fixed] using hns
    exact this
  case swLockedOld hx _ => exact absurd rfl hx
  case swAI2 cid ws =>
    -- `a` is `s.tracked`: every registration is of a live informer, every live informer is tracked
    exact TFacts_swPc hold fun r hr _ => Or.inl (hinv.liveTracked _ _ (hinv.regLive r hr))
  case swGI cid a st wid rest => exact TFacts_getInformer (t := ⟨op, .swGI cid a st wid rest⟩) _ _ hold
  case swAH cid a st wid rest h _ =>
    show TFacts _ ⟨op, swPc cid a (wid :: st) (swNext _ a (wid :: st) rest)⟩
    obtain ⟨hst, hJ, _⟩ := hold
    have hsrc : srcsOf ((Act.addReg cid wid h).apply s) cid = aset wid s.nextReg (srcsOf s cid) := by
      exact (srcsOf_apply _ s cid).trans (if_pos ⟨rfl, hval cid rfl⟩)
    rw [← hsrc]
    refine TFacts_swPc ((stoppedOf_apply _ s cid).trans hst) ?_
    intro r hr hc
    rcases List.mem_cons.1 hr with rfl | hr'
    · exact Or.inr List.mem_cons_self
    · rcases hJ r hr' hc with h1 | h2
      · exact Or.inl h1
      · exact Or.inr (List.mem_cons_of_mem _ h2)
  case xwCW cid ws _ => exact TFacts_xwPc
  case xwGI cid wid reg rest k => exact TFacts_getInformer (t := ⟨op, .xwGI cid wid reg rest k⟩) _ _ hold
  case xwRH cid wid reg rest k h =>
    have hsrc : srcsOf ((Act.delReg cid wid reg).apply s) cid = adel wid (srcsOf s cid) :=
      (srcsOf_apply _ s cid).trans (if_pos rfl)
    rw [← hsrc]
    exact TFacts_xwPc
  all_goals exact trivial

theorem Inv_init (ops : List Op) : Inv (init ops) where
  toDataInv := DataInv_init ops
  tvalid := by
    intro i t ht c hc
    rw [init_thread ht] at hc
    cases hc
  tfacts := by
    intro i t ht
    obtain ⟨op, pc⟩ := t
    cases (init_thread ht : pc = .idle)
    exact trivial

theorem act_knows {s : Sys} {i : Nat} {t : Thread} {ch : Choice} {pc' : Pc} {act : Act}
    (hinv : Inv s) (ht : s.threads[i]? = some t)
    (hn : next Cfg.fixed s i t ch = some (pc', act)) : ActKnows s act := by
  have hfacts := hinv.tfacts i t ht
  have hvalid := hinv.tvalid i t ht
  obtain ⟨op, pc⟩ := t
  cases act
  case finishStop n cid =>
    obtain ⟨rfl, hempty⟩ := act_at hn
    exact ⟨hfacts, hempty⟩
  case addReg cid wid h =>
    obtain ⟨a, st, rest, rfl, hl⟩ := act_at hn
    obtain ⟨hst, hJ, hK⟩ := hfacts
    -- a registration `r` of `cid` for `wid` would have a source (`own`) and be listed or started (`hJ`): `hK`
    refine ⟨hvalid cid rfl, hst, hl, fun r hr hc hw => hK ⟨?_, ?_⟩⟩
    · rw [← hw, ← hc, hinv.own r hr]; rfl
    · rw [← hw]; exact hJ r hr hc
  case delReg cid wid reg =>
    rcases act_at hn with ⟨n, h', rfl⟩ | ⟨rest, k, h', rfl⟩
    · exact hfacts.2
    · exact hfacts
  all_goals exact trivial

theorem Inv_step {s s' : Sys} {i : Nat} {ch : Choice} (hm : Mutex s) (hinv : Inv s)
    (h : step Cfg.fixed s i ch = some s') : Inv s' := by
  obtain ⟨t, pc', act, ht, hn, rfl⟩ := step_unpack h
  exact {
    toDataInv := (DataInv_apply hinv.toDataInv (act_knows hinv ht hn)).set_threads _
    tvalid := forall_set (TValid_self hinv ht hn) fun j tj _ hj c hc =>
      Nat.lt_of_lt_of_le (hinv.tvalid j tj hj c hc) (apply_objs_length_ge act s)
    tfacts := forall_set (TFacts_self hinv ht hn) fun j tj e hj =>
      TFacts_other hm (fun x => e x.symm) ht hj hn (hinv.tfacts j tj hj) }

theorem Inv_reachable {ops : List Op} {s : Sys} (h : Reachable Cfg.fixed ops s) : Inv s := by
  induction h with
  | init => exact Inv_init ops
  | step i ch hr hs ih => exact Inv_step (Mutex_reachable hr) ih hs

end Xp.C13
