import Xp.Model.C13Skel
/-
C13: the four scenarios of the `trace_…` theorems (Props/C13.lean), each run ONCE. `runResult` is what
a schedule computes (final program counters, events); `run_seq`, `run_err`, `run_straddle`, `run_gc`
give it for the scenarios, by evaluation. What the theorems say of a call's events (`traceOf`) and what
the examples say of the final pcs is read off these (`traceOf_of_run`, `pcs_of_run`).
-/
namespace Xp.C13

def cW (g : Nat) : Wid := ⟨.composed, g⟩
/-- a live, ready XR referencing the given kinds -/
def xrLive (gs : List Nat) : XR := ⟨false, false, true, true, true, gs.map some, none⟩

/-- the program counters at the end of a schedule and the events on the way -/
def runResult (cfg : Cfg) (ops : List Op) (sched : List (Nat × Choice)) : Option (List Pc × List (Nat × Fn × String)) :=
  (runTrace cfg (init ops) sched).map fun r => (r.1.threads.map (·.pc), r.2)

section
variable {cfg : Cfg} {ops : List Op} {sched : List (Nat × Choice)} {pcs : List Pc} {es : List (Nat × Fn × String)}

theorem traceOf_of_run (h : runResult cfg ops sched = some (pcs, es)) (i : Nat) (f : Fn) :
    traceOf cfg ops sched i f = some ((es.filter (fun e => e.1 == i && e.2.1 == f)).map (·.2.2)) := by
  unfold runResult at h
  unfold traceOf
  cases hr : runTrace cfg (init ops) sched with
  | none => rw [hr] at h; cases h
  | some r => rw [hr] at h; cases h; rfl

theorem pcs_of_run (h : runResult cfg ops sched = some (pcs, es)) :
    (runTrace cfg (init ops) sched).map (fun r => r.1.threads.map (·.pc)) = some pcs := by
  unfold runResult at h
  cases hr : runTrace cfg (init ops) sched with
  | none => rw [hr] at h; cases h
  | some r => rw [hr] at h; cases h; rfl

end

/-- consecutive events of thread `i` inside Go function `f` -/
def eventsIn (i : Nat) (f : Fn) (l : List String) : List (Nat × Fn × String) := l.map fun e => (i, f, e)

/-- One sequential story that takes every engine function through its branches: a start; a
StartWatches that starts two watches and skips the one the caller supplied twice; one that finds
nothing to start; a StopWatches that skips a watch without source and stops one; a Stop with one
source left; calls for a controller that does not run; a Start that is repeated. -/
def opsSeq : List Op :=
  [.start 0, .startWatches 0 [cW 0, cW 0, cW 1], .startWatches 0 [cW 0], .stopWatches 0 [cW 5, cW 0],
   .stop 0, .startWatches 0 [cW 0], .stopWatches 0 [cW 0], .getWatches 0, .start 0, .start 0,
   .isRunning 0, .getWatches 0, .stopWatches 0 [cW 3], .stop 1]
def schedSeq : List (Nat × Choice) :=
  solo 0 3 ++ solo 1 12 ++ solo 2 5 ++ solo 3 8 ++ solo 4 8 { pick := cW 1 } ++ solo 5 2 ++ solo 6 2 ++
  solo 7 2 ++ solo 8 3 ++ solo 9 2 ++ solo 10 2 ++ solo 11 4 ++ solo 12 4 ++ solo 13 2

theorem run_seq : runResult Cfg.fixed opsSeq schedSeq = some
    ([.done .ok, .done .ok, .done .ok, .done (.count 1 true), .done .ok, .done .notRunning, .done .notRunning,
      .done .notRunning, .done .ok, .done .ok, .done (.bool true), .done (.watches []), .done (.count 0 true), .done .ok],
     List.flatten [
      eventsIn 0 .start ["mx.Lock", "co.nc", "set controllers[]", "mx.Unlock"],
      eventsIn 1 .startWatches ["mx.RLock", "mx.RUnlock", "infs.ActiveInformers", "c.mx.RLock", "c.mx.RUnlock",
        "c.mx.Lock", "infs.ActiveInformers", "c.ctrl.Watch"],
      eventsIn 1 .srcStart ["infs.GetInformer", "i.AddEventHandler", "set reg"],
      eventsIn 1 .startWatches ["set c.sources[]", "set started[]", "c.ctrl.Watch"],
      eventsIn 1 .srcStart ["infs.GetInformer", "i.AddEventHandler", "set reg"],
      eventsIn 1 .startWatches ["set c.sources[]", "set started[]", "c.mx.Unlock"],
      eventsIn 2 .startWatches ["mx.RLock", "mx.RUnlock", "infs.ActiveInformers", "c.mx.RLock", "c.mx.RUnlock"],
      eventsIn 3 .stopWatches ["mx.RLock", "mx.RUnlock", "c.mx.RLock", "c.mx.RUnlock", "c.mx.Lock", "w.Stop"],
      eventsIn 3 .srcStop ["infs.GetInformer", "i.RemoveEventHandler", "set reg"],
      eventsIn 3 .stopWatches ["delete c.sources", "c.mx.Unlock"],
      eventsIn 4 .stop ["mx.Lock", "c.mx.Lock", "w.Stop"],
      eventsIn 4 .srcStop ["infs.GetInformer", "i.RemoveEventHandler", "set reg"],
      eventsIn 4 .stop ["delete c.sources", "c.cancel", "set c.stopped", "delete controllers", "c.mx.Unlock", "mx.Unlock"],
      eventsIn 5 .startWatches ["mx.RLock", "mx.RUnlock"],
      eventsIn 6 .stopWatches ["mx.RLock", "mx.RUnlock"],
      eventsIn 7 .getWatches ["mx.RLock", "mx.RUnlock"],
      eventsIn 8 .start ["mx.Lock", "co.nc", "set controllers[]", "mx.Unlock"],
      eventsIn 9 .start ["mx.Lock", "mx.Unlock"],
      eventsIn 10 .isRunning ["mx.RLock", "mx.RUnlock"],
      eventsIn 11 .getWatches ["mx.RLock", "mx.RUnlock", "c.mx.RLock", "c.mx.RUnlock"],
      eventsIn 12 .stopWatches ["mx.RLock", "mx.RUnlock", "c.mx.RLock", "c.mx.RUnlock"],
      eventsIn 13 .stop ["mx.Lock", "mx.Unlock"]]) := by decide +kernel

/-- the error paths: NewControllerFn fails; GetInformer fails in Start-, Stop- and StopWatches;
AddEventHandler / RemoveEventHandler fail -/
def opsErr : List Op :=
  [.start 0, .start 0, .startWatches 0 [cW 0], .startWatches 0 [cW 0], .startWatches 0 [cW 0],
   .stopWatches 0 [cW 0], .stopWatches 0 [cW 0], .stop 0, .stop 0]
def flt : Choice := { fault := true, pick := cW 0 }
def schedErr : List (Nat × Choice) :=
  solo 0 1 ++ [(0, flt)] ++ solo 0 1 ++ solo 1 3 ++
  solo 2 7 ++ [(2, flt)] ++ solo 2 1 ++             -- GetInformer fails in StoppableSource.Start
  solo 3 8 ++ [(3, flt)] ++ solo 3 1 ++             -- AddEventHandler fails
  solo 4 10 ++                                      -- succeeds
  solo 5 5 ++ [(5, flt)] ++ solo 5 1 ++             -- GetInformer fails in StoppableSource.Stop
  solo 6 6 ++ [(6, flt)] ++ solo 6 1 ++             -- RemoveEventHandler fails
  solo 7 3 { pick := cW 0 } ++ [(7, flt)] ++ solo 7 2 ++    -- Stop: GetInformer fails
  solo 8 4 { pick := cW 0 } ++ [(8, flt)] ++ solo 8 2       -- Stop: RemoveEventHandler fails

theorem run_err : runResult Cfg.fixed opsErr schedErr = some
    ([.done .err, .done .ok, .done .err, .done .err, .done .ok, .done (.count 0 false), .done (.count 0 false),
      .done .err, .done .err],
     List.flatten [
      eventsIn 0 .start ["mx.Lock", "co.nc", "mx.Unlock"],
      eventsIn 1 .start ["mx.Lock", "co.nc", "set controllers[]", "mx.Unlock"],
      eventsIn 2 .startWatches ["mx.RLock", "mx.RUnlock", "infs.ActiveInformers", "c.mx.RLock", "c.mx.RUnlock",
        "c.mx.Lock", "infs.ActiveInformers", "c.ctrl.Watch"],
      eventsIn 2 .srcStart ["infs.GetInformer"],
      eventsIn 2 .startWatches ["c.mx.Unlock"],
      eventsIn 3 .startWatches ["mx.RLock", "mx.RUnlock", "infs.ActiveInformers", "c.mx.RLock", "c.mx.RUnlock",
        "c.mx.Lock", "infs.ActiveInformers", "c.ctrl.Watch"],
      eventsIn 3 .srcStart ["infs.GetInformer", "i.AddEventHandler"],
      eventsIn 3 .startWatches ["c.mx.Unlock"],
      eventsIn 4 .startWatches ["mx.RLock", "mx.RUnlock", "infs.ActiveInformers", "c.mx.RLock", "c.mx.RUnlock",
        "c.mx.Lock", "infs.ActiveInformers", "c.ctrl.Watch"],
      eventsIn 4 .srcStart ["infs.GetInformer", "i.AddEventHandler", "set reg"],
      eventsIn 4 .startWatches ["set c.sources[]", "set started[]", "c.mx.Unlock"],
      eventsIn 5 .stopWatches ["mx.RLock", "mx.RUnlock", "c.mx.RLock", "c.mx.RUnlock", "c.mx.Lock", "w.Stop"],
      eventsIn 5 .srcStop ["infs.GetInformer"],
      eventsIn 5 .stopWatches ["c.mx.Unlock"],
      eventsIn 6 .stopWatches ["mx.RLock", "mx.RUnlock", "c.mx.RLock", "c.mx.RUnlock", "c.mx.Lock", "w.Stop"],
      eventsIn 6 .srcStop ["infs.GetInformer", "i.RemoveEventHandler"],
      eventsIn 6 .stopWatches ["c.mx.Unlock"],
      eventsIn 7 .stop ["mx.Lock", "c.mx.Lock", "w.Stop"],
      eventsIn 7 .srcStop ["infs.GetInformer"],
      eventsIn 7 .stop ["c.mx.Unlock", "mx.Unlock"],
      eventsIn 8 .stop ["mx.Lock", "c.mx.Lock", "w.Stop"],
      eventsIn 8 .srcStop ["infs.GetInformer", "i.RemoveEventHandler"],
      eventsIn 8 .stop ["c.mx.Unlock", "mx.Unlock"]]) := by decide +kernel

/-- D12's interleaving: Stop runs between the read section and the write section of StartWatches -/
def opsStraddle : List Op := [.start 0, .startWatches 0 [cW 0], .stop 0]
def schedStraddle : List (Nat × Choice) := solo 0 3 ++ solo 1 5 ++ solo 2 4 ++ solo 1 2

theorem run_straddle : runResult Cfg.fixed opsStraddle schedStraddle = some
    ([.done .ok, .done .notRunning, .relE .ok],
     List.flatten [
      eventsIn 0 .start ["mx.Lock", "co.nc", "set controllers[]", "mx.Unlock"],
      eventsIn 1 .startWatches ["mx.RLock", "mx.RUnlock", "infs.ActiveInformers", "c.mx.RLock", "c.mx.RUnlock"],
      eventsIn 2 .stop ["mx.Lock", "c.mx.Lock", "c.cancel", "set c.stopped", "delete controllers", "c.mx.Unlock"],
      eventsIn 1 .startWatches ["c.mx.Lock", "c.mx.Unlock"]]) := by decide +kernel

/-- the collector: stops one watch; finds nothing to stop; controller not running; List fails -/
def opsGc : List Op :=
  [.start 0, .startWatches 0 [⟨.xr, 7⟩, cW 0, cW 1], .gc 0 [xrLive [0]], .gc 0 [xrLive [0]], .gc 1 [], .gc 0 []]
def schedGc : List (Nat × Choice) :=
  solo 0 3 ++ solo 1 14 ++ solo 2 13 { perm := [cW 1] } ++ solo 3 5 ++ solo 4 3 ++ [(5, { fault := true })]

theorem run_gc : runResult Cfg.fixed opsGc schedGc = some
    ([.done .ok, .done .ok, .done (.count 1 true), .done .ok, .done .err, .done .err],
     List.flatten [
      eventsIn 0 .start ["mx.Lock", "co.nc", "set controllers[]", "mx.Unlock"],
      eventsIn 1 .startWatches ["mx.RLock", "mx.RUnlock", "infs.ActiveInformers", "c.mx.RLock", "c.mx.RUnlock",
        "c.mx.Lock", "infs.ActiveInformers", "c.ctrl.Watch"],
      eventsIn 1 .srcStart ["infs.GetInformer", "i.AddEventHandler", "set reg"],
      eventsIn 1 .startWatches ["set c.sources[]", "set started[]", "c.ctrl.Watch"],
      eventsIn 1 .srcStart ["infs.GetInformer", "i.AddEventHandler", "set reg"],
      eventsIn 1 .startWatches ["set c.sources[]", "set started[]", "c.ctrl.Watch"],
      eventsIn 1 .srcStart ["infs.GetInformer", "i.AddEventHandler", "set reg"],
      eventsIn 1 .startWatches ["set c.sources[]", "set started[]", "c.mx.Unlock"],
      eventsIn 2 .gcNow ["engine.GetCached", "engine.GetCached.List", "engine.GetWatches"],
      eventsIn 2 .getWatches ["mx.RLock", "mx.RUnlock", "c.mx.RLock", "c.mx.RUnlock"],
      eventsIn 2 .gcNow ["engine.StopWatches"],
      eventsIn 2 .stopWatches ["mx.RLock", "mx.RUnlock", "c.mx.RLock", "c.mx.RUnlock", "c.mx.Lock", "w.Stop"],
      eventsIn 2 .srcStop ["infs.GetInformer", "i.RemoveEventHandler", "set reg"],
      eventsIn 2 .stopWatches ["delete c.sources", "c.mx.Unlock"],
      eventsIn 3 .gcNow ["engine.GetCached", "engine.GetCached.List", "engine.GetWatches"],
      eventsIn 3 .getWatches ["mx.RLock", "mx.RUnlock", "c.mx.RLock", "c.mx.RUnlock"],
      eventsIn 4 .gcNow ["engine.GetCached", "engine.GetCached.List", "engine.GetWatches"],
      eventsIn 4 .getWatches ["mx.RLock", "mx.RUnlock"],
      eventsIn 5 .gcNow ["engine.GetCached", "engine.GetCached.List"]]) := by decide +kernel

end Xp.C13
