import Xp.Model.C08
/-
C08 local lemmas: every reconciler program satisfies its guard on every path
(symbolic execution over all possible replies), node by node: a call is the pair of its
guard and the rest after each reply, a test is `always_ite`.
-/
namespace Xp.C08
open Xp.Gen

theorem always_ret (φ : Hist → Req → Prop) (h : Hist) (r : Res) : Always φ h (.ret r) := trivial

theorem always_ite {φ : Hist → Req → Prop} {h : Hist} {c : Prop} [Decidable c] {p q : P}
    (hp : c → Always φ h p) (hq : ¬ c → Always φ h q) : Always φ h (if c then p else q) := by
  split
  · exact hp ‹_›
  · exact hq ‹_›

theorem always_statusThen {c : Ctl} {n : String} {h : Hist} {k : Key} {o : Obj} {r : Res} :
    Always (guardH c n) h (statusThen k o r) :=
  ⟨trivial, fun x => by cases x <;> trivial⟩

theorem XRGoneSeen.mono {h h' : Hist} {cm : Obj} (hs : ∀ p ∈ h, p ∈ h') (hx : XRGoneSeen h cm) : XRGoneSeen h' cm := by
  rcases hx with hx | hx | ⟨hf, hx | hx⟩
  · exact .inl hx
  · exact .inr (.inl (hs _ hx))
  · exact .inr (.inr ⟨hf, .inl (hs _ hx)⟩)
  · exact .inr (.inr ⟨hf, .inr (hs _ hx)⟩)

theorem always_claimFinalize (n : String) (h : Hist) (cm : Obj)
    (hx : ∃ cm0, (Req.get ⟨.claim, n⟩, Resp.obj cm0) ∈ h ∧ cm.rv = cm0.rv ∧ XRGoneSeen h cm0) :
    Always (guardH .claim n) h (claimFinalize ⟨.claim, n⟩ cm) :=
  always_ite (fun _ => ⟨fun _ => ⟨rfl, hx⟩, fun x => by cases x <;> exact always_statusThen⟩)
    fun _ => always_statusThen

theorem always_claimDeleted (n : String) (h : Hist) (cm : Obj) (xr : Option Obj)
    (hget : (Req.get ⟨.claim, n⟩, Resp.obj cm) ∈ h)
    (hxr : xr = none → cm.ref = "" ∨ (Req.get ⟨.xr, cm.ref⟩, Resp.notFound) ∈ h) :
    Always (guardH .claim n) h (claimDeleted ⟨.claim, n⟩ cm xr) := by
  cases xr with
  | none => exact always_claimFinalize n h _ ⟨cm, hget, rfl, (hxr rfl).imp_right .inl⟩
  | some x =>
    refine always_ite (fun _ => always_statusThen) fun _ => ⟨(fun e => nomatch e), fun y => ?_⟩
    -- an acknowledged Delete(XR) licenses the finalizer removal only when the policy is not Foreground
    have fin : ∀ y, y = .ok ∨ y = .notFound →
        Always (guardH .claim n) (h ++ [(Req.delete ⟨.xr, cm.ref⟩ cm.flag, y)])
          (if cm.flag = true then .ret .requeue else claimFinalize ⟨.claim, n⟩ (cm.cond "Ready" "Deleting")) := by
      intro y hy
      refine always_ite (fun _ => trivial) fun hf => ?_
      have hf : cm.flag = false := by simpa using hf
      have hm : (Req.delete ⟨.xr, cm.ref⟩ false, y) ∈ h ++ [(Req.delete ⟨.xr, cm.ref⟩ cm.flag, y)] := by
        rw [hf]; exact List.mem_append_cons_self
      refine always_claimFinalize n _ _ ⟨cm, List.mem_append_left _ hget, rfl, .inr (.inr ⟨hf, ?_⟩)⟩
      rcases hy with rfl | rfl
      · exact .inl hm
      · exact .inr hm
    cases y with
    | ok => exact fin _ (.inl rfl)
    | notFound => exact fin _ (.inr rfl)
    | _ => exact always_statusThen

theorem always_claimBound (n : String) (h : Hist) (cm : Obj) (xr : Option Obj)
    (hget : (Req.get ⟨.claim, n⟩, Resp.obj cm) ∈ h)
    (hxr : xr = none → cm.ref = "" ∨ (Req.get ⟨.xr, cm.ref⟩, Resp.notFound) ∈ h) :
    Always (guardH .claim n) h (claimBound ⟨.claim, n⟩ cm xr) := by
  cases xr with
  | none => exact always_ite (fun _ => always_claimDeleted n h cm none hget hxr) fun _ => trivial
  | some x =>
    exact always_ite (fun _ => always_statusThen) fun _ =>
      always_ite (fun _ => always_claimDeleted n h cm (some x) hget (fun e => nomatch e)) fun _ => trivial

theorem always_claimGot (n : String) (h : Hist) (cm : Obj)
    (hget : (Req.get ⟨.claim, n⟩, Resp.obj cm) ∈ h) :
    Always (guardH .claim n) h (claimGot ⟨.claim, n⟩ cm) := by
  refine always_ite (fun _ => always_statusThen) fun _ =>
    always_ite (fun hr => always_claimBound n h cm none hget (fun _ => .inl hr)) fun _ => ⟨trivial, fun x => ?_⟩
  cases x with
  | obj o => exact always_claimBound n _ cm (some o) (List.mem_append_left _ hget) (fun e => nomatch e)
  | notFound => exact always_claimBound n _ cm none (List.mem_append_left _ hget) (fun _ => .inr (List.mem_append_cons_self))
  | _ => exact always_statusThen

theorem always_claimRec (n : String) : Always (guardH .claim n) [] (claimRec n) := by
  refine ⟨trivial, fun x => ?_⟩
  cases x with
  | obj o => exact always_claimGot n _ o (List.mem_append_cons_self)
  | _ => trivial

theorem always_xrRec (n : String) : Always (guardH .xr n) [] (xrRec n) := by
  refine ⟨trivial, fun x => ?_⟩
  cases x with
  | obj o =>
    refine always_ite (fun _ => always_statusThen) fun _ => always_ite (fun _ => trivial) fun _ =>
      always_ite (fun _ => ⟨trivial, fun y => ?_⟩) fun _ => always_statusThen
    cases y with
    | conflict => trivial
    | _ => exact always_statusThen
  | _ => trivial

theorem CRDNotOursSeen.mono {h h' : Hist} {crd : String} {uid : Nat} (hs : ∀ p ∈ h, p ∈ h')
    (hx : CRDNotOursSeen h crd uid) : CRDNotOursSeen h' crd uid := by
  rcases hx with hx | ⟨c, hc, hn⟩
  · exact .inl (hs _ hx)
  · exact .inr ⟨c, hs _ hc, hn⟩

theorem before_snoc (h : Hist) (a b : Req × Resp) (ha : a ∈ h) : Before (h ++ [b]) a b := by
  obtain ⟨h1, h2, rfl⟩ := List.append_of_mem ha
  exact ⟨h1, h2, [], by simp⟩

theorem Before.mono (h : Hist) (a b c : Req × Resp) (hb : Before h a b) : Before (h ++ [c]) a b := by
  obtain ⟨h1, h2, h3, rfl⟩ := hb
  exact ⟨h1, h2, h3 ++ [c], by simp⟩

theorem always_xrdFinish {c : Ctl} {n : String} {h : Hist} {k : Key} {cur : Obj} {ctrl fin : String}
    (hs : guardH c n h (.stop ctrl)) (hf : guardH c n (h ++ [(.stop ctrl, .ok)]) (.removeFin k cur.rv fin)) :
    Always (guardH c n) h (xrdFinish k cur ctrl fin) := by
  refine ⟨hs, fun x => ?_⟩
  cases x with
  | ok => exact always_ite (fun _ => ⟨hf, fun y => by cases y <;> trivial⟩) fun _ => trivial
  | _ => trivial

theorem always_xrdStopDelete {c : Ctl} {n : String} {h : Hist} {ctrl : String} {crd : Key}
    (hs : guardH c n h (.stop ctrl)) (hd : guardH c n (h ++ [(.stop ctrl, .ok)]) (.delete crd false)) :
    Always (guardH c n) h (xrdStopDelete ctrl crd) := by
  refine ⟨hs, fun x => ?_⟩
  cases x with
  | ok => exact ⟨hd, fun y => by cases y <;> trivial⟩
  | _ => trivial

theorem always_deleteEach (n : String) (h : Hist) (l : List Obj) (hl : ∀ o ∈ l, o.key.kind = .claim) :
    Always (guardH .offered n) h (deleteEach l) := by
  induction l generalizing h with
  | nil => trivial
  | cons o rest ih =>
    have ho : o.key.kind = .claim := hl o (List.mem_cons_self ..)
    have hr : ∀ o ∈ rest, o.key.kind = .claim := fun o h' => hl o (List.mem_cons_of_mem _ h')
    refine ⟨(fun hk => nomatch ho.symm.trans hk), fun x => ?_⟩
    cases x with
    | ok => exact ih _ hr
    | notFound => exact ih _ hr
    | _ => trivial

theorem always_definedRec (n : String) : Always (guardH .defined n) [] (definedRec n) := by
  refine ⟨trivial, fun x => ?_⟩                         -- x: reply to Get(XRD)
  cases x with
  | obj d =>
    refine always_ite (fun _ => trivial) fun _ => ⟨trivial, fun y => ?_⟩   -- y: reply to the status update
    have hget : (Req.get ⟨.xrd, n⟩, Resp.obj d) ∈ ([] : Hist) ++ [(Req.get ⟨.xrd, n⟩, Resp.obj d)] :=
      List.mem_append_cons_self
    cases y with
    | obj d' =>
      refine ⟨trivial, fun z => ?_⟩                     -- z: reply to Get(CRD)
      have finish : ∀ h', (Req.get ⟨.xrd, n⟩, Resp.obj d) ∈ h' → CRDNotOursSeen h' d.ref d.uid →
          Always (guardH .defined n) h' (xrdFinish ⟨.xrd, n⟩ d' (compositeCtrl n) c08DefinedFinalizer) := by
        intro h' hget hno
        refine always_xrdFinish ⟨rfl, d, hget, .inl hno⟩ fun _ => ⟨rfl, d, List.mem_append_left _ hget, ?_⟩
        exact hno.mono fun _ => List.mem_append_left _
      cases z with
      | obj c =>
        refine always_ite (fun hc => ?_) fun _ => ?_      -- the CRD is not ours: finish; ours: DeleteAll(XR), List(XR)
        · refine finish _ (List.mem_append_left _ (List.mem_append_left _ hget)) (.inr ⟨c, List.mem_append_cons_self, ?_⟩)
          simpa using hc
        · refine ⟨trivial, fun u => ?_⟩
          cases u with
          | ok =>
            refine ⟨trivial, fun v => ?_⟩
            cases v with
            | list l =>
              cases l with
              | nil =>
                refine always_xrdStopDelete ⟨rfl, d, ?_, .inr List.mem_append_cons_self⟩
                  fun _ => before_snoc _ _ _ List.mem_append_cons_self
                exact List.mem_append_left _ (List.mem_append_left _ (List.mem_append_left _ (List.mem_append_left _ hget)))
              | cons a b => trivial
            | _ => trivial
          | _ => trivial
      | notFound =>
        exact finish _ (List.mem_append_left _ (List.mem_append_left _ hget)) (.inl List.mem_append_cons_self)
      | _ => trivial
    | _ => trivial
  | _ => trivial

/- The same walk as `always_definedRec` with `d.of`, `claimCtrl`, the offered finalizer; there is no DeleteAll: the claims
listed are deleted one by one (`always_deleteEach`). -/
theorem always_offeredRec (n : String) : Always (guardH .offered n) [] (offeredRec n) := by
  refine ⟨trivial, fun x => ?_⟩
  cases x with
  | obj d =>
    refine always_ite (fun _ => trivial) fun _ => ⟨trivial, fun y => ?_⟩
    have hget : (Req.get ⟨.xrd, n⟩, Resp.obj d) ∈ ([] : Hist) ++ [(Req.get ⟨.xrd, n⟩, Resp.obj d)] :=
      List.mem_append_cons_self
    cases y with
    | obj d' =>
      refine ⟨trivial, fun z => ?_⟩
      have finish : ∀ h', (Req.get ⟨.xrd, n⟩, Resp.obj d) ∈ h' → CRDNotOursSeen h' d.of d.uid →
          Always (guardH .offered n) h' (xrdFinish ⟨.xrd, n⟩ d' (claimCtrl n) c08OfferedFinalizer) := by
        intro h' hget hno
        refine always_xrdFinish ⟨rfl, d, hget, .inl hno⟩ fun _ => ⟨rfl, d, List.mem_append_left _ hget, ?_⟩
        exact hno.mono fun _ => List.mem_append_left _
      cases z with
      | obj c =>
        refine always_ite (fun hc => ?_) fun _ => ?_
        · refine finish _ (List.mem_append_left _ (List.mem_append_left _ hget)) (.inr ⟨c, List.mem_append_cons_self, ?_⟩)
          simpa using hc
        · refine ⟨trivial, fun v => ?_⟩
          cases v with
          | list l =>
            cases l with
            | nil =>
              refine always_xrdStopDelete ⟨rfl, d, ?_, .inr List.mem_append_cons_self⟩
                fun _ => before_snoc _ _ _ List.mem_append_cons_self
              exact List.mem_append_left _ (List.mem_append_left _ (List.mem_append_left _ hget))
            | cons a b => exact always_deleteEach n _ _ fun o ho => by simpa using (List.mem_filter.mp ho).2
          | _ => trivial
      | notFound =>
        exact finish _ (List.mem_append_left _ (List.mem_append_left _ hget)) (.inl List.mem_append_cons_self)
      | _ => trivial
    | _ => trivial
  | _ => trivial

theorem always_revFinalize (n : String) (h : Hist) (pr : Obj) (hl : NotInLockSeen h n) :
    Always (guardH .rev n) h (revFinalize ⟨.rev, n⟩ pr) :=
  always_ite (fun _ => ⟨fun _ => ⟨rfl, hl⟩, fun y => by cases y <;> trivial⟩) fun _ => trivial

theorem always_revRec (n : String) : Always (guardH .rev n) [] (revRec n) := by
  refine ⟨trivial, fun x => ?_⟩
  cases x with
  | obj pr =>
    refine always_ite (fun _ => always_statusThen) fun _ => always_ite (fun _ => trivial) fun _ =>
      ⟨trivial, fun y => ?_⟩
    cases y with
    | ok =>
      refine ⟨trivial, fun z => ?_⟩
      cases z with
      | obj l =>
        refine always_ite (fun _ => ⟨trivial, fun u => ?_⟩)
          fun hc => always_revFinalize n _ pr (.inr (.inl ⟨l, List.mem_append_cons_self, by simpa using hc⟩))
        cases u with
        | obj l' => exact always_revFinalize n _ pr (.inr (.inr ⟨_, l', List.mem_append_cons_self⟩))
        | _ => trivial
      | notFound => exact always_revFinalize n _ pr (.inl (List.mem_append_cons_self))
      | _ => trivial
    | _ => trivial
  | _ => trivial

theorem always_usageFinalize (n : String) (h : Hist) (u : Obj)
    (hget : (Req.get ⟨.usage, n⟩, Resp.obj u) ∈ h)
    (hu : u.ref = "" ∨ u.flag = false ∨ (Req.get ⟨u.refKind, u.ref⟩, Resp.notFound) ∈ h) :
    Always (guardH .usage n) h (usageFinalize ⟨.usage, n⟩ u) :=
  always_ite (fun _ => ⟨fun _ => ⟨rfl, u, hget, rfl, hu⟩, fun y => by cases y <;> trivial⟩) fun _ => trivial

theorem always_usageUsed (n : String) (h : Hist) (u : Obj)
    (hget : (Req.get ⟨.usage, n⟩, Resp.obj u) ∈ h)
    (hu : u.ref = "" ∨ u.flag = false ∨ (Req.get ⟨u.refKind, u.ref⟩, Resp.notFound) ∈ h) :
    Always (guardH .usage n) h (usageUsed ⟨.usage, n⟩ u) := by
  have later : ∀ h' : Hist, (∀ p ∈ h, p ∈ h') → Always (guardH .usage n) h' (usageFinalize ⟨.usage, n⟩ u) :=
    fun h' hs => always_usageFinalize n h' u (hs _ hget) (hu.imp_right (.imp_right (hs _)))
  refine ⟨trivial, fun x => ?_⟩
  cases x with
  | obj used =>
    refine ⟨trivial, fun y => ?_⟩
    cases y with
    | list l =>
      refine always_ite (fun _ => ⟨trivial, fun z => ?_⟩)
        fun _ => later _ fun _ hp => List.mem_append_left _ (List.mem_append_left _ hp)
      cases z with
      | obj o => exact later _ fun _ hp => List.mem_append_left _ (List.mem_append_left _ (List.mem_append_left _ hp))
      | _ => trivial
    | _ => trivial
  | notFound => exact later _ fun _ hp => List.mem_append_left _ hp
  | _ => trivial

theorem always_usageRec (n : String) : Always (guardH .usage n) [] (usageRec n) := by
  refine ⟨trivial, fun x => ?_⟩
  cases x with
  | obj u =>
    have hget : (Req.get ⟨.usage, n⟩, Resp.obj u) ∈ ([] : Hist) ++ [(Req.get ⟨.usage, n⟩, Resp.obj u)] :=
      List.mem_append_cons_self
    refine always_ite (fun _ => ⟨trivial, fun y => ?_⟩) fun _ => always_ite (fun _ => trivial) fun _ =>
      always_ite (fun _ => ⟨trivial, fun y => ?_⟩) fun hc => always_usageUsed n _ u hget ?_
    · cases y with
      | list l => cases l <;> trivial
      | _ => trivial
    · cases y with
      | notFound => exact always_usageUsed n _ u (List.mem_append_left _ hget) (.inr (.inr (List.mem_append_cons_self)))
      | _ => trivial
    · by_cases hr : u.ref = ""
      · exact .inl hr
      · exact .inr (.inl (by simpa [hr] using hc))
  | _ => trivial

theorem always_program (c : Ctl) (n : String) : Always (guardH c n) [] (program c n) := by
  cases c
  · exact always_claimRec n
  · exact always_xrRec n
  · exact always_definedRec n
  · exact always_offeredRec n
  · exact always_revRec n
  · exact always_usageRec n

theorem always_issued (sm : Sem St Req Resp) (plan : Plan) (φ : Hist → Req → Prop) (k : Nat) (h : Hist) (p : P) (s : St)
    (hp : Always φ h p) : ∀ x ∈ issued sm plan k h p s, φ x.1 x.2 := by
  induction p generalizing k h s with
  | ret a => intro x hx; cases hx
  | call r c ih =>
    obtain ⟨h0, hk⟩ := hp
    have next : ∀ (y : Resp) (s' : St), ∀ x ∈ (h, r) :: issued sm plan (k+1) (h ++ [(r, y)]) (c y) s', φ x.1 x.2 := by
      intro y s' x hx
      rcases List.mem_cons.mp hx with e | e
      · subst e; exact h0
      · exact ih _ _ _ _ (hk _) x e
    intro x hx
    unfold issued at hx
    split at hx
    · exact next _ _ x hx
    · exact next _ _ x hx
    · exact next _ _ x hx
    · rw [List.mem_singleton.mp hx]; exact h0
    · rw [List.mem_singleton.mp hx]; exact h0

theorem issued_guarded (sm : Sem St Req Resp) (plan : Plan) (s : St) (c : Ctl) (n : String) :
    ∀ x ∈ issued sm plan 0 [] (program c n) s, guardH c n x.1 x.2 :=
  always_issued sm plan _ 0 [] _ s (always_program c n)

end Xp.C08
