import Xp.Proofs.C01Probe
import Xp.Model.C03
/-
C03 over the reconcile model of C01. The function composer is walked call by call with the store's own
replies in two ways, both instances of `Walker` (Xp/Proofs/C01Prog.lean): `Emits sem Q` — which requests it
can issue under every fault plan — and `Applies X` — which it has applied by the time it writes the
references. `Compose` up to the collection is walked here once, for any `Walker`. The two meet in `fn_exact`:
exactness of the collection under every fault plan. `Issues Q` (what a block issues whatever is replied to it)
goes its own way, block by block. At the end: the collector with its controller check (Xp/Model/C03.lean).
What speaks of C01's programs alone (the request classes, the walks, `Applies`, `fn_collects`) is declared in namespace
`Xp.C01`, beside `Walker`; what speaks of Model/C03 (`undesiredOf`, the justification, exactness, `gcFnFull`) in `Xp.C03`.
-/
namespace Xp.C03
open Xp.C01

/-- requests that cannot change a composed resource or spec.resourceRefs -/
def Harmless : Req → Prop
  | .getXR | .addFinalizer _ | .getObj _ _ | .getCached _ _ | .statusUpdate _ => True
  | _ => False

end Xp.C03

namespace Xp.C01
open Xp.C03 (Harmless)
variable {Q X : Req → Prop}

/-- not a garbage-collection request (label-stripping Update or Delete of a composed resource) -/
def NoGc : Req → Prop
  | .delete _ _ | .gcUpdate _ _ => False
  | _ => True

theorem _root_.Xp.C03.Harmless.noGc {r : Req} (h : Harmless r) : NoGc r := by
  cases r <;> first | trivial | exact h

/-- if `r` is a garbage-collection request, `J` holds of its target -/
def GcOnly (J : String → String → Prop) (r : Req) : Prop :=
  ∀ kind name, (r = .delete kind name ∨ r = .gcUpdate kind name) → J kind name

theorem GcOnly.of_noGc {J : String → String → Prop} {r : Req} (h : NoGc r) : GcOnly J r := by
  intro kind name hr
  rcases hr with rfl | rfl <;> exact h.elim

theorem GcOnly.pair {J : String → String → Prop} {kind name : String} (h : J kind name) :
    GcOnly J (.gcUpdate kind name) ∧ GcOnly J (.delete kind name) := by
  constructor
  · intro kind' name' hr
    rcases hr with hr | hr
    · cases hr
    · cases hr
      exact h
  · intro kind' name' hr
    rcases hr with hr | hr
    · cases hr
      exact h
    · cases hr

theorem GcOnly.ne_of_not {J : String → String → Prop} {r : Req} (h : GcOnly J r) {kind name : String}
    (hn : ¬ J kind name) : r ≠ .delete kind name ∧ r ≠ .gcUpdate kind name :=
  ⟨fun e => hn (h _ _ (Or.inl e)), fun e => hn (h _ _ (Or.inr e))⟩

/-- a write of spec.resourceRefs (server-side apply by the function composer, Update by P&T) -/
def RefsWrite : Req → Prop
  | .patchRefs _ _ | .updateXR _ _ _ => True
  | _ => False

/-- what `Compose` does after the collection: persist the references, apply, write the status -/
def afterGc (lrv : Nat) (ch : Choices) (named : List Named) : P :=
  wcall lrv (.patchRefs ch.ver (refsOf named)) fun _ =>
  applyFn lrv (ch.applyOrder named) true fun synced =>
  .call .statusPatch fun
    | .okRv rv => finish rv synced
    | .conflict => onConflict
    | _ => onErrorO none

/-- what `Compose` does once the observation is complete; the collector is a parameter (`gcFn lrv`
for `composeFn`, the collector with its controller check for `Xp.C03.composeFnFull`) -/
def composeTail (gc : List CObj → P → P) (lrv : Nat) (out : Obs → FnOut) (ch : Choices) (obs : Obs) : P :=
  match out obs with
  | .failed => onError lrv
  | .desired ds =>
    renderFn lrv obs ds ch.fresh [] fun named =>
    gc (ch.gcOrder (Xp.C03.undesiredOf obs ds)) (afterGc lrv ch named)

theorem composeFn_eq (lrv : Nat) (refs : List Ref) (out : Obs → FnOut) (ch : Choices) :
    composeFn lrv refs out ch = observeFn lrv refs [] (composeTail (gcFn lrv) lrv out ch) := rfl

theorem composeTail_failed {gc : List CObj → P → P} {lrv : Nat} {out : Obs → FnOut} {ch : Choices} {obs : Obs}
    (h : out obs = .failed) : composeTail gc lrv out ch obs = onError lrv := by
  unfold composeTail
  rw [h]

theorem composeTail_desired {gc : List CObj → P → P} {lrv : Nat} {out : Obs → FnOut} {ch : Choices} {obs : Obs}
    {ds : List Desired} (h : out obs = .desired ds) :
    composeTail gc lrv out ch obs =
      renderFn lrv obs ds ch.fresh [] fun named =>
      gc (ch.gcOrder (Xp.C03.undesiredOf obs ds)) (afterGc lrv ch named) := by
  unfold composeTail
  rw [h]

/-- the composer `Reconcile` runs once the XR carries its finalizer, the name generator with its one try:
`bodyT 1` of Proofs/C01Prog.lean (`bodyT_one`) -/
def bodyOf (m : Mode) (refs : List Ref) (lrv : Nat) : P :=
  match m with
  | .fn out ch => composeFn lrv refs out ch
  | .pt tmpl fresh ver => composePT lrv refs tmpl fresh ver

theorem bodyT_one (m : Mode) (refs : List Ref) (lrv : Nat) : bodyT 1 m refs lrv = bodyOf m refs lrv := by
  cases m
  · exact composeFnT_one ..
  · exact composePTT_one ..

theorem issues_collect {lrv : Nat} {o : CObj} {k : P}
    (ho : Q (.gcUpdate o.kind o.name) ∧ Q (.delete o.kind o.name)) (hs : Q (.statusUpdate (some lrv)))
    (hk : Issues Q k) : Issues Q (collect lrv o k) :=
  issues_wcall _ _ _ ho.1 hs fun _ => issues_wcall _ _ _ ho.2 hs fun _ => hk

theorem issues_readThrough {lrv : Nat} {k n : String} {found : CObj → P} {absent : P}
    (hgetc : Q (.getCached k n)) (hget : Q (.getObj k n)) (hst : Q (.statusUpdate (some lrv)))
    (hf : ∀ o, Issues Q (found o)) (hm : Issues Q absent) : Issues Q (readThrough lrv k n found absent) :=
  Issues.call _ _ hgetc fun x => by
    cases x with
    | found o => exact hf o
    | notFound =>
      refine Issues.call _ _ hget fun y => ?_
      cases y with
      | found o => exact hf o
      | notFound => exact hm
      | _ => exact issues_onErrorO_status _ hst
    | _ => exact issues_onErrorO_status _ hst

theorem issues_observeFn (hget : ∀ k n, Q (.getObj k n)) (hgetc : ∀ k n, Q (.getCached k n))
    (lrv : Nat) (hst : Q (.statusUpdate (some lrv))) (k : Obs → P) (hk : ∀ obs, Issues Q (k obs))
    (rs : List Ref) (acc : Obs) : Issues Q (observeFn lrv rs acc k) := by
  fun_induction observeFn lrv rs acc k with
  | case1 => exact hk _
  | case2 _ _ _ _ _ ih => exact ih hk   -- an unnamed reference is passed over
  | case3 r rs acc k hn found ih2 ih1 =>   -- the read; foreign: passed over, unannotated: error, else recorded
    refine issues_readThrough (hgetc _ _) (hget _ _) hst (fun o => ?_) (ih2 hk)
    dsimp only [found]
    split
    · exact ih2 hk
    · split
      · exact issues_onErrorO_status _ hst
      · exact ih1 o hk

theorem issues_gcFn (lrv : Nat) (os : List CObj) (k : P)
    (hQ : ∀ o ∈ os, Q (.gcUpdate o.kind o.name) ∧ Q (.delete o.kind o.name))
    (hs : Q (.statusUpdate (some lrv))) (hk : Issues Q k) : Issues Q (gcFn lrv os k) := by
  induction os with
  | nil => exact hk
  | cons o os ih =>
    exact issues_collect (hQ o (List.mem_cons_self ..)) hs (ih fun o' ho' => hQ o' (List.mem_cons_of_mem _ ho'))

theorem issues_afterGc (lrv : Nat) (ch : Choices) (named : List Named) : Issues NoGc (afterGc lrv ch named) := by
  refine issues_wcall _ _ _ trivial trivial fun _ => issues_applyFn _ _ trivial (fun b => ?_) _ _ fun _ _ => trivial
  refine Issues.call _ _ trivial fun x => ?_
  cases x with
  | okRv rv => exact issues_finish _ _ trivial
  | conflict => exact Issues.ret _
  | _ => exact issues_onErrorO_status _ trivial

namespace Walker
variable {W : P → St → Prop} {Ok : St → Req → Prop} (hW : Walker W Ok)
include hW

/-- the render loop with one try, nothing being asked of the candidates or claimed of the entries -/
theorem renderFn (s : St) (lrv : Nat) (obs : Obs) (k : List Named → P) (hk : ∀ named, W (k named) s)
    (ds : List Desired) (fresh : List String) : W (renderFn lrv obs ds fresh [] k) s :=
  renderFnT_one lrv obs k ds fresh [] ▸ hW.renderFnT 1 lrv obs ds fresh k (fun _ => True) (fun _ _ _ => trivial) trivial
    (fun _ => True) (fun _ _ _ _ => trivial) (fun _ _ _ _ _ _ => trivial) fun named _ _ => hk named

/-- `Compose` up to the collection: observe, run the pipeline, name the desired resources -/
theorem composeFn (out : Obs → FnOut) (ch : Choices) (refs : List Ref) (lrv : Nat) {s : St} {objs : List CObj}
    (hobjs : s.objs = objs)
    (hgc : ∀ obs ds, observePure objs refs [] = some obs → out obs = .desired ds →
      ∀ named, W (gcFn lrv (ch.gcOrder (Xp.C03.undesiredOf obs ds)) (afterGc lrv ch named)) s) :
    W (composeFn lrv refs out ch) s := by
  subst hobjs
  rw [composeFn_eq]
  refine observeFn_pure_rule s (W := (W · s)) hW.readThrough _ _ ?_
  cases hobs : observePure s.objs refs [] with
  | none => exact hW.onErrorO _ _
  | some obs =>
    rw [Option.elim_some]
    cases ho : out obs with
    | failed =>
      rw [composeTail_failed ho]
      exact hW.onErrorO _ _
    | desired ds =>
      rw [composeTail_desired ho]
      exact hW.renderFn s lrv obs _ (hgc obs ds hobs ho) _ _

end Walker

/-- the header of `Reconcile` reads the XR and adds the finalizer, which leaves objects and references as they
are (`Walker.recContT`, for any number of tries of the name generator; `reconcile` is the one with one try) -/
theorem Walker.reconcile {W : P → St → Prop} {Ok : St → Req → Prop} (hW : Walker W Ok) (m : Mode) (s : St)
    (hfin : Ok s (.addFinalizer s.xrRv)) (hbody : ∀ lrv s', s'.objs = s.objs → W (bodyOf m s.refs lrv) s') :
    W (reconcile m) s := by
  rw [← reconcileT_one', reconcileT]
  refine hW.call (hW.quiet (.inl rfl)) ?_ (hW.ret nofun) (hW.ret nofun)
  rw [exec_getXR]
  refine hW.recContT 1 m hfin (fun _ => ?_) fun rv' _ => ?_
  · exact bodyT_one m .. ▸ hbody _ s rfl
  · exact bodyT_one m .. ▸ hbody _ _ (by rw [exec_addFinalizer])

/-- Under every fault plan, `p` run from `s` has applied a request of class `X` by the time it issues a
write of the references, or returns success. The walker of the exactness theorems' "every target is
collected"; `X := fun _ => False` says that the run never gets that far. -/
def Applies (X : Req → Prop) : P → St → Prop
  | .ret a, _ => a ≠ .success
  | .call r c, s => ¬ RefsWrite r ∧ (X r ∨ Applies X (c (exec s r).2) (exec s r).1) ∧
      Applies X (c (sem.errResp .fail r)) s ∧ Applies X (c (sem.errResp .conflict r)) s

theorem Applies.mem {p : P} {s : St} (h : Applies X p s) (plan : Plan) (k : Nat)
    (hdone : (run sem plan k p s).2 = some .success ∨ ∃ e ∈ callLog sem plan k p s, RefsWrite e.1) :
    ∃ x ∈ applied sem plan k p s, X x := by
  induction p generalizing k s with
  | ret a => exact hdone.elim (fun e => absurd (Option.some.inj e) h) fun ⟨_, he, _⟩ => nomatch he
  | call r c ih =>
    obtain ⟨hr, hok, hfail, hconf⟩ := h
    -- the write of the references that `hdone` speaks of is not `r`: it comes later
    have later : ∀ {l : List (Req × Outcome × Option Resp)} {o : Outcome} {y : Option Resp},
        (∃ e ∈ (r, o, y) :: l, RefsWrite e.1) → ∃ e ∈ l, RefsWrite e.1 := by
      rintro l o y ⟨e, he, hw⟩
      rcases List.mem_cons.mp he with rfl | he
      · exact absurd hw hr
      · exact ⟨e, he, hw⟩
    cases hp : plan k <;> simp only [run, callLog, applied, hp] at hdone ⊢
    case ok =>
      rcases hok with hx | hok
      · exact ⟨r, List.mem_cons_self .., hx⟩
      · obtain ⟨x, hm, hx⟩ := ih _ hok _ (hdone.imp id later)
        exact ⟨x, List.mem_cons_of_mem _ hm, hx⟩
    case fail => exact ih _ hfail _ (hdone.imp id later)
    case conflict => exact ih _ hconf _ (hdone.imp id later)
    case crashBefore | crashAfter =>
      -- no result, and the one request issued is `r`
      rcases hdone with e | h
      · cases e
      · obtain ⟨_, he, _⟩ := later h
        cases he

theorem applies_walker : Walker (Applies X) fun _ r => ¬ RefsWrite r :=
  ⟨id, fun hr hok hfail hconf => ⟨hr, Or.inr hok, hfail, hconf⟩, fun {r _} h hw => by
    rcases h with h | ⟨_, rfl⟩
    · cases r <;> first | exact hw | cases h
    · exact hw⟩

theorem applies_wcall_stop {lrv : Nat} {r : Req} {k : Resp → P} {s : St} (hr : ¬ RefsWrite r) (hx : X r) :
    Applies X (wcall lrv r k) s := by
  refine ⟨hr, Or.inl hx, applies_walker.onErrorO _ _, ?_⟩
  rw [sem_errResp_conflict]
  cases isRead r with
  | false => exact nofun
  | true => exact applies_walker.onErrorO _ _

theorem applies_collect {lrv : Nat} {o : CObj} {k : P} {s : St}
    (h : X (.gcUpdate o.kind o.name) ∨ X (.delete o.kind o.name) ∨ Applies X k (exec s (.delete o.kind o.name)).1) :
    Applies X (collect lrv o k) s := by
  rcases h with h | h | h
  · exact applies_wcall_stop id h
  · exact applies_walker.wcall id (by rw [exec_gcUpdate_state]; exact applies_wcall_stop id h)
  · exact applies_walker.collect ⟨id, id⟩ h

theorem applies_gcFn (lrv : Nat) (k : P) {o : CObj} (ho : X (.gcUpdate o.kind o.name) ∨ X (.delete o.kind o.name)) :
    ∀ (os : List CObj) (s : St), o ∈ os → Applies X (gcFn lrv os k) s := by
  intro os
  induction os with
  | nil => exact fun _ h => nomatch h
  | cons o' os ih =>
    intro s h
    rcases List.mem_cons.mp h with rfl | h
    · exact applies_collect (ho.imp_right Or.inl)
    · exact applies_collect (Or.inr (Or.inr (ih _ h)))

theorem applies_composeFn (out : Obs → FnOut) (ch : Choices) (refs : List Ref) (lrv : Nat) {s : St} {objs : List CObj}
    (hobjs : s.objs = objs)
    (hgc : ∀ obs ds, observePure objs refs [] = some obs → out obs = .desired ds →
      ∃ o ∈ ch.gcOrder (Xp.C03.undesiredOf obs ds), X (.gcUpdate o.kind o.name) ∨ X (.delete o.kind o.name)) :
    Applies X (composeFn lrv refs out ch) s :=
  applies_walker.composeFn out ch refs lrv hobjs fun obs ds hobs ho _ =>
    (hgc obs ds hobs ho).elim fun _ h => applies_gcFn lrv _ h.2 _ s h.1

theorem issued_of_applied {p : P} {s : St} {plan : Plan} {k : Nat} {r : Req} (h : r ∈ applied sem plan k p s)
    (hw : RefsWrite r) : ∃ e ∈ callLog sem plan k p s, RefsWrite e.1 :=
  (applied_sub_callLog sem plan p k s r h).elim fun e he => ⟨e, he.1, he.2 ▸ hw⟩

/-- **Every target is collected before the references are written — under every fault plan.** `hgc`: Go's map order in
the collection loop (`Choices.gcOrder`) leaves nothing out; `emits_fn_justified` needs that it adds nothing, `fn_exact` both. -/
theorem fn_collects (out : Obs → FnOut) (ch : Choices) (hgc : ∀ l x, x ∈ l → x ∈ ch.gcOrder l) (plan : Plan) (k : Nat)
    (s : St) (hdone : (run sem plan k (reconcile (.fn out ch)) s).2 = some .success ∨
      ∃ e ∈ callLog sem plan k (reconcile (.fn out ch)) s, RefsWrite e.1) :
    ∃ obs ds, observePure s.objs s.refs [] = some obs ∧ out obs = .desired ds ∧
      ∀ o ∈ Xp.C03.undesiredOf obs ds,
        Req.gcUpdate o.kind o.name ∈ applied sem plan k (reconcile (.fn out ch)) s ∧
        Req.delete o.kind o.name ∈ applied sem plan k (reconcile (.fn out ch)) s := by
  have happ : ∀ X : Req → Prop, (∀ obs ds, observePure s.objs s.refs [] = some obs → out obs = .desired ds →
      ∃ o ∈ ch.gcOrder (Xp.C03.undesiredOf obs ds), X (.gcUpdate o.kind o.name) ∨ X (.delete o.kind o.name)) →
      ∃ x ∈ applied sem plan k (reconcile (.fn out ch)) s, X x := fun X h =>
    (applies_walker.reconcile _ s id fun lrv _ hobjs => applies_composeFn out ch s.refs lrv hobjs h).mem plan k hdone
  -- without an observation and a desired state there is no target, and no request of the empty class
  obtain ⟨obs, ds, hobs, hout⟩ : ∃ obs ds, observePure s.objs s.refs [] = some obs ∧ out obs = .desired ds :=
    Classical.byContradiction fun hno =>
      (happ (fun _ => False) fun obs ds h1 h2 => (hno ⟨obs, ds, h1, h2⟩).elim).elim fun _ h => h.2
  refine ⟨obs, ds, hobs, hout, fun o ho => ?_⟩
  have target : ∀ X : Req → Prop, X (.gcUpdate o.kind o.name) ∨ X (.delete o.kind o.name) →
      ∃ x ∈ applied sem plan k (reconcile (.fn out ch)) s, X x := fun X hX =>
    happ X fun obs' ds' hobs' hout' => by
      cases hobs.symm.trans hobs'
      cases hout.symm.trans hout'
      exact ⟨o, hgc _ _ ho, hX⟩
  obtain ⟨_, h1, rfl⟩ := target (· = .gcUpdate o.kind o.name) (Or.inl rfl)
  obtain ⟨_, h2, rfl⟩ := target (· = .delete o.kind o.name) (Or.inr rfl)
  exact ⟨h1, h2⟩

theorem gc_exact_of {J T : String → String → Prop} {l : List Req}
    (hlog : ∀ r ∈ l, GcOnly J r) (hJT : ∀ k n, J k n → T k n)
    (hT : ∀ k n, T k n → Req.gcUpdate k n ∈ l ∧ Req.delete k n ∈ l) (kind name : String) :
    (Req.delete kind name ∈ l ↔ T kind name) ∧ (Req.gcUpdate kind name ∈ l ↔ T kind name) :=
  ⟨⟨fun h => hJT _ _ (hlog _ h _ _ (Or.inl rfl)), fun h => (hT _ _ h).2⟩,
    ⟨fun h => hJT _ _ (hlog _ h _ _ (Or.inr rfl)), fun h => (hT _ _ h).1⟩⟩

theorem emits_walker (hQ : ∀ r, Harmless r → Q r) : Walker (Emits sem Q) fun _ r => Q r :=
  ⟨fun _ => trivial, fun hr hok hfail hconf => WpE.call hr hok hfail hconf, fun {r _} h => hQ r (by
    rcases h with h | ⟨_, rfl⟩
    · cases r <;> first | trivial | cases h
    · trivial)⟩

theorem emits_composeFn (hQ : ∀ r, NoGc r → Q r) (out : Obs → FnOut) (ch : Choices)
    (refs : List Ref) (lrv : Nat) {s : St} {objs : List CObj} (hobjs : s.objs = objs)
    (hgc : ∀ obs ds, observePure objs refs [] = some obs → out obs = .desired ds →
      ∀ o ∈ ch.gcOrder (Xp.C03.undesiredOf obs ds),
        Q (.gcUpdate o.kind o.name) ∧ Q (.delete o.kind o.name)) :
    Emits sem Q (composeFn lrv refs out ch) s :=
  (emits_walker fun r h => hQ r h.noGc).composeFn out ch refs lrv hobjs fun obs ds hobs ho _ =>
    (issues_gcFn _ _ _ (hgc obs ds hobs ho) (hQ _ trivial) ((issues_afterGc _ _ _).mono hQ)).emits s

/-- **No mutation on failure**, in its natural form: if observing the composed resources fails, or the
pipeline fails on what is observed in the store at hand, the reconcile issues only requests that cannot
change a composed resource or spec.resourceRefs. -/
theorem emits_of_failed (out : Obs → FnOut) (ch : Choices) (s : St)
    (hfail : ∀ obs, observePure s.objs s.refs [] = some obs → out obs = .failed) :
    Emits sem Harmless (reconcile (.fn out ch)) s :=
  (emits_walker fun _ h => h).reconcile _ s trivial fun lrv _ hobjs =>
    (emits_walker fun _ h => h).composeFn out ch s.refs lrv hobjs fun obs _ hobs ho =>
      nomatch (hfail obs hobs).symm.trans ho

theorem observedAs_key_unique {s : St} {a a' : String} {o o' : CObj} (h : ObservedAs s a o) (h' : ObservedAs s a' o')
    (hk : o'.kind = o.kind) (hn : o'.name = o.name) : o' = o ∧ a' = a := by
  have := h'.found
  rw [hk, hn, h.found] at this
  cases this
  exact ⟨rfl, h'.annot.symm.trans h.annot⟩

def okApplied (p : P) (s : St) : List Req := applied sem Plan.allOk 0 p s

theorem okApplied_ret (a : Result) (s : St) : okApplied (.ret a) s = [] := rfl

theorem okApplied_call (r : Req) (c : Resp → P) (s : St) :
    okApplied (.call r c) s = r :: okApplied (c (exec s r).2) (exec s r).1 :=
  congrArg (r :: ·) (applied_allOk_index sem _ 1 _)

end Xp.C01

namespace Xp.C03
open Xp.C01

theorem mem_undesiredOf (obs : Obs) (ds : List Desired) (o : CObj) :
    o ∈ undesiredOf obs ds ↔ ∃ a, (a, o) ∈ obs ∧ ∀ d ∈ ds, d.rname ≠ a := by
  simp only [undesiredOf, List.mem_map, List.mem_filter, Bool.not_eq_true', List.any_eq_false, decide_eq_true_eq]
  constructor
  · rintro ⟨⟨a, o'⟩, ⟨hm, hn⟩, rfl⟩
    exact ⟨a, hm, fun d hd => by simpa using hn d hd⟩
  · rintro ⟨a, hm, hn⟩
    exact ⟨(a, o), ⟨hm, fun d hd => by simpa using hn d hd⟩, rfl⟩

/-- The justification every garbage-collection request `(kind, name)` of the function composer
has: the observation of the store the reconcile started from succeeded, the pipeline returned
a desired state for it, and `(kind, name)` is an observed composed resource — referenced,
existing, not controlled by someone else, annotated `a` — whose resource name `a` is not in
that desired state. -/
def FnGcJustified (out : Obs → FnOut) (s : St) (kind name : String) : Prop :=
  ∃ obs ds a o, observePure s.objs s.refs [] = some obs ∧ out obs = .desired ds ∧ (a, o) ∈ obs ∧
    o.kind = kind ∧ o.name = name ∧ (∀ d ∈ ds, d.rname ≠ a) ∧ ObservedAs s a o

/-- **Only justified requests, under every fault plan** (the `Emits` fact behind `fn_gc_only_undesired`). -/
theorem emits_fn_justified (out : Obs → FnOut) (ch : Choices) (hgc : ∀ l x, x ∈ ch.gcOrder l → x ∈ l) (s : St) :
    Emits sem (GcOnly (FnGcJustified out s)) (reconcile (.fn out ch)) s := by
  refine (emits_walker fun _ h => GcOnly.of_noGc h.noGc).reconcile _ s (GcOnly.of_noGc trivial) fun lrv s' hobjs => ?_
  refine emits_composeFn (fun _ => GcOnly.of_noGc) out ch s.refs lrv hobjs fun obs ds hobs hout o ho => ?_
  obtain ⟨a, hm, hn⟩ := (mem_undesiredOf obs ds o).mp (hgc _ _ ho)
  exact GcOnly.pair ⟨obs, ds, a, o, hobs, hout, hm, rfl, rfl, hn,
    observePure_sound s s.refs [] obs (fun _ h => h) (fun _ h => nomatch h) hobs _ hm⟩

/-- **Exactness under every fault plan**: every target by `fn_collects`, nothing else by `emits_fn_justified`. -/
theorem fn_exact (out : Obs → FnOut) (ch : Choices) (hgc : ∀ l x, x ∈ ch.gcOrder l ↔ x ∈ l) (plan : Plan) (k : Nat) (s : St)
    (hdone : (run sem plan k (reconcile (.fn out ch)) s).2 = some .success ∨
      ∃ e ∈ callLog sem plan k (reconcile (.fn out ch)) s, RefsWrite e.1) :
    ∃ obs ds, observePure s.objs s.refs [] = some obs ∧ out obs = .desired ds ∧
      ∀ kind name,
        (Req.delete kind name ∈ applied sem plan k (reconcile (.fn out ch)) s ↔
          ∃ a o, (a, o) ∈ obs ∧ o.kind = kind ∧ o.name = name ∧ ∀ d ∈ ds, d.rname ≠ a) ∧
        (Req.gcUpdate kind name ∈ applied sem plan k (reconcile (.fn out ch)) s ↔
          ∃ a o, (a, o) ∈ obs ∧ o.kind = kind ∧ o.name = name ∧ ∀ d ∈ ds, d.rname ≠ a) := by
  obtain ⟨obs, ds, hobs, hout, hcol⟩ := fn_collects out ch (fun l x => (hgc l x).mpr) plan k s hdone
  refine ⟨obs, ds, hobs, hout, gc_exact_of ((emits_fn_justified out ch (fun l x => (hgc l x).mp) s).applied plan k) ?_ ?_⟩
  · rintro kind name ⟨obs', ds', a, o, hobs', hout', hm, hk, hn, hnd, _⟩
    cases hobs.symm.trans hobs'
    cases hout.symm.trans hout'
    exact ⟨a, o, hm, hk, hn, hnd⟩
  · rintro kind name ⟨a, o, hm, rfl, rfl, hnd⟩
    exact hcol o ((mem_undesiredOf obs ds o).mpr ⟨a, hm, hnd⟩)

/-! ### the collector with its controller check (`gcFnFull`, `composeFnFull` of Xp/Model/C03.lean) -/

theorem gcFnFull_cons (lrv : Nat) (o : CObj) (os : List CObj) (k : P) :
    gcFnFull lrv (o :: os) k = if o.ctrl = .other then onError lrv else collect lrv o (gcFnFull lrv os k) := rfl

theorem gcFnFull_eq_gcFn (lrv : Nat) (k : P) :
    ∀ os : List CObj, (∀ o ∈ os, o.ctrl ≠ .other) → gcFnFull lrv os k = gcFn lrv os k := by
  intro os
  induction os with
  | nil =>
    intro _
    rfl
  | cons o os ih =>
    intro h
    rw [gcFnFull_cons, if_neg (h o (List.mem_cons_self ..)), ih fun o' ho' => h o' (List.mem_cons_of_mem _ ho')]
    rfl

/-- the observer never lets a foreign-controlled entry into the observation -/
theorem observeFn_congr (lrv : Nat) (k k' : Obs → P) (hk : ∀ obs, NonForeign obs → k obs = k' obs) :
    ∀ (rs : List Ref) (acc : Obs), NonForeign acc → observeFn lrv rs acc k = observeFn lrv rs acc k' := by
  intro rs
  induction rs with
  | nil => exact hk
  | cons r rs ih =>
    intro acc ha
    by_cases hn : r.name = ""
    · rw [observeFn_step, observeFn_step, if_pos hn, if_pos hn]
      exact ih acc ha
    · rw [observeFn_cons lrv rs acc k hn, observeFn_cons lrv rs acc k' hn, ih acc ha]
      refine congrArg (readThrough lrv r.kind r.name · _) (funext fun o => ?_)
      cases hs : obsStep acc o with
      | none => rfl
      | some acc' =>
        refine ih acc' ?_
        rcases obsStep_some hs with ⟨_, rfl⟩ | ⟨hc, _, rfl⟩
        · exact ha
        · intro p hp
          rcases mem_obsInsert hp with h | rfl
          · exact ha p h
          · exact hc

theorem issues_gcFnFull {Q : Req → Prop} (lrv : Nat) (k : P) (hs : Q (.statusUpdate (some lrv))) (hk : Issues Q k) :
    ∀ os : List CObj, (∀ o ∈ os, o.ctrl ≠ .other → Q (.gcUpdate o.kind o.name) ∧ Q (.delete o.kind o.name)) →
      Issues Q (gcFnFull lrv os k) := by
  intro os
  induction os with
  | nil => exact fun _ => hk
  | cons o os ih =>
    intro hQ
    rw [gcFnFull_cons]
    split
    · exact issues_onErrorO_status _ hs
    · rename_i hc
      exact issues_collect (hQ o (List.mem_cons_self ..) hc) hs (ih fun o' ho' => hQ o' (List.mem_cons_of_mem _ ho'))

/-- a foreign-controlled entry stops the collection: nothing after it is touched -/
theorem gcFnFull_foreign_stops (lrv : Nat) (o : CObj) (os : List CObj) (k : P) (h : o.ctrl = .other) :
    gcFnFull lrv (o :: os) k = onError lrv := if_pos h

end Xp.C03
