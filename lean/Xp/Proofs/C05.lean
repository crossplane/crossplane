import Xp.Model.C05
/-
C05 lemmas about conditions: `setCond`, `applyFnConds`, `markUnknown` seen through `findC` (the
whole stored condition of a type, hence its status and its reason), and what the two outcomes of a
reconcile that writes, `composeOk` and `composeError`, store for Ready and Synced.
-/
namespace Xp.C05

/-- the stored condition of type `t` -/
def findC (cs : List Cond) (t : String) : Option Cond := cs.find? (·.type = t)

theorem statusOf_eq (cs : List Cond) (t : String) : statusOf cs t = (findC cs t).map (·.status) := rfl
theorem reasonOf_eq (cs : List Cond) (t : String) : reasonOf cs t = (findC cs t).map (·.reason) := rfl

theorem findC_cons (c : Cond) (cs : List Cond) (t : String) :
    findC (c :: cs) t = if c.type = t then some c else findC cs t := by
  unfold findC
  rw [List.find?_cons]
  by_cases e : c.type = t <;> simp [e]

theorem findC_replaceAll_ne (xs : List Cond) (c : Cond) (t : String) (h : t ≠ c.type) :
    findC (setCond.replaceAll xs c) t = findC xs t := by
  fun_induction setCond.replaceAll xs c with
  | case1 => rfl
  | case2 x xs c ih =>
    rw [findC_cons, findC_cons, ih h]
    by_cases hx : x.type = c.type
    · rw [if_pos hx, if_neg (Ne.symm h), if_neg (hx ▸ Ne.symm h)]
    · rw [if_neg hx]

theorem findC_setCond_self (cs : List Cond) (c : Cond) : findC (setCond cs c) c.type = some c := by
  fun_induction setCond cs c with
  | case1 c => exact (findC_cons c [] c.type).trans (if_pos rfl)
  | case2 x xs c hx => exact (findC_cons c _ c.type).trans (if_pos rfl)
  | case3 x xs c hx ih => rw [findC_cons, if_neg hx, ih]

theorem findC_setCond_ne (cs : List Cond) (c : Cond) (t : String) (h : t ≠ c.type) :
    findC (setCond cs c) t = findC cs t := by
  fun_induction setCond cs c with
  | case1 c => exact (findC_cons c [] t).trans (if_neg (Ne.symm h))
  | case2 x xs c hx =>
    rw [findC_cons, if_neg (Ne.symm h), findC_replaceAll_ne xs c t h, findC_cons, if_neg (hx ▸ Ne.symm h)]
  | case3 x xs c hx ih => rw [findC_cons, findC_cons, ih h]

theorem statusOf_setCond_self (cs : List Cond) (c : Cond) : statusOf (setCond cs c) c.type = some c.status := by
  rw [statusOf_eq, findC_setCond_self]; rfl

theorem statusOf_setCond_ne (cs : List Cond) (c : Cond) (t : String) (h : t ≠ c.type) :
    statusOf (setCond cs c) t = statusOf cs t := by
  rw [statusOf_eq, statusOf_eq, findC_setCond_ne _ _ _ h]

theorem findC_isSome_of_mem (cs : List Cond) (c : Cond) (h : c ∈ cs) : (findC cs c.type).isSome := by
  unfold findC
  rw [List.find?_isSome]
  exact ⟨c, h, by simp⟩

/-- the last custom function condition of type `t` (later ones win) -/
def lastFn : List FnCond → String → Option Cond
  | [], _ => none
  | f :: fs, t =>
    match lastFn fs t with
    | some c => some c
    | none => if f.cond.type = t ∧ isSystem f.cond.type = false then some f.cond else none

theorem lastFn_cons (f : FnCond) (fs : List FnCond) (t : String) :
    lastFn (f :: fs) t =
      (lastFn fs t).orElse fun _ => if f.cond.type = t ∧ isSystem f.cond.type = false then some f.cond else none := by
  rw [lastFn]
  cases lastFn fs t <;> rfl

theorem lastFn_none_of_system (fn : List FnCond) (t : String) (ht : isSystem t = true) : lastFn fn t = none := by
  induction fn with
  | nil => rfl
  | cons f fs ih =>
    rw [lastFn_cons, ih, if_neg (c := _ ∧ _) fun h => by rw [h.1, ht] at h; cases h.2]
    rfl

theorem applyFnConds_spec (st : St) (fn : List FnCond) (t : String) :
    findC (applyFnConds st fn).1.conds t = (lastFn fn t).orElse (fun _ => findC st.conds t) ∧
    (applyFnConds st fn).2.contains t = (lastFn fn t).isSome := by
  induction fn generalizing st with
  | nil => exact ⟨rfl, rfl⟩
  | cons f fs ih =>
    rw [applyFnConds, lastFn_cons]
    cases hs : isSystem f.cond.type
    · rw [if_neg (by decide)]
      dsimp only
      rw [List.contains_cons, (ih _).1, (ih _).2]
      cases lastFn fs t with
      | some c => exact ⟨rfl, Bool.or_true _⟩
      | none =>
        by_cases e : f.cond.type = t
        · rw [if_pos (c := _ ∧ _) ⟨e, rfl⟩, e]
          exact ⟨e ▸ findC_setCond_self st.conds f.cond, by simp⟩
        · rw [if_neg (c := _ ∧ _) (fun h => e h.1)]
          exact ⟨findC_setCond_ne st.conds f.cond t (Ne.symm e), by simp [Ne.symm e]⟩
    · rw [if_pos rfl, (ih st).1, (ih st).2, if_neg (c := _ ∧ _) (fun h => nomatch h.2)]
      cases lastFn fs t <;> exact ⟨rfl, rfl⟩

theorem findC_applyFnConds_system (st : St) (fn : List FnCond) (t : String) (ht : isSystem t = true) :
    findC (applyFnConds st fn).1.conds t = findC st.conds t := by
  rw [(applyFnConds_spec st fn t).1, lastFn_none_of_system fn t ht]
  rfl

theorem applyFnConds_claimTypes (st : St) (fn : List FnCond) (t : String)
    (h : t ∈ (applyFnConds st fn).1.claimTypes) : t ∈ st.claimTypes ∨ isSystem t = false := by
  induction fn generalizing st with
  | nil => exact Or.inl h
  | cons f fs ih =>
    unfold applyFnConds at h
    split at h
    · exact ih st h
    · rename_i hs
      have hs' : isSystem f.cond.type = false := by simpa using hs
      simp only [] at h
      rcases ih _ h with h1 | h1
      · simp only [] at h1
        split at h1
        · rw [List.mem_append] at h1
          rcases h1 with h1 | h1
          · exact Or.inl h1
          · simp at h1; subst h1; exact Or.inr hs'
        · exact Or.inl h1
      · exact Or.inr h1

theorem findC_markUnknown (seen : List String) (snap cs : List Cond) (t : String) :
    findC (markUnknown seen snap cs) t =
      if (isSystem t || seen.contains t) = false ∧ (findC snap t).isSome then some ⟨t, "Unknown", "FatalError"⟩
      else findC cs t := by
  induction snap generalizing cs with
  | nil => exact (if_neg (fun h => nomatch h.2)).symm
  | cons c rest ih =>
    have step : markUnknown seen (c :: rest) cs = markUnknown seen rest
        (if (isSystem c.type || seen.contains c.type) = true then cs else setCond cs ⟨c.type, "Unknown", "FatalError"⟩) := rfl
    rw [step, ih, findC_cons]
    by_cases e : c.type = t
    · subst e
      cases g : isSystem c.type || seen.contains c.type
      · simp [findC_setCond_self cs ⟨c.type, "Unknown", "FatalError"⟩]
      · simp
    · rw [if_neg e]
      have : findC (if (isSystem c.type || seen.contains c.type) = true then cs
          else setCond cs ⟨c.type, "Unknown", "FatalError"⟩) t = findC cs t := by
        split
        · rfl
        · exact findC_setCond_ne _ _ _ (Ne.symm e)
      rw [this]

theorem findC_markUnknown_other (seen : List String) (snap cs : List Cond) (t : String)
    (ht : isSystem t = true ∨ seen.contains t = true) :
    findC (markUnknown seen snap cs) t = findC cs t := by
  rw [findC_markUnknown, if_neg]
  rintro ⟨h, _⟩
  rcases ht with ht | ht
  · rw [ht] at h
    cases h
  · rw [ht, Bool.or_true] at h
    cases h

theorem status_false_ne_true : "False" ≠ "True" := by decide
theorem ready_ne_synced : "Ready" ≠ "Synced" := by decide

theorem ready_isSystem : isSystem "Ready" = true := by decide
theorem synced_isSystem : isSystem "Synced" = true := by decide

theorem readyCond_type (composed : List Res) (explicit : Option Bool) : (readyCond composed explicit).type = "Ready" := by
  unfold readyCond; cases explicit with
  | none => simp only []; split <;> rfl
  | some b => cases b <;> rfl

theorem syncedCond_type (composed : List Res) : (syncedCond composed).type = "Synced" := by
  unfold syncedCond; split <;> rfl

theorem readyCond_true_iff (composed : List Res) (explicit : Option Bool) :
    (readyCond composed explicit).status = "True" ↔
      (explicit = some true ∨ (explicit = none ∧ ∀ r ∈ composed, r.ready = true)) := by
  have ha : available.status = "True" := rfl
  have hc : creating.status ≠ "True" := by decide
  unfold readyCond
  cases explicit with
  | some b =>
    cases b
    · exact ⟨fun h => absurd h hc, fun h => h.elim nofun fun h => nomatch h.1⟩
    · exact ⟨fun _ => Or.inl rfl, fun _ => ha⟩
  | none =>
    dsimp only
    cases h : composed.all (·.ready)
    · have hn : ¬ ∀ r ∈ composed, r.ready = true := fun h' => by
        rw [List.all_eq_true.mpr h'] at h
        cases h
      exact ⟨fun h' => absurd h' hc, fun h' => h'.elim nofun fun h' => absurd h'.2 hn⟩
    · exact ⟨fun _ => Or.inr ⟨rfl, List.all_eq_true.mp h⟩, fun _ => ha⟩

theorem syncedCond_true_iff (composed : List Res) :
    (syncedCond composed).status = "True" ↔ ∀ r ∈ composed, r.synced = true := by
  unfold syncedCond
  cases h : composed.all (·.synced)
  · have hn : ¬ ∀ r ∈ composed, r.synced = true := fun h' => by
      rw [List.all_eq_true.mpr h'] at h
      cases h
    exact ⟨fun h' => absurd h' status_false_ne_true, fun h' => absurd h' hn⟩
  · exact ⟨fun _ => List.all_eq_true.mp h, fun _ => rfl⟩

theorem findC_composeOk_ready (old : St) (composed : List Res) (explicit : Option Bool) (fn : List FnCond) :
    findC (composeOk old composed explicit fn).conds "Ready" = some (readyCond composed explicit) := by
  have := findC_setCond_self (setCond (applyFnConds old fn).1.conds (syncedCond composed)) (readyCond composed explicit)
  rwa [readyCond_type] at this

theorem findC_composeOk_synced (old : St) (composed : List Res) (explicit : Option Bool) (fn : List FnCond) :
    findC (composeOk old composed explicit fn).conds "Synced" = some (syncedCond composed) := by
  have := findC_setCond_self (applyFnConds old fn).1.conds (syncedCond composed)
  rw [syncedCond_type] at this
  exact (findC_setCond_ne _ _ _ (readyCond_type composed explicit ▸ ready_ne_synced.symm)).trans this

theorem findC_composeError_ready (old : St) (fn : List FnCond) :
    findC (composeError old fn).conds "Ready" = findC old.conds "Ready" :=
  (findC_markUnknown_other _ _ _ _ (Or.inl ready_isSystem)).trans
    ((findC_applyFnConds_system _ _ _ ready_isSystem).trans (findC_setCond_ne _ _ _ ready_ne_synced))

theorem findC_composeError_synced (old : St) (fn : List FnCond) :
    findC (composeError old fn).conds "Synced" = some reconcileError :=
  (findC_markUnknown_other _ _ _ _ (Or.inl synced_isSystem)).trans
    ((findC_applyFnConds_system _ _ _ synced_isSystem).trans (findC_setCond_self old.conds reconcileError))

theorem findC_composeError (old : St) (fn : List FnCond) (t : String) :
    findC (composeError old fn).conds t =
      (lastFn fn t).orElse fun _ =>
        if isSystem t = false ∧ (findC old.conds t).isSome then some ⟨t, "Unknown", "FatalError"⟩
        else findC (setCond old.conds reconcileError) t := by
  unfold composeError
  dsimp only
  rw [findC_markUnknown, (applyFnConds_spec _ _ _).2, (applyFnConds_spec _ _ _).1]
  cases lastFn fn t with
  | some f => exact if_neg fun h => by rw [Option.isSome_some, Bool.or_true] at h; exact nomatch h.1
  | none =>
    rw [Option.isSome_none, Bool.or_false]
    cases hs : isSystem t
    · -- a custom type is not Synced: setting ReconcileError neither adds nor removes it
      have : t ≠ reconcileError.type := fun e => by rw [e] at hs; exact nomatch synced_isSystem.symm.trans hs
      rw [findC_setCond_ne _ _ _ this]
      rfl
    · have hn : ∀ p : Prop, ¬ (true = false ∧ p) := fun _ h => nomatch h.1
      rw [if_neg (hn _), if_neg (hn _)]

theorem findC_composeOk_system (t : String) (ht : t = "Ready" ∨ t = "Synced") (m m' : St) (composed : List Res)
    (explicit : Option Bool) (fn fn' : List FnCond) :
    findC (composeOk m composed explicit fn).conds t = findC (composeOk m' composed explicit fn').conds t := by
  rcases ht with rfl | rfl
  · rw [findC_composeOk_ready, findC_composeOk_ready]
  · rw [findC_composeOk_synced, findC_composeOk_synced]

theorem composeOk_ready_true_iff (old : St) (composed : List Res) (explicit : Option Bool) (fn : List FnCond) :
    statusOf (composeOk old composed explicit fn).conds "Ready" = some "True" ↔
      (explicit = some true ∨ (explicit = none ∧ ∀ r ∈ composed, r.ready = true)) := by
  rw [statusOf_eq, findC_composeOk_ready, Option.map_some, Option.some.injEq]
  exact readyCond_true_iff composed explicit

theorem composeOk_synced_true_iff (old : St) (composed : List Res) (explicit : Option Bool) (fn : List FnCond) :
    statusOf (composeOk old composed explicit fn).conds "Synced" = some "True" ↔ ∀ r ∈ composed, r.synced = true := by
  rw [statusOf_eq, findC_composeOk_synced, Option.map_some, Option.some.injEq]
  exact syncedCond_true_iff composed

theorem composeError_synced_false (old : St) (fn : List FnCond) :
    statusOf (composeError old fn).conds "Synced" = some "False" := by
  rw [statusOf_eq, findC_composeError_synced]; rfl

end Xp.C05
