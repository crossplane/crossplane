import Xp.Proofs.C20Steps
import Xp.Proofs.C20List
/-
C20: storage-version migration, Lock, StoreConfig, DeploymentRuntimeConfig – establishment and fixpoint.
-/
namespace Xp.C20
open Xp

variable {α β : Type}

theorem exec_patchCr_ok (s : Store) (crd : String) (cr : Cr) (h : cr ∈ s.crs ∧ cr.crd = crd) :
    exec s (.patchCr crd cr.name) = (s, .ok) := by
  have hany : s.crs.any (fun c => decide (c.crd = crd ∧ c.name = cr.name)) = true :=
    List.any_eq_true.mpr ⟨cr, h.1, by simp [h.2]⟩
  simp only [exec, hany, if_true]

theorem migrateCrs_ok (crd : String) (l : List Cr) (s : Store) (h : ∀ cr ∈ l, cr ∈ s.crs ∧ cr.crd = crd) :
    Fixes (migrateCrs crd l) s .ok :=
  fixes_forEach fun cr hcr => moves_read (exec_patchCr_ok s crd cr (h cr hcr)) (moves_ret _ s)

/-- one disjunct per way `migrateStep` returns ok: no such CRD; `old` is not among its stored versions; the status patch
was made (every CRD of the name stores its storage version alone, which may be `old` itself) -/
def MigDone (crd old : String) (s : Store) : Prop :=
  findCrd s crd = none ∨ ∃ c, findCrd s crd = some c ∧
    (c.stored.contains old = false ∨ ∀ c' ∈ s.crds, c'.name = crd → c'.stored = [storageVersion c])

theorem stored_eta (c : Crd) (vs : List String) (h : c.stored = vs) : { c with stored := vs } = c := by
  cases c; simp_all

theorem mem_crListing (s : Store) (crd : String) (cr : Cr) :
    cr ∈ sortBy (fun a b => strLe a.name b.name) (s.crs.filter (·.crd = crd)) → cr ∈ s.crs ∧ cr.crd = crd := by
  intro h
  rw [mem_sortBy] at h
  simpa using h

/-- the effect of the status patch -/
def setStored (crd : String) (vs : List String) (s : Store) : Store :=
  { s with crds := s.crds.map fun c' => if c'.name = crd then { c' with stored := vs } else c' }

theorem findCrd_setStored (crd : String) (vs : List String) (s : Store) (c : Crd) (hc : findCrd s crd = some c) :
    findCrd (setStored crd vs s) crd = some { c with stored := vs } := by
  simp only [findCrd, setStored] at hc ⊢
  rw [find_map_some _ _ _ ?_ _ hc]
  · have : c.name = crd := by simpa using List.find?_some hc
    simp [this]
  · intro x; by_cases e : x.name = crd <;> simp [e]

theorem migrateFinish_moves (crd storage : String) (s : Store) (c : Crd) (hc : findCrd s crd = some c) :
    Moves (migrateFinish crd storage) s (setStored crd [storage] s) .ok := by
  refine moves_write (x := .ok) (by simp only [exec, hc, setStored]) ?_
  refine moves_read (x := .crd { c with stored := [storage] }) (by simp only [exec, findCrd_setStored crd [storage] s c hc]) ?_
  simp only [↓reduceIte]
  exact moves_ret _ _

theorem setStored_self (crd : String) (vs : List String) (s : Store)
    (h : ∀ c' ∈ s.crds, c'.name = crd → c'.stored = vs) : setStored crd vs s = s := by
  have hmap : (s.crds.map fun c' => if c'.name = crd then { c' with stored := vs } else c') = s.crds :=
    (List.map_congr_left fun x hx => by
      by_cases e : x.name = crd
      · rw [if_pos e]; exact stored_eta x _ (h x hx e)
      · rw [if_neg e]).trans (List.map_id' _)
  simp only [setStored, hmap]

theorem exec_listCrs (s : Store) (crd : String) :
    exec s (.listCrs crd) = (s, .crs (sortBy (fun a b => strLe a.name b.name) (s.crs.filter (·.crd = crd)))) := rfl

/-- what the migrator does to the store: nothing, or exactly the status patch -/
def migTarget (crd old : String) (s : Store) : Store :=
  match findCrd s crd with
  | some c => if c.stored.contains old then setStored crd [storageVersion c] s else s
  | none => s

theorem mig_moves (crd old : String) (s : Store) : Moves (migrateStep crd old) s (migTarget crd old s) .ok := by
  unfold migrateStep migTarget
  cases hc : findCrd s crd with
  | none => exact moves_read (x := .err .notFound) (by simp only [exec, hc]) (moves_ret _ s)
  | some c =>
    refine moves_read (x := .crd c) (by simp only [exec, hc]) ?_
    cases hcont : c.stored.contains old with
    | false =>
      simp only [hcont, Bool.false_eq_true, ↓reduceIte]
      exact moves_ret _ s
    | true =>
      simp only [hcont, ↓reduceIte]
      refine moves_read (exec_listCrs s crd) ?_
      exact moves_bind (migrateCrs_ok crd _ s fun cr => mem_crListing s crd cr) (migrateFinish_moves crd _ s c hc)

theorem migTarget_done (crd old : String) (s : Store) : MigDone crd old (migTarget crd old s) := by
  cases hc : findCrd s crd with
  | none => simp only [migTarget, hc]; exact .inl hc
  | some c =>
    cases hcont : c.stored.contains old with
    | false => simp only [migTarget, hc, hcont, Bool.false_eq_true, ↓reduceIte]; exact .inr ⟨c, hc, .inl hcont⟩
    | true =>
      simp only [migTarget, hc, hcont, ↓reduceIte]
      refine .inr ⟨_, findCrd_setStored crd _ s c hc, .inr fun c' hc' hn => ?_⟩
      obtain ⟨c0, _, rfl⟩ := List.mem_map.mp hc'
      by_cases h0 : c0.name = crd
      · rw [if_pos h0]; rfl
      · rw [if_neg h0] at hn; exact absurd hn h0

theorem migTarget_fix {crd old : String} {s : Store} (h : MigDone crd old s) : migTarget crd old s = s := by
  rcases h with h | ⟨c, hc, h | h⟩
  · simp only [migTarget, h]
  · simp only [migTarget, hc, h, Bool.false_eq_true, ↓reduceIte]
  · simp only [migTarget, hc]
    split
    · exact setStored_self crd _ s h
    · rfl

theorem mig_fix (crd old : String) (s : Store) (h : MigDone crd old s) : Fixes (migrateStep crd old) s .ok :=
  (mig_moves crd old s).fixes (migTarget_fix h)

theorem mig_establishes (crd old : String) (s t : Store) (h : evalOk (migrateStep crd old) s = (t, .ok)) :
    MigDone crd old t :=
  ((mig_moves crd old s).eq h).1 ▸ migTarget_done crd old s

theorem lock_moves (s : Store) : Moves lockStep s (if s.lock.isSome then s else { s with lock := some 0 }) .ok := by
  unfold lockStep
  cases hl : s.lock with
  | none =>
    exact moves_read (x := .err .notFound) (by simp only [exec, hl])
      (moves_write (x := .ok) (by simp only [exec, hl]; rfl) (moves_ret _ _))
  | some v =>
    exact moves_read (x := .lock v) (by simp only [exec, hl]) (moves_read (x := .ok) (by simp only [exec, hl]) (moves_ret _ s))

theorem lock_fix (s : Store) (h : s.lock.isSome = true) : Fixes lockStep s .ok := (lock_moves s).fixes (if_pos h)

theorem lock_establishes (s t : Store) (h : evalOk lockStep s = (t, .ok)) : t.lock.isSome = true := by
  rw [((lock_moves s).eq h).1]
  split
  · assumption
  · rfl

/-- StoreConfigObject.Run / DefaultDeploymentRuntimeConfig -/
theorem createIfAbsent_moves (r : Req) (tag : String) (s : Store)
    (h : (exec s r).2 = .ok ∨ (exec s r).2 = .err .alreadyExists) : Moves (createIfAbsent r tag) s (exec s r).1 .ok := by
  refine moves_write (x := (exec s r).2) rfl ?_
  rcases h with h | h <;> rw [h] <;> exact moves_ret _ _

theorem sc_moves (ns : String) (s : Store) : Moves (scStep ns) s (exec s (.createSc ns)).1 .ok :=
  createIfAbsent_moves _ _ s (by cases hl : s.sc <;> simp [exec, hl])

theorem sc_fix (ns : String) (s : Store) (h : s.sc.isSome = true) : Fixes (scStep ns) s .ok :=
  (sc_moves ns s).fixes (by cases hl : s.sc <;> simp_all [exec])

theorem sc_establishes (ns : String) (s t : Store) (h : evalOk (scStep ns) s = (t, .ok)) : t.sc.isSome = true := by
  rw [((sc_moves ns s).eq h).1]
  cases hl : s.sc <;> simp [exec, hl]

theorem drc_moves (s : Store) : Moves drcStep s (exec s .createDrc).1 .ok :=
  createIfAbsent_moves _ _ s (by cases hl : s.drc <;> simp [exec, hl])

theorem drc_fix (s : Store) (h : s.drc.isSome = true) : Fixes drcStep s .ok :=
  (drc_moves s).fixes (by cases hl : s.drc <;> simp_all [exec])

theorem drc_establishes (s t : Store) (h : evalOk drcStep s = (t, .ok)) : t.drc.isSome = true := by
  rw [((drc_moves s).eq h).1]
  cases hl : s.drc <;> simp [exec, hl]

end Xp.C20
