import Xp.Proofs.C19Call
/-
C19 — one action of the plain world as a relation on systems (`SysStep`, `exec_sysStep`): an effect
of the environment on the store (`EnvEff`), nothing (`idle`: the action is ignored), the start of a
reconcile, or one call of a reconcile (`CallEff` for the server's side, the function `Thread.next`
or a crash for the reconciler's); the system invariant `SysInv`,
which holds for every number of concurrent reconciles, every schedule and every fault plan; and
`SysStep.unlabel`: from any state that satisfies it, only the label-removing Update of a reconcile
takes a label away.
-/
namespace Xp.C19

theorem thread?_some {sys : Sys} {n : String} {t : Thread} (h : sys.thread? n = some t) :
    t ∈ sys.threads ∧ t.uname = n := by
  unfold Sys.thread? at h
  have h1 := List.mem_of_find?_eq_some h
  have h2 := List.find?_some h
  simp at h2
  exact ⟨h1, h2⟩

theorem thread?_none {sys : Sys} {n : String} (h : sys.thread? n = none) : ∀ t ∈ sys.threads, t.uname ≠ n := by
  unfold Sys.thread? at h
  intro t ht
  have := List.find?_eq_none.mp h t ht
  simpa using this

/-- the system after the reconcile of `n` made a call that left the store `s'` and the reconcile at `a` -/
def Sys.settle (sys : Sys) (n : String) (s' : Store) (a : After) : Sys :=
  { sys with
    store := s'
    threads := match a with
      | .cont t' => sys.threads.map fun x => if x.uname == n then t' else x
      | .done _ => sys.threads.filter fun x => !(x.uname == n) }

theorem exec_step (sys : Sys) (n : String) (o : Outcome) :
    (sys.thread? n = none ∧ sys.exec (.step n o none) = (sys, .ignored)) ∨
    ∃ t, sys.thread? n = some t ∧
      (sys.exec (.step n o none)).1 = sys.settle n (t.step o none sys.store).store (t.step o none sys.store).after ∧
      (sys.exec (.step n o none)).2 = .call (t.step o none sys.store).req (t.step o none sys.store).reply
        (match (t.step o none sys.store).after with | .cont _ => none | .done r => some r) := by
  cases h : sys.thread? n with
  | none => exact .inl ⟨rfl, by simp only [Sys.exec.eq_def, h]⟩
  | some t =>
    refine .inr ⟨t, rfl, ?_⟩
    simp only [Sys.exec.eq_def, h, Sys.settle]
    cases (t.step o none sys.store).after <;> exact ⟨rfl, rfl⟩

theorem mem_settle {sys : Sys} {n : String} {s' : Store} {a : After} {x : Thread} (hx : x ∈ (sys.settle n s' a).threads) :
    (x ∈ sys.threads ∧ x.uname ≠ n) ∨ a = .cont x := by
  unfold Sys.settle at hx
  cases a with
  | cont t' =>
    rcases mem_replace.mp hx with ⟨hx, hne⟩ | ⟨rfl, _⟩
    · exact .inl ⟨hx, by simpa using hne⟩
    · exact .inr rfl
  | done r =>
    simp only [List.mem_filter, Bool.not_eq_eq_eq_not, Bool.not_true, beq_eq_false_iff_ne] at hx
    exact .inl hx

/-- what one action of the plain world does to the system. A call: the server's side is `CallEff`
(a fault is an error reply), the reconciler goes on as `Thread.next` says - or the process crashes. -/
inductive SysStep (sys : Sys) : Action → Sys → Prop where
  | env (a : Action) (s' : Store) : EnvEff sys.store s' → SysStep sys a { sys with store := s' }
  | idle (a : Action) : SysStep sys a sys
  | start (n : String) : sys.thread? n = none → sys.threads.length < sys.maxc →
      SysStep sys (.start n) { sys with threads := sys.threads ++ [⟨n, .getUsage, default, 0, false, []⟩] }
  | call (n : String) (o : Outcome) (t : Thread) (s' : Store) (resp : Resp) (a : After) : sys.thread? n = some t →
      CallEff sys.store t t.request s' resp → (a = t.next sys.store.usages resp ∨ a = .done .crashed) →
      SysStep sys (.step n o none) (sys.settle n s' a)

theorem SysStep.maxc {sys sys' : Sys} {a : Action} (st : SysStep sys a sys') : sys'.maxc = sys.maxc := by
  cases st <;> rfl

structure SysInv (sys : Sys) : Prop where
  store : StoreInv sys.store
  tuniq : ∀ t1 ∈ sys.threads, ∀ t2 ∈ sys.threads, t1.uname = t2.uname → t1 = t2
  cap : sys.threads.length ≤ sys.maxc
  threads : ∀ t ∈ sys.threads, TInv sys.store t

theorem SysInv.init (maxc : Nat) : SysInv (Sys.init maxc) :=
  ⟨StoreInv.empty, by simp [Sys.init], by simp [Sys.init], by simp [Sys.init]⟩

theorem exec_sysStep {sys : Sys} (h : SysInv sys) (a : Action) (hf : a.fresh = true) : SysStep sys a (sys.exec a).1 := by
  cases a with
  | cr g k n l iu c => exact .env _ _ (createRes_eff _ g k n l iu c)
  | cu n o b r c ct => exact .env _ _ (createUsage_eff _ n o b r c ct)
  | du n => exact .env _ _ (deleteUsage_eff _ n)
  | dr g k n p lo po st =>
    cases Option.isNone_iff_eq_none.mp hf
    exact .env _ _ (deleteRes_eff _ g k n p lo po)
  | gcU n => exact .env _ _ (gcUsage_eff _ n)
  | gcR g k n => exact .env _ _ (gcRes_eff _ g k n)
  | xa n c => exact .env _ _ (reapplyUsage_eff _ n c)
  | er g k n l => exact .env _ _ (touchRes_eff _ h.store.res_inj g k n l)
  | start n =>
    simp only [Sys.exec.eq_def]
    split
    · exact .idle _
    · next hnone =>
      split
      · exact .idle _
      · next hcap => exact .start n hnone (by omega)
  | step n o st =>
    cases Option.isNone_iff_eq_none.mp hf
    rcases exec_step sys n o with ⟨_, e⟩ | ⟨t, hsome, e, _⟩ <;> rw [e]
    · exact .idle _
    · obtain ⟨resp, hc, ha⟩ := step_eff (h.threads t (thread?_some hsome).1) o
      exact .call n o t _ resp _ hsome hc ha
  | stepW n o c => cases hf
  | xaRaw n c => cases hf
  | ef n => cases hf

theorem SysInv.step {sys sys' : Sys} {a : Action} (h : SysInv sys) (st : SysStep sys a sys') : SysInv sys' := by
  cases st with
  | env _ s' e => exact ⟨h.store.env e, h.tuniq, h.cap, fun t ht => (h.threads t ht).env h.store e⟩
  | idle => exact h
  | start n hnone hcap =>
    have hne := thread?_none hnone
    refine ⟨h.store, fun t1 h1 t2 h2 he => ?_, by simp only [List.length_append, List.length_singleton]; omega,
      fun t ht => ?_⟩
    · simp only [List.mem_append, List.mem_singleton] at h1 h2
      rcases h1 with h1 | rfl <;> rcases h2 with h2 | rfl
      · exact h.tuniq t1 h1 t2 h2 he
      · exact absurd he (hne t1 h1)
      · exact absurd he.symm (hne t2 h2)
      · rfl
    · simp only [List.mem_append, List.mem_singleton] at ht
      rcases ht with ht | rfl
      · exact h.threads t ht
      · exact .inl rfl
  | call n o t s' resp a hsome hc ha =>
    obtain ⟨htm, rfl⟩ := thread?_some hsome
    have k : AfterOk s' t.uname a := by
      rcases ha with rfl | rfl
      · exact next_ok h.store (h.threads t htm) hc
      · trivial
    refine ⟨h.store.call hc, fun t1 h1 t2 h2 he => ?_, ?_, fun x hx => ?_⟩
    · -- a thread of the new list is an old one with another name, or THE continuation, named as `t`
      rcases mem_settle h1 with ⟨m1, e1⟩ | c1 <;> rcases mem_settle h2 with ⟨m2, e2⟩ | c2
      · exact h.tuniq t1 m1 t2 m2 he
      · rw [c2] at k; exact absurd (he.trans k.1) e1
      · rw [c1] at k; exact absurd (he.symm.trans k.1) e2
      · exact After.cont.inj (c1.symm.trans c2)
    · unfold Sys.settle
      cases a with
      | cont t' => simpa using h.cap
      | done r => exact Nat.le_trans (List.length_filter_le _ _) h.cap
    · rcases mem_settle hx with ⟨hx, hne⟩ | hx
      · exact (h.threads x hx).call hc (fun e => hne e.symm)
      · rw [hx] at k; exact k.2

theorem SysStep.unlabel {sys sys' : Sys} {a : Action} (h : SysInv sys) (st : SysStep sys a sys') :
    ∀ r ∈ sys.store.res, r.inUse = true → ∀ r' ∈ sys'.store.res,
      r'.group = r.group → r'.kind = r.kind → r'.name = r.name → r'.inUse = false →
      ∃ n o t used, a = .step n o none ∧ sys.thread? n = some t ∧ t.pc = .dUnlabel used ∧
        (∃ x ∈ t.seen, x.name = n ∧ x.deleting = true ∧ x.names r = true) ∧
        (∀ y ∈ t.seen, y.names r = true → y.name = n) := by
  intro r hr hin r' hr' h1 h2 h3 hno
  have hk : r'.key = r.key := Res.key_eq.mpr ⟨h1, h2, h3⟩
  have old : r' ∈ sys.store.res → False := fun hm => by
    rw [h.store.res_inj hm hr hk, hin] at hno; cases hno
  cases st with
  | env _ s' e =>
    rcases e.res_from r' hr' with hm | ⟨x, hx, e1, e2⟩ | hm
    · exact (old hm).elim
    · rw [h.store.res_inj hx hr (e1.trans hk)] at e2
      rw [e2 hin] at hno; cases hno
    · exact absurd hk.symm (hm r hr)
  | idle => exact (old hr').elim
  | start n _ _ => exact (old hr').elim
  | call n o t s' resp a' hsome hc _ =>
    obtain ⟨used, hpc, hku⟩ := hc.unlabel h.store r hr hin r' hr' hk hno
    refine ⟨n, o, t, used, rfl, hsome, hpc, ?_⟩
    obtain ⟨htm, htn⟩ := thread?_some hsome
    -- what the reconcile knows at the label-removing Update: the resource read has `r`'s key, and the snapshot facts
    obtain ⟨_, _, hne, huk, hseen⟩ := (h.threads t htm).at_pc hpc rfl
    have hkeyr : ofKeyOf t.u = r.key := huk.key.symm.trans hku
    constructor
    · obtain ⟨x, hx, hxn, hxd, hxo⟩ := hseen.self
      exact ⟨x, hx, hxn.trans htn, hxd, by rw [Usage.names, hxo]; exact (t.u.names_iff r).mpr ⟨hne, hkeyr⟩⟩
    · intro y hy hyn
      obtain ⟨hy0, hyk⟩ := (y.names_iff r).mp hyn
      exact (hseen.only y hy (indexedBy_of_key hy0 (hyk.trans hkeyr.symm))).trans htn

theorem SysInv.exec {sys : Sys} (h : SysInv sys) (a : Action) (hf : a.fresh = true) : SysInv (sys.exec a).1 :=
  h.step (exec_sysStep h a hf)

theorem SysInv.run {sys : Sys} (h : SysInv sys) (as : List Action) (hf : listFresh as) : SysInv (sys.run as) := by
  induction as generalizing sys with
  | nil => exact h
  | cons a as ih =>
    exact ih (h.exec a (hf a List.mem_cons_self)) (fun b hb => hf b (List.mem_cons_of_mem _ hb))

theorem run_append (sys : Sys) (as bs : List Action) : sys.run (as ++ bs) = (sys.run as).run bs := by
  induction as generalizing sys with
  | nil => rfl
  | cons a as ih => exact ih (sys.exec a).1

theorem Along.head {P : Sys → Prop} {sys : Sys} {as : List Action} (h : Along P sys as) : P sys := by
  cases as with
  | nil => exact h
  | cons a as => exact h.1

theorem Along.append {P : Sys → Prop} {sys : Sys} {as : List Action} {a : Action} (h : Along P sys (as ++ [a])) :
    Along P sys as ∧ P (sys.run as) ∧ P ((sys.run as).exec a).1 := by
  induction as generalizing sys with
  | nil => exact ⟨h.1, h.1, h.2⟩
  | cons x xs ih =>
    obtain ⟨h1, h2, h3⟩ := ih (sys := (sys.exec x).1) h.2
    exact ⟨⟨h.1, h1⟩, h2, h3⟩

end Xp.C19
