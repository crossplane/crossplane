import Xp.Model.C08
/-
C08 store lemmas: every API call of the modelled alphabet, every environment
action (deletion, garbage collection, finalizer removal, third-party edit) and a crash
move a well-formed store forward in the teardown order `Le`.  The creating steps (`ins`, a `commit`
that adds owner references or packages, a controller start, and with them every `liveStep`) move it
forward in the same order up to what they bring into the world (`LeUpTo`, of which `Le` is the case
of no births).
-/
namespace Xp.C08

/-- `o'` is a later version of `o`: identity fields never change, a deletionTimestamp is
never unset, a Lock only loses packages, resourceVersions only grow, and the fields a
third party may edit (`ref`, `flag` of an editable kind) are the same whenever the
resourceVersion is. -/
structure Obj.Mono (o o' : Obj) : Prop where
  key : o'.key = o.key
  uid : o'.uid = o.uid
  of_ : o'.of = o.of
  owners : o'.owners = o.owners
  refKind : o'.refKind = o.refKind
  ofKind : o'.ofKind = o.ofKind
  del : o.del = true → o'.del = true
  pkgs : ∀ p ∈ o'.pkgs, p ∈ o.pkgs
  rv : o.rv ≤ o'.rv
  same : (o'.rv = o.rv ∨ editable o.key.kind = false) → o'.ref = o.ref ∧ o'.flag = o.flag

theorem Obj.Mono.refl (o : Obj) : Obj.Mono o o :=
  ⟨rfl, rfl, rfl, rfl, rfl, rfl, id, fun _ h => h, Nat.le_refl _, fun _ => ⟨rfl, rfl⟩⟩

theorem same_trans {a b c : Obj} {ed : Bool} (h1 : a.rv ≤ b.rv) (h2 : b.rv ≤ c.rv)
    (s1 : (b.rv = a.rv ∨ ed = false) → b.ref = a.ref ∧ b.flag = a.flag)
    (s2 : (c.rv = b.rv ∨ ed = false) → c.ref = b.ref ∧ c.flag = b.flag)
    (h : c.rv = a.rv ∨ ed = false) : c.ref = a.ref ∧ c.flag = a.flag := by
  -- between equal resourceVersions lies an equal one
  have hb : (b.rv = a.rv ∧ c.rv = b.rv) ∨ ed = false := by
    rcases h with h | h
    · have e1 : b.rv = a.rv := Nat.le_antisymm (h ▸ h2) h1
      exact .inl ⟨e1, h.trans e1.symm⟩
    · exact .inr h
  have r1 := s1 (hb.imp_left (·.1))
  have r2 := s2 (hb.imp_left (·.2))
  exact ⟨r2.1.trans r1.1, r2.2.trans r1.2⟩

theorem Obj.Mono.trans {a b c : Obj} (h1 : Obj.Mono a b) (h2 : Obj.Mono b c) : Obj.Mono a c where
  key := h2.key.trans h1.key
  uid := h2.uid.trans h1.uid
  of_ := h2.of_.trans h1.of_
  owners := h2.owners.trans h1.owners
  refKind := h2.refKind.trans h1.refKind
  ofKind := h2.ofKind.trans h1.ofKind
  del := fun h => h2.del (h1.del h)
  pkgs := fun p hp => h1.pkgs p (h2.pkgs p hp)
  rv := Nat.le_trans h1.rv h2.rv
  same := same_trans h1.rv h2.rv h1.same (h1.key ▸ h2.same)

/-- what a write may do to the object it replaces, the resourceVersion aside: `ref` and
`flag` may change only on the editable kinds -/
structure Obj.Upd (o o' : Obj) : Prop where
  key : o'.key = o.key
  uid : o'.uid = o.uid
  of_ : o'.of = o.of
  owners : o'.owners = o.owners
  refKind : o'.refKind = o.refKind
  ofKind : o'.ofKind = o.ofKind
  del : o.del = true → o'.del = true
  pkgs : ∀ p ∈ o'.pkgs, p ∈ o.pkgs
  same : editable o.key.kind = false → o'.ref = o.ref ∧ o'.flag = o.flag

theorem Obj.Upd.of_touch {o o' : Obj} {fs : List String} {cs : List (String × String)} {iu : Bool}
    (h : { o' with fins := fs, conds := cs, inuse := iu } = o) : Obj.Upd o o' := by
  subst h
  exact ⟨rfl, rfl, rfl, rfl, rfl, rfl, id, fun _ h => h, fun _ => ⟨rfl, rfl⟩⟩

theorem Obj.Upd.mono {o o' : Obj} (h : Obj.Upd o o') (n : Nat) (hn : o.rv < n) : Obj.Mono o { o' with rv := n } where
  key := h.key
  uid := h.uid
  of_ := h.of_
  owners := h.owners
  refKind := h.refKind
  ofKind := h.ofKind
  del := h.del
  pkgs := h.pkgs
  rv := Nat.le_of_lt hn
  same := by
    intro hh
    rcases hh with hh | hh
    · exact absurd (show n = o.rv from hh) (Nat.ne_of_gt hn)
    · exact h.same hh

/-- `s'` is a teardown-successor of `s`: no object under a new key, every stored object a later
version (`Obj.Mono`) of the one stored under its key in `s`, no controller started -/
structure Le (s s' : St) : Prop where
  keys : ∀ o' ∈ s'.objs, ∃ o ∈ s.objs, o.key = o'.key
  find : ∀ k o', find s' k = some o' → ∃ o, find s k = some o ∧ Obj.Mono o o'
  run : ∀ c ∈ s'.running, c ∈ s.running

theorem Le.refl (s : St) : Le s s :=
  ⟨fun o h => ⟨o, h, rfl⟩, fun _ o h => ⟨o, h, Obj.Mono.refl o⟩, fun _ h => h⟩

theorem Le.trans {a b c : St} (h1 : Le a b) (h2 : Le b c) : Le a c := by
  refine ⟨?_, ?_, fun x hx => h1.run x (h2.run x hx)⟩
  · intro o hc
    obtain ⟨ob, hb, eb⟩ := h2.keys o hc
    obtain ⟨oa, ha, ea⟩ := h1.keys ob hb
    exact ⟨oa, ha, ea.trans eb⟩
  · intro k o hc
    obtain ⟨ob, hb, mb⟩ := h2.find k o hc
    obtain ⟨oa, ha, ma⟩ := h1.find k ob hb
    exact ⟨oa, ha, ma.trans mb⟩

theorem find_key {s : St} {k : Key} {o : Obj} (h : find s k = some o) : o.key = k := by
  have := List.find?_some h
  simpa using this

theorem find_mem {s : St} {k : Key} {o : Obj} (h : find s k = some o) : o ∈ s.objs :=
  List.mem_of_find?_eq_some h

theorem find_self {s : St} {k : Key} {o : Obj} (h : find s k = some o) : find s o.key = some o :=
  find_key h ▸ h

theorem find_nextRv (s : St) (n : Nat) (k : Key) : find { s with nextRv := n } k = find s k := rfl

theorem find_running (s : St) (r : List String) (k : Key) : find { s with running := r } k = find s k := rfl

theorem find_put (s : St) (o : Obj) (k : Key) :
    find (put s o) k = if k = o.key then (find s k).map (fun _ => o) else find s k := by
  unfold find put
  have hkey : ∀ x : Obj, (if x.key = o.key then o else x).key = x.key := by
    intro x
    split
    · exact Eq.symm ‹_›
    · rfl
  rw [List.find?_map]
  simp only [Function.comp_def, hkey]
  cases h : s.objs.find? (fun x => x.key = k) with
  | none => simp
  | some x =>
    have hx : x.key = k := by simpa using List.find?_some h
    simp only [Option.map_some, hx]
    split <;> rfl

theorem find_erase (s : St) (k0 k : Key) :
    find (erase s k0) k = if k = k0 then none else find s k := by
  unfold find erase
  rw [List.find?_filter]
  split
  · rename_i e
    exact List.find?_eq_none.mpr fun x _ => by simp [e]
  · rename_i e
    congr 1
    funext x
    by_cases hx : x.key = k <;> simp [hx, e]

theorem mem_put {s : St} {o x : Obj} (hx : x ∈ (put s o).objs) : ∃ y ∈ s.objs, y.key = x.key ∧ (x = o ∨ x = y) := by
  obtain ⟨y, hy, rfl⟩ := List.mem_map.mp hx
  refine ⟨y, hy, ?_⟩
  split
  · exact ⟨‹_›, .inl rfl⟩
  · exact ⟨rfl, .inr rfl⟩

theorem mem_erase {s : St} {k : Key} {x : Obj} (hx : x ∈ (erase s k).objs) : x ∈ s.objs :=
  (List.mem_filter.mp hx).1

theorem le_put (s : St) (o : Obj) (h : ∀ o0, find s o.key = some o0 → Obj.Mono o0 o) : Le s (put s o) := by
  refine ⟨fun o' ho' => (mem_put ho').imp fun _ hy => ⟨hy.1, hy.2.1⟩, fun k o' hf => ?_, fun _ h => h⟩
  rw [find_put] at hf
  split at hf
  · rename_i hk
    subst hk
    obtain ⟨o0, h0, rfl⟩ := Option.map_eq_some_iff.mp hf
    exact ⟨o0, h0, h o0 h0⟩
  · exact ⟨o', hf, Obj.Mono.refl _⟩

theorem le_erase (s : St) (k : Key) : Le s (erase s k) := by
  refine ⟨fun o' ho' => ⟨o', mem_erase ho', rfl⟩, fun k' o' hf => ?_, fun _ h => h⟩
  rw [find_erase] at hf
  split at hf
  · cases hf
  · exact ⟨o', hf, Obj.Mono.refl _⟩

theorem le_nextRv (s : St) (n : Nat) : Le s { s with nextRv := n } :=
  ⟨fun o h => ⟨o, h, rfl⟩, fun _ o h => ⟨o, h, Obj.Mono.refl o⟩, fun _ h => h⟩

theorem le_running (s : St) (r : List String) (h : ∀ c ∈ r, c ∈ s.running) : Le s { s with running := r } :=
  ⟨fun o h => ⟨o, h, rfl⟩, fun _ o h => ⟨o, h, Obj.Mono.refl o⟩, h⟩

instance (s : St) : Decidable (WF s) := inferInstanceAs (Decidable (∀ o ∈ s.objs, o.rv < s.nextRv))

theorem wf_put {s : St} (hw : WF s) (o : Obj) (ho : o.rv < s.nextRv) : WF (put s o) := by
  intro x hx
  obtain ⟨y, hy, _, rfl | rfl⟩ := mem_put hx
  · exact ho
  · exact hw x hy

theorem wf_erase {s : St} (hw : WF s) (k : Key) : WF (erase s k) :=
  fun x hx => hw x (mem_erase hx)

theorem wf_bump {s : St} (hw : WF s) : WF { s with nextRv := s.nextRv + 1 } :=
  fun o ho => Nat.lt_succ_of_lt (hw o ho)

theorem wf_running {s : St} (hw : WF s) (r : List String) : WF { s with running := r } := hw

/-- `Obj.Mono` up to births: the owner references and packages of `o'` are set aside (those of `o` put
back) and may differ only by what was born -/
structure Obj.MonoUpTo (bs : List Birth) (o o' : Obj) : Prop where
  rest : Obj.Mono o { o' with owners := o.owners, pkgs := o.pkgs }
  owners : o'.owners = o.owners ∨ Birth.owners o.key ∈ bs
  pkgs : ∀ q ∈ o'.pkgs, q ∈ o.pkgs ∨ Birth.lock q ∈ bs

theorem Obj.Mono.patch {o o' : Obj} (h : Obj.Mono o o') (ow : List ORef) (ps : List String) :
    Obj.Mono { o with owners := ow, pkgs := ps } { o' with owners := ow, pkgs := ps } :=
  ⟨h.key, h.uid, h.of_, rfl, h.refKind, h.ofKind, h.del, fun _ hp => hp, h.rv, h.same⟩

theorem Obj.Mono.upTo {o o' : Obj} (h : Obj.Mono o o') (bs : List Birth) : Obj.MonoUpTo bs o o' :=
  ⟨h.patch _ _, .inl h.owners, fun q hq => .inl (h.pkgs q hq)⟩

theorem Obj.MonoUpTo.refl (bs : List Birth) (o : Obj) : Obj.MonoUpTo bs o o := (Obj.Mono.refl o).upTo bs

theorem Obj.MonoUpTo.mono {o o' : Obj} (h : Obj.MonoUpTo [] o o') : Obj.Mono o o' :=
  ⟨h.rest.key, h.rest.uid, h.rest.of_, h.owners.elim id (fun hb => nomatch hb), h.rest.refKind, h.rest.ofKind, h.rest.del,
    fun q hq => (h.pkgs q hq).elim id (fun hb => nomatch hb), h.rest.rv, h.rest.same⟩

theorem Obj.MonoUpTo.trans {b1 b2 : List Birth} {a b c : Obj} (h1 : Obj.MonoUpTo b1 a b) (h2 : Obj.MonoUpTo b2 b c) :
    Obj.MonoUpTo (b1 ++ b2) a c := by
  have l : ∀ {x : Birth}, x ∈ b1 → x ∈ b1 ++ b2 := List.mem_append_left _
  have r : ∀ {x : Birth}, x ∈ b2 → x ∈ b1 ++ b2 := List.mem_append_right _
  -- the middle object, with the owner references and packages of the first put back
  refine ⟨h1.rest.trans (h2.rest.patch _ _), ?_, fun q hq => ?_⟩
  · rcases h2.owners with w | w
    · exact h1.owners.imp (w.trans ·) l
    · exact .inr (r ((show b.key = a.key from h1.rest.key) ▸ w))
  · rcases h2.pkgs q hq with h | h
    · exact (h1.pkgs q h).imp_right l
    · exact .inr (r h)

/-- `Le` up to what the births `bs` brought into the world: the one order in which every operation,
creating or not, moves the store forward (`Le` is the case of no births) -/
structure LeUpTo (bs : List Birth) (s s' : St) : Prop where
  keys : ∀ o' ∈ s'.objs, Birth.obj o'.key ∈ bs ∨ ∃ o ∈ s.objs, o.key = o'.key
  obj : ∀ k o', find s' k = some o' → Birth.obj k ∈ bs ∨ ∃ o, find s k = some o ∧ Obj.MonoUpTo bs o o'
  run : ∀ c ∈ s'.running, c ∈ s.running ∨ Birth.start c ∈ bs

theorem LeUpTo.of_le {s s' : St} (h : Le s s') (bs : List Birth) : LeUpTo bs s s' where
  keys := fun o' ho' => .inr (h.keys o' ho')
  obj := fun k o' hf => .inr <| (h.find k o' hf).imp fun _ ho => ⟨ho.1, ho.2.upTo bs⟩
  run := fun c hc => .inl (h.run c hc)

theorem LeUpTo.le {s s' : St} (h : LeUpTo [] s s') : Le s s' where
  keys := fun o' ho' => (h.keys o' ho').elim (fun hb => nomatch hb) id
  find := fun k o' hf => (h.obj k o' hf).elim (fun hb => nomatch hb) fun ⟨o, ho, hm⟩ => ⟨o, ho, hm.mono⟩
  run := fun c hc => (h.run c hc).elim id (fun hb => nomatch hb)

theorem LeUpTo.trans {b1 b2 : List Birth} {a b c : St} (h1 : LeUpTo b1 a b) (h2 : LeUpTo b2 b c) : LeUpTo (b1 ++ b2) a c := by
  have l : ∀ {x : Birth}, x ∈ b1 → x ∈ b1 ++ b2 := List.mem_append_left _
  have r : ∀ {x : Birth}, x ∈ b2 → x ∈ b1 ++ b2 := List.mem_append_right _
  refine ⟨fun o hc => ?_, fun k o hc => ?_, fun x hx => ?_⟩
  · rcases h2.keys o hc with hb | ⟨ob, hb, eb⟩
    · exact .inl (r hb)
    · rcases h1.keys ob hb with hb | ⟨oa, ha, ea⟩
      · exact .inl (l (eb ▸ hb))
      · exact .inr ⟨oa, ha, ea.trans eb⟩
  · rcases h2.obj k o hc with hb | ⟨ob, hb, mb⟩
    · exact .inl (r hb)
    · rcases h1.obj k ob hb with hb | ⟨oa, ha, ma⟩
      · exact .inl (l hb)
      · exact .inr ⟨oa, ha, ma.trans mb⟩
  · rcases h2.run x hx with h | h
    · exact (h1.run x h).imp_right l
    · exact .inr (r h)

/-- what every operation does to a well-formed store, `bs` being what it brings into the world -/
structure Step (bs : List Birth) (s s' : St) : Prop where
  ord : LeUpTo bs s s'
  wf : WF s'

theorem Step.of_le {s s' : St} (h : Le s s') (hw : WF s') : Step [] s s' := ⟨.of_le h [], hw⟩

theorem Step.le {s s' : St} (h : Step [] s s') : Le s s' := h.ord.le

theorem Step.refl {s : St} (hw : WF s) : Step [] s s := .of_le (Le.refl s) hw

theorem Step.trans {b1 b2 : List Birth} {a b c : St} (h1 : Step b1 a b) (h2 : Step b2 b c) : Step (b1 ++ b2) a c :=
  ⟨h1.ord.trans h2.ord, h2.wf⟩

theorem Step.weaken {bs : List Birth} {s s' : St} (h : Step [] s s') : Step bs s s' := ⟨.of_le h.le bs, h.wf⟩

theorem step_bump_put {s : St} (hw : WF s) (o o' : Obj) (ho : find s o.key = some o) (hu : Obj.Upd o o') :
    Step [] s (put { s with nextRv := s.nextRv + 1 } { o' with rv := s.nextRv }) := by
  have hlt : o.rv < s.nextRv := hw o (find_mem ho)
  refine .of_le ((le_nextRv s _).trans (le_put _ _ ?_)) (wf_put (wf_bump hw) _ (Nat.lt_succ_self _))
  intro o0 h0
  have hk : ({ o' with rv := s.nextRv } : Obj).key = o.key := hu.key
  rw [hk, find_nextRv, ho] at h0
  cases h0
  exact hu.mono _ hlt

theorem step_bump_erase {s : St} (hw : WF s) (k : Key) : Step [] s (erase { s with nextRv := s.nextRv + 1 } k) :=
  .of_le ((le_nextRv s _).trans (le_erase _ _)) (wf_erase (wf_bump hw) _)

theorem commit_cases (s : St) (o o' : Obj) :
    ((commit s o o').1 = s ∧ o' = o) ∨ (commit s o o').1 = erase { s with nextRv := s.nextRv + 1 } o.key ∨
      (commit s o o').1 = put { s with nextRv := s.nextRv + 1 } { o' with rv := s.nextRv } := by
  unfold commit
  split
  · exact .inl ⟨rfl, ‹_›⟩
  · simp only []
    split
    · exact .inr (.inl rfl)
    · exact .inr (.inr rfl)

theorem wf_commit {s : St} (hw : WF s) (o o' : Obj) : WF (commit s o o').1 := by
  rcases commit_cases s o o' with ⟨h, _⟩ | h | h <;> rw [h]
  · exact hw
  · exact wf_erase (wf_bump hw) _
  · exact wf_put (wf_bump hw) _ (Nat.lt_succ_self _)

theorem commit_spec {s : St} (o o' : Obj) (ho : find s o.key = some o) (hk : o'.key = o.key) :
    (commit s o o').1.running = s.running ∧
    (∀ k, k ≠ o.key → find (commit s o o').1 k = find s k) ∧
    (∀ c, find (commit s o o').1 o.key = some c → (c = o ∧ o' = o) ∨ c = { o' with rv := s.nextRv }) ∧
    (∀ x ∈ (commit s o o').1.objs, ∃ y ∈ s.objs, y.key = x.key) := by
  rcases commit_cases s o o' with ⟨h, e⟩ | h | h <;> rw [h]
  · exact ⟨rfl, fun _ _ => rfl, fun c hc => .inl ⟨(Option.some.inj (ho.symm.trans hc)).symm, e⟩, fun x hx => ⟨x, hx, rfl⟩⟩
  · refine ⟨rfl, fun k hne => ?_, fun c hc => ?_, fun x hx => ⟨x, mem_erase hx, rfl⟩⟩
    · rw [find_erase, if_neg hne]; rfl
    · rw [find_erase, if_pos rfl] at hc; cases hc
  · have hk' : ({ o' with rv := s.nextRv } : Obj).key = o.key := hk
    refine ⟨rfl, fun k hne => ?_, fun c hc => ?_, fun x hx => ?_⟩
    · rw [find_put, if_neg (hk' ▸ hne)]; rfl
    · rw [find_put, if_pos hk'.symm, find_nextRv, ho] at hc
      exact .inr (Option.some.inj hc).symm
    · exact (mem_put hx).imp fun _ hy => ⟨hy.1, hy.2.1⟩

theorem step_commit_born {s : St} (hw : WF s) {o o' : Obj} (ho : find s o.key = some o) (bs : List Birth)
    (hu : Obj.Upd o { o' with owners := o.owners, pkgs := o.pkgs })
    (how : o'.owners = o.owners ∨ Birth.owners o.key ∈ bs)
    (hpk : ∀ q ∈ o'.pkgs, q ∈ o.pkgs ∨ Birth.lock q ∈ bs) : Step bs s (commit s o o').1 := by
  obtain ⟨hrun, hoth, hat, hkeys⟩ := commit_spec o o' ho hu.key
  refine ⟨⟨fun x hx => .inr (hkeys x hx), fun k c hc => .inr ?_, fun c hc => .inl (hrun ▸ hc)⟩, wf_commit hw _ _⟩
  by_cases hk : k = o.key
  · subst hk
    refine ⟨o, ho, ?_⟩
    rcases hat c hc with ⟨e, _⟩ | e <;> rw [e]
    · exact .refl bs o
    · exact ⟨hu.mono _ (hw o (find_mem ho)), how, hpk⟩
  · rw [hoth k hk] at hc
    exact ⟨c, hc, .refl bs c⟩

theorem step_commit {s : St} (hw : WF s) (o o' : Obj) (ho : find s o.key = some o) (hu : Obj.Upd o o') :
    Step [] s (commit s o o').1 :=
  step_commit_born hw ho [] ⟨hu.key, hu.uid, hu.of_, rfl, hu.refKind, hu.ofKind, hu.del, fun _ h => h, hu.same⟩
    (.inl hu.owners) fun q hq => .inl (hu.pkgs q hq)

theorem step_at {bs : List Birth} {s : St} (hw : WF s) (k : Key) {f : Obj → St} (hf : ∀ c, find s c.key = some c → Step bs s (f c)) :
    Step bs s (match find s k with | none => s | some c => f c) := by
  cases h : find s k with
  | none => exact (Step.refl hw).weaken
  | some c => exact hf c (find_self h)

theorem step_withObj {s : St} (hw : WF s) (k : Key) (rv : Nat) (f : Obj → Obj) (hf : ∀ o, Obj.Upd o (f o)) :
    Step [] s (withObj s k rv f).1 := by
  unfold withObj
  cases h : find s k with
  | none => exact Step.refl hw
  | some o =>
    simp only []
    split
    · exact Step.refl hw
    · exact step_commit hw o (f o) (find_self h) (hf o)

theorem step_deleteWith {s : St} (hw : WF s) (o : Obj) (fins : List String) (ho : find s o.key = some o) :
    Step [] s (deleteWith s o fins) := by
  unfold deleteWith
  split
  · exact .of_le (le_erase _ _) (wf_erase hw _)
  · split
    · exact Step.refl hw
    · exact step_bump_put hw o { o with fins := fins, del := true } ho
        ⟨rfl, rfl, rfl, rfl, rfl, rfl, fun _ => rfl, fun _ h => h, fun _ => ⟨rfl, rfl⟩⟩

theorem step_deleteKey {s : St} (hw : WF s) (k : Key) (fg : Bool) : Step [] s (deleteKey s k fg) :=
  step_at hw k fun o ho => step_deleteWith hw o _ ho

theorem step_foldl {α : Type} (f : St → α → St) (hf : ∀ s a, WF s → Step [] s (f s a)) (l : List α) (s : St) (hw : WF s) :
    Step [] s (l.foldl f s) := by
  induction l generalizing s with
  | nil => exact Step.refl hw
  | cons a rest ih => exact (hf s a hw).trans (ih _ (hf s a hw).wf)

theorem step_exec {s : St} (hw : WF s) (r : Req) : Step [] s (exec s r).1 := by
  cases r with
  | get k => exact Step.refl hw
  | list kd => exact Step.refl hw
  | listUsagesOf kd n => exact Step.refl hw
  | listSel kd n => exact Step.refl hw
  | setStatus k rv conds =>
    exact step_withObj hw k rv _ (fun o => .of_touch rfl)
  | removeFin k rv fin =>
    exact step_withObj hw k rv _ (fun o => .of_touch rfl)
  | delete k fg =>
    simp only [exec]
    cases h : find s k with
    | none => exact Step.refl hw
    | some o => exact step_deleteWith hw o _ (find_self h)
  | deleteAll kd => exact step_foldl _ (fun s (o : Obj) hw => step_deleteKey hw o.key false) _ _ hw
  | lockRemove rv pkg =>
    exact step_withObj hw lockKey rv _
      (fun o => ⟨rfl, rfl, rfl, rfl, rfl, rfl, id, fun p h => (List.mem_filter.mp h).1, fun _ => ⟨rfl, rfl⟩⟩)
  | unlabel k rv =>
    exact step_withObj hw k rv _ (fun o => .of_touch rfl)
  | stop c => exact .of_le (le_running s _ (fun c h => (List.mem_filter.mp h).1)) (wf_running hw _)
  | cacheDelete n => exact Step.refl hw

theorem le_exec {s : St} (hw : WF s) (r : Req) : Le s (exec s r).1 := (step_exec hw r).le

theorem step_envUnfin {s : St} (hw : WF s) (k : Key) (f : String) : Step [] s (envUnfin s k f) :=
  step_at hw k fun o ho => step_commit hw o _ ho (.of_touch rfl)

theorem step_envEdit {s : St} (hw : WF s) (k : Key) (e : Edit) : Step [] s (envEdit s k e) := by
  unfold envEdit
  split
  · rename_i hed
    cases h : find s k with
    | none => exact Step.refl hw
    | some o =>
      refine step_commit hw o _ (find_self h) ?_
      -- the kind is editable: `Obj.Upd.same` asks nothing of `ref` / `flag`
      have hne : ¬ editable o.key.kind = false := by rw [find_key h, hed]; simp
      cases e with
      | flip => exact ⟨rfl, rfl, rfl, rfl, rfl, rfl, id, fun _ h => h, fun h => absurd h hne⟩
      | ref v => exact ⟨rfl, rfl, rfl, rfl, rfl, rfl, id, fun _ h => h, fun h => absurd h hne⟩
  · exact Step.refl hw

theorem step_crash {s : St} (hw : WF s) : Step [] s (crash s) :=
  .of_le (le_running s [] (fun _ h => by cases h)) (wf_running hw _)

theorem step_gcStep {s : St} (hw : WF s) : Step [] s (gcStep s) := by
  unfold gcStep
  simp only []
  refine (fun h1 => Step.trans h1 (step_foldl _ ?fg _ _ h1.wf)) (step_foldl _ ?orphans _ _ hw)
  case orphans =>
    intro acc o hw
    refine step_at hw o.key fun c hc => ?_
    split
    · split
      · exact Step.refl hw
      · exact step_bump_put hw c { c with del := true } hc
          ⟨rfl, rfl, rfl, rfl, rfl, rfl, fun _ => rfl, fun _ h => h, fun _ => ⟨rfl, rfl⟩⟩
    · exact .of_le (le_erase _ _) (wf_erase hw _)
  case fg =>
    intro acc o hw
    refine step_at hw o.key fun c hc => ?_
    split
    · split
      · exact step_bump_erase hw _
      · exact step_bump_put hw c { c with fins := c.fins.filter (· ≠ fgFin) } hc (.of_touch rfl)
    · exact Step.refl hw

theorem find_ins (s : St) (o : Obj) (k : Key) (hk : k ≠ o.key) : find (ins s o) k = find s k := by
  unfold find ins
  simp only [List.find?_append]
  have : ¬ o.key = k := fun e => hk e.symm
  simp [this]

theorem wf_ins {s : St} (hw : WF s) (o : Obj) : WF (ins s o) := by
  intro x hx
  simp only [ins, List.mem_append, List.mem_singleton] at hx
  rcases hx with hx | rfl
  · exact Nat.lt_succ_of_lt (hw x hx)
  · exact Nat.lt_succ_self _

theorem step_ins {bs : List Birth} {s : St} (hw : WF s) (o : Obj) (hb : .obj o.key ∈ bs) : Step bs s (ins s o) := by
  refine ⟨⟨fun x hx => ?_, fun k c hc => ?_, fun _ hc => .inl hc⟩, wf_ins hw o⟩
  · rcases List.mem_append.mp hx with hx | hx
    · exact .inr ⟨x, hx, rfl⟩
    · rw [List.mem_singleton.mp hx]; exact .inl hb
  · by_cases hk : k = o.key
    · exact .inl (hk ▸ hb)
    · rw [find_ins s o k hk] at hc
      exact .inr ⟨c, hc, .refl bs c⟩

theorem step_start {bs : List Birth} {s : St} (hw : WF s) (c : String) (hb : .start c ∈ bs) :
    Step bs s { s with running := c :: s.running } :=
  ⟨⟨fun x hx => .inr ⟨x, hx, rfl⟩, fun _ o ho => .inr ⟨o, ho, .refl bs o⟩,
    fun x hx => (List.mem_cons.mp hx).symm.imp_right fun (e : x = c) => e ▸ hb⟩, hw⟩

theorem step_ite {bs : List Birth} {s a b : St} {c : Prop} [Decidable c] (ha : c → Step bs s a) (hb : ¬ c → Step bs s b) :
    Step bs s (if c then a else b) := by
  split
  · exact ha ‹_›
  · exact hb ‹_›

/- Along `liveStep`: a step inserts an object (`step_ins`, birth `.obj`), starts a controller (`step_start`), writes a stored object
without a birth (`step_commit`) or with one (`step_commit_born`: `.owners`, `.lock`); `applyCRD`, `lockAdd` insert or rewrite, hence two births. -/
theorem step_liveStep {s : St} (hw : WF s) (l : Live) : Step (l.births s) s (liveStep s l) := by
  have same : ∀ {bs}, Step bs s s := (Step.refl hw).weaken
  cases l with
  | addFin k fin =>
    refine step_at hw k fun o ho => ?_
    split
    · exact Step.refl hw
    · exact step_commit hw o _ ho (.of_touch rfl)
  | syncXR c x =>
    simp only [liveStep, Live.births]
    cases h : find s ⟨.claim, c⟩ with
    | none => exact same
    | some cm =>
      simp only []
      have st1 : Step [] s (commit s cm { cm with ref := x, refVer := "" }).1 :=
        step_commit hw cm _ (find_self h)
          ⟨rfl, rfl, rfl, rfl, rfl, rfl, fun h => h, fun _ h => h, fun he => by rw [find_key h] at he; cases he⟩
      generalize (commit s cm { cm with ref := x, refVer := "" }).1 = s1 at *
      cases h2 : find s1 ⟨.xr, x⟩ with
      | some xo =>
        refine step_ite (fun _ => st1.weaken) fun _ => (st1.trans ?_).weaken
        exact step_commit st1.wf xo _ (find_self h2)
          ⟨rfl, rfl, rfl, rfl, rfl, rfl, fun h => h, fun _ h => h, fun he => by rw [find_key h2] at he; cases he⟩
      | none => exact st1.trans (step_ins st1.wf { blank ⟨.xr, x⟩ s1.nextRv with ref := c, synced := c } (.head _))
  | applyCRD xrd off =>
    simp only [liveStep, Live.births]
    cases h : find s ⟨.xrd, xrd⟩ with
    | none => exact same
    | some d =>
      simp only []
      cases h2 : find s (crdOf d off) with
      | none => exact step_ins hw _ (.head _)
      | some c =>
        have hs := step_commit_born hw (o' := { c with owners := [⟨d.uid, true, true⟩], fins := [] }) (find_self h2)
          [.obj (crdOf d off), .owners (crdOf d off)] (.of_touch rfl) (.inr (find_key h2 ▸ .tail _ (.head _))) fun _ hq => .inl hq
        simp only []
        split
        · exact hs
        · exact step_ite (fun _ => hs) fun _ => same
  | start xrd off => exact step_ite (fun _ => same) fun _ => step_start hw _ (.head _)
  | lockAdd r =>
    simp only [liveStep, Live.births]
    cases h : find s ⟨.lock, Xp.Gen.c08LockName⟩ with
    | none => exact step_ins hw _ (.head _)
    | some l =>
      refine step_ite (fun _ => same) fun _ => step_commit_born hw (find_self h) _ (.of_touch rfl) (.inl rfl) fun q hq => ?_
      refine (List.mem_append.mp hq).imp_right fun e => ?_
      rw [List.mem_singleton.mp e]
      exact .tail _ (.head _)
  | usageOwn u =>
    simp only [liveStep, Live.births]
    cases h : find s ⟨.usage, u⟩ with
    | none => exact same
    | some uo =>
      simp only []
      cases h2 : find s ⟨uo.refKind, uo.ref⟩ with
      | none => exact same
      | some ur =>
        exact step_ite (fun _ => same) fun _ =>
          step_commit_born hw (find_self h) _ (.of_touch rfl) (.inr (find_key h ▸ .head _)) fun _ hq => .inl hq
  | usageLabel u =>
    refine step_at hw _ fun uo _ => step_at hw _ fun used ho => ?_
    exact step_commit hw used _ ho (.of_touch rfl)
  | status k conds =>
    refine step_at hw k fun o ho => ?_
    exact step_commit hw o _ ho (.of_touch rfl)

end Xp.C08
