import Xp.Model.C19
import Xp.Base.List
/-
C19 — the API server: lookups, membership after put/drop, the index count, an Update of a resource
as a relation (`UpdRSpec`), what the writes leave alone, the actions of the environment as a
handful of effects on the store (`EnvEff`), against which the invariants are proved, and what the
webhook answers for a labelled object (`deleteRes_labelled`).
-/
namespace Xp.C19

/-- the key a resource is stored, read, written and indexed under; `ofKeyOf u` is the key a Usage
names, whatever API version it uses -/
def Res.key (r : Res) : String × String × String := (r.group, r.kind, r.name)

theorem Res.key_eq {r : Res} {g k n : String} : r.key = (g, k, n) ↔ r.group = g ∧ r.kind = k ∧ r.name = n := by
  simp [Res.key]

@[simp] theorem Res.is_iff (r : Res) (g k n : String) : r.is g k n = true ↔ r.key = (g, k, n) := by
  simp [Res.is, Res.key, and_assoc]

theorem Res.is_self (r : Res) : r.is r.group r.kind r.name = true := (r.is_iff _ _ _).mpr rfl

@[simp] theorem Usage.names_iff (u : Usage) (r : Res) : u.names r = true ↔ u.of.name ≠ "" ∧ ofKeyOf u = r.key := by
  simp [Usage.names, ofKeyOf, Res.key, and_assoc]

theorem indexValue_eq (u : Usage) :
    indexValue u.of.av u.of.kind u.of.name = indexKey (ofKeyOf u).1 (ofKeyOf u).2.1 (ofKeyOf u).2.2 := rfl

@[simp] theorem Usage.indexedBy_iff (u : Usage) (key : String) :
    u.indexedBy key = true ↔ u.of.name ≠ "" ∧ indexValue u.of.av u.of.kind u.of.name = key := by
  simp [Usage.indexedBy]

theorem names_indexedBy {u : Usage} {r : Res} (h : u.names r = true) :
    u.indexedBy (indexKey r.group r.kind r.name) = true := by
  obtain ⟨h0, h1⟩ := (u.names_iff r).mp h
  exact (u.indexedBy_iff _).mpr ⟨h0, by rw [indexValue_eq, h1]; rfl⟩

theorem indexedBy_of_key {y u : Usage} (hne : y.of.name ≠ "") (h : ofKeyOf y = ofKeyOf u) :
    y.indexedBy (indexValue u.of.av u.of.kind u.of.name) = true :=
  (y.indexedBy_iff _).mpr ⟨hne, by rw [indexValue_eq, indexValue_eq, h]⟩

theorem getU_some {s : Store} {n : String} {x : Usage} (h : s.getU n = some x) :
    x ∈ s.usages ∧ x.name = n := by
  unfold Store.getU at h
  have h1 := List.mem_of_find?_eq_some h
  have h2 := List.find?_some h
  simp at h2
  exact ⟨h1, h2⟩

theorem getU_none {s : Store} {n : String} (h : s.getU n = none) : ∀ x ∈ s.usages, x.name ≠ n := by
  unfold Store.getU at h
  intro x hx
  have := List.find?_eq_none.mp h x hx
  simpa using this

theorem getR_some {s : Store} {g k n : String} {x : Res} (h : s.getR g k n = some x) :
    x ∈ s.res ∧ x.key = (g, k, n) := by
  unfold Store.getR at h
  have h1 := List.mem_of_find?_eq_some h
  have h2 := List.find?_some h
  simp at h2
  exact ⟨h1, h2⟩

theorem getR_self {s : Store} {g k n : String} {x : Res} (h : s.getR g k n = some x) :
    s.getR x.group x.kind x.name = some x := by
  cases (getR_some h).2; exact h

theorem getR_none {s : Store} {g k n : String} (h : s.getR g k n = none) :
    ∀ x ∈ s.res, x.key ≠ (g, k, n) := by
  unfold Store.getR at h
  intro x hx
  have := List.find?_eq_none.mp h x hx
  simpa using this

theorem mem_putU {s : Store} {n y : Usage} :
    y ∈ (s.putU n).usages ↔ (y ∈ s.usages ∧ y.name ≠ n.name) ∨ (y = n ∧ ∃ x ∈ s.usages, x.name = n.name) := by
  unfold Store.putU
  rw [mem_replace]
  simp

theorem mem_dropU {s : Store} {nm : String} {y : Usage} :
    y ∈ (s.dropU nm).usages ↔ y ∈ s.usages ∧ y.name ≠ nm := by
  simp [Store.dropU]

theorem mem_putR {s : Store} {n y : Res} :
    y ∈ (s.putR n).res ↔
      (y ∈ s.res ∧ y.key ≠ n.key) ∨ (y = n ∧ ∃ x ∈ s.res, x.key = n.key) := by
  unfold Store.putR
  rw [mem_replace]
  simp only [Res.is_iff]
  exact Iff.rfl

theorem mem_dropR {s : Store} {g k n : String} {y : Res} :
    y ∈ (s.dropR g k n).res ↔ y ∈ s.res ∧ y.key ≠ (g, k, n) := by
  simp only [Store.dropR, List.mem_filter, Bool.not_eq_eq_eq_not, Bool.not_true, ← Bool.not_eq_true, Res.is_iff, ne_eq]

@[simp] theorem putU_res (s : Store) (n : Usage) : (s.putU n).res = s.res := rfl
@[simp] theorem dropU_res (s : Store) (n : String) : (s.dropU n).res = s.res := rfl
@[simp] theorem putR_usages (s : Store) (n : Res) : (s.putR n).usages = s.usages := rfl
@[simp] theorem dropR_usages (s : Store) (g k n : String) : (s.dropR g k n).usages = s.usages := rfl
@[simp] theorem bump_usages (s : Store) : s.bump.usages = s.usages := rfl
@[simp] theorem bump_res (s : Store) : s.bump.res = s.res := rfl
@[simp] theorem bump_nextRv (s : Store) : s.bump.nextRv = s.nextRv + 1 := rfl
@[simp] theorem bump_nextUid (s : Store) : s.bump.nextUid = s.nextUid := rfl
@[simp] theorem bump_born (s : Store) : s.bump.born = s.born := rfl
@[simp] theorem putU_nextRv (s : Store) (n : Usage) : (s.putU n).nextRv = s.nextRv := rfl
@[simp] theorem dropU_nextRv (s : Store) (n : String) : (s.dropU n).nextRv = s.nextRv := rfl
@[simp] theorem putR_nextRv (s : Store) (n : Res) : (s.putR n).nextRv = s.nextRv := rfl
@[simp] theorem dropR_nextRv (s : Store) (g k n : String) : (s.dropR g k n).nextRv = s.nextRv := rfl
@[simp] theorem putU_nextUid (s : Store) (n : Usage) : (s.putU n).nextUid = s.nextUid := rfl
@[simp] theorem dropU_nextUid (s : Store) (n : String) : (s.dropU n).nextUid = s.nextUid := rfl
@[simp] theorem putR_nextUid (s : Store) (n : Res) : (s.putR n).nextUid = s.nextUid := rfl
@[simp] theorem dropR_nextUid (s : Store) (g k n : String) : (s.dropR g k n).nextUid = s.nextUid := rfl
@[simp] theorem putU_born (s : Store) (n : Usage) : (s.putU n).born = s.born := rfl
@[simp] theorem dropU_born (s : Store) (n : String) : (s.dropU n).born = s.born := rfl
@[simp] theorem putR_born (s : Store) (n : Res) : (s.putR n).born = s.born := rfl
@[simp] theorem dropR_born (s : Store) (g k n : String) : (s.dropR g k n).born = s.born := rfl

theorem countU_pos {s : Store} {key : String} :
    s.countU key > 0 ↔ ∃ u ∈ s.usages, u.indexedBy key = true := by
  unfold Store.countU
  show 0 < _ ↔ _
  rw [List.length_pos_iff_exists_mem]
  simp only [List.mem_filter]

theorem countU_zero {s : Store} {key : String} :
    s.countU key = 0 ↔ ∀ u ∈ s.usages, u.indexedBy key = false := by
  unfold Store.countU
  rw [List.length_eq_zero_iff, List.filter_eq_nil_iff]
  constructor
  · intro h u hu
    cases hb : u.indexedBy key
    · rfl
    · exact absurd hb (h u hu)
  · intro h u hu hb
    rw [h u hu] at hb; cases hb

theorem countU_lt_two {s : Store} {key : String} (h : s.countU key < 2) {x y : Usage}
    (hx : x ∈ s.usages) (hy : y ∈ s.usages) (px : x.indexedBy key = true) (py : y.indexedBy key = true) :
    x = y := by
  have hx' : x ∈ s.usages.filter (·.indexedBy key) := List.mem_filter.mpr ⟨hx, px⟩
  have hy' : y ∈ s.usages.filter (·.indexedBy key) := List.mem_filter.mpr ⟨hy, py⟩
  unfold Store.countU at h
  match hf : s.usages.filter (·.indexedBy key) with
  | [] => rw [hf] at hx'; cases hx'
  | [a] =>
    rw [hf] at hx' hy'
    rw [List.mem_singleton.mp hx', List.mem_singleton.mp hy']
  | _ :: _ :: _ => rw [hf] at h; exact absurd h (by simp)

theorem exec_read (s : Store) {q : Req} (h : q.isWrite = false) : (s.exec q).1 = s := by
  cases q <;> first | rfl | cases h

/-- an Update of a resource, as a relation between the store afterwards and the reply: what the label
Updates of a reconcile are stated over (`CallEff.res`) -/
inductive UpdRSpec (s : Store) (r : Res) : Store → Resp → Prop where
  | notFound : s.getR r.group r.kind r.name = none → UpdRSpec s r s (.err .notFound)
  | conflict (x : Res) : s.getR r.group r.kind r.name = some x → x.rv ≠ r.rv → UpdRSpec s r s (.err .conflict)
  | noop (x : Res) : s.getR r.group r.kind r.name = some x → x.rv = r.rv → x = { r with uid := x.uid } →
      UpdRSpec s r s (.res x)
  | put (x : Res) : s.getR r.group r.kind r.name = some x → x.rv = r.rv →
      UpdRSpec s r ((s.putR { r with uid := x.uid, rv := s.nextRv }).bump) (.res { r with uid := x.uid, rv := s.nextRv })

theorem updR_spec (s : Store) (r : Res) : UpdRSpec s r (s.updR r).1 (s.updR r).2 := by
  fun_cases Store.updR s r with
  | case1 hg => exact .notFound hg
  | case2 x hg hrv => exact .conflict x hg hrv
  | case3 x hg hrv hn => exact .noop x hg (Decidable.not_not.mp hrv) hn.symm
  | case4 x hg hrv _ => exact .put x hg (Decidable.not_not.mp hrv)

theorem updU_frame (s : Store) (u : Usage) : (s.updU u).1.res = s.res ∧ (s.updU u).1.born = s.born := by
  fun_cases Store.updU s u <;> exact ⟨rfl, rfl⟩

theorem updStatus_res (s : Store) (u : Usage) : (s.updStatus u).1.res = s.res := by
  fun_cases Store.updStatus s u <;> rfl

theorem updR_frame (s : Store) (r : Res) : (s.updR r).1.usages = s.usages ∧ (s.updR r).1.born = s.born := by
  fun_cases Store.updR s r <;> exact ⟨rfl, rfl⟩

theorem updR_usages (s : Store) (r : Res) : (s.updR r).1.usages = s.usages := (updR_frame s r).1

theorem updR_born (s : Store) (r : Res) : (s.updR r).1.born = s.born := (updR_frame s r).2

theorem UpdRSpec.res_from {s s' : Store} {q : Res} {resp : Resp} (spec : UpdRSpec s q s' resp) :
    ∀ r' ∈ s'.res, r' ∈ s.res ∨ (r'.key = q.key ∧ r'.inUse = q.inUse) := by
  intro r' hr'
  cases spec with
  | put x hg hx =>
    rcases mem_putR.mp hr' with ⟨h, _⟩ | ⟨rfl, _⟩
    · exact .inl h
    · exact .inr ⟨rfl, rfl⟩
  | _ => exact .inl hr'

/-- Every action of the environment (users, the webhook, the garbage collector, the composer, other
writers) leaves the store alone or changes it in one of six ways; the invariants are proved
against these, not against the single operations. -/
inductive EnvEff (s : Store) : Store → Prop where
  | same : EnvEff s s
  | addRes (r : Res) : s.getR r.group r.kind r.name = none → r.name ≠ "" → r.uid = s.nextUid →
      EnvEff s { s with res := s.res ++ [r], nextUid := s.nextUid + 1, nextRv := s.nextRv + 1,
                        born := (s.nextUid, r.group, r.kind, r.name) :: s.born }
  | addUsage (u : Usage) : s.getU u.name = none → u.rv = s.nextRv → u.fin = false → u.deleting = false →
      u.ready = false →
      EnvEff s { s with usages := s.usages ++ [u], nextUid := s.nextUid + 1, nextRv := s.nextRv + 1 }
  /-- a stored resource is rewritten: key and uid stay, and no resource of that key loses the label -/
  | editR (x n : Res) : s.getR n.group n.kind n.name = some x → n.uid = x.uid →
      (∀ y ∈ s.res, y.key = n.key → y.inUse = true → n.inUse = true) → EnvEff s (s.putR n).bump
  /-- a stored resource goes: it was not labelled, or no Usage is indexed under its key -/
  | dropR (g k n : String) (r : Res) : s.getR g k n = some r →
      (r.inUse = false ∨ s.countU (indexKey r.group r.kind r.name) = 0) → EnvEff s (s.dropR g k n)
  /-- a stored Usage is rewritten: its deletion is requested (it holds the finalizer), or it gets
  owner references where it had none; everything else stays -/
  | editU (x n : Usage) : s.getU n.name = some x → n.uid = x.uid → n.rv = s.nextRv → n.of = x.of → n.by_ = x.by_ →
      n.fin = x.fin → n.ready = x.ready → (n.deleting = x.deleting ∨ (n.deleting = true ∧ x.fin = true)) →
      (n.owners = x.owners ∨ x.owners = []) → EnvEff s (s.putU n).bump
  | dropU (x : Usage) : s.getU x.name = some x → x.fin = false → EnvEff s (s.dropU x.name)

theorem createRes_eff (s : Store) (g k n : String) (l : Labels) (iu : Bool) (c : String) :
    EnvEff s (s.createRes g k n l iu c).1 := by
  fun_cases Store.createRes s g k n l iu c with
  | case3 hne hg => exact .addRes ⟨g, k, n, s.nextUid, s.nextRv, l, iu, none, s.ctrlRef c⟩ hg hne rfl  -- created
  | _ => exact .same

theorem createUsage_eff (s : Store) (nm : String) (of : RSpec) (b : Option RSpec) (r : Option String) (c : Bool)
    (ct : String) : EnvEff s (s.createUsage nm of b r c ct).1 := by
  fun_cases Store.createUsage s nm of b r c ct with
  | case3 _ hg =>  -- created
    exact .addUsage ⟨nm, s.nextUid, s.nextRv, of, b, r, c, s.ctrlRef ct, false, false, none, false⟩ hg rfl rfl rfl rfl
  | _ => exact .same

theorem deleteUsage_eff (s : Store) (nm : String) : EnvEff s (s.deleteUsage nm).1 := by
  fun_cases Store.deleteUsage s nm with
  | case3 x hg hfin _ =>  -- it holds the finalizer: its deletion is requested
    cases (getU_some hg).2
    exact .editU x { x with deleting := true, rv := s.nextRv } hg rfl rfl rfl rfl rfl rfl (.inr ⟨rfl, hfin⟩) (.inl rfl)
  | case4 x hg hfin =>  -- it holds no finalizer: it goes
    cases (getU_some hg).2
    exact .dropU x hg (by simpa using hfin)
  | _ => exact .same

theorem deleteRes_eff (s : Store) (g k n p : String) (lo po : Bool) :
    EnvEff s (s.deleteRes g k n p lo po none).1 := by
  unfold Store.deleteRes
  split
  · exact .same
  · next r hg =>
    split
    · next hin =>
      cases (getR_some hg).2
      fun_cases Store.admitDelete s r p lo po none with
      | case3 =>  -- denied, the attempt recorded by a patch
        exact .editR r { r with attempt := some (effPolicy p), rv := s.nextRv } hg rfl (fun _ _ _ _ => hin)
      | case5 _ hn => exact .dropR _ _ _ r hg (.inr (Nat.eq_zero_of_not_pos hn))  -- allowed
      | _ => exact .same
    · next hin => exact .dropR g k n r hg (.inl (by simpa using hin))

theorem gcUsage_eff (s : Store) (nm : String) : EnvEff s (s.gcUsage nm).1 := by
  fun_cases Store.gcUsage s nm with
  | case4 => exact deleteUsage_eff s nm  -- owned, and no owner alive
  | _ => exact .same

theorem gcRes_eff (s : Store) (g k n : String) : EnvEff s (s.gcRes g k n).1 := by
  fun_cases Store.gcRes s g k n with
  | case4 => exact deleteRes_eff s g k n _ _ _  -- owned, and no owner alive
  | _ => exact .same

theorem reapplyUsage_eff (s : Store) (nm c : String) : EnvEff s (s.reapplyUsage nm c).1 := by
  fun_cases Store.reapplyUsage s nm c with
  | case5 x hg xr _ _ hne =>  -- controllable and without owner references: it gets the composer's
    cases (getU_some hg).2
    exact .editU x { x with owners := [⟨xr.uid, true, "XR", c⟩], rv := s.nextRv } hg rfl rfl rfl rfl rfl rfl
      (.inl rfl) (.inr (by simpa using hne))
  | _ => exact .same

theorem touchRes_eff (s : Store)
    (hu : ∀ {x y : Res}, x ∈ s.res → y ∈ s.res → x.key = y.key → x = y)
    (g k n : String) (l : Labels) : EnvEff s (s.touchRes g k n l).1 := by
  fun_cases Store.touchRes s g k n l with
  | case3 r hg _ =>  -- some label changes
    obtain ⟨hr, hk⟩ := getR_some hg
    cases hk
    exact .editR r { r with labels := l.foldl setLabel r.labels, rv := s.nextRv } hg rfl
      (fun y hy e hyin => hu hy hr e ▸ hyin)
  | _ => exact .same

theorem EnvEff.born {s s' : Store} (e : EnvEff s s') : ∀ x ∈ s.born, x ∈ s'.born := by
  cases e with
  | addRes r _ _ _ => exact fun _ h => List.mem_cons_of_mem _ h
  | _ => exact fun _ h => h

theorem EnvEff.res_from {s s' : Store} (e : EnvEff s s') : ∀ r' ∈ s'.res,
    r' ∈ s.res ∨
    (∃ x ∈ s.res, x.key = r'.key ∧ (x.inUse = true → r'.inUse = true)) ∨ ∀ x ∈ s.res, x.key ≠ r'.key := by
  intro r' hr'
  cases e with
  | addRes r hg _ _ =>
    rcases List.mem_append.mp hr' with h | h
    · exact .inl h
    · cases List.mem_singleton.mp h; exact .inr (.inr (getR_none hg))
  | editR x n hg _ hin =>
    rw [bump_res] at hr'
    rcases mem_putR.mp hr' with ⟨h, _⟩ | ⟨rfl, _⟩
    · exact .inl h
    · obtain ⟨hx, hk⟩ := getR_some hg
      exact .inr (.inl ⟨x, hx, hk, hin x hx hk⟩)
  | dropR g k n r _ _ => exact .inl (mem_dropR.mp hr').1
  | _ => exact .inl hr'

theorem getR_dropR (s : Store) (g k n : String) : (s.dropR g k n).getR g k n = none := by
  unfold Store.getR
  rw [List.find?_eq_none]
  intro x hx
  have := (mem_dropR.mp hx).2
  cases hb : x.is g k n with
  | false => simp
  | true => exact absurd ((Res.is_iff _ _ _ _).mp hb) this

theorem getR_putR_self {s : Store} {n : Res} (h : ∃ x ∈ s.res, x.key = n.key) :
    (s.putR n).getR n.group n.kind n.name = some n := by
  obtain ⟨x, hx, hk⟩ := h
  have hmem : n ∈ (s.putR n).res := mem_putR.mpr (.inr ⟨rfl, x, hx, hk⟩)
  cases hg : (s.putR n).getR n.group n.kind n.name with
  | none => exact absurd rfl (getR_none hg n hmem)
  | some y =>
    have hy := getR_some hg
    rcases mem_putR.mp hy.1 with ⟨_, hne⟩ | ⟨rfl, _⟩
    · exact absurd hy.2 hne
    · rfl

theorem deleteRes_unlabelled {s : Store} {g k n : String} {r : Res} (p : String) (lo po : Bool) (st : Option Nat)
    (hg : s.getR g k n = some r) (hin : r.inUse = false) :
    s.deleteRes g k n p lo po st = (s.dropR g k n, .done false .allowed) := by
  simp [Store.deleteRes, hg, hin]

/-- `Handler.validateNoUsages` on a stored, labelled object when neither its List nor its Patch fails;
the count it decides by is the live one, or the one a cache served (`st`) -/
theorem deleteRes_labelled {s : Store} {g k n : String} {r : Res} (p : String) (st : Option Nat)
    (hg : s.getR g k n = some r) (hin : r.inUse = true) :
    (0 < st.getD (s.countU (indexKey g k n)) ∧ (s.deleteRes g k n p true true st).2 = .done true .denied ∧
      ∃ r', (s.deleteRes g k n p true true st).1.getR g k n = some r' ∧ r'.attempt = some (effPolicy p) ∧
        r'.inUse = true) ∨
    (st.getD (s.countU (indexKey g k n)) = 0 ∧
      s.deleteRes g k n p true true st = (s.dropR g k n, .done true .allowed)) := by
  obtain ⟨hrm, hk⟩ := getR_some hg
  cases hk
  unfold Store.deleteRes
  simp only [hg, hin, if_true]
  fun_cases Store.admitDelete s r p true true st with
  | case1 h | case2 _ _ _ h => exact Bool.noConfusion h  -- no fault of the List or the Patch
  | case3 _ hn _ _ =>  -- denied, the attempt recorded by a patch
    exact .inl ⟨hn, rfl, { r with attempt := some (effPolicy p), rv := s.nextRv },
      getR_putR_self (s := s) (n := { r with attempt := some (effPolicy p), rv := s.nextRv }) ⟨r, hrm, rfl⟩,
      rfl, hin⟩
  | case4 _ hn ha => exact .inl ⟨hn, rfl, r, hg, Decidable.not_not.mp ha, hin⟩  -- denied, recorded already
  | case5 _ hn => exact .inr ⟨Nat.eq_zero_of_not_pos hn, rfl⟩  -- allowed

end Xp.C19
