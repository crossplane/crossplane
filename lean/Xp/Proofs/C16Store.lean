import Xp.Model.C16World
/-
C16: the store and what writes do to it — well-formedness, versions, the two write calls of the
API server (`apiUpdate_spec`, `apiCreate_spec`), the revision's write log, and
the writes of a third party.
-/
namespace Xp.C16

theorem get_key {s : Store} {k : String} {c : Obj} (h : s.get k = some c) : c.key = k := by
  unfold Store.get at h
  simpa using List.find?_some h

theorem get_mem {s : Store} {k : String} {c : Obj} (h : s.get k = some c) : c ∈ s.objs := by
  unfold Store.get at h
  exact List.mem_of_find?_eq_some h

theorem get_none {s : Store} {k : String} (h : s.get k = none) : ∀ o ∈ s.objs, o.key ≠ k := by
  intro o ho
  unfold Store.get at h
  simpa using List.find?_eq_none.mp h o ho

/-- no two stored objects share a key (object names are unique in the API server) -/
def KeysUnique (l : List Obj) : Prop := ∀ x ∈ l, ∀ y ∈ l, x.key = y.key → x = y

theorem keysUnique_append (l : List Obj) (n : Obj) (hu : KeysUnique l) (hnew : ∀ o ∈ l, o.key ≠ n.key) :
    KeysUnique (l ++ [n]) := by
  intro x hx y hy e
  rcases List.mem_append.mp hx with hx1 | hx1 <;> rcases List.mem_append.mp hy with hy1 | hy1
  · exact hu x hx1 y hy1 e
  · cases List.mem_singleton.mp hy1
    exact absurd e (hnew x hx1)
  · cases List.mem_singleton.mp hx1
    exact absurd e.symm (hnew y hy1)
  · rw [List.mem_singleton.mp hx1, List.mem_singleton.mp hy1]

theorem keysUnique_replace (l : List Obj) (n : Obj) (hu : KeysUnique l) :
    KeysUnique (l.map fun x => if x.key = n.key then n else x) := by
  intro x hx y hy e
  obtain ⟨a, ha, rfl⟩ := List.mem_map.mp hx
  obtain ⟨b, hb, rfl⟩ := List.mem_map.mp hy
  by_cases ea : a.key = n.key <;> by_cases eb : b.key = n.key
  · rw [if_pos ea, if_pos eb]
  · rw [if_pos ea, if_neg eb] at e ⊢
    exact absurd e.symm eb
  · rw [if_neg ea, if_pos eb] at e ⊢
    exact absurd e ea
  · rw [if_neg ea, if_neg eb] at e ⊢
    exact hu _ ha _ hb e

theorem keysUnique_filter (l : List Obj) (f : Obj → Bool) (hu : KeysUnique l) : KeysUnique (l.filter f) :=
  fun x hx y hy e => hu x (List.mem_filter.mp hx).1 y (List.mem_filter.mp hy).1 e

/-- the store is well formed: unique keys and every resourceVersion already handed out -/
structure WF (s : Store) : Prop where
  keys : KeysUnique s.objs
  rvs : ∀ o ∈ s.objs, o.rv < s.nextRv

/-- since `s₀`, every object whose resourceVersion is older than `s₀.nextRv` is still the object of `s₀` -/
structure Frozen (s₀ s : Store) : Prop where
  le : s₀.nextRv ≤ s.nextRv
  old : ∀ c ∈ s.objs, c.rv < s₀.nextRv → c ∈ s₀.objs

theorem Frozen.refl (s : Store) : Frozen s s := ⟨Nat.le_refl _, fun _ h _ => h⟩

theorem Frozen.trans {a b c : Store} (h1 : Frozen a b) (h2 : Frozen b c) : Frozen a c :=
  ⟨Nat.le_trans h1.le h2.le,
   fun x hx hlt => h1.old x (h2.old x hx (Nat.lt_of_lt_of_le hlt h1.le)) hlt⟩

/-- `c₀` is a version the server handed out before `s`: its resourceVersion is older than
`s.nextRv`, and a stored object with its key and its resourceVersion is `c₀` itself -/
def Seen (s : Store) (c₀ : Obj) : Prop :=
  c₀.rv < s.nextRv ∧ ∀ c ∈ s.objs, c.key = c₀.key → c.rv = c₀.rv → c = c₀

theorem Seen.of_mem {s : Store} {c₀ : Obj} (hw : WF s) (h : c₀ ∈ s.objs) : Seen s c₀ :=
  ⟨hw.rvs _ h, fun c hc hk _ => hw.keys c hc c₀ h hk⟩

theorem Seen.mono {s s' : Store} {c₀ : Obj} (hf : Frozen s s') (h : Seen s c₀) : Seen s' c₀ :=
  ⟨Nat.lt_of_lt_of_le h.1 hf.le, fun c hc hk hrv => h.2 c (hf.old c hc (hrv ▸ h.1)) hk hrv⟩

theorem Seen.hit {sv s : Store} {c₀ c : Obj} (h : Seen sv c₀) (hf : Frozen sv s) (hc : c ∈ s.objs)
    (hk : c.key = c₀.key) (hrv : c.rv = c₀.rv) : c = c₀ ∧ c ∈ sv.objs :=
  have hc0 := hf.old c hc (hrv ▸ h.1)
  ⟨h.2 c hc0 hk hrv, hc0⟩

def R.failed {α : Type} : R α → Prop
  | .ok _ => False
  | _ => True

theorem R.failed.ne_ok {α : Type} {r : R α} (h : r.failed) (a : α) : r ≠ .ok a :=
  fun e => by rw [e] at h; exact h

theorem liftW_fst {α : Type} (a : α) (x : Store × WR) : (liftW a x).1 = x.1 := by
  obtain ⟨s, r⟩ := x
  cases r <;> rfl

theorem liftW_failed {α : Type} (a : α) (x : Store × WR) (h : x.2 ≠ .ok) : (liftW a x).2.failed := by
  obtain ⟨s, r⟩ := x
  cases r
  · exact absurd rfl h
  · trivial
  · trivial

theorem liftW_eq_ok {α : Type} {a b : α} {x : Store × WR} {s' : Store} (h : liftW a x = (s', .ok b)) :
    x = (s', .ok) ∧ b = a := by
  obtain ⟨s, r⟩ := x
  cases r
  · injection h with h1 h2
    injection h2 with h2
    exact ⟨by rw [h1], h2.symm⟩
  · injection h with _ h2; cases h2
  · injection h with _ h2; cases h2

theorem liftW_ok {α : Type} {a b : α} {x : Store × WR} (h : (liftW a x).2 = .ok b) : b = a :=
  (liftW_eq_ok (Prod.ext rfl h)).2

variable (rejects : Obj → Bool) (dry : Bool) (oc : Outcome) (s : Store) (o : Obj)

theorem checkUpdate_ok {s : Store} {o c : Obj} (h : checkUpdate s o = .ok c) :
    s.get o.key = some c ∧ c.rv = o.rv ∧ ctrlCount o.owners ≤ 1 := by
  revert h
  fun_cases checkUpdate s o with
  | case4 c' hc h1 h2 => exact fun h => by cases h; exact ⟨hc, Decidable.of_not_not h1, Nat.le_of_not_gt h2⟩
  | _ => nofun

theorem checkCreate_none {s : Store} {o : Obj} (h : checkCreate s o = none) :
    s.get o.key = none ∧ ctrlCount o.owners ≤ 1 := by
  revert h
  fun_cases checkCreate s o with
  | case3 h1 h2 => exact fun _ => ⟨by simpa using h1, Nat.le_of_not_gt h2⟩
  | _ => nofun

theorem apiUpdate_spec :
    (∃ e w, w ≠ .ok ∧ apiUpdate rejects dry oc s o = (logW dry s ⟨.update, o.key, some e, false⟩, w)) ∨
    (∃ c err w, checkUpdate s o = .ok c ∧ (w = .ok → err = none) ∧
      apiUpdate rejects dry oc s o = if dry then (s, w) else (replaceObj s c o err, w)) := by
  fun_cases apiUpdate rejects dry oc s o with      -- 5, 6: answered ok; 8, 9: crash after the write; each dry / real
  | case5 _ c hc hd => exact Or.inr ⟨c, none, .ok, hc, fun _ => rfl, by rw [if_pos hd]⟩
  | case6 _ c hc hd => exact Or.inr ⟨c, none, .ok, hc, fun _ => rfl, by rw [if_neg hd]⟩
  | case8 _ c hc hd => exact Or.inr ⟨c, some .crashed, .crash, hc, nofun, by rw [if_pos hd]⟩
  | case9 _ c hc hd => exact Or.inr ⟨c, some .crashed, .crash, hc, nofun, by rw [if_neg hd]⟩
  | _ => exact Or.inl ⟨_, _, by nofun, rfl⟩

theorem apiCreate_spec :
    (∃ e w, w ≠ .ok ∧ apiCreate rejects dry oc s o = (logW dry s ⟨.create, o.key, some e, false⟩, w)) ∨
    (∃ err w, checkCreate s o = none ∧ (w = .ok → err = none) ∧
      apiCreate rejects dry oc s o = if dry then (s, w) else (insertObj s o ⟨.create, o.key, err, true⟩, w)) := by
  fun_cases apiCreate rejects dry oc s o with      -- 5, 6: answered ok; 8, 9: crash after the write; each dry / real
  | case5 _ hc hd => exact Or.inr ⟨none, .ok, hc, fun _ => rfl, by rw [if_pos hd]⟩
  | case6 _ hc hd => exact Or.inr ⟨none, .ok, hc, fun _ => rfl, by rw [if_neg hd]⟩
  | case8 _ hc hd => exact Or.inr ⟨some .crashed, .crash, hc, nofun, by rw [if_pos hd]⟩
  | case9 _ hc hd => exact Or.inr ⟨some .crashed, .crash, hc, nofun, by rw [if_neg hd]⟩
  | _ => exact Or.inl ⟨_, _, by nofun, rfl⟩

theorem apiUpdate_dry :
    (apiUpdate rejects true oc s o).1 = s := by
  rcases apiUpdate_spec rejects true oc s o with ⟨_, _, _, h⟩ | ⟨_, _, _, _, _, h⟩
  · rw [h]
    rfl
  · rw [h]
    rfl

theorem apiCreate_dry :
    (apiCreate rejects true oc s o).1 = s := by
  rcases apiCreate_spec rejects true oc s o with ⟨_, _, _, h⟩ | ⟨_, _, _, _, h⟩
  · rw [h]
    rfl
  · rw [h]
    rfl

theorem apiUpdate_rejected (h : rejects o = true) : (apiUpdate rejects dry oc s o).2 ≠ .ok := by
  unfold apiUpdate effOutcome
  simp [h]

theorem apiCreate_rejected (h : rejects o = true) : (apiCreate rejects dry oc s o).2 ≠ .ok := by
  unfold apiCreate effOutcome
  simp [h]

theorem apiUpdate_invalid (h : 2 ≤ ctrlCount o.owners) : (apiUpdate rejects dry oc s o).2 ≠ .ok := by
  rcases apiUpdate_spec rejects dry oc s o with ⟨_, w, hw, h'⟩ | ⟨c, _, _, hc, _, _⟩
  · rw [h']; exact hw
  · exact absurd (checkUpdate_ok hc).2.2 (Nat.not_le_of_gt h)

theorem apiUpdate_ok {rejects : Obj → Bool} {oc : Outcome} {s s' : Store} {o : Obj}
    (h : apiUpdate rejects false oc s o = (s', .ok)) :
    ∃ c, s.get o.key = some c ∧ s' = replaceObj s c o none := by
  rcases apiUpdate_spec rejects false oc s o with ⟨_, w, hw, h'⟩ | ⟨c, err, w, hc, he, h'⟩ <;> rw [h'] at h
  · exact absurd (congrArg Prod.snd h) hw
  · have h2 : (replaceObj s c o err, w) = (s', WR.ok) := h
    injection h2 with h3 h4
    rw [he h4] at h3
    exact ⟨c, (checkUpdate_ok hc).1, h3.symm⟩

theorem apiCreate_ok {rejects : Obj → Bool} {oc : Outcome} {s s' : Store} {o : Obj}
    (h : apiCreate rejects false oc s o = (s', .ok)) :
    s' = insertObj s o ⟨.create, o.key, none, true⟩ := by
  rcases apiCreate_spec rejects false oc s o with ⟨_, w, hw, h'⟩ | ⟨err, w, _, he, h'⟩ <;> rw [h'] at h
  · exact absurd (congrArg Prod.snd h) hw
  · have h2 : (insertObj s o ⟨.create, o.key, err, true⟩, w) = (s', WR.ok) := h
    injection h2 with h3 h4
    rw [he h4] at h3
    exact h3.symm

theorem sameContent_owners {a b : Obj} (h : sameContent a b = true) : a.owners = b.owners := by
  unfold sameContent at h
  simp only [Bool.and_eq_true, beq_iff_eq] at h
  exact h.1

theorem replaceObj_has {s : Store} {c o : Obj} (e : Option Err) (hget : s.get o.key = some c) :
    ∃ o' ∈ (replaceObj s c o e).objs, o'.key = o.key ∧ o'.owners = o.owners := by
  unfold replaceObj
  split
  · rename_i hs
    exact ⟨c, get_mem hget, get_key hget, sameContent_owners hs⟩
  · exact ⟨{ o with rv := s.nextRv }, List.mem_map.mpr ⟨c, get_mem hget, if_pos (get_key hget)⟩, rfl, rfl⟩

theorem replaceObj_owners {s : Store} {c o : Obj} (e : Option Err) (hw : WF s) (hget : s.get o.key = some c) :
    ∀ o' ∈ (replaceObj s c o e).objs, o'.key = o.key → o'.owners = o.owners := by
  intro o' ho' hk
  unfold replaceObj at ho'
  split at ho'
  · rename_i hs
    rw [hw.keys o' ho' c (get_mem hget) (hk.trans (get_key hget).symm)]
    exact sameContent_owners hs
  · obtain ⟨x, _, hx'⟩ := List.mem_map.mp ho'
    split at hx'
    · subst hx'; rfl
    · rename_i hne
      subst hx'
      exact absurd hk hne

/-- what a create does to the object list: nothing, or one append -/
inductive CEffect (s s' : Store) (o : Obj) : Prop where
  | nothing : s'.objs = s.objs → s'.nextRv = s.nextRv → CEffect s s' o
  | created : s.get o.key = none → ctrlCount o.owners ≤ 1 →
      s'.objs = s.objs ++ [{ o with rv := s.nextRv }] → s'.nextRv = s.nextRv + 1 → CEffect s s' o

/-- what an update does to the object list: nothing, or one replacement -/
inductive UEffect (s s' : Store) (o : Obj) : Prop where
  | nothing : s'.objs = s.objs → s'.nextRv = s.nextRv → UEffect s s' o
  | replaced (c : Obj) : s.get o.key = some c → c.rv = o.rv → ctrlCount o.owners ≤ 1 →
      s'.objs = (s.objs.map fun x => if x.key = o.key then { o with rv := s.nextRv } else x) →
      s'.nextRv = s.nextRv + 1 → UEffect s s' o

theorem apiCreate_effect :
    CEffect s (apiCreate rejects dry oc s o).1 o := by
  rcases apiCreate_spec rejects dry oc s o with ⟨_, _, _, h⟩ | ⟨_, _, hc, _, h⟩ <;> rw [h]
  · cases dry <;> exact .nothing rfl rfl
  · cases dry
    · exact .created (checkCreate_none hc).1 (checkCreate_none hc).2 rfl rfl
    · exact .nothing rfl rfl

theorem apiUpdate_effect :
    UEffect s (apiUpdate rejects dry oc s o).1 o := by
  rcases apiUpdate_spec rejects dry oc s o with ⟨_, _, _, h⟩ | ⟨c, err, _, hc, _, h⟩ <;> rw [h]
  · cases dry <;> exact .nothing rfl rfl
  · cases dry
    · obtain ⟨h1, h2, h3⟩ := checkUpdate_ok hc
      show UEffect s (replaceObj s c o err) o
      unfold replaceObj
      split
      · exact .nothing rfl rfl
      · exact .replaced c h1 h2 h3 rfl rfl
    · exact .nothing rfl rfl

theorem CEffect.mem {s s' : Store} {o : Obj} (h : CEffect s s' o) : ∀ o' ∈ s'.objs, o' ∈ s.objs ∨
    (o' = { o with rv := s.nextRv } ∧ s.get o.key = none ∧ ctrlCount o.owners ≤ 1) := by
  intro o' ho'
  cases h with
  | nothing h1 _ => exact Or.inl (h1 ▸ ho')
  | created h1 h2 h3 _ =>
    rw [h3] at ho'
    rcases List.mem_append.mp ho' with h | h
    · exact Or.inl h
    · exact Or.inr ⟨List.mem_singleton.mp h, h1, h2⟩

theorem UEffect.mem {s s' : Store} {o : Obj} (h : UEffect s s' o) : ∀ o' ∈ s'.objs, o' ∈ s.objs ∨
    (o' = { o with rv := s.nextRv } ∧ ∃ c, s.get o.key = some c ∧ c.rv = o.rv ∧ ctrlCount o.owners ≤ 1) := by
  intro o' ho'
  cases h with
  | nothing h1 _ => exact Or.inl (h1 ▸ ho')
  | replaced c h1 h2 h3 h4 _ =>
    rw [h4] at ho'
    obtain ⟨x, hx, hx'⟩ := List.mem_map.mp ho'
    split at hx'
    · exact Or.inr ⟨hx'.symm, c, h1, h2, h3⟩
    · exact Or.inl (hx' ▸ hx)

theorem effect_wf {s s' : Store} {o : Obj} (h : CEffect s s' o ∨ UEffect s s' o) (hw : WF s) : WF s' := by
  have nothing : s'.objs = s.objs → s'.nextRv = s.nextRv → WF s' :=
    fun h1 h2 => ⟨h1 ▸ hw.keys, fun x hx => by rw [h1] at hx; rw [h2]; exact hw.rvs x hx⟩
  rcases h with h | h
  · cases h with
    | nothing h1 h2 => exact nothing h1 h2
    | created h1 _ h3 h4 =>
      refine ⟨h3 ▸ keysUnique_append _ _ hw.keys (get_none h1), fun x hx => ?_⟩
      rw [h3] at hx
      rw [h4]
      rcases List.mem_append.mp hx with hx | hx
      · exact Nat.lt_succ_of_lt (hw.rvs x hx)
      · cases List.mem_singleton.mp hx; exact Nat.lt_succ_self _
  · cases h with
    | nothing h1 h2 => exact nothing h1 h2
    | replaced c _ _ _ h4 h5 =>
      refine ⟨h4 ▸ keysUnique_replace s.objs { o with rv := s.nextRv } hw.keys, fun x hx => ?_⟩
      rw [h4] at hx
      rw [h5]
      obtain ⟨a, ha, hax⟩ := List.mem_map.mp hx
      split at hax
      · subst hax; exact Nat.lt_succ_self _
      · subst hax; exact Nat.lt_succ_of_lt (hw.rvs a ha)

theorem effect_frozen {s s' : Store} {o : Obj} (h : CEffect s s' o ∨ UEffect s s' o) : Frozen s s' := by
  refine ⟨?_, fun x hx hlt => ?_⟩
  · rcases h with (⟨_, h2⟩ | ⟨_, _, _, h2⟩) | (⟨_, h2⟩ | ⟨_, _, _, _, _, h2⟩)
    · exact Nat.le_of_eq h2.symm
    · exact h2 ▸ Nat.le_succ _
    · exact Nat.le_of_eq h2.symm
    · exact h2 ▸ Nat.le_succ _
  · rcases h.elim (fun h => (h.mem x hx).imp id (·.1)) fun h => (h.mem x hx).imp id (·.1) with h | rfl
    · exact h
    · exact absurd hlt (Nat.lt_irrefl _)

/-- `l'` extends `l` by entries that are updates, unless `control` (then creates are allowed too) -/
def LogExt (control : Bool) (l l' : List LogEntry) : Prop :=
  ∃ new, l' = l ++ new ∧ ∀ e ∈ new, e.verb = .update ∨ control = true

theorem LogExt.refl (control : Bool) (l : List LogEntry) : LogExt control l l :=
  ⟨[], (List.append_nil l).symm, fun _ h => nomatch h⟩

theorem LogExt.trans {control : Bool} {a b c : List LogEntry} (h1 : LogExt control a b) (h2 : LogExt control b c) :
    LogExt control a c := by
  obtain ⟨n1, e1, p1⟩ := h1
  obtain ⟨n2, e2, p2⟩ := h2
  refine ⟨n1 ++ n2, by rw [e2, e1, List.append_assoc], fun e he => ?_⟩
  rcases List.mem_append.mp he with h | h
  · exact p1 e h
  · exact p2 e h

theorem LogExt.one (control : Bool) (l : List LogEntry) (e : LogEntry) (h : e.verb = .update ∨ control = true) :
    LogExt control l (l ++ [e]) :=
  ⟨[e], rfl, fun x hx => by cases List.mem_singleton.mp hx; exact h⟩

theorem LogExt.updates {l l' : List LogEntry} (h : LogExt false l l') :
    ∃ new, l' = l ++ new ∧ ∀ e ∈ new, e.verb = .update := by
  obtain ⟨new, he, hn⟩ := h
  exact ⟨new, he, fun e h => (hn e h).resolve_right nofun⟩

theorem logW_ext (control dry : Bool) (s : Store) (e : LogEntry) (h : e.verb = .update ∨ control = true) :
    LogExt control s.log (logW dry s e).log := by
  cases dry
  · exact LogExt.one control s.log e h
  · exact LogExt.refl _ _

theorem apiUpdate_ext (control : Bool) (rejects : Obj → Bool) (dry : Bool) (oc : Outcome) (s : Store) (o : Obj) :
    LogExt control s.log (apiUpdate rejects dry oc s o).1.log := by
  rcases apiUpdate_spec rejects dry oc s o with ⟨_, _, _, h⟩ | ⟨c, err, _, _, _, h⟩ <;> rw [h]
  · exact logW_ext _ _ _ _ (Or.inl rfl)
  · cases dry
    · show LogExt control s.log (replaceObj s c o err).log
      unfold replaceObj
      split <;> exact LogExt.one _ _ _ (Or.inl rfl)
    · exact LogExt.refl _ _

theorem apiCreate_ext :
    LogExt true s.log (apiCreate rejects dry oc s o).1.log := by
  rcases apiCreate_spec rejects dry oc s o with ⟨_, _, _, h⟩ | ⟨_, _, _, _, h⟩ <;> rw [h]
  · exact logW_ext _ _ _ _ (Or.inr rfl)
  · cases dry
    · exact LogExt.one _ _ _ (Or.inr rfl)
    · exact LogExt.refl _ _

theorem applyActs_cons (s : Store) (a : Act) (as : List Act) :
    applyActs s (a :: as) = applyActs (applyAct s a) as := rfl

theorem applyAct_log (s : Store) (a : Act) : (applyAct s a).log = s.log := by
  cases a <;> rfl

theorem applyActs_log (s : Store) (as : List Act) : (applyActs s as).log = s.log := by
  induction as generalizing s with
  | nil => rfl
  | cons a as ih => rw [applyActs_cons, ih, applyAct_log]

theorem applyAct_mem (s : Store) (a : Act) (o' : Obj) (h : o' ∈ (applyAct s a).objs) :
    o' ∈ s.objs ∨ ∃ o, a = .put o ∧ o' = { o with rv := s.nextRv } := by
  cases a with
  | del k => exact Or.inl (List.mem_filter.mp h).1
  | put o =>
    rcases List.mem_append.mp h with h | h
    · exact Or.inl (List.mem_filter.mp h).1
    · exact Or.inr ⟨o, rfl, List.mem_singleton.mp h⟩

theorem applyAct_wf (s : Store) (a : Act) (hw : WF s) : WF (applyAct s a) := by
  cases a with
  | del k =>
    exact ⟨keysUnique_filter _ _ hw.keys, fun o ho => hw.rvs o (List.mem_filter.mp ho).1⟩
  | put o =>
    refine ⟨keysUnique_append _ _ (keysUnique_filter _ _ hw.keys) fun x hx => ?_, fun x hx => ?_⟩
    · simpa using (List.mem_filter.mp hx).2
    · rcases applyAct_mem s (.put o) x hx with h | ⟨_, _, h⟩
      · exact Nat.lt_succ_of_lt (hw.rvs x h)
      · subst h; exact Nat.lt_succ_self _

theorem applyAct_frozen (s : Store) (a : Act) : Frozen s (applyAct s a) := by
  refine ⟨by cases a <;> simp [applyAct], fun c hc hlt => ?_⟩
  rcases applyAct_mem s a c hc with h | ⟨_, _, rfl⟩
  · exact h
  · exact absurd hlt (Nat.lt_irrefl _)

theorem applyActs_wf (s : Store) (as : List Act) (hw : WF s) : WF (applyActs s as) := by
  induction as generalizing s with
  | nil => exact hw
  | cons a as ih => exact ih _ (applyAct_wf s a hw)

theorem applyActs_frozen (s : Store) (as : List Act) : Frozen s (applyActs s as) := by
  induction as generalizing s with
  | nil => exact Frozen.refl s
  | cons a as ih => exact (applyAct_frozen s a).trans (ih _)

/-- third-party writes keep whatever holds of every stored object and of everything the third
party puts (`P`), whichever resourceVersion the server gives it -/
theorem applyActs_objs (Φ P : Obj → Prop) (s : Store) (as : List Act) (hP : ∀ o, Act.put o ∈ as → P o)
    (hΦ : ∀ o n, P o → Φ { o with rv := n }) (h : ∀ o' ∈ s.objs, Φ o') : ∀ o' ∈ (applyActs s as).objs, Φ o' := by
  induction as generalizing s with
  | nil => exact h
  | cons a as ih =>
    refine ih (applyAct s a) (fun o h => hP o (List.mem_cons_of_mem _ h)) fun o' ho' => ?_
    rcases applyAct_mem s a o' ho' with h1 | ⟨o, ha, he⟩
    · exact h o' h1
    · exact he ▸ hΦ o _ (hP o (ha ▸ List.mem_cons_self))

theorem find_filter_ne (l : List Obj) (k k' : String) (h : k' ≠ k) :
    (l.filter fun x => x.key != k').find? (fun o => o.key = k) = l.find? (fun o => o.key = k) := by
  induction l with
  | nil => rfl
  | cons x xs ih =>
    rw [List.filter_cons]
    by_cases e' : (x.key != k') = true
    · rw [if_pos e', List.find?_cons, List.find?_cons, ih]
    · rw [if_neg e', ih, List.find?_cons]
      have hk : x.key = k' := by simpa using e'
      have hne : ¬ (x.key = k) := by rw [hk]; exact h
      simp [hne]

theorem applyAct_get_ne (s : Store) (a : Act) (k : String) (h : a.key ≠ k) : (applyAct s a).get k = s.get k := by
  cases a with
  | del k' => exact find_filter_ne s.objs k k' h
  | put o =>
    have h : o.key ≠ k := h
    simp only [applyAct, Store.get, List.find?_append]
    rw [find_filter_ne s.objs k o.key h]
    simp [List.find?, h]

theorem applyActs_get_ne (s : Store) (as : List Act) (k : String) (h : ∀ a ∈ as, a.key ≠ k) :
    (applyActs s as).get k = s.get k := by
  induction as generalizing s with
  | nil => rfl
  | cons a as ih =>
    rw [applyActs_cons, ih _ fun a ha => h a (List.mem_cons_of_mem _ ha),
      applyAct_get_ne s a k (h a List.mem_cons_self)]

/-- `s'` is `s` with writes of the third party (all within `A`) applied, and nothing else: what a
phase that issues no real write does to the store. -/
def ByActs (A : Act → Prop) (s s' : Store) : Prop := ∃ as, (∀ a ∈ as, A a) ∧ s' = applyActs s as

theorem ByActs.refl (A : Act → Prop) (s : Store) : ByActs A s s := ⟨[], fun _ h => (List.not_mem_nil h).elim, rfl⟩

theorem ByActs.acts {A : Act → Prop} (s : Store) (as : List Act) (ha : ∀ a ∈ as, A a) : ByActs A s (applyActs s as) :=
  ⟨as, ha, rfl⟩

theorem ByActs.trans {A : Act → Prop} {s s' s'' : Store} (h1 : ByActs A s s') (h2 : ByActs A s' s'') : ByActs A s s'' := by
  obtain ⟨as, ha, rfl⟩ := h1
  obtain ⟨bs, hb, rfl⟩ := h2
  exact ⟨as ++ bs, fun a h => (List.mem_append.mp h).elim (ha a) (hb a), (List.foldl_append ..).symm⟩

theorem ByActs.wf {A : Act → Prop} {s s' : Store} (h : ByActs A s s') (hw : WF s) : WF s' := by
  obtain ⟨as, _, rfl⟩ := h
  exact applyActs_wf s as hw

theorem ByActs.frozen {A : Act → Prop} {s s' : Store} (h : ByActs A s s') : Frozen s s' := by
  obtain ⟨as, _, rfl⟩ := h
  exact applyActs_frozen s as

theorem ByActs.eq {A : Act → Prop} {s s' : Store} (h : ByActs A s s') (hA : ∀ a, ¬ A a) : s' = s := by
  obtain ⟨as, ha, rfl⟩ := h
  cases as with
  | nil => rfl
  | cons a _ => exact absurd (ha a List.mem_cons_self) (hA a)

theorem ByActs.get {A : Act → Prop} {s s' : Store} {k : String} (h : ByActs A s s') (hk : ∀ a, A a → a.key ≠ k) :
    s'.get k = s.get k := by
  obtain ⟨as, ha, rfl⟩ := h
  exact applyActs_get_ne s as k fun a h => hk a (ha a h)

/-- `o'` is, up to the resourceVersion the server assigned, an object a third party put (`P` = the third party's puts) -/
def PutBy (P : Obj → Prop) (o' : Obj) : Prop :=
  ∃ a, P a ∧ o'.key = a.key ∧ o'.owners = a.owners ∧ o'.body = a.body

theorem PutBy.mono {P P' : Obj → Prop} (h : ∀ a, P a → P' a) {o' : Obj} (hp : PutBy P o') : PutBy P' o' := by
  obtain ⟨a, ha, r⟩ := hp
  exact ⟨a, h a ha, r⟩

/-- `s` arose from `s₀` by third-party writes (puts within `P`) only: well formed, every
old resourceVersion still names the old object, the revision's write log is the same, and
every object is an object of `s₀` or one the third party put -/
structure TInv (P : Obj → Prop) (s₀ s : Store) : Prop where
  wf : WF s
  frozen : Frozen s₀ s
  log : s.log = s₀.log
  objs : ∀ o ∈ s.objs, o ∈ s₀.objs ∨ PutBy P o

theorem TInv.refl (P : Obj → Prop) (s : Store) (hw : WF s) : TInv P s s :=
  ⟨hw, Frozen.refl s, rfl, fun _ h => Or.inl h⟩

theorem TInv.acts {P : Obj → Prop} {s₀ s : Store} (hi : TInv P s₀ s) (as : List Act)
    (hP : ∀ o, Act.put o ∈ as → P o) : TInv P s₀ (applyActs s as) :=
  ⟨applyActs_wf s as hi.wf, hi.frozen.trans (applyActs_frozen s as), (applyActs_log s as).trans hi.log,
    applyActs_objs (fun o => o ∈ s₀.objs ∨ PutBy P o) P s as hP (fun o _ h => Or.inr ⟨o, h, rfl, rfl, rfl⟩) hi.objs⟩

theorem TInv.byActs {P : Obj → Prop} {A : Act → Prop} {s₀ s s' : Store} (hi : TInv P s₀ s) (h : ByActs A s s')
    (hP : ∀ o, A (.put o) → P o) : TInv P s₀ s' := by
  obtain ⟨as, ha, rfl⟩ := h
  exact hi.acts as fun o ho => hP o (ha _ ho)

theorem TInv.mono {P P' : Obj → Prop} {s₀ s : Store} (h : ∀ a, P a → P' a) (hi : TInv P s₀ s) : TInv P' s₀ s :=
  ⟨hi.wf, hi.frozen, hi.log, fun o ho => (hi.objs o ho).imp id (PutBy.mono h)⟩

end Xp.C16
