import Xp.Model.C10World
/-
Helper lemmas for C10: the apply loop of PTComposer.Compose, once for both models. The loop only
looks at what the Apply of each rendered template did (`loopOn` over `steps f`, `f` being the model's
Apply: `applyQ` in C10Compose, `applyW` in C10World). `Around` relates what Compose returns (`finish`)
to what its loop did; the facts below it speak of templates, not of positions in the list of steps.
-/
namespace Xp.C10

/-- the Apply was accepted or answered with a tolerated error: the loop goes on -/
def ApplyRes.passes (a : ApplyRes) : Bool :=
  match a.outcome with
  | none => true
  | some c => tolerated c

theorem ApplyRes.passes_iff (a : ApplyRes) : a.passes = true ↔ a.outcome = none ∨ a.outcome = some "invalid" := by
  unfold ApplyRes.passes
  cases a.outcome <;> simp [tolerated]

/-- what the loop sees of one template: whether it was rendered, and its Apply -/
abbrev Step := Bool × ApplyRes

/-- the apply loop over the Applies already computed: a template that was not rendered is skipped,
the first Apply that does not pass ends the loop. The facts below go by `fun_induction loopOn`, whose four cases
are, in this order: no step left, a template that was not rendered, an Apply that passes, an Apply that does not. -/
def loopOn : List Step → LoopW
  | [] => ⟨[], [], [], [], false⟩
  | (false, _) :: rest =>
    let l := loopOn rest
    ⟨l.writes, l.sent, false :: l.applied, .null :: l.afters, l.aborted⟩
  | (true, a) :: rest =>
    if a.passes then
      let l := loopOn rest
      ⟨a.write.toList ++ l.writes, a.sent.toList ++ l.sent, a.outcome.isNone :: l.applied,
        (if a.outcome.isNone then a.after else .null) :: l.afters, l.aborted⟩
    else ⟨a.write.toList, a.sent.toList, [false], [.null], true⟩

/-- `w` is the write of the Apply of a rendered template, and every rendered template before it passed -/
def WrittenBy (ss : List Step) (w : Write) : Prop :=
  ∃ (j : Nat) (a : ApplyRes), ss[j]? = some (true, a) ∧ a.write = some w ∧
    ∀ (k : Nat) (b : ApplyRes), k < j → ss[k]? = some (true, b) → b.passes

theorem WrittenBy.here {a : ApplyRes} {rest : List Step} {w : Write} (h : a.write = some w) : WrittenBy ((true, a) :: rest) w :=
  ⟨0, a, rfl, h, fun k _ hk => absurd hk (Nat.not_lt_zero k)⟩

theorem WrittenBy.later {rend : Bool} {a : ApplyRes} {rest : List Step} {w : Write} (h0 : rend = true → a.passes)
    (h : WrittenBy rest w) : WrittenBy ((rend, a) :: rest) w := by
  obtain ⟨j, a', h1, h2, h3⟩ := h
  refine ⟨j + 1, a', h1, h2, fun k b hk hb => ?_⟩
  cases k with
  | zero =>
    cases Option.some.inj hb
    exact h0 rfl
  | succ k => exact h3 k b (Nat.lt_of_succ_lt_succ hk) hb

theorem mem_writes_loopOn {ss : List Step} {w : Write} (hw : w ∈ (loopOn ss).writes) : WrittenBy ss w := by
  fun_induction loopOn ss with
  | case1 => cases hw
  | case2 a rest l ih => exact (ih hw).later nofun
  | case3 a rest hp l ih =>
    rw [List.mem_append, Option.mem_toList] at hw
    exact hw.elim .here fun h => (ih h).later fun _ => hp
  | case4 a rest hp => exact .here (Option.mem_toList.mp hw)

theorem mem_sent_loopOn {ss : List Step} {s : Sent} (hs : s ∈ (loopOn ss).sent) :
    ∃ (j : Nat) (a : ApplyRes), ss[j]? = some (true, a) ∧ a.sent = some s := by
  fun_induction loopOn ss with
  | case1 => cases hs
  | case2 a rest l ih =>
    obtain ⟨j, a', h⟩ := ih hs
    exact ⟨j + 1, a', h⟩
  | case3 a rest hp l ih =>
    rw [List.mem_append, Option.mem_toList] at hs
    rcases hs with h | h
    · exact ⟨0, a, rfl, h⟩
    · obtain ⟨j, a', h⟩ := ih h
      exact ⟨j + 1, a', h⟩
  | case4 a rest hp => exact ⟨0, a, rfl, Option.mem_toList.mp hs⟩

theorem loopOn_complete {ss : List Step} (hab : (loopOn ss).aborted = false) {j : Nat} {a : ApplyRes}
    (h : ss[j]? = some (true, a)) : a.passes ∧ ∀ w, a.write = some w → w ∈ (loopOn ss).writes := by
  fun_induction loopOn ss generalizing j with
  | case1 => cases h
  | case2 b rest l ih =>
    cases j with
    | zero => cases h
    | succ j => exact ih hab h
  | case3 b rest hp l ih =>
    cases j with
    | zero =>
      cases Option.some.inj h
      exact ⟨hp, fun w h => List.mem_append_left _ (Option.mem_toList.mpr h)⟩
    | succ j =>
      obtain ⟨h1, h2⟩ := ih hab h
      exact ⟨h1, fun w h => List.mem_append_right _ (h2 w h)⟩
  | case4 b rest hp => cases hab

theorem loopOn_applied {ss : List Step} (j : Nat) (ha : (loopOn ss).applied.getD j false = true) :
    ∃ a, ss[j]? = some (true, a) ∧ a.outcome = none := by
  fun_induction loopOn ss generalizing j with
  | case1 => cases ha
  | case2 b rest l ih =>
    cases j with
    | zero => cases ha
    | succ j => exact ih j ha
  | case3 b rest hp l ih =>
    cases j with
    | zero => exact ⟨b, rfl, Option.isNone_iff_eq_none.mp ha⟩
    | succ j => exact ih j ha
  | case4 b rest hp =>
    cases j with
    | zero => cases ha
    | succ j => cases ha

theorem loopOn_nodup {ss : List Step} (i0 : Nat)
    (hidx : ∀ j r a w, ss[j]? = some (r, a) → a.write = some w → w.idx = some (i0 + j)) :
    ((loopOn ss).writes.map (·.idx)).Nodup := by
  have single : ∀ a : ApplyRes, (a.write.toList.map (·.idx)).Nodup := fun a => by cases a.write <;> simp
  have tail : ∀ {i0 : Nat} {r : Bool} {a : ApplyRes} {rest : List Step},
      (∀ j r' b w, ((r, a) :: rest)[j]? = some (r', b) → b.write = some w → w.idx = some (i0 + j)) →
      ∀ j r' b w, rest[j]? = some (r', b) → b.write = some w → w.idx = some (i0 + 1 + j) :=
    fun h j r' b w hj hw => by rw [h (j + 1) r' b w hj hw, Nat.add_right_comm, Nat.add_assoc]
  fun_induction loopOn ss generalizing i0 with
  | case1 => exact List.nodup_nil
  | case2 a rest l ih => exact ih (i0 + 1) (tail hidx)
  | case3 a rest hp l ih =>
    rw [List.map_append, List.nodup_append]
    refine ⟨single a, ih (i0 + 1) (tail hidx), ?_⟩
    intro x hx y hy
    obtain ⟨w, hw, rfl⟩ := List.mem_map.mp hx
    obtain ⟨w', hw', rfl⟩ := List.mem_map.mp hy
    obtain ⟨j, b, h1, h2, _⟩ := mem_writes_loopOn hw'
    rw [hidx 0 true a w rfl (Option.mem_toList.mp hw), hidx (j + 1) true b w' h1 h2]
    intro he
    have := Option.some.inj he
    omega
  | case4 a rest hp => exact single a

/-- the loop's view of the templates when template `i`'s Apply is `f i` -/
def steps (f : Nat → Tpl → V → ApplyRes) : Nat → List (Tpl × Rendered) → List Step
  | _, [] => []
  | i, (t, r) :: rest => (r.rendered, f i t r.cd) :: steps f (i + 1) rest

theorem steps_getElem? (f : Nat → Tpl → V → ApplyRes) (l : List (Tpl × Rendered)) :
    ∀ i j, (steps f i l)[j]? = l[j]?.map fun x => (x.2.rendered, f (i + j) x.1 x.2.cd) := by
  induction l with
  | nil => intro i j; rfl
  | cons x rest ih =>
    intro i j
    cases j with
    | zero => rfl
    | succ j =>
      rw [steps, List.getElem?_cons_succ, List.getElem?_cons_succ, ih, Nat.add_right_comm, Nat.add_assoc]

theorem steps_zip_getElem? (f : Nat → Tpl → V → ApplyRes) {tpls : List Tpl} {rs : List Rendered} {j : Nat}
    (ht : j < tpls.length) (hr : j < rs.length) :
    (steps f 0 (tpls.zip rs))[j]? = some (rs[j].rendered, f j tpls[j] rs[j].cd) := by
  rw [steps_getElem?, List.getElem?_eq_getElem (by rw [List.length_zip]; omega), List.getElem_zip, Nat.zero_add]
  rfl

theorem steps_zip_some (f : Nat → Tpl → V → ApplyRes) {tpls : List Tpl} {rs : List Rendered} {j : Nat} {r : Bool} {a : ApplyRes}
    (h : (steps f 0 (tpls.zip rs))[j]? = some (r, a)) :
    ∃ (ht : j < tpls.length) (hr : j < rs.length), rs[j].rendered = r ∧ f j tpls[j] rs[j].cd = a := by
  rw [steps_getElem?, Option.map_eq_some_iff] at h
  obtain ⟨⟨t, rd⟩, hz, he⟩ := h
  obtain ⟨h1, h2⟩ := List.getElem?_zip_eq_some.mp hz
  obtain ⟨ht, rfl⟩ := List.getElem?_eq_some_iff.mp h1
  obtain ⟨hr, rfl⟩ := List.getElem?_eq_some_iff.mp h2
  cases he
  exact ⟨ht, hr, rfl, by rw [Nat.zero_add]⟩

theorem steps_congr (f g : Nat → Tpl → V → ApplyRes) (l : List (Tpl × Rendered)) (i : Nat)
    (h : ∀ j (hj : j < l.length), f (i + j) l[j].1 l[j].2.cd = g (i + j) l[j].1 l[j].2.cd) : steps f i l = steps g i l :=
  List.ext_getElem? fun j => by
    rw [steps_getElem?, steps_getElem?]
    cases hl : l[j]? with
    | none => rfl
    | some x =>
      obtain ⟨hj, rfl⟩ := List.getElem?_eq_some_iff.mp hl
      rw [Option.map_some, Option.map_some, h j hj]

/-- `R` is the result of a reconcile whose apply loop did `L`: either the update that persists the
references failed and nothing else happened, or the loop ran between that update and further writes
of the composite itself, and `synced` is reported exactly when no error is. -/
def Around (R : ComposeRes) (L : LoopW) : Prop :=
  (R.writes = [⟨"update", none⟩] ∧ R.sent = [] ∧ R.synced = [] ∧ R.err ≠ "") ∨
  ∃ post, (∀ x ∈ post, x.idx = none) ∧ R.writes = ⟨"update", none⟩ :: L.writes ++ post ∧ R.sent = L.sent ∧
    ((R.synced = [] ∧ R.err ≠ "") ∨ (R.synced = L.applied ∧ R.err = "" ∧ L.aborted = false))

namespace Around
variable {R : ComposeRes} {L : LoopW}

theorem idx_or_mem (h : Around R L) {wr : Write} (hw : wr ∈ R.writes) : wr.idx = none ∨ wr ∈ L.writes := by
  rcases h with ⟨hws, _⟩ | ⟨post, hpost, hws, _⟩
  · rw [hws, List.mem_singleton] at hw
    exact .inl (hw ▸ rfl)
  · rw [hws, List.mem_append, List.mem_cons] at hw
    rcases hw with (hw | hw) | hw
    · exact .inl (hw ▸ rfl)
    · exact .inr hw
    · exact .inl (hpost _ hw)

theorem sent_mem (h : Around R L) {s : Sent} (hs : s ∈ R.sent) : s ∈ L.sent := by
  rcases h with ⟨_, he, _⟩ | ⟨_, _, _, he, _⟩
  · rw [he] at hs; cases hs
  · exact he ▸ hs

theorem of_ok (h : Around R L) (hok : R.err = "") : L.aborted = false ∧ ∀ wr ∈ L.writes, wr ∈ R.writes := by
  rcases h with ⟨_, _, _, he⟩ | ⟨post, _, hws, _, ⟨_, he⟩ | ⟨_, _, hab⟩⟩
  · exact absurd hok he
  · exact absurd hok he
  · exact ⟨hab, fun wr hwr => by rw [hws]; exact List.mem_append_left _ (List.mem_cons_of_mem _ hwr)⟩

theorem applied_of_synced (h : Around R L) {j : Nat} (hs : R.synced.getD j false = true) : L.applied.getD j false = true := by
  rcases h with ⟨_, _, hsy, _⟩ | ⟨_, _, _, _, ⟨hsy, _⟩ | ⟨hsy, _⟩⟩
  · rw [hsy] at hs; cases hs
  · rw [hsy] at hs; cases hs
  · exact hsy ▸ hs

variable {f : Nat → Tpl → V → ApplyRes} {tpls : List Tpl} {rs : List Rendered}
  (h : Around R (loopOn (steps f 0 (tpls.zip rs))))
include h

theorem synced_accepted {j : Nat} (hs : R.synced.getD j false = true) :
    ∃ (ht : j < tpls.length) (hr : j < rs.length), rs[j].rendered = true ∧ (f j tpls[j] rs[j].cd).outcome = none := by
  obtain ⟨a, h1, h2⟩ := loopOn_applied j (h.applied_of_synced hs)
  obtain ⟨ht, hr, hrend, rfl⟩ := steps_zip_some f h1
  exact ⟨ht, hr, hrend, h2⟩

theorem sent_own (hidx : ∀ i t cd s, (f i t cd).sent = some s → s.idx = i) {s : Sent} (hs : s ∈ R.sent) :
    ∃ (ht : s.idx < tpls.length) (hr : s.idx < rs.length), rs[s.idx].rendered = true ∧
      (f s.idx tpls[s.idx] rs[s.idx].cd).sent = some s := by
  obtain ⟨j, a, h1, h2⟩ := mem_sent_loopOn (h.sent_mem hs)
  obtain ⟨ht, hr, hrend, rfl⟩ := steps_zip_some f h1
  cases hidx _ _ _ _ h2
  exact ⟨ht, hr, hrend, h2⟩

variable (hidx : ∀ i t cd w, (f i t cd).write = some w → w.idx = some i)
include hidx

theorem written {w : Write} (hw : w ∈ R.writes) {k : Nat} (hk : w.idx = some k) :
    ∃ (ht : k < tpls.length) (hr : k < rs.length), rs[k].rendered = true ∧ (f k tpls[k] rs[k].cd).write = some w ∧
      ∀ j (hjt : j < tpls.length) (hj : j < rs.length), j < k → rs[j].rendered = true → (f j tpls[j] rs[j].cd).passes := by
  rcases h.idx_or_mem hw with h | h
  · rw [h] at hk; cases hk
  · obtain ⟨k', a, h1, h2, h3⟩ := mem_writes_loopOn h
    obtain ⟨ht, hr, hrend, rfl⟩ := steps_zip_some f h1
    cases Option.some.inj ((hidx _ _ _ _ h2).symm.trans hk)
    exact ⟨ht, hr, hrend, h2, fun j hjt hj hjk hrj => h3 j _ hjk (by rw [steps_zip_getElem? f hjt hj, hrj])⟩

theorem unrendered (i : Nat) (hi : i < rs.length) (hun : rs[i].rendered = false) : ∀ w ∈ R.writes, w.idx ≠ some i :=
  fun _ hw hwi =>
    let ⟨_, _, hrend, _⟩ := h.written hidx hw hwi
    Bool.false_ne_true (hun.symm.trans hrend)

theorem rendered_written (hok : R.err = "") (j : Nat) (ht : j < tpls.length) (hj : j < rs.length)
    (hrend : rs[j].rendered = true)
    (hw : (f j tpls[j] rs[j].cd).passes = true → ∃ w, (f j tpls[j] rs[j].cd).write = some w) :
    ∃ w ∈ R.writes, w.idx = some j := by
  obtain ⟨hab, hsub⟩ := h.of_ok hok
  obtain ⟨hp, hmem⟩ := loopOn_complete hab (by rw [steps_zip_getElem? f ht hj, hrend])
  obtain ⟨w, hwq⟩ := hw hp
  exact ⟨w, hsub w (hmem w hwq), hidx _ _ _ _ hwq⟩

/-- the composite's own writes carry no index, so a resource is written as often as the loop writes it: at most once -/
theorem one_write (i : Nat) : (R.writes.filter fun wr => wr.idx == some i).length ≤ 1 := by
  rcases h with ⟨hws, _⟩ | ⟨post, hpost, hws, _⟩
  · rw [hws]; exact Nat.zero_le _
  · have : (post.filter fun wr => wr.idx == some i) = [] :=
      List.filter_eq_nil_iff.mpr fun x hx => by rw [hpost x hx]; exact Bool.false_ne_true
    rw [hws, List.filter_append, this, List.append_nil, List.filter_cons_of_neg (by exact Bool.false_ne_true)]
    have hn := loopOn_nodup (ss := steps f 0 (tpls.zip rs)) 0 fun j r a wr hj hwr => by
      obtain ⟨_, _, _, rfl⟩ := steps_zip_some f hj
      rw [Nat.zero_add]
      exact hidx _ _ _ _ hwr
    have := List.nodup_iff_count.mp hn (some i)
    rwa [List.count_eq_countP, List.countP_map, List.countP_eq_length_filter] at this

end Around

/-- What Compose returns once the templates are rendered (`composePT` and `composeW` alike), given
whether the update of the references failed, the loop's result, whether a to-XR patch failed and
whether the final patch of the composite failed. -/
def finish (rs : List Rendered) (uf : Bool) (L : LoopW) (failed xf : Bool) : ComposeRes :=
  let rendered := rs.map (·.rendered)
  let refs := rs.map fun r => (kindOf r.cd, getMetaStr r.cd "name")
  let upd : Write := ⟨"update", none⟩
  if uf then ⟨"update", rendered, refs, [upd], [], [], []⟩ else
  if L.aborted then ⟨"apply", rendered, refs, upd :: L.writes, L.sent, L.applied, []⟩ else
  if failed then ⟨"toXR", rendered, refs, upd :: L.writes, L.sent, L.applied, []⟩ else
  if xf then ⟨"update", rendered, refs, upd :: L.writes ++ [⟨"patch", none⟩], L.sent, L.applied, []⟩ else
  ⟨"", rendered, refs, upd :: L.writes ++ [⟨"patch", none⟩], L.sent, L.applied, L.applied⟩

theorem finish_refs (rs : List Rendered) (uf : Bool) (L : LoopW) (failed xf : Bool) :
    (finish rs uf L failed xf).refs = rs.map fun r => (kindOf r.cd, getMetaStr r.cd "name") := by
  fun_cases finish rs uf L failed xf <;> rfl

theorem finish_around (rs : List Rendered) (uf : Bool) (L : LoopW) (failed xf : Bool) : Around (finish rs uf L failed xf) L := by
  have hp : ∀ x ∈ [(⟨"patch", none⟩ : Write)], x.idx = none := fun x hx => List.mem_singleton.mp hx ▸ rfl
  -- the five results of `finish`, in the order of its definition
  fun_cases finish rs uf L failed xf with
  | case1 => exact .inl ⟨rfl, rfl, rfl, by dsimp only; decide⟩
  | case2 | case3 => exact .inr ⟨[], nofun, (List.append_nil _).symm, rfl, .inl ⟨rfl, by dsimp only; decide⟩⟩
  | case4 => exact .inr ⟨_, hp, rfl, rfl, .inl ⟨rfl, by dsimp only; decide⟩⟩
  | case5 => exact .inr ⟨_, hp, rfl, rfl, .inr ⟨rfl, rfl, Bool.eq_false_iff.mpr ‹_›⟩⟩

end Xp.C10
