import Xp.Proofs.C19Call
/-
C19 — ownership is by uid, one call at a time: owner uids of a stored Usage only grow (`Grows`),
and what the reconcile of a Usage tracks about its owner reference while the Usage and the resource
its spec.by refers to stay the same objects (`TrkT`); one call re-establishes it, and a call that
ends with "poll" leaves the stored Usage with an owner reference of the user's CURRENT uid
(`next_trk`).
-/
namespace Xp.C19

/-- from `s` to `s'` a Usage keeps its owner uids (one action never replaces a Usage by another of
the same name, so the name identifies the object) -/
def Grows (s s' : Store) : Prop :=
  ∀ y ∈ s.usages, ∀ y' ∈ s'.usages, y'.name = y.name → OwnSub y y'

theorem Grows.same {s s' : Store} (hs : StoreInv s) (h : s'.usages = s.usages) : Grows s s' := by
  intro y hy y' hy' hn
  rw [h] at hy'
  rw [hs.usageUniq y' hy' y hy hn]
  exact .refl y

theorem Grows.putU {s : Store} (hs : StoreInv s) {x n : Usage} (hx : x ∈ s.usages) (hn : n.name = x.name)
    (ho : OwnSub x n) : Grows s (s.putU n).bump := by
  intro y hy y' hy' hyn
  rw [bump_usages] at hy'
  rcases mem_putU.mp hy' with ⟨hy'', _⟩ | ⟨rfl, _⟩
  · rw [hs.usageUniq y' hy'' y hy hyn]; exact .refl y
  · have : y = x := hs.usageUniq y hy x hx (hyn.symm.trans hn)
    rw [this]; exact ho

theorem Grows.dropU {s : Store} (hs : StoreInv s) (nm : String) : Grows s (s.dropU nm) := by
  intro y hy y' hy' hyn
  rw [hs.usageUniq y' (mem_dropU.mp hy').1 y hy hyn]
  exact .refl y

/-- the environment adds the composer's reference only to a Usage that has none (`EnvEff.editU`) -/
theorem EnvEff.owners_kept {s s' : Store} (hs : StoreInv s) (e : EnvEff s s') :
    ∀ y ∈ s.usages, ∀ y' ∈ s'.usages, y'.name = y.name → ∀ o ∈ y.owners, o ∈ y'.owners := by
  intro y hy y' hy' hyn o ho
  have same : y' ∈ s.usages → o ∈ y'.owners := fun h => hs.usageUniq y' h y hy hyn ▸ ho
  cases e with
  | addUsage u hg _ _ _ _ =>
    rcases List.mem_append.mp hy' with hy' | hy'
    · exact same hy'
    · cases List.mem_singleton.mp hy'; exact absurd hyn.symm (getU_none hg y hy)
  | editU x n hg _ _ _ _ _ _ _ hown =>
    rcases mem_putU.mp hy' with ⟨hy', _⟩ | ⟨rfl, _⟩
    · exact same hy'
    · cases hs.usageUniq y hy x (getU_some hg).1 (hyn.symm.trans (getU_some hg).2.symm)
      rcases hown with e | e
      · exact e ▸ ho
      · rw [e] at ho; cases ho
  | dropU x _ _ => exact same (mem_dropU.mp hy').1
  | _ => exact same hy'

theorem Grows.env {s s' : Store} (hs : StoreInv s) (e : EnvEff s s') : Grows s s' :=
  fun y hy y' hy' hn o ho => ⟨o, e.owners_kept hs y hy y' hy' hn o ho, rfl⟩

theorem Grows.call {s s' : Store} (hs : StoreInv s) {t : Thread} {q : Req} {resp : Resp} (hc : CallEff s t q s' resp) :
    Grows s s' := by
  cases hc with
  | wrote u' hm hn hn' _ hsub _ => exact .putU hs hm (hn'.trans hn.symm) hsub
  | gone _ _ _ _ _ => exact .dropU hs _
  | ready _ hm _ _ => exact .putU hs hm rfl (.refl t.u)
  | res _ _ _ spec _ => exact .same hs spec.sameUsages.usages
  | _ => exact .same hs rfl

/-- the stored Usage `n` carries an owner reference with uid `U` -/
def Owns (s : Store) (n : String) (U : Nat) : Prop := ∃ y ∈ s.usages, y.name = n ∧ ∃ o ∈ y.owners, o.uid = U

theorem Owns.grows {s s' : Store} {n : String} {U : Nat} (h : Owns s n U) (g : Grows s s') {y' : Usage}
    (hy' : y' ∈ s'.usages) (hn : y'.name = n) : Owns s' n U := by
  obtain ⟨y, hy, hyn, o, ho, e⟩ := h
  obtain ⟨o', ho', e'⟩ := g y hy y' hy' (hn.trans hyn.symm) o ho
  exact ⟨y', hy', hn, o', ho', e'.trans e⟩

/-- every owner uid of the reconcile's copy is an owner uid of the stored Usage `n` -/
def ownC (s : Store) (n : String) (u : Usage) : Prop := ∀ o ∈ u.owners, Owns s n o.uid

def lateFact (U : Nat) (u : Usage) : Pc → Prop
  | .addOwner ref => ref.uid = U
  | .status => ∃ o ∈ u.owners, o.uid = U
  | _ => True

structure TrkT (s : Store) (n : String) (b : RSpec) (U : Nat) (t : Thread) : Prop where
  by_ : t.u.by_ = some b
  own : ownC s n t.u
  late : lateFact U t.u t.pc

/-- a continuation keeps tracking; a reconcile that returns "poll" leaves the stored Usage with an
owner reference carrying uid `U` -/
def AfterTrk (s : Store) (n : String) (b : RSpec) (U : Nat) : After → Prop
  | .cont t' => TrkT s n b U t'
  | .done r => r = .poll → Owns s n U

section
variable {s : Store} {n : String} {b : RSpec} {U : Nat} {t : Thread}

theorem goto_trk (hb : t.u.by_ = some b) (ho : ownC s n t.u) (pc : Pc) (hl : lateFact U t.u pc) :
    AfterTrk s n b U (t.goto pc) := ⟨hb, ho, hl⟩

theorem afterOwner_trk (hb : t.u.by_ = some b) (ho : ownC s n t.u) (hU : ∃ o ∈ t.u.owners, o.uid = U) :
    AfterTrk s n b U t.afterOwner := by
  fun_cases Thread.afterOwner t with
  | case1 => exact goto_trk hb ho .status hU
  | case2 =>  -- nothing changed and the Usage was ready: "poll" at once
    obtain ⟨o, ho', rfl⟩ := hU
    exact fun _ => ho o ho'

theorem afterLabel_trk (hb : t.u.by_ = some b) (ho : ownC s n t.u) : AfterTrk s n b U t.afterLabel := by
  fun_cases Thread.afterLabel t with
  | case1 hnone => rw [hb] at hnone; cases hnone
  | case2 => exact goto_trk hb ho .getUsing trivial

theorem Lands.trk {a : After} (h : Lands t a) (hb : t.u.by_ = some b) (ho : ownC s n t.u) : AfterTrk s n b U a := by
  cases h with
  | goto pc hp => exact goto_trk hb ho pc (by cases pc <;> first | trivial | cases hp)
  | out r hr => exact fun h => absurd h hr

end

theorem trk_of_stored {s' : Store} (hs' : StoreInv s') {n : String} {b : RSpec} {nu : Usage}
    (hmem : nu ∈ s'.usages) (hname : nu.name = n)
    (hpost : ∃ y ∈ s'.usages, y.name = n ∧ y.by_ = some b) : nu.by_ = some b ∧ ownC s' n nu := by
  obtain ⟨y, hy, hyn, hyb⟩ := hpost
  have : y = nu := hs'.usageUniq y hy nu hmem (hyn.trans hname.symm)
  subst this
  exact ⟨hyb, fun o ho => ⟨y, hmem, hname, o, ho, rfl⟩⟩

theorem next_trk {s s' : Store} (hs : StoreInv s) {t : Thread} (ht : TInv s t) {n : String} {b : RSpec} {U : Nat}
    (hn : t.uname = n)
    (huser : (s.getR (groupOf b.av) b.kind b.name).map (·.uid) = some U)
    (hpre : ∃ y ∈ s.usages, y.name = n ∧ y.by_ = some b)
    (hpost : ∃ y ∈ s'.usages, y.name = n ∧ y.by_ = some b)
    (htrk : t.pc.isGet = false → TrkT s n b U t) {resp : Resp} (hc : CallEff s t t.request s' resp) :
    AfterTrk s' n b U (t.next s.usages resp) := by
  have hs' : StoreInv s' := hs.call hc
  obtain ⟨nm, pc, u, orv, ord, seen⟩ := t
  cases hn
  have h := next_spec ⟨nm, pc, u, orv, ord, seen⟩ s.usages resp
  generalize Thread.next ⟨nm, pc, u, orv, ord, seen⟩ s.usages resp = a at h ⊢
  change Next _ _ pc _ _ at h
  have got : ∀ x, CallEff s ⟨nm, .getUsage, u, orv, ord, seen⟩ (.getU nm) s' (.usage x) →
      AfterTrk s' nm b U (Thread.afterGet ⟨nm, .getUsage, x, x.rv, x.ready, seen⟩) := fun x hc => by
    obtain ⟨rfl, hg⟩ := hc.of_getU
    obtain ⟨hb, ho⟩ := trk_of_stored hs (getU_some hg).1 (getU_some hg).2 hpre
    exact (afterGet_lands _).trk hb ho
  cases hg : pc.isGet with
  | true =>
    obtain rfl := Pc.eq_getUsage hg
    cases h with
    | got x => exact got x hc
    | ended _ _ r hr => exact fun hp => absurd hp hr
  | false =>
    have hname : u.name = nm := (ht.facts hg).1.name
    obtain ⟨hby, hown, hlate⟩ : u.by_ = some b ∧ ownC s nm u ∧ lateFact U u pc :=
      ⟨(htrk hg).by_, (htrk hg).own, (htrk hg).late⟩
    -- an Update of the reconcile's own Usage that returns a Usage: the stored Usage `nm`
    have upd : ∀ {u' nu : Usage}, CallEff s ⟨nm, pc, u, orv, ord, seen⟩ (.updU u') s' (.usage nu) →
        nu.by_ = some b ∧ ownC s' nm nu ∧ nu.owners = u'.owners := fun {u' nu} hc => by
      cases hc with
      | kept _ hm he =>
        obtain ⟨h4, h5⟩ := trk_of_stored hs' hm hname hpost
        exact ⟨h4, h5, by rw [he]; rfl⟩
      | wrote _ hm _ hn' _ _ _ =>
        obtain ⟨h4, h5⟩ := trk_of_stored hs' (mem_putU.mpr (.inr ⟨rfl, _, hm, hname.trans hn'.symm⟩)) hn' hpost
        exact ⟨h4, h5, rfl⟩
      | gone _ _ _ _ _ =>
        obtain ⟨y, hy, hyn, _⟩ := hpost
        exact absurd hyn (mem_dropU.mp hy).2
    -- owner uids only grow: what the copy had, the stored Usage still has
    have hown' : ownC s' nm u := fun o ho =>
      let ⟨y', hy', hn', _⟩ := hpost
      (hown o ho).grows (.call hs hc) hy' hn'
    cases h with
    | got x => exact got x hc
    | ended _ _ r hr => exact fun hp => absurd hp hr
    | ofSet p nu =>
      obtain ⟨h4, h5, _⟩ := upd hc
      exact (afterOf_lands _).trk h4 h5
    | bySet p nu =>
      obtain ⟨h4, h5, _⟩ := upd hc
      exact (afterResolve_lands _).trk h4 h5
    | ofPicked l p _ | byPicked l p _ | usedFound r | toLabel r _ | last used c _ | userGone =>
      exact goto_trk hby hown' _ trivial
    | usedGone | notLast used c _ | unlabelled used r =>
      exact (afterUnlabel_lands _).trk hby hown'
    | finSet nu =>
      obtain ⟨h4, h5, _⟩ := upd hc
      exact (afterFin_lands _).trk h4 h5
    | detailsSet nu =>
      obtain ⟨h4, h5, _⟩ := upd hc
      exact goto_trk h4 h5 _ trivial
    | isLabelled r _ | labelled used r => exact afterLabel_trk hby hown'
    | isOwned g o os hos ho =>
      -- the Get returned the resource `b` refers to: its uid is `U`
      have hgu : g.uid = U := by rw [(hc.of_getUsing rfl hby).2] at huser; simpa using huser
      exact afterOwner_trk hby hown' ⟨o, hos ▸ List.mem_cons_self, ho.trans hgu⟩
    | toOwn g =>
      have hgu : g.uid = U := by rw [(hc.of_getUsing rfl hby).2] at huser; simpa using huser
      exact goto_trk hby hown' _ hgu
    | ownerSet ref nu =>
      obtain ⟨h4, h5, h6⟩ := upd hc
      exact afterOwner_trk h4 h5 ⟨ref, h6 ▸ mem_addOwnerRef _ _, hlate⟩
    | reported nu =>
      obtain ⟨o, ho, rfl⟩ := hlate
      exact fun _ => hown' o ho

theorem TrkT.env {s s' : Store} {n : String} {b : RSpec} {U : Nat} {t : Thread} (h : TrkT s n b U t) (g : Grows s s')
    (hpost : ∃ y ∈ s'.usages, y.name = n ∧ y.by_ = some b) : TrkT s' n b U t := by
  obtain ⟨y1, hy1, h1n, _⟩ := hpost
  exact ⟨h.by_, fun o ho => (h.own o ho).grows g hy1 h1n, h.late⟩

end Xp.C19
