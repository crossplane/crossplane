import Xp.Model.C06
import Xp.Base.List
/-
C06, the managed-fields upgrader's decision (`upgradeScan`, `upgradeDecision`: the loop and the switch of
PatchingManagedFieldsUpgrader.Upgrade) for ALL manager lists (`decision_cases`), and `AfterUpd`: along every path of
the server-side Sync the forced apply comes after an accepted Update(claim) (`afterUpd_syncSSA`; `applyAfterUpd` is the
run under one reply function, `AfterUpd.run`).
-/
namespace Xp.C06

theorem scan_fst (ssa : String) (l : List String) (i : Nat) (fs : Bool) (ib : Option Nat) :
    (upgradeScan ssa l i fs ib).1 = true ↔ fs = true ∨ ssa ∈ l := by
  induction l generalizing i fs ib with
  | nil => simp [upgradeScan]
  | cons m ms ih =>
    simp only [upgradeScan, ih, Bool.or_eq_true, beq_iff_eq, List.mem_cons]
    constructor
    · rintro ((h | h) | h)
      · exact Or.inl h
      · exact Or.inr (Or.inl h.symm)
      · exact Or.inr (Or.inr h)
    · rintro (h | h | h)
      · exact Or.inl (Or.inl h)
      · exact Or.inl (Or.inr h.symm)
      · exact Or.inr h

theorem scan_snd (ssa : String) (l : List String) (i : Nat) (fs : Bool) (ib : Option Nat) :
    ((upgradeScan ssa l i fs ib).2 = ib ∧ bfaManager ∉ l) ∨
    ∃ k, (upgradeScan ssa l i fs ib).2 = some (i + k) ∧ l[k]? = some bfaManager ∧
      ∀ k', k < k' → l[k']? ≠ some bfaManager := by
  obtain ⟨h1, h2⟩ := last_index_loop bfaManager some Prod.snd (fun l i s => upgradeScan ssa l i s.1 s.2)
    (fun _ _ => rfl) (fun m _ i s => ⟨(s.1 || m == ssa, if m == bfaManager then some i else s.2), rfl, rfl⟩) l i (fs, ib)
  by_cases h : bfaManager ∈ l
  · exact .inr (h2 h)
  · exact .inl ⟨h1 h, h⟩

theorem decision_cases (ssa : String) (mf : List String) :
    (upgradeDecision ssa mf = none ∧ ssa ∈ mf ∧ bfaManager ∉ mf) ∨
    (upgradeDecision ssa mf = some .clear ∧ ssa ∉ mf) ∨
    ∃ i, upgradeDecision ssa mf = some (.removeAt i) ∧ ssa ∈ mf ∧ mf[i]? = some bfaManager ∧
      ∀ k, i < k → mf[k]? ≠ some bfaManager := by
  have hfst : (upgradeScan ssa mf 0 false none).1 = true ↔ ssa ∈ mf :=
    (scan_fst ssa mf 0 false none).trans ⟨fun h => h.resolve_left Bool.noConfusion, Or.inr⟩
  unfold upgradeDecision
  split
  · next h =>
    rcases scan_snd ssa mf 0 false none with ⟨_, hb⟩ | ⟨k, e, _⟩
    · exact Or.inl ⟨rfl, hfst.mp (congrArg Prod.fst h), hb⟩
    · cases (congrArg Prod.snd h).symm.trans e
  · next i h =>
    rcases scan_snd ssa mf 0 false none with ⟨e, _⟩ | ⟨k, e, hget, hlast⟩
    · cases (congrArg Prod.snd h).symm.trans e
    · cases (Option.some.inj ((congrArg Prod.snd h).symm.trans e)).trans (Nat.zero_add k)
      exact Or.inr (Or.inr ⟨i, rfl, hfst.mp (congrArg Prod.fst h), hget, hlast⟩)
  · next h =>
    exact Or.inr (Or.inl ⟨rfl, fun hm => Bool.noConfusion ((congrArg Prod.fst h).symm.trans (hfst.mpr hm))⟩)

theorem mem_touchMgr (m : String) (mf : List String) : m ∈ touchMgr m mf := by
  unfold touchMgr
  split
  · rename_i h; simpa using h
  · simp

theorem ssa_mem_applyMf (mf : List String) : ssaManager ∈ applyMf mf := by
  unfold applyMf
  split
  · simp
  · exact mem_touchMgr _ _

/-- along the run of `p` in which every request `r` is answered `reply r` (any replies: errors of any class,
stale or fresh objects), every forced apply of an XR comes after an `Update(claim)` of the same run that the
server ACCEPTED (answered with the stored claim); `seen` = such an update has already happened -/
def applyAfterUpd (reply : Req → Resp) : Nat → Bool → P → Bool
  | 0, _, _ => true
  | _, _, .ret _ => true
  | f + 1, seen, .call r k =>
    (match r with | .applyXR _ _ => seen | _ => true) &&
    applyAfterUpd reply f (seen || (match r, reply r with | .updClaim _, .claim _ => true | _, _ => false)) (k (reply r))

/-- `applyAfterUpd` for every path: the reply is chosen anew at each call, and there is no fuel -/
inductive AfterUpd : Bool → P → Prop where
  | ret (seen : Bool) (a : Res) : AfterUpd seen (.ret a)
  | call (seen : Bool) (r : Req) (k : Resp → P) : (∀ n c, r = .applyXR n c → seen = true) →
      (∀ resp, AfterUpd (seen || (match r, resp with | .updClaim _, .claim _ => true | _, _ => false)) (k resp)) →
      AfterUpd seen (.call r k)

theorem AfterUpd.run {seen : Bool} {p : P} (h : AfterUpd seen p) (reply : Req → Resp) (f : Nat) :
    applyAfterUpd reply f seen p = true := by
  induction h generalizing f with
  | ret => cases f <;> rfl
  | call seen r k hr _ ih =>
    cases f with
    | zero => rfl
    | succ f =>
      refine Bool.and_eq_true_iff.mpr ⟨?_, ih (reply r) f⟩
      cases r with
      | applyXR n c => exact hr n c rfl
      | _ => rfl

theorem AfterUpd.of_seen (p : P) : AfterUpd true p := by
  induction p with
  | ret a => exact .ret _ a
  | call r k ih => exact .call _ r k (fun _ _ _ => rfl) ih

theorem afterUpd_statusThen (seen : Bool) (cm : Claim) (r : Res) : AfterUpd seen (statusThen cm r) :=
  .call _ _ _ (fun _ _ h => nomatch h) fun resp => by cases resp <;> exact .ret _ _

theorem afterUpd_failWith (seen : Bool) (cm : Claim) (e : Err) : AfterUpd seen (failWith cm e) := by
  cases e with
  | conflict => exact .ret _ _
  | notFound | invalid | «exists» | other => exact afterUpd_statusThen _ cm .requeue

theorem afterUpd_ssaBind (cfg : Cfg) (cm : Claim) (n : Name) : AfterUpd false (ssaBind cfg cm n) := by
  refine .call _ _ _ (fun _ _ h => nomatch h) fun resp => ?_
  cases resp with
  | claim c => exact .of_seen _
  | err e => exact afterUpd_failWith _ cm e
  | xr _ | ok => exact .ret _ _

theorem afterUpd_genName (xpick : Nat → Option (List (Option XR) → Option (Option XR))) (k : Option Name → P)
    (hk : ∀ o, AfterUpd false (k o)) (t j : Nat) (cands : List Name) : AfterUpd false (genName xpick t j cands k) := by
  fun_induction genName xpick t j cands k with
  | case1 | case2 => exact hk none
  | case3 t j c cs k ih =>
    refine .call _ _ _ (fun _ _ h => nomatch h) fun resp => ?_
    cases resp with
    | claim _ | ok => exact hk none
    | xr x => exact ih hk
    | err e =>
      cases e with
      | notFound => exact hk (some c)
      | conflict | invalid | «exists» | other => exact hk none

theorem afterUpd_syncSSA (cfg : Cfg) (cm : Claim) : AfterUpd false (syncSSA cfg cm) := by
  unfold syncSSA
  cases cm.refName with
  | some n => exact afterUpd_ssaBind cfg cm n
  | none =>
    refine afterUpd_genName cfg.xpick _ (fun o => ?_) 10 2 cfg.cands
    cases o with
    | some n => exact afterUpd_ssaBind cfg cm n
    | none => exact afterUpd_statusThen _ cm .requeue

end Xp.C06
