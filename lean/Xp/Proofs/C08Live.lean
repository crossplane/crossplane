import Xp.Proofs.C08Trace
import Xp.Proofs.C08Local
import Xp.Proofs.C08Births
/-
C08 over schedules.  Every step of the interleaved system moves the store on in the teardown order up
to its own births (`Step (a.births s)`, the `step_*` lemmas of C08Store).  Hence `Ordered`, for EVERY
schedule: each past store lies below the current one up to what was born since (`ordered_run`;
`Ordered.past_le` is the case of no births).  `ThreadsOK` (every reconcile respects its guard, what the
in-flight ones have learned holds) is kept by the steps outside the windows: `stepOK_act1` is the one case
analysis of `Sys.act1` for both, `threadsOK_run` and `safe_calm` the result for every `Calm` schedule.
`Sys.calmRun` / `calm_of_calmRun` decide `Calm` of a concrete schedule.
-/
namespace Xp.C08

/-- a creating step of a live branch loses only the facts its births threaten -/
theorem liveStep_succ {s : St} (hw : WF s) (l : Live) : Succ (l.births s) s (liveStep s l) ∧ WF (liveStep s l) :=
  ⟨(step_liveStep hw l).ord.holds, (step_liveStep hw l).wf⟩

theorem calm_of_calmB (s : Sys) (a : Act) (h : s.calmB a = true) : s.calm a := by
  simp only [Sys.calmB, Bool.and_eq_true, List.all_eq_true, Bool.or_eq_true, Bool.not_eq_true'] at h
  refine ⟨?_, ?_⟩
  · intro t ht hfl f hf b hb
    rcases h.1 t ht with h1 | h1
    · rw [hfl] at h1; cases h1
    · exact h1 f hf b hb
  · intro i j e f hf b hb
    subst e
    have := h.2
    simp only [List.all_eq_true, Bool.not_eq_true'] at this
    exact this f hf b hb

/-- `Calm` as a test: `Sys.calmB` of every step, taken where the schedule takes it -/
def Sys.calmRun (s : Sys) : List Act → Bool
  | [] => true
  | a :: rest => s.calmB a && (s.act a).calmRun rest

theorem calm_of_calmRun (s : Sys) (acts : List Act) (h : s.calmRun acts = true) : Calm s acts := by
  induction acts generalizing s with
  | nil => trivial
  | cons a rest ih =>
    simp only [Sys.calmRun, Bool.and_eq_true] at h
    exact ⟨calm_of_calmB s a h.1, ih _ h.2⟩

/-- the reconcile respects its guard from here on, and — while it is in flight — what it has
learned holds -/
def ThreadOK (st : St) (t : Thread) : Prop :=
  Always (guardH t.ctl t.name) t.hist t.prog ∧ (t.inFlight = true → ∀ f ∈ facts t.hist, f.holds st)

/-- what a lagging cache can show, whatever the schedule: the store before step `j` lies below the
current one in the teardown order, up to everything born from step `j` on -/
structure Ordered (s : Sys) : Prop where
  wf : WF s.st
  /-- `births[j]` and `past[j]` belong to the same schedule step -/
  blen : s.births.length = s.past.length
  past : ∀ j p, s.past[j]? = some p → LeUpTo (s.birthsSince j) p s.st

/-- kept by the schedule steps that stay outside the windows (`StepOK.ths`), unlike `Ordered` -/
def ThreadsOK (s : Sys) : Prop := ∀ t ∈ s.ths, ThreadOK s.st t

theorem ThreadOK.succ {st st' : St} {t : Thread} {bs : List Birth} (hs : Succ bs st st')
    (hc : t.inFlight = true → ∀ f ∈ facts t.hist, ∀ b ∈ bs, b.threatens f = false)
    (h : ThreadOK st t) : ThreadOK st' t :=
  ⟨h.1, fun hfl f hf => hs f (fun b hb => hc hfl f hf b hb) (h.2 hfl f hf)⟩

theorem ThreadOK.step {st st' : St} {t : Thread} (hs : Step [] st st') (h : ThreadOK st t) : ThreadOK st' t :=
  ⟨h.1, fun hfl f hf => Fact.holds_le hs.le f (h.2 hfl f hf)⟩

theorem threadOK_dead (st : St) (t : Thread) : ThreadOK st t.dead :=
  ⟨trivial, fun hfl => by simp [Thread.dead, Thread.inFlight] at hfl⟩

/-- what `stepOK_act1` shows of each branch of `Sys.act1`: `step` is what `Ordered` needs, `ths` what
`ThreadsOK` needs -/
structure StepOK (s : Sys) (a : Act) (s' : Sys) : Prop where
  step : Step (a.births s) s.st s'.st
  ths : ThreadsOK s → s.calm a → ThreadsOK s'

theorem stepOK_refl {s : Sys} {a : Act} (hw : WF s.st) : StepOK s a s :=
  ⟨(Step.refl hw).weaken, fun h _ => h⟩

theorem stepOK_store {s : Sys} {a : Act} {st' : St} (hs : Step (a.births s) s.st st') : StepOK s a { s with st := st' } :=
  ⟨hs, fun h hc t ht => (h t ht).succ hs.ord.holds (hc.1 t ht)⟩

theorem stepOK_reply {s : Sys} {a : Act} {i : Nat} {t : Thread} {r : Req} {k : Resp → P}
    (hti : s.ths[i]? = some t) (hp : t.prog = .call r k) {st' : St} {x : Resp}
    (hs : Step [] s.st st') (hx : s.calm a → ∀ f ∈ learn r x, f.holds st') : StepOK s a (s.reply i t r k st' x) := by
  refine ⟨hs.weaken, fun hths hc t' ht' => ?_⟩
  have hok := hths t (List.mem_of_getElem? hti)
  have hal : guardH t.ctl t.name t.hist r ∧ ∀ x, Always (guardH t.ctl t.name) (t.hist ++ [(r, x)]) (k x) := by
    have := hok.1; rw [hp] at this; exact this
  have hfl : t.inFlight = true := by simp [Thread.inFlight, hp]
  simp only [Sys.reply] at ht' ⊢
  rcases List.mem_or_eq_of_mem_set ht' with h' | rfl
  · exact (hths t' h').step hs
  · refine ⟨hal.2 x, fun _ f hf => ?_⟩
    simp only [facts_append, List.mem_append] at hf
    rcases hf with hf | hf
    · exact Fact.holds_le hs.le f (hok.2 hfl f hf)
    · exact hx hc f hf

theorem stepOK_crash {s : Sys} {a : Act} {st' : St} (hs : Step [] s.st st') :
    StepOK s a { s with st := st', ths := s.ths.map Thread.dead } := by
  refine ⟨hs.weaken, fun _ _ t' ht' => ?_⟩
  obtain ⟨t0, _, rfl⟩ := List.mem_map.mp ht'
  exact threadOK_dead _ t0

theorem stepOK_act1 (s : Sys) (a : Act) (ho : Ordered s) : StepOK s a (s.act1 a) := by
  have hw := ho.wf
  have read : ∀ {r : Req} (p : St), r.isRead = true → ∀ f ∈ learn r (exec p r).2, f.holds p := fun p hr f hf =>
    exec_read p _ hr ▸ learn_sound p _ f hf
  have unapplied : ∀ {b : Act} {i t r k} o', s.ths[i]? = some t → t.prog = .call r k →
      StepOK s b (s.reply i t r k s.st (errResp o' r)) := fun o' hti hp =>
    stepOK_reply hti hp (Step.refl hw) fun _ => learn_errResp o' _ ▸ fun _ hf => nomatch hf
  -- the branches of `Sys.act1`, in the order it is written
  fun_cases Sys.act1 s a with
  | case1 c n =>  -- spawn
    refine ⟨Step.refl hw, fun hths _ t ht => ?_⟩
    rcases List.mem_append.mp ht with ht | ht
    · exact hths t ht
    · rw [List.mem_singleton.mp ht]
      exact ⟨always_program c n, by intro _ f hf; simp [facts] at hf⟩
  | case2 | case3 | case9 | case10 => exact stepOK_refl hw  -- step, lagStep: no such reconcile, or it has returned
  | case4 i t hti r k hp => exact stepOK_reply hti hp (step_exec hw r) fun _ => learn_sound _ _  -- step .ok
  | case5 i t hti r k hp => exact unapplied .fail hti hp
  | case6 i t hti r k hp => exact unapplied .conflict hti hp
  | case7 => exact stepOK_crash (step_crash hw)  -- crashBefore
  | case8 i t hti r k hp => exact stepOK_crash ((step_exec hw r).trans (step_crash (step_exec hw r).wf))  -- crashAfter
  | case11 i j t hti r k hp hr p hpj =>  -- lagStep, a read answered from `past[j]`
    -- an earlier store: outside the windows nothing born since threatens what the reply teaches
    refine stepOK_reply hti hp (Step.refl hw) fun hc f hf => ?_
    refine (ho.past j p hpj).holds f (fun b hb => hc.2 i j rfl f ?_ b hb) (read p hr f hf)
    simp only [Sys.lagLearns, hti, hpj, hp, hr, if_true]
    exact hf
  | case12 i j t hti r k hp hr => exact stepOK_reply hti hp (Step.refl hw) fun _ => read s.st hr  -- no `past[j]`
  | case13 i j t hti r k hp => exact stepOK_reply hti hp (step_exec hw r) fun _ => learn_sound _ _  -- lagStep, not a read
  | case14 => exact stepOK_store (step_deleteKey hw _ _)  -- del
  | case15 => exact stepOK_store (step_gcStep hw)
  | case16 => exact stepOK_store (step_envUnfin hw _ _)
  | case17 => exact stepOK_store (step_envEdit hw _ _)
  | case18 => exact stepOK_refl hw  -- create: the key is taken
  | case19 o => exact stepOK_store (step_ins hw o (.head _))
  | case20 l => exact stepOK_store (step_liveStep hw l)

theorem past_act {s : Sys} {a : Act} {j : Nat} {p : St} (h : (s.act a).past[j]? = some p) :
    (j < s.past.length ∧ s.past[j]? = some p) ∨ (j = s.past.length ∧ p = s.st) := by
  simp only [Sys.act, List.getElem?_append, List.getElem?_singleton] at h
  split at h
  · exact .inl ⟨‹_›, h⟩
  · split at h
    · exact .inr ⟨by omega, (Option.some.inj h).symm⟩
    · cases h

theorem ordered_act (s : Sys) (a : Act) (ho : Ordered s) : Ordered (s.act a) := by
  have h := (stepOK_act1 s a ho).step
  refine ⟨h.wf, by simp [Sys.act, ho.blen], fun j p hp => ?_⟩
  rcases past_act hp with ⟨hj, hp⟩ | ⟨rfl, rfl⟩
  · rw [birthsSince_act s a (ho.blen ▸ Nat.le_of_lt hj)]
    exact (ho.past j p hp).trans h.ord
  · -- the store this step started from: nothing was born between it and the step
    rw [birthsSince_act s a (Nat.le_of_eq ho.blen.symm), Sys.birthsSince, ← ho.blen, List.drop_length]
    exact h.ord

theorem ordered_run (s : Sys) (acts : List Act) (ho : Ordered s) : Ordered (s.run acts) := by
  induction acts generalizing s with
  | nil => exact ho
  | cons a rest ih => exact ih _ (ordered_act s a ho)

theorem ordered_init (st0 : St) (hw : WF st0) : Ordered { st := st0, ths := [] } where
  wf := hw
  blen := rfl
  past := by intro j p hp; simp at hp

theorem Ordered.past_le {s : Sys} (ho : Ordered s) (hb : s.birthsSince 0 = []) : ∀ p ∈ s.past, Le p s.st := by
  intro p hp
  obtain ⟨j, hj⟩ := List.getElem?_of_mem hp
  exact (birthsSince_nil hb j ▸ ho.past j p hj).le

theorem threadsOK_run (s : Sys) (acts : List Act) (hc : Calm s acts) (ho : Ordered s) (ht : ThreadsOK s) :
    ThreadsOK (s.run acts) := by
  induction acts generalizing s with
  | nil => exact ht
  | cons a rest ih => exact ih _ hc.2 (ordered_act s a ho) ((stepOK_act1 s a ho).ths ht hc.1)

theorem safe_calm (st0 : St) (hw : WF st0) (acts : List Act) (hc : Calm { st := st0, ths := [] } acts)
    (t : Thread) (r : Req) (k : Resp → P)
    (ht : t ∈ (reach st0 acts).ths) (hp : t.prog = .call r k) :
    safeReq (reach st0 acts).st t.ctl t.name r = true := by
  have hok := threadsOK_run _ acts hc (ordered_init st0 hw) (fun _ h => nomatch h) t ht
  have hg : guardH t.ctl t.name t.hist r := by
    have := hok.1; rw [hp] at this; exact this.1
  exact safe_of_guard _ _ _ _ _ hg (hok.2 (by simp [Thread.inFlight, hp]))

theorem violatesAt_calm (st0 : St) (hw : WF st0) (acts : List Act) (hc : Calm { st := st0, ths := [] } acts) (i : Nat) :
    (reach st0 acts).violatesAt i = false := by
  unfold Sys.violatesAt
  cases hi : (reach st0 acts).ths[i]? with
  | none => rfl
  | some t =>
    simp only []
    split
    · rename_i r k hp
      rw [safe_calm st0 hw acts hc t r k (List.mem_of_getElem? hi) hp]
      rfl
    · rfl

end Xp.C08
