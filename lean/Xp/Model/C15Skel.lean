import Xp.Model.C15
/-
C15: the call skeletons the model mirrors, declared entry by entry.

`Xp.Gen.c15Skel*` (lean/Xp/Gen/C15Skel.lean) are regenerated on every check run by
harness/main/c15_dump.go (go/ast over the CURRENT tree): per Go function the ordered list of
its API verbs, collaborator calls, condition constructors, error-class predicates and every
`return` (a `return` is listed BEFORE the calls inside its result expression, an outer call
before the calls in its arguments: the order of ast.Inspect).  Below, next to every entry,
the model step that mirrors it – or "not modelled: <why>".  lean/Xp/Props/C15.lean states
`Xp.Gen.c15Skel<F> = skel<F>` by `rfl`: inserting, removing or reordering a call or an
early exit in one of these functions breaks an obligation before any scenario is run.
-/
namespace Xp.C15

/-- revision `Reconciler.Reconcile` (reconciler.go) ↔ `recStep` / `install` / `fetch` / `gates` -/
def skelReconcile : List String := [
  -- recStep: `f.getE` (err → "err:get"; NotFound ignored → "ok")
  "client.Get", "return", "resource.IgnoreNotFound",
  -- not modelled: the pause annotation (no generated revision carries it)
  "meta.IsPaused", "xpv1.ReconcilePaused", "return", "client.Status.Update",
  -- recStep: `st.deleting`
  "meta.WasDeleted",
  --   cache.Delete(pr.GetName()): `f.del` → "err:delcache", else `c.erase r.key`
  "cache.Delete", "return",
  --   lock.RemoveSelf: not modelled as a fault (the harness' DependencyManager never fails)
  "lock.RemoveSelf", "kerrors.IsConflict", "return", "return",
  --   RemoveFinalizer: `f.finO` (conflict → "requeue", err → "err:finalizer", ok / notFound → "ok")
  "revision.RemoveFinalizer", "kerrors.IsConflict", "return", "return", "return",
  -- not modelled: clearing a left-over ReconcilePaused condition
  "xpv1.ReconcilePaused", "xpv1.ReconcilePaused", "pr.CleanConditions", "return", "client.Status.Update",
  -- recStep: `feature && !st.verif.isTrue` – the signature-verification gate
  "features.Enabled",
  --   Healthy unknown → AwaitingVerification, Status().Update (`f.statO` → "err:status")
  "v1.AwaitingVerification", "return", "client.Status.Update",
  --   otherwise wait
  "return",
  -- recStep: AddFinalizer (`f.finO` when the finalizer is missing; conflict → "requeue", else "err:finalizer")
  "revision.AddFinalizer", "kerrors.IsConflict", "return", "return",
  -- recStep: `f.pullCfg` – ImageConfigStore.PullSecretFor fails (listing ImageConfigs) → Unhealthy, "err:pullcfg"
  "config.PullSecretFor", "v1.Unhealthy", "client.Status.Update", "return",
  -- not modelled: runtime manifest builder options (the harness wires no runtime hooks)
  "runtimeManifestBuilderOptions", "v1.Unhealthy", "client.Status.Update", "return",
  -- recStep: `!st.active` → deactivateRevision: `f.rel` (ReleaseObjects fails: conflict → "requeue", else "err:deactivate")
  "pr.GetDesiredState", "deactivateRevision", "kerrors.IsConflict", "return", "return",
  --   inactive with object references: Healthy, Status().Update (`f.statO` → "err:status"), no fetch
  "pr.GetObjects", "v1.Healthy", "return", "client.Status.Update",
  -- Rev.id: pull policy Never looks the content up under the source
  "pr.GetPackagePullPolicy", "pr.GetPackagePullPolicy",
  -- fetch: `c r.id` = cache.Has(id); cache.Get (`f.get` or a file without gzip header) → Delete (`f.del`), "err:getcache"
  "cache.Has", "cache.Get", "cache.Delete", "return",
  --   content from the cache: nothing to wait for
  "close",
  -- fetch: `r.never` and nothing cached → Unhealthy, "err:pullnever"
  "v1.Unhealthy", "client.Status.Update", "return",
  -- not modelled: pull secrets (BackendOptions)
  "PackageRevision", "PullSecretFromConfig",
  -- fetch: backend.Init (`f.init`, `initSel r.layers` = none) → Unhealthy, "err:init"
  "backend.Init", "v1.Unhealthy", "client.Status.Update", "return",
  -- fetch: the tee of the image stream into cache.Store(pr.GetName(), pipeR) – `storedEntry`, `pulled`
  "io.Pipe", "xpkg.TeeReadCloser", "pipeR.Close", "cache.Store", "pipeR.CloseWithError", "return", "close",
  -- fetch / `pulled`: Parse (the 200 MB io.LimitReader is not modelled)
  "parser.Parse", "io.LimitReader",
  --   `fixed`: the pipe is closed with the parse error (fixes/D6.diff); failed cache write → cache.Delete(id) (`f.del`)
  "pipeW.CloseWithError", "cache.Delete",
  -- install: `.parsed none` → Unhealthy, "err:parse"
  "v1.Unhealthy", "client.Status.Update", "return",
  -- gates: `lint` → Unhealthy, "err:lint"
  "linter.Lint", "v1.Unhealthy", "client.Status.Update", "return",
  -- gates: `p.metas.length != 1` → Unhealthy, "err:onemeta"
  "pkg.GetMeta", "v1.Unhealthy", "client.Status.Update", "return",
  -- gates: the metadata Update (labels / annotations of the meta object; their values are not modelled): `f.updO`
  "xpkg.TryConvertToPkg", "pkg.GetMeta", "meta.AddLabels", "meta.AddAnnotations",
  "client.Update", "kerrors.IsConflict", "return", "v1.Unhealthy", "client.Status.Update", "return",
  -- gates: `!r.ignore && !compatible p` → Unhealthy, return Status().Update ("ok" / "err:status")
  "pr.GetIgnoreCrossplaneConstraints", "pr.GetIgnoreCrossplaneConstraints", "xpkg.PackageCrossplaneCompatible",
  "v1.Unhealthy", "return", "client.Status.Update",
  -- gates: `r.resolve` (skipDependencyResolution = false): lock.Resolve, `f.dep` (conflict → "requeue", else UnknownHealth, "err:deps")
  "pr.GetSkipDependencyResolution", "pr.GetSkipDependencyResolution", "lock.Resolve", "pr.SetDependencyStatus",
  "kerrors.IsConflict", "return", "v1.UnknownHealth", "client.Status.Update", "return",
  -- not modelled: runtime pre hook (no runtime hooks wired)
  "runtimeHook.Pre", "kerrors.IsConflict", "return", "v1.Unhealthy", "client.Status.Update", "return",
  -- gates: Establish(pkg.GetObjects(), pr, desiredState == Active): `Out.est`, `Out.control`; `f.est` / `f.estConflict`
  "objects.Establish", "pkg.GetObjects", "pr.GetDesiredState", "kerrors.IsConflict", "return",
  "v1.Unhealthy", "client.Status.Update", "return",
  -- the comparison function of sort.Slice over the references; gates: `refs := p.objs.length`
  "return", "pr.SetObjects",
  -- not modelled: runtime post hook
  "runtimeHook.Post", "kerrors.IsConflict", "return", "v1.Unhealthy", "client.Status.Update", "return",
  -- gates: Healthy, return Status().Update (`f.statO` → "err:status")
  "v1.Healthy", "return", "client.Status.Update"]

/-- `Reconciler.deactivateRevision` ↔ recStep's inactive branch (`f.rel`) -/
def skelDeactivate : List String := [
  "lock.RemoveSelf", "return",          -- not modelled as a fault (fake DependencyManager)
  "objects.ReleaseObjects", "return",   -- `f.rel`
  "return",                             -- no runtime: done
  "runtimeHook.Deactivate", "return", "return"]  -- not modelled: runtime hooks

/-- `ImageBackend.Init` (imageback.go) ↔ `initSel` (+ `f.init` for the registry) -/
def skelImageInit : List String := [
  "name.ParseReference", "name.WithDefaultRegistry", "return", "errors.Wrap",  -- generated sources parse; not modelled
  "v1.RefNames", "fetcher.Fetch", "return", "errors.Wrap",                      -- `f.init`
  "img.Manifest", "return", "errors.Wrap",                                       -- library; never fails for in-memory images
  "return", "errors.Errorf",                                                     -- initSel: more than `maxLayers` layers
  "return", "errors.New",                                                        -- initSel / `scanBase`: a second annotated base layer
  "img.LayerByDigest", "return", "errors.Wrap",                                  -- library
  "validate.Layer", "return", "errors.Wrap",                                     -- library (digest / size validation)
  "layer.Uncompressed", "return", "errors.Wrap",                                 -- the stream of the annotated layer
  "validate.Image", "return", "errors.Wrap", "mutate.Extract",                   -- initSel: no annotated layer → flattened file system
  "tar.NewReader", "t.Next", "return", "errors.Wrapf",                           -- initSel: no package.yaml in the selected tarball
  "return", "xpkg.JoinedReadCloser"]

/-- `FsPackageCache.Has` ↔ `(c r.id).isSome` in `fetch` -/
def skelCacheHas : List String := ["fs.Stat", "BuildPath", "fi.IsDir", "return", "return"]

/-- `FsPackageCache.Get` ↔ `fetch`: Open fails (`f.get`) or the gzip header is missing
(`Entry.broken false`) → error; else a reader (`content ds` / `broken true`) -/
def skelCacheGet : List String :=
  ["mu.RLock", "mu.RUnlock", "fs.Open", "BuildPath", "return", "return", "GzipReadCloser"]

/-- `FsPackageCache.Store` ↔ `storedEntry`: Create / Copy / gzip Close / file Close; any of
them failing is `f.store`, what the file then holds is `f.left` -/
def skelCacheStore : List String :=
  ["mu.Lock", "mu.Unlock", "fs.Create", "BuildPath", "return", "cf.Close",
   "gzip.NewWriterLevel", "return", "io.Copy", "return", "w.Close", "return", "return", "cf.Close"]

/-- `FsPackageCache.Delete` ↔ `Cache.erase` unless `f.del`; NotExist is not an error -/
def skelCacheDelete : List String :=
  ["mu.Lock", "mu.Unlock", "fs.Remove", "BuildPath", "os.IsNotExist", "return", "return"]

/-- `GzipReadCloser`: the header check that separates `broken false` from `broken true` -/
def skelGzipReadCloser : List String := ["gzip.NewReader", "return", "return"]
def skelGzipRead : List String := ["return", "gzip.Read"]
def skelGzipClose : List String := ["gzip.Close", "rc.Close", "return", "return", "rc.Close"]

/-- `TeeReadCloser` / `teeReadCloser.Read` ↔ `Tee.read` (sticky error: first `return`),
`teeReadCloser.Close` ↔ closing source then writer -/
def skelTeeNew : List String := ["return", "io.TeeReader"]
def skelTeeRead : List String := ["return", "t.Read", "errors.Is", "return"]
def skelTeeClose : List String := ["r.Close", "w.Close", "return", "return", "w.Close"]

/-- signature `Reconciler.Reconcile` ↔ `sigStep` -/
def skelSigReconcile : List String := [
  -- sigStep: `sf.getE` (NotFound → "ok"; else VerificationIncomplete on the empty object – its status update cannot land – "err:get")
  "client.Get", "kerrors.IsNotFound", "return", "v1.VerificationIncomplete", "client.Status.Update", "return",
  -- sigStep: `!st.active` → "ok"
  "pr.GetDesiredState", "return",
  -- sigStep: `st.verif.isTrue` → "ok"
  "pr.GetCondition", "return",
  -- verifCfgFor = `.err` → VerificationIncomplete (unless `sf.stat`), "err:sigcfg"
  "config.ImageVerificationConfigFor", "v1.VerificationIncomplete", "client.Status.Update", "return",
  -- verifCfgFor = `.none` → VerificationSkipped, return Status().Update
  "v1.VerificationSkipped", "return", "client.Status.Update",
  -- not modelled: an unparsable source (generated sources parse)
  "name.ParseReference", "v1.VerificationIncomplete", "client.Status.Update", "return",
  -- not modelled: PullSecretFor failing after ImageVerificationConfigFor succeeded (one List each; a listing fault fails the first)
  "config.PullSecretFor", "v1.VerificationIncomplete", "client.Status.Update", "return",
  -- verifCfgFor = `.some`: the validator's verdict; failed → VerificationFailed, "err:sigfail" ("err:status" when the update fails)
  "validator.Validate", "v1.VerificationFailed", "client.Status.Update", "return", "return",
  -- accepted → VerificationSucceeded, return Status().Update
  "v1.VerificationSucceeded", "return", "client.Status.Update"]

/-- `ImageConfigStore.ImageVerificationConfigFor` ↔ `verifCfgFor` (list error / none / no cosign section / some) -/
def skelVerifCfgFor : List String := ["bestMatch", "return", "return", "return", "return", "return"]

/-- `ImageConfigStore.bestMatch` ↔ `scanCfgs` (`valid`) / `scanPrefixes` (`strings.HasPrefix`, longest) -/
def skelBestMatch : List String := ["client.List", "return", "valid", "strings.HasPrefix", "return"]

/-- `OneMeta` ↔ `pkgCheck "OneMeta"` -/
def skelOneMeta : List String := ["pkg.GetMeta", "return", "return"]

/-- `PackageCrossplaneCompatible` ↔ `compatible`: not a package meta → error (unreachable for
meta-scheme kinds); no constraints → ok; `InConstraints` error (`Con.malformed`) or false
(`Con.outOfRange`) → error -/
def skelCompatible : List String :=
  ["return", "TryConvertToPkg", "return", "p.GetCrossplaneConstraints", "return", "v.InConstraints",
   "p.GetCrossplaneConstraints", "return", "return", "return"]

/-- `PackageValidSemver` ↔ `metaCheck "PackageValidSemver"` (`m.con != .malformed`) -/
def skelValidSemver : List String :=
  ["TryConvertToPkg", "return", "p.GetCrossplaneConstraints", "return", "semver.NewConstraint",
   "p.GetCrossplaneConstraints", "return", "return"]

/-- `TryConvert` / `TryConvertToPkg`: first hub that converts; what the per-check acceptance
tables `Xp.Gen.c15CheckAccepts` record for IsProvider / IsConfiguration / IsFunction -/
def skelTryConvert : List String := ["return", "cvt.ConvertTo", "return", "return"]
def skelTryConvertToPkg : List String := ["TryConvert", "return"]

/-- `Versioner.InConstraints`: the running version and the constraint are parsed by
Masterminds/semver (library): the verdict is `Con` -/
def skelInConstraints : List String :=
  ["GetSemVer", "return", "semver.NewConstraint", "return", "return", "constraint.Check"]

/-- the conversion hubs handed to TryConvert / TryConvertToPkg are fresh composite literals at
every call site (a shared hub would be overwritten by a concurrent reconcile's conversion) -/
def hubArgs : List String := [
  "reconciler.go Reconcile: TryConvertToPkg(&pkgmetav1.Provider{}, &pkgmetav1.Configuration{}, &pkgmetav1.Function{})",
  "lint.go IsProvider: TryConvert(&pkgmetav1.Provider{})",
  "lint.go IsConfiguration: TryConvert(&pkgmetav1.Configuration{})",
  "lint.go IsFunction: TryConvert(&pkgmetav1.Function{})",
  "lint.go PackageCrossplaneCompatible: TryConvertToPkg(&pkgmetav1.Provider{}, &pkgmetav1.Configuration{}, &pkgmetav1.Function{})",
  "lint.go PackageValidSemver: TryConvertToPkg(&pkgmetav1.Provider{}, &pkgmetav1.Configuration{}, &pkgmetav1.Function{})",
  "scheme.go TryConvertToPkg: TryConvert(candidates...)"]

end Xp.C15
