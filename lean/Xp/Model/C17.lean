/-
C17 model: package dependency resolution.

Mirrors, call by call,
* internal/dag/dag.go           MapDag.{Init, AddNode, AddEdge(s), AddOrUpdateNodes, Sort/visit, TraceNode/traceNode}
* internal/dag/upgrading_dag.go MapUpgradingDag (same Sort/TraceNode; AddEdge with isValidConstraints,
                                parent constraints; AddOrUpdateNodes keeping parent constraints)
* apis/pkg/v1beta1/lock.go      LockPackage / Dependency as dag.Node (Neighbors, AddNeighbors, ...)
* internal/controller/pkg/resolver/reconciler.go
                                findDependencyVersionToInstall, findDependencyVersionToUpdate,
                                findDigestToUpdate, and the decision skeleton of Reconcile
* internal/controller/pkg/revision/dependency.go  PackageDependencyManager.Resolve / RemoveSelf

Masterminds/semver and go-containerregistry are libraries, not repository code: their
verdicts (constraint parses?, version parses to which numbers?, does the constraint allow
the version?, is the string a digest?) enter as an `Oracle`; every theorem is parametric in it.
The *order* on parsed versions is modelled (and proved total and transitive) here.

Go map iteration order (Sort) is an input (`order`), universally quantified in the theorems.
-/
namespace Xp.C17

/-! ## Semantic versions (Masterminds/semver v1 `Version.Compare`) -/

/-- one dot-separated pre-release identifier; `comparePrePart` parses with ParseUint -/
inductive Ident where
  | num (n : Nat)
  | alnum (s : String)
  deriving DecidableEq, Repr

/-- a parsed version; build metadata is ignored by `Compare` and not kept -/
structure Ver where
  major : Nat
  minor : Nat
  patch : Nat
  pre : List Ident
  deriving DecidableEq, Repr

/-- `comparePrePart s o ≤ 0` for two present identifiers: numbers sort before
alphanumerics, numbers numerically, alphanumerics as strings. -/
def Ident.le : Ident → Ident → Bool
  | .num a, .num b => decide (a ≤ b)
  | .num _, .alnum _ => true
  | .alnum _, .num _ => false
  | .alnum a, .alnum b => decide (a ≤ b)

/-- `comparePrerelease v o ≤ 0`: identifier by identifier; a missing identifier is smaller. -/
def preLe : List Ident → List Ident → Bool
  | [], _ => true
  | _ :: _, [] => false
  | a :: as, b :: bs => if a = b then preLe as bs else Ident.le a b

/-- the pre-release part of `Compare`: no pre-release on either side is equality, a release
is greater than any of its pre-releases, otherwise `comparePrerelease` -/
def relLe : List Ident → List Ident → Bool
  | [], [] => true
  | [], _ :: _ => false
  | _ :: _, [] => true
  | a :: as, b :: bs => preLe (a :: as) (b :: bs)

/-- `v.Compare(w) ≤ 0` -/
def Ver.le (v w : Ver) : Bool :=
  if v.major ≠ w.major then decide (v.major < w.major)
  else if v.minor ≠ w.minor then decide (v.minor < w.minor)
  else if v.patch ≠ w.patch then decide (v.patch < w.patch)
  else relLe v.pre w.pre

/-- `v.Compare(w) < 0` (`LessThan`) -/
def Ver.lt (v w : Ver) : Bool := !(w.le v)

/-! ## Library verdicts -/

/-- What the model is told about the two libraries. -/
structure Oracle where
  /-- `semver.NewVersion(tag)`; `none` = not a semantic version -/
  ver : String → Option Ver
  /-- `semver.NewConstraint(c)` succeeds -/
  conOk : String → Bool
  /-- `c.Check(v)` for the parsed constraint `c` and parsed version of `tag` -/
  sat : String → String → Bool
  /-- `conregv1.NewHash(c)` succeeds, with its `String()` -/
  digest : String → Option String

/-! ## Lock contents and DAG nodes -/

/-- v1beta1.Dependency as stored in a lock package -/
structure Dep where
  pkg : String
  con : String
  deriving DecidableEq, Repr

/-- v1beta1.LockPackage -/
structure Pkg where
  name : String
  source : String
  version : String
  deps : List Dep
  /-- the deprecated `Type` field is set (`self` built by Resolve never sets it) -/
  typed : Bool
  deriving DecidableEq, Repr

/-- a `dag.Node`: `*LockPackage` (`isPkg`) or `*Dependency` -/
structure Node where
  id : String
  isPkg : Bool
  /-- GetConstraints(): the version of a lock package, the constraint of a dependency -/
  con : String
  /-- Neighbors(): the lock package's dependencies; none for a Dependency -/
  deps : List Dep
  /-- ParentConstraints -/
  parents : List String
  deriving DecidableEq, Repr

/-- the `nodes` map; at most one node per id is an invariant of the operations below -/
abbrev Dag := List Node

def pkgNode (p : Pkg) : Node := ⟨p.source, true, p.version, p.deps, []⟩
def depNode (e : Dep) : Node := ⟨e.pkg, false, e.con, [], []⟩

def Dag.get (d : Dag) (id : String) : Option Node := d.find? (fun n => n.id == id)
def Dag.has (d : Dag) (id : String) : Bool := (d.get id).isSome
def Dag.keys (d : Dag) : List String := d.map (·.id)
/-- neighbour identifiers of a node; `none` when the node does not exist -/
def Dag.nb (d : Dag) (id : String) : Option (List String) := (d.get id).map (fun n => n.deps.map (·.pkg))

inductive DagErr where
  | nodeExists (id : String)
  | noFrom (id : String)
  deriving DecidableEq, Repr

/-- AddNode -/
def addNode (d : Dag) (n : Node) : Except DagErr Dag :=
  if d.has n.id then .error (.nodeExists n.id) else .ok (d ++ [n])

def addNodes : Dag → List Node → Except DagErr Dag
  | d, [] => .ok d
  | d, n :: ns =>
    match addNode d n with
    | .error e => .error e
    | .ok d' => addNodes d' ns

/-- AddParentConstraints on the node stored under `id` -/
def addParents (d : Dag) (id : String) (cs : List String) : Dag :=
  d.map (fun n => if n.id == id then { n with parents := n.parents ++ cs } else n)

/-- what `from.AddNeighbors(to)` appends to `to.ParentConstraints`:
LockPackage: the constraint of its first dependency with `to`'s identifier;
Dependency: its own constraint. -/
def neighborCons (frm : Node) (to : String) : List String :=
  if frm.isPkg then
    match frm.deps.find? (fun e => e.pkg == to) with
    | some e => [e.con]
    | none => []
  else [frm.con]

/-- isValidConstraints(installed, wanted) of upgrading_dag.go -/
def validCon (o : Oracle) (installed wanted : String) : Bool :=
  installed == wanted || o.sat wanted installed

/-- AddEdge of MapDag (`upg = false`) and MapUpgradingDag (`upg = true`); the Bool is the
returned "implied" flag. `to` is a fresh `*Dependency` obtained from `Neighbors()`. -/
def addEdge (o : Oracle) (upg : Bool) (d : Dag) (frm : String) (to : Dep) : Except DagErr (Dag × Bool) :=
  match d.get frm with
  | none => .error (.noFrom frm)
  | some f =>
    let pc := neighborCons f to.pkg
    match d.get to.pkg with
    | none =>
      -- implied: `to` itself becomes the node, then from.AddNeighbors(to) writes into it;
      -- the upgrading DAG then appends to.ParentConstraints to the node, which is `to`: doubled
      let n := { depNode to with parents := if upg then pc ++ pc else pc }
      .ok (d ++ [n], true)
    | some org =>
      if upg then
        if !validCon o org.con to.con then .ok (addParents d to.pkg pc, true)
        else .ok (addParents d to.pkg pc, false)
      else
        -- MapDag: AddNeighbors only touches the throw-away copy `to`
        .ok (d, false)

/-- AddEdges for one source node, accumulating the implied identifiers in call order -/
def addEdges (o : Oracle) (upg : Bool) (frm : String) : Dag → List Dep → List Dep → Except DagErr (Dag × List Dep)
  | d, [], imp => .ok (d, imp)
  | d, e :: es, imp =>
    match addEdge o upg d frm e with
    | .error x => .error x
    | .ok (d', i) => addEdges o upg frm d' es (if i then imp ++ [e] else imp)

def initEdges (o : Oracle) (upg : Bool) : Dag → List Pkg → List Dep → Except DagErr (Dag × List Dep)
  | d, [], imp => .ok (d, imp)
  | d, p :: ps, imp =>
    match addEdges o upg p.source d p.deps imp with
    | .error x => .error x
    | .ok (d', imp') => initEdges o upg d' ps imp'

/-- Init: all nodes first, then all edges; returns the DAG and the implied nodes (the
`*Dependency` values handed to AddEdge, in call order) -/
def init (o : Oracle) (upg : Bool) (pkgs : List Pkg) : Except DagErr (Dag × List Dep) :=
  match addNodes [] (pkgs.map pkgNode) with
  | .error e => .error e
  | .ok d => initEdges o upg d pkgs []

/-- AddOrUpdateNodes for one node -/
def addOrUpdate (upg : Bool) (d : Dag) (n : Node) : Dag :=
  match d.get n.id with
  | none => d ++ [n]
  | some old =>
    let n' := if upg then { n with parents := n.parents ++ old.parents } else n
    d.map (fun x => if x.id == n.id then n' else x)

/-! ## Sort (topological sort by depth-first search) -/

inductive SortErr where
  | cycle (on : String)
  | missing (id : String)
  | fuel
  deriving DecidableEq, Repr

structure SortSt where
  visited : List String
  stack : List String
  results : List String
  deriving Repr

/-- "write `name` into the first empty slot of `results`": an empty name leaves the slice as it was -/
def finish (name : String) (results : List String) : List String :=
  if name = "" then results else results ++ [name]

/-- the `for _, n := range neighbors` loop of `visit`; `rec` is `visit` itself -/
def visitNbrs (rec : String → SortSt → Except SortErr SortSt) (ex : String → Bool) :
    List String → SortSt → Except SortErr SortSt
  | [], st => .ok st
  | n :: ns, st =>
    if !st.visited.contains n then
      if !ex n then .error (.missing n)
      else
        match rec n st with
        | .error e => .error e
        | .ok st' => visitNbrs rec ex ns st'
    else if st.stack.contains n then .error (.cycle n)
    else visitNbrs rec ex ns st

/-- `visited[name] = true; stack[name] = true` -/
def enter (name : String) (st : SortSt) : SortSt :=
  { st with visited := name :: st.visited, stack := name :: st.stack }

/-- `results[first empty slot] = name; stack[name] = false` -/
def leave (name : String) (st : SortSt) : SortSt :=
  { st with results := finish name st.results, stack := st.stack.filter (· ≠ name) }

/-- `visit`; the recursion depth is bounded by the number of nodes (`visitI_spec` and `visit_sim` of Proofs/C17Dag.lean
show the bound is never hit), which is what `fuel` is -/
def visit (nb : String → Option (List String)) : Nat → String → SortSt → Except SortErr SortSt
  | 0, _, _ => .error .fuel
  | f + 1, name, st =>
    match visitNbrs (visit nb f) (fun n => (nb n).isSome) ((nb name).getD []) (enter name st) with
    | .error e => .error e
    | .ok st2 => .ok (leave name st2)

/-- the `for n, node := range d.nodes` loop of Sort over the map order `order` -/
def sortFrom (nb : String → Option (List String)) (fuel : Nat) : List String → SortSt → Except SortErr SortSt
  | [], st => .ok st
  | n :: rest, st =>
    if st.visited.contains n then sortFrom nb fuel rest st
    else
      match visit nb fuel n { st with stack := [] } with
      | .error e => .error e
      | .ok st' => sortFrom nb fuel rest st'

/-- Sort. `order` is the iteration order of the node map. `results` is pre-sized to the
number of nodes, hence the padding. -/
def sortG (nb : String → Option (List String)) (size : Nat) (order : List String) : Except SortErr (List String) :=
  match sortFrom nb (size + 1) order ⟨[], [], []⟩ with
  | .error e => .error e
  | .ok st => .ok (st.results ++ List.replicate (size - st.results.length) "")

def sort (d : Dag) (order : List String) : Except SortErr (List String) :=
  sortG d.nb d.length order

/-! ## TraceNode -/

inductive TraceErr where
  | missing
  | fuel
  deriving DecidableEq, Repr

def traceNbrs (rec : String → List String → Except TraceErr (List String)) :
    List String → List String → Except TraceErr (List String)
  | [], tree => .ok tree
  | n :: ns, tree =>
    if tree.contains n then traceNbrs rec ns tree
    else
      match rec n (n :: tree) with
      | .error e => .error e
      | .ok t => traceNbrs rec ns t

/-- traceNode: `tree` is the key set of the result map -/
def traceNode (nb : String → Option (List String)) : Nat → String → List String → Except TraceErr (List String)
  | 0, _, _ => .error .fuel
  | f + 1, id, tree =>
    match nb id with
    | none => .error .missing
    | some ns => traceNbrs (traceNode nb f) ns tree

def traceG (nb : String → Option (List String)) (size : Nat) (id : String) : Except TraceErr (List String) :=
  traceNode nb (size + 1) id []

/-- TraceNode: the identifiers of the returned map -/
def trace (d : Dag) (id : String) : Except TraceErr (List String) := traceG d.nb d.length id

/-! ## Version selection (resolver) -/

inductive VErr where
  | invalidConstraint
  | fetchTags
  | diffDigests
  | diffTypes
  | noValidVersion
  deriving DecidableEq, Repr

/-- a tag that parsed as a semantic version, with its `Original()` -/
structure VTag where
  tag : String
  ver : Ver
  deriving Repr

/-- the `semver.NewVersion` loop: tags that are not semantic versions are skipped -/
def parseTags (o : Oracle) (tags : List String) : List VTag :=
  tags.filterMap (fun t => (o.ver t).map (fun v => ⟨t, v⟩))

/-- sort.Sort(semver.Collection(vs)); ties keep their relative order here, Go leaves them unspecified -/
def sortTags (vs : List VTag) : List VTag := vs.mergeSort (fun a b => a.ver.le b.ver)

/-- the scan `for _, v := range vs { if c.Check(v) { addVer = v.Original() } }` -/
def lastSat (sat : String → Bool) : List VTag → String → String
  | [], acc => acc
  | v :: vs, acc => lastSat sat vs (if sat v.tag then v.tag else acc)

/-- findDependencyVersionToInstall; `fetch` is the outcome of `fetcher.Tags` -/
def toInstall (o : Oracle) (con : String) (fetch : Option (List String)) : Except VErr String :=
  match o.digest con with
  | some dg => .ok dg
  | none =>
    if !o.conOk con then .error .invalidConstraint
    else
      match fetch with
      | none => .error .fetchTags
      | some tags => .ok (lastSat (o.sat con) (sortTags (parseTags o tags)) "")

/-- findDigestToUpdate, the loop state being (foundDigest, foundVersion) -/
def digestLoop (o : Oracle) : List String → String → Bool → Except VErr String
  | [], found, _ => .ok found
  | c :: cs, found, ver =>
    match o.digest c with
    | some dg =>
      if found ≠ "" && found ≠ dg then .error .diffDigests
      else if ver && dg ≠ "" then .error .diffTypes
      else digestLoop o cs dg ver
    | none =>
      if found ≠ "" then .error .diffTypes
      else digestLoop o cs found true

def digestToUpdate (o : Oracle) (parents : List String) : Except VErr String := digestLoop o parents "" false

/-- result of findDependencyVersionToUpdate; `panic` is `semver.MustParse(insVer)` on an
installed identifier that is not a semantic version -/
inductive UpdRes where
  | ok (v : String)
  | err (e : VErr)
  | panic
  deriving DecidableEq, Repr

/-- the selection loop: lowest valid version not older than `cur`, else (with downgrades)
the highest valid older one -/
def pickUpdate (valid : String → Bool) (cur : Ver) (down : Bool) : List VTag → Option String → Option String
  | [], target => target
  | v :: vs, target =>
    if cur.le v.ver && valid v.tag then some v.tag
    else pickUpdate valid cur down vs (if down && valid v.tag then some v.tag else target)

def satAll (o : Oracle) (parents : List String) (tag : String) : Bool := parents.all (fun c => o.sat c tag)

def toUpdate (o : Oracle) (parents : List String) (installed : String) (down : Bool)
    (fetch : Option (List String)) : UpdRes :=
  match digestToUpdate o parents with
  | .error e => .err e
  | .ok dg =>
    if dg ≠ "" then .ok dg
    else
      match fetch with
      | none => .err .fetchTags
      | some tags =>
        if !parents.all o.conOk then .err .invalidConstraint
        else
          match o.ver installed with
          | none => .panic
          | some cur =>
            match pickUpdate (satAll o parents) cur down (sortTags (parseTags o tags)) none with
            | some v => .ok v
            | none => .err .noValidVersion

/-! ## PackageDependencyManager.Resolve (revision/dependency.go) -/

inductive ResErr where
  | none
  | initDag
  | missingDirect
  | traceMissing
  | missingDeps
  | notInGraph
  | notLockPackage
  | digestMismatch
  | badConstraint
  | badVersion
  | incompatible
  /-- an Update of the Lock was rejected (409): somebody else wrote the Lock after it was read -/
  | conflict
  deriving DecidableEq, Repr

structure ResOut where
  found : Int
  installed : Int
  invalid : Int
  err : ResErr
  /-- the Lock's packages as stored in the API server when the call returns (= after its last
  API call; without other writers: lock.Packages after the call) -/
  lock : List Pkg
  deriving Repr

/-- the check of one direct dependency against the lock package found under its identifier;
`none` = fine, `some (e, counted)`: error `e`, `counted` = it only adds to `invalidDeps` -/
def checkDep (o : Oracle) (d : Dag) (e : Dep) : Option (ResErr × Bool) :=
  match d.get e.pkg with
  | none => some (.notInGraph, false)
  | some n =>
    if !n.isPkg then some (.notLockPackage, false)
    else
      match o.digest e.con with
      | some dg => if n.con ≠ dg then some (.digestMismatch, false) else none
      | none =>
        if !o.conOk e.con then some (.badConstraint, false)
        else if (o.ver n.con).isNone then some (.badVersion, false)
        else if !o.sat e.con n.con then some (.incompatible, true)
        else none

/-- the loop over self.Dependencies: first hard error, else number of incompatible ones -/
def checkDeps (o : Oracle) (d : Dag) : List Dep → Nat → Except ResErr Nat
  | [], k => .ok k
  | e :: es, k =>
    match checkDep o d e with
    | none => checkDeps o d es k
    | some (_, true) => checkDeps o d es (k + 1)
    | some (err, false) => .error err

/-- RemoveSelf on the lock contents: drop the first entry with that name -/
def removeSelf : List Pkg → String → List Pkg
  | [], _ => []
  | p :: ps, name => if p.name == name then ps else p :: removeSelf ps name

/-- "same name, no (deprecated) type, other source": the lock entry of this revision from
before it was moved to another repository. (`self.Type == lp.Type` compares pointers and
self.Type is nil: true iff lp carries no type.) -/
def movedEntry (self : Pkg) (lp : Pkg) : Bool :=
  lp.name == self.name && !lp.typed && lp.source != self.source

/-- the part of Resolve after the DAG `d` (with its implied nodes) has been built from the
(possibly refreshed) lock contents `lock1` -/
def resolveTail (o : Oracle) (upg : Bool) (self : Pkg) (lock1 : List Pkg) (d : Dag) (implied : List Dep) : ResOut :=
  let found : Int := self.deps.length
  let prExists := lock1.any (fun lp => lp.name == self.name)
  let lock2 := if prExists then lock1 else lock1 ++ [self]
  let d2 := if prExists then d else addOrUpdate upg d (pkgNode self)
  let installed0 : Int := if prExists then 0 else (self.deps.filter (fun e => d2.has e.pkg)).length
  if !prExists && installed0 ≠ found then ⟨found, installed0, 0, .missingDirect, lock2⟩
  else
    match trace d2 self.source with
    | .error _ => ⟨found, installed0, 0, .traceMissing, lock2⟩
    | .ok tree =>
      let found' : Int := tree.length
      let missing := implied.filter (fun i => tree.contains i.pkg)
      let installed' : Int := found' - missing.length
      if missing.length ≠ 0 then ⟨found', installed', 0, .missingDeps, lock2⟩
      else
        match checkDeps o d2 self.deps 0 with
        | .error e => ⟨found', installed', 0, e, lock2⟩
        | .ok k => ⟨found', installed', k, if k > 0 then .incompatible else .none, lock2⟩

/-- Resolve for an active revision whose source parsed (`self.source`, `self.version`) and
whose meta dependencies are all well-formed (`self.deps`). The client calls cannot fail here
(the property quantifies over inputs, not faults).

`reinit = true` is the code with fixes/D21.diff: after RemoveSelf + re-reading the lock the
DAG is rebuilt from the refreshed lock. `reinit = false` is the code before that repair, which
kept the DAG (and the implied list) built from the lock *before* the removal. -/
def resolveG (reinit : Bool) (o : Oracle) (upg : Bool) (lock : List Pkg) (self : Pkg) : ResOut :=
  match init o upg lock with
  | .error _ => ⟨self.deps.length, 0, 0, .initDag, lock⟩
  | .ok (d0, implied0) =>
    let moved := lock.any (movedEntry self)
    let lock1 := if moved then removeSelf lock self.name else lock
    match (if moved && reinit then init o upg lock1 else .ok (d0, implied0)) with
    | .error _ => ⟨self.deps.length, 0, 0, .initDag, lock1⟩
    | .ok (d, implied) => resolveTail o upg self lock1 d implied

/-- Resolve as repaired by fixes/D21.diff -/
def resolve (o : Oracle) (upg : Bool) (lock : List Pkg) (self : Pkg) : ResOut := resolveG true o upg lock self

/-! ## Resolve next to other writers of the Lock

The Lock is one shared object: every active revision adds / removes its own entry, and the lock
reconciler writes its status. Between two consecutive API calls of one Resolve another writer
may therefore have replaced the stored packages. Such a write also moves the resourceVersion, so
the next *Update* Resolve sends with the resourceVersion it read is rejected with a conflict:
the conflict is the consequence of the interference, not an independent fault. A *Get* simply
returns what the other writer stored. -/

/-- What other writers did to the Lock right before each of Resolve's API calls that follow its
first Get: `none` = nobody wrote; `some w` = the stored packages are now `w` and the
resourceVersion moved (also when `w` equals the old contents, e.g. a status update). Writes before
a call that Resolve does not make on its path are not consumed. -/
structure Interf where
  /-- before the Get of RemoveSelf -/
  rmGet : Option (List Pkg) := none
  /-- between the Get and the Update of RemoveSelf -/
  rmUpd : Option (List Pkg) := none
  /-- between RemoveSelf and the Get that refreshes the lock -/
  refresh : Option (List Pkg) := none
  /-- between the last Get of the lock and the Update that adds the revision to it -/
  upd : Option (List Pkg) := none
  deriving Repr

/-- nobody else writes -/
def Interf.quiet : Interf := {}

/-- The part of Resolve after the DAG has been built from the lock as last read (`lock1`), next to
a writer that may have stored `upd` before the Update that adds the revision.

`retry = false` is the code as it is: the Update fails with a conflict, Resolve returns that
error (found = number of declared dependencies, nothing installed) and the other writer's
contents stay. `retry = true` is the variant that wraps the Update in `retry.RetryOnConflict`
(re-read the lock, append the revision unless it is there, update again — no further writer)
and then carries on with the DAG and implied list built from `lock1`. -/
def resolveTailI (retry : Bool) (o : Oracle) (upg : Bool) (self : Pkg) (lock1 : List Pkg) (d : Dag)
    (implied : List Dep) (upd : Option (List Pkg)) : ResOut :=
  if lock1.any (fun lp => lp.name == self.name) then resolveTail o upg self lock1 d implied
  else
    match upd with
    | none => resolveTail o upg self lock1 d implied
    | some w =>
      if retry then
        { resolveTail o upg self lock1 d implied with
          lock := if w.any (fun lp => lp.name == self.name) then w else w ++ [self] }
      else ⟨self.deps.length, 0, 0, .conflict, w⟩

/-- Resolve (with fixes/D21.diff) for an active revision, next to the other writers `env`.
API calls: Get; if the lock holds this revision's entry from before it moved to another
repository: RemoveSelf (Get; Update when an entry with the revision's name is there) and a
refreshing Get, Init again; if the revision is not in the lock as last read: Update. -/
def resolveI (retry : Bool) (o : Oracle) (upg : Bool) (lock : List Pkg) (self : Pkg) (env : Interf) : ResOut :=
  match init o upg lock with
  | .error _ => ⟨self.deps.length, 0, 0, .initDag, lock⟩
  | .ok (d0, implied0) =>
    if lock.any (movedEntry self) then
      let l2 := env.rmGet.getD lock
      match (if l2.any (fun lp => lp.name == self.name) then env.rmUpd else none) with
      | some w => ⟨self.deps.length, 0, 0, .conflict, w⟩
      | none =>
        let l4 := env.refresh.getD (removeSelf l2 self.name)
        match init o upg l4 with
        | .error _ => ⟨self.deps.length, 0, 0, .initDag, l4⟩
        | .ok (d, implied) => resolveTailI retry o upg self l4 d implied env.upd
    else resolveTailI retry o upg self lock d0 implied0 env.upd

/-- the lock contents Resolve's checks run on: what its last Get returned -/
def lastRead (lock : List Pkg) (self : Pkg) (env : Interf) : List Pkg :=
  if lock.any (movedEntry self) then env.refresh.getD (removeSelf (env.rmGet.getD lock) self.name) else lock

/-! ## Lock reconciler (resolver/reconciler.go), decision skeleton -/

/-- what one Reconcile does to packages -/
inductive Act where
  | nothing
  | create (source : String) (version : String)
  | update (source : String) (version : String)
  deriving DecidableEq, Repr

inductive RecErr where
  | none
  | buildDag
  | sortDag
  | findInstall (e : VErr)
  | noVersion
  | findUpdate (e : VErr)
  | panic
  deriving DecidableEq, Repr

structure RecOut where
  act : Act
  err : RecErr
  /-- the Lock's ResolutionSucceeded condition as written (none = not written) -/
  resolved : Option Bool
  deriving DecidableEq, Repr

/-- Reconcile for a non-empty lock whose finalizer is present. `installed id` is the version
of an existing package with that repository (looked up only with upgrades enabled), `fetch id`
the tag list of the repository. -/
def reconcile (o : Oracle) (upg down : Bool) (lock : List Pkg) (order : List String)
    (installed : String → Option String) (fetch : String → Option (List String)) : RecOut :=
  match init o upg lock with
  | .error _ => ⟨.nothing, .buildDag, some false⟩
  | .ok (d, implied) =>
    match sort d order with
    | .error _ => ⟨.nothing, .sortDag, some false⟩
    | .ok _ =>
      match implied with
      | [] => ⟨.nothing, .none, some true⟩
      | dep :: _ =>
        -- implied[0] is the *Dependency handed to AddEdge: its constraint is the edge's own
        let depId := dep.pkg
        match (if upg then installed depId else none) with
        | none =>
          match toInstall o dep.con (fetch depId) with
          | .error e => ⟨.nothing, .findInstall e, some false⟩
          | .ok v =>
            if v = "" then ⟨.nothing, .noVersion, some false⟩
            else ⟨.create depId v, .none, some true⟩
        | some ins =>
          let parents := ((d.get depId).map (·.parents)).getD []
          match toUpdate o parents ins down (fetch depId) with
          | .err e => ⟨.nothing, .findUpdate e, some false⟩
          | .panic => ⟨.nothing, .panic, none⟩
          | .ok v => ⟨.update depId v, .none, some true⟩

end Xp.C17

/-! ## Specification vocabulary (Props; used only by the theorems) -/
namespace Xp.C17

/-- `m` is a neighbour of `n` in the graph given by the neighbour function `nb` -/
def Edge (nb : String → Option (List String)) (n m : String) : Prop := m ∈ (nb n).getD []

/-- reachable by at least one edge -/
inductive Reach (nb : String → Option (List String)) : String → String → Prop
  | edge {n m : String} : Edge nb n m → Reach nb n m
  | step {n m k : String} : Edge nb n m → Reach nb m k → Reach nb n k

/-- some node reaches itself (self loops included) -/
def HasCycle (nb : String → Option (List String)) : Prop := ∃ c, Reach nb c c

/-- every neighbour of a node of the DAG is itself a node of the DAG -/
def Closed (nb : String → Option (List String)) : Prop := ∀ n m, Edge nb n m → (nb m).isSome = true

/-- the lock is well-formed with respect to the revision `self` being resolved: revision names
are unique; an entry recorded under `self`'s source is `self`'s own entry (same revision name,
same dependencies as its meta: revision names are content hashes and entries are written by
Resolve from the meta); entries named like `self` do not use the deprecated `type` field -/
structure LockWF (lock : List Pkg) (rev : Pkg) : Prop where
  names : (lock.map (·.name)).Nodup
  own : ∀ p ∈ lock, p.source = rev.source → p.name = rev.name ∧ p.deps = rev.deps
  untyped : ∀ p ∈ lock, p.name = rev.name → p.typed = false

/-- the entries of `l` that concern the revision `rev` are its own: an entry is recorded under
`rev`'s source iff it carries `rev`'s name, and then with `rev`'s dependencies -/
structure OwnEntry (l : List Pkg) (rev : Pkg) : Prop where
  own : ∀ p ∈ l, p.source = rev.source → p.name = rev.name ∧ p.deps = rev.deps
  named : ∀ q ∈ l, q.name = rev.name → q.source = rev.source

/-- what the other writers of the Lock are assumed to respect (only for the writes Resolve reads
back; the writes that make one of its Updates conflict are arbitrary): the lock they leave is
well-formed with respect to `rev`, and they do not put back the stale entry (`rev`'s name under
another source) that RemoveSelf has just removed — entries named like a revision are written by
that revision's own Resolve only -/
structure EnvWF (env : Interf) (rev : Pkg) : Prop where
  rmGet : ∀ w, env.rmGet = some w → LockWF w rev
  refresh : ∀ w, env.refresh = some w → OwnEntry w rev

/-- the version found in the lock for a dependency is what its constraint asks for:
the pinned digest, or a semantic version admitted by the (parsable) constraint -/
def VersionOk (o : Oracle) (e : Dep) (version : String) : Prop :=
  (∃ dg, o.digest e.con = some dg ∧ version = dg) ∨
  (o.digest e.con = none ∧ o.conOk e.con = true ∧ (o.ver version).isSome = true ∧ o.sat e.con version = true)

/-- `res` lists dependencies first: whenever `u` occurs in it, every neighbour of `u` occurs strictly earlier -/
def DepsFirst (nb : String → Option (List String)) (res : List String) : Prop :=
  ∀ l1 u l2, res = l1 ++ u :: l2 → (∀ v, Edge nb u v → v ∈ l1) ∧ u ∉ l1

end Xp.C17
