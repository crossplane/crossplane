import Xp.Base.Prog
/-
C06 model: the claim reconciler's binding protocol
(internal/controller/apiextensions/claim/reconciler.go Reconcile,
 syncer_ssa.go ServerSideCompositeSyncer.Sync + PatchingManagedFieldsUpgrader.Upgrade,
 syncer_csa.go ClientSideCompositeSyncer.Sync (with crossplane-runtime's
 APIPatchingApplicator.Apply and APIFinalizer), internal/names/generate.go GenerateName)
call by call, as a `Prog` over an abstract API server with resourceVersion
optimistic concurrency.

Abstract store: one claim (rv, its own identity apiVersion/kind/namespace/name, the FULL
spec.resourceRef = name + group + version + kind, finalizer, deletionTimestamp,
compositeDeletePolicy) with the list of every version ever stored as ghost state (a
cached read may return any of them), XRs by name (rv, the FULL spec.claimRef = name +
namespace + group + version + kind, whether it carries keys reference.Claim drops (uid),
claim labels, finalizer, deletionTimestamp, status), and a ghost event trace.

References are modelled component-wise because the code's decisions depend on them
component-wise: "does the claim reference an XR" looks ONLY at `spec.resourceRef.name`
(reconciler.go `Get(ctx, types.NamespacedName{Name: ref.Name}, xr)`, both syncers
`SetName(ref.Name)`) whatever apiVersion/kind the reference carries, while the client-side
syncer rewrites the claim when the stored reference differs from `xr.GetReference()` in ANY
component (`!cmp.Equal(existing, proposed)`) and the server-side one always rewrites it;
"is this XR bound to this claim" is `cmp.Equal(cm.GetReference(), xr.GetClaimReference())`
on reference.Claim{APIVersion, Kind, Name, Namespace}: ALL of name, namespace, group,
version and kind must agree (a uid key is dropped by GetClaimReference and never compared).

Managed fields (extension round): an XR carries `mf`, the manager names of its
metadata.managedFields in order. `PatchingManagedFieldsUpgrader.Upgrade`'s decision (which managers
exist -> no patch / remove the last before-first-apply entry / clear all managers) is the computed
function `upgradeDecision` of the `mf` of the XR AS READ (possibly stale), wired only together with
the server-side syncer (`Cfg.ssa`, offered/reconciler.go: `wiringSSA`); whether the server can apply
the JSON patch is the computed function `applyUpDec` of the STORED `mf` (a `replace` of an absent
key / a `remove` past the end is Invalid). Neither is an oracle any more.

Not modelled (chosen by an oracle that the theorems quantify over, and that the
driver takes from the real run): the random
name suffixes (name oracle `cands`); which version the lagging cache serves
(`pick`). Field-level sync of spec/status/labels is C07's subject. The pause
annotation and connection-secret propagation are outside (never enabled). The claim's
own apiVersion (`St.me`, `Claim.id`) is fixed: only the XR version of the controller
(`Cfg.xrt`) varies between reconciles.

Hardening round. (1) Every call can fail with ANY error class (`Flt.cls`, `Step.callErr` with an
arbitrary `Err`; an XR read answers NotFound only where the name really was absent: `admissible`), or
take effect and lose its reply with any class (`Flt.lost`, `Step.callLost`). (2) The world may hold
OTHER claims of the kind (`St.others`), reconciled by the same controller (`swap`: the model stays
per claim, the driver switches the claim under reconciliation), and `St.peers` says whether other
claims' controllers act at all: then the environment also creates XRs and (re)binds XRs to OTHER
claims (`Env.peerWrite`: anything but binding an XR to THIS claim). (3) Writes that carry the
resourceVersion of the XR as read (`upgradeXR`, `patchXR _ (some rv)`) are told apart from the
unconditional ones (Delete, the forced apply, the merge patch of an XR that was not read) in the
ghost trace (`Ev.xrWriteG` / `Ev.xrWrite`): in a world with peers only the former are protected
against an XR that was bound to another claim after it was read.
-/
namespace Xp.C06

abbrev Name := String

/-- group/version/kind; `apiVersion` = group/version -/
structure GVK where
  group : String
  version : String
  kind : String
  deriving DecidableEq, Repr

/-- reference.Composite: what a claim's spec.resourceRef holds -/
structure XRef where
  name : Name
  group : String
  version : String
  kind : String
  deriving DecidableEq, Repr

/-- reference.Claim: what an XR's spec.claimRef holds, and what `cm.GetReference()` returns -/
structure CRef where
  name : String
  ns : String
  group : String
  version : String
  kind : String
  deriving DecidableEq, Repr

/-- `xr.GetReference()` of an XR of type `t` named `n` -/
def mkXRef (t : GVK) (n : Name) : XRef := ⟨n, t.group, t.version, t.kind⟩

structure Claim where
  rv : Nat
  id : CRef              -- cm.GetReference(): apiVersion, kind, namespace, name of the object itself
  ref : Option XRef      -- spec.resourceRef
  fin : Bool             -- carries finalizer.apiextensions.crossplane.io
  deleting : Bool        -- deletionTimestamp set
  fg : Bool              -- spec.compositeDeletePolicy = Foreground
  deriving DecidableEq, Repr

/-- `spec.resourceRef.name`: the only component of the reference the reconciler and the syncers read -/
def Claim.refName (c : Claim) : Option Name := c.ref.map (·.name)

structure XR where
  rv : Nat
  cref : Option CRef     -- spec.claimRef as GetClaimReference() parses it
  crefUid : Bool         -- spec.claimRef carries a key reference.Claim has no field for (uid): never compared
  lbl : Option (String × String)  -- the crossplane.io/claim-name and claim-namespace labels (name, namespace)
  fin : Bool             -- has finalizers
  deleting : Bool
  status : Bool          -- has a status
  gen : Nat              -- status.observed: written by the XR controller (environment) only
  /-- metadata.managedFields: the manager name of every entry, in order (all `Upgrade` looks at) -/
  mf : List String
  deriving DecidableEq, Repr

/-- ghost events -/
inductive Ev where
  /-- a claim update carrying `spec.resourceRef.name = n` was applied (acknowledged by the store) -/
  | ack (n : Name)
  /-- the claim controller created XR `n` (Create or apply-create) -/
  | create (n : Name)
  /-- an UNCONDITIONAL write or delete of the claim controller (Delete, the server-side syncer's forced
  apply, the client-side merge patch of an XR that was not read) took effect on the existing XR `n`;
  `was` = its stored claimRef at that moment -/
  | xrWrite (n : Name) (was : Option CRef)
  /-- a write that carries the resourceVersion of the XR as read (the managed-fields JSON patch, the
  client-side merge patch of an XR that was read) took effect on the existing XR `n` -/
  | xrWriteG (n : Name) (was : Option CRef)
  deriving DecidableEq, Repr

/-- another claim of the kind: its identity, stored object, version history and ghost trace -/
structure Side where
  me : CRef
  claim : Option Claim
  hist : List Claim
  trace : List Ev

structure St where
  /-- the identity of the claim this model instance is about (the reconcile request's
  namespace/name + the controller's claim GroupVersionKind); never changes -/
  me : CRef
  claim : Option Claim
  /-- ghost: every version of the claim ever stored, newest first -/
  hist : List Claim
  xrs : Name → Option XR
  /-- ghost: every content XR `n` ever had (`none` = absent), newest first -/
  xhist : Name → List (Option XR)
  nextRv : Nat
  /-- ghost: newest first -/
  trace : List Ev
  /-- do other claims' controllers act in this world (create XRs, bind XRs to THEIR claims)? -/
  peers : Bool := false
  /-- the other claims of the kind in the store (untouched by every call of this claim's reconcile) -/
  others : List Side := []

inductive Err where
  | notFound | conflict | invalid | exists | other
  deriving DecidableEq, Repr

/-- the two JSON patches of PatchingManagedFieldsUpgrader.Upgrade -/
inductive UpDec where
  /-- `{"op":"replace","path":"/metadata/managedFields","value":[{}]}`: clear all field managers -/
  | clear
  /-- `{"op":"remove","path":"/metadata/managedFields/i"}`: drop the before-first-apply entry -/
  | removeAt (i : Nat)
  deriving DecidableEq, Repr

/-- claim.FieldOwnerXR (tied to the source by `field_owner_tied`) -/
def ssaManager : String := "apiextensions.crossplane.io/claim"
/-- the manager the API server records, at the first apply to an object without managers, for everything
that was there before -/
def bfaManager : String := "before-first-apply"
/-- the default (client-side) field manager of the Crossplane client -/
def csaManager : String := "crossplane"

/-- the loop of `Upgrade` over `obj.GetManagedFields()`: `i` = index of the head, `fs` = foundSSA,
`ib` = idxBFA (foundBFA = `ib.isSome`); a later before-first-apply entry overwrites an earlier index -/
def upgradeScan (ssa : String) : List String → Nat → Bool → Option Nat → Bool × Option Nat
  | [], _, fs, ib => (fs, ib)
  | m :: ms, i, fs, ib => upgradeScan ssa ms (i + 1) (fs || m == ssa) (if m == bfaManager then some i else ib)

/-- the `switch` of `Upgrade`: `foundSSA && !foundBFA` -> nothing to do; `foundSSA && foundBFA` -> remove
entry idxBFA; default -> clear all managers -/
def upgradeDecision (ssa : String) (mf : List String) : Option UpDec :=
  match upgradeScan ssa mf 0 false none with
  | (true, none) => none
  | (true, some i) => some (.removeAt i)
  | (false, _) => some .clear

/-- what the API server makes of the patch on an object with managers `mf` (`none` = it cannot apply it:
422 Invalid): `replace` needs the key to be there — an object without managers serialises without
`managedFields` —, `remove` needs the index to exist -/
def applyUpDec : UpDec → List String → Option (List String)
  | .clear, [] => none
  | .clear, _ :: _ => some []
  | .removeAt i, mf => if i < mf.length then some (mf.eraseIdx i) else none

/-- a write of manager `m` records it unless an entry of that manager exists -/
def touchMgr (m : String) (mf : List String) : List String := if mf.contains m then mf else mf ++ [m]

/-- the forced apply of the server-side syncer on an existing object: the applying manager is recorded; if
the object had no managers at all (they were cleared), everything that was there is attributed to
before-first-apply -/
def applyMf (mf : List String) : List String :=
  match mf with
  | [] => [ssaManager, bfaManager]
  | _ => touchMgr ssaManager mf

inductive Req where
  /-- cached read of the claim: `none` = the stored version, `some i` = the i-th newest version ever stored -/
  | getClaim (pick : Option Nat)
  /-- cached read of an XR: `none` = the stored state; `some f` = the older state of the name that `f`
  selects from the list of all older states (newest first; `none` = absent) — the stored state if `f`
  selects nothing or something that never was a state of the name -/
  | getXR (n : Name) (sel : Option (List (Option XR) → Option (Option XR)))
  /-- client.Update(claim): carries the resourceVersion of the in-memory copy -/
  | updClaim (c : Claim)
  /-- client.Status().Update(claim) -/
  | updClaimStatus (rv : Nat)
  /-- one of the two managed-fields JSON patches of `Upgrade` (both carry the XR's resourceVersion) -/
  | upgradeXR (n : Name) (rv : Nat) (d : UpDec)
  | deleteXR (n : Name) (fg : Bool)
  /-- client.Create(XR) of the client-side syncer: carries `spec.claimRef = cref` and the claim labels; `rvSet` = the
  object still carries the resourceVersion of an earlier read (the server rejects such a create) -/
  | createXR (n : Name) (rvSet : Bool) (cref : CRef)
  /-- the client-side syncer's merge patch (claimRef := cref); carries the rv if the XR was read -/
  | patchXR (n : Name) (rv : Option Nat) (cref : CRef)
  /-- the server-side syncer's forced apply (claimRef := cref): creates the XR or (re)binds it -/
  | applyXR (n : Name) (cref : CRef)

inductive Resp where
  | claim (c : Claim)
  | xr (x : XR)
  | ok
  | err (e : Err)
  deriving Repr

def Req.isWrite : Req → Bool
  | .getClaim _ | .getXR _ _ => false
  | _ => true

/-! ### the API server -/

/-- store a new version of the claim (fresh rv; an object that is terminating and has
no finalizer left disappears) -/
def pushClaim (s : St) (c : Claim) : St × Claim :=
  let c' := { c with rv := s.nextRv }
  ({ s with claim := if c'.deleting && !c'.fin then none else some c',
            hist := c' :: s.hist, nextRv := s.nextRv + 1 }, c')

def putXR (s : St) (n : Name) (x : XR) : St × XR :=
  let x' := { x with rv := s.nextRv }
  ({ s with xrs := fun m => if m = n then some x' else s.xrs m,
            xhist := fun m => if m = n then some x' :: s.xhist m else s.xhist m,
            nextRv := s.nextRv + 1 }, x')

def setXR (s : St) (n : Name) (x : Option XR) : St :=
  { s with xrs := fun m => if m = n then x else s.xrs m,
           xhist := fun m => if m = n then x :: s.xhist m else s.xhist m }

def emit (s : St) (e : Ev) : St := { s with trace := e :: s.trace }

/-- the acknowledgement event of a claim update carrying a resourceRef -/
def ackOf (c : Claim) : List Ev :=
  match c.refName with
  | some n => [.ack n]
  | none => []

/-- the XR a create / apply-create stores: claimRef and claim labels from the request -/
def newXR (cref : CRef) (mgr : String) : XR := ⟨0, some cref, false, some (cref.name, cref.ns), false, false, false, 0, [mgr]⟩

/-- the merge patch of the client-side syncer (APIPatchingApplicator: the whole desired object sent as a
JSON merge patch) sets the four fields of spec.claimRef; a key the desired object lacks (uid) is not
removed by a merge patch -/
def bindXR (cref : CRef) (x : XR) : XR := { x with cref := some cref, lbl := some (cref.name, cref.ns), mf := touchMgr csaManager x.mf }

/-- the forced apply of the server-side syncer sets the four fields it owns; a uid key set by
somebody else stays -/
def applyBindXR (cref : CRef) (x : XR) : XR := { x with cref := some cref, lbl := some (cref.name, cref.ns), mf := applyMf x.mf }

/-- the store after Delete(XR `n`), `x` = its stored state, `x1` = `x` with the foregroundDeletion
finalizer if requested: an object with finalizers gets a deletionTimestamp (nothing at all changes,
and no new state enters the name's history, if it already has one), one without disappears -/
def delState (s : St) (n : Name) (x x1 : XR) : St :=
  if x1.fin then
    (if x1.deleting then (if x1 = x then s else setXR s n (some x1)) else (putXR s n { x1 with deleting := true }).1)
  else setXR s n none

def exec (s : St) : Req → St × Resp
  | .getClaim pick =>
    match pick.bind (fun i => s.hist[i]?) with
    | some c => (s, .claim c)
    | none =>
      match s.claim with
      | some c => (s, .claim c)
      | none => (s, .err .notFound)
  | .getXR n sel =>
    match (match sel.bind (fun f => f ((s.xhist n).drop 1)) with
           | some ox => if ox ∈ (s.xhist n).drop 1 then ox else s.xrs n
           | none => s.xrs n) with
    | some x => (s, .xr x)
    | none => (s, .err .notFound)
  | .updClaim c =>
    match s.claim with
    | none => (s, .err .notFound)
    | some cur =>
      if c.rv ≠ cur.rv then (s, .err .conflict)
      else
        let r := pushClaim { s with trace := ackOf c ++ s.trace } { c with deleting := cur.deleting, fg := cur.fg, id := cur.id }
        (r.1, .claim r.2)
  | .updClaimStatus rv =>
    match s.claim with
    | none => (s, .err .notFound)
    | some cur =>
      if rv ≠ cur.rv then (s, .err .conflict)
      else
        let r := pushClaim s cur
        (r.1, .claim r.2)
  | .upgradeXR n rv d =>
    match s.xrs n with
    | none => (s, .err .notFound)
    | some x =>
      if (applyUpDec d x.mf).isNone then (s, .err .invalid)
      else if rv ≠ x.rv then (s, .err .conflict)
      else
        let r := putXR s n { x with mf := (applyUpDec d x.mf).getD x.mf }
        (emit r.1 (.xrWriteG n x.cref), .xr r.2)
  | .deleteXR n fg =>
    match s.xrs n with
    | none => (s, .err .notFound)
    | some x =>
      let x1 := if fg then { x with fin := true } else x
      (emit (delState s n x x1) (.xrWrite n x.cref), .ok)
  | .createXR n rvSet cref =>
    match s.xrs n with
    | some _ => (s, .err .exists)
    | none =>
      if rvSet then (s, .err .other)
      else
        let r := putXR s n (newXR cref csaManager)
        (emit r.1 (.create n), .xr r.2)
  | .patchXR n rv cref =>
    match s.xrs n with
    | none => (s, .err .notFound)
    | some x =>
      if (match rv with | some v => v != x.rv | none => false) then (s, .err .conflict)
      else
        let r := putXR s n (bindXR cref x)
        (emit r.1 (if rv.isSome then .xrWriteG n x.cref else .xrWrite n x.cref), .xr r.2)
  | .applyXR n cref =>
    match s.xrs n with
    | none =>
      let r := putXR s n (newXR cref ssaManager)
      (emit r.1 (.create n), .xr r.2)
    | some x =>
      let r := putXR s n (applyBindXR cref x)
      (emit r.1 (.xrWrite n x.cref), .xr r.2)

/-- what the controller sees when a call is not applied -/
def errResp : Outcome → Req → Resp
  | .conflict, r => if r.isWrite then .err .conflict else .err .other
  | _, _ => .err .other

def sem : Sem St Req Resp := ⟨exec, errResp⟩

/-- An XR read answers NotFound only where the name really was absent (the stored state, or an older
one served by the cache: `exec (.getXR ..)`); every other error class can hit every call. -/
def admissible : Req → Err → Bool
  | .getXR _ _, .notFound => false
  | _, _ => true

/-- fault of one call in a scheduled run: `Outcome` + an error of a given class (not applied) + a reply
lost after the call took effect (the controller sees an error and goes on) -/
inductive Flt where
  | ok | fail | conflict | crashBefore | crashAfter
  | cls (e : Err)
  | lost (e : Err)
  deriving Repr

/-- the error the controller sees under a fault (inadmissible classes degrade to a server error) -/
def fltErr : Flt → Req → Err
  | .conflict, r => if r.isWrite then .conflict else .other
  | .cls e, r => if admissible r e then e else .other
  | .lost e, r => if admissible r e then e else .other
  | _, _ => .other

/-! ### the claim reconciler -/

inductive Res where
  | ok | requeue | err
  deriving DecidableEq, Repr

abbrev P := Prog Req Resp Res

structure Cfg where
  /-- features.EnableBetaClaimSSA: server-side syncer + managed-fields upgrader -/
  ssa : Bool
  /-- `r.gvkXR`: the XR GroupVersionKind this incarnation of the controller reconciles. The store
  holds the XRs of that GroupKind; the version changes when the XRD's referenceable version is
  switched and the controller restarts. It only ever ends up in references the syncers write. -/
  xrt : GVK
  /-- which version the cache serves for the claim -/
  pick : Option Nat
  /-- which state the cache serves for each XR read of the reconcile (0 = the Get in Reconcile,
  1 = the Get inside the client-side Apply, 2.. = the availability Gets of the name generator) -/
  xpick : Nat → Option (List (Option XR) → Option (Option XR))
  /-- name oracle: the names the generator draws, in order -/
  cands : List Name

/-- `return reconcile.Result{Requeue: …}, errors.Wrap(r.client.Status().Update(ctx, cm), errUpdateClaimStatus)` -/
def statusThen (cm : Claim) (r : Res) : P :=
  .call (.updClaimStatus cm.rv) fun
    | .claim _ => .ret r
    | _ => .ret .err

/-- `if kerrors.IsConflict(err) { return Requeue } … SetConditions(ReconcileError); return Requeue, Status().Update` -/
def failWith (cm : Claim) : Err → P
  | .conflict => .ret .requeue
  | _ => statusThen cm .requeue

/-- names.nameGenerator.GenerateName: draw a name, Get it, NotFound = available; at most `fuel` tries -/
def genName (xpick : Nat → Option (List (Option XR) → Option (Option XR))) : Nat → Nat → List Name → (Option Name → P) → P
  | 0, _, _, k => k none
  | _ + 1, _, [], k => k none
  | t + 1, j, c :: cs, k =>
    .call (.getXR c (xpick j)) fun
      | .err .notFound => k (some c)
      | .xr _ => genName xpick t (j + 1) cs k
      | _ => k none

def finish (cm : Claim) : P := statusThen cm .ok

/-- ServerSideCompositeSyncer.Sync once the XR's name is known: Update(claim) with the reference,
then the forced apply of the XR, then (if the XR has a status) Status().Update(claim); then the
tail of Reconcile -/
def ssaBind (cfg : Cfg) (cm : Claim) (n : Name) : P :=
  .call (.updClaim { cm with ref := some (mkXRef cfg.xrt n) }) fun
    | .claim cm1 =>
      .call (.applyXR n cm.id) fun
        | .xr x =>
          if x.status then
            .call (.updClaimStatus cm1.rv) fun
              | .claim cm2 => finish cm2
              | .err e => failWith cm1 e
              | _ => .ret .err
          else finish cm1
        | .err e => failWith cm1 e
        | _ => .ret .err
    | .err e => failWith cm e
    | _ => .ret .err

/-- ServerSideCompositeSyncer.Sync, then the tail of Reconcile: `if ref := cm.GetResourceReference();
ref != nil { xrPatch.SetName(ref.Name) }` whatever apiVersion/kind the reference carries; then
`cm.SetResourceReference(xrPatch.GetReference())` and Update(claim), always -/
def syncSSA (cfg : Cfg) (cm : Claim) : P :=
  match cm.refName with
  | some n => ssaBind cfg cm n
  | none => genName cfg.xpick 10 2 cfg.cands fun
      | some n => ssaBind cfg cm n
      | none => statusThen cm .requeue

/-- the tail of ClientSideCompositeSyncer.Sync after the XR was applied -/
def csaPost (cm1 : Claim) : P :=
  .call (.updClaimStatus cm1.rv) fun
    | .claim cm2 =>
      .call (.updClaim cm2) fun
        | .claim cm3 => finish cm3
        | .err e => failWith cm2 e
        | _ => .ret .err
    | .err e => failWith cm1 e
    | _ => .ret .err

/-- `AllowUpdateIf(!cmp.Equal(old, obj))`: the desired XR (built from the XR read at the start of
the reconcile) equals the current one, i.e. nobody wrote the XR since and it is already bound
and labelled -/
def csaNoop (me : CRef) (xr : Option XR) (cur : XR) : Bool :=
  match xr with
  | some x => x.rv == cur.rv && x.cref == some me && !x.crefUid && x.lbl == some (me.name, me.ns)
  | none => false

/-- `s.client.Apply(ctx, xr, AllowUpdateIf(!cmp.Equal))` = APIPatchingApplicator.Apply -/
def csaApply (cfg : Cfg) (xr : Option XR) (cm1 : Claim) (n : Name) : P :=
  .call (.getXR n (cfg.xpick 1)) fun
    | .err .notFound =>
      .call (.createXR n xr.isSome cm1.id) fun
        | .xr _ => csaPost cm1
        | .err e => failWith cm1 e
        | _ => .ret .err
    | .xr cur =>
      if csaNoop cm1.id xr cur then csaPost cm1
      else
        .call (.patchXR n (xr.map XR.rv) cm1.id) fun
          | .xr _ => csaPost cm1
          | .err e => failWith cm1 e
          | _ => .ret .err
    | .err e => failWith cm1 e
    | _ => .ret .err

/-- the client-side syncer's Update(claim) with the proposed reference (a freshly generated name, or
the recorded name under the controller's current apiVersion/kind), then Apply -/
def csaBindNew (cfg : Cfg) (xr : Option XR) (cm : Claim) (n : Name) : P :=
  .call (.updClaim { cm with ref := some (mkXRef cfg.xrt n) }) fun
    | .claim cm1 => csaApply cfg xr cm1 n
    | .err e => failWith cm e
    | _ => .ret .err

/-- ClientSideCompositeSyncer.Sync, then the tail of Reconcile: `xr.SetName(ref.Name)` whatever
apiVersion/kind the reference carries; `if !cmp.Equal(existing, proposed) { SetResourceReference(proposed);
Update(claim) }` compares the whole reference -/
def syncCSA (cfg : Cfg) (cm : Claim) (xr : Option XR) : P :=
  match cm.ref with
  | some r => if r = mkXRef cfg.xrt r.name then csaApply cfg xr cm r.name else csaBindNew cfg xr cm r.name
  | none => genName cfg.xpick 10 2 cfg.cands fun
      | some n => csaBindNew cfg xr cm n
      | none => statusThen cm .requeue

/-- RemoveFinalizer (Update, NotFound ignored), then the final status update -/
def finalizeClaim (cm : Claim) : P :=
  if cm.fin then
    .call (.updClaim { cm with fin := false }) fun
      | .claim cm1 => statusThen cm1 .ok
      | .err .notFound => statusThen cm .ok
      | .err _ => statusThen cm .requeue
      | _ => .ret .err
  else statusThen cm .ok

/-- `meta.WasDeleted(cm)` branch -/
def deletePath (cm : Claim) (xr : Option (Name × XR)) : P :=
  match xr with
  | none => finalizeClaim cm
  | some (n, x) =>
    if cm.fg && x.deleting then statusThen cm .requeue
    else
      .call (.deleteXR n cm.fg) fun
        | .ok | .err .notFound => if cm.fg then .ret .requeue else finalizeClaim cm
        | .err _ => statusThen cm .requeue
        | _ => .ret .err

/-- r.composite.Sync with the configured syncer -/
def syncWith (cfg : Cfg) (cm : Claim) (xr : Option (Name × XR)) : P :=
  if cfg.ssa then syncSSA cfg cm else syncCSA cfg cm (xr.map (·.2))

/-- AddFinalizer, then Sync -/
def bindPath (cfg : Cfg) (cm : Claim) (xr : Option (Name × XR)) : P :=
  if cm.fin then syncWith cfg cm xr
  else
    .call (.updClaim { cm with fin := true }) fun
      | .claim cm1 => syncWith cfg cm1 xr
      | .err e => failWith cm e
      | _ => .ret .err

def restOf (cfg : Cfg) (cm : Claim) (xr : Option (Name × XR)) : P :=
  if cm.deleting then deletePath cm xr else bindPath cfg cm xr

/-- `r.managedFields.Upgrade(ctx, xr, FieldOwnerXR)` as wired by offered/reconciler.go: the
PatchingManagedFieldsUpgrader together with the server-side syncer, the NopManagedFieldsUpgrader (claim.NewReconciler's
default) otherwise; `!meta.WasCreated(obj)` -> nothing -/
def upgradeOf (cfg : Cfg) (xr : Option (Name × XR)) : Option UpDec :=
  match xr with
  | some (_, x) => if cfg.ssa then upgradeDecision ssaManager x.mf else none
  | none => none

/-- everything after the unbound check: managed-fields Upgrade, then delete or bind -/
def afterCheck (cfg : Cfg) (cm : Claim) (xr : Option (Name × XR)) : P :=
  match xr, upgradeOf cfg xr with
  | some (n, x), some d =>
    .call (.upgradeXR n x.rv d) fun
      | .xr x' => restOf cfg cm (some (n, x'))
      | .err .notFound => restOf cfg cm (some (n, x))
      | .err e => failWith cm e
      | _ => .ret .err
  | _, _ => restOf cfg cm xr

/-- `ref != nil && !cmp.Equal(cm.GetReference(), ref)`: the XR carries a claimRef that differs from
this claim's reference in name, namespace, group, version or kind -/
def unbound (cm : Claim) (x : XR) : Bool :=
  match x.cref with
  | some r => r != cm.id
  | none => false

/-- the unbound check (errFmtUnbound) -/
def checked (cfg : Cfg) (cm : Claim) (xr : Option (Name × XR)) : P :=
  match xr with
  | some (_, x) => if unbound cm x then statusThen cm .ok else afterCheck cfg cm xr
  | none => afterCheck cfg cm none

/-- after the (possibly stale) claim was read: Get the referenced XR -/
def withClaim (cfg : Cfg) (cm : Claim) : P :=
  match cm.refName with
  | some n =>
    .call (.getXR n (cfg.xpick 0)) fun
      | .xr x => checked cfg cm (some (n, x))
      | .err .notFound => checked cfg cm none
      | .err _ => statusThen cm .requeue
      | _ => .ret .err
  | none => checked cfg cm none

def reconcile (cfg : Cfg) : P :=
  .call (.getClaim cfg.pick) fun
    | .claim cm => withClaim cfg cm
    | .err .notFound => .ret .ok
    | _ => .ret .err

/-! ### declared call skeletons

The Go calls (through a field of the receiver) that each function above mirrors, in source
order. `Xp/Props/C06.lean` states that they equal the lists regenerated from the current source
by go/ast on every check run (`Xp.Gen.c06Skel…`): inserting, removing or reordering an API call
in one of these Go functions invalidates the model and breaks that obligation at once.
`withClaim`/`checked`/`afterCheck`/`deletePath`/`finalizeClaim`/`bindPath` mirror `Reconcile`
(`statusThen` = each `client.Status.Update`), `ssaBind`/`syncSSA` mirror the server-side `Sync`,
`csaBindNew`/`csaApply`/`csaPost`/`syncCSA` the client-side `Sync`, `genName` mirrors
`GenerateName`, `upgradeXR` requests mirror `Upgrade`. -/

def skelReconcile : List String :=
  ["client.Get",                      -- getClaim
   "client.Status.Update",            -- paused (not modelled: never paused)
   "client.Get",                      -- getXR
   "client.Status.Update",            -- Get error
   "client.Status.Update",            -- unbound check
   "managedFields.Upgrade", "client.Status.Update",
   "client.Status.Update",            -- foreground: waiting for the XR
   "client.Delete", "client.Status.Update",
   "claim.UnpublishConnection", "client.Status.Update",   -- no-op unpublisher
   "claim.RemoveFinalizer", "client.Status.Update",
   "client.Status.Update",            -- deleted
   "claim.AddFinalizer", "client.Status.Update",
   "composite.Sync", "client.Status.Update",
   "client.Status.Update",            -- waiting
   "composite.PropagateConnection", "client.Status.Update",   -- no secret: no call
   "client.Status.Update"]            -- available

def skelSsaSync : List String := ["names.GenerateName", "client.Update", "client.Patch", "client.Status.Update"]

def skelCsaSync : List String :=
  ["names.GenerateName", "client.Update", "client.Apply", "client.Status.Update", "client.Update"]

def skelUpgrade : List String :=
  ["client.Patch",     -- case foundSSA && foundBFA: upgradeXR _ _ (.removeAt idxBFA)
   "client.Patch"]     -- default: upgradeXR _ _ .clear

def skelGenerateName : List String := ["namer.GenerateName", "reader.Get"]

/-- crossplane-runtime `APIPatchingApplicator.Apply` (the module source the harness is compiled from),
mirrored by `csaApply` -/
def skelApply : List String :=
  ["client.Create",    -- not modelled: only for an object with generateName and no name (the syncer names the XR first)
   "client.Get",       -- csaApply: getXR n (xpick 1)
   "client.Create",    -- NotFound: createXR n _ _
   "client.Patch"]     -- after the ApplyOptions (`csaNoop` = AllowUpdateIf refusing): patchXR n _ _

/-- crossplane-runtime `APIFinalizer.AddFinalizer`: `bindPath`'s updClaim { cm with fin := true } unless `cm.fin` -/
def skelAddFinalizer : List String := ["client.Update"]

/-- crossplane-runtime `APIFinalizer.RemoveFinalizer`: `finalizeClaim`'s updClaim { cm with fin := false } if `cm.fin` -/
def skelRemoveFinalizer : List String := ["client.Update"]

/-- offered/reconciler.go under features.EnableBetaClaimSSA: `Cfg.ssa = true` selects `syncSSA` in `syncWith`
AND `upgradeDecision` in `upgradeOf` -/
def wiringSSA : List String :=
  ["WithCompositeSyncer:NewServerSideCompositeSyncer", "WithManagedFieldsUpgrader:NewPatchingManagedFieldsUpgrader"]

/-- claim.NewReconciler's defaults: `Cfg.ssa = false` selects `syncCSA` and no upgrade patch -/
def wiringDefault : List String :=
  ["CompositeSyncer:NewClientSideCompositeSyncer", "managedFields:NopManagedFieldsUpgrader", "composite:defaultCRComposite"]

/-! #### the declared skeletons of the syncers as functions of the model's programs -/

/-- the client call a request is -/
def reqVerb : Req → String
  | .getClaim _ | .getXR _ _ => "client.Get"
  | .updClaim _ => "client.Update"
  | .updClaimStatus _ => "client.Status.Update"
  | .upgradeXR _ _ _ | .patchXR _ _ _ | .applyXR _ _ => "client.Patch"
  | .deleteXR _ _ => "client.Delete"
  | .createXR _ _ _ => "client.Create"

/-- the requests a program issues when every call is answered by `reply` (at most `fuel` of them) -/
def pathReqs (reply : Req → Resp) : Nat → P → List Req
  | 0, _ => []
  | _, .ret _ => []
  | fuel + 1, .call r k => r :: pathReqs reply fuel (k (reply r))

/-- every call succeeds; an XR read finds the XR iff `found`; the XR applied has a status -/
def okReply (cm : Claim) (x : XR) (found : Bool) : Req → Resp
  | .getClaim _ | .updClaim _ | .updClaimStatus _ => .claim cm
  | .getXR _ _ => if found then .xr x else .err .notFound
  | .deleteXR _ _ => .ok
  | _ => .xr { x with status := true }

/-! ### environment -/

/-- Environment steps: the XR controller (and the garbage collector / a user) rewrite or
remove XRs but never change a claimRef, and an XR they create carries none; the user edits or
deletes the claim and may even rewrite the apiVersion/kind of spec.resourceRef (a manifest
restored from a backup taken under another served version), but never changes or removes
spec.resourceRef.name. -/
inductive Env : St → St → Prop where
  | xrWrite (s : St) (n : Name) (x x' : XR) : s.xrs n = some x → x'.cref = x.cref →
      Env s (putXR s n x').1
  | xrRemove (s : St) (n : Name) : Env s (setXR s n none)
  /-- a user creates an XR by hand: it carries no claimRef -/
  | xrCreate (s : St) (n : Name) (x' : XR) : s.xrs n = none → x'.cref = none → Env s (putXR s n x').1
  /-- in a world with other claims: ANOTHER claim's controller creates XR `n` or rewrites it in any way
  (binds it to its claim — even one bound to this claim —, unbinds it), except that it never binds an
  XR to THIS claim -/
  | peerWrite (s : St) (n : Name) (x' : XR) : s.peers = true →
      (x'.cref = some s.me → ∃ x, s.xrs n = some x ∧ x.cref = some s.me) → Env s (putXR s n x').1
  /-- a change of an existing XR that keeps its resourceVersion and claimRef (a finalizer added to an
  XR that is already terminating) -/
  | xrSet (s : St) (n : Name) (x x' : XR) : s.xrs n = some x → x'.cref = x.cref → x'.rv = x.rv →
      Env s (setXR s n (some x'))
  /-- writes to other objects (other claims): resourceVersions are consumed, `others` changes -/
  | tick (s : St) (k : Nat) (o : List Side) : Env s { s with nextRv := s.nextRv + k, others := o }
  | claimWrite (s : St) (c c' : Claim) : s.claim = some c → c'.refName = c.refName → c'.id = c.id →
      Env s (pushClaim s c').1
  | claimGone (s : St) : Env s { s with claim := none }

/-- the scripted environment actions of the correspondence harness -/
inductive EnvAct where
  /-- the XR controller adds its finalizer and writes a status (`status.observed = g`) -/
  | xrTouch (n : Name) (g : Nat)
  | xrRemove (n : Name) | xrDelete (n : Name) | claimDelete | claimTouch
  /-- somebody rewrites apiVersion/kind of the claim's spec.resourceRef (the name stays) -/
  | claimRetype (t : GVK)
  /-- somebody creates XR `n` (absent until then) with this claimRef (`none`: a user, by hand; `some r`:
  the controller of the claim `r`, which is not a claim of the scenario) -/
  | xrCreate (n : Name) (r : Option CRef) (uid : Bool)
  /-- the controller of another claim `r` (not a claim of the scenario) binds the existing XR `n` -/
  | xrBind (n : Name) (r : CRef) (uid : Bool)
  /-- `a` (a claim action) applied to the claim in slot `j` of `St.others` -/
  | other (j : Nat) (a : EnvAct)
  deriving Repr

def St.side (s : St) : Side := ⟨s.me, s.claim, s.hist, s.trace⟩

def St.load (s : St) (d : Side) : St := { s with me := d.me, claim := d.claim, hist := d.hist, trace := d.trace }

/-- make the claim in slot `j` of `others` the claim under reconciliation; the current one takes its
slot (an involution) -/
def swap (s : St) (j : Nat) : St :=
  match s.others[j]? with
  | some d => { s.load d with others := s.others.set j s.side }
  | none => s

def lblOf (r : Option CRef) : Option (String × String) := r.map fun r => (r.name, r.ns)

def applyEnv (s : St) : EnvAct → St
  | .xrTouch n g =>
    match s.xrs n with
    | some x => (putXR s n { x with fin := true, status := true, gen := g }).1
    | none => s
  | .xrRemove n =>
    match s.xrs n with
    | some _ => setXR s n none
    | none => s
  | .xrDelete n =>
    match s.xrs n with
    | some x =>
      if x.fin then (if x.deleting then s else (putXR s n { x with deleting := true }).1)
      else setXR s n none
    | none => s
  | .claimDelete =>
    match s.claim with
    | some c =>
      if c.fin then (if c.deleting then s else (pushClaim s { c with deleting := true }).1)
      else { s with claim := none }
    | none => s
  | .claimTouch =>
    match s.claim with
    | some c => (pushClaim s c).1
    | none => s
  | .claimRetype t =>
    match s.claim with
    | some c =>
      (match c.ref with
       | some r => if r = mkXRef t r.name then s else (pushClaim s { c with ref := some (mkXRef t r.name) }).1
       | none => s)
    | none => s
  | .xrCreate n r uid =>
    match s.xrs n with
    | some _ => s
    | none => (putXR s n ⟨0, r, uid && r.isSome, lblOf r, false, false, false, 0, [csaManager]⟩).1
  | .xrBind n r uid =>
    match s.xrs n with
    | some x =>
      if x.cref = some r ∧ x.crefUid = uid ∧ x.lbl = lblOf (some r) then s
      else (putXR s n { x with cref := some r, crefUid := uid, lbl := lblOf (some r) }).1
    | none => s
  | .other j a =>
    match s.others[j]? with
    | some _ => swap (applyEnv (swap s j) a) j
    | none => s

/-- OUTSIDE the environment `Env` of the theorems (a second incarnation of the claim: `Init`/`Inv` speak about
ONE object whose reference name is set-once): the claim, gone, is created again under the same name — a new
object without reference and finalizer. The version history `hist` keeps the versions of the old incarnation,
so a cached read (`Req.getClaim (some i)`) may still serve them; `exec` answers an Update that carries the
resourceVersion of such a version with Conflict. Replayed by the driver for the scripted action `claimCreate`;
covered by the correspondence and the direct monitors, not by `driver_runs_are_executions`. -/
def recreateClaim (s : St) : St :=
  match s.claim with
  | some _ => s
  | none => (pushClaim s ⟨0, s.me, none, false, false, false⟩).1

/-! ### system: one claim-controller thread, the environment, crashes -/

structure Sys where
  st : St
  /-- the reconcile in flight (`none` = idle) -/
  thread : Option P

/-- One step of the system. `start` also models a crash/restart at any point: the
in-flight reconcile is dropped (all controller-local state is lost) and a new one
starts with an arbitrary cache lag, name oracle and XR version of the controller. A crash
after a call took effect is `callOk` followed by `start`. `callErr`: the call is not applied and
the controller sees an error of any class. -/
inductive Step : Sys → Sys → Prop where
  | env (s s' : St) (t : Option P) : Env s s' → Step ⟨s, t⟩ ⟨s', t⟩
  | start (s : St) (t : Option P) (cfg : Cfg) : Step ⟨s, t⟩ ⟨s, some (reconcile cfg)⟩
  | callOk (s : St) (r : Req) (k : Resp → P) : Step ⟨s, some (.call r k)⟩ ⟨(exec s r).1, some (k (exec s r).2)⟩
  /-- the call is not applied and the controller sees an error of ANY admissible class -/
  | callErr (s : St) (r : Req) (k : Resp → P) (e : Err) : admissible r e = true →
      Step ⟨s, some (.call r k)⟩ ⟨s, some (k (.err e))⟩
  /-- the call took effect but the reply was lost (timeout): the controller sees an error -/
  | callLost (s : St) (r : Req) (k : Resp → P) (e : Err) : admissible r e = true →
      Step ⟨s, some (.call r k)⟩ ⟨(exec s r).1, some (k (.err e))⟩
  | done (s : St) (a : Res) : Step ⟨s, some (.ret a)⟩ ⟨s, none⟩

inductive Reach (s0 : St) : Sys → Prop where
  | init : Reach s0 ⟨s0, none⟩
  | step (a b : Sys) : Reach s0 a → Step a b → Reach s0 b

/-! ### scheduled runner used by the correspondence driver -/

structure CallRec where
  req : Req
  outcome : Flt
  /-- reply seen by the controller; for `crashAfter` the reply that was lost -/
  resp : Option Resp

/-- Run one reconcile under a fault plan, applying the scripted environment actions
`env k` right after call `k`. -/
def runRec (plan : Nat → Flt) (env : Nat → List EnvAct) : Nat → P → St → St × List CallRec × Option Res
  | _, .ret a, s => (s, [], some a)
  | k, .call r c, s =>
    let after (s : St) : St := (env k).foldl applyEnv s
    match plan k with
    | .ok =>
      let q := runRec plan env (k+1) (c (exec s r).2) (after (exec s r).1)
      (q.1, ⟨r, plan k, some (exec s r).2⟩ :: q.2.1, q.2.2)
    | .crashBefore => (after s, [⟨r, plan k, none⟩], none)
    | .crashAfter => (after (exec s r).1, [⟨r, plan k, some (exec s r).2⟩], none)
    | .lost e =>
      let q := runRec plan env (k+1) (c (.err (fltErr (.lost e) r))) (after (exec s r).1)
      (q.1, ⟨r, plan k, some (exec s r).2⟩ :: q.2.1, q.2.2)
    | f =>
      let q := runRec plan env (k+1) (c (.err (fltErr f r))) (after s)
      (q.1, ⟨r, plan k, some (.err (fltErr f r))⟩ :: q.2.1, q.2.2)

end Xp.C06
