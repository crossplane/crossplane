import Xp.Model.C13
/-
C13 — the tie between the model's steps and the control-flow skeletons of the Go functions
they mirror (harness/main/c13_dump.go regenerates the skeletons from the current tree into
`Xp.Gen.c13Flow…`).

Three things live here:

1. `accepts`: an interpreter of skeleton tokens. `accepts skip fuel toks defers trace` says
   whether `trace` is the sequence of calls and writes of SOME path through the function
   (an `if` taken or not, a loop run 0, 1 or 2 times, `break` / `continue`, a `return` that ends
   the path, deferred calls run last-in-first-out at the return). Tokens named in `skip` are
   steps of the Go function that are not steps of the model; each skip list below says why.

2. `stepEvents`: what one step of the MODEL does, in the vocabulary of the skeletons. The lock
   operations are not written down: they are DERIVED from the lock state the proofs are about
   (`Pc.held` before and after the step); the calls that leave the engine and the writes are
   read off the step's program counter and global action. `runTrace` runs a schedule and
   collects the events per thread and per Go function (a model thread that runs `Stop` also runs
   `StoppableSource.Stop`; the collector's thread runs `GetWatches` and `StopWatches`).

3. The declared skeletons (`flow…`): one entry per token of the Go function, each with the model
   step that mirrors it or the reason why no model step does.

Props/C13.lean states `skeleton_<fn> : Xp.Gen.c13Flow<Fn> = flow<Fn>` and `trace_<fn>`: the
event sequences the model derives for that function on its characteristic runs (longest path,
early returns, error paths) are paths of the regenerated skeleton.
-/
namespace Xp.C13

/-- one skeleton token: (depth, kind, what, target) -/
abbrev Tok := Nat × String × String × Nat

def tCall (d : Nat) (w : String) : Tok := (d, "call", w, 0)
def tDefer (d : Nat) (w : String) : Tok := (d, "defer", w, 0)
def tSet (d : Nat) (w : String) : Tok := (d, "set", w, 0)
def tRet (d : Nat) : Tok := (d, "return", "", 0)
def tIf (d : Nat) (c : String) : Tok := (d, "if", c, 0)
def tElse (d : Nat) : Tok := (d, "else", "", 0)
def tCase (d : Nat) : Tok := (d, "case", "", 0)
def tFor (d : Nat) (c : String) : Tok := (d, "for", c, 0)
def tFunc (d : Nat) : Tok := (d, "func", "", 0)
def tBreak (d tg : Nat) : Tok := (d, "break", "", tg)
def tCont (d tg : Nat) : Tok := (d, "continue", "", tg)

/-- the tokens of the block opened at depth `d`, and what follows the block -/
def blockOf (d : Nat) (ts : List Tok) : List Tok × List Tok := ts.span (fun t => decide (d < t.1))

/-- the event a `call` / `set` token stands for -/
def tokEvent (k w : String) : String := if k = "set" then "set " ++ w else w

/-- Is `trace` the event sequence of some path through `toks`? `defers` is the stack of deferred
calls registered so far (most recent first). -/
def accepts (skip : List String) : Nat → List Tok → List String → List String → Bool
  | 0, _, _, _ => false
  | _ + 1, [], defers, trace => trace == defers
  | fuel + 1, (d, k, w, tg) :: rest, defers, trace =>
    if k = "call" || k = "set" then
      if skip.contains (tokEvent k w) then accepts skip fuel rest defers trace
      else match trace with
        | e :: tr => e == tokEvent k w && accepts skip fuel rest defers tr
        | [] => false
    else if k = "defer" then
      if skip.contains w then accepts skip fuel rest defers trace
      else accepts skip fuel rest (w :: defers) trace
    else if k = "return" then trace == defers
    else if k = "if" || k = "case" then
      let body := (blockOf d rest).1
      let after := (blockOf d rest).2
      match after with
      | (d', k', _, _) :: after' =>
        if k' = "else" && d' = d then
          let ebody := (blockOf d after').1
          let after2 := (blockOf d after').2
          accepts skip fuel (body ++ after2) defers trace || accepts skip fuel (ebody ++ after2) defers trace
        else accepts skip fuel (body ++ after) defers trace || accepts skip fuel after defers trace
      | [] => accepts skip fuel body defers trace || accepts skip fuel [] defers trace
    else if k = "for" then
      let body := (blockOf d rest).1
      let after := (blockOf d rest).2
      accepts skip fuel after defers trace
        || accepts skip fuel (body ++ after) defers trace
        || accepts skip fuel (body ++ (d + 1, "iter", "", 0) :: (body ++ after)) defers trace
    else if k = "func" then accepts skip fuel (blockOf d rest).2 defers trace
    else if k = "iter" then accepts skip fuel rest defers trace
    else if k = "break" then accepts skip fuel (rest.dropWhile (fun t => decide (tg < t.1))) defers trace
    else if k = "continue" then
      accepts skip fuel (rest.dropWhile (fun t => decide (tg < t.1) && !(t.2.1 == "iter" && t.1 == tg + 1))) defers trace
    else false

/-! ### the model's events -/

/-- the Go functions a model thread runs -/
inductive Fn
  | start | stop | isRunning | startWatches | stopWatches | getWatches   -- ControllerEngine
  | srcStart | srcStop                                                   -- StoppableSource
  | gcNow                                                                -- GarbageCollector.GarbageCollectWatchesNow
  | cache                                                                -- InformerTrackingCache entry points (one atomic step here; see C13Cache)
  deriving DecidableEq, Repr

/-- the lock operation that takes a lock from mode `a` to mode `b` -/
def lockOp (pfx : String) : Mode → Mode → List String
  | .n, .w => [pfx ++ "Lock"]
  | .n, .r => [pfx ++ "RLock"]
  | .w, .n => [pfx ++ "Unlock"]
  | .r, .n => [pfx ++ "RUnlock"]
  | _, _ => []

def cMode (h : Held) : Mode :=
  match h.c with
  | some (_, m) => m
  | none => .n

/-- the lock operations of a step, derived from the lock state before and after it:
`e.mx` is "mx." (the receiver is dropped in the skeletons), the controller's lock "c.mx." -/
def heldEvents (a b : Held) : List String :=
  lockOp "mx." a.e b.e ++ lockOp "c.mx." (cMode a) (cMode b)

/-- the Go function whose code the step from `pc` of a thread running `op` executes -/
def stepFn (op : Op) : Pc → Fn
  | .idle | .done _ =>
    match op with
    | .start _ => .start | .stop _ => .stop | .isRunning _ => .isRunning
    | .startWatches _ _ => .startWatches | .stopWatches _ _ => .stopWatches
    | .getWatches _ => .getWatches | .gc _ _ => .gcNow
    | .removeInformer _ | .cacheRead _ => .cache
  | .relE _ => (match op with | .start _ => .start | _ => .stop)
  | .relCE _ _ => .stop
  | .relC _ _ => (match op with | .startWatches _ _ => .startWatches | _ => .stopWatches)
  | .stNC _ => .start
  | .spC _ _ | .spLoop _ _ | .spGI _ _ _ _ | .spRH _ _ _ _ _ => .stop
  | .irRel _ => .isRunning
  | .swLU _ _ | .swAI _ _ | .swCR _ _ _ | .swCRrel _ _ _ _ | .swCW _ _ _ | .swAI2 _ _
  | .swGI _ _ _ _ _ | .swAH _ _ _ _ _ _ => .startWatches
  | .xw0 _ _ | .xwLU _ _ | .xwCR _ _ | .xwCRrel _ _ _ | .xwCW _ _ | .xwGI _ _ _ _ _ | .xwRH _ _ _ _ _ _ => .stopWatches
  | .gwLU _ | .gwCR _ | .gwCRrel _ _ => .getWatches
  | .gc1 _ _ | .gcLU _ _ _ | .gcCR _ _ _ | .gcCRrel _ _ _ _ => .getWatches   -- the collector's call of GetWatches

/-- is the thread the collector's? (its StopWatches is called by GarbageCollectWatchesNow) -/
def Op.isGc : Op → Bool
  | .gc _ _ => true
  | _ => false

/-- The calls that leave the engine and the writes of the step from `t.pc` that ends in `pc'`
with global action `act`, each under the Go function that contains it. A call of one modelled
function by another (`w.Stop`, `c.ctrl.Watch`, `engine.GetWatches`, `engine.StopWatches`) is an
event of the caller at the callee's first step. -/
def callEvents (cfg : Cfg) (t : Thread) (pc' : Pc) (act : Act) : List (Fn × String) :=
  match t.pc, act with
  -- Start: c, err := co.nc(...); e.controllers[name] = r
  | .stNC _, .newCtl _ => [(.start, "co.nc"), (.start, "set controllers[]")]
  | .stNC _, _ => [(.start, "co.nc")]
  -- Stop: w.Stop(ctx) = GetInformer, RemoveEventHandler, s.reg = nil; delete(c.sources, wid)
  | .spGI _ _ _ _, _ => [(.stop, "w.Stop"), (.srcStop, "infs.GetInformer")]
  | .spRH _ _ _ _ _, .delReg _ _ _ => [(.srcStop, "i.RemoveEventHandler"), (.srcStop, "set reg"), (.stop, "delete c.sources")]
  | .spRH _ _ _ _ _, _ => [(.srcStop, "i.RemoveEventHandler")]
  -- Stop: c.cancel(); c.stopped = true; delete(e.controllers, name)
  | .spLoop _ _, .finishStop _ _ => [(.stop, "c.cancel"), (.stop, "set c.stopped"), (.stop, "delete controllers")]
  -- StartWatches: a := e.infs.ActiveInformers()
  | .swAI _ _, _ => [(.startWatches, "infs.ActiveInformers")]
  | .swAI2 _ _, _ => [(.startWatches, "infs.ActiveInformers")]
  -- StartWatches: c.ctrl.Watch(src) = src.Start: GetInformer, AddEventHandler, s.reg = reg; c.sources[wid] = src; started[wid] = true
  | .swGI _ _ _ _ _, _ => [(.startWatches, "c.ctrl.Watch"), (.srcStart, "infs.GetInformer")]
  | .swAH _ _ _ _ _ _, .addReg _ _ _ =>
    [(.srcStart, "i.AddEventHandler"), (.srcStart, "set reg"), (.startWatches, "set c.sources[]")]
      ++ (if cfg.fixD2 then [(.startWatches, "set started[]")] else [])
  | .swAH _ _ _ _ _ _, _ => [(.srcStart, "i.AddEventHandler")]
  -- StopWatches
  | .xwGI _ _ _ _ _, _ => [(.stopWatches, "w.Stop"), (.srcStop, "infs.GetInformer")]
  | .xwRH _ _ _ _ _ _, .delReg _ _ _ => [(.srcStop, "i.RemoveEventHandler"), (.srcStop, "set reg"), (.stopWatches, "delete c.sources")]
  | .xwRH _ _ _ _ _ _, _ => [(.srcStop, "i.RemoveEventHandler")]
  | .xw0 _ _, _ => if t.op.isGc then [(.gcNow, "engine.StopWatches")] else []
  -- collector: gc.engine.GetCached().List(ctx, l); gc.engine.GetWatches(name)
  | .gc1 _ _, _ => [(.gcNow, "engine.GetWatches")]
  | .idle, .rmInformer _ => [(.cache, "RemoveInformer")]
  | .idle, .getInformer _ _ => [(.cache, "read")]
  | .idle, _ =>
    match t.op, pc' with
    | .gc _ _, _ => [(.gcNow, "engine.GetCached"), (.gcNow, "engine.GetCached.List")]
    | _, _ => []
  | _, _ => []

/-- all events of one step, in the order the Go code performs them: a step that acquires a
lock does so before anything else, a step that releases one does so last; the call of a
modelled function by another precedes the callee's lock operation -/
def stepEvents (cfg : Cfg) (t : Thread) (pc' : Pc) (act : Act) : List (Fn × String) :=
  let locks := (heldEvents t.pc.held pc'.held).map (fun e => (stepFn t.op t.pc, e))
  match t.pc with
  | .gc1 _ _ | .xw0 _ _ => callEvents cfg t pc' act ++ locks
  | _ => locks ++ callEvents cfg t pc' act

/-- run a schedule, collecting (thread, function, event) -/
def runTrace (cfg : Cfg) (s : Sys) : List (Nat × Choice) → Option (Sys × List (Nat × Fn × String))
  | [] => some (s, [])
  | (i, ch) :: rest =>
    match s.threads[i]? with
    | none => none
    | some t =>
      match next cfg s i t ch with
      | none => none
      | some (pc', act) =>
        match runTrace cfg (act.apply { s with threads := s.threads.set i { t with pc := pc' } }) rest with
        | none => none
        | some (s', evs) => some (s', (stepEvents cfg t pc' act).map (fun e => (i, e.1, e.2)) ++ evs)

/-- the events of thread `i` inside Go function `f` along a schedule (`none`: the schedule is
not executable) -/
def traceOf (cfg : Cfg) (ops : List Op) (sched : List (Nat × Choice)) (i : Nat) (f : Fn) : Option (List String) :=
  (runTrace cfg (init ops) sched).map (fun r => (r.2.filter (fun e => e.1 == i && e.2.1 == f)).map (·.2.2))

/-- `trace` is some path of `toks` -/
def isPath (skip : List String) (toks : List Tok) (trace : Option (List String)) : Bool :=
  match trace with
  | some tr => accepts skip 400 toks [] tr
  | none => false

/-! ### declared skeletons

One line per token of the Go function, with the model step (a `Pc` transition of `next`) that
mirrors it. "–" marks tokens without a model step; those that are calls or writes are in the
function's skip list, with the reason. -/

/-- ControllerEngine.Start -/
def flowStart : List Tok := [
  tCall 0 "mx.Lock",                       -- idle → stNC / relE : acquire e.mx (W)
  tDefer 0 "mx.Unlock",                    -- relE → done
  tIf 0 "running",                         -- idle: `aget n s.ctrls` is some → relE .ok
  tRet 1,
  tFor 0 "range o",                        -- – options: the harness passes WithNewControllerFn only
  tSet 0 "co.runtime.SkipNameValidation",  -- – controller-runtime option
  tCall 0 "co.nc",                         -- stNC: NewControllerFn (parking point NC, fault point)
  tIf 0 "err != nil",                      -- stNC, ch.fault → relE .err
  tRet 1,
  tCall 0 "context.WithCancel",            -- – the context `finishStop` cancels (Ctl.cancelled = false)
  tFunc 0,                                 -- – goroutine: <-Elected; c.Start(ctx); on error e.Stop(ctx, name): not modelled (level_note 6)
  tCall 1 "mgr.Elected",
  tCall 1 "c.Start",
  tIf 1 "err != nil",
  tCall 2 "Stop",
  tRet 2,
  tIf 0 "co.gc != nil",                    -- – goroutine running the collector every minute: the model's `Op.gc` threads
  tFunc 1,
  tCall 2 "mgr.Elected",
  tCall 2 "co.gc.GarbageCollectWatches",
  tSet 0 "controllers[]",                  -- stNC → relE : Act.newCtl
  tRet 0]

def skipStart : List String :=
  ["set co.runtime.SkipNameValidation",    -- an option of the controller-runtime controller, no engine state
   "context.WithCancel"]                   -- creates the context; the model's Ctl starts with cancelled = false

/-- ControllerEngine.Stop -/
def flowStop : List Tok := [
  tCall 0 "mx.Lock",                       -- idle → spC / relE : acquire e.mx (W)
  tDefer 0 "mx.Unlock",                    -- relE → done
  tIf 0 "!running",                        -- idle: `aget n s.ctrls` is none → relE .ok
  tRet 1,
  tCall 0 "c.mx.Lock",                     -- spC → spLoop : acquire c.mx (W)
  tDefer 0 "c.mx.Unlock",                  -- relCE → relE
  tFor 0 "range c.sources",                -- spLoop: ch.pick = the source map iteration yields
  tCall 1 "w.Stop",                        -- spGI, spRH (StoppableSource.Stop)
  tIf 1 "err != nil",                      -- spGI / spRH with ch.fault → relCE .err
  tRet 2,
  tCall 1 "delete c.sources",              -- spRH → spLoop : Act.delReg
  tCall 0 "c.cancel",                      -- spLoop, no source left → relCE : Act.finishStop (cancelled := true)
  tSet 0 "c.stopped",                      --   … stopped := true
  tCall 0 "delete controllers",            --   … ctrls := adel n
  tRet 0]

/-- ControllerEngine.IsRunning -/
def flowIsRunning : List Tok := [
  tCall 0 "mx.RLock",                      -- idle → irRel : acquire e.mx (R), read e.controllers[name]
  tDefer 0 "mx.RUnlock",                   -- irRel → done
  tRet 0]

/-- ControllerEngine.StartWatches -/
def flowStartWatches : List Tok := [
  tCall 0 "mx.RLock",                      -- idle → swLU : acquire e.mx (R), read e.controllers[name]
  tCall 0 "mx.RUnlock",                    -- swLU → swAI / done
  tIf 0 "!running",                        -- swLU none → done .notRunning
  tRet 1,
  tFor 0 "range ws",                       -- – GVKs of the watched objects: kinds are numbers in the model
  tCall 1 "apiutil.GVKForObject",
  tIf 1 "err != nil",                      -- – assumption: GVKForObject succeeds
  tRet 2,
  tSet 1 "gvks[]",
  tCall 0 "infs.ActiveInformers",          -- swAI → swCR : a := s.tracked (parking point AI)
  tFor 0 "range a",                        -- – list → set
  tSet 1 "activeInformer[]",
  tCall 0 "c.mx.RLock",                    -- swCR → swCRrel : acquire c.mx (R); start := (swNext srcs a [] ws).isSome
  tFor 0 "range ws",                       --   swNext
  tIf 1 "watchExists && activeInformer[wid.GVK]",   --   swNext: (aget w srcs).isSome && a.contains w.gvk (st = [])
  tCont 2 0,
  tBreak 1 0,
  tCall 0 "c.mx.RUnlock",                  -- swCRrel → swCW / done
  tIf 0 "!start",                          -- swCRrel false → done .ok
  tRet 1,
  tCall 0 "c.mx.Lock",                     -- swCW → swAI2 / relC : acquire c.mx (W)
  tDefer 0 "c.mx.Unlock",                  -- relC → done
  tIf 0 "c.stopped",                       -- swCW: cfg.fixD12 && stoppedOf s cid → relC .notRunning
  tRet 1,
  tCall 0 "infs.ActiveInformers",          -- swAI2 (cfg.fixD2) : a := s.tracked
  tFor 0 "range a",
  tSet 1 "activeInformer[]",
  tFor 0 "range ws",                       -- swPc / swNext over the rest of ws
  tIf 1 "watchExists && (activeInformer[wid.GVK] || started[wid])",  -- swNext: … && (a.contains w.gvk || st.contains w)
  tCont 2 0,
  tCall 1 "NewStoppableSource",            -- – allocation
  tCall 1 "c.ctrl.Watch",                  -- swGI, swAH (StoppableSource.Start through the controller)
  tIf 1 "err != nil",                      -- swGI / swAH failing → relC .err
  tRet 2,
  tSet 1 "c.sources[]",                    -- swAH → … : Act.addReg (sources := aset wid reg)
  tSet 1 "started[]",                      -- swAH: st' := wid :: st (cfg.fixD2)
  tRet 0]

def skipStartWatches : List String :=
  ["apiutil.GVKForObject", "set gvks[]",   -- kinds are opaque numbers; assumption: GVKForObject succeeds
   "set activeInformer[]",                 -- the list → set conversion of `a`
   "NewStoppableSource"]                   -- allocation of the source object (its registration id is allocated by addReg)

/-- ControllerEngine.GetWatches -/
def flowGetWatches : List Tok := [
  tCall 0 "mx.RLock",                      -- idle → gwLU (gc1 → gcLU) : acquire e.mx (R)
  tCall 0 "mx.RUnlock",                    -- gwLU → gwCR / done
  tIf 0 "!running",                        -- gwLU none → done .notRunning (gcLU none → done .err)
  tRet 1,
  tCall 0 "c.mx.RLock",                    -- gwCR → gwCRrel : acquire c.mx (R); l := keys of sources
  tDefer 0 "c.mx.RUnlock",                 -- gwCRrel → done (gcCRrel → xw0 / done)
  tFor 0 "range c.sources",                --   (srcsOf s cid).map (·.1)
  tRet 0]

/-- ControllerEngine.StopWatches -/
def flowStopWatches : List Tok := [
  tCall 0 "mx.RLock",                      -- idle / xw0 → xwLU : acquire e.mx (R)
  tCall 0 "mx.RUnlock",                    -- xwLU → xwCR / done
  tIf 0 "!running",                        -- xwLU none → done .notRunning
  tRet 1,
  tCall 0 "c.mx.RLock",                    -- xwCR → xwCRrel : acquire c.mx (R); stop := (xwNext srcs ws).isSome
  tFor 0 "range ws",                       --   xwNext
  tIf 1 "watchExists",
  tBreak 2 0,
  tCall 0 "c.mx.RUnlock",                  -- xwCRrel → xwCW / done
  tIf 0 "!stop",                           -- xwCRrel false → done (count 0)
  tRet 1,
  tCall 0 "c.mx.Lock",                     -- xwCW → xwGI / relC : acquire c.mx (W)
  tDefer 0 "c.mx.Unlock",                  -- relC → done
  tFor 0 "range ws",                       -- xwPc / xwNext over the rest of ws
  tIf 1 "!watchExists",                    --   xwNext skips a watch without source
  tCont 2 0,
  tCall 1 "w.Stop",                        -- xwGI, xwRH (StoppableSource.Stop)
  tIf 1 "err != nil",                      -- xwGI / xwRH with ch.fault → relC (count k false)
  tRet 2,
  tCall 1 "delete c.sources",              -- xwRH → … : Act.delReg; k + 1
  tRet 0]

/-- ControllerEngine.GetCached / GetUncached: plain getters (the collector lists through GetCached) -/
def flowGetter : List Tok := [tRet 0]

/-- ControllerEngine.GarbageCollectCustomResourceInformers: the production caller of
RemoveInformer. The DeleteFunc closure is the model's `Op.removeInformer g` thread, one per
served version of the deleted CRD (the loop continues after a failing removal). -/
def flowGCInformers : List Tok := [
  tCall 0 "infs.GetInformer",              -- – the CRD informer (not one of the watched kinds)
  tIf 0 "err != nil",
  tRet 1,
  tFunc 0,                                 -- DeleteFunc: runs on the informer's goroutine, under no engine lock
  tIf 1 "ok",
  tIf 1 "!ok",
  tRet 2,
  tFor 1 "range crd.Spec.Versions",        -- one `Op.removeInformer g` per version
  tCall 2 "u.SetGroupVersionKind",
  tCall 2 "infs.RemoveInformer",           -- idle → done : Act.rmInformer g (parking point RI)
  tIf 2 "err != nil",
  tCont 3 1,
  tCall 0 "i.AddEventHandler",
  tIf 0 "err != nil",
  tRet 1,
  tFunc 0,
  tCall 1 "ctx.Done",
  tCall 1 "i.RemoveEventHandler",
  tIf 1 "err != nil",
  tRet 0]

/-- StoppableSource.Start -/
def flowSourceStart : List Tok := [
  tCall 0 "infs.GetInformer",              -- swGI → swAH : Act.getInformer (parking point GI)
  tIf 0 "err != nil",                      -- swGI, ch.fault → relC .err
  tRet 1,
  tCall 0 "NewEventHandler",               -- – wraps handler and predicates
  tCall 0 "NewEventHandler.HandlerFuncs",
  tCall 0 "i.AddEventHandler",             -- swAH (parking point AH); fails on a stopped informer
  tIf 0 "err != nil",                      -- swAH, ch.fault ∨ informer gone → relC .err
  tRet 1,
  tSet 0 "reg",                            -- swAH : Act.addReg (the registration id is the source)
  tRet 0]

def skipSourceStart : List String := ["NewEventHandler", "NewEventHandler.HandlerFuncs"]  -- pure wrappers

/-- StoppableSource.Stop -/
def flowSourceStop : List Tok := [
  tIf 0 "s.reg == nil",                    -- – never true for a recorded source (only a started source is recorded, a stopped one is deleted)
  tRet 1,
  tCall 0 "infs.GetInformer",              -- spGI → spRH / xwGI → xwRH : Act.getInformer (parking point GI)
  tIf 0 "err != nil",                      -- ch.fault → relCE / relC
  tRet 1,
  tCall 0 "i.RemoveEventHandler",          -- spRH / xwRH (parking point RH)
  tIf 0 "err != nil",
  tRet 1,
  tSet 0 "reg",                            -- Act.delReg
  tRet 0]

/-- GarbageCollector.GarbageCollectWatchesNow -/
def flowGCNow : List Tok := [
  tCall 0 "engine.GetCached",              -- idle (op gc): the cached client …
  tCall 0 "engine.GetCached.List",         -- … lists the XRs (parking point LS, fault point); → gc1 (refsOf xrs) / done .err
  tIf 0 "err != nil",
  tRet 1,
  tFor 0 "range l.Items",                  -- refsOf: every XR that exists, whatever its state
  tCall 1 "xr.GetResourceReferences",
  tFor 1 "range xr.GetResourceReferences()",
  tCall 2 "schema.FromAPIVersionAndKind",  --   a reference with an empty kind / apiVersion names no watched kind (`none`)
  tSet 2 "used[]",
  tCall 0 "engine.GetWatches",             -- gc1 → gcLU → gcCR → gcCRrel
  tIf 0 "err != nil",                      -- gcLU none → done .err
  tRet 1,
  tFor 0 "range running",                  -- gcStop
  tIf 1 "wid.Type != engine.WatchTypeComposedResource",   --   cfg.fixD3: decide (w.ty = .composed)
  tCont 2 0,
  tIf 1 "!used[wid]",                      --   !refs.contains w.gvk
  tIf 0 "len(stop) == 0",                  -- gcCRrel, gcStop = [] → done .ok
  tRet 1,
  tCall 0 "engine.StopWatches",            -- gcCRrel → xw0 (ch.perm: GetWatches' map order)
  tRet 0]

def skipGCNow : List String :=
  ["xr.GetResourceReferences", "schema.FromAPIVersionAndKind", "set used[]"]   -- `refsOf`, computed in the List step

/-- GarbageCollector.GarbageCollectWatches: the ticker loop; every tick is one `Op.gc` thread -/
def flowGCLoop : List Tok := [
  tDefer 0 "t.Stop",
  tFor 0 "",
  tCall 1 "ctx.Done",
  tCase 1,
  tRet 2,
  tCase 1,
  tCall 2 "GarbageCollectWatchesNow",
  tIf 2 "err != nil"]

/-! ### the anchored callers

What the definition, offered and composite reconcilers hand to the engine (source text of the
calls, regenerated). The model's scenarios rest on exactly these facts:
  * a controller's CompositeResource and CompositionRevision watches are started by the definition
    reconciler (Claim and CompositeResource watches of the claim controller by the offered
    reconciler), under the SAME name it starts the controller and builds its collector with;
  * the collector of controller `name` lists XRs of that XRD's composite kind (`xrGVK`): `Op.gc n xrs`
    carries the XRs of controller n's own kind;
  * the XR reconciler starts ComposedResource watches only, one per resource reference of the XR it
    reconciles, under its own controller name: the kinds the collector may stop are kinds some XR
    referenced. -/

def callsDefinition : List String := [
  "r.engine.Stop(ctx, composite.ControllerName(d.GetName()))",                -- XRD deleted: Op.stop n
  "o.SetGroupVersionKind(d.GetCompositeGroupVersionKind())",
  "l.SetGroupVersionKind(d.GetCompositeGroupVersionKind())",
  "r.engine.Stop(ctx, composite.ControllerName(d.GetName()))",                -- … after its CRD is gone
  "r.engine.Stop(ctx, composite.ControllerName(d.GetName()))",                -- referenceable version changed
  "r.engine.IsRunning(composite.ControllerName(d.GetName()))",                -- Op.isRunning n
  "xrGVK := d.GetCompositeGroupVersionKind()",
  "name := composite.ControllerName(d.GetName())",
  "watch.NewGarbageCollector(name, resource.CompositeKind(xrGVK), r.engine, watch.WithLogger(log))",   -- the collector of n lists n's XRs
  "r.engine.Start(name, co...)",                                              -- Op.start n
  "xr.SetGroupVersionKind(xrGVK)",
  "r.engine.StartWatches(name, engine.WatchFor(xr, engine.WatchTypeCompositeResource, &handler.EnqueueRequestForObject{}), engine.WatchFor(&v1.CompositionRevision{}, engine.WatchTypeCompositionRevision, crh))"]   -- Op.startWatches n [⟨.xr, _⟩, ⟨.rev, _⟩]

def callsDefinitionOptions : List String := [
  "composite.WithWatchStarter(composite.ControllerName(d.GetName()), h, r.engine)"]   -- the XR reconciler starts watches under the controller's own name

def callsOffered : List String := [
  "r.engine.Stop(ctx, claim.ControllerName(d.GetName()))",
  "l.SetGroupVersionKind(d.GetClaimGroupVersionKind())",
  "r.engine.Stop(ctx, claim.ControllerName(d.GetName()))",
  "r.engine.Stop(ctx, claim.ControllerName(d.GetName()))",
  "r.engine.IsRunning(claim.ControllerName(d.GetName()))",
  "r.engine.Start(claim.ControllerName(d.GetName()), engine.WithRuntimeOptions(ko))",   -- no collector for claim controllers
  "cm.SetGroupVersionKind(d.GetClaimGroupVersionKind())",
  "xr.SetGroupVersionKind(d.GetCompositeGroupVersionKind())",
  "r.engine.StartWatches(claim.ControllerName(d.GetName()), engine.WatchFor(cm, engine.WatchTypeClaim, &handler.EnqueueRequestForObject{}), engine.WatchFor(xr, engine.WatchTypeCompositeResource, &EnqueueRequestForClaim{}))"]   -- Op.startWatches n [⟨.claim, _⟩, ⟨.xr, _⟩]

def callsComposite : List String := [
  "xr.GetResourceReferences()",
  "xr.GetResourceReferences()",
  "engine.WatchFor(composed.New(composed.FromReference(ref)), engine.WatchTypeComposedResource, r.watchHandler)",   -- ⟨.composed, kind of the reference⟩
  "r.engine.StartWatches(r.controllerName, ws...)"]                            -- Op.startWatches n (composed watches only)

/-! ### schedules used by the `trace_…` theorems -/

def solo (i k : Nat) (ch : Choice := {}) : List (Nat × Choice) := List.replicate k (i, ch)

end Xp.C13
