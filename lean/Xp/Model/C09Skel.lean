import Xp.Model.C09
import Xp.Model.C09World
/-
C09: the call skeletons the model's definitions mirror, one entry per call (or `return`) of the
Go function in source order, each with the model step that mirrors it. Props/C09.lean states
that each list equals the one regenerated from the current tree (Xp.Gen.c09Skel…): inserting,
removing or reordering a call / an early exit in one of these functions breaks an obligation
before any scenario is run.
-/
namespace Xp.C09

/-- composite/api.go NewAPIFilteredSecretPublisher: the publisher merges (JSON merge patch) -/
def skelNewPublisher : List String := ["resource.NewAPIPatchingApplicator"]   -- `mergeData` in publish / publishA

/-- claim/connection.go NewAPIConnectionPropagator: the propagator replaces (Update) -/
def skelNewPropagator : List String := ["resource.NewAPIUpdatingApplicator"]  -- `fs.data` stored as it is in propagate / propagateA

/-- crossplane-runtime APIPatchingApplicator.Apply, as compiled into the harness: the two API
calls of `publishA` -/
def skelPatchingApply : List String :=
  ["client.Create",       -- not modelled: only for an object with generateName and no name (a secret reference has a name)
   "client.Get",          -- publishA: API call 0 (`faultAt f 0`; `slot` is its answer)
   "kerrors.IsNotFound",  -- publishA: `x.cls = .notFound` / `slot = none`
   "client.Create",       -- publishA: `writeOut f 1 d` on an absent secret (refused with AlreadyExists when the Get was a cache miss: `.fail 1`)
   "client.Patch"]        -- publishA: `writeOut f 1 (mergeData s.data d)` after the apply options

/-- crossplane-runtime APIUpdatingApplicator.Apply: the calls 1 and 2 of `propagateA` -/
def skelUpdatingApply : List String :=
  ["client.Create",         -- not modelled: generateName only
   "client.Get",            -- propagateA: API call 1 (`faultAt e.fault 1`; `dst` is its answer)
   "kerrors.IsNotFound",    -- propagateA: `x.cls = .notFound` / `dst = none`
   "client.Create",         -- propagateA: `writeOut e.fault 2 fs.data` on an absent secret
   "m.SetResourceVersion",  -- propagateA: `e.swap` ⇒ `.fail 1` (the Update carries the version read by the Get: Conflict)
   "client.Update"]         -- propagateA: `writeOut e.fault 2 fs.data`

/-- crossplane-runtime ConnectionSecretMustBeControllableBy: `controllable` / `mayControl` -/
def skelMustBeControllable : List String :=
  ["return",                    -- the ApplyOption closure
   "return",                    -- not modelled: current is not a Secret (the writers only apply Secrets)
   "metav1.GetControllerOf",    -- `s.ctrl`
   "return",                    -- `.none | .xrPlain => s.conn` = false: uncontrolled secret of another type
   "return",                    -- `.none | .xrPlain => s.conn` = true
   "return",                    -- `c => c = me` = false
   "return"]                    -- `c => c = me` = true

/-- APIFilteredSecretPublisher.PublishConnection: `publish` / `publishE` / `publishA` -/
def skelPublish : List String :=
  ["o.GetWriteConnectionSecretToReference",            -- `if !wants`
   "return",                                           -- `.nop`
   "resource.ConnectionSecretFor",                     -- `written me d`: connection type, controller reference of the writer; data `desiredData filter details`
   "client.Apply",                                     -- skelPatchingApply: calls 0 and 1 of `publishA`
   "resource.ConnectionSecretMustBeControllableBy",    -- `controllable s .owner` ⇒ else `.fail 0`
   "o.GetUID",                                         -- `.owner` = the writer `me` of `dstView me`
   "resource.AllowUpdateIf",                           -- `needsUpdate s.data d` ⇒ else `.nop`
   "bytes.Equal",                                      -- `dget cur kv.1 ≠ some kv.2`
   "return",                                           -- some published key is missing or different
   "return",                                           -- every published key is stored with that value
   "resource.IsNotAllowed",                            -- `.nop` (published = false, err = false)
   "return",
   "return",                                           -- `.fail _`
   "return"]                                           -- `writeOut` without a fault: published

/-- APIFilteredSecretPublisher.UnpublishConnection: no call at all — the XR's secret is left to
Kubernetes garbage collection; not a step of the model (no operation of `Op` deletes) -/
def skelUnpublish : List String := ["return"]

/-- APIConnectionPropagator.PropagateConnection: `propagate` / `propagateE` / `propagateA` -/
def skelPropagate : List String :=
  ["from.GetWriteConnectionSecretToReference",         -- `!fromWants`
   "to.GetWriteConnectionSecretToReference",           -- `!toWants`
   "return",                                           -- `.nop`
   "from.GetWriteConnectionSecretToReference",         -- the source key `xref` of `Op.prop` (namespace)
   "from.GetWriteConnectionSecretToReference",         -- … (name)
   "client.Get",                                       -- API call 0: `faultAt e.fault 0`, `src`
   "return",                                           -- `.fail 0`: any error reading the XR's secret is final
   "metav1.GetControllerOf",                           -- `fs.ctrl` (`srcView xr`)
   "from.GetUID",                                      -- `fs.ctrl ≠ .xr`
   "return",                                           -- `.fail 0`: not controlled by the bound XR
   "resource.LocalConnectionSecretFor",                -- `written me fs.data`, key `(cns, cref)`
   "client.Apply",                                     -- skelUpdatingApply: calls 1 and 2
   "resource.ConnectionSecretMustBeControllableBy",    -- `controllable d .owner` ⇒ else `.fail 0`
   "to.GetUID",
   "resource.AllowUpdateIf",                           -- `dataEq d.data fs.data` ⇒ `.nop`
   "return",
   "cmp.Equal",                                        -- `dataEq`
   "cmpopts.EquateEmpty",                              -- absent = empty map: `dataEq [] []`
   "resource.IsNotAllowed",                            -- `.nop`
   "return",
   "return",                                           -- `.fail _`
   "return"]                                           -- `writeOut`: published
-- NOT among the calls: GetConnectionDetailsLastPublishedTime of either side. `propagateA` has no
-- time argument: whatever the claim and the XR record about earlier propagations, the two
-- secrets are compared.

/-- claim NopConnectionUnpublisher.UnpublishConnection: `claimRec` on a deleted claim leaves
every secret as it is -/
def skelClaimNopUnpublish : List String := ["return"]

/-- ConnectionDetailsFetcherChain.FetchConnection (wired only under the external secret store
feature flag; the model has the single secret fetcher): the union of the fetchers' answers,
the first error is final -/
def skelFetchChain : List String :=
  ["p.FetchConnection",   -- `fetchA` for the one SecretConnectionDetailsFetcher
   "return",              -- error ⇒ none
   "return"]

/-- SecretConnectionDetailsFetcher.FetchConnection: `fetchA` -/
def skelFetchSecret : List String :=
  ["o.GetWriteConnectionSecretToReference",   -- `ref = none`
   "return",                                  -- `some []` (no details, no error)
   "client.Get",                              -- `wget w k`
   "client.IgnoreNotFound",                   -- `.notFound ⇒ some []`, other classes ⇒ `none`
   "return",
   "return"]                                  -- the secret's data

/-- ExtractConnectionDetails: `extract` -/
def skelExtract : List String :=
  ["return", "errors.Errorf",   -- `c.name = ""` ⇒ none
   "return", "errors.Errorf",   -- FromValue, `c.value = none` ⇒ none
   "return", "errors.Errorf",   -- FromConnectionSecretKey, `c.key = none` ⇒ none
   "return", "errors.Errorf",   -- FromFieldPath, `c.path = none` ⇒ none
   "fromFieldPath",             -- `fromFieldPath (valueAt p)`; an error ⇒ the detail is skipped
   "return"]                    -- `some acc`

/-- fromFieldPath: `fromFieldPath` over the value the path designates (`FVal`) -/
def skelFromFieldPath : List String :=
  ["runtime.DefaultUnstructuredConverter.ToUnstructured",   -- not modelled: a composed resource is unstructured already
   "return",
   "fieldpath.Pave.GetString", "fieldpath.Pave",            -- `.str s ⇒ some s`
   "return",
   "fieldpath.Pave.GetValue", "fieldpath.Pave",             -- `none ⇒ none` (no such field / malformed path)
   "return",
   "return", "json.Marshal"]                                -- any other value `v` ⇒ `some (marshal v)`

/-- ExtractConfigsFromComposedTemplate: `tmplCfg` (name defaulting) -/
def skelExtractConfigs : List String :=
  ["return",                 -- nil template: no configs
   "connectionDetailType",   -- `tmplCfg`: `ty`
   "return"]

/-- connectionDetailType: `tmplCfg`'s `ty` -/
def skelDetailType : List String :=
  ["return", "ConnectionDetailType",   -- `c.type ≠ ""`
   "return",                           -- value set ⇒ FromValue
   "return",                           -- key set ⇒ FromConnectionSecretKey
   "return",                           -- path set ⇒ FromFieldPath
   "return"]                           -- nothing set ⇒ FromConnectionSecretKey

/-- PTComposer.Compose, the calls on the connection-detail path: `flowDetails false` -/
def skelPTCompose : List String :=
  ["resource.MustBeControllableBy",          -- `ts.any (·.ctrl = .other)` ⇒ none (the Apply below fails)
   "client.Apply",                           -- the composed resources (C01's subject)
   "composed.FetchConnection",               -- `t.secret` / `t.fetchErr` (`fetchA`)
   "composed.ExtractConnection",             -- `extract`
   "ExtractConfigsFromComposedTemplate",     -- `t.cfgs.map tmplCfg`
   "client.Apply"]                           -- the XR (C01's subject)

/-- ExistingComposedResourceObserver.ObserveComposedResources: `flowDetails true`'s filter -/
def skelFnObserve : List String :=
  ["cached.Get", "uncached.Get",        -- not modelled here: the referenced resources exist (C01's subject)
   "metav1.GetControllerOf",            -- `ts.filter (·.ctrl ≠ .other)`
   "xr.GetUID",
   "details.FetchConnection"]           -- `t.secret` / `t.fetchErr` (`fetchA`)

/-- FunctionComposer.Compose, the calls on the connection-detail path -/
def skelFnCompose : List String :=
  ["composite.ObserveComposedResources",   -- skelFnObserve
   "composite.FetchConnection",            -- the XR's own secret: `ownErr` of the driver (an error fails the reconcile before the pipeline)
   "AsState",                              -- the observed details handed to the pipeline
   "pipeline.RunFunction"]                 -- oracle: a harness function copying the observed details like function-patch-and-transform (`foldDetails`)

/-- composite Reconciler.Reconcile, the connection-detail calls: `flowStep` -/
def skelXRReconcile : List String :=
  ["composite.UnpublishConnection",               -- deleted XR: skelUnpublish (no call); not a step of the model
   "resource.Compose",                            -- `flowDetails`
   "composite.PublishConnection",                 -- `stepW filter e w (.pub me ref d)`
   "xr.SetConnectionDetailsLastPublishedTime"]    -- when `published`; an input of nothing in the model (skelPropagate)

/-- claim Reconciler.Reconcile, the connection-detail calls: `claimRec` -/
def skelClaimReconcile : List String :=
  ["claim.UnpublishConnection",                   -- `c.deleted` ⇒ the world stays as it is (skelClaimNopUnpublish)
   "claim.RemoveFinalizer",
   "resource.IsConditionTrue",                    -- `!x.ready` ⇒ nothing is propagated
   "composite.PropagateConnection",               -- `stepW _ e w (.prop …)`
   "cm.SetConnectionDetailsLastPublishedTime"]    -- `ClaimOut.stamped` = `out.published`

/-- definition Reconciler.CompositeReconcilerOptions: ONE filtered publisher built from the XRD's
connectionSecretKeys and ONE secret fetcher by default; the external secret store publisher /
fetcher chain / configurator are added only under features.EnableAlphaExternalSecretStores
(off by default; not modelled) -/
def skelWiring : List String :=
  ["composite.WithConnectionPublishers", "composite.NewAPIFilteredSecretPublisher", "d.GetConnectionSecretKeys",   -- `filter` of stepW / flowStep
   "composite.NewSecretConnectionDetailsFetcher",                                                                  -- `fetchA`
   "options.Features.Enabled",                                                                                     -- EnableAlphaExternalSecretStores: not modelled from here …
   "composite.NewAPIFilteredSecretPublisher", "d.GetConnectionSecretKeys",
   "composite.NewSecretStoreConnectionPublisher", "connection.NewDetailsManager", "d.GetConnectionSecretKeys",
   "composite.NewSecretConnectionDetailsFetcher", "connection.NewDetailsManager",
   "composite.NewSecretStoreConnectionDetailsConfigurator",
   "composite.WithConnectionPublishers",                                                                           -- … to here
   "composite.WithComposedConnectionDetailsFetcher",                                                               -- P&T composer: the same fetcher
   "composite.NewExistingComposedResourceObserver",                                                                -- function composer's observer: the same fetcher
   "composite.WithCompositeConnectionDetailsFetcher",
   "options.Features.Enabled"]                                                                                     -- realtime compositions: not C09's subject

/-- what claim.NewReconciler builds when no option replaces them -/
def claimDefaultUnpublisher : String := "*claim.NopConnectionUnpublisher"
def claimDefaultPropagator : String := "*claim.APIConnectionPropagator"

end Xp.C09
