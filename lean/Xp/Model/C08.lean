import Xp.Base.Prog
import Xp.Gen.C08Consts
/-
C08 model: the deletion (`meta.WasDeleted`) branches of

  internal/controller/apiextensions/claim/reconciler.go        (claimRec)
  internal/controller/apiextensions/composite/reconciler.go    (xrRec)
  internal/controller/apiextensions/definition/reconciler.go   (definedRec)
  internal/controller/apiextensions/offered/reconciler.go      (offeredRec)
  internal/controller/pkg/revision/{reconciler,dependency}.go  (revRec)
  internal/controller/apiextensions/usage/reconciler.go        (usageRec)

call by call as `Xp.Prog` programs over an abstract API server (objects with
finalizers, deletionTimestamp, resourceVersion, owner references) plus the
controller engine reduced to its set of running controllers, and a small-step
system (`Sys`) in which any in-flight reconcile may take its next API call with
any fault outcome, interleaved with user deletions, Kubernetes garbage
collection steps and third-party finalizer removals.

Modelling decisions (see props/C08.json):
* `client.Update(obj)` of an object the reconcile read earlier is modelled as
  "resourceVersion precondition + the delta the code applied" (`removeFin`,
  `lockRemove`, `unlabel`, `setStatus`); the equivalence with a full replace relies
  on resourceVersion determining the content, which the correspondence checks.
* Only the deletion branches are programs (call by call); a program that reads a live
  object returns `Res.oos`.  Of the LIVE branches the model keeps the writes that create or
  re-create something, as atomic steps with the reads folded in (`Live`, `liveStep`,
  `liveActs`: one whole fault-free live reconcile per controller), and `Act.create` stands
  for whatever a user may create.  The `trace_*` theorems quantify over creation-free
  schedules (`NoCreate`), the `trace_*_all` theorems over ALL schedules that stay outside
  the windows (`Calm`, further down in this file); field sync (C07) and binding (C06) beyond
  "the XR exists and is bound" are absent.
* Status conditions are abstract tokens; they matter only because a changed
  status bumps the resourceVersion.
* Third parties also EDIT objects (`Act.edit`: a claim's delete policy or XR reference, an
  XR's claim reference, a Usage's composite label or using resource): the in-flight
  reconciles then hold stale copies and their writes are rejected by the resourceVersion
  precondition.  The state-based constraint of a finalizer removal is therefore stated for
  the moment the removal is APPLIED (stored resourceVersion = the request's).
* Reads through an informer cache may LAG (`Act.lagStep`): the reply is computed from any
  store the run has been in (`Sys.past`).  A cache that is older than the initial store
  (an object "not yet in the cache") is the same thing as a creation step and is excluded
  with it (`NoCreate`), see the witnesses in Props.
-/
namespace Xp.C08

inductive Kind where
  | claim | xr | xrd | crd | rev | lock | usage | res
  /-- `res2`: the same Kind as `res` in another API group; `res3`: another Kind of the same
  group (objects of the three kinds may share a name) -/
  | res2 | res3
  deriving DecidableEq, Repr, Inhabited

structure Key where
  kind : Kind
  name : String
  deriving DecidableEq, Repr, Inhabited

structure ORef where
  uid : Nat
  ctrl : Bool
  block : Bool
  deriving DecidableEq, Repr

/-- One API object, reduced to what the teardown logic reads or writes.
`ref`: claim → name of its XR (`spec.resourceRef`), XR → "ns/name" of the claim it is
bound to (`spec.claimRef`), XRD → name of the composite CRD, usage → name of the
*using* resource (`spec.by`).  `of`: XRD → name of the claim CRD, usage → name of the
*used* resource.  `flag`: claim → `compositeDeletePolicy = Foreground`, usage → carries
the `crossplane.io/composite` label.  `inuse`: the `crossplane.io/in-use` label. -/
structure Obj where
  key : Key
  uid : Nat
  rv : Nat
  fins : List String
  del : Bool
  owners : List ORef
  conds : List (String × String)
  paused : Bool
  ref : String
  of : String
  flag : Bool
  inuse : Bool
  pkgs : List String
  /-- package revision: `spec.desiredState = Inactive` -/
  inactive : Bool := false
  /-- package revision: `spec.skipDependencyResolution = true` -/
  skipDeps : Bool := false
  /-- usage: (apiVersion, kind) of the using resource `spec.by` -/
  refKind : Kind := .res
  /-- usage: (apiVersion, kind) of the used resource `spec.of` -/
  ofKind : Kind := .res
  /-- XR: the claim whose `Sync` last wrote its labels / spec / claimRef ("" = never synced):
  a `Sync` by the same claim that finds its claimRef intact changes nothing (no Update) -/
  synced : String := ""
  /-- claim: how `spec.resourceRef.apiVersion` / `kind` relate to the XR kind the claim
  controller was started for: "" = the same, "old" = another VERSION of that kind (the XRD's
  referenceable version changed since the reference was written), "other" = another group /
  kind.  The claim reconciler looks its XR up BY NAME: nothing below reads this field. -/
  refVer : String := ""
  /-- usage: `spec.by` names the using resource by a `resourceSelector` that has NOT been
  resolved (no `resourceRef` yet); its labels select the resource `ref` of kind `refKind` -/
  sel : Bool := false
  deriving DecidableEq, Repr

structure St where
  objs : List Obj
  nextRv : Nat
  running : List String
  deriving Repr

/-! ### object store primitives -/

def find (s : St) (k : Key) : Option Obj := s.objs.find? (fun o => o.key = k)

def put (s : St) (o : Obj) : St :=
  { s with objs := s.objs.map (fun x => if x.key = o.key then o else x) }

def erase (s : St) (k : Key) : St :=
  { s with objs := s.objs.filter (fun o => o.key ≠ k) }

def fgFin : String := "foregroundDeletion"

/-- simstore `commit` + `finalizeIfDone`: a write that changes nothing is a no-op (no
resourceVersion bump); otherwise the object gets a fresh resourceVersion and, if it
is terminating and has no finalizer left, disappears. Returns the object as stored
(or as it was when it disappeared). -/
def commit (s : St) (o o' : Obj) : St × Obj :=
  if o' = o then (s, o) else
    let o'' := { o' with rv := s.nextRv }
    let s' := { s with nextRv := s.nextRv + 1 }
    if o''.del && o''.fins.isEmpty then (erase s' o.key, o'') else (put s' o'', o'')

/-- `Delete` of one stored object (no preconditions) whose finalizers will be `fins`.
Deleting an object that is already terminating changes nothing (and keeps the
resourceVersion) unless a finalizer is added. -/
def deleteWith (s : St) (o : Obj) (fins : List String) : St :=
  if fins.isEmpty then erase s o.key
  else if o.del && fins == o.fins then s
  else put { s with nextRv := s.nextRv + 1 } { o with fins := fins, del := true, rv := s.nextRv }

/-- Foreground adds the `foregroundDeletion` finalizer. -/
def deleteObj (s : St) (o : Obj) (fg : Bool) : St :=
  deleteWith s o (if fg && !o.fins.contains fgFin then o.fins ++ [fgFin] else o.fins)

def deleteKey (s : St) (k : Key) (fg : Bool) : St :=
  match find s k with
  | none => s
  | some o => deleteObj s o fg

/-- insertion sort by name (structural, so that concrete runs reduce in the kernel) -/
def insertByName (o : Obj) : List Obj → List Obj
  | [] => [o]
  | x :: xs => if o.key.name ≤ x.key.name then o :: x :: xs else x :: insertByName o xs

def sortByName : List Obj → List Obj
  | [] => []
  | x :: xs => insertByName x (sortByName xs)

/-- `List` of one kind: the server returns the items ordered by (namespace, name) -/
def ofKind (s : St) (kd : Kind) : List Obj :=
  sortByName (s.objs.filter (fun o => o.key.kind = kd))

def Obj.controlledBy (o : Obj) (uid : Nat) : Bool := o.owners.any (fun r => r.ctrl && r.uid == uid)

/-! ### requests -/

inductive Req where
  | get (k : Key)
  | list (kd : Kind)
  | listUsagesOf (kd : Kind) (n : String)
  /-- `apiSelectorResolver.resolveSelector`: List of kind `kd` by the labels that select `n` -/
  | listSel (kd : Kind) (n : String)
  | setStatus (k : Key) (rv : Nat) (conds : List (String × String))
  | removeFin (k : Key) (rv : Nat) (fin : String)
  | delete (k : Key) (fg : Bool)
  | deleteAll (kd : Kind)
  | lockRemove (rv : Nat) (pkg : String)
  | unlabel (k : Key) (rv : Nat)
  | stop (ctrl : String)
  | cacheDelete (n : String)
  deriving DecidableEq, Repr

inductive Resp where
  | ok
  | obj (o : Obj)
  | list (l : List Obj)
  | notFound
  | conflict
  | err
  deriving DecidableEq, Repr

def lockKey : Key := ⟨.lock, Xp.Gen.c08LockName⟩

/-- a resourceVersion-guarded modification of one object -/
def withObj (s : St) (k : Key) (rv : Nat) (f : Obj → Obj) : St × Resp :=
  match find s k with
  | none => (s, .notFound)
  | some o =>
    if o.rv ≠ rv then (s, .conflict)
    else let r := commit s o (f o); (r.1, .obj r.2)

def exec (s : St) : Req → St × Resp
  | .get k => (s, match find s k with | some o => .obj o | none => .notFound)
  | .list kd => (s, .list (ofKind s kd))
  | .listUsagesOf kd n => (s, .list ((ofKind s .usage).filter (fun u => u.of = n ∧ u.ofKind = kd)))
  | .listSel kd n => (s, .list ((ofKind s kd).filter (fun o => o.key.name = n)))
  | .setStatus k rv conds => withObj s k rv (fun o => { o with conds := conds })
  | .removeFin k rv fin => withObj s k rv (fun o => { o with fins := o.fins.filter (· ≠ fin) })
  | .delete k fg =>
    match find s k with
    | none => (s, .notFound)
    | some o => (deleteObj s o fg, .ok)
  | .deleteAll kd => ((ofKind s kd).foldl (fun acc o => deleteKey acc o.key false) s, .ok)
  | .lockRemove rv pkg => withObj s lockKey rv (fun o => { o with pkgs := o.pkgs.filter (· ≠ pkg) })
  | .unlabel k rv => withObj s k rv (fun o => { o with inuse := false })
  | .stop c => ({ s with running := s.running.filter (· ≠ c) }, .ok)
  | .cacheDelete _ => (s, .ok)

def Req.isWrite : Req → Bool
  | .get _ | .list _ | .listUsagesOf _ _ | .listSel _ _ | .stop _ | .cacheDelete _ => false
  | _ => true

/-- reads: the calls an informer cache can answer -/
def Req.isRead : Req → Bool
  | .get _ | .list _ | .listUsagesOf _ _ | .listSel _ _ => true
  | _ => false

/-- reply seen by the controller when the call was not applied -/
def errResp (o : Outcome) (r : Req) : Resp :=
  match o with
  | .conflict => if r.isWrite then .conflict else .err
  | _ => .err

def sem : Sem St Req Resp := ⟨exec, errResp⟩

/-! ### environment -/

/-- one round of Kubernetes garbage collection (simstore `GCStep`) -/
def gcStep (s : St) : St :=
  let uids := s.objs.map (·.uid)
  let alive (o : Obj) : List ORef := o.owners.filter (fun r => uids.contains r.uid)
  let blocked : List Nat := ((s.objs.flatMap alive).filter (·.block)).map (·.uid)
  let orphans := s.objs.filter (fun o => !o.owners.isEmpty && (alive o).isEmpty)
  let s1 := orphans.foldl (fun acc o =>
      match find acc o.key with
      | none => acc
      | some c =>
        if !c.fins.isEmpty then
          (if c.del then acc else put { acc with nextRv := acc.nextRv + 1 } { c with del := true, rv := acc.nextRv })
        else erase acc c.key) s
  s1.objs.foldl (fun acc o =>
      match find acc o.key with
      | none => acc
      | some c =>
        if c.del && c.fins.contains fgFin && !blocked.contains c.uid then
          let c' := { c with fins := c.fins.filter (· ≠ fgFin), rv := acc.nextRv }
          let acc' := { acc with nextRv := acc.nextRv + 1 }
          if c'.fins.isEmpty then erase acc' c.key else put acc' c'
        else acc) s1

/-- a third party removes one of its finalizers -/
def envUnfin (s : St) (k : Key) (f : String) : St :=
  match find s k with
  | none => s
  | some o => (commit s o { o with fins := o.fins.filter (· ≠ f) }).1

/-- kinds whose `ref` / `flag` a third party may edit (claim: `spec.resourceRef`,
`spec.compositeDeletePolicy`; XR: `spec.claimRef`; Usage: `spec.by`, the composite label) -/
def editable : Kind → Bool
  | .claim | .xr | .usage => true
  | _ => false

inductive Edit where
  | flip
  | ref (v : String)
  deriving DecidableEq, Repr

def Edit.app (e : Edit) (o : Obj) : Obj :=
  match e with
  | .flip => { o with flag := !o.flag }
  | .ref v => { o with ref := v, refVer := "", sel := false }

/-- a third party edits an object (a changed object gets a fresh resourceVersion) -/
def envEdit (s : St) (k : Key) (e : Edit) : St :=
  if editable k.kind then
    match find s k with
    | none => s
    | some o => (commit s o (e.app o)).1
  else s

/-- the process dies: every dynamically started controller dies with it -/
def crash (s : St) : St := { s with running := [] }

/-! ### the live (not deleted) branches: the things they create

The deletion branches below are programs; of the LIVE branches of the same `Reconcile`
functions the model keeps exactly the writes that create or re-create something the
teardown order talks about (see the entries marked `live` in the declared skeletons at the
end of this file), as atomic steps that may happen at any moment (`Act.live`): an
over-approximation of the real reconciles, which issue them only after their own reads. -/

inductive Live where
  /-- `AddFinalizer` of any of the six reconcilers (an Update under the read resourceVersion) -/
  | addFin (k : Key) (fin : String)
  /-- claim `r.composite.Sync`: the claim is pointed at XR `xr`; the XR is created when it does
  not exist, bound when it is unbound -/
  | syncXR (claim : String) (xr : String)
  /-- definition / offered `r.client.Apply(crd, MustBeControllableBy(d.GetUID()))` with the
  updating applicator: the rendered CRD (sole owner reference: controller reference to the
  XRD) is created, or replaces a CRD that has no controller or is controlled by this XRD -/
  | applyCRD (xrd : String) (offered : Bool)
  /-- definition / offered `r.engine.Start` -/
  | start (xrd : String) (offered : Bool)
  /-- revision `r.lock.Resolve`: the Lock is created when it does not exist and the revision
  appended to its packages when it is not listed -/
  | lockAdd (rev : String)
  /-- Usage: owner reference to the using resource -/
  | usageOwn (u : String)
  /-- Usage: in-use label on the used resource -/
  | usageLabel (u : String)
  /-- the status update a live reconcile ends with (conditions only) -/
  | status (k : Key) (conds : List (String × String))
  deriving DecidableEq, Repr

/-- a new object enters the store under a fresh resourceVersion -/
def ins (s : St) (o : Obj) : St :=
  { s with objs := s.objs ++ [{ o with rv := s.nextRv }], nextRv := s.nextRv + 1 }

def blank (k : Key) (uid : Nat) : Obj :=
  { key := k, uid := uid, rv := 0, fins := [], del := false, owners := [], conds := [], paused := false,
    ref := "", of := "", flag := false, inuse := false, pkgs := [] }

def ctrlOf (xrd : String) (offered : Bool) : String :=
  if offered then Xp.Gen.c08ClaimControllerPrefix ++ xrd else Xp.Gen.c08CompositeControllerPrefix ++ xrd

def crdOf (d : Obj) (offered : Bool) : Key := ⟨.crd, if offered then d.of else d.ref⟩

def liveStep (s : St) : Live → St
  | .addFin k fin =>
    match find s k with
    | none => s
    | some o => if o.fins.contains fin then s else (commit s o { o with fins := o.fins ++ [fin] }).1
  | .syncXR c x =>
    match find s ⟨.claim, c⟩ with
    | none => s
    | some cm =>
      -- `cm.SetResourceReference(xr.GetReference())`: name AND current apiVersion / kind
      let s1 := (commit s cm { cm with ref := x, refVer := "" }).1
      match find s1 ⟨.xr, x⟩ with
      | some xo =>
        -- bound to another claim: the reconcile refuses; nothing to write: `AllowUpdateIf(changed)`
        if (xo.ref != "" && xo.ref != c) || (xo.ref == c && xo.synced == c) then s1
        else (commit s1 xo { xo with ref := c, synced := c }).1
      | none => ins s1 { blank ⟨.xr, x⟩ s1.nextRv with ref := c, synced := c }
  | .applyCRD xrd off =>
    match find s ⟨.xrd, xrd⟩ with
    | none => s
    | some d =>
      match find s (crdOf d off) with
      | none => ins s { blank (crdOf d off) s.nextRv with owners := [⟨d.uid, true, true⟩] }
      | some c =>
        -- the Update replaces the whole object by the rendered one: owner references AND
        -- finalizers (the rendered CRD has none); status (Established) is a subresource and stays
        match c.owners.find? (·.ctrl) with
        | none => (commit s c { c with owners := [⟨d.uid, true, true⟩], fins := [] }).1
        | some r => if r.uid = d.uid then (commit s c { c with owners := [⟨d.uid, true, true⟩], fins := [] }).1 else s
  | .start xrd off => if s.running.contains (ctrlOf xrd off) then s else { s with running := ctrlOf xrd off :: s.running }
  | .lockAdd r =>
    match find s ⟨.lock, Xp.Gen.c08LockName⟩ with
    | none => ins s { blank ⟨.lock, Xp.Gen.c08LockName⟩ s.nextRv with pkgs := [r] }
    | some l => if l.pkgs.contains r then s else (commit s l { l with pkgs := l.pkgs ++ [r] }).1
  | .usageOwn u =>
    match find s ⟨.usage, u⟩ with
    | none => s
    | some uo =>
      match find s ⟨uo.refKind, uo.ref⟩ with
      | none => s
      | some usingRes =>
        if uo.owners.any (·.uid == usingRes.uid) then s
        else (commit s uo { uo with owners := uo.owners ++ [⟨usingRes.uid, false, false⟩] }).1
  | .usageLabel u =>
    match find s ⟨.usage, u⟩ with
    | none => s
    | some uo =>
      match find s ⟨uo.ofKind, uo.of⟩ with
      | none => s
      | some used => (commit s used { used with inuse := true }).1
  | .status k conds =>
    match find s k with
    | none => s
    | some o => (commit s o { o with conds := conds }).1

/-- what a creating step brings into the world -/
inductive Birth where
  /-- an object appears under this key -/
  | obj (k : Key)
  /-- the owner references of this object are replaced / extended -/
  | owners (k : Key)
  /-- this controller is started -/
  | start (c : String)
  /-- this package is added to the Lock -/
  | lock (p : String)
  deriving DecidableEq, Repr

def Live.births (s : St) : Live → List Birth
  | .addFin _ _ => []
  | .syncXR _ x => [.obj ⟨.xr, x⟩]
  | .applyCRD xrd off =>
    match find s ⟨.xrd, xrd⟩ with
    | none => []
    | some d => [.obj (crdOf d off), .owners (crdOf d off)]
  | .start xrd off => [.start (ctrlOf xrd off)]
  | .lockAdd r => [.obj ⟨.lock, Xp.Gen.c08LockName⟩, .lock r]
  | .usageOwn u => [.owners ⟨.usage, u⟩]
  | .usageLabel _ => []
  | .status _ _ => []

/-! ### the reconcilers -/

inductive Res where
  | ok | requeue | err | oos | crashed
  deriving DecidableEq, Repr

abbrev P := Prog Req Resp Res

def setCond (cs : List (String × String)) (t v : String) : List (String × String) :=
  if cs.any (fun c => c.1 = t) then cs.map (fun c => if c.1 = t then (t, v) else c) else cs ++ [(t, v)]

def Obj.cond (o : Obj) (t v : String) : Obj := { o with conds := setCond o.conds t v }

def Resp.cls : Resp → String
  | .notFound => "notFound"
  | .conflict => "conflict"
  | _ => "other"

/-- `return reconcile.Result{…}, errors.Wrap(r.client.Status().Update(ctx, o), …)`;
`k` is the key the reconcile was asked for (the object it fetched by that name). -/
def statusThen (k : Key) (o : Obj) (r : Res) : P :=
  .call (.setStatus k o.rv o.conds) fun
    | .obj _ => .ret r
    | _ => .ret .err

open Xp.Gen

/-- claim: UnpublishConnection (no-op), RemoveFinalizer, final status update -/
def claimFinalize (k : Key) (cm : Obj) : P :=
  if cm.fins.contains c08ClaimFinalizer then
    .call (.removeFin k cm.rv c08ClaimFinalizer) fun
      -- `cm.SetConditions(xpv1.Deleting(), xpv1.ReconcileSuccess())`: the Update replaced the
      -- in-memory copy, Deleting is set again (fix f96c12b)
      | .obj cm' => statusThen k ((cm'.cond "Ready" "Deleting").cond "Synced" "Success") .ok
      | .notFound => statusThen k ((cm.cond "Ready" "Deleting").cond "Synced" "Success") .ok
      | r => statusThen k (cm.cond "Synced" ("err:removeFin:" ++ r.cls)) .requeue
  else statusThen k ((cm.cond "Ready" "Deleting").cond "Synced" "Success") .ok

/-- claim: `if meta.WasDeleted(cm) { … }` -/
def claimDeleted (k : Key) (cm : Obj) (xr : Option Obj) : P :=
  let cm := cm.cond "Ready" "Deleting"
  match xr with
  | none => claimFinalize k cm
  | some x =>
    if x.del && cm.flag then statusThen k cm .requeue
    else .call (.delete ⟨.xr, cm.ref⟩ cm.flag) fun
      | .ok => if cm.flag then .ret .requeue else claimFinalize k cm
      | .notFound => if cm.flag then .ret .requeue else claimFinalize k cm
      | r => statusThen k (cm.cond "Synced" ("err:deleteXR:" ++ r.cls)) .requeue

def claimBound (k : Key) (cm : Obj) (xr : Option Obj) : P :=
  match xr with
  | some x =>
    if x.ref ≠ "" ∧ x.ref ≠ k.name then statusThen k (cm.cond "Synced" "err:unbound") .ok
    else if cm.del then claimDeleted k cm xr else .ret .oos
  | none => if cm.del then claimDeleted k cm none else .ret .oos

def claimGot (k : Key) (cm : Obj) : P :=
  if cm.paused then statusThen k (cm.cond "Synced" "Paused") .ok
  else if cm.ref = "" then claimBound k cm none
  else .call (.get ⟨.xr, cm.ref⟩) fun
    | .obj x => claimBound k cm (some x)
    | .notFound => claimBound k cm none
    | r => statusThen k (cm.cond "Synced" ("err:getXR:" ++ r.cls)) .requeue

def claimRec (n : String) : P :=
  .call (.get ⟨.claim, n⟩) fun
    | .obj cm => claimGot ⟨.claim, n⟩ cm
    | .notFound => .ret .ok
    | _ => .ret .err

/-- composite resource (XR) reconciler, deletion branch -/
def xrRec (n : String) : P :=
  let k : Key := ⟨.xr, n⟩
  .call (.get k) fun
    | .obj x =>
      if x.paused then statusThen k (x.cond "Synced" "Paused") .ok
      else if !x.del then .ret .oos
      else
        let x := x.cond "Ready" "Deleting"
        if x.fins.contains c08XRFinalizer then
          .call (.removeFin k x.rv c08XRFinalizer) fun
            -- `xr.SetConditions(xpv1.Deleting(), xpv1.ReconcileSuccess())` (fix f96c12b)
            | .obj x' => statusThen k ((x'.cond "Ready" "Deleting").cond "Synced" "Success") .ok
            | .notFound => statusThen k ((x.cond "Ready" "Deleting").cond "Synced" "Success") .ok
            | .conflict => .ret .requeue
            | r => statusThen k (x.cond "Synced" ("err:removeFin:" ++ r.cls)) .requeue
        else statusThen k ((x.cond "Ready" "Deleting").cond "Synced" "Success") .ok
    | .notFound => .ret .ok
    | _ => .ret .err

/-- XRD controllers, "CRD is gone or not ours": stop the controller, drop the finalizer.
`cur` is the XRD as returned by the status update (current resourceVersion and finalizers). -/
def xrdFinish (k : Key) (cur : Obj) (ctrl fin : String) : P :=
  .call (.stop ctrl) fun
    | .ok =>
      if cur.fins.contains fin then
        .call (.removeFin k cur.rv fin) fun
          | .obj _ => .ret .ok
          | .notFound => .ret .ok
          | .conflict => .ret .requeue
          | _ => .ret .err
      else .ret .ok
    | _ => .ret .err

/-- XRD controllers, no instance left: stop the controller, then delete the CRD -/
def xrdStopDelete (ctrl : String) (crd : Key) : P :=
  .call (.stop ctrl) fun
    | .ok => .call (.delete crd false) fun
        | .ok => .ret .requeue
        | .notFound => .ret .requeue
        | _ => .ret .err
    | _ => .ret .err

def compositeCtrl (xrd : String) : String := c08CompositeControllerPrefix ++ xrd
def claimCtrl (xrd : String) : String := c08ClaimControllerPrefix ++ xrd

/-- `definition` reconciler (composite CRD + XR controller), deletion branch. `d` is the
XRD as first read (its uid and CRD names cannot change), `d'` the copy the status update
returned. -/
def definedRec (n : String) : P :=
  let k : Key := ⟨.xrd, n⟩
  .call (.get k) fun
    | .obj d =>
      if !d.del then .ret .oos else
      .call (.setStatus k d.rv (setCond d.conds "Established" "TerminatingComposite")) fun
        | .obj d' =>
          .call (.get ⟨.crd, d.ref⟩) fun
            | .obj c =>
              if !c.controlledBy d.uid then xrdFinish k d' (compositeCtrl n) c08DefinedFinalizer
              else .call (.deleteAll .xr) fun
                | .ok => .call (.list .xr) fun
                    | .list [] => xrdStopDelete (compositeCtrl n) ⟨.crd, d.ref⟩
                    | .list _ => .ret .requeue
                    | _ => .ret .err
                | _ => .ret .err
            | .notFound => xrdFinish k d' (compositeCtrl n) c08DefinedFinalizer
            | _ => .ret .err
        | .conflict => .ret .requeue
        | _ => .ret .err
    | .notFound => .ret .ok
    | _ => .ret .err

def deleteEach : List Obj → P
  | [] => .ret .requeue
  | o :: rest => .call (.delete o.key false) fun
      | .ok => deleteEach rest
      | .notFound => deleteEach rest
      | _ => .ret .err

/-- `offered` reconciler (claim CRD + claim controller), deletion branch -/
def offeredRec (n : String) : P :=
  let k : Key := ⟨.xrd, n⟩
  .call (.get k) fun
    | .obj d =>
      if !d.del then .ret .oos else
      .call (.setStatus k d.rv (setCond d.conds "Offered" "TerminatingClaim")) fun
        | .obj d' =>
          .call (.get ⟨.crd, d.of⟩) fun
            | .obj c =>
              if !c.controlledBy d.uid then xrdFinish k d' (claimCtrl n) c08OfferedFinalizer
              else .call (.list .claim) fun
                | .list [] => xrdStopDelete (claimCtrl n) ⟨.crd, d.of⟩
                -- the items of a claim list are claims
                | .list l => deleteEach (l.filter (fun o => o.key.kind = .claim))
                | _ => .ret .err
            | .notFound => xrdFinish k d' (claimCtrl n) c08OfferedFinalizer
            | _ => .ret .err
        | .conflict => .ret .requeue
        | _ => .ret .err
    | .notFound => .ret .ok
    | _ => .ret .err

def revFinalize (k : Key) (pr : Obj) : P :=
  if pr.fins.contains c08RevisionFinalizer then
    .call (.removeFin k pr.rv c08RevisionFinalizer) fun
      | .obj _ => .ret .ok
      | .notFound => .ret .ok
      | .conflict => .ret .requeue
      | _ => .ret .err
  else .ret .ok

/-- package revision reconciler, deletion branch: cache.Delete, lock.RemoveSelf, RemoveFinalizer.
Whether the revision is in the Lock is a matter of history, not of its current spec: the
branch does NOT look at `pr.inactive` or `pr.skipDeps` (a revision marked Inactive whose
deactivation never completed, or one whose `skipDependencyResolution` was switched on after
its dependencies were resolved, is still in the Lock). -/
def revRec (n : String) : P :=
  let k : Key := ⟨.rev, n⟩
  .call (.get k) fun
    | .obj pr =>
      if pr.paused then statusThen k (pr.cond "Synced" "Paused") .ok
      else if !pr.del then .ret .oos
      else .call (.cacheDelete n) fun
        | .ok => .call (.get lockKey) fun
            | .obj l =>
              if l.pkgs.contains n then
                .call (.lockRemove l.rv n) fun
                  | .obj _ => revFinalize k pr
                  | .conflict => .ret .requeue
                  | _ => .ret .err
              else revFinalize k pr
            | .notFound => revFinalize k pr
            | _ => .ret .err
        | _ => .ret .err
    | .notFound => .ret .ok
    | _ => .ret .err

def usageFinalize (k : Key) (u : Obj) : P :=
  if u.fins.contains c08UsageFinalizer then
    .call (.removeFin k u.rv c08UsageFinalizer) fun
      | .obj _ => .ret .ok
      | .notFound => .ret .ok
      | .conflict => .ret .requeue
      | _ => .ret .err
  else .ret .ok

def usageUsed (k : Key) (u : Obj) : P :=
  .call (.get ⟨u.ofKind, u.of⟩) fun
    | .obj used => .call (.listUsagesOf u.ofKind u.of) fun
        | .list l =>
          if l.length < 2 then
            .call (.unlabel ⟨u.ofKind, u.of⟩ used.rv) fun
              | .obj _ => usageFinalize k u
              | .conflict => .ret .requeue
              | _ => .ret .err
          else usageFinalize k u
        | _ => .ret .err
    | .notFound => usageFinalize k u
    | _ => .ret .err

/-- Usage reconciler, deletion branch -/
def usageRec (n : String) : P :=
  let k : Key := ⟨.usage, n⟩
  .call (.get k) fun
    | .obj u =>
      -- `r.usage.resolveSelectors` (before the WasDeleted test): `spec.of` is always resolved
      -- here; an unresolved `spec.by` selector is resolved by a List — an error or an empty
      -- list ends the reconcile with an error, whatever the Usage's state
      if u.sel && u.ref != "" then
        .call (.listSel u.refKind u.ref) fun
          | .list [] => .ret .err
          -- resolved: the reference is persisted (Update) and the reconcile goes on with the
          -- updated copy: not modelled (`Res.oos`, see props/C08.json)
          | .list _ => .ret .oos
          | _ => .ret .err
      else if !u.del then .ret .oos
      else if u.ref ≠ "" ∧ u.flag then
        .call (.get ⟨u.refKind, u.ref⟩) fun
          | .obj _ => .ret .requeue
          | .notFound => usageUsed k u
          | _ => .ret .err
      else usageUsed k u
    | .notFound => .ret .ok
    | _ => .ret .err

inductive Ctl where
  | claim | xr | defined | offered | rev | usage
  deriving DecidableEq, Repr

def program : Ctl → String → P
  | .claim, n => claimRec n
  | .xr, n => xrRec n
  | .defined, n => definedRec n
  | .offered, n => offeredRec n
  | .rev, n => revRec n
  | .usage, n => usageRec n


/-- ONE whole fault-free reconcile of a LIVE (not deleted) object by controller `c`, as the
sequence of abstract creating steps it amounts to in store `s` (its reads folded in): the
live branches of the six `Reconcile` functions, mirrored branch by branch.  A CRD's `flag`
stands for its Established condition.  The correspondence harness runs the REAL reconcile
atomically at such a step and compares the effect (harness op `live`). -/
def liveActs (s : St) : Ctl → String → List Live
  | .claim, n =>
    let k : Key := ⟨.claim, n⟩
    match find s k with
    | none => []
    | some cm =>
      if cm.paused then [.status k (setCond cm.conds "Synced" "Paused")]
      else
        -- `meta.WasCreated(xr) && ref != nil && !cmp.Equal(cm.GetReference(), ref)`
        let unbound := match find s ⟨.xr, cm.ref⟩ with
          | some x => x.ref != "" && x.ref != n
          | none => false
        if unbound then [.status k (setCond cm.conds "Synced" "err:unbound")]
        else [.addFin k c08ClaimFinalizer, .syncXR n cm.ref,
              .status k (setCond (setCond cm.conds "Synced" "Success") "Ready" "Waiting")]
  | .xr, _ => []
  | .defined, n =>
    let k : Key := ⟨.xrd, n⟩
    match find s k with
    | none => []
    | some d =>
      [.addFin k c08DefinedFinalizer, .applyCRD n false] ++
      (match find s (crdOf d false) with
       | some c =>
         -- `MustBeControllableBy`, then `xcrd.IsEstablished`, then Start (idempotent) and status
         if (match c.owners.find? (·.ctrl) with | none => true | some r => r.uid == d.uid) && c.flag
         then [.start n false, .status k (setCond d.conds "Established" "WatchingComposite")] else []
       | none => [])
  | .offered, n =>
    let k : Key := ⟨.xrd, n⟩
    match find s k with
    | none => []
    | some d =>
      [.addFin k c08OfferedFinalizer, .applyCRD n true] ++
      (match find s (crdOf d true) with
       | some c =>
         if (match c.owners.find? (·.ctrl) with | none => true | some r => r.uid == d.uid) && c.flag
         then [.start n true, .status k (setCond d.conds "Offered" "WatchingClaim")] else []
       | none => [])
  | .rev, n =>
    -- `PackageDependencyManager.Resolve`: an Inactive revision resolves nothing
    match find s ⟨.rev, n⟩ with
    | none => []
    | some pr => if pr.inactive then [] else [.lockAdd n]
  | .usage, n =>
    let k : Key := ⟨.usage, n⟩
    match find s k with
    | none => []
    | some u =>
      if u.sel then [] else   -- selector resolution first: not mirrored (the harness never runs it)
      -- AddFinalizer, (details annotation), Get used (error ends the reconcile), label it,
      -- Get using (error ends the reconcile), owner reference, status
      .addFin k c08UsageFinalizer ::
      (match find s ⟨u.ofKind, u.of⟩ with
       | none => []
       | some _ =>
         .usageLabel n ::
         (if u.ref = "" then [.status k (setCond u.conds "Ready" "Available")]
          else match find s ⟨u.refKind, u.ref⟩ with
            | none => []
            | some _ => [.usageOwn n, .status k (setCond u.conds "Ready" "Available")]))

/-- every step of a whole live reconcile is one of the steps its controller may take -/
def Live.of (c : Ctl) (n : String) : Live → Bool
  | .addFin _ _ => true
  | .status _ _ => true
  | .syncXR m _ => c == .claim && m == n
  | .applyCRD m off => (c == .defined && !off || c == .offered && off) && m == n
  | .start m off => (c == .defined && !off || c == .offered && off) && m == n
  | .lockAdd m => c == .rev && m == n
  | .usageOwn m => c == .usage && m == n
  | .usageLabel m => c == .usage && m == n

/-! ### the interleaved system -/

/-- an in-flight reconcile: which controller and key it serves and what it has seen so
far (ghost), and what is left of it -/
structure Thread where
  ctl : Ctl
  name : String
  hist : List (Req × Resp)
  prog : P

structure Sys where
  st : St
  ths : List Thread
  /-- every store the run has been in (oldest first): what a lagging informer cache may
  still show -/
  past : List St := []
  /-- ghost: what each schedule step so far brought into the world (`births[j]` = the births
  of schedule step `j`, taken from store `past[j]`) -/
  births : List (List Birth) := []

inductive Act where
  | spawn (c : Ctl) (n : String)
  | step (i : Nat) (o : Outcome)
  | del (k : Key)
  | gc
  | unfin (k : Key) (f : String)
  /-- a third party edits an object (see `envEdit`) -/
  | edit (k : Key) (e : Edit)
  /-- reconcile `i` takes its next call; if it is a read it is answered from an informer
  cache that shows the store as it was before schedule step `j` (`past[j]`); a write goes
  to the API server (= `step i .ok`) -/
  | lagStep (i : Nat) (j : Nat)
  /-- an object appears (a user, or a reconcile outside the modelled deletion branches,
  e.g. a live claim re-creating its XR). NOT part of the alphabet the trace theorems
  quantify over; present so that the need for that restriction can be stated. -/
  | create (o : Obj)
  /-- a creating write of the live branch of one of the reconcilers (see `Live`) -/
  | live (l : Live)
  deriving Repr

def Thread.dead (t : Thread) : Thread := { t with prog := .ret .crashed }

/-- reconcile `i` (thread `t`, about to issue `r`) sees reply `x`; the store becomes `st` -/
def Sys.reply (s : Sys) (i : Nat) (t : Thread) (r : Req) (k : Resp → P) (st : St) (x : Resp) : Sys :=
  { s with st := st, ths := s.ths.set i { t with hist := t.hist ++ [(r, x)], prog := k x } }

/-- one schedule step (without the book-keeping of `past`) -/
def Sys.act1 (s : Sys) : Act → Sys
  | .spawn c n => { s with ths := s.ths ++ [⟨c, n, [], program c n⟩] }
  | .step i o =>
    match s.ths[i]? with
    | none => s
    | some t =>
      match t.prog with
      | .ret _ => s
      | .call r k =>
        match o with
        | .ok => s.reply i t r k (exec s.st r).1 (exec s.st r).2
        | .fail => s.reply i t r k s.st (errResp .fail r)
        | .conflict => s.reply i t r k s.st (errResp .conflict r)
        | .crashBefore => { s with st := crash s.st, ths := s.ths.map Thread.dead }
        | .crashAfter => { s with st := crash (exec s.st r).1, ths := s.ths.map Thread.dead }
  | .lagStep i j =>
    match s.ths[i]? with
    | none => s
    | some t =>
      match t.prog with
      | .ret _ => s
      | .call r k =>
        if r.isRead then
          match s.past[j]? with
          | some p => s.reply i t r k s.st (exec p r).2
          | none => s.reply i t r k s.st (exec s.st r).2
        else s.reply i t r k (exec s.st r).1 (exec s.st r).2
  | .del k => { s with st := deleteKey s.st k false }
  | .gc => { s with st := gcStep s.st }
  | .unfin k f => { s with st := envUnfin s.st k f }
  | .edit k e => { s with st := envEdit s.st k e }
  | .create o => if (find s.st o.key).isSome then s else { s with st := ins s.st o }
  | .live l => { s with st := liveStep s.st l }

/-- what schedule step `a`, taken in configuration `s`, brings into the world -/
def Act.births (s : Sys) : Act → List Birth
  | .create o => [.obj o.key]
  | .live l => l.births s.st
  | _ => []

/-- one schedule step; the store it started from joins `past` (so that `past[j]` is the
store just before schedule step `j`) -/
def Sys.act (s : Sys) (a : Act) : Sys :=
  { s.act1 a with past := s.past ++ [s.st], births := s.births ++ [a.births s] }

def Act.isCreate : Act → Bool
  | .create _ => true
  | .live _ => true
  | _ => false

def Sys.run (s : Sys) : List Act → Sys
  | [] => s
  | a :: rest => (s.act a).run rest

/-- the configuration reached from store `st0` with no reconcile in flight -/
def reach (st0 : St) (acts : List Act) : Sys := Sys.run { st := st0, ths := [] } acts

/-- the schedule contains no creation step: it is made of reconciles of the six modelled
deletion branches (each call with any fault outcome, each read fresh or from a lagging
cache), user deletions, third-party edits, garbage collection steps, finalizer removals
and crashes -/
def NoCreate (acts : List Act) : Prop := ∀ a ∈ acts, a.isCreate = false

/-- every stored resourceVersion was issued before the next one -/
def WF (s : St) : Prop := ∀ o ∈ s.objs, o.rv < s.nextRv

/-! ### the property as a predicate on (state, controller, request about to be applied) -/

def present (s : St) (k : Key) : Bool := (find s k).isSome

def noneOf (s : St) (kd : Kind) : Bool := s.objs.all (fun o => o.key.kind != kd)

/-- the CRD `crd` is gone or is not controlled by the object with this uid -/
def crdNotOurs (s : St) (crd : String) (uid : Nat) : Bool :=
  match find s ⟨.crd, crd⟩ with
  | none => true
  | some c => !c.controlledBy uid

/-- the XR a stored claim references is gone, or (policy not Foreground) already being deleted -/
def claimXRGone (s : St) (cm : Obj) : Bool :=
  cm.ref == "" ||
  match find s ⟨.xr, cm.ref⟩ with
  | none => true
  | some x => x.del && !cm.flag

/-- `safeReq s c n r`: request `r`, about to be applied to state `s` by a reconcile of
controller `c` for key `n`, respects the teardown order.  A finalizer removal of a claim
or Usage carries the resourceVersion `rv` it was computed from: if the stored object has
another one (a third party edited it meanwhile) the API server rejects the write and
nothing is applied. -/
def safeReq (s : St) (c : Ctl) (n : String) : Req → Bool
  | .removeFin k rv fin =>
    match c with
    | .claim => fin != c08ClaimFinalizer || (match find s k with | none => true | some cm => cm.rv != rv || claimXRGone s cm)
    | .defined => fin != c08DefinedFinalizer || (match find s k with | none => true | some d => crdNotOurs s d.ref d.uid)
    | .offered => fin != c08OfferedFinalizer || (match find s k with | none => true | some d => crdNotOurs s d.of d.uid)
    | .rev => fin != c08RevisionFinalizer || (match find s lockKey with | none => true | some l => !l.pkgs.contains k.name)
    | .usage => fin != c08UsageFinalizer ||
        (match find s k with | none => true | some u => u.rv != rv || !(u.flag && u.ref != "") || !present s ⟨u.refKind, u.ref⟩)
    | .xr => true
  | .delete k _ =>
    match c with
    | .defined => k.kind != .crd || (noneOf s .xr && !s.running.contains (compositeCtrl n))
    | .offered => k.kind != .crd || (noneOf s .claim && !s.running.contains (claimCtrl n))
    | _ => true
  | .stop _ =>
    match c with
    | .defined => (match find s ⟨.xrd, n⟩ with | none => true | some d => crdNotOurs s d.ref d.uid || noneOf s .xr)
    | .offered => (match find s ⟨.xrd, n⟩ with | none => true | some d => crdNotOurs s d.of d.uid || noneOf s .claim)
    | _ => true
  | _ => true

/-- the next request of in-flight reconcile `i` violates the ordering constraint in the
current store -/
def Sys.violatesAt (s : Sys) (i : Nat) : Bool :=
  match s.ths[i]? with
  | none => false
  | some t =>
    match t.prog with
    | .call r _ => !safeReq s.st t.ctl t.name r
    | .ret _ => false

/-! ### what one reconcile has seen: histories and the local ordering constraints -/

abbrev Hist := List (Req × Resp)

/-- every request the program issues when run under fault plan `plan` from store `s`
(with any server semantics `sm`), paired with the history of requests and replies the
reconcile had seen when it issued it -/
def issued (sm : Sem St Req Resp) (plan : Plan) : Nat → Hist → P → St → List (Hist × Req)
  | _, _, .ret _, _ => []
  | k, h, .call r c, s =>
    match plan k with
    | .ok => (h, r) :: issued sm plan (k+1) (h ++ [(r, (sm.exec s r).2)]) (c (sm.exec s r).2) (sm.exec s r).1
    | .fail => (h, r) :: issued sm plan (k+1) (h ++ [(r, sm.errResp .fail r)]) (c (sm.errResp .fail r)) s
    | .conflict => (h, r) :: issued sm plan (k+1) (h ++ [(r, sm.errResp .conflict r)]) (c (sm.errResp .conflict r)) s
    | .crashBefore => [(h, r)]
    | .crashAfter => [(h, r)]

/-- `a` occurs in `h` strictly before `b` -/
def Before (h : Hist) (a b : Req × Resp) : Prop := ∃ h1 h2 h3, h = h1 ++ a :: h2 ++ b :: h3

/-- the reconcile has seen that the XR of claim `cm` is gone: it read it as NotFound, or
(policy not Foreground) its Delete was acknowledged -/
def XRGoneSeen (h : Hist) (cm : Obj) : Prop :=
  cm.ref = "" ∨ (Req.get ⟨.xr, cm.ref⟩, Resp.notFound) ∈ h ∨
  (cm.flag = false ∧ ((Req.delete ⟨.xr, cm.ref⟩ false, Resp.ok) ∈ h ∨ (Req.delete ⟨.xr, cm.ref⟩ false, Resp.notFound) ∈ h))

/-- the reconcile has read the CRD as NotFound or as not controlled by `uid` -/
def CRDNotOursSeen (h : Hist) (crd : String) (uid : Nat) : Prop :=
  (Req.get ⟨.crd, crd⟩, Resp.notFound) ∈ h ∨ ∃ c, (Req.get ⟨.crd, crd⟩, Resp.obj c) ∈ h ∧ c.controlledBy uid = false

/-- the reconcile has seen that revision `n` is not in the Lock -/
def NotInLockSeen (h : Hist) (n : String) : Prop :=
  (Req.get lockKey, Resp.notFound) ∈ h ∨ (∃ l, (Req.get lockKey, Resp.obj l) ∈ h ∧ n ∉ l.pkgs) ∨
  ∃ rv l, (Req.lockRemove rv n, Resp.obj l) ∈ h

/-- `guardH c n h r`: what a reconcile of controller `c` for key `n` must have seen (`h`)
when it issues request `r`. -/
def guardH (c : Ctl) (n : String) (h : Hist) : Req → Prop
  | .removeFin k rv fin =>
    match c with
    | .claim => fin = c08ClaimFinalizer → k = ⟨.claim, n⟩ ∧ ∃ cm, (Req.get ⟨.claim, n⟩, Resp.obj cm) ∈ h ∧ rv = cm.rv ∧ XRGoneSeen h cm
    | .defined => fin = c08DefinedFinalizer → k = ⟨.xrd, n⟩ ∧ ∃ d, (Req.get ⟨.xrd, n⟩, Resp.obj d) ∈ h ∧ CRDNotOursSeen h d.ref d.uid
    | .offered => fin = c08OfferedFinalizer → k = ⟨.xrd, n⟩ ∧ ∃ d, (Req.get ⟨.xrd, n⟩, Resp.obj d) ∈ h ∧ CRDNotOursSeen h d.of d.uid
    | .rev => fin = c08RevisionFinalizer → k = ⟨.rev, n⟩ ∧ NotInLockSeen h n
    | .usage => fin = c08UsageFinalizer → k = ⟨.usage, n⟩ ∧ ∃ u, (Req.get ⟨.usage, n⟩, Resp.obj u) ∈ h ∧ rv = u.rv ∧
        (u.ref = "" ∨ u.flag = false ∨ (Req.get ⟨u.refKind, u.ref⟩, Resp.notFound) ∈ h)
    | .xr => True
  | .delete k _ =>
    match c with
    | .defined => k.kind = .crd →
        Before h (Req.list .xr, Resp.list []) (Req.stop (compositeCtrl n), Resp.ok)
    | .offered => k.kind = .crd →
        Before h (Req.list .claim, Resp.list []) (Req.stop (claimCtrl n), Resp.ok)
    | _ => k.kind ≠ .crd
  | .stop ctl =>
    match c with
    | .defined => ctl = compositeCtrl n ∧ ∃ d, (Req.get ⟨.xrd, n⟩, Resp.obj d) ∈ h ∧
        (CRDNotOursSeen h d.ref d.uid ∨ (Req.list .xr, Resp.list []) ∈ h)
    | .offered => ctl = claimCtrl n ∧ ∃ d, (Req.get ⟨.xrd, n⟩, Resp.obj d) ∈ h ∧
        (CRDNotOursSeen h d.of d.uid ∨ (Req.list .claim, Resp.list []) ∈ h)
    | _ => False
  | _ => True

/-- `Always φ h p`: on every path of `p` (every possible reply to every call), each
request is issued only when `φ` holds of the history so far. -/
def Always (φ : Hist → Req → Prop) : Hist → P → Prop
  | _, .ret _ => True
  | h, .call r k => φ h r ∧ ∀ x, Always φ (h ++ [(r, x)]) (k x)

/-! ### stable facts, births and the windows

What a reconcile learns from a reply (`learn`) is a `Fact` about the store.  No step of the
creation-free alphabet invalidates a fact (Xp/Proofs/C08Trace.lean); a creating step
(`Act.create`, `Act.live`) invalidates exactly the facts its births threaten
(`Birth.threatens`, Xp/Proofs/C08Live.lean).  A schedule is `Calm` when no creating step is
taken while an in-flight reconcile holds a fact it threatens, and no read is answered from a
cache older than a birth that threatens what the reply teaches: these are the windows of the
recorded findings (an XR created between the XRD reconcile's empty List and its Stop /
Delete(crd); a cache that has not seen an XR / CRD yet) and their analogues for the other
births (a controller started, a CRD adopted, a package added to the Lock behind a teardown
reconcile's back). -/

/-- the stored object `o` under key `k` is a later version of the copy `a` read earlier: it
agrees with it on the fields nothing changes, and on the editable ones (`ref`, `flag`)
if it still has the resourceVersion of the copy (or the kind is not editable) -/
structure Obj.Same (k : Key) (a o : Obj) : Prop where
  rv : a.rv ≤ o.rv
  uid : o.uid = a.uid
  of_ : o.of = a.of
  owners : o.owners = a.owners
  refKind : o.refKind = a.refKind
  ofKind : o.ofKind = a.ofKind
  same : (o.rv = a.rv ∨ editable k.kind = false) → o.ref = a.ref ∧ o.flag = a.flag

/-- facts a reconcile can learn from a reply and that no later step invalidates -/
inductive Fact where
  | gone (k : Key)
  | goneOrDel (k : Key)
  | noneOf (kd : Kind)
  | stopped (c : String)
  | immut (k : Key) (a : Obj)
  | pkgsSub (ps : List String)
  | notInLock (n : String)

def Fact.holds (s : St) : Fact → Prop
  | .gone k => find s k = none
  | .goneOrDel k => ∀ o, find s k = some o → o.del = true
  | .noneOf kd => ∀ o ∈ s.objs, o.key.kind ≠ kd
  | .stopped c => c ∉ s.running
  | .immut k a => ∀ o, find s k = some o → Obj.Same k a o
  | .pkgsSub ps => ∀ l, find s lockKey = some l → ∀ p ∈ l.pkgs, p ∈ ps
  | .notInLock n => ∀ l, find s lockKey = some l → n ∉ l.pkgs

/-- what a reply teaches -/
def learn : Req → Resp → List Fact
  | .get k, .notFound => [.gone k]
  | .get k, .obj o => .immut k o :: (if k = lockKey then [.pkgsSub o.pkgs] else [])
  | .delete k _, .ok => [.goneOrDel k]
  | .delete k _, .notFound => [.gone k]
  | .list kd, .list [] => [.noneOf kd]
  | .stop c, .ok => [.stopped c]
  | .lockRemove _ n, .obj _ => [.notInLock n]
  | _, _ => []

def facts (h : Hist) : List Fact := h.flatMap (fun p => learn p.1 p.2)


def Birth.threatens : Birth → Fact → Bool
  | .obj k, .gone k' => k = k'
  | .obj k, .goneOrDel k' => k = k'
  | .obj k, .noneOf kd => k.kind = kd
  | .obj k, .immut k' _ => k = k'
  | .obj k, .pkgsSub _ => k = lockKey
  | .obj k, .notInLock _ => k = lockKey
  | .owners k, .immut k' _ => k = k'
  | .start c, .stopped c' => c = c'
  | .lock p, .pkgsSub ps => !ps.contains p
  | .lock p, .notInLock n => p = n
  | _, _ => false

def Thread.inFlight (t : Thread) : Bool :=
  match t.prog with
  | .call _ _ => true
  | .ret _ => false

/-- the births of the schedule steps from step `j` on -/
def Sys.birthsSince (s : Sys) (j : Nat) : List Birth := (s.births.drop j).flatten

/-- what a lagging read of reconcile `i` from `past[j]` teaches -/
def Sys.lagLearns (s : Sys) (i j : Nat) : List Fact :=
  match s.ths[i]?, s.past[j]? with
  | some t, some p =>
    match t.prog with
    | .call r _ => if r.isRead then learn r (exec p r).2 else []
    | .ret _ => []
  | _, _ => []

/-- schedule step `a`, taken in configuration `s`, stays outside the windows: it brings
nothing into the world that threatens a fact an in-flight reconcile has learned, and if it
is a lagging read, nothing born since the cache's store threatens what the reply teaches -/
def Sys.calm (s : Sys) (a : Act) : Prop :=
  (∀ t ∈ s.ths, t.inFlight = true → ∀ f ∈ facts t.hist, ∀ b ∈ a.births s, b.threatens f = false) ∧
  (∀ i j, a = .lagStep i j → ∀ f ∈ s.lagLearns i j, ∀ b ∈ s.birthsSince j, b.threatens f = false)

/-- every step of the schedule, taken where the schedule takes it, stays outside the windows -/
def Calm : Sys → List Act → Prop
  | _, [] => True
  | s, a :: rest => s.calm a ∧ Calm (s.act a) rest


/-- `Sys.calm` as a test (used by the driver; `calm_of_calmB` in Xp/Proofs/C08Live.lean) -/
def Sys.calmB (s : Sys) (a : Act) : Bool :=
  (s.ths.all fun t => !t.inFlight || (facts t.hist).all fun f => (a.births s).all fun b => !b.threatens f) &&
  (match a with
   | .lagStep i j => (s.lagLearns i j).all fun f => (s.birthsSince j).all fun b => !b.threatens f
   | _ => true)

/-! ### declared call skeletons (tie "a")

For every Go function the programs above mirror: the ordered list of its calls (client
verbs, finalizer helpers, engine, Lock manager, package cache, branch guards) as this model
understands it, one entry per call, each with the model step that mirrors it.  The same
lists are re-extracted from the CURRENT source tree by go/ast on every check run
(`Xp.Gen.c08Skel…`, harness/main/c08_dump.go); `Xp/Props/C08.lean` states that they are
equal (`skeleton_*`), and that the requests the model's program issues along its designated
paths are exactly the entries marked with that path, in source order (`skeleton_*_path*`):
the declared skeleton is checked against the source AND against the `Prog` trees. -/

/-- what the model makes of one call of a Go function -/
inductive SkStep where
  /-- mirrored by a request of this constructor (`Req.tag`), issued on the designated paths
  listed (indices into the function's `…Paths`) and possibly on others -/
  | req (tag : String) (paths : List Nat)
  /-- a branch guard (`meta.WasDeleted` …): mirrored by an `if` of the program -/
  | guard (how : String)
  /-- a call of the live (not deleted) branch that creates / re-creates something: mirrored by
  the abstract step `Act.live` of this name -/
  | live (act : String)
  /-- not mirrored, with the reason -/
  | no (why : String)
  deriving DecidableEq, Repr

def Req.tag : Req → String
  | .get _ => "get" | .list _ => "list" | .listUsagesOf _ _ => "listUsagesOf"
  | .listSel _ _ => "listSel"
  | .setStatus _ _ _ => "setStatus" | .removeFin _ _ _ => "removeFin" | .delete _ _ => "delete"
  | .deleteAll _ => "deleteAll" | .lockRemove _ _ => "lockRemove" | .unlabel _ _ => "unlabel"
  | .stop _ => "stop" | .cacheDelete _ => "cacheDelete"

/-- the requests a program issues when it sees these replies, in order -/
def pathReqs : P → List Resp → List Req
  | .ret _, _ => []
  | .call r _, [] => [r]
  | .call r k, x :: xs => r :: pathReqs (k x) xs

/-- the request tags of the entries of a declared skeleton that lie on designated path `i` -/
def onPath (i : Nat) (sk : List (String × SkStep)) : List String :=
  sk.filterMap fun e => match e.2 with
    | .req t ps => if ps.contains i then some t else none
    | _ => none

def calls (sk : List (String × SkStep)) : List String := sk.map (·.1)

private def liveXR := "live branch of the XR reconciler (composition): C01/C02/C05; creates composed resources, never XRs, claims, CRDs or Lock entries"
private def errStatus := "setStatus"

/-- `claim.Reconciler.Reconcile` ↔ `claimRec` / `claimGot` / `claimBound` / `claimDeleted` / `claimFinalize`.
Paths: 0 = Background, bound XR exists; 1 = Foreground, XR already terminating. -/
def skelClaim : List (String × SkStep) := [
  ("client.Get", .req "get" [0, 1]),                       -- claimRec: get claim
  ("meta.IsPaused", .guard "claimGot: cm.paused"),
  ("client.Status.Update", .req errStatus []),            -- claimGot: Paused
  ("client.Get", .req "get" [0, 1]),                       -- claimGot: get XR (skipped when resourceRef is nil)
  ("client.Status.Update", .req errStatus []),            -- claimGot: err:getXR
  ("meta.WasCreated", .guard "claimBound: xr = some x ∧ x.ref ≠ \"\" ∧ x.ref ≠ claim"),
  ("client.Status.Update", .req errStatus []),            -- claimBound: err:unbound
  ("managedFields.Upgrade", .no "default NopManagedFieldsUpgrader (SSA claims off): no call, never fails"),
  ("client.Status.Update", .no "error path of Upgrade: unreachable with the no-op upgrader"),
  ("meta.WasDeleted", .guard "claimBound: cm.del (else Res.oos; the live branch is Act.live)"),
  ("meta.WasCreated", .guard "claimDeleted: match xr with some x"),
  ("meta.WasDeleted", .guard "claimDeleted: x.del && cm.flag"),
  ("client.Status.Update", .req errStatus [1]),           -- claimDeleted: Foreground wait
  ("client.Delete", .req "delete" [0]),                   -- claimDeleted: delete XR (fg = cm.flag)
  ("client.Status.Update", .req errStatus []),            -- claimDeleted: err:deleteXR
  ("claim.UnpublishConnection", .no "default no-op unpublisher (claims publish nothing themselves): no call, never fails"),
  ("client.Status.Update", .no "error path of UnpublishConnection: unreachable with the no-op unpublisher"),
  ("claim.RemoveFinalizer", .req "removeFin" [0]),        -- claimFinalize (APIFinalizer: Update under the read resourceVersion, skipped when absent)
  ("client.Status.Update", .req errStatus []),            -- claimFinalize: err:removeFin
  ("client.Status.Update", .req errStatus [0]),           -- claimFinalize: Success
  ("claim.AddFinalizer", .live "addFin (claim, claim finalizer)"),
  ("client.Status.Update", .no "live branch: status only"),
  ("composite.Sync", .live "syncXR: creates the XR the claim names (or a generated name) when absent, binds claim and XR"),
  ("client.Status.Update", .no "live branch: status only"),
  ("client.Status.Update", .no "live branch: status only (Waiting)"),
  ("composite.PropagateConnection", .no "live branch: connection secrets are C09's"),
  ("client.Status.Update", .no "live branch: status only"),
  ("client.Status.Update", .no "live branch: status only (Available)")]

/-- `composite.Reconciler.Reconcile` ↔ `xrRec`.  Paths: 0 = terminating XR with our finalizer; 1 = paused. -/
def skelXR : List (String × SkStep) := [
  ("client.Get", .req "get" [0, 1]),
  ("meta.IsPaused", .guard "x.paused"),
  ("client.Status.Update", .req errStatus [1]),           -- Paused
  ("meta.WasDeleted", .guard "x.del (else Res.oos)"),
  ("composite.UnpublishConnection", .no "default no-op publisher: no call, never fails"),
  ("client.Status.Update", .no "error path of UnpublishConnection: unreachable"),
  ("composite.RemoveFinalizer", .req "removeFin" [0]),
  ("client.Status.Update", .req errStatus []),            -- err:removeFin
  ("client.Status.Update", .req errStatus [0]),           -- Success
  ("composite.AddFinalizer", .live "addFin (xr, XR finalizer)"),
  ("client.Status.Update", .no liveXR), ("composite.SelectComposition", .no liveXR),
  ("client.Status.Update", .no liveXR), ("revision.Fetch", .no liveXR),
  ("client.Status.Update", .no liveXR), ("revision.Validate", .no liveXR),
  ("client.Status.Update", .no liveXR), ("composite.Configure", .no liveXR),
  ("client.Status.Update", .no liveXR), ("resource.Compose", .no liveXR),
  ("client.Status.Update", .no liveXR), ("engine.StartWatches", .no liveXR),
  ("composite.PublishConnection", .no liveXR), ("client.Status.Update", .no liveXR),
  ("client.Status.Update", .no liveXR), ("client.Status.Update", .no liveXR)]

private def liveStopVersion := "live branch, referenceable version changed: controller RESTART (Stop then Start) of a live XRD; not a teardown stop, not modelled (the harness's XRDs carry no status.controllers ref)"

/-- `definition.Reconciler.Reconcile` ↔ `definedRec` / `xrdFinish` / `xrdStopDelete`.
Paths: 0 = CRD ours, no XR left; 1 = CRD gone. -/
def skelDefined : List (String × SkStep) := [
  ("client.Get", .req "get" [0, 1]),
  ("composite.Render", .no "pure (xcrd.ForCompositeResource); its error returns before any call; the harness's XRDs always render; only crd.name (= d.ref) is used by the deletion branch"),
  ("meta.WasDeleted", .guard "d.del (else Res.oos; the live branch is Act.live)"),
  ("client.Status.Update", .req "setStatus" [0, 1]),      -- TerminatingComposite
  ("client.Get", .req "get" [0, 1]),                       -- get CRD
  ("meta.WasCreated", .guard "reply .notFound"),
  ("metav1.IsControlledBy", .guard "c.controlledBy d.uid"),
  ("engine.Stop", .req "stop" [1]),                       -- xrdFinish
  ("composite.RemoveFinalizer", .req "removeFin" [1]),    -- xrdFinish (under the rv the status update returned)
  ("client.DeleteAllOf", .req "deleteAll" [0]),
  ("client.List", .req "list" [0]),
  ("engine.Stop", .req "stop" [0]),                       -- xrdStopDelete
  ("client.Delete", .req "delete" [0]),                   -- xrdStopDelete: delete CRD
  ("composite.AddFinalizer", .live "addFin (xrd, defined finalizer)"),
  ("client.Apply", .live "applyCRD (composite): creates the CRD controlled by the XRD, or adopts an uncontrolled one"),
  ("engine.Stop", .no liveStopVersion),
  ("engine.IsRunning", .guard "live branch: Start only when not running (Act.live start is idempotent)"),
  ("client.Status.Update", .no "live branch: status only"),
  ("engine.Start", .live "start (composite controller)"),
  ("engine.StartWatches", .no "live branch: watches are C13's; a controller counts as running from Start on"),
  ("client.Status.Update", .no "live branch: status only")]

/-- `offered.Reconciler.Reconcile` ↔ `offeredRec` / `deleteEach` / `xrdFinish` / `xrdStopDelete`.
Paths: 0 = CRD ours, no claim left; 1 = CRD gone; 2 = CRD ours, one claim listed. -/
def skelOffered : List (String × SkStep) := [
  ("client.Get", .req "get" [0, 1, 2]),
  ("claim.Render", .no "pure (xcrd.ForCompositeResourceClaim); see skelDefined"),
  ("meta.WasDeleted", .guard "d.del (else Res.oos; the live branch is Act.live)"),
  ("client.Status.Update", .req "setStatus" [0, 1, 2]),   -- TerminatingClaim
  ("client.Get", .req "get" [0, 1, 2]),                    -- get CRD
  ("meta.WasCreated", .guard "reply .notFound"),
  ("metav1.IsControlledBy", .guard "c.controlledBy d.uid"),
  ("engine.Stop", .req "stop" [1]),
  ("claim.RemoveFinalizer", .req "removeFin" [1]),
  ("client.List", .req "list" [0, 2]),
  ("client.Delete", .req "delete" [2]),                   -- deleteEach (one per listed claim)
  ("engine.Stop", .req "stop" [0]),
  ("client.Delete", .req "delete" [0]),                   -- delete CRD
  ("claim.AddFinalizer", .live "addFin (xrd, offered finalizer)"),
  ("client.Apply", .live "applyCRD (claim): creates the CRD controlled by the XRD, or adopts an uncontrolled one"),
  ("engine.Stop", .no liveStopVersion),
  ("engine.IsRunning", .guard "live branch: Start only when not running (Act.live start is idempotent)"),
  ("client.Status.Update", .no "live branch: status only"),
  ("engine.Start", .live "start (claim controller)"),
  ("engine.StartWatches", .no "live branch: watches are C13's"),
  ("client.Status.Update", .no "live branch: status only")]

private def liveRev := "live branch of the revision reconciler (fetch, parse, lint, establish): C14/C15/C17"

/-- `revision.Reconciler.Reconcile` ↔ `revRec` / `revFinalize`; `lock.RemoveSelf` is inlined
(`skelRemoveSelf`).  Path 0 = terminating revision that is in the Lock. -/
def skelRevision : List (String × SkStep) := [
  ("client.Get", .req "get" [0]),
  ("meta.IsPaused", .guard "pr.paused"),
  ("client.Status.Update", .req errStatus []),            -- Paused
  ("meta.WasDeleted", .guard "pr.del (else Res.oos)"),
  ("cache.Delete", .req "cacheDelete" [0]),
  ("lock.RemoveSelf", .req "RemoveSelf" [0]),             -- inlined: skelRemoveSelf
  ("revision.RemoveFinalizer", .req "removeFin" [0]),
  ("client.Status.Update", .no liveRev),                  -- paused condition cleanup
  ("client.Status.Update", .no liveRev),
  ("revision.AddFinalizer", .live "addFin (rev, revision finalizer)"),
  ("client.Status.Update", .no liveRev), ("client.Status.Update", .no liveRev),
  ("deactivateRevision", .no liveRev), ("client.Status.Update", .no liveRev),
  ("cache.Get", .no liveRev), ("cache.Delete", .no liveRev),
  ("client.Status.Update", .no liveRev), ("client.Status.Update", .no liveRev),
  ("cache.Delete", .no liveRev), ("client.Status.Update", .no liveRev),
  ("client.Status.Update", .no liveRev), ("client.Status.Update", .no liveRev),
  ("client.Update", .no liveRev), ("client.Status.Update", .no liveRev),
  ("client.Status.Update", .no liveRev),
  ("lock.Resolve", .live "lockAdd: the revision adds itself to the Lock (skelResolve)"),
  ("client.Status.Update", .no liveRev), ("runtimeHook.Pre", .no liveRev),
  ("client.Status.Update", .no liveRev), ("objects.Establish", .no liveRev),
  ("client.Status.Update", .no liveRev), ("runtimeHook.Post", .no liveRev),
  ("client.Status.Update", .no liveRev), ("client.Status.Update", .no liveRev)]

/-- `PackageDependencyManager.RemoveSelf` ↔ the `get lockKey` / `lockRemove` part of `revRec` -/
def skelRemoveSelf : List (String × SkStep) := [
  ("client.Get", .req "get" [0]),
  ("client.Update", .req "lockRemove" [0])]               -- full replace under the read rv = rv precondition + delta

/-- `PackageDependencyManager.Resolve` ↔ `Act.live lockAdd` -/
def skelResolve : List (String × SkStep) := [
  ("client.Get", .live "lockAdd reads the Lock"),
  ("client.Create", .live "lockAdd creates the Lock when it does not exist"),
  ("RemoveSelf", .no "same name, other source (relocated image): remove then re-add; net effect on membership none"),
  ("client.Get", .no "refresh after that RemoveSelf"),
  ("client.Update", .live "lockAdd appends the revision to the Lock's packages when absent")]

/-- `usage.Reconciler.Reconcile` ↔ `usageRec` / `usageUsed` / `usageFinalize`.
Paths: 0 = composed Usage, using resource gone, used resource exists, last Usage of it;
1 = using resource still exists. -/
def skelUsage : List (String × SkStep) := [
  ("client.Get", .req "get" [0, 1, 2]),
  ("usage.resolveSelectors", .req "listSel" [2]),         -- skelSelResolve: only an unresolved spec.by selector makes a call
  ("meta.WasDeleted", .guard "u.del (else Res.oos; the live branch is Act.live)"),
  ("client.Get", .req "get" [0, 1]),                       -- using resource (only when composed and spec.by set)
  ("client.Get", .req "get" [0]),                          -- used resource
  ("client.List", .req "listUsagesOf" [0]),
  ("client.Update", .req "unlabel" [0]),
  ("client.Delete", .no "replayDeletion: asynchronous, after the Usage is gone; not exercised"),
  ("usage.RemoveFinalizer", .req "removeFin" [0]),
  ("usage.AddFinalizer", .live "addFin (usage, usage finalizer)"),
  ("client.Update", .no "live branch: details annotation"),
  ("client.Get", .no "live branch: read of the used resource"),
  ("client.Update", .live "usageLabel: in-use label on the used resource"),
  ("client.Get", .no "live branch: read of the using resource"),
  ("client.Update", .live "usageOwn: owner reference to the using resource"),
  ("client.Status.Update", .no "live branch: status only")]

/-- `apiSelectorResolver.resolveSelectors` ↔ the `u.sel` branch of `usageRec` -/
def skelSelResolve : List (String × SkStep) := [
  ("resolveSelector", .no "spec.of: always resolved in the harness's Usages (the used resource must be known)"),
  ("client.Update", .no "spec.of resolved: see above"),
  ("resolveSelector", .req "listSel" [2]),                -- skelSelResolveOne
  ("client.Update", .no "the resolved spec.by reference is persisted and the reconcile goes on with the updated copy: Res.oos")]

/-- `apiSelectorResolver.resolveSelector` ↔ `Req.listSel` -/
def skelSelResolveOne : List (String × SkStep) := [
  ("client.List", .req "listSel" [2])]

/-- `engine.ControllerEngine.Stop` ↔ `Req.stop`: a failing watch stop is the `.err` reply
(nothing dropped), otherwise the controller's context is cancelled and it leaves the
running set (`running.filter (· ≠ c)`). The lock protocol is C13's. -/
def skelEngineStop : List (String × SkStep) := [
  ("w.Stop", .no "a failing watch stop = reply .err of Req.stop (injected by the schedule)"),
  ("c.cancel", .req "stop" [])]

/-- `engine.ControllerEngine.Start` ↔ `Act.live start` -/
def skelEngineStart : List (String × SkStep) := [
  ("c.Start", .live "start: the controller joins the running set"),
  ("Stop", .no "cleanup when the controller's Start returns an error: C13")]

/-- replies that drive the programs along their designated paths (`skeleton_*_path*`) -/
def pathObj (k : Key) (fins : List String) : Obj :=
  { key := k, uid := 1, rv := 1, fins := fins, del := true, owners := [], conds := [], paused := false,
    ref := "r", of := "o", flag := false, inuse := false, pkgs := [] }

open Xp.Gen in
def claimPaths : List (List Resp) :=
  let cm := pathObj ⟨.claim, "n"⟩ [c08ClaimFinalizer]
  let x := { pathObj ⟨.xr, "r"⟩ [] with ref := "n" }
  [[.obj cm, .obj x, .ok, .obj cm, .obj cm], [.obj { cm with flag := true }, .obj x, .obj cm]]

open Xp.Gen in
def xrPaths : List (List Resp) :=
  let x := pathObj ⟨.xr, "n"⟩ [c08XRFinalizer]
  [[.obj x, .obj x, .obj x], [.obj { x with paused := true }, .obj x]]

open Xp.Gen in
def definedPaths : List (List Resp) :=
  let d := pathObj ⟨.xrd, "n"⟩ [c08DefinedFinalizer]
  let c := { pathObj ⟨.crd, "r"⟩ [] with owners := [⟨1, true, true⟩] }
  [[.obj d, .obj d, .obj c, .ok, .list [], .ok, .ok], [.obj d, .obj d, .notFound, .ok, .obj d]]

open Xp.Gen in
def offeredPaths : List (List Resp) :=
  let d := pathObj ⟨.xrd, "n"⟩ [c08OfferedFinalizer]
  let c := { pathObj ⟨.crd, "o"⟩ [] with owners := [⟨1, true, true⟩] }
  [[.obj d, .obj d, .obj c, .list [], .ok, .ok], [.obj d, .obj d, .notFound, .ok, .obj d],
   [.obj d, .obj d, .obj c, .list [pathObj ⟨.claim, "ns/c"⟩ []], .ok]]

open Xp.Gen in
def revPaths : List (List Resp) :=
  let pr := pathObj ⟨.rev, "n"⟩ [c08RevisionFinalizer]
  let l := { pathObj lockKey [] with pkgs := ["n"] }
  [[.obj pr, .ok, .obj l, .obj l, .obj pr]]

open Xp.Gen in
def usagePaths : List (List Resp) :=
  let u := { pathObj ⟨.usage, "n"⟩ [c08UsageFinalizer] with flag := true }
  let used := pathObj ⟨.res, "o"⟩ []
  [[.obj u, .notFound, .obj used, .list [u], .obj used, .obj u], [.obj u, .obj used],
   [.obj { u with sel := true }, .list []]]

/-- the request tags the program issues along designated path `i` -/
def pathTags (p : P) (paths : List (List Resp)) (i : Nat) : List String :=
  (pathReqs p (paths.getD i [])).map Req.tag

end Xp.C08
