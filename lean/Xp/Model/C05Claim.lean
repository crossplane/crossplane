import Xp.Model.C05
import Xp.Gen.C05Skel
/-
C05 model, claim side in full (claim/reconciler.go Reconcile with either syncer): which claim
conditions one reconcile stores, given what the XR looked like when the reconcile started, what
the informer cache served, what the XR controller wrote in between, which API call failed how.
The XR is an object of a small world so that sequences of reconciles of several claims by one
long-lived reconciler can be run.
-/
namespace Xp.C05

structure Ref where
  apiVersion : String
  kind : String
  ns : String
  name : String
  deriving DecidableEq, Repr

structure XRView where
  conds : List Cond
  claimTypes : List String
  deriving Repr

structure XRObj where
  present : Bool
  ref : Option Ref        -- spec.claimRef
  view : XRView
  deriving Repr

inductive CPoint where
  | getClaim | getXR | sync | propagate | status
  deriving DecidableEq, Repr

structure ClaimCall where
  ssa : Bool
  self : Ref              -- the reference of the claim being reconciled
  paused : Bool
  /-- the informer cache serves an older version of the XR to the reconciler's read -/
  stale : Bool
  /-- the XR controller's write landing between that read and the syncer's first call -/
  flip : Option XRView
  fault : Option (CPoint × EC)
  deriving Repr

def emptyView : XRView := ⟨[], []⟩

/-- the reconciler's own read of the XR returns something (the cache may miss an existing XR:
a NotFound answer is treated as "does not exist") -/
def ClaimCall.sees (c : ClaimCall) (xr : XRObj) : Bool :=
  xr.present && !(c.fault == some (.getXR, .notFound))

/-- the XR read names another claim: cmp.Equal(cm.GetReference(), ref) on all four components -/
def ClaimCall.foreign (c : ClaimCall) (xr : XRObj) : Bool :=
  match xr.ref with
  | some r => r != c.self
  | none => false

/-- the XR as stored when the syncer's write reaches the API server -/
def ClaimCall.atSync (c : ClaimCall) (xr : XRObj) : XRObj :=
  match c.flip with
  | some v => if xr.present then { xr with view := v } else xr
  | none => xr

/-- the client-side syncer's merge patch carries the resourceVersion of the version the
reconciler read: it conflicts when that is no longer the stored one -/
def ClaimCall.csaConflict (c : ClaimCall) (xr : XRObj) : Bool :=
  !c.ssa && c.sees xr && (c.stale || c.flip.isSome)

/-- Sync is reached -/
def ClaimCall.reachesSync (c : ClaimCall) (xr : XRObj) : Bool :=
  !c.paused &&
  (match c.fault with
   | some (.getClaim, _) => false
   | some (.getXR, e) => e == .notFound
   | _ => true) &&
  !(c.sees xr && c.foreign xr)

/-- the error the syncer's first API call is answered with. The client-side syncer's first call
is the applicator's Get: a NotFound answer is not a failure there - the applicator goes on to
Create, which succeeds iff the XR really does not exist (else AlreadyExists). -/
def ClaimCall.syncFault (c : ClaimCall) (xr : XRObj) : Option EC :=
  match c.fault with
  | some (.sync, e) => if !c.ssa && e == EC.notFound && !xr.present then none else some e
  | _ => none

/-- Sync's write of the XR takes effect -/
def ClaimCall.syncs (c : ClaimCall) (xr : XRObj) : Bool :=
  c.reachesSync xr && (c.syncFault xr).isNone && !c.csaConflict xr

/-- the XR object after the reconcile -/
def claimCallXR (xr : XRObj) (c : ClaimCall) : XRObj :=
  let x := if c.reachesSync xr then c.atSync xr else xr
  if c.syncs xr then
    -- the syncer writes spec.claimRef := this claim. (It gets here with an XR that names ANOTHER
    -- claim only when the reconciler's own read missed the XR - the re-binding that C06 is about.)
    { present := true, ref := some c.self, view := if x.present then x.view else emptyView }
  else x

/-- the XR view a reconcile's verdict is based on: what is stored when the syncer's write of the
XR returns - after anything the XR controller wrote in between, never what a lagging cache served;
an XR the syncer has just created has no conditions -/
def ClaimCall.decides (c : ClaimCall) (xr : XRObj) : XRView := if xr.present then (c.atSync xr).view else emptyView

/-- the exits of claim Reconcile that matter for the conditions -/
inductive CPath where
  | nothing          -- no status update attempted: the claim could not be read, or Sync hit a conflict
  | paused
  | failed           -- ReconcileError: XR read failed, XR bound to another claim, Sync failed
  | waiting
  | available
  | propagateFailed  -- XR ready, but its connection details could not be propagated
  deriving DecidableEq, Repr

def claimPath (xr : XRObj) (c : ClaimCall) : CPath :=
  match c.fault with
  | some (.getClaim, _) => .nothing
  | f =>
    if c.paused then .paused else
    if (match f with | some (.getXR, e) => e != EC.notFound | _ => false) then .failed else
    if c.sees xr && c.foreign xr then .failed else
    match c.syncFault xr with
    | some e => if e == EC.conflict then .nothing else .failed
    | none =>
      if c.csaConflict xr then .nothing else
      if statusOf (c.decides xr).conds "Ready" = some "True" then
        (match f with
         | some (.propagate, _) => .propagateFailed
         | _ => .available)
      else .waiting

/-- Synced=True, then the XR's conditions of the types listed in its status.claimConditionTypes -/
def copied (old : List Cond) (v : XRView) : List Cond :=
  v.claimTypes.foldl (fun acc t => setCond acc (getCond v.conds t)) (setCond old reconcileSuccess)

def pathConds (old : List Cond) (v : XRView) : CPath → Option (List Cond)
  | .nothing => none
  | .paused => some (setCond old reconcilePaused)
  | .failed => some (setCond old reconcileError)
  | .waiting => some (setCond (copied old v) ⟨"Ready", "False", "Waiting"⟩)
  | .available => some (setCond (copied old v) available)
  | .propagateFailed => some (setCond (copied old v) reconcileError)

/-- the claim conditions stored by the reconcile's own status update; none = it did not take effect -/
def claimCall (old : List Cond) (xr : XRObj) (c : ClaimCall) : Option (List Cond) :=
  match c.fault with
  | some (.status, _) => none
  | _ => pathConds old (c.decides xr) (claimPath xr c)

/-! ### sequences -/

structure CWorld where
  claims : List (List Cond)
  xrs : List XRObj
  deriving Repr

structure CStep where
  claim : Nat
  xr : Nat
  /-- the XR controller's status write landing before the reconcile -/
  set : Option XRView
  call : ClaimCall
  deriving Repr

def applySet (x : XRObj) (s : Option XRView) : XRObj :=
  match s with
  | some v => if x.present then { x with view := v } else x
  | none => x

def cstep (w : CWorld) (s : CStep) : CWorld × Option (List Cond) :=
  match w.claims[s.claim]?, w.xrs[s.xr]? with
  | some old, some x0 =>
    let x := applySet x0 s.set
    -- a lagging cache can only serve something older when a newer version exists
    let call := { s.call with stale := s.call.stale && s.set.isSome && x0.present }
    let r := claimCall old x call
    let x' := claimCallXR x call
    ({ claims := (match r with | some cs => w.claims.set s.claim cs | none => w.claims), xrs := w.xrs.set s.xr x' }, r)
  | _, _ => (w, none)

def ctrace : CWorld → List CStep → List (Option (List Cond) × Bool)
  | _, [] => []
  | w, s :: ss =>
    let r := cstep w s
    (r.1.claims[s.claim]?, r.2.isSome) :: ctrace r.1 ss

/-! ### the deletion branch of the claim Reconcile (meta.WasDeleted(cm))

A claim with a deletion timestamp: Ready := Deleting, the bound XR is deleted (background policy),
the propagated connection secret is unpublished, the claim finalizer is removed, Synced :=
ReconcileSuccess. As in the XR reconciler, RemoveFinalizer's Update answers with the stored claim,
which replaces the claim held in memory, status included. -/

inductive CDPhase where
  | deleteXR | unpublish | removeFinalizer
  deriving DecidableEq, Repr

structure CDelCall where
  /-- the first Get (of the claim) fails -/
  getFails : Bool
  paused : Bool
  /-- the read of the XR fails with this class (NotFound = "does not exist") -/
  xrGet : Option EC
  fault : Option (CDPhase × EC)
  lost : Bool
  deriving Repr

/-- a claim being deleted and its XR -/
structure CDelWorld where
  conds : List Cond
  /-- the claim carries the claim finalizer / another one -/
  fin : Bool
  held : Bool
  /-- the bound XR exists (a finalizer keeps it after its deletion was requested) -/
  xr : Bool
  deriving Repr

/-- the read of the XR fails (NotFound is "does not exist", not a failure) -/
def CDelCall.xrReadFails (c : CDelCall) (w : CDelWorld) : Bool :=
  w.xr && (match c.xrGet with | some e => e != EC.notFound | none => false)

/-- the XR is read and found -/
def CDelCall.seesXR (c : CDelCall) (w : CDelWorld) : Bool := w.xr && c.xrGet.isNone

/-- REGENERATED FROM THE SOURCE: does the claim `Reconcile` set Deleting a second time (after
RemoveFinalizer)? Since fix f96c12b (D39) it does; before, it did not. -/
def claimReassertsDeleting : Bool := decide (Xp.Gen.c05SkelClaimReconcile.count "xpv1.Deleting" ≥ 2)

/-- the end of the branch once the finalizer is (being) removed: with the finalizer present the
Update replaces the claim in memory by the stored one - unless Deleting is set again (`re`) -/
def claimDelDone (re : Bool) (w : CDelWorld) : List Cond :=
  if w.fin && !re then setCond w.conds reconcileSuccess
  else setCond (setCond w.conds deleting) reconcileSuccess

/-- the claim conditions the deletion branch stores; none = no status write took effect.
`re` = Deleting is set again after RemoveFinalizer (the code before fix f96c12b: false). -/
def claimDeleted (re : Bool) (w : CDelWorld) (c : CDelCall) : Option (List Cond) :=
  if c.getFails || c.lost then none else
  if c.paused then some (setCond w.conds reconcilePaused) else
  if c.xrReadFails w then some (setCond w.conds reconcileError) else
  let c1 := setCond w.conds deleting
  match c.fault with
  | some (.deleteXR, e) =>
    -- Delete is issued only for an XR that was read; a NotFound answer is ignored
    if c.seesXR w && e != EC.notFound then some (setCond c1 reconcileError) else some (claimDelDone re w)
  | some (.unpublish, _) => some (setCond c1 reconcileError)
  | some (.removeFinalizer, e) =>
    -- no conflict test here: any class but the ignored NotFound is a ReconcileError; without the
    -- finalizer no Update is issued
    if !w.fin || e == EC.notFound then some (setCond c1 reconcileSuccess) else some (setCond c1 reconcileError)
  | none => some (claimDelDone re w)

/-- RemoveFinalizer's Update took effect -/
def CDelCall.removes (c : CDelCall) (w : CDelWorld) : Bool :=
  w.fin && !c.getFails && !c.paused && !c.xrReadFails w &&
  (match c.fault with
   | none => true
   | some (.deleteXR, e) => !(c.seesXR w && e != EC.notFound)
   | _ => false)

/-- one reconcile: the claim afterwards (none = gone with its last finalizer) and whether the
reconcile's status update took effect -/
def cdelStep (re : Bool) (w : Option CDelWorld) (c : CDelCall) : Option CDelWorld × Bool :=
  match w with
  | none => (none, false)
  | some w =>
    if c.removes w then
      if w.held then
        (match claimDeleted re w c with
         | some cs => (some { w with conds := cs, fin := false }, true)
         | none => (some { w with fin := false }, false))
      else (none, false)
    else
      match claimDeleted re w c with
      | some cs => (some { w with conds := cs }, true)
      | none => (some w, false)

def cdelTrace (re : Bool) : Option CDelWorld → List CDelCall → List (Option (List Cond) × Bool)
  | _, [] => []
  | w, c :: cs =>
    let r := cdelStep re w c
    (r.1.map (·.conds), r.2) :: cdelTrace re r.1 cs

/-! ### declared call skeleton of the claim `Reconciler.Reconcile`, condition-centred
(`Xp.Gen.c05SkelClaimReconcile` is regenerated from the source; C06 ties its API calls) -/

def skelClaimErrTail : List String := ["cm.SetConditions", "xpv1.ReconcileError", "client.Status.Update"]

def skelClaimReconcile : List String :=
  ["client.Get", "resource.IgnoreNotFound",                    -- CPoint.getClaim: nothing written
   "meta.IsPaused", "cm.SetConditions", "xpv1.ReconcilePaused", "client.Status.Update",   -- CPath.paused
   "client.Get", "resource.IgnoreNotFound"] ++ skelClaimErrTail ++                        -- CPoint.getXR: NotFound = "does not exist" (sees), else CPath.failed
  ["meta.WasCreated", "cmp.Equal"] ++ skelClaimErrTail ++     -- ClaimCall.foreign: all four components of the reference
  ["managedFields.Upgrade", "kerrors.IsConflict"] ++ skelClaimErrTail ++                   -- not modelled: the upgrader is the no-op one in both syncer set-ups of the harness
  -- the deletion branch: claimDeleted (the foreground-deletion wait - "meta.WasDeleted"(xr), the first
  -- status update - is not modelled: the claims of the harness use the background policy)
  ["meta.WasDeleted", "cm.SetConditions", "xpv1.Deleting", "meta.WasCreated", "meta.WasDeleted", "client.Status.Update",
   "client.Delete", "resource.IgnoreNotFound"] ++ skelClaimErrTail ++                      -- CDPhase.deleteXR (NotFound ignored)
  ["claim.UnpublishConnection"] ++ skelClaimErrTail ++                                     -- CDPhase.unpublish
  ["claim.RemoveFinalizer"] ++ skelClaimErrTail ++                                         -- CDPhase.removeFinalizer (no conflict test)
  (if claimReassertsDeleting then ["cm.SetConditions", "xpv1.Deleting", "xpv1.ReconcileSuccess", "client.Status.Update"]
   else ["cm.SetConditions", "xpv1.ReconcileSuccess", "client.Status.Update"]) ++
  ["claim.AddFinalizer", "kerrors.IsConflict"] ++ skelClaimErrTail ++                      -- not modelled: the claims of the harness carry the finalizer (no call is issued)
  ["composite.Sync", "kerrors.IsConflict"] ++ skelClaimErrTail ++                          -- CPoint.sync: syncFault / csaConflict => CPath.nothing | failed
  ["cmp.Equal", "cmp.Equal",                                   -- the "bound" event only
   "cm.SetConditions", "xpv1.ReconcileSuccess",                -- copied: setCond old reconcileSuccess
   "xr.GetClaimConditionTypes", "xr.GetCondition", "cm.SetConditions",   -- copied: the foldl over v.claimTypes
   "resource.IsConditionTrue", "xr.GetCondition",              -- claimPath: statusOf (decides xr).conds "Ready" = some "True"
   "cm.SetConditions", "Waiting", "client.Status.Update",      -- CPath.waiting
   "composite.PropagateConnection"] ++ skelClaimErrTail ++    -- CPoint.propagate: CPath.propagateFailed
  ["cm.SetConditions", "xpv1.Available", "client.Status.Update"]   -- CPath.available; CPoint.status drops any of the updates

end Xp.C05
