/-
C13 — dynamic controllers and watches under any interleaving.

Executable lock-granularity model of
  internal/engine/engine.go   (ControllerEngine: Start, Stop, IsRunning, StartWatches,
                               StopWatches, GetWatches)
  internal/engine/source.go   (StoppableSource.Start / Stop)
  internal/engine/cache.go    (InformerTrackingCache: ActiveInformers, GetInformer,
                               RemoveInformer — each a single linearisable step, see below;
                               Model/C13Cache.lean models its lock dance step by step and
                               Proofs/C13Cache.lean proves that it is atomic)
  internal/controller/apiextensions/composite/watch/watch.go (GarbageCollectWatchesNow)

Every goroutine that calls into the engine is a `Thread` with a program counter
`Pc`.  One `step` is either
  * the acquisition of `e.mx` / of one controller's `c.mx` (read or write mode) together
    with the reads the Go code performs right after it under that lock,
  * the release of such a lock,
  * or one call that leaves the engine: NewControllerFn, ActiveInformers, GetInformer,
    AddEventHandler, RemoveEventHandler, RemoveInformer, the XR List of the collector
    (these are the points at which the correspondence harness parks real goroutines).
Lock state is not stored: it is *derived* from the program counters (`Pc.held`), an
acquisition is enabled iff what the thread would hold afterwards is compatible with what
every other thread holds.  The RW locks are plain reader/writer locks; Go's writer
preference only removes schedules (and cannot create a deadlock here because no thread
ever waits while it holds a read lock – theorem `read_sections_never_wait`).

The informer cache (cache.go + the underlying controller-runtime cache) is modelled as
  tracked : the `active` set of InformerTrackingCache,
  live    : the informers that exist in the underlying cache, with a generation number
            (a removed and re-created informer is a *new* informer: handlers registered on
            the old one are gone, adding a handler to the old one fails as client-go does
            for a stopped informer),
  regs    : the handler registrations on the live informers, with ghost owner fields.
GetInformer (and Get, List, GetInformerForKind: `Op.cacheRead`, the same effect on `tracked` and
`live`, for a List under the kind of the list's ITEMS) / RemoveInformer / ActiveInformers take the cache's own RW lock around one
atomic map access plus the call into the underlying cache; no engine lock is ever
requested while it is held, so each is a single step here.

`Cfg` selects the code variant: `Cfg.fixed` mirrors the tree with fixes/D2.diff,
fixes/D3.diff and fixes/D12.diff applied (this is what the theorems are about and what
the correspondence driver runs); `Cfg.asFound` mirrors the pinned commit and is kept only
for the negation witnesses.

Model/C13Skel.lean ties every step of `next` to the control-flow skeleton of the Go function it
mirrors (regenerated from the source on every run): the lock operations are derived there from
`Pc.held`, so reordering the cases below or the Go code breaks a `trace_…` obligation.
-/
namespace Xp.C13

/-! ### association lists (decidable keys, first match wins) -/

def aget {α β} [DecidableEq α] (k : α) : List (α × β) → Option β
  | [] => none
  | (k', v) :: m => if k' = k then some v else aget k m

def adel {α β} [DecidableEq α] (k : α) (m : List (α × β)) : List (α × β) :=
  m.filter (fun p => decide (p.1 ≠ k))

def aset {α β} [DecidableEq α] (k : α) (v : β) (m : List (α × β)) : List (α × β) :=
  (k, v) :: adel k m

/-! ### data -/

inductive WType | claim | xr | composed | rev
  deriving DecidableEq, Repr, Inhabited

/-- engine.WatchID: (watch type, GVK). GVKs are numbered. -/
structure Wid where
  ty : WType
  gvk : Nat
  deriving DecidableEq, Repr, Inhabited

/-- A handler registration on a live informer. `cid`/`wid` are ghost owner fields
(which controller object, for which watch), `gen` the informer generation it sits on. -/
structure Reg where
  id : Nat
  cid : Nat
  wid : Wid
  gen : Nat
  deriving DecidableEq, Repr

/-- engine.controller (one object per successful Start; `cid` = allocation index). -/
structure Ctl where
  name : Nat
  sources : List (Wid × Nat)   -- c.sources : WatchID ↦ StoppableSource (its registration id)
  cancelled : Bool             -- c.cancel() was called
  stopped : Bool               -- fixes/D12.diff: set by Stop under c.mx
  deriving DecidableEq, Repr

inductive Res
  | ok | err | notRunning
  | bool (b : Bool)
  | count (k : Nat) (ok : Bool)
  | watches (l : List Wid)
  deriving DecidableEq, Repr

/-- One XR as the collector's List returns it. The state fields are everything a collector
could be tempted to filter on; the code under test looks at `refs` only, and the theorems
quantify over all of them. A reference is `some g` (kind number `g`; another version of a kind
is another number) or `none` (empty kind or apiVersion: it names no watched kind). Duplicates
and empty lists are allowed. -/
structure XR where
  deleting : Bool            -- deletionTimestamp set, finalizer pending
  paused : Bool              -- crossplane.io/paused
  hasCompositionRef : Bool
  ready : Bool
  synced : Bool
  refs : List (Option Nat)   -- spec.resourceRefs
  rev : Option Nat := none   -- spec.compositionRevisionRef.name (`none`: no revision selected yet); XRs of one list
                             -- often share a revision and still reference different kinds
  deriving DecidableEq, Repr

/-- the kinds the listed XRs reference: `used` of GarbageCollectWatchesNow -/
def refsOf (xrs : List XR) : List Nat := (xrs.map (·.refs)).flatMap (fun l => l.filterMap id)

inductive Op
  | start (n : Nat)
  | stop (n : Nat)
  | isRunning (n : Nat)
  | startWatches (n : Nat) (ws : List Wid)
  | stopWatches (n : Nat) (ws : List Wid)
  | getWatches (n : Nat)
  | gc (n : Nat) (xrs : List XR)        -- GarbageCollectWatchesNow; xrs = what its List of the XRs returns
                                        -- (one call; the GarbageCollector object lives across calls and keeps nothing)
  | removeInformer (g : Nat)
  | cacheRead (g : Nat)                 -- Get / List / GetInformerForKind of kind g on the InformerTrackingCache
                                        -- (the other entry points of cache.go that mark an informer active)
  deriving DecidableEq, Repr

/-- ghost event log (newest first) -/
inductive Ev
  | startOk (n cid : Nat)
  | stopOk (n cid : Nat)
  | isRunning (n : Nat) (b : Bool)
  deriving DecidableEq, Repr

structure Cfg where
  fixD2 : Bool    -- re-read ActiveInformers under c.mx; never start in one call a watch that call already started
  fixD3 : Bool    -- collector only considers ComposedResource watches
  fixD12 : Bool   -- StartWatches re-checks under c.mx that the controller was not stopped
  deriving DecidableEq, Repr

def Cfg.fixed : Cfg := ⟨true, true, true⟩
def Cfg.asFound : Cfg := ⟨false, false, false⟩

/-- Program counters. The comment gives the locks held *at* the pc. -/
inductive Pc
  | idle                                                     -- –
  | done (r : Res)                                           -- –
  | relE (r : Res)                                           -- e.W       next: e.mx.Unlock
  | relCE (cid : Nat) (r : Res)                              -- e.W c.W   next: c.mx.Unlock
  | relC (cid : Nat) (r : Res)                               -- c.W       next: c.mx.Unlock
  -- Start
  | stNC (n : Nat)                                           -- e.W       next: NewControllerFn
  -- Stop
  | spC (n cid : Nat)                                        -- e.W       next: c.mx.Lock
  | spLoop (n cid : Nat)                                     -- e.W c.W   next: range c.sources
  | spGI (n cid : Nat) (wid : Wid) (reg : Nat)               -- e.W c.W   next: GetInformer
  | spRH (n cid : Nat) (wid : Wid) (reg h : Nat)             -- e.W c.W   next: RemoveEventHandler
  -- IsRunning
  | irRel (b : Bool)                                         -- e.R       next: e.mx.RUnlock
  -- StartWatches
  | swLU (o : Option Nat) (ws : List Wid)                    -- e.R       next: e.mx.RUnlock
  | swAI (cid : Nat) (ws : List Wid)                         -- –         next: ActiveInformers
  | swCR (cid : Nat) (ws : List Wid) (a : List Nat)          -- –         next: c.mx.RLock
  | swCRrel (cid : Nat) (ws : List Wid) (a : List Nat) (start : Bool)   -- c.R next: c.mx.RUnlock
  | swCW (cid : Nat) (ws : List Wid) (a : List Nat)          -- –         next: c.mx.Lock
  | swAI2 (cid : Nat) (ws : List Wid)                        -- c.W       next: ActiveInformers (D2 fix)
  | swGI (cid : Nat) (a : List Nat) (st : List Wid) (wid : Wid) (rest : List Wid)       -- c.W next: GetInformer
  | swAH (cid : Nat) (a : List Nat) (st : List Wid) (wid : Wid) (rest : List Wid) (h : Nat) -- c.W next: AddEventHandler
  -- StopWatches (also the tail of the collector)
  | xw0 (n : Nat) (ws : List Wid)                            -- –         next: e.mx.RLock
  | xwLU (o : Option Nat) (ws : List Wid)                    -- e.R
  | xwCR (cid : Nat) (ws : List Wid)                         -- –         next: c.mx.RLock
  | xwCRrel (cid : Nat) (ws : List Wid) (stop : Bool)        -- c.R
  | xwCW (cid : Nat) (ws : List Wid)                         -- –         next: c.mx.Lock
  | xwGI (cid : Nat) (wid : Wid) (reg : Nat) (rest : List Wid) (k : Nat)     -- c.W next: GetInformer
  | xwRH (cid : Nat) (wid : Wid) (reg : Nat) (rest : List Wid) (k h : Nat)   -- c.W next: RemoveEventHandler
  -- GetWatches
  | gwLU (o : Option Nat)                                    -- e.R
  | gwCR (cid : Nat)                                         -- –         next: c.mx.RLock
  | gwCRrel (cid : Nat) (l : List Wid)                       -- c.R
  -- GarbageCollectWatchesNow: List, then GetWatches, then StopWatches
  | gc1 (n : Nat) (refs : List Nat)                          -- –         next: e.mx.RLock
  | gcLU (o : Option Nat) (n : Nat) (refs : List Nat)        -- e.R
  | gcCR (cid n : Nat) (refs : List Nat)                     -- –         next: c.mx.RLock
  | gcCRrel (cid : Nat) (l : List Wid) (n : Nat) (refs : List Nat)  -- c.R
  deriving DecidableEq, Repr

structure Thread where
  op : Op
  pc : Pc
  deriving DecidableEq, Repr

structure Sys where
  ctrls : List (Nat × Nat)     -- e.controllers : name ↦ cid
  objs : List Ctl              -- controller objects by cid
  tracked : List Nat           -- InformerTrackingCache.active
  live : List (Nat × Nat)      -- existing informers: gvk ↦ generation
  regs : List Reg              -- handler registrations on existing informers
  nextGen : Nat
  nextReg : Nat
  threads : List Thread
  log : List Ev
  deriving DecidableEq, Repr

def init (ops : List Op) : Sys :=
  { ctrls := [], objs := [], tracked := [], live := [], regs := [], nextGen := 0, nextReg := 0,
    threads := ops.map (fun o => ⟨o, .idle⟩), log := [] }

/-! ### locks, derived from program counters -/

inductive Mode | n | r | w
  deriving DecidableEq, Repr

structure Held where
  e : Mode
  c : Option (Nat × Mode)
  deriving DecidableEq, Repr

def Mode.compat : Mode → Mode → Bool
  | .n, _ => true
  | _, .n => true
  | .r, .r => true
  | _, _ => false

def Held.compat (a b : Held) : Bool :=
  a.e.compat b.e &&
  (match a.c, b.c with
   | some (c1, m1), some (c2, m2) => c1 != c2 || m1.compat m2
   | _, _ => true)

def Pc.held : Pc → Held
  | .idle | .done _ => ⟨.n, none⟩
  | .relE _ | .stNC _ | .spC _ _ => ⟨.w, none⟩
  | .relCE cid _ | .spLoop _ cid | .spGI _ cid _ _ | .spRH _ cid _ _ _ => ⟨.w, some (cid, .w)⟩
  | .relC cid _ | .swAI2 cid _ | .swGI cid _ _ _ _ | .swAH cid _ _ _ _ _
  | .xwGI cid _ _ _ _ | .xwRH cid _ _ _ _ _ => ⟨.n, some (cid, .w)⟩
  | .irRel _ | .swLU _ _ | .xwLU _ _ | .gwLU _ | .gcLU _ _ _ => ⟨.r, none⟩
  | .swAI _ _ | .swCR _ _ _ | .swCW _ _ _ | .xw0 _ _ | .xwCR _ _ | .xwCW _ _ | .gwCR _
  | .gc1 _ _ | .gcCR _ _ _ => ⟨.n, none⟩
  | .swCRrel cid _ _ _ | .xwCRrel cid _ _ | .gwCRrel cid _ | .gcCRrel cid _ _ _ => ⟨.n, some (cid, .r)⟩

def freeAux (want : Held) (i : Nat) : Nat → List Thread → Bool
  | _, [] => true
  | j, u :: us => (j == i || want.compat u.pc.held) && freeAux want i (j + 1) us

/-- thread `i` may move to a pc holding `want`: compatible with what every other thread holds -/
def free (s : Sys) (i : Nat) (want : Held) : Bool := freeAux want i 0 s.threads

/-! ### global actions -/

inductive Act
  | nop
  | newCtl (n : Nat)
  | finishStop (n cid : Nat)
  | getInformer (g : Nat) (fault : Bool)
  | addReg (cid : Nat) (wid : Wid) (h : Nat)
  | delReg (cid : Nat) (wid : Wid) (reg : Nat)
  | rmInformer (g : Nat)
  | logEv (e : Ev)
  deriving DecidableEq, Repr

def modCtl (cid : Nat) (f : Ctl → Ctl) (objs : List Ctl) : List Ctl :=
  match objs[cid]? with
  | some c => objs.set cid (f c)
  | none => objs

def srcsOf (s : Sys) (cid : Nat) : List (Wid × Nat) :=
  match s.objs[cid]? with
  | some c => c.sources
  | none => []

def stoppedOf (s : Sys) (cid : Nat) : Bool :=
  match s.objs[cid]? with
  | some c => c.stopped
  | none => false

def Act.apply : Act → Sys → Sys
  | .nop, s => s
  | .newCtl n, s =>
    { s with ctrls := (n, s.objs.length) :: s.ctrls,
             objs := s.objs ++ [⟨n, [], false, false⟩],
             log := .startOk n s.objs.length :: s.log }
  | .finishStop n cid, s =>
    { s with ctrls := adel n s.ctrls,
             objs := modCtl cid (fun c => { c with cancelled := true, stopped := true }) s.objs,
             log := .stopOk n cid :: s.log }
  | .getInformer g fault, s =>
    let tr := if s.tracked.contains g then s.tracked else g :: s.tracked
    if fault then { s with tracked := tr }
    else match aget g s.live with
      | some _ => { s with tracked := tr }
      | none => { s with tracked := tr, live := (g, s.nextGen) :: s.live, nextGen := s.nextGen + 1 }
  | .addReg cid wid h, s =>
    { s with regs := ⟨s.nextReg, cid, wid, h⟩ :: s.regs,
             objs := modCtl cid (fun c => { c with sources := aset wid s.nextReg c.sources }) s.objs,
             nextReg := s.nextReg + 1 }
  | .delReg cid wid reg, s =>
    { s with regs := s.regs.filter (fun r => decide (r.id ≠ reg)),
             objs := modCtl cid (fun c => { c with sources := adel wid c.sources }) s.objs }
  | .rmInformer g, s =>
    { s with tracked := s.tracked.filter (fun x => decide (x ≠ g)),
             live := adel g s.live,
             regs := s.regs.filter (fun r => decide (r.wid.gvk ≠ g)) }
  | .logEv e, s => { s with log := e :: s.log }

/-! ### the loops of StartWatches / StopWatches and the collector's decision -/

/-- first watch of `ws` that StartWatches will start: it skips a watch that exists and
whose informer is active according to `a`, or (D2 fix) that this very call started (`st`) -/
def swNext (srcs : List (Wid × Nat)) (a : List Nat) (st : List Wid) : List Wid → Option (Wid × List Wid)
  | [] => none
  | w :: rest =>
    if (aget w srcs).isSome && (a.contains w.gvk || st.contains w) then swNext srcs a st rest else some (w, rest)

/-- first watch of `ws` that StopWatches will stop: the first that exists -/
def xwNext (srcs : List (Wid × Nat)) : List Wid → Option (Wid × Nat × List Wid)
  | [] => none
  | w :: rest =>
    match aget w srcs with
    | some reg => some (w, reg, rest)
    | none => xwNext srcs rest

/-- the watches the collector asks StopWatches to stop, given the running watches it read
and the kinds the XRs reference -/
def gcStop (cfg : Cfg) (running : List Wid) (refs : List Nat) : List Wid :=
  running.filter (fun w =>
    if cfg.fixD3 then decide (w.ty = .composed) && !refs.contains w.gvk
    else !(decide (w.ty = .composed) && refs.contains w.gvk))

def swPc (cid : Nat) (a : List Nat) (st : List Wid) : Option (Wid × List Wid) → Pc
  | none => .relC cid .ok
  | some (w, rest) => .swGI cid a st w rest

def xwPc (cid : Nat) (k : Nat) : Option (Wid × Nat × List Wid) → Pc
  | none => .relC cid (.count k true)
  | some (w, reg, rest) => .xwGI cid w reg rest k

/-- the informer handle GetInformer returns in state `s` -/
def handle (s : Sys) (g : Nat) : Nat :=
  match aget g s.live with
  | some h => h
  | none => s.nextGen

/-- The class of error a failing call returns (apimachinery's NotFound / Conflict / AlreadyExists /
Invalid / Forbidden / TooManyRequests, a RESTMapper NoKindMatch, a transport error that is
Temporary(), a context deadline or cancellation, anything else). No function of engine.go,
source.go, cache.go or watch.go inspects the error it gets: it wraps and returns it. `next` below
therefore never reads `Choice.cls`; it is part of every step's choice so that "for every fault"
in the theorems reads "for every fault of every class" (`error_class_irrelevant`), and the
correspondence harness injects each class at each call. -/
inductive ErrClass
  | generic | notFound | conflict | alreadyExists | invalid | forbidden | noKindMatch
  | transportTemporary | deadlineExceeded | cancelled | tooManyRequests
  deriving DecidableEq, Repr, Inhabited

structure Choice where
  fault : Bool := false   -- the call that leaves the engine fails
  cls : ErrClass := .generic   -- ... with an error of this class
  pick : Wid := default   -- Go map iteration: which source `range c.sources` yields next
  perm : List Wid := []   -- Go map iteration: the order in which GetWatches listed the watches the collector stops
  deriving Repr

def acquire (s : Sys) (i : Nat) (pc' : Pc) (act : Act := .nop) : Option (Pc × Act) :=
  if free s i pc'.held then some (pc', act) else none

/-- One step of thread `i` (its record is `t`): the next pc and the global action. `none` =
finished, or waiting for a lock. -/
def next (cfg : Cfg) (s : Sys) (i : Nat) (t : Thread) (ch : Choice) : Option (Pc × Act) :=
  match t.pc with
  | .done _ => none
  | .idle =>
    match t.op with
    | .start n =>                                 -- e.mx.Lock(); _, running := e.controllers[name]
      acquire s i (match aget n s.ctrls with | some _ => .relE .ok | none => .stNC n)
    | .stop n =>                                  -- e.mx.Lock(); c, running := e.controllers[name]
      acquire s i (match aget n s.ctrls with | some cid => .spC n cid | none => .relE .ok)
    | .isRunning n =>                             -- e.mx.RLock(); _, running := e.controllers[name]
      acquire s i (.irRel (aget n s.ctrls).isSome) (.logEv (.isRunning n (aget n s.ctrls).isSome))
    | .startWatches n ws => acquire s i (.swLU (aget n s.ctrls) ws)
    | .stopWatches n ws => acquire s i (.xwLU (aget n s.ctrls) ws)
    | .getWatches n => acquire s i (.gwLU (aget n s.ctrls))
    | .gc n xrs =>                                -- gc.engine.GetCached().List(ctx, l); used := every ref of every item
      if ch.fault then some (.done .err, .nop) else some (.gc1 n (refsOf xrs), .nop)
    | .removeInformer g => some (.done .ok, .rmInformer g)
    | .cacheRead g =>                             -- c.active[gvk] = true; c.Cache.Get / List / GetInformerForKind
      some (.done (if ch.fault then .err else .ok), .getInformer g ch.fault)
  | .relE r => some (.done r, .nop)
  | .relCE _ r => some (.relE r, .nop)
  | .relC _ r => some (.done r, .nop)
  -- Start
  | .stNC n =>                                    -- co.nc(name, e.mgr, co.runtime); e.controllers[name] = r
    if ch.fault then some (.relE .err, .nop) else some (.relE .ok, .newCtl n)
  -- Stop
  | .spC n cid => acquire s i (.spLoop n cid)     -- c.mx.Lock()
  | .spLoop n cid =>                              -- for wid, w := range c.sources
    match srcsOf s cid with
    | [] => some (.relCE cid .ok, .finishStop n cid)      -- c.cancel(); delete(e.controllers, name)
    | _ :: _ =>
      match aget ch.pick (srcsOf s cid) with
      | some reg => some (.spGI n cid ch.pick reg, .nop)
      | none => none
  | .spGI n cid wid reg =>                        -- w.Stop: s.infs.GetInformer(ctx, s.Type)
    if ch.fault then some (.relCE cid .err, .getInformer wid.gvk true)
    else some (.spRH n cid wid reg (handle s wid.gvk), .getInformer wid.gvk false)
  | .spRH n cid wid reg _ =>                      -- i.RemoveEventHandler(s.reg); delete(c.sources, wid)
    if ch.fault then some (.relCE cid .err, .nop) else some (.spLoop n cid, .delReg cid wid reg)
  -- IsRunning
  | .irRel b => some (.done (.bool b), .nop)
  -- StartWatches
  | .swLU o ws =>                                 -- e.mx.RUnlock(); if !running { return error }
    match o with
    | none => some (.done .notRunning, .nop)
    | some cid => some (.swAI cid ws, .nop)
  | .swAI cid ws => some (.swCR cid ws s.tracked, .nop)    -- a := e.infs.ActiveInformers()
  | .swCR cid ws a =>                             -- c.mx.RLock(); start := ...
    acquire s i (.swCRrel cid ws a (swNext (srcsOf s cid) a [] ws).isSome)
  | .swCRrel cid ws a start =>                    -- c.mx.RUnlock(); if !start { return nil }
    if start then some (.swCW cid ws a, .nop) else some (.done .ok, .nop)
  | .swCW cid ws a =>                             -- c.mx.Lock()
    acquire s i
      (if cfg.fixD12 && stoppedOf s cid then .relC cid .notRunning
       else if cfg.fixD2 then .swAI2 cid ws
       else swPc cid a [] (swNext (srcsOf s cid) a [] ws))
  | .swAI2 cid ws =>                              -- (D2 fix) a = e.infs.ActiveInformers()
    some (swPc cid s.tracked [] (swNext (srcsOf s cid) s.tracked [] ws), .nop)
  | .swGI cid a st wid rest =>                    -- c.ctrl.Watch(src) → src.Start: s.infs.GetInformer
    if ch.fault then some (.relC cid .err, .getInformer wid.gvk true)
    else some (.swAH cid a st wid rest (handle s wid.gvk), .getInformer wid.gvk false)
  | .swAH cid a st wid rest h =>                  -- i.AddEventHandler(...); c.sources[wid] = src; (D2 fix) started[wid] = true
    if ch.fault || aget wid.gvk s.live != some h then some (.relC cid .err, .nop)
    else
      let st' := if cfg.fixD2 then wid :: st else st
      some (swPc cid a st' (swNext (aset wid s.nextReg (srcsOf s cid)) a st' rest), .addReg cid wid h)
  -- StopWatches
  | .xw0 n ws => acquire s i (.xwLU (aget n s.ctrls) ws)
  | .xwLU o ws =>
    match o with
    | none => some (.done .notRunning, .nop)
    | some cid => some (.xwCR cid ws, .nop)
  | .xwCR cid ws => acquire s i (.xwCRrel cid ws (xwNext (srcsOf s cid) ws).isSome)
  | .xwCRrel cid ws stop =>
    if stop then some (.xwCW cid ws, .nop) else some (.done (.count 0 true), .nop)
  | .xwCW cid ws => acquire s i (xwPc cid 0 (xwNext (srcsOf s cid) ws))
  | .xwGI cid wid reg rest k =>
    if ch.fault then some (.relC cid (.count k false), .getInformer wid.gvk true)
    else some (.xwRH cid wid reg rest k (handle s wid.gvk), .getInformer wid.gvk false)
  | .xwRH cid wid reg rest k _ =>
    if ch.fault then some (.relC cid (.count k false), .nop)
    else some (xwPc cid (k + 1) (xwNext (adel wid (srcsOf s cid)) rest), .delReg cid wid reg)
  -- GetWatches
  | .gwLU o =>
    match o with
    | none => some (.done .notRunning, .nop)
    | some cid => some (.gwCR cid, .nop)
  | .gwCR cid => acquire s i (.gwCRrel cid ((srcsOf s cid).map (·.1)))
  | .gwCRrel _ l => some (.done (.watches l), .nop)
  -- collector
  | .gc1 n refs => acquire s i (.gcLU (aget n s.ctrls) n refs)
  | .gcLU o n refs =>
    match o with
    | none => some (.done .err, .nop)
    | some cid => some (.gcCR cid n refs, .nop)
  | .gcCR cid n refs => acquire s i (.gcCRrel cid ((srcsOf s cid).map (·.1)) n refs)
  | .gcCRrel _ l n refs =>
    -- GetWatches returns the watches in map order; the order only matters for the stop list
    match gcStop cfg l refs with
    | [] => some (.done .ok, .nop)
    | w :: ws => if ch.perm.isPerm (w :: ws) then some (.xw0 n ch.perm, .nop) else none

def step (cfg : Cfg) (s : Sys) (i : Nat) (ch : Choice) : Option Sys :=
  match s.threads[i]? with
  | none => none
  | some t =>
    match next cfg s i t ch with
    | none => none
    | some (pc', act) => some (act.apply { s with threads := s.threads.set i { t with pc := pc' } })

/-- states reachable from `init ops` under any schedule, any faults, any map order -/
inductive Reachable (cfg : Cfg) (ops : List Op) : Sys → Prop
  | init : Reachable cfg ops (init ops)
  | step {s s'} (i : Nat) (ch : Choice) : Reachable cfg ops s → step cfg s i ch = some s' → Reachable cfg ops s'

/-- run a schedule: each entry is (thread, choice) -/
def runSched (cfg : Cfg) (s : Sys) : List (Nat × Choice) → Option Sys
  | [] => some s
  | (i, ch) :: rest =>
    match step cfg s i ch with
    | some s' => runSched cfg s' rest
    | none => none

/-- let thread `i` take `k` steps without faults (map order: first entry) -/
def runThread (cfg : Cfg) (s : Sys) (i : Nat) : Nat → Option Sys
  | 0 => some s
  | k + 1 =>
    match step cfg s i {} with
    | some s' => runThread cfg s' i k
    | none => none

end Xp.C13
