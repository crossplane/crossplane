import Xp.Model.C10World
/-
C10: the call skeletons the model mirrors (tie "a").

For every Go function the C10 model mirrors, the list of its case labels ("case …", "default"),
if-conditions ("if …", `err != nil` left out), ranged-over expressions ("range …"), calls (dotted
chain, receiver stripped; builtins, conversions and error/event constructors left out) and – for the
small predicate/arithmetic functions and the `conversions` table – returns, in source order, AS THE
MODEL WAS WRITTEN AGAINST THEM, one entry per line with the model step that mirrors it (or
"not modelled: why"). harness/main/c10_dump.go regenerates the same lists from the current tree into
Xp.Gen.C10Skel on every check run; lean/Xp/Props/C10.lean states `Xp.Gen.c10Skel… = skel…` for each
(theorems skeleton_*), so that inserting, removing or reordering a call, a case, a guard or a table
entry in one of these functions fails an obligation before any scenario is run.
-/
namespace Xp.C10

/-- Apply  —  mirrored by applyWith -/
def skelApply : List String :=
  ["ApplyToObjects"]  -- applyWith

/-- ApplyToObjects  —  mirrored by applyWith -/
def skelApplyToObjects : List String :=
  ["if filterPatch(p, only...)",  -- `if filtered p only then ⟨xr, cd, none⟩`
   "filterPatch",  -- filtered p only
   "p.GetType",  -- Patch.getType
   "case v1.PatchTypeFromCompositeFieldPath",  -- arm "FromCompositeFieldPath"
   "ApplyFromFieldPathPatch",  -- applyFromFieldPathWith (source/destination as in the arm above)
   "case v1.PatchTypeToCompositeFieldPath",  -- arm "ToCompositeFieldPath"
   "ApplyFromFieldPathPatch",  -- applyFromFieldPathWith (source/destination as in the arm above)
   "case v1.PatchTypeCombineFromComposite",  -- arm "CombineFromComposite"
   "ApplyCombineFromVariablesPatch",  -- applyCombineWith (source/destination as in the arm above)
   "case v1.PatchTypeCombineToComposite",  -- arm "CombineToComposite"
   "ApplyCombineFromVariablesPatch",  -- applyCombineWith (source/destination as in the arm above)
   "case v1.PatchTypePatchSet"]  -- arm "PatchSet"

/-- filterPatch  —  mirrored by filtered -/
def skelFilterPatch : List String :=
  ["if len(only) == 0",  -- !only.isEmpty
   "return false",  -- no filter: not filtered
   "range only",  -- recursion in filtered
   "if patchType == p.Type",  -- only.contains p.type (the RAW type: an empty type is filtered)
   "return false",  -- the raw type is in `only`
   "return true"]  -- filtered: Apply returns nil without touching either object

/-- ResolveTransforms  —  mirrored by resolveAllWith -/
def skelResolveTransforms : List String :=
  ["range c.Transforms",  -- the recursion of resolveAllWith
   "Resolve"]  -- resolveWith, one step of resolveAllWith

/-- patchFieldValueToMultiple  —  mirrored by patchToMultiple -/
def skelPatchToMultiple : List String :=
  ["fieldpath.PaveObject",  -- not modelled: objects are V values already (the conversion of an unstructured object cannot fail)
   "paved.ExpandWildcards",  -- expandIn (path segments shipped by the harness: the parser is an oracle)
   "if len(arrayFieldPaths) == 0",  -- `.ok [] => expand`
   "range arrayFieldPaths",  -- mergeAll
   "paved.MergeValue",  -- mergeValue (mergeAll over the expanded paths in patchToMultiple)
   "runtime.DefaultUnstructuredConverter.FromUnstructured",  -- fromUnstructured
   "paved.UnstructuredContent"]  -- the V value itself

/-- ApplyFromFieldPathPatch  —  mirrored by applyFromFieldPathWith -/
def skelApplyFromFieldPath : List String :=
  ["if p.FromFieldPath == nil",  -- `match p.fromPath with | none => required`
   "if p.ToFieldPath == nil",  -- tp := p.toPath.getD fp
   "runtime.DefaultUnstructuredConverter.ToUnstructured",  -- not modelled: the source is a V value already (JSON round trip of an unstructured object is the identity on the generated values)
   "fieldpath.Pave.GetValue",  -- getPath src path
   "fieldpath.Pave",  -- the V value itself
   "if IsOptionalFieldPathNotFound(err, p.Policy)",  -- `.error .notFound => if p.optional then ⟨to, none⟩` (theorem optional_missing_noop)
   "IsOptionalFieldPathNotFound",  -- the arm `.error .notFound => if p.optional …`
   "if p.Policy != nil",  -- Patch.mo
   "ResolveTransforms",  -- resolveAllWith sel p.xfs
   "if strings.Contains(*p.ToFieldPath, \"[*]\")",  -- `if containsSub tp.raw "[*]"`
   "strings.Contains",  -- containsSub tp.raw "[*]"
   "patchFieldValueToMultiple",  -- patchToMultiple
   "patchFieldValueToObject"]  -- patchToObject

/-- ApplyCombineFromVariablesPatch  —  mirrored by applyCombineWith, combineVars -/
def skelApplyCombine : List String :=
  ["if p.Combine == nil",  -- `match p.combine with | none => required`
   "if p.ToFieldPath == nil",  -- `match p.toPath with | none => required`
   "if vl < 1",  -- `if c.variables.length < 1` -> combineVars
   "runtime.DefaultUnstructuredConverter.ToUnstructured",  -- not modelled: the source is a V value already (JSON round trip of an unstructured object is the identity on the generated values)
   "range p.Combine.Variables",  -- combineVars p src c.variables
   "fieldpath.Pave.GetValue",  -- getPath src path
   "fieldpath.Pave",  -- the V value itself
   "if IsOptionalFieldPathNotFound(err, p.Policy)",  -- `.error .notFound => if p.optional then .ok none` (theorem optional_missing_noop_combine)
   "IsOptionalFieldPathNotFound",  -- the arm `.error .notFound => if p.optional …`
   "Combine",  -- combineVals
   "ResolveTransforms",  -- resolveAllWith sel p.xfs
   "patchFieldValueToObject"]  -- patchToObject [] tp out to none (never merge options)

/-- IsOptionalFieldPathNotFound  —  mirrored by Patch.optional and the `.error .notFound` arms of applyFromFieldPathWith / combineVars -/
def skelIsOptional : List String :=
  ["case p == nil",  -- Patch.optional: `| none => true`
   "case p.FromFieldPath == nil",  -- Patch.optional: `| none => true` (policy without fromFieldPath)
   "case *p.FromFieldPath == v1.FromFieldPathPolicyOptional",  -- Patch.optional: `s == "Optional"`
   "return fieldpath.IsNotFound(err)",  -- the `.error .notFound` pattern (only notFound, no other lookup error)
   "fieldpath.IsNotFound",  -- the pattern `.error .notFound`
   "default",  -- the `_ =>` arm
   "return false"]  -- Required or any unknown policy: the error is returned

/-- Combine  —  mirrored by combineVals -/
def skelCombine : List String :=
  ["case v1.CombineStrategyString",  -- arm "string"
   "if c.String == nil",  -- `match c.fmt with | none => combineCfg`
   "CombineString",  -- sprintfLite f vars, else the oracle entry "out" keyed by the variables
   "default"]  -- the `_ =>` arm

/-- CombineString  —  mirrored by combineVals (sprintfLite, else the oracle) -/
def skelCombineString : List String :=
  ["fmt.Sprintf"]  -- sprintfLite f vars, else the oracle entry "out" keyed by the variables

/-- ComposedTemplates  —  mirrored by inlineAll = setsValid + inlineEach / inlinePatches / lookupSet (Model/C10World.lean) -/
def skelComposedTemplates : List String :=
  ["range pss",  -- setsValid / lookupSet (the LAST set of a name wins)
   "range s.Patches",  -- setsValid: s.patches.all
   "if p.Type == v1.PatchTypePatchSet",  -- p.type != "PatchSet" in setsValid
   "range cts",  -- inlineEach
   "range r.Patches",  -- inlinePatches
   "if p.Type != v1.PatchTypePatchSet",  -- `if p.type = "PatchSet" … else (inlinePatches pss ps).map (p :: ·)`
   "if p.PatchSetName == nil",  -- `match p.setName with | none => none`
   "if !ok"]  -- `match lookupSet n pss with | none => none` (theorem inline_by_exact_name)

/-- mergePath  —  mirrored by mergePath (Model/C10Compose.lean) -/
def skelMergePath : List String :=
  ["fieldpath.PaveObject",  -- not modelled: objects are V values already (the conversion of an unstructured object cannot fail)
   "srcPaved.GetValue",  -- getPath src path (every error and a nil value mean: nothing to merge)
   "if fieldpath.IsNotFound(err) || val == nil",  -- the two "nothing to merge" arms
   "fieldpath.IsNotFound",  -- `.error _ => ⟨dst, none⟩` and `.ok .null => ⟨dst, none⟩`: GetValue returns nil with every error
   "patchFieldValueToObject"]  -- patchToObject

/-- mergeReplace  —  mirrored by mergeReplace -/
def skelMergeReplace : List String :=
  ["src.DeepCopyObject",  -- values are immutable in the model
   "mergePath",  -- mergePath orc path current desired mo (onto the copy of current)
   "mergePath"]  -- mergePath [] path desired o1.to none (the merged value replaces desired's)

/-- withMergeOptions  —  mirrored by one step of applyOpts -/
def skelWithMergeOptions : List String :=
  ["mergeReplace"]  -- mergeReplace p.applyOrc tp current desired mo

/-- mergeOptions  —  mirrored by Patch.applyOpt, applyOpts -/
def skelMergeOptions : List String :=
  ["range pas",  -- the recursion of applyOpts
   "if p.Policy == nil || p.ToFieldPath == nil",  -- `match p.policy, p.toPath with | some pol, some tp => … | _, _ => none`
   "withMergeOptions"]  -- the option `some (tp, pol.mergeOptions)` of Patch.applyOpt

/-- patchFieldValueToObject  —  mirrored by patchToObject -/
def skelPatchToObject : List String :=
  ["fieldpath.PaveObject",  -- not modelled: objects are V values already (the conversion of an unstructured object cannot fail)
   "paved.MergeValue",  -- mergeValue (mergeAll over the expanded paths in patchToMultiple)
   "runtime.DefaultUnstructuredConverter.FromUnstructured",  -- fromUnstructured
   "paved.UnstructuredContent"]  -- the V value itself

/-- Resolve  —  mirrored by resolveWith -/
def skelResolve : List String :=
  ["case v1.TransformTypeMath",  -- arm "math"
   "if t.Math == nil",  -- guard in resolveWith
   "ResolveMath",  -- resolveMath
   "case v1.TransformTypeMap",  -- arm "map"
   "if t.Map == nil",  -- guard in resolveWith
   "ResolveMap",  -- resolveMap
   "case v1.TransformTypeMatch",  -- arm "match"
   "if t.Match == nil",  -- guard in resolveWith
   "ResolveMatch",  -- resolveMatch
   "case v1.TransformTypeString",  -- arm "string"
   "if t.String == nil",  -- guard in resolveWith
   "ResolveString",  -- resolveStringWith sel
   "case v1.TransformTypeConvert",  -- arm "convert"
   "if t.Convert == nil",  -- guard in resolveWith
   "ResolveConvert",  -- resolveConvert
   "default"]  -- the `_ =>` arm

/-- ResolveMath  —  mirrored by resolveMath -/
def skelResolveMath : List String :=
  ["t.Validate",  -- MathCfg.valid / the formatValid and ioTypeValid tests
   "case int",  -- not reachable: an unstructured object never holds an `int`
   "case int64",  -- `.num i`
   "case float64",  -- `.flt _`
   "default",  -- the `_ =>` arm
   "t.GetType",  -- MathCfg.getType
   "case v1.MathTransformTypeMultiply",  -- arm "Multiply"
   "resolveMathMultiply",  -- wrap64 (i * multiply) for int64, oracle key "fmul" for float64
   "case v1.MathTransformTypeClampMin",  -- arm "ClampMin"
   "case v1.MathTransformTypeClampMax",  -- arm "ClampMax"
   "resolveMathClamp",  -- the clamp arms (int64 computed; float64 comparison through oracle keys "ltMin"/"gtMax")
   "default"]  -- the `_ =>` arm

/-- resolveMathMultiply  —  mirrored by the "Multiply" arms of resolveMath -/
def skelMathMultiply : List String :=
  ["case int",  -- not reachable: an unstructured object never holds an `int`
   "return int64(i) * *t.Multiply, nil",  -- not reachable: an unstructured object never holds an `int`
   "case int64",  -- `.num i`
   "return i * *t.Multiply, nil",  -- .num (wrap64 (i * multiply)): int64 multiplication wraps (theorem multiply_int_wraps)
   "case float64",  -- `.flt _`
   "return i * float64(*t.Multiply), nil",  -- oracle key "fmul"
   "default",  -- the `_ =>` arm
   "return nil, errors.Errorf(errFmtMathInputNonNumber, input)"]  -- error result of the arm above

/-- resolveMathClamp  —  mirrored by the "ClampMin"/"ClampMax" arms of resolveMath -/
def skelMathClamp : List String :=
  ["case int",  -- not reachable: an unstructured object never holds an `int`
   "case int64",  -- `.num i`
   "case float64",  -- `.flt _`
   "t.GetType",  -- MathCfg.getType
   "case v1.MathTransformTypeClampMin",  -- arm "ClampMin"
   "if i < float64(*t.ClampMin)",  -- oracle verdict "ltMin" (float comparison), theorem clamp_min_float
   "return *t.ClampMin, nil",  -- result of the arm above
   "case v1.MathTransformTypeClampMax",  -- arm "ClampMax"
   "if i > float64(*t.ClampMax)",  -- oracle verdict "gtMax", theorem clamp_max_float (D17 compared after truncation)
   "return *t.ClampMax, nil",  -- result of the arm above
   "default",  -- the `_ =>` arm
   "return nil, errors.Errorf(errMathTransformTypeFailed, string(t.Type))",  -- error result of the arm above
   "return input, nil",  -- result of the arm above
   "default",  -- the `_ =>` arm
   "return nil, errors.Errorf(errFmtMathInputNonNumber, input)",  -- error result of the arm above
   "t.GetType",  -- MathCfg.getType
   "case v1.MathTransformTypeClampMin",  -- arm "ClampMin"
   "if in < *t.ClampMin",  -- `if i < m.clampMin.getD 0`, theorem clamp_min_int
   "return *t.ClampMin, nil",  -- result of the arm above
   "case v1.MathTransformTypeClampMax",  -- arm "ClampMax"
   "if in > *t.ClampMax",  -- `if i > m.clampMax.getD 0`, theorem clamp_max_int
   "return *t.ClampMax, nil",  -- result of the arm above
   "default",  -- the `_ =>` arm
   "return nil, errors.Errorf(errMathTransformTypeFailed, string(t.Type))",  -- error result of the arm above
   "return input, nil"]  -- result of the arm above

/-- ResolveMap  —  mirrored by resolveMap -/
def skelResolveMap : List String :=
  ["case string",  -- `.str s`
   "if !ok",  -- `| none => .error .mapKey`
   "json.Unmarshal",  -- decoded by the harness into Raw (.val / .bad / .empty / .nil): encoding/json is an oracle
   "default",  -- the `_ =>` arm
   "fmt.Sprintf"]  -- text of the error only (class mapType)

/-- ResolveMatch  —  mirrored by resolveMatch, matchLoop -/
def skelResolveMatch : List String :=
  ["range t.Patterns",  -- recursion in resolveMatch, matchLoop
   "Matches",  -- patternMatches orc i p input
   "if matches",  -- `.ok true => rawOrNil p.result`
   "unmarshalJSON",  -- rawOrNil p.result
   "if t.FallbackTo == v1.MatchFallbackToTypeInput",  -- m.fallbackTo == "Input"
   "if t.FallbackValue.Size() != 0",  -- m.fallbackValue.sized -> matchFallbackBoth
   "t.FallbackValue.Size",  -- Raw.sized
   "unmarshalJSON"]  -- rawOrNil m.fallbackValue

/-- Matches  —  mirrored by patternMatches -/
def skelMatches : List String :=
  ["case v1.MatchTransformPatternTypeLiteral",  -- arm "literal"
   "matchesLiteral",  -- the "literal" arm
   "case v1.MatchTransformPatternTypeRegexp",  -- arm "regexp"
   "matchesRegexp"]  -- the "regexp" arm

/-- matchesLiteral  —  mirrored by the "literal" arm of patternMatches -/
def skelMatchesLiteral : List String :=
  ["if p.Literal == nil",  -- `| none => .error .required`
   "return false, errors.Errorf(errFmtRequiredField, \"literal\", v1.MatchTransformPatternTypeLiteral)",  -- error result of the arm above
   "if !ok",  -- `| _ => .error .matchInput`
   "return false, errors.Errorf(errFmtMatchInputTypeInvalid, fmt.Sprintf(\"%T\", input))",  -- error result of the arm above
   "fmt.Sprintf",  -- text of the error only (class matchInput)
   "return inputStr == *p.Literal, nil"]  -- .ok (s == lit)

/-- matchesRegexp  —  mirrored by the "regexp" arm of patternMatches -/
def skelMatchesRegexp : List String :=
  ["if p.Regexp == nil",  -- `| none => .error .required`
   "return false, errors.Errorf(errFmtRequiredField, \"regexp\", v1.MatchTransformPatternTypeRegexp)",  -- error result of the arm above
   "regexp.Compile",  -- oracle: compile verdict ("ok" per pattern / "compile")
   "return false, errors.Wrap(err, errMatchRegexpCompile)",  -- error result of the arm above
   "if input == nil",  -- `| _ => .error .matchInput` (after the compile verdict)
   "return false, errors.Errorf(errFmtMatchInputTypeInvalid, \"null\")",  -- error result of the arm above
   "if !ok",  -- `| _ => .error .matchInput`
   "return false, errors.Errorf(errFmtMatchInputTypeInvalid, fmt.Sprintf(\"%T\", input))",  -- error result of the arm above
   "fmt.Sprintf",  -- text of the error only (class matchInput)
   "return re.MatchString(inputStr), nil",  -- result of the arm above
   "re.MatchString"]  -- oracle: match verdict "m" (valid only for the input the oracle is keyed by)

/-- unmarshalJSON  —  mirrored by rawOrNil -/
def skelUnmarshalJSON : List String :=
  ["if len(j.Raw) == 0",  -- Raw.nil / Raw.empty => .ok .null
   "return nil",  -- result of the arm above
   "return json.Unmarshal(j.Raw, output)",  -- result of the arm above
   "json.Unmarshal"]  -- decoded by the harness into Raw (.val / .bad / .empty / .nil): encoding/json is an oracle

/-- ResolveString  —  mirrored by resolveStringWith -/
def skelResolveString : List String :=
  ["case v1.StringTransformTypeFormat",  -- arm "Format"
   "if t.Format == nil",  -- guard in resolveStringWith
   "fmt.Sprintf",  -- fmtStr: sprintfLite computed on the plain fragment, oracle key "fmt" otherwise
   "case v1.StringTransformTypeConvert",  -- arm "Convert"
   "if t.Convert == nil",  -- guard in resolveStringWith
   "stringConvertTransform",  -- stringConvert
   "case v1.StringTransformTypeTrimPrefix",  -- arm "TrimPrefix"
   "case v1.StringTransformTypeTrimSuffix",  -- arm "TrimSuffix"
   "if t.Trim == nil",  -- guard in resolveStringWith
   "stringTrimTransform",  -- trimPrefix / trimSuffix over fmtV
   "case v1.StringTransformTypeRegexp",  -- arm "Regexp"
   "if t.Regexp == nil",  -- guard in resolveStringWith
   "stringRegexpTransform",  -- stringRegexpWith sel
   "case v1.StringTransformTypeJoin",  -- arm "Join"
   "if t.Join == nil",  -- guard in resolveStringWith
   "stringJoinTransform",  -- stringJoin
   "default"]  -- the `_ =>` arm

/-- stringConvertTransform  —  mirrored by stringConvert -/
def skelStringConvert : List String :=
  ["fmt.Sprintf",  -- fmtV (computed for string/int64/bool/nil, oracle key "pv" otherwise)
   "case v1.StringConversionTypeToUpper",  -- arm "ToUpper"
   "strings.ToUpper",  -- upperOf: asciiUpper computed, oracle key "upper" for non-ASCII text
   "case v1.StringConversionTypeToLower",  -- arm "ToLower"
   "strings.ToLower",  -- lowerOf: asciiLower computed, oracle key "lower" for non-ASCII text
   "case v1.StringConversionTypeToJSON",  -- arm "ToJson"
   "json.Marshal",  -- oracle key "json"
   "case v1.StringConversionTypeToBase64",  -- arm "ToBase64"
   "base64.StdEncoding.EncodeToString",  -- oracle key "b64e"
   "case v1.StringConversionTypeFromBase64",  -- arm "FromBase64"
   "base64.StdEncoding.DecodeString",  -- oracle key "b64d"
   "case v1.StringConversionTypeToSHA1",  -- arm "ToSha1"
   "stringGenerateHash",  -- oracle keys "sha1"/"sha256"/"sha512"/"adler"
   "hex.EncodeToString",  -- part of the same oracle entry
   "case v1.StringConversionTypeToSHA256",  -- arm "ToSha256"
   "stringGenerateHash",  -- oracle keys "sha1"/"sha256"/"sha512"/"adler"
   "hex.EncodeToString",  -- part of the same oracle entry
   "case v1.StringConversionTypeToSHA512",  -- arm "ToSha512"
   "stringGenerateHash",  -- oracle keys "sha1"/"sha256"/"sha512"/"adler"
   "hex.EncodeToString",  -- part of the same oracle entry
   "case v1.StringConversionTypeToAdler32",  -- arm "ToAdler32"
   "stringGenerateHash",  -- oracle keys "sha1"/"sha256"/"sha512"/"adler"
   "strconv.FormatUint",  -- part of the oracle entry "adler"
   "default"]  -- the `_ =>` arm

/-- stringGenerateHash  —  mirrored by (oracle keys sha1/sha256/sha512/adler) -/
def skelStringHash : List String :=
  ["case string",  -- oracle (c10HashBytes mirrors the two arms on the harness side)
   "default",  -- the `_ =>` arm
   "json.Marshal",  -- oracle key "json"
   "hashFunc"]  -- oracle

/-- stringTrimTransform  —  mirrored by the "TrimPrefix"/"TrimSuffix" arms of resolveStringWith -/
def skelStringTrim : List String :=
  ["fmt.Sprintf",  -- fmtV (computed for string/int64/bool/nil, oracle key "pv" otherwise)
   "if t == v1.StringTransformTypeTrimPrefix",  -- arm "TrimPrefix"
   "return strings.TrimPrefix(str, trim)",  -- result of the arm above
   "strings.TrimPrefix",  -- trimPrefix
   "if t == v1.StringTransformTypeTrimSuffix",  -- arm "TrimSuffix"
   "return strings.TrimSuffix(str, trim)",  -- result of the arm above
   "strings.TrimSuffix",  -- trimSuffix
   "return str"]  -- result of the arm above

/-- stringRegexpTransform  —  mirrored by stringRegexpWith, selectGroup -/
def skelStringRegexp : List String :=
  ["regexp.Compile",  -- oracle: compile verdict ("ok" per pattern / "compile")
   "return \"\", errors.Wrap(err, errStringTransformTypeRegexpFailed)",  -- error result of the arm above
   "re.FindStringSubmatch",  -- oracle: orcGroups (key "groups")
   "fmt.Sprintf",  -- fmtV (computed for string/int64/bool/nil, oracle key "pv" otherwise)
   "ptr.Deref",  -- r.group.getD 0
   "if len(groups) == 0 || g < 0 || g >= len(groups)",  -- selectGroup: `groups.length == 0 || g < 0 || g ≥ groups.length` (theorem group_index_guard; D1 was the missing `g < 0`)
   "return \"\", errors.Errorf(errStringTransformTypeRegexpNoMatch, r.Match, g)",  -- error result of the arm above
   "return groups[g], nil"]  -- groups[g.toNat]? (proved in range: resolve_never_panics)

/-- stringJoinTransform  —  mirrored by stringJoin, fmtAll -/
def skelStringJoin : List String :=
  ["if !ok",  -- `| _ => .error .joinInput`
   "range inputList",  -- fmtAll
   "fmt.Sprintf",  -- fmtV (computed for string/int64/bool/nil, oracle key "pv" otherwise)
   "strings.Join"]  -- sep.intercalate

/-- ResolveConvert  —  mirrored by resolveConvert -/
def skelResolveConvert : List String :=
  ["t.Validate",  -- MathCfg.valid / the formatValid and ioTypeValid tests
   "v1.TransformIOType",  -- goType input
   "fmt.Sprintf",  -- goType input (`%T`)
   "if !from.IsValid()",  -- guard in resolveConvert
   "from.IsValid",  -- ioTypeValid src0
   "GetConversionFunc",  -- the dst/src normalisation, identity and hasConversion tests
   "f"]  -- convFn orc src dst format input

/-- GetConversionFunc  —  mirrored by resolveConvert (dst/src, identity, hasConversion) -/
def skelGetConversionFunc : List String :=
  ["if to == v1.TransformIOTypeInt",  -- dst := if c.toType == "int" then "int64"
   "if from == v1.TransformIOTypeInt",  -- src := if src0 == "int" then "int64"
   "if to == from",  -- `if dst == src then .ok input` (identity)
   "return func(input any) (any, error) { return input, nil }, nil",  -- result of the arm above
   "return input, nil",  -- result of the arm above
   "t.GetFormat",  -- ConvCfg.getFormat
   "if !ok",  -- `!hasConversion src dst format` -> convPair
   "return nil, errors.Errorf(v1.ErrFmtConvertFormatPairNotSupported, originalFrom, to, t.GetFormat())",  -- error result of the arm above
   "t.GetFormat",  -- ConvCfg.getFormat
   "return f, nil"]  -- result of the arm above

/-- RenderFromJSON  —  mirrored by renderFromJSON (Model/C10Compose.lean) -/
def skelRenderFromJSON : List String :=
  ["o.GetObjectKind.GroupVersionKind",  -- refKind / refApiVersion of the scenario, kindOf afterwards
   "o.GetObjectKind",  -- (same call chain)
   "o.GetName",  -- refName
   "o.GetNamespace",  -- refNamespace
   "json.Unmarshal",  -- base : Option V decoded by the harness; kindOf b == "" is the decoder's "Object 'Kind' is missing"
   "o.SetName",  -- setOrRemoveMeta … "name" refName
   "o.SetNamespace",  -- setOrRemoveMeta … "namespace" refNamespace
   "if !gvk.Empty() && o.GetObjectKind().GroupVersionKind().Kind != gvk.Kind",  -- `(refKind != "" || refApiVersion != "") && kindOf o != refKind` -> kindChanged
   "gvk.Empty",  -- refKind != "" || refApiVersion != ""
   "o.GetObjectKind.GroupVersionKind",  -- refKind / refApiVersion of the scenario, kindOf afterwards
   "o.GetObjectKind",  -- (same call chain)
   "o.GetObjectKind.GroupVersionKind",  -- refKind / refApiVersion of the scenario, kindOf afterwards
   "o.GetObjectKind"]  -- (same call chain)

/-- RenderFromCompositePatches  —  mirrored by renderFromXR -/
def skelRenderFromXR : List String :=
  ["range p",  -- the recursion of renderFromXR (stops at the first error)
   "Apply",  -- apply p xr cd <filter>
   "patchTypesFromXR"]  -- patchTypesFromXR (= Xp.Gen.c10PatchTypesFromXR, theorem patch_type_filters_tied)

/-- RenderToCompositePatches  —  mirrored by renderToXR -/
def skelRenderToXR : List String :=
  ["range p",  -- the recursion of renderToXR
   "Apply",  -- apply p xr cd <filter>
   "patchTypesToXR"]  -- patchTypesToXR (= Xp.Gen.c10PatchTypesToXR)

/-- RenderComposedResourceMetadata  —  mirrored by renderMeta -/
def skelRenderMeta : List String :=
  ["if xr.GetLabels()[xcrd.LabelKeyNamePrefixForComposed] == \"\"",  -- `if pre == ""` -> namePrefixLabel
   "xr.GetLabels",  -- strMap xr "labels" / lookupS
   "cd.SetGenerateName",  -- setMeta cd "generateName" (pre ++ "-")
   "xr.GetLabels",  -- strMap xr "labels" / lookupS
   "if n != \"\"",  -- `if n != ""`
   "SetCompositionResourceName",  -- addStrMap … "annotations" [(annoResourceName, n)]
   "meta.AddLabels",  -- addStrMap … "labels" […]
   "xr.GetLabels",  -- strMap xr "labels" / lookupS
   "xr.GetLabels",  -- strMap xr "labels" / lookupS
   "xr.GetLabels",  -- strMap xr "labels" / lookupS
   "meta.AsController",  -- controller := some true, block := some true
   "meta.TypedReferenceTo",  -- ref : ORef from the XR
   "xr.GetObjectKind.GroupVersionKind",  -- topStr xr "apiVersion" / "kind"
   "xr.GetObjectKind",  -- (same call chain)
   "meta.AddControllerReference"]  -- controllerOf / addORef (error "controllerRef" for a foreign controller)

/-- PTComposer.Compose  —  mirrored by stepW / composeW (composePT in the quiet world): inlineAll, renderTpl, applyLoopW, observeLoopW -/
def skelCompose : List String :=
  ["ComposedTemplates",  -- inlineAll sets (tpls.map (·.patches)) in stepW
   "composition.AssociateTemplates",  -- not modelled: the scenario fixes the association (C01 owns the associator)
   "range tas",  -- renderAll xr tpls
   "composed.New",  -- the reference fields of Tpl (refKind, refApiVersion, refName)
   "composed.FromReference",  -- (same)
   "RenderFromJSON",  -- renderFromJSON in renderTpl; `none` is the terminal error "parseBase"
   "RenderFromCompositePatches",  -- renderFromXR xr o t.patches in renderTpl
   "RenderComposedResourceMetadata",  -- renderMeta r1.cd xr name in renderTpl
   "composed.GenerateName",  -- the name oracle NameGen (keep / name / fail) in renderTpl
   "meta.ReferenceTo",  -- refs := (kindOf r.cd, getMetaStr r.cd "name")
   "r.GetObjectKind.GroupVersionKind",  -- kindOf r.cd
   "r.GetObjectKind",  -- (same call chain)
   "if rendered",  -- Rendered.rendered (cds[i] stays nil otherwise)
   "xr.SetResourceReferences",  -- refs of ComposeRes (the observation compares them)
   "client.Update",  -- the write ⟨"update", none⟩; w.updFails
   "range tas",  -- applyLoopW
   "if cd == nil",  -- `if !r.rendered` in applyLoopW: no Apply for an unrendered resource
   "resource.MustBeControllableBy",  -- notControllable uid cur in applyW
   "xr.GetUID",  -- getMetaStr xr "uid"
   "usage.RespectOwnerRefs",  -- not modelled: a no-op for anything that is not a Usage
   "mergeOptions",  -- applyOpts cur cd t.patches (own template only)
   "filterPatches",  -- Patch.applyOpt: patchTypesFromXR.contains p.type
   "patchTypesFromXR",  -- patchTypesFromXR (= Xp.Gen.c10PatchTypesFromXR, theorem patch_type_filters_tied)
   "client.Apply",  -- applyW uid i t (env i) r.cd: Get, NotFound -> create, else options + merge patch
   "if kerrors.IsInvalid(err)",  -- `if tolerated c` – the loop goes on, the resource is not applied
   "kerrors.IsInvalid",  -- tolerated cls
   "range tas",  -- observeLoopW
   "if cd == nil",  -- `if !applied` in observeLoopW
   "RenderToCompositePatches",  -- renderToXR in observeLoopW
   "composed.FetchConnection",  -- not modelled: connection details are C09's subject
   "composed.ExtractConnection",  -- not modelled (C09)
   "ExtractConfigsFromComposedTemplate",  -- not modelled (C09)
   "range extracted",  -- not modelled (C09)
   "composed.IsReady",  -- not modelled: readiness is C05's subject
   "ReadinessChecksFromComposedTemplate",  -- not modelled (C05)
   "xr.DeepCopy",  -- values are immutable in the model
   "client.Apply",  -- the write ⟨"patch", none⟩; w.xrApplyFails (merge options of the to-XR patches not modelled)
   "mergeOptions",  -- not modelled (see toXRPatchesFromTAs)
   "toXRPatchesFromTAs"]  -- not modelled: the merge options of the to-XR patches on the final Apply (level_note)

/-- toXRPatchesFromTAs  —  mirrored by (not modelled: selects the patches whose merge options accompany the final Apply of the composite, which the model renders as one write) -/
def skelToXRPatchesFromTAs : List String :=
  ["range tas",  -- not modelled
   "filterPatches",  -- Patch.applyOpt: patchTypesFromXR.contains p.type
   "patchTypesToXR"]  -- patchTypesToXR (= Xp.Gen.c10PatchTypesToXR)

/-- filterPatches  —  mirrored by the test `patchTypesFromXR.contains p.type` of Patch.applyOpt -/
def skelFilterPatches : List String :=
  ["range onlyTypes",  -- patchTypesFromXR as a list
   "range pas",  -- recursion in the test `patchTypesFromXR.contains p.type` of Patch.applyOpt
   "if include[p.Type]",  -- patchTypesFromXR.contains p.type (raw type)
   "return filtered"]  -- result of the arm above

/-- Patch.GetType  —  mirrored by Patch.getType -/
def skelPatchGetType : List String :=
  ["if p.Type == \"\"",  -- guard in Patch.getType
   "return PatchTypeFromCompositeFieldPath",  -- result of the arm above
   "return p.Type"]  -- result of the arm above

/-- MathTransform.GetType  —  mirrored by MathCfg.getType -/
def skelMathGetType : List String :=
  ["if m.Type == \"\"",  -- guard in MathCfg.getType
   "return MathTransformTypeMultiply",  -- result of the arm above
   "return m.Type"]  -- result of the arm above

/-- MathTransform.Validate  —  mirrored by MathCfg.valid -/
def skelMathValidate : List String :=
  ["GetType",  -- MathCfg.getType
   "case MathTransformTypeMultiply",  -- arm "Multiply"
   "if m.Multiply == nil",  -- guard in MathCfg.valid
   "case MathTransformTypeClampMin",  -- arm "ClampMin"
   "if m.ClampMin == nil",  -- guard in MathCfg.valid
   "case MathTransformTypeClampMax",  -- arm "ClampMax"
   "if m.ClampMax == nil",  -- guard in MathCfg.valid
   "default"]  -- the `_ =>` arm

/-- ConvertTransform.GetFormat  —  mirrored by ConvCfg.getFormat -/
def skelConvertGetFormat : List String :=
  ["if t.Format != nil",  -- guard in ConvCfg.getFormat
   "return *t.Format",  -- result of the arm above
   "return ConvertTransformFormatNone"]  -- result of the arm above

/-- ConvertTransform.Validate  —  mirrored by the first two tests of resolveConvert -/
def skelConvertValidate : List String :=
  ["if !t.GetFormat().IsValid()",  -- guard in the first two tests of resolveConvert
   "GetFormat.IsValid",  -- formatValid c.getFormat
   "GetFormat",  -- ConvCfg.getFormat
   "if !t.ToType.IsValid()",  -- guard in the first two tests of resolveConvert
   "ToType.IsValid"]  -- ioTypeValid c.toType

/-- TransformIOType.IsValid  —  mirrored by ioTypeValid -/
def skelIOTypeIsValid : List String :=
  ["case TransformIOTypeString",  -- arm "string"
   "case TransformIOTypeBool",  -- arm "bool"
   "case TransformIOTypeInt",  -- arm "int"
   "case TransformIOTypeInt64",  -- arm "int64"
   "case TransformIOTypeFloat64",  -- arm "float64"
   "case TransformIOTypeObject",  -- arm "object"
   "case TransformIOTypeArray",  -- arm "array"
   "return true",  -- result of the arm above
   "return false"]  -- result of the arm above

/-- ConvertTransformFormat.IsValid  —  mirrored by formatValid -/
def skelFormatIsValid : List String :=
  ["case ConvertTransformFormatNone",  -- arm "none"
   "case ConvertTransformFormatQuantity",  -- arm "quantity"
   "case ConvertTransformFormatJSON",  -- arm "json"
   "return true",  -- result of the arm above
   "return false"]  -- result of the arm above

/-- the `conversions` table  —  mirrored by convFn (key set: hasConversion over Xp.Gen.c10Conversions) -/
def skelConversions : List String :=
  ["entry {from: v1.TransformIOTypeString, to: v1.TransformIOTypeInt64, format: v1.ConvertTransformFormatNone}",  -- convFn arm "string", "int64", "none"
   "if !ok",  -- the type assertion: the arm matches on the constructor of the input (else oracleMiss – unreachable, goType chose the entry)
   "return nil, errors.New(\"not a string\")",  -- error result of the arm above
   "return strconv.ParseInt(s, 10, 64)",  -- parseInt s (base 10, 64 bits) -> .num / convParse
   "strconv.ParseInt",  -- parseInt (decimal, range checked; proved inverse of fmtInt)
   "entry {from: v1.TransformIOTypeString, to: v1.TransformIOTypeBool, format: v1.ConvertTransformFormatNone}",  -- convFn arm "string", "bool", "none"
   "if !ok",  -- the type assertion: the arm matches on the constructor of the input (else oracleMiss – unreachable, goType chose the entry)
   "return nil, errors.New(\"not a string\")",  -- error result of the arm above
   "return strconv.ParseBool(s)",  -- result of the arm above
   "strconv.ParseBool",  -- parseBool
   "entry {from: v1.TransformIOTypeString, to: v1.TransformIOTypeFloat64, format: v1.ConvertTransformFormatNone}",  -- convFn arm "string", "float64", "none"
   "if !ok",  -- the type assertion: the arm matches on the constructor of the input (else oracleMiss – unreachable, goType chose the entry)
   "return nil, errors.New(\"not a string\")",  -- error result of the arm above
   "return strconv.ParseFloat(s, 64)",  -- result of the arm above
   "strconv.ParseFloat",  -- oracle key "pfloat"
   "entry {from: v1.TransformIOTypeString, to: v1.TransformIOTypeFloat64, format: v1.ConvertTransformFormatQuantity}",  -- convFn arm "string", "float64", "quantity"
   "if !ok",  -- the type assertion: the arm matches on the constructor of the input (else oracleMiss – unreachable, goType chose the entry)
   "return nil, errors.New(\"not a string\")",  -- error result of the arm above
   "resource.ParseQuantity",  -- oracle key "pquant"
   "return nil, err",  -- result of the arm above
   "return q.AsApproximateFloat64(), nil",  -- result of the arm above
   "q.AsApproximateFloat64",  -- same oracle entry
   "entry {from: v1.TransformIOTypeInt64, to: v1.TransformIOTypeString, format: v1.ConvertTransformFormatNone}",  -- convFn arm "int64", "string", "none"
   "if !ok",  -- the type assertion: the arm matches on the constructor of the input (else oracleMiss – unreachable, goType chose the entry)
   "return nil, errors.New(\"not an int64\")",  -- error result of the arm above
   "return strconv.FormatInt(i64, 10), nil",  -- result of the arm above
   "strconv.FormatInt",  -- fmtInt
   "entry {from: v1.TransformIOTypeInt64, to: v1.TransformIOTypeBool, format: v1.ConvertTransformFormatNone}",  -- convFn arm "int64", "bool", "none"
   "if !ok",  -- the type assertion: the arm matches on the constructor of the input (else oracleMiss – unreachable, goType chose the entry)
   "return nil, errors.New(\"not an int64\")",  -- error result of the arm above
   "return i64 == 1, nil",  -- .bool (i == 1) (theorems convert_roundtrip_bool_int / _int_bool)
   "entry {from: v1.TransformIOTypeInt64, to: v1.TransformIOTypeFloat64, format: v1.ConvertTransformFormatNone}",  -- convFn arm "int64", "float64", "none"
   "if !ok",  -- the type assertion: the arm matches on the constructor of the input (else oracleMiss – unreachable, goType chose the entry)
   "return nil, errors.New(\"not an int64\")",  -- error result of the arm above
   "return float64(i64), nil",  -- oracle key "itof"
   "entry {from: v1.TransformIOTypeBool, to: v1.TransformIOTypeString, format: v1.ConvertTransformFormatNone}",  -- convFn arm "bool", "string", "none"
   "if !ok",  -- the type assertion: the arm matches on the constructor of the input (else oracleMiss – unreachable, goType chose the entry)
   "return nil, errors.New(\"not a bool\")",  -- error result of the arm above
   "return strconv.FormatBool(b), nil",  -- result of the arm above
   "strconv.FormatBool",  -- fmtBool
   "entry {from: v1.TransformIOTypeBool, to: v1.TransformIOTypeInt64, format: v1.ConvertTransformFormatNone}",  -- convFn arm "bool", "int64", "none"
   "if !ok",  -- the type assertion: the arm matches on the constructor of the input (else oracleMiss – unreachable, goType chose the entry)
   "return nil, errors.New(\"not a bool\")",  -- error result of the arm above
   "if b",  -- guard in convFn (key set: hasConversion over Xp.Gen.c10Conversions)
   "return int64(1), nil",  -- .num 1
   "return int64(0), nil",  -- .num 0
   "entry {from: v1.TransformIOTypeBool, to: v1.TransformIOTypeFloat64, format: v1.ConvertTransformFormatNone}",  -- convFn arm "bool", "float64", "none"
   "if !ok",  -- the type assertion: the arm matches on the constructor of the input (else oracleMiss – unreachable, goType chose the entry)
   "return nil, errors.New(\"not a bool\")",  -- error result of the arm above
   "if b",  -- guard in convFn (key set: hasConversion over Xp.Gen.c10Conversions)
   "return float64(1), nil",  -- .flt "1"
   "return float64(0), nil",  -- .flt "0"
   "entry {from: v1.TransformIOTypeFloat64, to: v1.TransformIOTypeString, format: v1.ConvertTransformFormatNone}",  -- convFn arm "float64", "string", "none"
   "if !ok",  -- the type assertion: the arm matches on the constructor of the input (else oracleMiss – unreachable, goType chose the entry)
   "return nil, errors.New(\"not a float64\")",  -- error result of the arm above
   "return strconv.FormatFloat(f64, 'f', -1, 64), nil",  -- result of the arm above
   "strconv.FormatFloat",  -- oracle key "ffmt"
   "entry {from: v1.TransformIOTypeFloat64, to: v1.TransformIOTypeInt64, format: v1.ConvertTransformFormatNone}",  -- convFn arm "float64", "int64", "none"
   "if !ok",  -- the type assertion: the arm matches on the constructor of the input (else oracleMiss – unreachable, goType chose the entry)
   "return nil, errors.New(\"not a float64\")",  -- error result of the arm above
   "return int64(f64), nil",  -- oracle key "trunc"
   "entry {from: v1.TransformIOTypeFloat64, to: v1.TransformIOTypeBool, format: v1.ConvertTransformFormatNone}",  -- convFn arm "float64", "bool", "none"
   "if !ok",  -- the type assertion: the arm matches on the constructor of the input (else oracleMiss – unreachable, goType chose the entry)
   "return nil, errors.New(\"not a float64\")",  -- error result of the arm above
   "return f64 == float64(1), nil",  -- .bool (r == "1") on the printed float
   "entry {from: v1.TransformIOTypeString, to: v1.TransformIOTypeObject, format: v1.ConvertTransformFormatJSON}",  -- convFn arm "string", "object", "json"
   "if !ok",  -- the type assertion: the arm matches on the constructor of the input (else oracleMiss – unreachable, goType chose the entry)
   "return nil, errors.New(\"not a string\")",  -- error result of the arm above
   "return o, json.Unmarshal([]byte(s), &o)",  -- oracle keys "jobj" / "jarr"
   "json.Unmarshal",  -- decoded by the harness into Raw (.val / .bad / .empty / .nil): encoding/json is an oracle
   "entry {from: v1.TransformIOTypeString, to: v1.TransformIOTypeArray, format: v1.ConvertTransformFormatJSON}",  -- convFn arm "string", "array", "json"
   "if !ok",  -- the type assertion: the arm matches on the constructor of the input (else oracleMiss – unreachable, goType chose the entry)
   "return nil, errors.New(\"not a string\")",  -- error result of the arm above
   "return o, json.Unmarshal([]byte(s), &o)",  -- oracle keys "jobj" / "jarr"
   "json.Unmarshal"]  -- decoded by the harness into Raw (.val / .bad / .empty / .nil): encoding/json is an oracle

/-- nameGenerator.GenerateName (internal/names/generate.go)  —  mirrored by the name oracle NameGen in renderTpl:
keep (named already / no generateName), name n (the probe answered NotFound), fail (ANY other answer
of the probe – a no-match error of an unserved kind included –, or ten taken names) -/
def skelGenerateName : List String :=
  ["if cd.GetName() != \"\" || cd.GetGenerateName() == \"\"",  -- `if getMetaStr cd2 "name" != "" || getMetaStr cd2 "generateName" == ""` in renderTpl
   "cd.GetName",  -- getMetaStr cd2 "name"
   "cd.GetGenerateName",  -- getMetaStr cd2 "generateName"
   "return nil",  -- (cd2, false): nothing to do
   "range maxTries",  -- not modelled: the up-to-ten probes are folded into the oracle's answer
   "namer.GenerateName",  -- oracle: the random suffix (NameGen.name n)
   "cd.GetGenerateName",  -- (same)
   "obj.SetGroupVersionKind",  -- the probe is for the resource's own kind
   "cd.GetObjectKind.GroupVersionKind",  -- kindOf cd2
   "cd.GetObjectKind",  -- (same call chain)
   "reader.Get",  -- the availability probe; for an unserved kind the real generator runs against a server answering NoKindMatchError
   "if kerrors.IsNotFound(err)",  -- ONLY NotFound means "the name is free": NameGen.name n
   "kerrors.IsNotFound",  -- (same)
   "cd.SetName",  -- setMeta cd2 "name" (.str n)
   "return nil",  -- rendered
   "return err",  -- NameGen.fail: every other answer of the probe fails the name generation -> the resource is not rendered
   "return errors.New(errGenerateName)"]  -- NameGen.fail: ten names taken

/-- values of the API constants the model's `match`es are written against (string literals in Model/C10*.lean) -/
def declaredConsts : List (String × String) :=
  [("TransformTypeMap", "map"),
   ("TransformTypeMatch", "match"),
   ("TransformTypeMath", "math"),
   ("TransformTypeString", "string"),
   ("TransformTypeConvert", "convert"),
   ("MathTransformTypeMultiply", "Multiply"),
   ("MathTransformTypeClampMin", "ClampMin"),
   ("MathTransformTypeClampMax", "ClampMax"),
   ("MatchFallbackToTypeValue", "Value"),
   ("MatchFallbackToTypeInput", "Input"),
   ("MatchTransformPatternTypeLiteral", "literal"),
   ("MatchTransformPatternTypeRegexp", "regexp"),
   ("StringTransformTypeFormat", "Format"),
   ("StringTransformTypeConvert", "Convert"),
   ("StringTransformTypeTrimPrefix", "TrimPrefix"),
   ("StringTransformTypeTrimSuffix", "TrimSuffix"),
   ("StringTransformTypeRegexp", "Regexp"),
   ("StringTransformTypeJoin", "Join"),
   ("StringConversionTypeToUpper", "ToUpper"),
   ("StringConversionTypeToLower", "ToLower"),
   ("StringConversionTypeToJSON", "ToJson"),
   ("StringConversionTypeToBase64", "ToBase64"),
   ("StringConversionTypeFromBase64", "FromBase64"),
   ("StringConversionTypeToSHA1", "ToSha1"),
   ("StringConversionTypeToSHA256", "ToSha256"),
   ("StringConversionTypeToSHA512", "ToSha512"),
   ("StringConversionTypeToAdler32", "ToAdler32"),
   ("TransformIOTypeString", "string"),
   ("TransformIOTypeBool", "bool"),
   ("TransformIOTypeInt", "int"),
   ("TransformIOTypeInt64", "int64"),
   ("TransformIOTypeFloat64", "float64"),
   ("TransformIOTypeObject", "object"),
   ("TransformIOTypeArray", "array"),
   ("ConvertTransformFormatNone", "none"),
   ("ConvertTransformFormatQuantity", "quantity"),
   ("ConvertTransformFormatJSON", "json"),
   ("PatchTypeFromCompositeFieldPath", "FromCompositeFieldPath"),
   ("PatchTypePatchSet", "PatchSet"),
   ("PatchTypeToCompositeFieldPath", "ToCompositeFieldPath"),
   ("PatchTypeCombineFromComposite", "CombineFromComposite"),
   ("PatchTypeCombineToComposite", "CombineToComposite"),
   ("FromFieldPathPolicyOptional", "Optional"),
   ("FromFieldPathPolicyRequired", "Required"),
   ("CombineStrategyString", "string")]

end Xp.C10
