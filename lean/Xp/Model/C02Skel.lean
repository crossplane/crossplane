/-
C02 — declared call skeletons (tie "a") of the Go functions the C02 theorems speak about.

`harness/main/c02_skel.go` regenerates, on every check run, the ordered list of API calls,
wrapped helpers and ownership GUARDS of each function from the current source tree
(`Xp.Gen.c02Skel*`, go/ast); `Xp.C02.skeleton_*` (Props/C02.lean) state that the lists below are what the
source has. Each entry names the model step that mirrors the call, or says why there is none.
The models: `Xp.C02Crd` (definition / offered reconcilers), `Xp.C01` (XR reconciler and both
composers; shared with C01/C03), `Xp.C02World` (the same programs over a store with
resourceVersions and a third party), `Xp.C09` (connection secrets).
-/
namespace Xp.C02Skel

/-- definition/reconciler.go `Reconciler.Reconcile` ↔ `Xp.C02Crd.reconcile .definition` -/
def definitionReconcile : List String := [
  "client.Get",                   -- Req.getXRD (`reconcile`; NotFound ignored → `.ret .ok`)
  "composite.Render",             -- xcrd.ForCompositeResource: always succeeds for the XRDs of the world (offered: the `renderable` test)
  "meta.WasDeleted",              -- `if d.del then deletion w d else live d`
  "client.Status.Update",         -- Req.statusXRD .terminating (`deletion`)
  "client.Get",                   -- Req.getCRD (`deletion`)
  "meta.WasCreated",              -- `.crd none` branch of `deletion`
  "metav1.IsControlledBy",        -- GUARD: `if c.ctrl = .xrd then deleteControlled w else removeFinalizer`
  "engine.Stop",                  -- not modelled: NopEngine.Stop does nothing and returns nil
  "composite.RemoveFinalizer",    -- `removeFinalizer` (APIFinalizer: Update of the XRD, no call when absent)
  "client.DeleteAllOf",           -- Req.deleteInstances (`deleteControlled .definition`); no instances exist in the model (C08 owns their order)
  "client.List",                  -- Req.listInstances; always empty in the model
  "engine.Stop",                  -- not modelled: NopEngine
  "client.Delete",                -- Req.deleteCRD (`deleteControlled`)
  "composite.AddFinalizer",       -- Req.updateXRD true (`live`; APIFinalizer: no call when present)
  "client.Apply",                 -- `applyCRD`: APIUpdatingApplicator = Req.getCRD; Req.createCRD | Req.updateCRD at the rv read
  "resource.MustBeControllableBy",-- GUARD: `if c.ctrl = .other then .ret .err` in `applyCRD`
  "engine.Stop",                  -- not modelled: status.controllers is empty in the world, the branch is not taken
  "engine.IsRunning",             -- NopEngine.IsRunning = true: `afterApply` goes straight to the status update
  "client.Status.Update",         -- Req.statusXRD .watching (`afterApply`)
  "engine.Start",                 -- not reached with the NopEngine (IsRunning is true)
  "engine.StartWatches",          -- not reached with the NopEngine
  "client.Status.Update"]         -- not reached with the NopEngine

/-- offered/reconciler.go `Reconciler.Reconcile` ↔ `Xp.C02Crd.reconcile .offered` -/
def offeredReconcile : List String := [
  "client.Get",                   -- Req.getXRD
  "claim.Render",                 -- xcrd.ForCompositeResourceClaim: fails iff the XRD offers no claim (`w = .offered ∧ d.claim = false → .ret .err`)
  "meta.WasDeleted",              -- `if d.del then deletion w d else live d`
  "client.Status.Update",         -- Req.statusXRD .terminating
  "client.Get",                   -- Req.getCRD
  "meta.WasCreated",              -- `.crd none` branch
  "metav1.IsControlledBy",        -- GUARD: `if c.ctrl = .xrd then deleteControlled w else removeFinalizer`
  "engine.Stop",                  -- not modelled: NopEngine
  "claim.RemoveFinalizer",        -- `removeFinalizer`
  "client.List",                  -- Req.listInstances (`deleteControlled .offered`)
  "client.Delete",                -- Delete of each listed claim: not modelled, the list is empty in the model
  "engine.Stop",                  -- not modelled: NopEngine
  "client.Delete",                -- Req.deleteCRD
  "claim.AddFinalizer",           -- Req.updateXRD true
  "client.Apply",                 -- `applyCRD`
  "resource.MustBeControllableBy",-- GUARD in `applyCRD`
  "engine.Stop",                  -- not modelled (status.controllers empty)
  "engine.IsRunning",             -- NopEngine: true
  "client.Status.Update",         -- Req.statusXRD .watching
  "engine.Start",                 -- not reached with the NopEngine
  "engine.StartWatches",          -- not reached with the NopEngine
  "client.Status.Update"]         -- not reached with the NopEngine

/-- composition_functions.go `ExistingComposedResourceObserver.ObserveComposedResources`
↔ `Xp.C01.observeFn` -/
def observe : List String := [
  "cached.Get",                   -- Req.getCached
  "uncached.Get",                 -- Req.getObj (fallback after a cached NotFound)
  "metav1.GetControllerOf",       -- GUARD: `if o.ctrl = .other then observeFn lrv rs acc k` (skipped, as if absent)
  "details.FetchConnection"]      -- not modelled here: connection details are C09's (`Xp.C09.fetchA`)

/-- composition_functions.go `DeletingComposedResourceGarbageCollector.GarbageCollectComposedResources`
↔ `Xp.C01.gcFn` (the candidates come from `observeFn`, which has dropped everything foreign) -/
def garbageCollect : List String := [
  "metav1.GetControllerOf",       -- GUARD on the OBSERVED copy: unreachable after `observeFn` (observed objects are never foreign); kept by the code as a second fence
  "meta.RemoveLabels",            -- local edit carried by the Update below
  "client.Update",                -- Req.gcUpdate: carries the resourceVersion read by `observeFn` (`Xp.C02World.exec`: Conflict when the object changed since)
  "client.Delete"]                -- Req.delete: no precondition (D36 window, `Xp.C02World`)

/-- composition_functions.go `FunctionComposer.Compose` ↔ `Xp.C01.composeFn` -/
def fnCompose : List String := [
  "composite.ObserveComposedResources",      -- `observeFn`
  "composite.FetchConnection",               -- not modelled here (C09)
  "client.Get",                              -- function credentials secret: not modelled, the world's pipeline step has no credentials
  "pipeline.RunFunction",                    -- the input `out : Obs → FnOut` (C03/C04 own the pipeline)
  "composite.GenerateName",                  -- `renderFn` (one Req.getCached probe per generated name)
  "composite.GarbageCollectComposedResources", -- `gcFn`
  "client.Patch",                            -- Req.patchRefs (server-side apply of spec.resourceRefs)
  "composite.ManagedFieldsUpgrader.Upgrade", -- not modelled: no object of the world has client-side-apply managers, Upgrade issues no call
  "client.Patch",                            -- Req.apply (server-side apply of each desired resource, `applyFn`); the guard is the API server's (two controllers ⇒ Invalid)
  "client.Status.Patch"]                     -- Req.statusPatch

/-- composition_pt.go `GarbageCollectingAssociator.AssociateTemplates` ↔ `Xp.C01.associatePT` -/
def associate : List String := [
  "cached.Get",                   -- Req.getCached
  "uncached.Get",                 -- Req.getObj
  "metav1.GetControllerOf",       -- GUARD: `else if o.ctrl = .other then onError lrv`
  "meta.RemoveLabels",            -- local edit carried by the Update below
  "cached.Update",                -- Req.gcUpdate (resourceVersion of the read just above)
  "cached.Delete"]                -- Req.delete

/-- composition_pt.go `PTComposer.Compose` ↔ `Xp.C01.composePT` -/
def ptCompose : List String := [
  "composition.AssociateTemplates",   -- `associatePT`
  "composed.GenerateName",            -- `renderPT`
  "xr.SetResourceReferences",         -- the `rs.map rkey` argument of Req.updateXR
  "client.Update",                    -- Req.updateXR
  "resource.MustBeControllableBy",    -- GUARD: `if o.ctrl = .other then onError lrv` in `applyPT`
  "client.Apply",                     -- `applyPT`: APIPatchingApplicator = Req.getCached; Req.create | Req.mergePatch (no resourceVersion: D37 window, `Xp.C02World`)
  "composed.FetchConnection",         -- not modelled here (C09)
  "composed.ExtractConnection",       -- not modelled here (C09)
  "composed.IsReady",                 -- not modelled here (C05)
  "client.Apply"]                     -- Req.getXR; Req.patchXR

/-- composite/reconciler.go `Reconciler.Reconcile` ↔ `Xp.C01.reconcile` (live, unpaused XR;
selector, fetcher, validator and configurator are stubs in the world and issue no call) -/
def xrReconcile : List String := [
  "client.Get",                   -- Req.getXR
  "client.Status.Update",         -- paused XR: not modelled (the world's XR is not paused)
  "meta.WasDeleted",              -- deleting XR: not modelled (C08's)
  "composite.UnpublishConnection",--   "
  "client.Status.Update",         --   "
  "composite.RemoveFinalizer",    --   "
  "client.Status.Update",         --   "
  "client.Status.Update",         --   "
  "composite.AddFinalizer",       -- Req.addFinalizer (no call when present)
  "client.Status.Update",         -- `onError` after a failed AddFinalizer
  "composite.SelectComposition",  -- stub
  "client.Status.Update",         -- not reached (the stub never fails)
  "revision.Fetch",               -- stub
  "client.Status.Update",         -- not reached
  "revision.Validate",            -- stub
  "client.Status.Update",         -- not reached
  "composite.Configure",          -- stub
  "client.Status.Update",         -- not reached
  "resource.Compose",             -- `composeFn` / `composePT`
  "client.Status.Update",         -- `onError` / `onErrorO` after a failed Compose
  "engine.StartWatches",          -- not modelled: no engine in the world (C13's)
  "composite.PublishConnection",  -- not modelled here: the XR of this world wants no connection secret (C09's `publish`)
  "client.Status.Update",         -- not reached (publishing cannot fail without a secret reference)
  "client.Status.Update",         -- `finish … false` (some resource unsynced / not ready)
  "client.Status.Update"]         -- `finish … true`

/-- composite/api.go `APIFilteredSecretPublisher.PublishConnection` ↔ `Xp.C09.publish` -/
def publish : List String := [
  "client.Apply",                                   -- `Xp.C09.publish`: Get; Create | guarded Patch
  "resource.ConnectionSecretMustBeControllableBy",  -- GUARD: `Xp.C09.controllable`
  "resource.AllowUpdateIf",                         -- the no-op test of `publish`
  "resource.IsNotAllowed"]                          -- no-op ⇒ published = false

/-- claim/connection.go `APIConnectionPropagator.PropagateConnection` ↔ `Xp.C09.propagate` -/
def propagate : List String := [
  "client.Get",                                     -- the XR's secret (`fs`)
  "metav1.GetControllerOf",                         -- GUARD: the source must be controlled by the XR (`fs.ctrl = .xr`)
  "client.Apply",                                   -- Get; Create | guarded Patch of the claim's secret
  "resource.ConnectionSecretMustBeControllableBy",  -- GUARD: `Xp.C09.controllable`
  "resource.AllowUpdateIf",                         -- the no-op test
  "resource.IsNotAllowed"]

end Xp.C02Skel
