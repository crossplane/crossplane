import Xp.Base.Prog
import Xp.Gen.C12
import Xp.Model.C12Spec
/-
C12 model: the revision controller
(internal/controller/apiextensions/composition/reconciler.go `Reconcile`,
revision.go `NewCompositionRevision`, apis/apiextensions/v1/composition_revision.go
`LatestRevision`) and the XR side revision selection
(internal/controller/apiextensions/composite/api.go `APIRevisionFetcher.Fetch`),
each written call by call as a `Xp.Prog` over an abstract store.

Abstractions (recorded in props/C12.json):
* the content of a Composition is `(labels, annotations, spec)` with a structural
  `Spec` (Model/C12Spec.lean); the content hash (`Composition.Hash`) and the revision
  name derived from it are a `Naming`. The history theorems are stated for an abstract
  `Naming` assumed injective on the contents that occur (`Naming.Inj`);
  `Naming.ofDigest` is the naming the code implements: the digest (sha256, an oracle)
  of the INPUT `hashToks c` = yaml(labels) ++ yaml(annotations) ++ yaml(spec) without
  separator, label = first 63 digits, name = `<composition>-<first 7 digits>`.
  `Proofs/C12H.lean` proves for which pairs of contents that input is injective
  (`hashToks_eq_iff`) and derives `Naming.Inj` from a collision-free digest on every
  set of contents without a label<->annotation move (`naming_inj_of_digest`, `Props/C12.lean`);
* a revision carries what the property talks about: name, the two crossplane.io
  labels, `spec.revision`, the UID of its controller owner reference, the user
  labels copied from the Composition, and the rest of its spec (`RevSpec`,
  the field-by-field image `toRevisionSpec` of the Composition's spec);
* resourceVersion conflicts: revisions and XRs carry a per-object `rv` that every
  change of the object bumps; an `Update` of a revision carries the revision as
  the controller read it (`base`) and is answered `conflict` when the stored
  revision differs from it (i.e. has another `rv`); the merge patch of an XR (the
  full desired object, its resourceVersion included) likewise. Without
  interference the stored object always equals `base` and no conflict arises,
  which is the situation of the original theorems;
* interference (`runX`): other clients act on the store right before API call `k`
  (`Xp.Env`); a call may also be answered with any error class without being
  applied (`Fault.reply`); reads may be served by a lagging informer cache
  (`semV`, a `View` of older revisions / Compositions / XRs).

`reconcile` mirrors the code *with fixes/D4.diff applied* (adoption loop first,
`LatestRevision` afterwards); `reconcileD4` mirrors the unchanged tree.
-/
namespace Xp.C12

/-- What `Composition.Hash` hashes. -/
structure Content where
  labels : Labels
  annos : Labels
  spec : Spec
  deriving DecidableEq, Repr

/-- the input of `Composition.Hash`: `y = yaml(labels); y = append(y, yaml(annotations)...);
y = append(y, yaml(spec)...)` — no separator between the three -/
def hashToks (c : Content) : List Tok :=
  mapToks c.labels ++ mapToks c.annos ++ [.spec c.spec]

/-- `hash c` is the value of the composition-hash label (first 63 hex digits),
`name comp c` the revision name `<comp>-<first 7 hex digits>`. -/
structure Naming where
  hash : Content → String
  name : String → Content → String

/-- `s[0:n]` when `len(s) >= n`, else `s` -/
def takeStr (n : Nat) (s : String) : String := String.ofList (s.toList.take n)

/-- The naming `Composition.Hash` + `NewCompositionRevision` implement, given the digest
`dg` (sha256 in hex, as a function of the hash input): the hash label is its first 63
characters (`hash[0:63]`), the revision name `fmt.Sprintf("%s-%s", c.GetName(), hash[0:7])`. -/
def Naming.ofDigest (dg : List Tok → String) : Naming where
  hash := fun c => takeStr Xp.Gen.revisionHashLabelLen (dg (hashToks c))
  name := fun n c => n ++ "-" ++ takeStr Xp.Gen.revisionNameSuffixLen (takeStr Xp.Gen.revisionHashLabelLen (dg (hashToks c)))

structure Comp where
  name : String
  uid : Nat
  content : Content
  deleting : Bool
  deriving DecidableEq, Repr

structure Rev where
  name : String
  comp : String        -- label crossplane.io/composition-name
  hash : String        -- label crossplane.io/composition-hash
  num : Nat            -- spec.revision
  ctrl : Option Nat    -- UID of the controller owner reference
  labels : Labels      -- the other labels (copied from the Composition at creation)
  spec : RevSpec       -- the spec apart from `revision`
  rv : Nat             -- resourceVersion (per object: bumped by every change of the object)
  deriving DecidableEq, Repr

inductive Policy where
  | manual | automatic
  deriving DecidableEq, Repr

structure XR where
  name : String
  comp : String               -- spec.compositionRef.name
  policy : Option Policy      -- spec.compositionUpdatePolicy
  selector : Option Labels    -- spec.compositionRevisionSelector.matchLabels
  ref : Option String         -- spec.compositionRevisionRef.name
  rv : Nat                    -- resourceVersion
  deriving DecidableEq, Repr

structure Store where
  comps : List Comp
  revs : List Rev      -- kept sorted by name: the order the API server lists them in
  xrs : List XR
  deriving DecidableEq, Repr

def Store.empty : Store := ⟨[], [], []⟩

inductive Req where
  | getComp (name : String)
  | listRevs (sel : Labels) (comp : String)
  /-- `Update` of a revision: `base` is the revision as the controller read it
  (its resourceVersion), `r` what it sends -/
  | updateRev (base r : Rev)
  | createRev (r : Rev)
  | getRev (name : String)
  | getXR (name : String)
  /-- merge patch of the whole desired XR (`base` as read, resourceVersion included,
  with the revision reference set to `ref`) -/
  | patchXR (base : XR) (ref : String)
  | createXR (x : XR)
  deriving Repr

inductive Resp where
  | comp (c : Comp)
  | revs (l : List Rev)
  | rev (r : Rev)
  | xr (x : XR)
  | ok
  | notFound
  | alreadyExists
  | conflict
  | error
  deriving Repr

/-- label lookup on a revision, the two reserved keys included -/
def Rev.label (r : Rev) (k : String) : Option String :=
  if k = Xp.Gen.labelCompositionName then some r.comp
  else if k = Xp.Gen.labelCompositionHash then some r.hash
  else r.labels.lookup k

/-- `client.MatchingLabels` -/
def selOK (sel : Labels) (r : Rev) : Bool :=
  sel.all fun kv => r.label kv.1 == some kv.2

def insertRev (r : Rev) : List Rev → List Rev
  | [] => [r]
  | x :: xs => if r.name < x.name then r :: x :: xs else x :: insertRev r xs

def setXRRef (n : String) (ref : String) (xs : List XR) : List XR :=
  xs.map fun x => if x.name = n then { x with ref := some ref, rv := x.rv + 1 } else x

/-- The API server as seen by these two controllers. -/
def exec (s : Store) : Req → Store × Resp
  | .getComp n =>
    (s, match s.comps.find? (·.name = n) with | some c => .comp c | none => .notFound)
  | .listRevs sel comp =>
    -- the caller always overrides the composition-name key of the selector
    (s, .revs (s.revs.filter fun r => r.comp = comp && selOK (sel.filter (·.1 ≠ Xp.Gen.labelCompositionName)) r))
  | .updateRev b r =>
    match s.revs.find? (·.name = r.name) with
    | none => (s, .notFound)
    | some x =>
      if x = b then
        ({ s with revs := s.revs.map fun y => if y.name = r.name then { r with rv := x.rv + 1 } else y },
          .rev { r with rv := x.rv + 1 })
      else (s, .conflict)
  | .createRev r =>
    if s.revs.any (·.name = r.name) then (s, .alreadyExists)
    else ({ s with revs := insertRev r s.revs }, .ok)
  | .getRev n =>
    (s, match s.revs.find? (·.name = n) with | some r => .rev r | none => .notFound)
  | .getXR n =>
    (s, match s.xrs.find? (·.name = n) with | some x => .xr x | none => .notFound)
  | .patchXR b ref =>
    match s.xrs.find? (·.name = b.name) with
    | none => (s, .notFound)
    | some x => if x = b then ({ s with xrs := setXRRef b.name ref s.xrs }, .ok) else (s, .conflict)
  | .createXR x =>
    if s.xrs.any (·.name = x.name) then (s, .alreadyExists) else ({ s with xrs := s.xrs ++ [x] }, .ok)

def Req.isWrite : Req → Bool
  | .updateRev _ _ | .createRev _ | .patchXR _ _ | .createXR _ => true
  | _ => false

def sem : Sem Store Req Resp where
  exec := exec
  errResp := fun o r => match o with
    | .conflict => if r.isWrite then .conflict else .error
    | _ => .error

abbrev P := Prog Req Resp

/-- `v1.LatestRevision`: the first revision with the strictly highest number among
those controlled by `uid`; numbers start at 1, so 0 means none. -/
def latestGo (uid : Nat) (best : Option Rev) : List Rev → Option Rev
  | [] => best
  | r :: rs =>
    if r.ctrl = some uid ∧ (best.map (·.num)).getD 0 < r.num then latestGo uid (some r) rs
    else latestGo uid best rs

def latestRev (uid : Nat) (l : List Rev) : Option Rev := latestGo uid none l

def latestNum (uid : Nat) (l : List Rev) : Nat := ((latestRev uid l).map (·.num)).getD 0

/-- `NewCompositionRevision`, field by field -/
def newRev (H : Naming) (c : Comp) (n : Nat) : Rev :=
  { name := H.name c.name c.content,      -- Name: fmt.Sprintf("%s-%s", c.GetName(), nameSuffix)
    comp := c.name,                       -- Labels[LabelCompositionName] = c.GetName()
    hash := H.hash c.content,             -- Labels[LabelCompositionHash] = hash[0:63]
    spec := toRevisionSpec c.content.spec,  -- Spec: NewCompositionRevisionSpec(c.Spec, revision)
    num := n,                             --   rs.Revision = revision
    ctrl := some c.uid,                   -- meta.AddOwnerReference(cr, meta.AsController(ref))
    labels := c.content.labels,           -- for k, v := range c.GetLabels() { cr.Labels[k] = v }
    rv := 1 }

/-- calls of `NewCompositionRevision` in source order (see `Xp.Gen.c12NewRevisionSkel`) -/
def newRevSkel : List String :=
  [ "c.Hash",                       -- `H.hash` / `H.name` (`Naming.ofDigest`: the digest of `hashToks`)
    "len", "len",                   -- the two truncations [0:63], [0:7]
    "fmt.Sprintf", "c.GetName",     -- `name`
    "c.GetName",                    -- `comp`
    "NewCompositionRevisionSpec",   -- `spec := toRevisionSpec …`, `num`
    "meta.TypedReferenceTo", "meta.AddOwnerReference", "meta.AsController",  -- `ctrl`
    "c.GetLabels" ]                 -- `labels` (a Composition label named like one of the two
                                    -- reserved keys would override it: assumed absent)

inductive Res where
  | done      -- nothing (more) to do
  | created   -- a new revision was created
  | requeue   -- conflict while renumbering
  | err
  deriving DecidableEq, Repr

/-- First loop of the repaired `Reconcile`: re-adopt every listed revision that is
not controlled by the Composition. `k` receives the list as the controller holds
it afterwards. A revision controlled by somebody else aborts the reconcile
(`meta.AddControllerReference` fails) without an API call. -/
def adoptLoop (uid : Nat) : List Rev → (List Rev → P Res) → P Res
  | [], k => k []
  | r :: rs, k =>
    if r.ctrl = some uid then adoptLoop uid rs (fun l => k (r :: l))
    else if r.ctrl.isSome then .ret .err
    else .call (.updateRev r { r with ctrl := some uid }) fun
      | .rev r' => adoptLoop uid rs (fun l => k (r' :: l))
      | _ => .ret .err

/-- Second loop: the revision(s) whose hash label equals the current hash get
`latest+1` unless they already carry `latest`. `ex` is `existingRev`. -/
def renumLoop (h : String) (latest : Nat) : List Rev → Nat → (Nat → P Res) → P Res
  | [], ex, k => k ex
  | r :: rs, ex, k =>
    if r.hash ≠ h then renumLoop h latest rs ex k
    else if r.num = latest then renumLoop h latest rs r.num k
    else .call (.updateRev r { r with num := latest + 1 }) fun
      | .rev _ => renumLoop h latest rs r.num k
      | .conflict => .ret .requeue
      | _ => .ret .err

/-- `Reconciler.Reconcile` of the composition (revision) controller, repaired. -/
def reconcile (H : Naming) (name : String) : P Res :=
  .call (.getComp name) fun
  | .comp c =>
    if c.deleting then .ret .done else
    .call (.listRevs [] c.name) fun
    | .revs l =>
      adoptLoop c.uid l fun l' =>
        let latest := latestNum c.uid l'
        renumLoop (H.hash c.content) latest l' 0 fun ex =>
          if ex > 0 then .ret .done
          else .call (.createRev (newRev H c (latest + 1))) fun
            | .ok => .ret .created
            | _ => .ret .err
    | _ => .ret .err
  | .notFound => .ret .done
  | _ => .ret .err

/-- The single loop of the unchanged tree: adoption and renumbering interleaved,
`latest` fixed before the loop. -/
def d4Loop (uid : Nat) (h : String) (latest : Nat) : List Rev → Nat → (Nat → P Res) → P Res
  | [], ex, k => k ex
  | r :: rs, ex, k =>
    let cont (r : Rev) : P Res :=
      if r.hash ≠ h then d4Loop uid h latest rs ex k
      else if r.num = latest then d4Loop uid h latest rs r.num k
      else .call (.updateRev r { r with num := latest + 1 }) fun
        | .rev _ => d4Loop uid h latest rs r.num k
        | .conflict => .ret .requeue
        | _ => .ret .err
    if r.ctrl = some uid then cont r
    else if r.ctrl.isSome then .ret .err
    else .call (.updateRev r { r with ctrl := some uid }) fun
      | .rev r' => cont r'
      | _ => .ret .err

/-- `Reconcile` as it is on the unchanged tree (defect D4): `latestRev` is computed
from the revisions controlled *before* the owner references are restored. -/
def reconcileD4 (H : Naming) (name : String) : P Res :=
  .call (.getComp name) fun
  | .comp c =>
    if c.deleting then .ret .done else
    .call (.listRevs [] c.name) fun
    | .revs l =>
      let latest := latestNum c.uid l
      d4Loop c.uid (H.hash c.content) latest l 0 fun ex =>
        if ex > 0 then .ret .done
        else .call (.createRev (newRev H c (latest + 1))) fun
          | .ok => .ret .created
          | _ => .ret .err
    | _ => .ret .err
  | .notFound => .ret .done
  | _ => .ret .err

/-- ordered API calls of the modelled `Reconcile`, in the vocabulary of the
go/ast walk (`Xp.Gen.compositionReconcileSkeleton`) -/
def reconcileSkeleton : List String :=
  ["Get", "List", "loop{", "AddControllerReference", "Update", "}", "LatestRevision", "loop{", "Update", "}", "Create"]

def reconcileD4Skeleton : List String :=
  ["Get", "List", "LatestRevision", "loop{", "AddControllerReference", "Update", "Update", "}", "Create"]

inductive FRes where
  | rev (r : Rev)
  | err
  deriving DecidableEq, Repr

/-- the label selector `getCompositionRevisionList` adds to the composition name -/
def fetchSel (x : XR) : Labels :=
  if x.policy = some .automatic then x.selector.getD [] else []

/-- The XR reconciler's `Get` of the XR followed by `APIRevisionFetcher.Fetch`
(`Apply` of the patching applicator = Get, then Create or merge Patch). -/
def fetch (xrName : String) : P FRes :=
  .call (.getXR xrName) fun
  | .xr x =>
    match x.policy, x.ref with
    | some .manual, some n =>
      .call (.getRev n) fun
      | .rev r => .ret (.rev r)
      | _ => .ret .err
    | _, _ =>
      .call (.getComp x.comp) fun
      | .comp c =>
        .call (.listRevs (fetchSel x) c.name) fun
        | .revs l =>
          match latestRev c.uid l with
          | none => .ret .err
          | some r =>
            if x.ref = some r.name then .ret (.rev r)
            else .call (.getXR x.name) fun
              | .xr _ => .call (.patchXR x r.name) fun
                | .ok => .ret (.rev r)
                | _ => .ret .err
              | .notFound => .call (.createXR { x with ref := some r.name }) fun
                | .ok => .ret (.rev r)
                | _ => .ret .err
              | _ => .ret .err
        | _ => .ret .err
      | _ => .ret .err
  | _ => .ret .err

/-! ### histories: environment actions interleaved with faulty reconciles -/

def putComp (c : Comp) (cs : List Comp) : List Comp :=
  if cs.any (·.name = c.name) then cs.map (fun x => if x.name = c.name then c else x) else cs ++ [c]

def putXR (x : XR) (xs : List XR) : List XR :=
  if xs.any (·.name = x.name) then xs.map (fun y => if y.name = x.name then x else y) else xs ++ [x]

inductive Ev where
  /-- the user creates/edits a Composition (labels, annotations, spec), marks it
  deleted, or a restore recreates it under a new UID -/
  | putComp (c : Comp)
  /-- the controller owner reference of the named revisions is stripped (`none`,
  backup/restore) or replaced -/
  | setCtrl (names : List String) (v : Option Nat)
  /-- the user creates/edits an XR (policy, selector, pinned revision) -/
  | putXR (x : XR)
  /-- one run of the revision controller for `comp` under a fault plan -/
  | reconcile (comp : String) (plan : Plan)
  /-- one XR revision selection under a fault plan -/
  | fetch (xr : String) (plan : Plan)

def envStep (s : Store) : Ev → Store
  | .putComp c => { s with comps := putComp c s.comps }
  | .setCtrl names v =>
    { s with revs := s.revs.map fun r =>
        if names.contains r.name ∧ r.ctrl ≠ v then { r with ctrl := v, rv := r.rv + 1 } else r }
  | .putXR x => { s with xrs := putXR x s.xrs }
  | _ => s

/-- final store of one event -/
def stepEv (H : Naming) (s : Store) : Ev → Store
  | .reconcile comp plan => (run sem plan 0 (reconcile H comp) s).1
  | .fetch xr plan => (run sem plan 0 (fetch xr) s).1
  | e => envStep s e

/-- every store visible at some instant of one event (oldest first) -/
def reachEv (H : Naming) (s : Store) : Ev → List Store
  | .reconcile comp plan => reach sem plan 0 (reconcile H comp) s
  | .fetch xr plan => reach sem plan 0 (fetch xr) s
  | e => [s, envStep s e]

def runHist (H : Naming) : List Ev → Store → Store
  | [], s => s
  | e :: es, s => runHist H es (stepEv H s e)

def reachHist (H : Naming) : List Ev → Store → List Store
  | [], s => [s]
  | e :: es, s => reachEv H s e ++ reachHist H es (stepEv H s e)

/-! ### interference, error classes, informer-cache lag

The definitions above are the interference-free, fresh-read special case
(`runX_plain` in `Proofs/C12L.lean`, `semV_fresh` in `Proofs/C12I.lean`). -/

/-- What happens to one API call: an outcome of the shared fault model, or the call
is not applied and the controller sees the error reply `e` (an error *class*:
`notFound`, `alreadyExists`, `conflict`, or `error` for everything the code does
not tell apart — Invalid, Forbidden, timeouts, transport errors). -/
inductive Fault where
  | out (o : Outcome)
  | reply (e : Resp)

abbrev FPlan := Nat → Fault

def FPlan.ofPlan (p : Plan) : FPlan := fun k => .out (p k)

/-- error replies a controller can be handed instead of the result of its call -/
def Resp.isErr : Resp → Bool
  | .notFound | .alreadyExists | .conflict | .error => true
  | _ => false

def FPlan.errOnly (p : FPlan) : Prop := ∀ k e, p k = .reply e → e.isErr = true

/-- `run` with other clients acting on the store right before every call (`env k`),
error classes, and an API semantics that may differ from call to call (`sm k`: what
the informer cache serves at that moment); final store and result (`none` = crashed). -/
def runX (sm : Nat → Sem Store Req Resp) (env : Env Store) (plan : FPlan) : Nat → P α → Store → Store × Option α
  | _, .ret a, s => (s, some a)
  | k, .call r c, s =>
    match plan k with
    | .out .ok => runX sm env plan (k+1) (c ((sm k).exec (env k s) r).2) ((sm k).exec (env k s) r).1
    | .out .fail => runX sm env plan (k+1) (c ((sm k).errResp .fail r)) (env k s)
    | .out .conflict => runX sm env plan (k+1) (c ((sm k).errResp .conflict r)) (env k s)
    | .out .crashBefore => (env k s, none)
    | .out .crashAfter => (((sm k).exec (env k s) r).1, none)
    | .reply e => runX sm env plan (k+1) (c e) (env k s)

/-- every store visible at some instant of such a run, oldest first: the start,
the store after each environment step and after each own call -/
def reachX (sm : Nat → Sem Store Req Resp) (env : Env Store) (plan : FPlan) : Nat → P α → Store → List Store
  | _, .ret _, s => [s]
  | k, .call r c, s =>
    match plan k with
    | .out .ok => s :: env k s :: reachX sm env plan (k+1) (c ((sm k).exec (env k s) r).2) ((sm k).exec (env k s) r).1
    | .out .fail => s :: reachX sm env plan (k+1) (c ((sm k).errResp .fail r)) (env k s)
    | .out .conflict => s :: reachX sm env plan (k+1) (c ((sm k).errResp .conflict r)) (env k s)
    | .out .crashBefore => [s, env k s]
    | .out .crashAfter => [s, env k s, ((sm k).exec (env k s) r).1]
    | .reply e => s :: reachX sm env plan (k+1) (c e) (env k s)

/-- the controller's own applied calls: (store at the moment of the call, request) -/
def ownX (sm : Nat → Sem Store Req Resp) (env : Env Store) (plan : FPlan) : Nat → P α → Store → List (Store × Req)
  | _, .ret _, _ => []
  | k, .call r c, s =>
    match plan k with
    | .out .ok => (env k s, r) :: ownX sm env plan (k+1) (c ((sm k).exec (env k s) r).2) ((sm k).exec (env k s) r).1
    | .out .fail => ownX sm env plan (k+1) (c ((sm k).errResp .fail r)) (env k s)
    | .out .conflict => ownX sm env plan (k+1) (c ((sm k).errResp .conflict r)) (env k s)
    | .out .crashBefore => []
    | .out .crashAfter => [(env k s, r)]
    | .reply e => ownX sm env plan (k+1) (c e) (env k s)

/-- What the informer cache serves instead of the live store (`none` = fresh). -/
structure View where
  revs : Option (List Rev) := none
  comps : Option (List Comp) := none
  xrs : Option (List XR) := none

def View.fresh : View := {}

def View.apply (v : View) (s : Store) : Store :=
  ⟨v.comps.getD s.comps, v.revs.getD s.revs, v.xrs.getD s.xrs⟩

/-- The API as seen through a cached client: reads are answered from the view,
writes go to the API server. -/
def semV (v : View) : Sem Store Req Resp where
  exec := fun s r => if r.isWrite then exec s r else (s, (exec (v.apply s) r).2)
  errResp := sem.errResp

/-- `EnqueueForCompositionRevision` (definition/handlers.go), CreateFunc: the XRs
enqueued when revision `r` is created — every XR whose policy is not Manual and
whose `compositionRef` names the Composition in the revision's
composition-name label (none if that label is empty). -/
def enqueueFor (xrs : List XR) (r : Rev) : List String :=
  if r.comp = "" then [] else
  (xrs.filter fun x => x.policy ≠ some .manual && x.comp = r.comp).map (·.name)

/-! ### declared call skeletons (equated with the regenerated `Xp.Gen.c12*Skel` in Props/C12.lean)

One entry per call of the Go function, source order, with the model step mirroring it. -/

/-- `Reconciler.Reconcile` (composition/reconciler.go): client verbs and the pure helpers whose
position decides the outcome. Not in the verb set, not modelled: `r.record.Event`, logging,
`context.WithTimeout`. -/
def reconcileCallSkel : List String :=
  [ "client.Get",                    -- `reconcile`: `.getComp name`
    "resource.IgnoreNotFound",       --   `| .notFound => .ret .done`
    "meta.WasDeleted",               --   `if c.deleting then .ret .done`
    "comp.Hash",                     --   `H.hash c.content` (argument of `renumLoop`)
    "client.List",                   --   `.listRevs [] c.name` (MatchingLabels{composition-name})
    "metav1.IsControlledBy",         -- `adoptLoop`: `r.ctrl = some uid`
    "meta.AddControllerReference",   --   `else if r.ctrl.isSome then .ret .err`
    "client.Update",                 --   `.updateRev r { r with ctrl := some uid }`, any error aborts
    "v1.LatestRevision",             -- `latestNum c.uid l'` on the list as updated by the loop
    "client.Update",                 -- `renumLoop`: `.updateRev r { r with num := latest + 1 }`
    "kerrors.IsConflict",            --   `| .conflict => .ret .requeue`
    "client.Create",                 -- `.createRev (newRev H c (latest + 1))`
    "NewCompositionRevision" ]       --   `newRev`

/-- the client verb a request of the model stands for -/
def Req.verb : Req → String
  | .getComp _ | .getRev _ | .getXR _ => "Get"
  | .listRevs _ _ => "List"
  | .updateRev _ _ => "Update"
  | .createRev _ | .createXR _ => "Create"
  | .patchXR _ _ => "Patch"

/-- the client verbs the program issues along the path chosen by the answers `as` -/
def pathVerbs {α : Type} : P α → List Resp → List String
  | .ret _, _ => []
  | .call r _, [] => [r.verb]
  | .call r k, a :: as => r.verb :: pathVerbs (k a) as

/-- `v1.LatestRevision` (apis/apiextensions/v1/composition_revision.go) -/
def latestRevisionSkel : List String :=
  [ "metav1.IsControlledBy" ]        -- `latestGo`: `r.ctrl = some uid`

/-- `APIRevisionFetcher.Fetch` (composite/api.go) -/
def fetchSkel : List String :=
  [ "cr.GetCompositionRevisionReference",  -- `x.ref`
    "cr.GetCompositionUpdatePolicy",       -- `x.policy`
    "ca.Get",                              -- Manual and referenced: `.getRev n`
    "ca.Get",                              -- `.getComp x.comp`
    "cr.GetCompositionReference",          --   (its argument)
    "getCompositionRevisionList",          -- `.listRevs (fetchSel x) c.name`
    "v1.LatestRevision",                   -- `latestRev c.uid l`, `none => .ret .err`
    "cr.SetCompositionRevisionReference",  -- `if x.ref = some r.name then … else` the ref of the object patched
    "ca.Apply" ]                           -- `.getXR` then `.patchXR x r.name` / `.createXR` (APIPatchingApplicator
                                           -- of crossplane-runtime: Get, then Create or merge Patch of the whole object)

/-- `APIRevisionFetcher.getCompositionRevisionList` -/
def revisionListSkel : List String :=
  [ "cr.GetCompositionUpdatePolicy", "cr.GetCompositionUpdatePolicy",          -- `fetchSel`: `x.policy = some .automatic`
    "cr.GetCompositionRevisionSelector", "cr.GetCompositionRevisionSelector",  --   `x.selector.getD []`
    "ca.List" ]   -- `.listRevs sel comp`; `ml[LabelCompositionName] = comp.GetName()` is the override in `exec`

/-- `EnqueueForCompositionRevision`, CreateFunc (definition/handlers.go) -/
def enqueueSkel : List String :=
  [ "c.List",                          -- `enqueueFor xrs`: all XRs of the kind
    "xr.GetCompositionUpdatePolicy",   --   `x.policy ≠ some .manual`
    "xr.GetCompositionReference",      --   `x.comp = r.comp`
    "q.Add" ]                          --   `.map (·.name)`

end Xp.C12
