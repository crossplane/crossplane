import Xp.Base.Prog
/-
C01/C03 model: one XR reconcile with the function composer
(internal/controller/apiextensions/composite/composition_functions.go Compose,
ObserveComposedResources, GarbageCollectComposedResources, UpdateResourceRefs) or
the P&T composer with named templates (composition_pt.go Compose,
AssociateTemplates), wrapped by reconciler.go Reconcile, written call by call as a
`Prog` over an abstract store: the XR's finalizer and spec.resourceRefs and the
composed-kind objects (kind, name, composition-resource-name annotation,
controller, finalizer / terminating, content, SSA manager present).

What is an input (universally quantified in the theorems, supplied from the
observation when replaying a real run): the function pipeline's output, the
generated names (`names.NameGenerator` picks random suffixes), Go's map
iteration orders (GC order, apply order, render order), and the set `St.miss` of
composed resources that exist but are missing from the informer cache while this
reconcile runs.

Cached and live reads. The reconciler and both composers are built with two clients
(`NewReconciler(c, uc, …)`, `NewFunctionComposer(cached, uncached, …)`,
`NewPTComposer(cached, uncached)`): every read goes through the CACHED client except
the fallback read of `ObserveComposedResources` / `AssociateTemplates`, which repeats
a cached NotFound against the API server. `Req.getCached` is a read through the cache
(NotFound for an object in `St.miss`), `Req.getObj` a live read. Cached reads of composed
resources: first read of a reference (`observeFn`, `associatePT`), the name generator's
availability probe (`renderFn`, `renderPT`: `names.NewNameGenerator(cached)`), the Get
inside the P&T composer's `Apply` (`resource.NewAPIPatchingApplicator(cached)`). The reads
of the XR itself are cached too; a stale (as opposed to missing) cached version of the XR
or of a composed resource is outside the model.
-/
namespace Xp.C01

inductive Ctrl where
  | none | xr | other
  deriving DecidableEq, Repr, Inhabited

structure CObj where
  kind : String
  name : String
  annot : String      -- crossplane.io/composition-resource-name ("" = absent)
  ctrl : Ctrl         -- controller owner reference: none / this XR / another UID
  fin : Bool          -- carries a finalizer (of its provider)
  deleting : Bool     -- deletionTimestamp set
  content : Nat
  ssa : Bool          -- this XR's server-side-apply field manager is present
  deriving DecidableEq, Repr, Inhabited

structure Ref where
  kind : String
  name : String
  deriving DecidableEq, Repr, Inhabited

structure St where
  xrFin : Bool
  xrRv : Nat          -- resourceVersion of the XR (bumped by spec/metadata writes that change it)
  refs : List Ref
  objs : List CObj
  /-- API version the stored references carry (all references are rewritten together, with
  the version the composition currently emits) -/
  refsVer : String := "v1"
  /-- whether the function composer's field manager has server-side applied the references
  before: a first apply by a new manager is recorded by the API server (resourceVersion
  bump) even when no field value changes -/
  xrApplied : Bool := true
  /-- ghost: objects controlled by someone else, recorded when the history starts; no API
  call reads or writes this field (used to state "foreign objects are left exactly as they were") -/
  foreign0 : List CObj := []
  /-- composed resources that exist in the API server but are missing from the informer
  cache during this reconcile (just created, informer lagging). An input of the reconcile:
  the driver sets it per round, no request writes it. A read through the cache
  (`Req.getCached`) answers NotFound for these; live reads and all writes see the store. -/
  miss : List Ref := []
  deriving Repr, Inhabited

structure Desired where
  rname : String
  kind : String
  content : Nat
  ready : Bool
  deriving DecidableEq, Repr, Inhabited

inductive Req where
  | getXR
  | addFinalizer (rv : Nat)                -- Update(XR) carrying the resourceVersion read
  | getObj (kind name : String)             -- live (uncached) Get of a composed resource
  | getCached (kind name : String)          -- Get of a composed resource through the informer cache
  | gcUpdate (kind name : String)          -- Update stripping the composite labels
  | delete (kind name : String)
  | patchRefs (ver : String) (refs : List Ref)   -- fn: server-side apply of spec.resourceRefs (all of API version `ver`)
  | updateXR (rv : Nat) (ver : String) (refs : List Ref)  -- pt: Update(XR) carrying spec.resourceRefs
  | apply (kind name annot : String) (content : Nat)      -- fn: server-side apply of a composed resource
  | create (kind name annot : String) (content : Nat)     -- pt: Create
  | mergePatch (kind name annot : String) (content : Nat) -- pt: merge patch of an existing composed resource
  | patchXR                                -- pt: final Apply(XR) merge patch
  | statusPatch                            -- fn: server-side apply of XR status
  | statusUpdate (rv : Option Nat)         -- Status().Update(XR) carrying the local copy's resourceVersion (none = unconditional)
  deriving Repr, Inhabited

inductive Resp where
  | ok
  | xr (fin : Bool) (rv : Nat) (refs : List Ref)   -- the XR as read
  | okRv (rv : Nat)   -- accepted write to the XR; the local copy now has this resourceVersion
  | notFound
  | found (o : CObj)
  | exists_   -- AlreadyExists
  | invalid   -- rejected: would create a second controller reference
  | err
  | conflict
  deriving Repr, Inhabited

/-- the spec.content value the (simulated) API server rejects as invalid: stands for any
admission / schema validation failure of a composed resource -/
def invalidContent : Nat := 9

def findObj (objs : List CObj) (kind name : String) : Option CObj :=
  objs.find? (fun o => o.kind = kind ∧ o.name = name)

def removeObj (objs : List CObj) (kind name : String) : List CObj :=
  objs.filter (fun o => ¬ (o.kind = kind ∧ o.name = name))

def mapObj (objs : List CObj) (kind name : String) (f : CObj → CObj) : List CObj :=
  objs.map (fun o => if o.kind = kind ∧ o.name = name then f o else o)

/-- the simulated API server on the abstract store -/
def exec (s : St) : Req → St × Resp
  | .getXR => (s, .xr s.xrFin s.xrRv s.refs)
  | .addFinalizer rv =>
    if rv ≠ s.xrRv then (s, .conflict) else ({ s with xrFin := true, xrRv := s.xrRv + 1 }, .okRv (s.xrRv + 1))
  | .getObj k n =>
    match findObj s.objs k n with
    | some o => (s, .found o)
    | none => (s, .notFound)
  | .getCached k n =>
    if (⟨k, n⟩ : Ref) ∈ s.miss then (s, .notFound) else
    match findObj s.objs k n with
    | some o => (s, .found o)
    | none => (s, .notFound)
  | .gcUpdate k n =>
    match findObj s.objs k n with
    | some _ => (s, .ok)
    | none => (s, .notFound)
  | .delete k n =>
    match findObj s.objs k n with
    | some o =>
      if o.fin then ({ s with objs := mapObj s.objs k n (fun o => { o with deleting := true }) }, .ok)
      else ({ s with objs := removeObj s.objs k n }, .ok)
    | none => (s, .notFound)
  | .patchRefs ver refs =>
    if refs = s.refs ∧ (refs = [] ∨ ver = s.refsVer) ∧ s.xrApplied = true then (s, .ok)
    else ({ s with refs := refs, refsVer := ver, xrRv := s.xrRv + 1, xrApplied := true }, .ok)
  | .updateXR rv ver refs =>
    if rv ≠ s.xrRv then (s, .conflict)
    else if refs = s.refs ∧ (refs = [] ∨ ver = s.refsVer) then (s, .okRv s.xrRv)
    else ({ s with refs := refs, refsVer := ver, xrRv := s.xrRv + 1 }, .okRv (s.xrRv + 1))
  | .apply k n a c =>
    if c = invalidContent then (s, .invalid) else
    match findObj s.objs k n with
    | some o =>
      if o.ctrl = .other then (s, .invalid)
      else ({ s with objs := mapObj s.objs k n (fun o => { o with annot := a, ctrl := .xr, content := c, ssa := true }) }, .ok)
    | none => ({ s with objs := s.objs ++ [⟨k, n, a, .xr, false, false, c, true⟩] }, .ok)
  | .create k n a c =>
    -- (reachable with an existing object only after a cache miss; the simulated API server of
    -- the harness answers AlreadyExists before it validates: either way nothing is written)
    match findObj s.objs k n with
    | some _ => (s, .exists_)
    | none =>
      if c = invalidContent then (s, .invalid)
      else ({ s with objs := s.objs ++ [⟨k, n, a, .xr, false, false, c, false⟩] }, .ok)
  | .mergePatch k n a c =>
    if c = invalidContent then (match findObj s.objs k n with | some _ => (s, .invalid) | none => (s, .notFound)) else
    match findObj s.objs k n with
    | some o =>
      if o.ctrl = .other then (s, .invalid)
      else ({ s with objs := mapObj s.objs k n (fun o => { o with annot := a, ctrl := .xr, content := c }) }, .ok)
    | none => (s, .notFound)
  | .patchXR => (s, .ok)
  | .statusPatch => (s, .okRv s.xrRv)
  | .statusUpdate rv => if rv.isSome ∧ rv ≠ some s.xrRv then (s, .conflict) else (s, .ok)

def isRead : Req → Bool
  | .getXR | .getObj _ _ | .getCached _ _ => true
  | _ => false

def sem : Sem St Req Resp where
  exec := exec
  errResp := fun o r => match o with
    | .conflict => if isRead r then .err else .conflict
    | _ => .err

/-- outcome of `Reconcile`: `success` = composition succeeded, every desired resource
was applied and the final status write went through; `handled` = nil error but some
error/conflict/unsynced path was taken; `error` = a non-nil error was returned -/
inductive Result where
  | success | handled | error
  deriving DecidableEq, Repr, Inhabited

abbrev P := Prog Req Resp Result

/-- error epilogue of Reconcile: a Conflict requeues without touching status; any
other error records Synced=False with one Status().Update -/
def onErrorO (lrv : Option Nat) : P := .call (.statusUpdate lrv) fun
  | .ok => .ret .handled
  | _ => .ret .error

def onError (lrv : Nat) : P := onErrorO (some lrv)

def onConflict : P := .ret .handled

/-- the last call of a reconcile whose composition succeeded (`synced` = every desired
resource was rendered and applied) -/
def finish (lrv : Nat) (synced : Bool) : P := .call (.statusUpdate (some lrv)) fun
  | .ok => .ret (if synced then .success else .handled)
  | _ => .ret .error

/-- a write call whose failure aborts the reconcile -/
def wcall (lrv : Nat) (r : Req) (k : Resp → P) : P := .call r fun
  | .err => onError lrv
  | .conflict => onConflict
  | x => k x

/-- association list of observed composed resources by composition-resource-name
(a Go map: a later entry for the same name replaces the earlier one) -/
abbrev Obs := List (String × CObj)

def obsInsert : Obs → String → CObj → Obs
  | [], n, o => [(n, o)]
  | p :: ps, n, o => if p.1 = n then (n, o) :: ps else p :: obsInsert ps n o

def obsLookup (obs : Obs) (n : String) : Option CObj :=
  (obs.find? (·.1 = n)).map (·.2)

/-- ObserveComposedResources: `g.cached.Get`, and on NotFound ("not in the cache yet? try again
without the cache") `g.uncached.Get` -/
def observeFn (lrv : Nat) : List Ref → Obs → (Obs → P) → P
  | [], acc, k => k acc
  | r :: rs, acc, k =>
    if r.name = "" then observeFn lrv rs acc k else
    let found (o : CObj) : P :=
      if o.ctrl = .other then observeFn lrv rs acc k
      else if o.annot = "" then onError lrv
      else observeFn lrv rs (obsInsert acc o.annot o) k
    .call (.getCached r.kind r.name) fun
      | .found o => found o
      | .notFound => .call (.getObj r.kind r.name) fun
        | .found o => found o
        | .notFound => observeFn lrv rs acc k
        | _ => onError lrv
      | _ => onError lrv

/-- a desired resource with its metadata.name decided -/
structure Named where
  d : Desired
  name : String
  gen : Bool     -- the name was generated in this reconcile (else inherited from the observed resource)
  deriving Repr, Inhabited

/-- the render loop of the function composer: inherit the observed name, else
generate one (one availability probe per generated name). The desired resources come in
Go's map iteration order; `fresh` are the generator's choices. -/
def renderFn (lrv : Nat) (obs : Obs) : List Desired → List String → List Named → (List Named → P) → P
  | [], _, acc, k => k acc.reverse
  | d :: ds, fresh, acc, k =>
    match obsLookup obs d.rname with
    | some o => renderFn lrv obs ds fresh (⟨d, o.name, false⟩ :: acc) k
    | none =>
      match fresh with
      | [] => onError lrv   -- generator gave up
      | n :: fresh' => .call (.getCached d.kind n) fun   -- names.NewNameGenerator(cached)
        | .notFound => renderFn lrv obs ds fresh' (⟨d, n, true⟩ :: acc) k
        | .found _ => onError lrv   -- (the real generator retries with another random name: `renderFnT` below)
        | _ => onError lrv

/-- GarbageCollectComposedResources: observed resources that are not desired -/
def gcFn (lrv : Nat) : List CObj → P → P
  | [], k => k
  | o :: os, k =>
    wcall lrv (.gcUpdate o.kind o.name) fun _ =>
    wcall lrv (.delete o.kind o.name) fun _ =>
    gcFn lrv os k

def refLt (a b : Ref) : Bool := (a.kind ++ a.name) < (b.kind ++ b.name)

def nkey (n : Named) : Ref := ⟨n.d.kind, n.name⟩

/-- UpdateResourceRefs: references of all desired resources, sorted -/
def refsOf (ns : List Named) : List Ref :=
  (ns.map nkey).mergeSort (fun a b => !refLt b a)

/-- the apply loop of the function composer -/
def applyFn (lrv : Nat) : List Named → Bool → (Bool → P) → P
  | [], synced, k => k synced
  | n :: ns, synced, k =>
    wcall lrv (.apply n.d.kind n.name n.d.rname n.d.content) fun
      | .invalid => applyFn lrv ns false k   -- tolerated: the resource is reported unsynced
      | _ => applyFn lrv ns synced k

/-- order a list by a hint (elements whose key is hinted first, in hint order, then
the rest): how the driver replays Go's map iteration order -/
def orderBy {α : Type} (key : α → String) (hint : List String) (xs : List α) : List α :=
  (hint.flatMap fun h => xs.filter (fun x => key x == h)) ++ xs.filter (fun x => !hint.contains (key x))

/-- the nondeterministic choices of one function-composer run -/
structure Choices where
  ver : String := "v1"                  -- API version the function emits its resources with
  fresh : List String                   -- names the generator will propose, in order
  gcOrder : List CObj → List CObj       -- Go's map order in the garbage-collection loop
  applyOrder : List Named → List Named  -- Go's map order in the apply loop

inductive FnOut where
  | desired (ds : List Desired)   -- in the render loop's (map) iteration order
  | failed      -- a step errored, returned a fatal result, or its requirements never stabilised
  deriving Repr, Inhabited

/-- FunctionComposer.Compose followed by the tail of Reconcile -/
def composeFn (lrv : Nat) (refs : List Ref) (out : Obs → FnOut) (ch : Choices) : P :=
  observeFn lrv refs [] fun obs =>
  match out obs with
  | .failed => onError lrv
  | .desired ds =>
    renderFn lrv obs ds ch.fresh [] fun named =>
    let undesired := (obs.filter fun p => !(ds.any (·.rname = p.1))).map (·.2)
    gcFn lrv (ch.gcOrder undesired) <|
    wcall lrv (.patchRefs ch.ver (refsOf named)) fun _ =>
    applyFn lrv (ch.applyOrder named) true fun synced =>
    -- before this call the local XR is replaced by the function's desired XR (FromStruct),
    -- which carries no resourceVersion: a failure here leads to an unconditional status update
    .call .statusPatch fun
      | .okRv rv => finish rv synced   -- the patched XR (latest resourceVersion) is loaded into the local copy
      | .conflict => onConflict
      | _ => onErrorO none

/-! ### P&T composer with named templates -/

/-- template association: for each template (by name) the referenced existing resource, if any -/
abbrev Assoc := List (String × Ref)

def assocInsert : Assoc → String → Ref → Assoc
  | [], n, r => [(n, r)]
  | p :: ps, n, r => if p.1 = n then (n, r) :: ps else p :: assocInsert ps n r

def assocLookup (a : Assoc) (n : String) : Option Ref :=
  (a.find? (·.1 = n)).map (·.2)

/-- GarbageCollectingAssociator.AssociateTemplates (all templates named): `a.cached.Get`, and on
NotFound `a.uncached.Get` -/
def associatePT (lrv : Nat) (tmpl : List Desired) : List Ref → Assoc → (Assoc → P) → P
  | [], acc, k => k acc
  | r :: rs, acc, k =>
    if r.name = "" then associatePT lrv tmpl rs acc k else
    let found (o : CObj) : P :=
      if o.annot = "" then onError lrv     -- falls back to by-order association: outside the model (named templates, annotated resources)
      else if tmpl.any (·.rname = o.annot) then associatePT lrv tmpl rs (assocInsert acc o.annot r) k
      else if o.ctrl = .other then onError lrv
      else
        wcall lrv (.gcUpdate o.kind o.name) fun _ =>
        wcall lrv (.delete o.kind o.name) fun _ =>
        associatePT lrv tmpl rs acc k
    .call (.getCached r.kind r.name) fun
      | .found o => found o
      | .notFound => .call (.getObj r.kind r.name) fun
        | .found o => found o
        | .notFound => associatePT lrv tmpl rs acc k
        | _ => onError lrv
      | _ => onError lrv

/-- a template after rendering: `name = ""` means name generation failed (unrendered) -/
structure Rendered where
  d : Desired
  name : String
  rendered : Bool
  deriving Repr, Inhabited

def rkey (r : Rendered) : Ref := ⟨r.d.kind, r.name⟩

/-- the render loop of the P&T composer (template order; a failed name probe
leaves the template unrendered and does NOT abort) -/
def renderPT (lrv : Nat) (a : Assoc) : List Desired → List String → List Rendered → (List Rendered → P) → P
  | [], _, acc, k => k acc.reverse
  | d :: ds, fresh, acc, k =>
    match assocLookup a d.rname with
    | some r =>
      -- RenderFromJSON refuses a template whose kind differs from the referenced resource
      if r.kind = d.kind then renderPT lrv a ds fresh (⟨d, r.name, true⟩ :: acc) k else onError lrv
    | none =>
      match fresh with
      | [] => renderPT lrv a ds fresh (⟨d, "", false⟩ :: acc) k
      | n :: fresh' => .call (.getCached d.kind n) fun   -- names.NewNameGenerator(cached)
        | .notFound => renderPT lrv a ds fresh' (⟨d, n, true⟩ :: acc) k
        | _ => renderPT lrv a ds fresh' (⟨d, "", false⟩ :: acc) k

/-- the apply loop of the P&T composer: Apply = Get; Create | (MustBeControllableBy; merge Patch).
The applicator is built on the cached client: an existing resource that is missing from the
cache is "not found", the Create answers AlreadyExists and the reconcile errors. -/
def applyPT (lrv : Nat) : List Rendered → Bool → (Bool → P) → P
  | [], synced, k => k synced
  | r :: rs, synced, k =>
    if !r.rendered then applyPT lrv rs false k else
    .call (.getCached r.d.kind r.name) fun
      | .notFound => wcall lrv (.create r.d.kind r.name r.d.rname r.d.content) fun
        | .exists_ => onError lrv
        | .invalid => applyPT lrv rs false k     -- rejected by the API server: reported unsynced, the others still applied
        | _ => applyPT lrv rs synced k
      | .found o =>
        if o.ctrl = .other then onError lrv   -- MustBeControllableBy
        else wcall lrv (.mergePatch r.d.kind r.name r.d.rname r.d.content) fun
          | .notFound => onError lrv
          | .invalid => applyPT lrv rs false k
          | _ => applyPT lrv rs synced k
      | _ => onError lrv

/-- PTComposer.Compose followed by the tail of Reconcile -/
def composePT (lrv : Nat) (refs : List Ref) (tmpl : List Desired) (fresh : List String) (ver : String := "v1") : P :=
  associatePT lrv tmpl refs [] fun a =>
  renderPT lrv a tmpl fresh [] fun rs =>
  wcall lrv (.updateXR lrv ver (rs.map rkey)) fun rsp =>
  let lrv' := match rsp with | .okRv rv => rv | _ => lrv
  applyPT lrv' rs true fun synced =>
  .call .getXR fun
    | .xr _ _ _ => wcall lrv' .patchXR fun _ => finish lrv' synced
    | _ => onError lrv'

inductive Mode where
  | fn (out : Obs → FnOut) (ch : Choices)
  | pt (tmpl : List Desired) (fresh : List String) (ver : String := "v1")

/-- Reconciler.Reconcile for a live, unpaused XR -/
def reconcile (m : Mode) : P :=
  .call .getXR fun
    | .xr fin rv refs =>
      let body (lrv : Nat) : P := match m with
        | .fn out ch => composeFn lrv refs out ch
        | .pt tmpl fresh ver => composePT lrv refs tmpl fresh ver
      if fin then body rv
      else .call (.addFinalizer rv) fun
        | .okRv rv' => body rv'
        | .conflict => onConflict
        | _ => onError rv
    | _ => .ret .error

/-! ### the name generator's availability loop (internal/names/generate.go)

`nameGenerator.GenerateName` draws up to `maxTries` candidates from the API server's name
generator (`fresh`: random suffixes, an input) and probes each with a Get through the client it was
built with — the CACHED one (`names.NewNameGenerator(cached)`): NotFound ⇒ the candidate becomes
the name; found ⇒ next candidate; any other error ⇒ give up with that error; every try found ⇒
`errGenerateName`. `reconcile` above is the instance with ONE try (`reconcileT_one`, Props):
there a found candidate ends the generation. `reconcileT tries` is what the driver runs with
`tries = maxTries` (= `maxTries := 10` of the source: `skeleton_generate_name`), and what the
`…_retry` theorems speak about for EVERY number of tries. -/

/-- `maxTries` of the name generator: at most this many availability probes per generated name -/
def maxTries : Nat := 10

/-- how a name generation ended -/
inductive Probed where
  | name (n : String)   -- the candidate the cache does not know
  | gaveUp              -- every try found an object (errGenerateName), or the model ran out of candidates
  | failed              -- a probe failed with another error
  deriving DecidableEq, Repr, Inhabited

/-- `nameGenerator.GenerateName` for a resource of kind `kind` without a name: the loop body is
`name := namer.GenerateName(..); err := reader.Get(name); IsNotFound ⇒ SetName, return; err ⇒ return err`.
The continuation receives the outcome and the candidates not drawn yet. -/
def probeName (kind : String) : Nat → List String → (Probed → List String → P) → P
  | 0, fresh, k => k .gaveUp fresh
  | _ + 1, [], k => k .gaveUp []
  | t + 1, n :: rest, k => .call (.getCached kind n) fun
    | .notFound => k (.name n) rest
    | .found _ => probeName kind t rest k
    | _ => k .failed rest

/-- the render loop of the function composer with the generator's retry loop: a generation that
does not end in a name aborts the composition -/
def renderFnT (tries : Nat) (lrv : Nat) (obs : Obs) : List Desired → List String → List Named → (List Named → P) → P
  | [], _, acc, k => k acc.reverse
  | d :: ds, fresh, acc, k =>
    match obsLookup obs d.rname with
    | some o => renderFnT tries lrv obs ds fresh (⟨d, o.name, false⟩ :: acc) k
    | none => probeName d.kind tries fresh fun
      | .name n, rest => renderFnT tries lrv obs ds rest (⟨d, n, true⟩ :: acc) k
      | _, _ => onError lrv

/-- FunctionComposer.Compose (+ tail of Reconcile) with the generator's retry loop -/
def composeFnT (tries : Nat) (lrv : Nat) (refs : List Ref) (out : Obs → FnOut) (ch : Choices) : P :=
  observeFn lrv refs [] fun obs =>
  match out obs with
  | .failed => onError lrv
  | .desired ds =>
    renderFnT tries lrv obs ds ch.fresh [] fun named =>
    let undesired := (obs.filter fun p => !(ds.any (·.rname = p.1))).map (·.2)
    gcFn lrv (ch.gcOrder undesired) <|
    wcall lrv (.patchRefs ch.ver (refsOf named)) fun _ =>
    applyFn lrv (ch.applyOrder named) true fun synced =>
    .call .statusPatch fun
      | .okRv rv => finish rv synced
      | .conflict => onConflict
      | _ => onErrorO none

/-- the render loop of the P&T composer with the generator's retry loop: a generation that does
not end in a name leaves the template unrendered (and does not abort) -/
def renderPTT (tries : Nat) (lrv : Nat) (a : Assoc) : List Desired → List String → List Rendered → (List Rendered → P) → P
  | [], _, acc, k => k acc.reverse
  | d :: ds, fresh, acc, k =>
    match assocLookup a d.rname with
    | some r =>
      if r.kind = d.kind then renderPTT tries lrv a ds fresh (⟨d, r.name, true⟩ :: acc) k else onError lrv
    | none => probeName d.kind tries fresh fun
      | .name n, rest => renderPTT tries lrv a ds rest (⟨d, n, true⟩ :: acc) k
      | _, rest => renderPTT tries lrv a ds rest (⟨d, "", false⟩ :: acc) k

/-- PTComposer.Compose (+ tail of Reconcile) with the generator's retry loop -/
def composePTT (tries : Nat) (lrv : Nat) (refs : List Ref) (tmpl : List Desired) (fresh : List String) (ver : String := "v1") : P :=
  associatePT lrv tmpl refs [] fun a =>
  renderPTT tries lrv a tmpl fresh [] fun rs =>
  wcall lrv (.updateXR lrv ver (rs.map rkey)) fun rsp =>
  let lrv' := match rsp with | .okRv rv => rv | _ => lrv
  applyPT lrv' rs true fun synced =>
  .call .getXR fun
    | .xr _ _ _ => wcall lrv' .patchXR fun _ => finish lrv' synced
    | _ => onError lrv'

/-- `Reconciler.Reconcile` after its first read of the XR answered `x` -/
def recContT (tries : Nat) (m : Mode) : Resp → P
  | .xr fin rv refs =>
    let body (lrv : Nat) : P := match m with
      | .fn out ch => composeFnT tries lrv refs out ch
      | .pt tmpl fresh ver => composePTT tries lrv refs tmpl fresh ver
    if fin then body rv
    else .call (.addFinalizer rv) fun
      | .okRv rv' => body rv'
      | .conflict => onConflict
      | _ => onError rv
  | _ => .ret .error

/-- Reconciler.Reconcile for a live, unpaused XR, the name generator trying `tries` candidates -/
def reconcileT (tries : Nat) (m : Mode) : P := .call .getXR (recContT tries m)

/-- A reconcile whose first read of the XR (`r.client.Get`, the cached client) is served by a
LAGGING informer cache: the read is issued, but what the reconciler sees is an earlier version
(`fin`, `rv`, `refs`) of the XR; every later read and all writes see the store (the informer
catches up while the reconcile runs). -/
def reconcileStaleT (tries : Nat) (m : Mode) (fin : Bool) (rv : Nat) (refs : List Ref) : P :=
  .call .getXR fun
    | .xr _ _ _ => recContT tries m (.xr fin rv refs)
    | x => recContT tries m x

/-! ### call skeletons

For every Go function mirrored above: the ordered list of its property-relevant calls as the
model reads them, one entry per call of the source, with the model step that mirrors it (or
"not modelled: why"). `Xp.Gen.c01Skel*` (lean/Xp/Gen/C01Skel.lean) is the same list extracted
with go/ast from the CURRENT tree on every run (harness/main/c01_dump.go); Props/C01.lean
states their equality (`skeleton_*`), so a call inserted, removed or moved in one of these
functions breaks an obligation before any scenario runs. -/

/-- reconciler.go `Reconciler.Reconcile` ↦ `reconcile` -/
def skelReconcile : List String :=
  ["client.Get",                              -- .getXR (error ⇒ return: `.ret .error`)
   "meta.IsPaused", "client.Status.Update",   -- not modelled: the XR of the XR world is never paused
   "meta.WasDeleted",                         -- not modelled: the XR is live (deletion is C08's)
   "composite.UnpublishConnection", "client.Status.Update",
   "composite.RemoveFinalizer", "kerrors.IsConflict", "client.Status.Update",
   "client.Status.Update",
   "composite.AddFinalizer",                  -- .addFinalizer, issued only when the finalizer is absent (`fin`)
   "kerrors.IsConflict",                      -- … conflict ⇒ onConflict
   "client.Status.Update",                    -- … other error ⇒ onError
   "composite.SelectComposition", "client.Status.Update",  -- not modelled: composition fixed (harness stub: no API call, no error)
   "revision.Fetch", "client.Status.Update",               -- not modelled: the revision is an input (`Mode`)
   "revision.Validate", "client.Status.Update",            -- not modelled: revisions of the XR world are valid
   "composite.Configure", "kerrors.IsConflict", "client.Status.Update",  -- not modelled: XR already configured (name-prefix label present)
   "resource.Compose",                        -- composeFn / composePT
   "kerrors.IsConflict",                      -- wcall: conflict ⇒ onConflict (no status write)
   "kerrors.IsInvalid",                       -- message only, no call
   "handleCommonCompositionResult",           -- no API call (no claim reference): skelHandleResult
   "client.Status.Update",                    -- onError / onErrorO
   "engine.StartWatches",                     -- not modelled: no-op engine, no API call
   "composite.PublishConnection", "kerrors.IsConflict", "client.Status.Update",  -- not modelled: no connection secret (C09's world)
   "handleCommonCompositionResult",
   "updateXRConditions",                      -- `synced` of `finish`
   "client.Status.Update",                    -- finish (unsynced/unready: immediate requeue)
   "client.Status.Update"]                    -- finish

/-- reconciler.go `handleCommonCompositionResult`: `getClaimFromXR` Gets the claim only when the XR
has a claim reference — not modelled: the XR of the XR world has none, no API call -/
def skelHandleResult : List String := ["getClaimFromXR", "xr.SetConditions", "xr.SetClaimConditionTypes"]

/-- composition_functions.go `FunctionComposer.Compose` ↦ `composeFn` -/
def skelFnCompose : List String :=
  ["composite.ObserveComposedResources",      -- observeFn
   "composite.FetchConnection",               -- not modelled: the XR has no connection secret, no API call
   "AsState",
   "client.Get",                              -- not modelled: pipeline steps carry no credentials
   "pipeline.RunFunction",                    -- `out obs` (.failed ⇒ onError)
   "FromStruct",
   "cd.SetNamespace", "cd.SetName",           -- renderFn: the observed resource's name is inherited
   "RenderComposedResourceMetadata",          -- annotation / controller carried by `.apply` (skelRenderMeta)
   "composite.GenerateName",                  -- renderFn: probeName
   "composite.GarbageCollectComposedResources", -- gcFn
   "refs.SetName",
   "UpdateResourceRefs",                      -- refsOf
   "client.Patch",                            -- .patchRefs  (BEFORE the apply loop, AFTER the garbage collection)
   "composite.ManagedFieldsUpgrader.Upgrade", -- not modelled: managed-fields migration (no patch when the SSA manager is present)
   "client.Patch",                            -- applyFn: .apply
   "kerrors.IsInvalid",                       -- … .invalid ⇒ unsynced, continue
   "FromStruct", "xr.SetName", "removeSystemConditions",
   "client.Status.Patch"]                     -- .statusPatch

/-- `ExistingComposedResourceObserver.ObserveComposedResources` ↦ `observeFn` -/
def skelObserve : List String :=
  ["cached.Get",                  -- .getCached
   "kerrors.IsNotFound",
   "uncached.Get",                -- .getObj
   "kerrors.IsNotFound",          -- … skip the reference
   "metav1.GetControllerOf",      -- ctrl = .other ⇒ skip
   "GetCompositionResourceName",  -- annot = "" ⇒ error
   "details.FetchConnection"]     -- not modelled: no connection secret

/-- `DeletingComposedResourceGarbageCollector.GarbageCollectComposedResources` ↦ `gcFn` -/
def skelGC : List String :=
  ["metav1.GetControllerOf",      -- not modelled: foreign controller ⇒ error; unreachable, observeFn never records a foreign object
   "meta.RemoveLabels",
   "client.Update",               -- .gcUpdate
   "resource.IgnoreNotFound",
   "client.Delete",               -- .delete
   "resource.IgnoreNotFound"]

/-- `UpdateResourceRefs` ↦ `refsOf` (sorted by `refLt`: skelRefsSortLess) -/
def skelUpdateRefs : List String := ["meta.ReferenceTo", "sort.Slice", "xr.SetResourceReferences"]

/-- the `less` of UpdateResourceRefs; `refLt` compares kind ++ name: all references of one
reconcile carry the same API version, and within one group ("KA2" = Kind KA of a group that sorts first) -/
def skelRefsSortLess : String := "ri.APIVersion+ri.Kind+ri.Name < rj.APIVersion+rj.Kind+rj.Name"

/-- `PatchingManagedFieldsUpgrader.Upgrade`: not modelled (objects of the XR world carry the SSA
manager or are created by it); tied so that a new write in it is noticed -/
def skelUpgrade : List String :=
  ["meta.WasCreated", "obj.GetManagedFields", "resource.IgnoreNotFound", "client.Patch", "resource.IgnoreNotFound", "client.Patch"]

/-- composition_pt.go `PTComposer.Compose` ↦ `composePT` -/
def skelPTCompose : List String :=
  ["ComposedTemplates",                 -- not modelled: no patch sets
   "composition.AssociateTemplates",    -- associatePT
   "RenderFromJSON",                    -- renderPT: kind of the reference = kind of the template, else error
   "RenderFromCompositePatches",        -- not modelled: templates without patches (C10's)
   "RenderComposedResourceMetadata",    -- annotation / controller carried by `.create` / `.mergePatch`
   "composed.GenerateName",             -- renderPT: probeName (failure ⇒ unrendered, no abort)
   "meta.ReferenceTo",                  -- rkey
   "xr.SetResourceReferences",
   "client.Update",                     -- .updateXR (BEFORE the apply loop)
   "resource.MustBeControllableBy",     -- applyPT: ctrl = .other ⇒ error
   "usage.RespectOwnerRefs",            -- not modelled: no Usage among the composed kinds
   "client.Apply",                      -- applyPT: .getCached ; .create | .mergePatch
   "kerrors.IsInvalid",                 -- … .invalid ⇒ unsynced, continue
   "RenderToCompositePatches",          -- not modelled: no patches
   "composed.FetchConnection", "composed.ExtractConnection",  -- not modelled: no connection secret
   "composed.IsReady",                  -- no API call
   "xr.DeepCopy",
   "client.Apply"]                      -- .getXR ; .patchXR

/-- `GarbageCollectingAssociator.AssociateTemplates` ↦ `associatePT` -/
def skelAssociate : List String :=
  ["AssociateByOrder",              -- not modelled: anonymous templates
   "cached.Get",                    -- .getCached
   "kerrors.IsNotFound",
   "uncached.Get",                  -- .getObj
   "kerrors.IsNotFound",
   "GetCompositionResourceName",
   "AssociateByOrder",              -- not modelled: unannotated referenced resource (the model errors)
   "metav1.GetControllerOf",        -- ctrl = .other ⇒ error
   "meta.RemoveLabels",
   "cached.Update",                 -- .gcUpdate
   "resource.IgnoreNotFound",
   "cached.Delete",                 -- .delete
   "resource.IgnoreNotFound"]

/-- composition_render.go `RenderComposedResourceMetadata`: what `.apply` / `.create` / `.mergePatch`
write besides the content (annot := resource name, ctrl := .xr); generateName feeds the name generator -/
def skelRenderMeta : List String :=
  ["cd.SetGenerateName", "SetCompositionResourceName", "meta.AddLabels", "meta.AsController", "meta.TypedReferenceTo",
   "meta.AddControllerReference"]

/-- composition_render.go `RenderFromJSON`: keeps the referenced name, refuses a changed kind -/
def skelRenderFromJSON : List String :=
  ["o.GetName", "o.GetNamespace", "json.Unmarshal", "o.SetName", "o.SetNamespace", "gvk.Empty"]

/-- internal/names/generate.go `nameGenerator.GenerateName` ↦ `probeName` -/
def skelGenerateName : List String :=
  ["cd.GetName", "cd.GetGenerateName",   -- named already ⇒ nothing (renderFn/renderPT: inherited name, no probe)
   "namer.GenerateName",                 -- next candidate of `fresh`
   "cd.GetGenerateName",
   "reader.Get",                         -- .getCached (the generator is built on the cached client)
   "kerrors.IsNotFound",                 -- available ⇒
   "cd.SetName"]                         -- … the candidate becomes the name; found ⇒ next try; other error ⇒ give up

/-! ### the skeletons as annotated by the model

The per-entry comments above, as data: for every entry of a declared skeleton, the API calls
(`reqVerb` of the model's requests) the mirroring model step issues on the designated full path of
the model — the run in which every loop is entered exactly once (one reference that is missing from
the cache and undesired, one desired resource that needs a name, a missing finalizer). Callee
skeletons are inlined at their call sites (`stepsOf`). Props/C01.lean proves that the first
components ARE the declared skeletons and that the concatenated annotations ARE the requests the
model applies on that path (`model_path_matches_skeleton_fn/_pt`): an entry annotated with a call
the model does not issue there, or a model call no entry accounts for, breaks the obligation. -/

/-- the client call a model request stands for -/
def reqVerb : Req → String
  | .getXR | .getObj _ _ | .getCached _ _ => "Get"
  | .addFinalizer _ | .gcUpdate _ _ | .updateXR _ _ _ => "Update"
  | .delete _ _ => "Delete"
  | .patchRefs _ _ | .apply _ _ _ _ | .mergePatch _ _ _ _ | .patchXR => "Patch"
  | .create _ _ _ _ => "Create"
  | .statusPatch => "Status.Patch"
  | .statusUpdate _ => "Status.Update"

abbrev Annot := List (String × List String)

def stepsOf (a : Annot) : List String := a.flatMap (·.2)

def skelObserveA : Annot :=
  [("cached.Get", ["Get"]), ("kerrors.IsNotFound", []), ("uncached.Get", ["Get"]), ("kerrors.IsNotFound", []),
   ("metav1.GetControllerOf", []), ("GetCompositionResourceName", []), ("details.FetchConnection", [])]

def skelGCA : Annot :=
  [("metav1.GetControllerOf", []), ("meta.RemoveLabels", []), ("client.Update", ["Update"]), ("resource.IgnoreNotFound", []),
   ("client.Delete", ["Delete"]), ("resource.IgnoreNotFound", [])]

def skelGenerateNameA : Annot :=
  [("cd.GetName", []), ("cd.GetGenerateName", []), ("namer.GenerateName", []), ("cd.GetGenerateName", []),
   ("reader.Get", ["Get"]), ("kerrors.IsNotFound", []), ("cd.SetName", [])]

def skelFnComposeA : Annot :=
  [("composite.ObserveComposedResources", stepsOf skelObserveA), ("composite.FetchConnection", []), ("AsState", []),
   ("client.Get", []), ("pipeline.RunFunction", []), ("FromStruct", []), ("cd.SetNamespace", []), ("cd.SetName", []),
   ("RenderComposedResourceMetadata", []), ("composite.GenerateName", stepsOf skelGenerateNameA),
   ("composite.GarbageCollectComposedResources", stepsOf skelGCA), ("refs.SetName", []), ("UpdateResourceRefs", []),
   ("client.Patch", ["Patch"]), ("composite.ManagedFieldsUpgrader.Upgrade", []), ("client.Patch", ["Patch"]),
   ("kerrors.IsInvalid", []), ("FromStruct", []), ("xr.SetName", []), ("removeSystemConditions", []),
   ("client.Status.Patch", ["Status.Patch"])]

def skelAssociateA : Annot :=
  [("AssociateByOrder", []), ("cached.Get", ["Get"]), ("kerrors.IsNotFound", []), ("uncached.Get", ["Get"]),
   ("kerrors.IsNotFound", []), ("GetCompositionResourceName", []), ("AssociateByOrder", []), ("metav1.GetControllerOf", []),
   ("meta.RemoveLabels", []), ("cached.Update", ["Update"]), ("resource.IgnoreNotFound", []), ("cached.Delete", ["Delete"]),
   ("resource.IgnoreNotFound", [])]

def skelPTComposeA : Annot :=
  [("ComposedTemplates", []), ("composition.AssociateTemplates", stepsOf skelAssociateA), ("RenderFromJSON", []),
   ("RenderFromCompositePatches", []), ("RenderComposedResourceMetadata", []),
   ("composed.GenerateName", stepsOf skelGenerateNameA), ("meta.ReferenceTo", []), ("xr.SetResourceReferences", []),
   ("client.Update", ["Update"]), ("resource.MustBeControllableBy", []), ("usage.RespectOwnerRefs", []),
   ("client.Apply", ["Get", "Create"]),      -- crossplane-runtime APIPatchingApplicator: Get; NotFound ⇒ Create
   ("kerrors.IsInvalid", []), ("RenderToCompositePatches", []), ("composed.FetchConnection", []),
   ("composed.ExtractConnection", []), ("composed.IsReady", []), ("xr.DeepCopy", []),
   ("client.Apply", ["Get", "Patch"])]       -- … found ⇒ merge Patch (the XR)

/-- Reconciler.Reconcile, `compose` being the calls of the composer on the path -/
def skelReconcileA (compose : List String) : Annot :=
  [("client.Get", ["Get"]), ("meta.IsPaused", []), ("client.Status.Update", []), ("meta.WasDeleted", []),
   ("composite.UnpublishConnection", []), ("client.Status.Update", []), ("composite.RemoveFinalizer", []),
   ("kerrors.IsConflict", []), ("client.Status.Update", []), ("client.Status.Update", []),
   ("composite.AddFinalizer", ["Update"]),   -- crossplane-runtime APIFinalizer: Update when the finalizer is absent
   ("kerrors.IsConflict", []), ("client.Status.Update", []), ("composite.SelectComposition", []),
   ("client.Status.Update", []), ("revision.Fetch", []), ("client.Status.Update", []), ("revision.Validate", []),
   ("client.Status.Update", []), ("composite.Configure", []), ("kerrors.IsConflict", []), ("client.Status.Update", []),
   ("resource.Compose", compose), ("kerrors.IsConflict", []), ("kerrors.IsInvalid", []),
   ("handleCommonCompositionResult", []), ("client.Status.Update", []), ("engine.StartWatches", []),
   ("composite.PublishConnection", []), ("kerrors.IsConflict", []), ("client.Status.Update", []),
   ("handleCommonCompositionResult", []), ("updateXRConditions", []), ("client.Status.Update", []),
   ("client.Status.Update", ["Status.Update"])]

/-- the designated path: no finalizer yet; one reference, to a resource "z" that is missing from the
cache and no longer desired; one desired resource that needs a name -/
def pathStore (kind : String) : St :=
  { xrFin := false, xrRv := 1, refs := [⟨kind, "xr-old"⟩],
    objs := [⟨kind, "xr-old", "z", .xr, false, false, 0, true⟩], miss := [⟨kind, "xr-old"⟩] }

def pathModeFn : Mode := .fn (fun _ => .desired [⟨"c", "KA", 0, true⟩]) ⟨"v1", ["xr-new"], id, id⟩

def pathModePT : Mode := .pt [⟨"a", "KA", 1, true⟩] ["xr-new"] "v1"

end Xp.C01
