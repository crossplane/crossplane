import Xp.Model.C17
import Xp.Model.C17Rec
import Xp.Model.C17ResF
/-
C17 model, part 4: the call skeletons the model's definitions mirror (tie "a").

For every Go function mirrored by Model/C17.lean, Model/C17Rec.lean and Model/C17ResF.lean
this file declares, in source order, the calls (and, for the small DAG / lock-node methods,
the `return`s) of that function, one entry per call, with the model step that mirrors it.
harness/main/c17_dump.go extracts the same lists with go/ast from the CURRENT tree into
Xp/Gen/C17Skel.lean on every check run; Props/C17.lean states `Xp.Gen.c17Skel… = skel…`
(`skeleton_*`, by `rfl`). An inserted, removed or reordered call in one of these functions
breaks an obligation before any scenario is run, and points at the model step to revisit.

Conventions of the extractor (harness/main/skel.go): the receiver is dropped (`d.AddNode` is
"AddNode", `d.nodes[x].Neighbors()` is "nodes.Neighbors", `r.client.Status().Update` is
"client.Status.Update"); a call comes before the calls in its arguments.
-/
namespace Xp.C17

/-! ## internal/dag: MapDag and MapUpgradingDag (dag.go, upgrading_dag.go) -/

/-- `Init` (both implementations): `init` -/
def skelInit : List String := [
  "AddNode",            -- `addNodes [] (pkgs.map pkgNode)`: one AddNode per lock package
  "return",             --   its error: `init … = .error e`
  "AddEdges",           -- `initEdges`: per package `addEdges o upg p.source d p.deps`
  "node.Identifier",    --   the source of the edges: `p.source` (`pkgNode p`).id
  "node.Neighbors",     --   the targets: `p.deps`, each a fresh `*Dependency` (`depNode`)
  "return",             --   its error: `.error x`
  "return"]             -- `(d, implied)`

/-- `AddNodes`: `addNodes` -/
def skelAddNodes : List String := [
  "AddNode",            -- `addNode d n`
  "return",             -- `.error e`
  "return"]             -- `.ok d`

/-- `AddNode`: `addNode` -/
def skelAddNode : List String := [
  "node.Identifier",    -- `d.has n.id`
  "return", "errors.Errorf", "node.Identifier",  -- `.error (.nodeExists n.id)`
  "node.Identifier",    -- `d ++ [n]`: stored under its identifier
  "return"]

/-- `MapDag.AddOrUpdateNodes`: `addOrUpdate false` -/
def skelDagAddOrUpdateNodes : List String := [
  "node.Identifier"]    -- replace the node stored under `n.id`, or append it

/-- `MapUpgradingDag.AddOrUpdateNodes`: `addOrUpdate true` -/
def skelUpgAddOrUpdateNodes : List String := [
  "node.Identifier",            -- `d.get n.id`
  "node.AddParentConstraints",  -- `n.parents ++ old.parents`
  "nodes.GetParentConstraints", --   `old.parents`
  "node.Identifier",
  "node.Identifier"]            -- replace / append

/-- `NodeExists`: `Dag.has` -/
def skelNodeExists : List String := ["return"]

/-- `TraceNode`: `trace` / `traceG` -/
def skelTraceNode : List String := [
  "traceNode",          -- `traceNode nb (size + 1) id []`
  "return",             -- `.error .missing`
  "return"]             -- the key set of the tree

/-- `traceNode`: `traceNode` + `traceNbrs` -/
def skelTraceNodeRec : List String := [
  "return", "errors.New",   -- `nb id = none`: `.error .missing`
  "nodes.Neighbors",        -- `nb id = some ns`
  "n.Identifier",           -- `tree.contains n`: skip
  "n.Identifier",           -- `n :: tree`
  "traceNode",              -- `rec n (n :: tree)`
  "n.Identifier",
  "return",                 --   its error
  "return"]

/-- `GetNode`: `Dag.get` -/
def skelGetNode : List String := [
  "return", "errors.Errorf",  -- `none`
  "return"]                   -- `some n`

/-- `AddEdges`: `addEdges` (one source node per call in `Init`) -/
def skelAddEdges : List String := [
  "AddEdge",            -- `addEdge o upg d frm e`; implied targets appended in call order
  "return",             -- `.error x`
  "return"]             -- `(d, imp)`

/-- `MapDag.AddEdge`: `addEdge o false` -/
def skelDagAddEdge : List String := [
  "return", "errors.Errorf",  -- `d.get frm = none`: `.error (.noFrom frm)`
  "to.Identifier",            -- `d.get to.pkg`
  "AddNode",                  -- absent: `to` itself becomes the node (`depNode to`), implied
  "return",                   --   not modelled: AddNode cannot fail right after the absence test
  "return",
  "nodes.AddNeighbors"]       -- `neighborCons f to.pkg`, written into `to` (the stored node iff implied)

/-- `MapUpgradingDag.AddEdge`: `addEdge o true` -/
def skelUpgAddEdge : List String := [
  "return", "errors.Errorf",  -- `.error (.noFrom frm)`
  "to.Identifier",            -- `d.get to.pkg`
  "AddNode",                  -- absent: implied
  "return",                   --   not modelled: cannot fail
  "isValidConstraints",       -- present: `validCon o org.con to.con`
  "nodes.AddNeighbors",       --   violated: `to.parents = pc`
  "to.Identifier",
  "n.AddParentConstraints",   --   `addParents d to.pkg pc`
  "to.GetParentConstraints",
  "return",                   --   `(…, true)`: returned as implied although present
  "nodes.AddNeighbors",       -- `pc` into `to`
  "nodes.AddParentConstraints", -- `to.parents` appended to the stored node: `pc ++ pc` when the
  "to.Identifier",              --   stored node is `to` itself (implied), else `addParents … pc`
  "to.GetParentConstraints",
  "return"]

/-- `Sort`: `sortG` / `sortFrom` -/
def skelSort : List String := [
  "visit",              -- `visit nb fuel n { st with stack := [] }` for every unvisited key of `order`
  "node.Neighbors",
  "return",             -- `.error e`
  "return"]             -- `results`, pre-sized to the number of nodes (padding with "")

/-- `visit`: `visit` + `visitNbrs` (`enter`, `leave`, `finish`) -/
def skelVisit : List String := [
  "n.Identifier",       -- `!st.visited.contains n`
  "n.Identifier",       -- `ex n`
  "return", "errors.Errorf", "n.Identifier",  -- `.error (.missing n)`
  "visit",              -- `rec n st`
  "n.Identifier", "nodes.Neighbors", "n.Identifier",
  "return",             --   its error
  "n.Identifier",       -- `st.stack.contains n`
  "return", "errors.Errorf", "n.Identifier",  -- `.error (.cycle n)`
  "return"]             -- `leave name st2`: first slot holding "" gets `name` (`finish`)

/-- `isValidConstraints`: `validCon`; `o.sat c v` is "c parses, v parses, c.Check(v)" -/
def skelIsValidConstraints : List String := [
  "installed.GetConstraints", "wanted.GetConstraints", "return",  -- `installed == wanted`
  "semver.NewConstraint", "wanted.GetConstraints", "return",      -- inside `o.sat wanted installed`
  "semver.NewVersion", "installed.GetConstraints", "return",
  "c.Check", "return",
  "return"]

/-! ## apis/pkg/v1beta1/lock.go: the two dag.Node implementations -/

/-- `ToNodes`: `pkgs.map pkgNode` -/
def skelToNodes : List String := ["return"]

/-- `LockPackage.Neighbors`: `(pkgNode p).deps = p.deps` -/
def skelLockPackageNeighbors : List String := ["return"]

/-- `Dependency.Neighbors`: `(depNode e).deps = []` -/
def skelDependencyNeighbors : List String := ["return"]

/-- `LockPackage.AddNeighbors`: `neighborCons` for `isPkg`: the constraint of the FIRST
dependency entry with the neighbour's identifier -/
def skelLockPackageAddNeighbors : List String := [
  "dep.Identifier", "n.Identifier",  -- `frm.deps.find? (fun e => e.pkg == to)`
  "n.AddParentConstraints",          -- `[e.con]`, then `break`
  "return"]

/-- `Dependency.AddNeighbors`: `neighborCons` for a dependency node: its own constraint -/
def skelDependencyAddNeighbors : List String := [
  "n.AddParentConstraints",          -- `[frm.con]`
  "return"]

/-- `AddParentConstraints` (both): `addParents` — an append, no calls -/
def skelAddParentConstraints : List String := []

/-! ## internal/controller/pkg/resolver/reconciler.go -/

/-- `Reconciler.Reconcile`: `reconcileP` (Model/C17Rec.lean), continuation by continuation -/
def skelReconcile : List String := [
  "client.Get",                 -- `.getLock`, `kGet`
  "resource.IgnoreNotFound",    --   `.err .notFound => .ret ⟨.none, false⟩`, else `.getLock e`
  "lock.RemoveFinalizer",       -- no packages: `ensureFin l false`
  "kerrors.IsConflict",         --   `kFin`: Conflict = silent requeue
  "lock.CleanConditions",       --   `finishWrap none`
  "client.Status.Update",       --   `.statusLock none rv`, `kStatusWrap`
  "lock.AddFinalizer",          -- `ensureFin l true`
  "kerrors.IsConflict",         --   `kFin`
  "newDag",                     -- `cfg.upg`: MapDag / MapUpgradingDag
  "dag.Init", "v1beta1.ToNodes",  -- `afterFin`: `init cfg.o cfg.upg l.pkgs`
  "lock.SetConditions", "client.Status.Update",  -- `finishErr rv .buildDag`
  "dag.Sort",                   -- `sort d d.keys`
  "lock.SetConditions", "client.Status.Update",  -- `finishErr rv .sortDag`
  "lock.SetConditions", "client.Status.Update",  -- nothing implied: `finishWrap (some true)`
  "dep.Identifier",             -- `depP`: `dep.pkg` of `implied[0]`
  "lock.SetConditions", "client.Status.Update",  -- not modelled: implied[0] is always a *Dependency
  "name.ParseReference",        -- `cfg.refOf dep.pkg`
  "lock.SetConditions", "client.Status.Update",  -- `none => finishWrap (some false)`
  "features.Enabled",           -- `cfg.upg`
  "NewPackageList",             -- `cfg.kindOf dep.pkg = ""`
  "lock.SetConditions", "client.Status.Update",  -- `finishErr rv .depType`
  "client.List",                -- `.listPkgs`, `kList`
  "lock.SetConditions", "client.Status.Update",  -- `finishErr rv (.list e)`
  "fieldpath.Pave.GetString", "name.ParseReference", "pref.Identifier",  -- `lastMatch`
  "findDependencyVersionToInstall",  -- `installP`
  "lock.SetConditions", "client.Status.Update",  -- `finishErr rv (.findInstall e / .pullInstall)`
  "lock.SetConditions", "client.Status.Update",  -- `createP`: `v = "" => finishWrap (some false)`
  "NewPackage",                 -- `cfg.kindOf`, `ref.pkgName`, `fmtImage ref.str v`
  "lock.SetConditions", "client.Status.Update",  -- `finishErr rv .construct`
  "client.Create",              -- `.createPkg`, `kCreate`
  "kerrors.IsAlreadyExists",    --   `.err .alreadyExists`
  "checkExistingPackage",       --   `.getPkg`, `kExisting`
  "lock.SetConditions", "client.Status.Update",  -- `finishErr rv (.create e / .createTaken)`
  "lock.SetConditions", "client.Status.Update",  -- `finishWrap (some true)`
  "features.Enabled",           -- not modelled: unreachable (a package is only matched with upgrades on)
  "dag.GetNode",                -- `parentsOf d dep.pkg`
  "lock.SetConditions", "client.Status.Update",  -- not modelled: an implied node is a node of the DAG
  "findDependencyVersionToUpdate",  -- `updateP`
  "lock.SetConditions", "client.Status.Update",  -- `finishErr rv (.findUpdate e / .pullUpdate)`
  "strings.HasPrefix", "fieldpath.Pave.SetString",  -- `fmtImage ref.str v`
  "client.Update",              -- `writeUpdP`: `.updatePkg p.kind p.name … p.rv`, `kUpdate`
  "lock.SetConditions", "client.Status.Update",  -- `finishErr rv (.update e)`
  "lock.SetConditions", "client.Status.Update"]  -- `finishWrap (some true)`

/-- `findDependencyVersionToInstall`: `toInstall` (and `installP` for the two remote calls) -/
def skelFindInstall : List String := [
  "conregv1.NewHash",       -- `o.digest con`: pinned digest, no resolution
  "semver.NewConstraint",   -- `o.conOk con`
  "config.PullSecretFor",   -- `fetchP`: `.pullSecret ref.str` (`toInstall`: part of `fetch`)
  "fetcher.Tags",           -- `.tags ref.repo` / `fetch`
  "semver.NewVersion",      -- `parseTags`: tags that are not versions are skipped
  "sort.Sort",              -- `sortTags`
  "c.Check",                -- `lastSat (o.sat con)`
  "v.Original"]             --   keeps the tag as written

/-- `checkExistingPackage` (fixes/D31.diff): `kCreate` / `kExisting` -/
def skelCheckExisting : List String := [
  "client.Get",                 -- `.getPkg kind name`
  "fieldpath.Pave.GetString",   -- `p.image`
  "name.ParseReference"]        -- `p.image.bind cfg.refOf`, `eref.repo = ref.repo`

/-- `findDependencyVersionToUpdate`: `toUpdate` (`updateP` / `pickP`) -/
def skelFindUpdate : List String := [
  "findDigestToUpdate",         -- `digestToUpdate o parents`
  "config.PullSecretFor", "fetcher.Tags",  -- `fetchP` / `fetch`
  "semver.NewVersion",          -- `parseTags`
  "dep.GetParentConstraints", "dep.GetParentConstraints",
  "semver.NewConstraint",       -- `parents.all o.conOk`
  "sort.Sort",                  -- `sortTags`
  "semver.MustParse",           -- `o.ver installed = none => .panic`
  "c.Check",                    -- `satAll o parents`
  "v.GreaterThan", "v.Equal",   -- `cur.le v.ver`
  "v.Original",                 -- first valid not-older version
  "targetVersion.Original",     -- `pickUpdate`'s `target`: last valid older one, with downgrades
  "dep.Identifier", "dep.GetParentConstraints",  -- (log line)
  "dep.Identifier", "dep.GetParentConstraints"]  -- `.err .noValidVersion`

/-- `findDigestToUpdate`: `digestLoop` -/
def skelFindDigest : List String := [
  "node.GetParentConstraints",
  "conregv1.NewHash",           -- `o.digest c`
  "node.GetParentConstraints",  -- `.error .diffDigests`
  "node.GetParentConstraints"]  -- `.error .diffTypes`

/-- `NewPackage`: `newPackage` (name, image and kind of the object to create) -/
def skelNewPackage : List String := [
  "pack.SetName", "xpkg.ToDNSLabel", "ref.Context.RepositoryStr",  -- `ref.pkgName` (oracle: library + ToDNSLabel)
  "strings.HasPrefix", "fieldpath.Pave.SetString",                  -- `fmtImage ref.str v`
  "pack.SetAPIVersion", "pack.SetKind",               -- `depKind`: explicit apiVersion + kind
  "ptr.Deref", "pack.SetAPIVersion", "pack.SetKind",  --   type Configuration
  "ptr.Deref", "pack.SetAPIVersion", "pack.SetKind",  --   type Provider
  "ptr.Deref", "pack.SetAPIVersion", "pack.SetKind"]  --   type Function; else error (`none`)

/-- `NewPackageList`: the same dispatch (`depKind`) -/
def skelNewPackageList : List String := [
  "l.SetAPIVersion", "l.SetKind",
  "ptr.Deref", "l.SetAPIVersion", "l.SetKind",
  "ptr.Deref", "l.SetAPIVersion", "l.SetKind",
  "ptr.Deref", "l.SetAPIVersion", "l.SetKind"]

/-! ## internal/controller/pkg/revision/dependency.go -/

/-- `PackageDependencyManager.Resolve`: `resolveF` / `restF` / `refreshF` / `tailF`
(Model/C17ResF.lean) over `resolveTail` (Model/C17.lean) -/
def skelResolve : List String := [
  "pr.GetDesiredState",         -- not modelled: an inactive revision returns (0,0,0,nil) at once
  "meta.GetDependencies", "meta.GetDependencies",  -- `self.deps`, entry by entry, in order, duplicates kept
  "client.Get",                 -- call 0: `resolveF`
  "kerrors.IsNotFound", "client.Create",  -- call 1: the Lock is created empty
  "name.ParseReference", "pr.GetSource",  -- oracle (library): `self.source`, `self.version` come from it
  "newDag", "d.Init", "v1beta1.ToNodes",  -- `restF`: `init o upg l`
  "xpkg.ParsePackageSourceFromReference", -- `parseSource` (Model/C17Glue.lean): `self.source`
  "prRef.Identifier",           -- `self.version`
  "lp.Identifier",              -- `movedEntry self lp`
  "RemoveSelf",                 -- calls k, k+1: its Get and Update (`removeSelf`)
  "client.Get",                 -- `refreshF`
  "d.Init", "v1beta1.ToNodes",  --   `init o upg (refreshed lock)` (fixes/D21.diff)
  "client.Update",              -- `tailF`: the Update that records the revision
  "d.AddOrUpdateNodes",         -- `resolveTail`: `addOrUpdate upg d (pkgNode self)`
  "d.NodeExists", "dep.Identifier", "dep.Identifier",  -- `installed0`, `.missingDirect`
  "d.TraceNode",                -- `trace d2 self.source`
  "imp.Identifier", "imp.Identifier",  -- `implied.filter (fun i => tree.contains i.pkg)`, `.missingDeps`
  "d.GetNode",                  -- `checkDep`: `d.get e.pkg`, `.notInGraph`, `.notLockPackage`
  "conregv1.NewHash", "lp.Identifier",  -- `o.digest e.con`, `.digestMismatch`
  "semver.NewConstraint",       -- `.badConstraint`
  "semver.NewVersion",          -- `.badVersion`
  "c.Check", "lp.Identifier"]   -- `.incompatible` (counted)

/-- `PackageDependencyManager.RemoveSelf`: inside `restF` -/
def skelRemoveSelf : List String := [
  "client.Get",                 -- call k (`env.rmGet`)
  "kerrors.IsNotFound",         --   NotFound: nothing to remove
  "client.Update"]              -- call k+1, only when an entry with the revision's name is there

/-! ## internal/xpkg/name.go -/

/-- `ParsePackageSourceFromReference`: `parseSource` (Model/C17Glue.lean) -/
def skelParseSource : List String := [
  "strings.Cut", "ref.String",  -- `cutAt '@'`
  "strings.LastIndex", "strings.LastIndex",  -- `lastIdx ':' > lastIdx '/'`
  "return"]

end Xp.C17
