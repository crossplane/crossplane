import Xp.Model.C13Skel
/-
C13 — internal/engine/cache.go at lock granularity.

The main model (Model/C13.lean) treats every entry point of InformerTrackingCache as ONE step
(`Act.getInformer g fault` for Get / List / GetInformer / GetInformerForKind, `Act.rmInformer g`
for RemoveInformer, a read of `tracked` for ActiveInformers). The Go code is not one step: each
entry point takes the cache's own RW lock for reading, looks the kind up in `active`, and either
calls the wrapped cache under the read lock (fast path: nothing to write) or releases the read
lock, takes the write lock, writes `active` WITHOUT looking again, and calls the wrapped cache
under the write lock:

    c.mx.RLock()
    if _, active := c.active[gvk]; active { defer c.mx.RUnlock(); return c.Cache.Get(...) }
    c.mx.RUnlock()
    c.mx.Lock(); defer c.mx.Unlock()
    c.active[gvk] = true
    return c.Cache.Get(...)

This file models exactly that: threads with program counters split at every acquire / release of
the cache lock, the lock state derived from the pcs, any number of goroutines, any interleaving.
`base` is the part of the main model's state the cache owns (`tracked`, `live`, `regs`, `nextGen`
of a `Sys`). Props/C13.lean proves that the dance is atomic: every entry point changes `base`
at exactly one of its steps, and there exactly as the single step of the main model does
(`cache_ops_are_atomic`), so that the state of the cache is at all times the result of applying,
one after the other, the operations that passed that step (`cache_linearizable`). The wrapped
controller-runtime cache call itself stays one step (it is third-party code).
-/
namespace Xp.C13

inductive COp
  | read (g : Nat)      -- Get / List / GetInformer / GetInformerForKind of kind g
  | remove (g : Nat)    -- RemoveInformer
  | active              -- ActiveInformers
  deriving DecidableEq, Repr

/-- program counters; the comment gives the mode in which the cache lock is held AT the pc -/
inductive CPc
  | idle                  -- –    next: c.mx.RLock()
  | rd (b : Bool)         -- R    b = `_, active := c.active[gvk]` as read under the read lock
  | gap                   -- –    after c.mx.RUnlock(), next: c.mx.Lock()
  | wr                    -- W    next: the write to c.active and the call into the wrapped cache
  | relR (failed : Bool)  -- R    next: (deferred) c.mx.RUnlock()
  | relW (failed : Bool)  -- W    next: (deferred) c.mx.Unlock()
  | done (failed : Bool)  -- –
  deriving DecidableEq, Repr

structure CThread where
  op : COp
  pc : CPc
  deriving DecidableEq, Repr

structure CSys where
  base : Sys
  threads : List CThread
  deriving DecidableEq, Repr

def CPc.held : CPc → Mode
  | .rd _ | .relR _ => .r
  | .wr | .relW _ => .w
  | .idle | .gap | .done _ => .n

/-- has the operation passed the step at which it takes effect? -/
def CPc.applied : CPc → Bool
  | .relR _ | .relW _ | .done _ => true
  | .idle | .rd _ | .gap | .wr => false

def COp.gvk : COp → Nat
  | .read g | .remove g => g
  | .active => 0

/-- thread `i` may acquire the cache lock in mode `want` -/
def cfree (s : CSys) (i : Nat) (want : Mode) : Bool :=
  (List.range s.threads.length).all (fun j =>
    j == i || match s.threads[j]? with
              | some u => want.compat u.pc.held
              | none => true)

/-! ### what the code does to the state, piece by piece -/

/-- `c.Cache.Get / List / GetInformer / GetInformerForKind`: the wrapped cache creates the
informer of the kind if there is none; a failing call creates nothing -/
def underGet (g : Nat) (fault : Bool) (b : Sys) : Sys :=
  if fault then b
  else match aget g b.live with
    | some _ => b
    | none => { b with live := (g, b.nextGen) :: b.live, nextGen := b.nextGen + 1 }

/-- `c.Cache.RemoveInformer`: the informer and every handler registered on it are gone -/
def underRemove (g : Nat) (b : Sys) : Sys :=
  { b with live := adel g b.live, regs := b.regs.filter (fun r => decide (r.wid.gvk ≠ g)) }

/-- `c.active[gvk] = true` -/
def markActive (g : Nat) (b : Sys) : Sys :=
  { b with tracked := if b.tracked.contains g then b.tracked else g :: b.tracked }

/-- `delete(c.active, gvk)` -/
def unmarkActive (g : Nat) (b : Sys) : Sys :=
  { b with tracked := b.tracked.filter (fun x => decide (x ≠ g)) }

/-- one step of thread `i`; `fault`: the call into the wrapped cache fails -/
def cnext (s : CSys) (i : Nat) (t : CThread) (fault : Bool) : Option (CPc × Sys) :=
  match t.pc with
  | .idle =>                                   -- c.mx.RLock(); _, active := c.active[gvk]
    if cfree s i .r then
      match t.op with
      | .active => some (.relR false, s.base)  --   (ActiveInformers: defer RUnlock; copy the keys)
      | .read g | .remove g => some (.rd (s.base.tracked.contains g), s.base)
    else none
  | .rd b =>
    match t.op with
    | .read g =>
      if b then some (.relR fault, underGet g fault s.base)     -- defer c.mx.RUnlock(); return c.Cache.Get(...)
      else some (.gap, s.base)                                  -- c.mx.RUnlock()
    | .remove g =>
      if b then some (.gap, s.base)                             -- c.mx.RUnlock()
      else some (.relR false, underRemove g s.base)             -- defer c.mx.RUnlock(); return c.Cache.RemoveInformer(...)
    | .active => some (.relR false, s.base)
  | .gap => if cfree s i .w then some (.wr, s.base) else none   -- c.mx.Lock(); defer c.mx.Unlock()
  | .wr =>
    match t.op with
    | .read g => some (.relW fault, underGet g fault (markActive g s.base))   -- c.active[gvk] = true; return c.Cache.Get(...)
    | .remove g => some (.relW false, underRemove g (unmarkActive g s.base))  -- delete(c.active, gvk); return c.Cache.RemoveInformer(...)
    | .active => some (.relW false, s.base)
  | .relR f => some (.done f, s.base)          -- c.mx.RUnlock()
  | .relW f => some (.done f, s.base)          -- c.mx.Unlock()
  | .done _ => none

def cstep (s : CSys) (i : Nat) (fault : Bool) : Option CSys :=
  match s.threads[i]? with
  | none => none
  | some t =>
    match cnext s i t fault with
    | none => none
    | some (pc', b') => some { base := b', threads := s.threads.set i { t with pc := pc' } }

def cinit (b : Sys) (ops : List COp) : CSys := { base := b, threads := ops.map (fun o => ⟨o, .idle⟩) }

/-- states reachable from any cache state `b` under any interleaving and any faults -/
inductive CReach (b : Sys) (ops : List COp) : CSys → Prop
  | init : CReach b ops (cinit b ops)
  | step {s s'} (i : Nat) (fault : Bool) : CReach b ops s → cstep s i fault = some s' → CReach b ops s'

/-- the single step by which the main model performs the operation -/
def atomicAct : COp → Bool → Act
  | .read g, fault => .getInformer g fault
  | .remove g, _ => .rmInformer g
  | .active, _ => .nop

/-! ### events, in the vocabulary of the skeletons of cache.go -/

/-- `via`: the entry point ("Get", "List", "GetInformer", "GetInformerForKind") a `read` stands for -/
def cEvents (via : String) (t : CThread) (pc' : CPc) : List String :=
  let locks := lockOp "mx." t.pc.held pc'.held
  match t.pc, t.op, pc' with
  | .rd _, .read _, .relR _ => ["Cache." ++ via]
  | .rd _, .remove _, .relR _ => ["Cache.RemoveInformer"]
  | .wr, .read _, _ => ["set active[]", "Cache." ++ via]
  | .wr, .remove _, _ => ["delete active", "Cache.RemoveInformer"]
  | _, _, _ => locks

def cRunTrace (via : String) (s : CSys) : List (Nat × Bool) → Option (CSys × List (Nat × String))
  | [] => some (s, [])
  | (i, f) :: rest =>
    match s.threads[i]? with
    | none => none
    | some t =>
      match cnext s i t f with
      | none => none
      | some (pc', b') =>
        match cRunTrace via { base := b', threads := s.threads.set i { t with pc := pc' } } rest with
        | none => none
        | some (s', evs) => some (s', (cEvents via t pc').map (fun e => (i, e)) ++ evs)

def cTraceOf (via : String) (b : Sys) (ops : List COp) (sched : List (Nat × Bool)) (i : Nat) : Option (List String) :=
  (cRunTrace via (cinit b ops) sched).map (fun r => (r.2.filter (fun e => e.1 == i)).map (·.2))

/-! ### declared skeletons of cache.go -/

/-- InformerTrackingCache.ActiveInformers -/
def flowActiveInformers : List Tok := [
  tCall 0 "mx.RLock",                      -- idle → relR : acquire the cache lock (R)
  tDefer 0 "mx.RUnlock",                   -- relR → done
  tFor 0 "range c.active",                 --   the main model's `swAI`/`swAI2` read `s.tracked`
  tRet 0]

/-- the lock dance of Get / List / GetInformer / GetInformerForKind (`via` = the wrapped call;
`pre` = what the entry point does before it takes the lock) -/
def flowCacheRead (pre : List Tok) (via : String) : List Tok := pre ++ [
  tCall 0 "mx.RLock",                      -- idle → rd b : acquire (R); b := active[gvk]
  tIf 0 "active",                          -- rd true
  tDefer 1 "mx.RUnlock",                   --   relR → done
  tCall 1 ("Cache." ++ via),               --   rd true → relR : underGet (nothing to write: the kind is active)
  tRet 1,
  tCall 0 "mx.RUnlock",                    -- rd false → gap
  tCall 0 "mx.Lock",                       -- gap → wr : acquire (W)
  tDefer 0 "mx.Unlock",                    -- relW → done
  tSet 0 "active[]",                       -- wr → relW : markActive (no second look at `active`)
  tCall 0 ("Cache." ++ via),               --   … underGet
  tRet 0]

/-- `gvk, err := apiutil.GVKForObject(obj, c.scheme)`: kinds are numbers in the model -/
def preGVK : List Tok := [tCall 0 "apiutil.GVKForObject", tIf 0 "err != nil", tRet 1]

/-- List: the kind of the list's ITEMS (`Op.cacheRead` carries the item kind) -/
def preList : List Tok := preGVK ++ [tCall 0 "strings.TrimSuffix", tSet 0 "gvk.Kind"]

/-- InformerTrackingCache.RemoveInformer -/
def flowCacheRemove : List Tok := preGVK ++ [
  tCall 0 "mx.RLock",                      -- idle → rd b
  tIf 0 "!active",                         -- rd false
  tDefer 1 "mx.RUnlock",                   --   relR → done
  tCall 1 "Cache.RemoveInformer",          --   rd false → relR : underRemove (nothing to write)
  tRet 1,
  tCall 0 "mx.RUnlock",                    -- rd true → gap
  tCall 0 "mx.Lock",                       -- gap → wr
  tDefer 0 "mx.Unlock",                    -- relW → done
  tCall 0 "delete active",                 -- wr → relW : unmarkActive
  tCall 0 "Cache.RemoveInformer",          --   … underRemove
  tRet 0]

def skipCache : List String :=
  ["apiutil.GVKForObject",                 -- kinds are opaque numbers; assumption: succeeds for the watched objects
   "strings.TrimSuffix", "set gvk.Kind"]   -- List: the harness maps the list kind to the item kind (monitored on the real cache)

end Xp.C13
