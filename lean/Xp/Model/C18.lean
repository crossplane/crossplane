import Xp.Base.Prog
import Xp.Gen.Rbac
/-
C18 model: the RBAC manager.

* `expandOne`/`expand`, `Rule.path`, the rule tree (`Node.allow`/`Node.allowed` with the
  wildcard child) and `validate` mirror
  internal/controller/rbac/provider/roles/requests.go.
* `definedResources`, `renderRoles` (RenderClusterRoles), `reconcile` (Reconciler.Reconcile
  with APIUpdatingApplicator.Apply inlined call by call) mirror roles.go / reconciler.go.
* `renderXRDRoles`, `reconcileXRD` mirror rbac/definition/{roles,reconciler}.go.
* `reconcileBinding` mirrors rbac/provider/binding/reconciler.go.
* `breakdown`, `ruleCovers`, `covers` are a hand-written specification of Kubernetes'
  escalation check (component-helpers auth/rbac/validation: BreakdownRule, ruleCovers,
  Covers) and `ruleAllows` of the RBAC authorizer's RuleAllows.  They are the SPEC the
  tree is compared with; they are not Crossplane code.

All string tables and constants come from `Xp.Gen` (regenerated from the source).
-/
namespace Xp.C18
open Xp.Gen

/-! ## small structurally recursive helpers (kernel-reducible, so `decide` can run the model) -/

/-- split a character list at the first occurrence of `c` -/
def splitFirst (c : Char) : List Char → Option (List Char × List Char)
  | [] => none
  | x :: xs => if x = c then some ([], xs) else (splitFirst c xs).map fun (a, b) => (x :: a, b)

/-- insert `x` before the first element that is not strictly smaller (stable) -/
def insertBy {α : Type} (lt : α → α → Bool) (x : α) : List α → List α
  | [] => [x]
  | y :: ys => if lt y x then y :: insertBy lt x ys else x :: y :: ys

/-- stable insertion sort (what Go's sort.Slice runs on slices of at most 12 elements) -/
def isort {α : Type} (lt : α → α → Bool) : List α → List α
  | [] => []
  | x :: xs => insertBy lt x (isort lt xs)

/-! ## rbacv1.PolicyRule and the granular Rule -/

structure PolicyRule where
  verbs : List String
  apiGroups : List String
  resources : List String
  resourceNames : List String
  nonResourceURLs : List String
  deriving DecidableEq, Repr, Inhabited

def PolicyRule.ofGen (t : List String × List String × List String × List String × List String) : PolicyRule :=
  ⟨t.1, t.2.1, t.2.2.1, t.2.2.2.1, t.2.2.2.2⟩

/-- roles.Rule -/
structure Rule where
  apiGroup : String
  resource : String
  resourceName : String
  nonResourceURL : String
  verb : String
  deriving DecidableEq, Repr, Inhabited

abbrev Path := List String

def wildcard : String := prov_wildcard

/-- Rule.path() -/
def Rule.path (r : Rule) : Path :=
  if r.nonResourceURL ≠ "" then [prov_pathPrefixURL, r.nonResourceURL, r.verb]
  else [prov_pathPrefixResource, r.apiGroup, r.resource, r.resourceName, r.verb]

/-- Expand, one PolicyRule: first URLs × verbs, then groups × resources × names × verbs,
where "no names" becomes the single name `*`. -/
def expandOne (r : PolicyRule) : List Rule :=
  (r.nonResourceURLs.flatMap fun u => r.verbs.map fun v => (⟨"", "", "", u, v⟩ : Rule)) ++
  (r.apiGroups.flatMap fun g => r.resources.flatMap fun rsc =>
    (if r.resourceNames.isEmpty then [wildcard] else r.resourceNames).flatMap fun n =>
      r.verbs.map fun v => (⟨g, rsc, n, "", v⟩ : Rule))

def expand (rs : List PolicyRule) : List Rule := rs.flatMap expandOne

/-! ## the rule tree -/

inductive Node where
  | mk (allowed : Bool) (children : List (String × Node))
  deriving Inhabited

/-- newNode() -/
def Node.empty : Node := .mk false []

def Node.isAllowed : Node → Bool
  | .mk a _ => a

/-- `children[k]` -/
def lookup (k : String) : List (String × Node) → Option Node
  | [] => none
  | (k', c) :: rest => if k' = k then some c else lookup k rest

/-- `if _, ok := children[k]; !ok { children[k] = newNode() }; children[k] = f(children[k])` -/
def upsert (k : String) (f : Node → Node) : List (String × Node) → List (String × Node)
  | [] => [(k, f Node.empty)]
  | (k', c) :: rest => if k' = k then (k', f c) :: rest else (k', c) :: upsert k f rest

/-- node.Allow -/
def Node.allow : Path → Node → Node
  | [], .mk _ cs => .mk true cs
  | k :: p, .mk a cs => .mk a (upsert k (Node.allow p) cs)

/-- one iteration of the `for _, k := range []string{p[0], wildcard}` loop body -/
def look (rec : Node → Bool) (cs : List (String × Node)) (k : String) : Bool :=
  match lookup k cs with
  | some c => c.isAllowed || rec c
  | none => false

/-- node.Allowed -/
def Node.allowed : Path → Node → Bool
  | [], _ => false
  | k :: p, .mk _ cs => look (Node.allowed p) cs k || look (Node.allowed p) cs wildcard

/-- the tree ValidatePermissionRequests builds from the allow-list ClusterRole's rules -/
def tree (allow : List PolicyRule) : Node :=
  (expand allow).foldl (fun t r => t.allow r.path) Node.empty

/-- ClusterRoleBackedValidator.ValidatePermissionRequests (after the Get): the rejected rules -/
def validate (allow requests : List PolicyRule) : List Rule :=
  (expand requests).filter fun r => !(tree allow).allowed r.path

/-- Expand under a context: it checks `ctx.Done()` before appending each granular rule, so with
a context that is already done (deadline exceeded, cancelled) it fails as soon as there is
one rule to append, and returns the empty list otherwise. `none` = `ctx.Err()`. -/
def expandCtx (done : Bool) (rs : List PolicyRule) : Option (List Rule) :=
  if done && !(expand rs).isEmpty then none else some (expand rs)

/-- ValidatePermissionRequests (after the Get) under a context -/
def validateCtx (done : Bool) (allow requests : List PolicyRule) : Option (List Rule) :=
  match expandCtx done allow, expandCtx done requests with
  | some _, some _ => some (validate allow requests)
  | _, _ => none

/-! ## specification: Kubernetes "covers" and the authorizer -/

/-- one granular Kubernetes sub-rule, as produced by BreakdownRule -/
inductive Sub where
  | res (group resource : String) (name : Option String) (verb : String)
  | url (url verb : String)
  deriving DecidableEq, Repr

/-- BreakdownRule -/
def breakdown (r : PolicyRule) : List Sub :=
  (r.apiGroups.flatMap fun g => r.resources.flatMap fun rsc => r.verbs.flatMap fun v =>
    if r.resourceNames.isEmpty then [Sub.res g rsc none v]
    else r.resourceNames.map fun n => Sub.res g rsc (some n) v) ++
  (r.nonResourceURLs.flatMap fun u => r.verbs.map fun v => Sub.url u v)

/-- the rule-tree rule Expand derives from a granular sub-rule -/
def Sub.toRule : Sub → Rule
  | .res g r n v => ⟨g, r, n.getD wildcard, "", v⟩
  | .url u v => ⟨"", "", "", u, v⟩

/-- the sub-rule as a PolicyRule -/
def Sub.asRule : Sub → PolicyRule
  | .res g r n v => ⟨[v], [g], [r], n.toList, []⟩
  | .url u v => ⟨[v], [], [], [], [u]⟩

/-- `strings.SplitN(path, "/", 2)[1]` when the resource contains a '/' -/
def subresourceOf (r : String) : Option String :=
  (splitFirst '/' r.toList).map fun (_, sub) => String.ofList sub

/-- resourceCoversAll(set, [r]) -/
def resourceCovers (set : List String) (r : String) : Bool :=
  set.contains k8sResourceAll || set.contains r ||
  (match subresourceOf r with
   | some sub => set.contains ("*/" ++ sub)
   | none => false)

/-- strings.TrimRight(s, "*") -/
def trimRightStars (s : String) : String :=
  String.ofList (s.toList.reverse.dropWhile (· == '*')).reverse

/-- strings.HasSuffix(s, "*") -/
def endsWithStar (s : String) : Bool := s.toList.getLast? == some '*'

/-- strings.HasPrefix(s, pre) -/
def hasPrefix (pre s : String) : Bool := pre.toList.isPrefixOf s.toList

/-- nonResourceURLCovers(owner, sub) -/
def urlCovers (owner sub : String) : Bool :=
  owner == sub || (endsWithStar owner && hasPrefix (trimRightStars owner) sub)

/-- ruleCovers(ownerRule, subRule) for a granular subRule -/
def ruleCovers (o : PolicyRule) : Sub → Bool
  | .res g r n v =>
      (o.verbs.contains k8sVerbAll || o.verbs.contains v) &&
      (o.apiGroups.contains k8sAPIGroupAll || o.apiGroups.contains g) &&
      resourceCovers o.resources r &&
      (match n with
       | none => o.resourceNames.isEmpty
       | some x => o.resourceNames.isEmpty || o.resourceNames.contains x)
      -- nonResourceURLsCoversAll(o.nonResourceURLs, []) = true
  | .url u v =>
      (o.verbs.contains k8sVerbAll || o.verbs.contains v) &&
      -- hasAll(o.apiGroups, []) = true, resourceCoversAll(o.resources, []) = true
      o.resourceNames.isEmpty &&   -- len(sub.ResourceNames) == 0  ⇒  len(owner.ResourceNames) == 0
      o.nonResourceURLs.any (urlCovers · u)

/-- Covers(allow, [sub]) -/
def covers (allow : List PolicyRule) (s : Sub) : Bool := allow.any (ruleCovers · s)

/-- authorizer.Attributes -/
inductive Attr where
  | res (verb group resource subresource name : String)
  | nonres (verb path : String)
  deriving Repr

/-- rbacv1helpers.ResourceMatches for one rule resource -/
def resourceMatches (ruleRes combined sub : String) : Bool :=
  ruleRes == k8sResourceAll || ruleRes == combined || (sub != "" && ruleRes == "*/" ++ sub)

/-- rbacv1helpers.NonResourceURLMatches for one rule URL -/
def urlMatches (ruleURL path : String) : Bool :=
  ruleURL == k8sNonResourceAll || ruleURL == path ||
  (endsWithStar ruleURL && hasPrefix (trimRightStars ruleURL) path)

/-- RuleAllows(attributes, rule) -/
def ruleAllows (o : PolicyRule) : Attr → Bool
  | .res v g r sub n =>
      o.verbs.any (fun x => x == k8sVerbAll || x == v) &&
      o.apiGroups.any (fun x => x == k8sAPIGroupAll || x == g) &&
      o.resources.any (fun x => resourceMatches x (if sub == "" then r else r ++ "/" ++ sub) sub) &&
      (o.resourceNames.isEmpty || o.resourceNames.contains n)
  | .nonres v p =>
      o.verbs.any (fun x => x == k8sVerbAll || x == v) &&
      o.nonResourceURLs.any (urlMatches · p)

/-! ## provider revisions, roles, the store -/

structure Ref where
  apiVersion : String
  kind : String
  name : String
  deriving DecidableEq, Repr

/-- roles.Resource -/
structure Resource where
  group : String
  plural : String
  deriving DecidableEq, Repr

structure PR where
  name : String
  uid : String
  paused : Bool
  deleted : Bool
  /-- label pkg.crossplane.io/provider-family, "" = absent -/
  family : String
  /-- (registry, org) of spec.package as go-containerregistry parses it; none = unparsable -/
  org : Option (String × String)
  refs : List Ref
  requests : List PolicyRule
  deriving Repr

structure Role where
  name : String
  /-- sorted by key -/
  labels : List (String × String)
  rules : List PolicyRule
  /-- uid of the controller owner reference -/
  ctrl : Option String
  deriving DecidableEq, Repr

structure XRD where
  name : String
  uid : String
  deleted : Bool
  group : String
  plural : String
  /-- spec.claimNames.plural, none = no claimNames -/
  claim : Option String
  deriving Repr

structure Deployment where
  ns : String
  name : String
  sa : String
  owners : List String
  deriving Repr

structure Subject where
  ns : String
  name : String
  deriving DecidableEq, Repr

structure Binding where
  name : String
  roleRef : String
  subjects : List Subject
  ctrl : Option String
  deriving DecidableEq, Repr

structure Store where
  prs : List PR            -- in List order (by name)
  xrds : List XRD
  deploys : List Deployment  -- in List order (by namespace/name)
  roles : List Role
  bindings : List Binding
  /-- the API server's resourceVersion counter -/
  rv : Nat := 0
  /-- resourceVersion of each ClusterRole / ClusterRoleBinding (first entry wins, absent = 0) -/
  roleRV : List (String × Nat) := []
  bindingRV : List (String × Nat) := []
  deriving Repr

/-- metadata.resourceVersion of the named object -/
def rvOf (l : List (String × Nat)) (n : String) : Nat := (l.lookup n).getD 0

/-- schema.ParseGroupVersion(apiVersion).Group (the empty group on a parse error) -/
def groupOfAPIVersion (av : String) : String :=
  match splitFirst '/' av.toList with
  | none => ""                                        -- no '/': the version only
  | some (g, v) => if v.contains '/' then "" else String.ofList g   -- more than one '/': parse error

/-- strings.Cut(name, ".") -/
def cutDot (name : String) : Option (String × String) :=
  (splitFirst '.' name.toList).map fun (p, g) => (String.ofList p, String.ofList g)

/-- DefinedResources -/
def definedResources (refs : List Ref) : List Resource :=
  refs.filterMap fun ref =>
    if groupOfAPIVersion ref.apiVersion ≠ crdGroupName ∨ ref.kind ≠ "CustomResourceDefinition" then none
    else (cutDot ref.name).map fun (p, g) => ⟨g, p⟩

/-- OrgDiffer.Differs on the parsed references -/
def orgDiffers (a b : Option (String × String)) : Bool :=
  match a, b with
  | some x, some y => x != y
  | _, _ => true

/-- `strings.Split(s, "/")[0]`: everything before the first '/', the whole string without one -/
def firstSeg (s : String) : String :=
  match splitFirst '/' s.toList with
  | none => s
  | some (a, _) => String.ofList a

/-- what go-containerregistry makes of a package reference (an oracle supplied by the harness):
`ref.Context().RegistryStr()` and `ref.Context().RepositoryStr()` -/
structure Parsed where
  registry : String
  repo : String
  deriving DecidableEq, Repr

/-- the (registry, organisation) pair OrgDiffer compares: the organisation is the first element of
the repository path -/
def Parsed.orgKey (x : Parsed) : String × String := (x.registry, firstSeg x.repo)

/-- OrgDiffer.Differs, call by call, over the parser's two answers (none = parse error) -/
def orgDiffersParsed (a b : Option Parsed) : Bool :=
  match a with
  | none => true                                    -- if err != nil { return true }
  | some x =>
    match b with
    | none => true                                  -- if err != nil { return true }
    | some y =>
      if x.registry != y.registry then true         -- ca.RegistryStr() != cb.RegistryStr()
      else firstSeg x.repo != firstSeg y.repo       -- oa != ob

/-- the resources the reconciler hands to the renderer: the revision's own plus those of
every *other* member of its family whose package is in the same registry and org -/
def memberResources (p : PR) (members : List PR) : List Resource :=
  members.flatMap fun m =>
    if m.uid = p.uid then [] else if orgDiffers p.org m.org then [] else definedResources m.refs

/-- `rs[i].Plural+rs[i].Group < rs[j].Plural+rs[j].Group` -/
def resourceLT (a b : Resource) : Bool := a.plural ++ a.group < b.plural ++ b.group

/-- the `groups` slice of RenderClusterRoles: groups in order of first appearance -/
def groupsOf : List Resource → List String
  | [] => []
  | r :: rest => r.group :: (groupsOf rest).filter (· ≠ r.group)

/-- `resources[g]` -/
def resourcesOfGroup (rs : List Resource) (g : String) : List String :=
  (rs.filter (·.group = g)).flatMap fun r => [r.plural, r.plural ++ prov_suffixStatus]

def withVerbs (rules : List PolicyRule) (verbs : List String) : List PolicyRule :=
  rules.map fun r => { r with verbs := verbs }

def sortLabels (l : List (String × String)) : List (String × String) :=
  isort (fun a b => a.1 < b.1) l

def rulesSystemExtra : List PolicyRule := provRulesSystemExtra.map PolicyRule.ofGen

def systemRoleName (pr : String) : String := prov_namePrefix ++ pr ++ prov_nameSuffixSystem

/-- the per-group rules (without verbs) RenderClusterRoles builds from the sorted resources -/
def groupRules (sorted : List Resource) : List PolicyRule :=
  (groupsOf sorted).map fun g => ⟨[], [g], resourcesOfGroup sorted g, [], []⟩

def ruleFinalizers (sorted : List Resource) : PolicyRule :=
  ⟨provVerbsUpdate, groupsOf sorted, [prov_resourceAll ++ prov_suffixFinalizers], [], []⟩

def systemRules (p : PR) (sorted : List Resource) : List PolicyRule :=
  withVerbs (groupRules sorted) provVerbsSystem ++ [ruleFinalizers sorted] ++ rulesSystemExtra ++ p.requests

/-- RenderClusterRoles (sort.Slice is a stable insertion sort up to 12 elements) -/
def renderRoles (p : PR) (rs : List Resource) : List Role :=
  if rs.isEmpty then [] else
  let sorted := isort resourceLT rs
  let rules := groupRules sorted
  [ { name := prov_namePrefix ++ p.name ++ prov_nameSuffixEdit,
      labels := sortLabels [(prov_keyAggregateToCrossplane, prov_valTrue), (prov_keyAggregateToAdmin, prov_valTrue), (prov_keyAggregateToEdit, prov_valTrue)],
      rules := withVerbs rules provVerbsEdit, ctrl := some p.uid },
    { name := prov_namePrefix ++ p.name ++ prov_nameSuffixView,
      labels := [(prov_keyAggregateToView, prov_valTrue)],
      rules := withVerbs rules provVerbsView, ctrl := some p.uid },
    { name := systemRoleName p.name,
      labels := [(prov_keyProviderName, p.name)],
      rules := systemRules p sorted, ctrl := some p.uid } ]

/-- RenderClusterRoles after its sort.Slice: the three roles built from the resources in the order
`sorted` (`render_is_ordered`: `renderRoles` is this on `isort resourceLT rs`) -/
def renderRolesOrdered (p : PR) (sorted : List Resource) : List Role :=
  [ { name := prov_namePrefix ++ p.name ++ prov_nameSuffixEdit,
      labels := sortLabels [(prov_keyAggregateToCrossplane, prov_valTrue), (prov_keyAggregateToAdmin, prov_valTrue), (prov_keyAggregateToEdit, prov_valTrue)],
      rules := withVerbs (groupRules sorted) provVerbsEdit, ctrl := some p.uid },
    { name := prov_namePrefix ++ p.name ++ prov_nameSuffixView,
      labels := [(prov_keyAggregateToView, prov_valTrue)],
      rules := withVerbs (groupRules sorted) provVerbsView, ctrl := some p.uid },
    { name := systemRoleName p.name,
      labels := [(prov_keyProviderName, p.name)],
      rules := systemRules p sorted, ctrl := some p.uid } ]

/-- definition.RenderClusterRoles -/
def renderXRDRoles (d : XRD) : List Role :=
  let xr (verbs : List String) : PolicyRule := ⟨verbs, [d.group], [d.plural, d.plural ++ xrd_suffixStatus], [], []⟩
  let xrFin : PolicyRule := ⟨xrdVerbsUpdate, [d.group], [d.plural ++ xrd_suffixFinalizers], [], []⟩
  let cl (c : String) (verbs : List String) : PolicyRule := ⟨verbs, [d.group], [c, c ++ xrd_suffixStatus], [], []⟩
  let clFin (c : String) : PolicyRule := ⟨xrdVerbsUpdate, [d.group], [c ++ xrd_suffixFinalizers], [], []⟩
  let claimRules (f : String → List PolicyRule) : List PolicyRule := match d.claim with | some c => f c | none => []
  [ { name := xrd_namePrefix ++ d.name ++ xrd_nameSuffixSystem,
      labels := [(xrd_keyAggregateToSystem, xrd_valTrue)],
      rules := [xr xrdVerbsEdit, xrFin] ++ claimRules (fun c => [cl c xrdVerbsEdit, clFin c]), ctrl := some d.uid },
    { name := xrd_namePrefix ++ d.name ++ xrd_nameSuffixEdit,
      labels := sortLabels [(xrd_keyAggregateToAdmin, xrd_valTrue), (xrd_keyAggregateToNSAdmin, xrd_valTrue),
                            (xrd_keyAggregateToEdit, xrd_valTrue), (xrd_keyAggregateToNSEdit, xrd_valTrue), (xrd_keyXRD, d.name)],
      rules := [xr xrdVerbsEdit] ++ claimRules (fun c => [cl c xrdVerbsEdit]), ctrl := some d.uid },
    { name := xrd_namePrefix ++ d.name ++ xrd_nameSuffixView,
      labels := sortLabels [(xrd_keyAggregateToView, xrd_valTrue), (xrd_keyAggregateToNSView, xrd_valTrue), (xrd_keyXRD, d.name)],
      rules := [xr xrdVerbsView] ++ claimRules (fun c => [cl c xrdVerbsView]), ctrl := some d.uid },
    { name := xrd_namePrefix ++ d.name ++ xrd_nameSuffixBrowse,
      labels := sortLabels [(xrd_keyAggregateToBrowse, xrd_valTrue), (xrd_keyXRD, d.name)],
      rules := [xr xrdVerbsBrowse], ctrl := some d.uid } ]

/-! ## API calls -/

inductive Req where
  | getPR (name : String)
  | listPRs (family : String)
  | getXRD (name : String)
  | listDeployments
  | getRole (name : String)
  | createRole (r : Role)
  /-- Update carrying metadata.resourceVersion `rv` (optimistic concurrency) -/
  | updateRole (r : Role) (rv : Nat)
  | getBinding (name : String)
  | createBinding (b : Binding)
  | updateBinding (b : Binding) (rv : Nat)
  deriving Repr

def Req.isWrite : Req → Bool
  | .createRole _ | .updateRole _ _ | .createBinding _ | .updateBinding _ _ => true
  | _ => false

inductive Resp where
  | pr (p : PR)
  | prs (l : List PR)
  | xrd (d : XRD)
  | deploys (l : List Deployment)
  | role (r : Role) (rv : Nat)
  | binding (b : Binding) (rv : Nat)
  | done
  | notFound
  | alreadyExists
  | conflict
  | other
  deriving Repr

def setRole (r : Role) : List Role → List Role
  | [] => []
  | x :: rest => if x.name = r.name then r :: rest else x :: setRole r rest

def setBinding (b : Binding) : List Binding → List Binding
  | [] => []
  | x :: rest => if x.name = b.name then b :: rest else x :: setBinding b rest

def exec (s : Store) : Req → Store × Resp
  | .getPR n => (s, match s.prs.find? (·.name = n) with | some p => .pr p | none => .notFound)
  | .listPRs f => (s, .prs (s.prs.filter (·.family = f)))
  | .getXRD n => (s, match s.xrds.find? (·.name = n) with | some d => .xrd d | none => .notFound)
  | .listDeployments => (s, .deploys s.deploys)
  | .getRole n => (s, match s.roles.find? (·.name = n) with | some r => .role r (rvOf s.roleRV n) | none => .notFound)
  | .createRole r =>
      if s.roles.any (·.name = r.name) then (s, .alreadyExists)
      else ({ s with roles := s.roles ++ [r], rv := s.rv + 1, roleRV := (r.name, s.rv + 1) :: s.roleRV }, .done)
  | .updateRole r v =>
      if s.roles.any (·.name = r.name) then
        if rvOf s.roleRV r.name = v then
          if setRole r s.roles = s.roles then (s, .done)   -- nothing changes: the API server does not write, the resourceVersion stays
          else ({ s with roles := setRole r s.roles, rv := s.rv + 1, roleRV := (r.name, s.rv + 1) :: s.roleRV }, .done)
        else (s, .conflict)   -- the object has been modified since it was read
      else (s, .notFound)
  | .getBinding n => (s, match s.bindings.find? (·.name = n) with | some b => .binding b (rvOf s.bindingRV n) | none => .notFound)
  | .createBinding b =>
      if s.bindings.any (·.name = b.name) then (s, .alreadyExists)
      else ({ s with bindings := s.bindings ++ [b], rv := s.rv + 1, bindingRV := (b.name, s.rv + 1) :: s.bindingRV }, .done)
  | .updateBinding b v =>
      if s.bindings.any (·.name = b.name) then
        if rvOf s.bindingRV b.name = v then
          if setBinding b s.bindings = s.bindings then (s, .done)
          else ({ s with bindings := setBinding b s.bindings, rv := s.rv + 1, bindingRV := (b.name, s.rv + 1) :: s.bindingRV }, .done)
        else (s, .conflict)
      else (s, .notFound)

/-- what the controller sees when the call is not applied: an injected conflict is a
Conflict only for writes (simstore answers reads with a server error) -/
def errResp : Outcome → Req → Resp
  | .conflict, r => if r.isWrite then .conflict else .other
  | _, _ => .other

def sem : Sem Store Req Resp := ⟨exec, errResp⟩

/-! ## the reconcilers -/

inductive Result where
  | ok        -- reconcile.Result{}, nil
  | requeue   -- reconcile.Result{Requeue: true}, nil
  | err       -- _, err
  deriving DecidableEq, Repr

abbrev P := Prog Req Resp Result

/-- ClusterRolesDiffer -/
def rolesDiffer (cur des : Role) : Bool := cur.labels != des.labels || cur.rules != des.rules

/-- MustBeControllableBy(uid) fails -/
def notControllable (uid : String) (cur : Option String) : Bool :=
  match cur with
  | none => false
  | some c => c != uid

/-- the apply loop shared by the provider-revision and the XRD reconciler:
`Apply(cr, MustBeControllableBy, AllowUpdateIf(ClusterRolesDiffer))` with
APIUpdatingApplicator = Get; NotFound ⇒ Create; else options; Update. -/
def applyRoles (uid : String) : List Role → P
  | [] => .ret .ok
  | cr :: rest =>
    .call (.getRole cr.name) fun
      | .notFound => .call (.createRole cr) fun
          | .done => applyRoles uid rest
          | .conflict => .ret .requeue
          | _ => .ret .err            -- AlreadyExists included: the error is returned, nothing is retried
      | .role cur rv =>
          if notControllable uid cur.ctrl then .ret .err
          else if !rolesDiffer cur cr then applyRoles uid rest   -- errNotAllowed ⇒ continue
          else .call (.updateRole cr rv) fun   -- m.SetResourceVersion(current.GetResourceVersion())
            | .done => applyRoles uid rest
            | .conflict => .ret .requeue
            | _ => .ret .err          -- NotFound included
      | .conflict => .ret .requeue    -- kerrors.IsConflict sees through "cannot get object"
      | _ => .ret .err

structure Cfg where
  /-- name of the allow-list ClusterRole; none = VerySecureValidator (no --provider-clusterrole) -/
  allowRole : Option String

/-- the family part of Reconcile -/
def withFamily (p : PR) (k : List Resource → P) : P :=
  if p.family = "" then k (definedResources p.refs)
  else .call (.listPRs p.family) fun
    | .prs ms => k (definedResources p.refs ++ memberResources p ms)
    | .conflict => .ret .requeue
    | _ => .ret .err

/-- r.rbac.ValidatePermissionRequests -/
def withValidation (cfg : Cfg) (p : PR) (k : List Rule → P) : P :=
  match cfg.allowRole with
  | none => k (expand p.requests)
  | some a => .call (.getRole a) fun
    | .role ar _ => k (validate ar.rules p.requests)
    | _ => .ret .err      -- whatever the error class: "cannot validate permission requests"

/-- roles.Reconciler.Reconcile -/
def reconcile (cfg : Cfg) (name : String) : P :=
  .call (.getPR name) fun
    | .notFound => .ret .ok
    | .pr p =>
      if p.paused then .ret .ok
      else if p.deleted then .ret .ok
      else withFamily p fun resources =>
        withValidation cfg p fun rejected =>
          if !rejected.isEmpty then .ret .ok
          else applyRoles p.uid (renderRoles p resources)
    | _ => .ret .err

/-- definition.Reconciler.Reconcile -/
def reconcileXRD (name : String) : P :=
  .call (.getXRD name) fun
    | .notFound => .ret .ok
    | .xrd d => if d.deleted then .ret .ok else applyRoles d.uid (renderXRDRoles d)
    | _ => .ret .err

/-- ClusterRoleBindingsDiffer (the role ref's kind and API group are constants).
`cmp.Equal` distinguishes the desired empty non-nil `subjects` slice from the nil slice
a stored binding without subjects decodes to, so a binding without subjects always "differs". -/
def bindingsDiffer (cur des : Binding) : Bool :=
  cur.subjects != des.subjects || des.subjects.isEmpty || cur.roleRef != des.roleRef || cur.ctrl != des.ctrl

/-- the subjects loop of the binding reconciler: one subject per owner reference with the
revision's UID -/
def subjectsFor (uid : String) (ds : List Deployment) : List Subject :=
  ds.flatMap fun d => (d.owners.filter (· = uid)).map fun _ => ⟨d.ns, d.sa⟩

/-- binding.Reconciler.Reconcile -/
def reconcileBinding (name : String) : P :=
  .call (.getPR name) fun
    | .notFound => .ret .ok
    | .pr p =>
      if p.paused then .ret .ok
      else if p.deleted then .ret .ok
      else .call .listDeployments fun
        | .deploys ds =>
          let n := systemRoleName p.name
          let rb : Binding := ⟨n, n, subjectsFor p.uid ds, some p.uid⟩
          .call (.getBinding n) fun
            | .notFound => .call (.createBinding rb) fun
                | .done => .ret .ok
                | .conflict => .ret .requeue
                | _ => .ret .err
            | .binding cur rv =>
                if notControllable p.uid cur.ctrl then .ret .err
                else if !bindingsDiffer cur rb then .ret .ok
                else .call (.updateBinding rb rv) fun
                  | .done => .ret .ok
                  | .conflict => .ret .requeue
                  | _ => .ret .err
            | .conflict => .ret .requeue
            | _ => .ret .err
        | _ => .ret .err
    | _ => .ret .err

/-! ## the world around one reconcile: other writers, the informer cache, error classes

`World` is everything outside the program: the fault plan, what OTHER clients do to the store
right before API call `k` (`env`: another controller, another replica, an administrator, the
garbage collector), what the informer cache serves to a READ at call `k` (`view`: identity =
fresh; an older store = lag; a store lacking an object = a miss) and an error reply of a given
class injected at call `k` (`inj`; the call is not applied).  Reads go through the cached
client (`mgr.GetClient()`), writes go to the API server.  `run sem plan` is the special case
without other writers, with a fresh cache and no injected class (`runW_plain`, Proofs/C18Interf). -/

/-- the error classes the code distinguishes (everything else – Forbidden, Invalid, a
transport error that is Temporary(), context deadline exceeded – is `other`) -/
inductive ErrRep where
  | notFound | alreadyExists | conflict | other
  deriving DecidableEq, Repr

def ErrRep.toResp : ErrRep → Resp
  | .notFound => .notFound
  | .alreadyExists => .alreadyExists
  | .conflict => .conflict
  | .other => .other

structure World where
  plan : Plan
  env : Env Store
  view : Nat → Store → Store
  inj : Nat → Option ErrRep

/-- no other writer, fresh cache, no injected class -/
def World.plain (plan : Plan) : World := ⟨plan, Env.none, fun _ s => s, fun _ => none⟩

/-- the store a request is answered from: the served view for reads, the API server for writes -/
def World.at (w : World) (k : Nat) (r : Req) (s : Store) : Store :=
  if r.isWrite then w.env k s else w.view k (w.env k s)

/-- final store and result in a world -/
def runW (w : World) : Nat → P → Store → Store × Option Result
  | _, .ret a, s => (s, some a)
  | k, .call r c, s =>
    match w.plan k with
    | .crashBefore => (w.env k s, none)
    | .crashAfter => ((exec (w.env k s) r).1, none)
    | .fail => runW w (k+1) (c (errResp .fail r)) (w.env k s)
    | .conflict => runW w (k+1) (c (errResp .conflict r)) (w.env k s)
    | .ok =>
      match w.inj k with
      | some e => runW w (k+1) (c e.toResp) (w.env k s)
      | none =>
        if r.isWrite then runW w (k+1) (c (exec (w.env k s) r).2) (exec (w.env k s) r).1
        else runW w (k+1) (c (exec (w.view k (w.env k s)) r).2) (w.env k s)

/-- the program's own applied calls, in order: (the store the call was answered from, request) -/
def ownW (w : World) : Nat → P → Store → List (Store × Req)
  | _, .ret _, _ => []
  | k, .call r c, s =>
    match w.plan k with
    | .crashBefore => []
    | .crashAfter => [(w.at k r s, r)]
    | .fail => ownW w (k+1) (c (errResp .fail r)) (w.env k s)
    | .conflict => ownW w (k+1) (c (errResp .conflict r)) (w.env k s)
    | .ok =>
      match w.inj k with
      | some e => ownW w (k+1) (c e.toResp) (w.env k s)
      | none =>
        if r.isWrite then (w.env k s, r) :: ownW w (k+1) (c (exec (w.env k s) r).2) (exec (w.env k s) r).1
        else (w.view k (w.env k s), r) :: ownW w (k+1) (c (exec (w.view k (w.env k s)) r).2) (w.env k s)

/-! ### what another writer can do (used by the driver; the theorems quantify over ALL `env`) -/

inductive Edit where
  | setRole (r : Role) | delRole (name : String)
  | setPR (p : PR) | delPR (name : String)
  | setXRD (d : XRD) | delXRD (name : String)
  | setDeploy (d : Deployment) | delDeploy (ns name : String)
  | setBinding (b : Binding) | delBinding (name : String)
  deriving Repr

/-- replace the element with the same key, or insert keeping the list sorted by key -/
def upsertSorted {α : Type} (key : α → String) (x : α) : List α → List α
  | [] => [x]
  | y :: ys =>
    if key y = key x then x :: ys
    else if key x < key y then x :: y :: ys
    else y :: upsertSorted key x ys

def deployKey (d : Deployment) : String := d.ns ++ "/" ++ d.name

/-- every edit by another writer gives the object a new resourceVersion -/
def applyEdit (s : Store) : Edit → Store
  | .setRole r =>
      { s with roles := if s.roles.any (·.name = r.name) then setRole r s.roles else s.roles ++ [r],
               rv := s.rv + 1, roleRV := (r.name, s.rv + 1) :: s.roleRV }
  | .delRole n => { s with roles := s.roles.filter (·.name ≠ n) }
  | .setPR p => { s with prs := upsertSorted (·.name) p s.prs }
  | .delPR n => { s with prs := s.prs.filter (·.name ≠ n) }
  | .setXRD d => { s with xrds := upsertSorted (·.name) d s.xrds }
  | .delXRD n => { s with xrds := s.xrds.filter (·.name ≠ n) }
  | .setDeploy d => { s with deploys := upsertSorted deployKey d s.deploys }
  | .delDeploy ns n => { s with deploys := s.deploys.filter (fun d => deployKey d ≠ ns ++ "/" ++ n) }
  | .setBinding b =>
      { s with bindings := if s.bindings.any (·.name = b.name) then setBinding b s.bindings else s.bindings ++ [b],
               rv := s.rv + 1, bindingRV := (b.name, s.rv + 1) :: s.bindingRV }
  | .delBinding n => { s with bindings := s.bindings.filter (·.name ≠ n) }

/-- what a cache that has not (yet) seen the named objects serves -/
def hideNames (names : List String) (s : Store) : Store :=
  { s with prs := s.prs.filter (fun p => !names.contains p.name),
           xrds := s.xrds.filter (fun d => !names.contains d.name),
           deploys := s.deploys.filter (fun d => !names.contains d.name),
           roles := s.roles.filter (fun r => !names.contains r.name),
           bindings := s.bindings.filter (fun b => !names.contains b.name) }

end Xp.C18
