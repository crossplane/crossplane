import Xp.Gen.Conditions
import Xp.Gen.C05Skel
/-
C05 model: how the XR reconciler derives status conditions
(internal/controller/apiextensions/composite/reconciler.go: Reconcile error path,
handleCommonCompositionResult, updateXRConditions) and the claim's Ready.
Messages and transition times are not modelled (never compared).
-/
namespace Xp.C05

structure Cond where
  type : String
  status : String
  reason : String
  deriving DecidableEq, Repr

structure FnCond where
  cond : Cond
  claim : Bool   -- target CompositeAndClaim
  deriving Repr

structure Res where
  name : String
  synced : Bool
  ready : Bool
  deriving DecidableEq, Repr

inductive Err where
  | none | generic | invalid | conflict
  deriving DecidableEq, Repr

/-- the table is regenerated from xpv1.IsSystemConditionType on every run -/
def isSystem (t : String) : Bool := Xp.Gen.systemConditionTypes.contains t

/-- xpv1.ConditionedStatus.SetConditions for one condition. -/
def setCond : List Cond → Cond → List Cond
  | [], c => [c]
  | x :: xs, c => if x.type = c.type then c :: replaceAll xs c else x :: setCond xs c
where
  replaceAll : List Cond → Cond → List Cond
    | [], _ => []
    | x :: xs, c => (if x.type = c.type then c else x) :: replaceAll xs c

def statusOf (cs : List Cond) (t : String) : Option String :=
  (cs.find? (·.type = t)).map (·.status)

def reasonOf (cs : List Cond) (t : String) : Option String :=
  (cs.find? (·.type = t)).map (·.reason)

structure St where
  conds : List Cond
  claimTypes : List String
  deriving Repr

/-- handleCommonCompositionResult: conditions part. Returns the new state and the custom types seen. -/
def applyFnConds : St → List FnCond → St × List String
  | st, [] => (st, [])
  | st, f :: fs =>
    if isSystem f.cond.type then applyFnConds st fs
    else
      let st' : St := { conds := setCond st.conds f.cond,
                        claimTypes := if f.claim && !st.claimTypes.contains f.cond.type
                                      then st.claimTypes ++ [f.cond.type] else st.claimTypes }
      let (r, seen) := applyFnConds st' fs
      (r, f.cond.type :: seen)

def available : Cond := ⟨"Ready", "True", "Available"⟩
def creating : Cond := ⟨"Ready", "False", "Creating"⟩
def reconcileSuccess : Cond := ⟨"Synced", "True", "ReconcileSuccess"⟩
def reconcileError : Cond := ⟨"Synced", "False", "ReconcileError"⟩

/-- updateXRConditions -/
def readyCond (composed : List Res) (explicit : Option Bool) : Cond :=
  let base := if composed.all (·.ready) then available else creating
  match explicit with
  | some true => available
  | some false => creating
  | none => base

def syncedCond (composed : List Res) : Cond :=
  if composed.all (·.synced) then reconcileSuccess else reconcileError

/-- fatal-error loop: every non-system condition not re-asserted becomes Unknown/FatalError -/
def markUnknown (seen : List String) (snapshot : List Cond) (cs : List Cond) : List Cond :=
  snapshot.foldl (fun acc c =>
    if isSystem c.type || seen.contains c.type then acc
    else setCond acc ⟨c.type, "Unknown", "FatalError"⟩) cs

/-- The status written by one XR reconcile after Compose returned; `none` = no status write. -/
def reconcile (old : St) (composed : List Res) (explicit : Option Bool) (fn : List FnCond) (err : Err) : Option St :=
  match err with
  | .conflict => none
  | .generic | .invalid =>
    let st1 : St := { old with conds := setCond old.conds reconcileError }
    let (st2, seen) := applyFnConds st1 fn
    some { st2 with conds := markUnknown seen st2.conds st2.conds }
  | .none =>
    let (st1, _) := applyFnConds old fn
    some { st1 with conds := setCond (setCond st1.conds (syncedCond composed)) (readyCond composed explicit) }

/-! ### One reconcile in full: every phase, every API error class, lost status writes

`reconcile` above is the Compose-centred special case (`reconcile_eq_call`). -/

/-- API error classes the reconciler may be answered with, in any phase. -/
inductive EC where
  | generic | invalid | conflict | notFound | alreadyExists | forbidden | temporary | deadline
  deriving DecidableEq, Repr

/-- Where a reconcile fails: the first Get, AddFinalizer, SelectComposition, revision Fetch,
Validate, Configure, Compose, PublishConnection. -/
inductive Phase where
  | get | finalizer | select | fetch | validate | configure | compose | publish
  deriving DecidableEq, Repr

/-- the phases whose error the reconciler tests with kerrors.IsConflict (requeue, no status write) -/
def Phase.conflictAware : Phase → Bool
  | .finalizer | .configure | .compose | .publish => true
  | _ => false

def reconcilePaused : Cond := ⟨"Synced", "False", "ReconcilePaused"⟩

/-- Everything one call of Reconciler.Reconcile depends on (besides the XR's stored conditions). -/
structure Call where
  paused : Bool
  composed : List Res
  explicit : Option Bool
  fn : List FnCond
  fault : Option (Phase × EC)
  /-- the final status update is not applied: it is answered with an error (any class), or it
  conflicts because the XR was read stale or edited by another client in between -/
  lost : Bool
  deriving Repr

/-- the status written when Compose failed fatally -/
def composeError (old : St) (fn : List FnCond) : St :=
  let st1 : St := { old with conds := setCond old.conds reconcileError }
  let r := applyFnConds st1 fn
  { r.1 with conds := markUnknown r.2 r.1.conds r.1.conds }

/-- the status written when everything succeeded -/
def composeOk (old : St) (composed : List Res) (explicit : Option Bool) (fn : List FnCond) : St :=
  let st1 := (applyFnConds old fn).1
  { st1 with conds := setCond (setCond st1.conds (syncedCond composed)) (readyCond composed explicit) }

/-- The status stored by one call of Reconcile; `none` = no status write took effect. -/
def reconcileCall (old : St) (c : Call) : Option St :=
  if c.lost then none else
  match c.fault with
  | some (.get, _) => none
  | f =>
    if c.paused then some { old with conds := setCond old.conds reconcilePaused } else
    match f with
    | none => some (composeOk old c.composed c.explicit c.fn)
    | some (p, e) =>
      if p.conflictAware && e == .conflict then none
      else if p == .compose then some (composeError old c.fn)
      else some { old with conds := setCond old.conds reconcileError }

/-! ### the deletion branch of Reconcile (meta.WasDeleted)

After the pause check, an XR with a deletion timestamp takes its own branch: Ready := Deleting,
UnpublishConnection, RemoveFinalizer (conflict: requeue, nothing written), Synced := ReconcileSuccess.
When the composite finalizer was the last one the API server removes the object with it and the
final status update finds nothing. -/

inductive DPhase where
  | unpublish | removeFinalizer
  deriving DecidableEq, Repr

def deleting : Cond := ⟨"Ready", "False", "Deleting"⟩

structure DelCall where
  /-- the first Get fails (any class): the reconcile returns at once -/
  getFails : Bool
  paused : Bool
  fault : Option (DPhase × EC)
  /-- the final status update is not applied (answered with an error, or the XR was edited in between) -/
  lost : Bool
  deriving Repr

/-- an XR being deleted, as far as its conditions are concerned -/
structure DelXR where
  st : St
  /-- it still carries the composite finalizer (RemoveFinalizer issues an Update only then) -/
  fin : Bool
  /-- another finalizer holds the object after ours is gone -/
  held : Bool
  deriving Repr

/-- REGENERATED FROM THE SOURCE: does `Reconcile` set the Deleting condition a second time (after
RemoveFinalizer)? Since fix f96c12b (D39) it does; before, it did not (see `reconcileDeleted`). -/
def reassertsDeleting : Bool := decide (Xp.Gen.c05SkelReconcile.count "xpv1.Deleting" ≥ 2)

/-- the status the deletion branch stores; none = no status write took effect.

`re` = Deleting is set again after RemoveFinalizer. THE CODE BEFORE FIX f96c12b DID NOT (`re = false`):
RemoveFinalizer's Update answers with the stored object, which replaces the XR held in memory -
status included - so the Deleting condition set before is gone when ReconcileSuccess is added and
the status is stored: the XR keeps the Ready condition it had. (It matters only when another
finalizer - foreground deletion, a Usage - keeps the object alive.) -/
def reconcileDeleted (re : Bool) (old : St) (fin : Bool) (c : DelCall) : Option St :=
  if c.getFails || c.lost then none else
  if c.paused then some { old with conds := setCond old.conds reconcilePaused } else
  let st1 : St := { old with conds := setCond old.conds deleting }
  match c.fault with
  | some (.unpublish, _) => some { st1 with conds := setCond st1.conds reconcileError }
  | some (.removeFinalizer, e) =>
    -- without the finalizer no Update is issued (nothing can fail); APIFinalizer.RemoveFinalizer
    -- ignores a NotFound answer (which leaves the XR in memory alone)
    if !fin || e == .notFound then some { st1 with conds := setCond st1.conds reconcileSuccess }
    else if e == .conflict then none
    else some { st1 with conds := setCond st1.conds reconcileError }
  | none =>
    if fin && !re then some { old with conds := setCond old.conds reconcileSuccess }   -- the Update reset the XR in memory
    else some { st1 with conds := setCond st1.conds reconcileSuccess }

/-- RemoveFinalizer's Update took effect -/
def DelCall.removes (c : DelCall) (fin : Bool) : Bool :=
  fin && !c.getFails && !c.paused && c.fault.isNone

/-- one reconcile of an XR being deleted: what is stored afterwards (none = the object is gone) and
whether the reconcile's status update took effect -/
def delStep (re : Bool) (x : Option DelXR) (c : DelCall) : Option DelXR × Bool :=
  match x with
  | none => (none, false)
  | some x =>
    if c.removes x.fin then
      if x.held then
        -- the Update that removed the finalizer returned the stored object: the status update follows
        (match reconcileDeleted re x.st x.fin c with
         | some st => (some { x with st := st, fin := false }, true)
         | none => (some { x with fin := false }, false))
      else (none, false)   -- the object went away with its last finalizer: the status update finds nothing
    else
      match reconcileDeleted re x.st x.fin c with
      | some st => (some { x with st := st }, true)
      | none => (some x, false)

def delTrace (re : Bool) : Option DelXR → List DelCall → List (Option St × Bool)
  | _, [] => []
  | x, c :: cs =>
    let r := delStep re x c
    (r.1.map (·.st), r.2) :: delTrace re r.1 cs

/-! ### declared call skeletons (tie to the source, DESIGN 2.3 a)

The calls of the mirrored Go functions, in source order, as the definitions above read them.
`Xp.Gen.c05Skel*` are the same lists extracted by go/ast from the CURRENT tree on every check
run; `Xp.Props.C05` states that they are equal (`skeleton_*`). Inserting, removing or reordering
a phase call, an error-class test, a condition write or a status update in one of these functions
breaks an obligation before any scenario is run. The skeleton of `Reconcile` is a FUNCTION of the
model (`Phase.callName`, `Phase.conflictAware`): an `IsConflict` test added to or removed from a
phase changes the regenerated list but not the model's. -/

/-- the Go call a phase stands for -/
def Phase.callName : Phase → String
  | .get => "client.Get"
  | .finalizer => "composite.AddFinalizer"
  | .select => "composite.SelectComposition"
  | .fetch => "revision.Fetch"
  | .validate => "revision.Validate"
  | .configure => "composite.Configure"
  | .compose => "resource.Compose"
  | .publish => "composite.PublishConnection"

/-- `xr.SetConditions(xpv1.ReconcileError(err)); return ..., r.client.Status().Update(ctx, xr)`:
the tail of every failing phase (model: `setCond old.conds reconcileError`, then the write that
`Call.lost` may drop) -/
def skelErrTail : List String := ["xr.SetConditions", "xpv1.ReconcileError", "client.Status.Update"]

/-- the calls of one phase of `Reconcile`, as `reconcileCall` reads them -/
def Phase.skel (p : Phase) : List String :=
  match p with
  | .get => [p.callName]                       -- an error returns at once: nothing is written
  | .compose =>
    [p.callName, "kerrors.IsConflict",         -- conflictAware: requeue, nothing written
     "kerrors.IsInvalid",                      -- not modelled: only the condition MESSAGE depends on it
     "xr.SetConditions", "xpv1.ReconcileError",  -- composeError: setCond old.conds reconcileError
     "handleCommonCompositionResult",          -- composeError: applyFnConds
     "xr.GetConditions", "xpv1.IsSystemConditionType", "xr.SetConditions",  -- composeError: markUnknown
     "client.Status.Update"]
  | p => [p.callName] ++ (if p.conflictAware then ["kerrors.IsConflict"] else []) ++ skelErrTail

/-- the pause branch: `setCond old.conds reconcilePaused` and the status update -/
def skelPaused : List String := ["meta.IsPaused", "xr.SetConditions", "xpv1.ReconcilePaused", "client.Status.Update"]

/-- the deletion branch (meta.WasDeleted): Deleting, UnpublishConnection, RemoveFinalizer
(conflict-aware), ReconcileSuccess - mirrored by `reconcileDeleted` above -/
def skelDeleted : List String :=
  ["meta.WasDeleted", "xr.SetConditions", "xpv1.Deleting",
   "composite.UnpublishConnection"] ++ skelErrTail ++
  ["composite.RemoveFinalizer", "kerrors.IsConflict"] ++ skelErrTail ++
  (if reassertsDeleting then ["xr.SetConditions", "xpv1.Deleting", "xpv1.ReconcileSuccess", "client.Status.Update"]
   else ["xr.SetConditions", "xpv1.ReconcileSuccess", "client.Status.Update"])

/-- composite `Reconciler.Reconcile` -/
def skelReconcile : List String :=
  Phase.get.skel ++ skelPaused ++ skelDeleted ++
  [Phase.finalizer, .select, .fetch, .validate, .configure, .compose].flatMap Phase.skel ++
  ["engine.StartWatches"] ++                   -- not modelled: its error is only logged, no condition depends on it
  Phase.publish.skel ++
  ["handleCommonCompositionResult",            -- composeOk: applyFnConds
   "updateXRConditions",                       -- composeOk: syncedCond, readyCond
   "client.Status.Update", "client.Status.Update"]  -- the two exits (requeue now / after the poll interval): one write, `Call.lost`

/-- `updateXRConditions`: Available / ReconcileSuccess by default (readyCond, syncedCond: the `all`
branches), ReconcileError when something is unsynced, Creating when something is unready, then the
explicit readiness (Available / Creating), and ONE SetConditions(synced, ready) (composeOk: the two
nested setCond) -/
def skelUpdateXRConditions : List String :=
  ["xpv1.Available", "xpv1.ReconcileSuccess", "xpv1.ReconcileError", "xpv1.Creating", "xpv1.Available", "xpv1.Creating",
   "xr.SetConditions"]

/-- `handleCommonCompositionResult`: the claim is looked up for events only (not modelled: events);
per function condition the system-type filter, SetConditions, SetClaimConditionTypes (applyFnConds) -/
def skelHandleCommon : List String :=
  ["getClaimFromXR", "xpv1.IsSystemConditionType", "xr.SetConditions", "xr.SetClaimConditionTypes"]

/-! ### Sequences of reconciles of several XRs by one long-lived reconciler

The model is per call: the only state a call sees is the addressed XR's stored conditions. -/

structure Step where
  xr : Nat
  call : Call
  deriving Repr

/-- one step: the new per-XR states and what was written (none = nothing) -/
def stepSeq (sts : List St) (s : Step) : List St × Option St :=
  match sts[s.xr]? with
  | none => (sts, none)
  | some old =>
    match reconcileCall old s.call with
    | none => (sts, none)
    | some st => (sts.set s.xr st, some st)

def runSeq : List St → List Step → List St
  | sts, [] => sts
  | sts, s :: ss => runSeq (stepSeq sts s).1 ss

/-- per step: the addressed XR's state after the step, and whether a status write took effect -/
def traceSeq : List St → List Step → List (Option St × Bool)
  | _, [] => []
  | sts, s :: ss =>
    let r := stepSeq sts s
    (r.1[s.xr]?, r.2.isSome) :: traceSeq r.1 ss

/-- Claim reconciler: Ready=True (Available) is set only on the path where the
bound XR, as read after syncing, has Ready=True. Otherwise Waiting. -/
def claimReady (xrReadyStatus : Option String) : Cond :=
  if xrReadyStatus = some "True" then available else ⟨"Ready", "False", "Waiting"⟩

/-- xr.GetCondition(t): the stored condition, or an Unknown one when absent -/
def getCond (cs : List Cond) (t : String) : Cond :=
  (cs.find? (·.type = t)).getD ⟨t, "Unknown", ""⟩

/-- The tail of the claim Reconcile after a successful Sync (claim/reconciler.go): Synced is
set, the XR's claimConditionTypes are copied, then Ready is Available iff the XR read
after syncing is Ready=True, else Waiting. -/
def claimReconcile (old : List Cond) (xrConds : List Cond) (claimTypes : List String) : List Cond :=
  let c1 := setCond old reconcileSuccess
  let c2 := claimTypes.foldl (fun acc t => setCond acc (getCond xrConds t)) c1
  setCond c2 (claimReady (statusOf xrConds "Ready"))

end Xp.C05
