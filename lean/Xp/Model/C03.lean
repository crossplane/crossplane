import Xp.Base.Prog
import Xp.Model.C01
import Xp.Model.C04
import Xp.Gen.C03Skel
/-
C03 model sections of their own (the reconcile as a whole is Xp/Model/C01.lean, the pure
pipeline interpreter Xp/Model/C04.lean; both are shared and used read-only here):

 A. `ExistingExtraResourcesFetcher.Fetch` and `FetchingFunctionRunner.RunFunction`
    (extra_resources.go) written call by call as a `Prog` over the API server's read interface,
    so that every Get / List of an extra resource is a call that a fault plan can fail. The
    requirements test (`reflect.DeepEqual(newRequirements, requirements)`) is structural
    equality on `Option Reqs`: `none` is the nil `*Requirements` the loop starts with, which is
    NOT equal to a present-but-empty requirements message.
 B. `DeletingComposedResourceGarbageCollector.GarbageCollectComposedResources`
    (composition_functions.go) with the controller check the C01 model leaves out, and the
    function composer built on it (`composeFnFull`).
 C. The declared call skeletons of the Go functions mirrored here and in the parts of
    Xp/Model/C01.lean that C03's theorems are about; `Xp/Props/C03.lean` proves each equal to
    the skeleton regenerated from the source tree (`Xp.Gen.c03Skel*`).
-/
namespace Xp.C03
open Xp.C04 (ClusterObj Request Response hasFatal Extra)

/-! ## A. extra resources: `Fetch` and `RunFunction` -/

/-- the `match` oneof of a `ResourceSelector` -/
inductive Match where
  | name (n : String)                       -- ResourceSelector_MatchName
  | labels (ls : List (String × String))    -- ResourceSelector_MatchLabels
  | unset                                   -- oneof not set (a newer / malformed selector)
  deriving DecidableEq, Repr, Inhabited

structure Selector where
  kind : String      -- apiVersion + kind
  m : Match
  deriving DecidableEq, Repr, Inhabited

/-- `requirements.extra_resources`: a Go map, here sorted by key; a `none` value is a nil
`*ResourceSelector` entry -/
abbrev Reqs := List (String × Option Selector)

inductive FReq where
  | getExtra (kind name : String)                              -- client.Get (cluster scoped)
  | listExtra (kind : String) (labels : List (String × String)) -- client.List + MatchingLabels
  deriving DecidableEq, Repr, Inhabited

inductive FResp where
  | found (name : String)
  | notFound
  | items (names : List String)
  | err
  deriving DecidableEq, Repr, Inhabited

/-- the API server's answer to the two reads (the cluster is never written by them) -/
def fexec (cl : List ClusterObj) : FReq → List ClusterObj × FResp
  | .getExtra k n => (cl, if cl.any (fun o => o.kind = k ∧ o.name = n) then .found n else .notFound)
  | .listExtra k ls =>
    (cl, .items ((cl.filter fun o => o.kind = k ∧ ls.all (fun l => o.labels.contains l)).map (·.name)))

def fsem : Sem (List ClusterObj) FReq FResp where
  exec := fexec
  errResp := fun _ _ => .err

/-- value handed to the function for one requirement: `none` = nil `*Resources` (by-name
selector, object not found) -/
abbrev Fetched := Option (List String)

/-- ExistingExtraResourcesFetcher.Fetch, continuation style; the continuation receives `none`
when Fetch returns an error. -/
def fetchP {α : Type} (sel : Option Selector) (k : Option Fetched → Prog FReq FResp α) : Prog FReq FResp α :=
  match sel with
  | none => k none                                   -- errNilResourceSelector
  | some ⟨kind, .name n⟩ => .call (.getExtra kind n) fun
    | .found nm => k (some (some [nm]))
    | .notFound => k (some none)                     -- "return nil, nil"
    | _ => k none                                    -- errGetExtraResourceByName
  | some ⟨kind, .labels ls⟩ => .call (.listExtra kind ls) fun
    | .items ns => k (some (some ns))
    | _ => k none                                    -- errListExtraResources
  | some ⟨_, .unset⟩ => k none                       -- errUnknownResourceSelector

/-- what a successful Fetch returns, as a function of the cluster -/
def fetchVal (cl : List ClusterObj) : Selector → Fetched
  | ⟨kind, .name n⟩ => if cl.any (fun o => o.kind = kind ∧ o.name = n) then some [n] else none
  | ⟨kind, .labels ls⟩ => some ((cl.filter fun o => o.kind = kind ∧ ls.all (fun l => o.labels.contains l)).map (·.name))
  | ⟨_, .unset⟩ => none

/-- selectors Fetch has an answer for (the others make it return an error without any call) -/
def fetchable : Option Selector → Bool
  | some ⟨_, .name _⟩ | some ⟨_, .labels _⟩ => true
  | _ => false

/-- the loop `for name, selector := range newRequirements.GetExtraResources()`; the continuation
receives `none` as soon as one Fetch fails ("fetching resources for %s") -/
def fetchAll {α : Type} : Reqs → Extra → (Option Extra → Prog FReq FResp α) → Prog FReq FResp α
  | [], acc, k => k (some acc)
  | (name, sel) :: rest, acc, k =>
    fetchP sel fun x => x.elim (k none) fun r => fetchAll rest (acc ++ [(name, r)]) k

/-- the parts of a RunFunctionResponse: `base` as in the C04 model (whose `reqs` field is not
looked at here) and the requirements as RunFunction sees them: `none` = `GetRequirements()`
returned nil -/
structure Rsp where
  base : Response
  reqs : Option Reqs
  deriving Repr, Inhabited

/-- a function: deterministic in its request; `none` = the call returned an error -/
abbrev XFn := Request → Option Rsp

inductive RunResult where
  | ok (rsp : Rsp)
  | err
  deriving Repr, Inhabited

/-- FetchingFunctionRunner.RunFunction. `fuel` = calls still allowed
(MaxRequirementsIterations + 1 initially), `prev` = the requirements of the previous iteration
(`none` initially: `var requirements *fnv1.Requirements`), `order` = Go's map iteration order over
the requirements, `tr` = the requests the function has received so far. -/
def runFunctionP (f : XFn) (order : Reqs → Reqs) :
    Nat → Request → Option Reqs → List Request → Prog FReq FResp (List Request × RunResult)
  | 0, _, _, tr => .ret (tr, .err)                       -- "requirements didn't stabilize"
  | fuel + 1, req, prev, tr =>
    match f req with
    | none => .ret (tr ++ [req], .err)                   -- c.wrapped.RunFunction failed
    | some rsp =>
      if hasFatal rsp.base.results then .ret (tr ++ [req], .ok rsp)    -- "We won't iterate"
      else if rsp.reqs = prev then .ret (tr ++ [req], .ok rsp)         -- reflect.DeepEqual
      else fetchAll (order (rsp.reqs.getD [])) [] fun x =>
        x.elim (.ret (tr ++ [req], .err))            -- a Fetch failed
          fun extra => runFunctionP f order fuel { req with extra := extra, ctx := rsp.base.ctx } rsp.reqs (tr ++ [req])

/-- the top-level call -/
def runFunctionTop (f : XFn) (order : Reqs → Reqs) (req : Request) : Prog FReq FResp (List Request × RunResult) :=
  runFunctionP f order (Xp.Gen.c03MaxRequirementsIterations + 1) req none []

/-- the rounds of one `RunFunction`, as a specification: `Rounds f cl order n req prev rq rsp`
says that starting from request `req` with previous requirements `prev`, after `n` further
rounds — each with a non-fatal answer whose requirements differ from the previous round's and
are all fetched — the function is sent `rq` and answers `rsp`. -/
inductive Rounds (f : XFn) (cl : List ClusterObj) (order : Reqs → Reqs) : Nat → Request → Option Reqs → Request → Option Reqs → Prop where
  | here (req prev) : Rounds f cl order 0 req prev req prev
  | next {n req prev rq pv} (rsp : Rsp) :
      f req = some rsp → hasFatal rsp.base.results = false → rsp.reqs ≠ prev →
      (∀ p ∈ order (rsp.reqs.getD []), fetchable p.2 = true) →
      Rounds f cl order n
        { req with extra := (order (rsp.reqs.getD [])).map (fun p => (p.1, (p.2.map (fetchVal cl)).getD none)),
                   ctx := rsp.base.ctx } rsp.reqs rq pv →
      Rounds f cl order (n + 1) req prev rq pv

/-! ### relation to the pure interpreter of the C04 model -/

def ofSel (s : Xp.C04.Sel) : Selector :=
  if s.name ≠ "" then ⟨s.kind, .name s.name⟩ else ⟨s.kind, .labels s.labels⟩

/-- the C04 model writes "no requirements" as `[]` -/
def ofReqs (l : List (String × Xp.C04.Sel)) : Option Reqs :=
  if l = [] then none else some (l.map fun p => (p.1, some (ofSel p.2)))

def liftFn (f : Xp.C04.Fn) : XFn := fun rq => (f rq).map fun r => ⟨r, ofReqs r.reqs⟩

/-! ## B. the function composer's garbage collector, with its controller check -/
open Xp.C01

/-- DeletingComposedResourceGarbageCollector.GarbageCollectComposedResources on the undesired
observed resources (in Go's map order): a resource controlled by someone else aborts the
collection ("Don't garbage collect composed resources that someone else controls"), else
Update (labels stripped, NotFound ignored) and Delete (NotFound ignored). -/
def gcFnFull (lrv : Nat) : List CObj → P → P
  | [], k => k
  | o :: os, k =>
    if o.ctrl = .other then onError lrv     -- errFmtControllerMismatch
    else
      wcall lrv (.gcUpdate o.kind o.name) fun _ =>
      wcall lrv (.delete o.kind o.name) fun _ =>
      gcFnFull lrv os k

/-- `del := observed \ desired` by resource name (the first loop of the collector) -/
def undesiredOf (obs : Obs) (ds : List Desired) : List CObj :=
  (obs.filter fun p => !(ds.any (·.rname = p.1))).map (·.2)

/-- FunctionComposer.Compose with the collector above (everything else as in `composeFn`) -/
def composeFnFull (lrv : Nat) (refs : List Ref) (out : Obs → FnOut) (ch : Choices) : P :=
  observeFn lrv refs [] fun obs =>
  match out obs with
  | .failed => onError lrv
  | .desired ds =>
    renderFn lrv obs ds ch.fresh [] fun named =>
    gcFnFull lrv (ch.gcOrder (undesiredOf obs ds)) <|
    wcall lrv (.patchRefs ch.ver (refsOf named)) fun _ =>
    applyFn lrv (ch.applyOrder named) true fun synced =>
    .call .statusPatch fun
      | .okRv rv => finish rv synced
      | .conflict => onConflict
      | _ => onErrorO none

/-- no entry is controlled by someone else -/
def NonForeign (obs : Obs) : Prop := ∀ p ∈ obs, p.2.ctrl ≠ .other

/-! ## C. declared call skeletons

One entry per call of the Go function, in source order (`return` = an exit), each with the model
step that mirrors it. `Xp/Props/C03.lean` (`skeleton_*`) proves these equal to the lists
regenerated from the current tree. -/

/-- FetchingFunctionRunner.RunFunction ↔ `runFunctionP` -/
def skelRunFunction : List String :=
  [ "wrapped.RunFunction"                 -- `f req`
  , "return"                              --   `none => (tr ++ [req], .err)`
  , "rsp.GetResults", "rs.GetSeverity"    -- `hasFatal rsp.base.results`
  , "return"                              --   `.ok rsp` without iterating
  , "rsp.GetRequirements"                 -- `rsp.reqs`
  , "reflect.DeepEqual"                   -- `rsp.reqs = prev` (structural; nil ≠ present-but-empty)
  , "return"                              --   `.ok rsp`: the requirements stabilised
  , "newRequirements.GetExtraResources"   -- `order (rsp.reqs.getD [])`
  , "resources.Fetch"                     -- `fetchAll` → `fetchP`
  , "return", "errors.Wrapf"              --   `none => (tr ++ [req], .err)`
  , "rsp.GetContext"                      -- `ctx := rsp.base.ctx`
  , "return", "errors.Errorf" ]           -- fuel used up: `(tr, .err)`

/-- ExistingExtraResourcesFetcher.Fetch ↔ `fetchP` -/
def skelFetch : List String :=
  [ "return", "errors.New"                -- nil selector: `none => k none`
  , "rs.GetMatch"                         -- `match sel.m`
  , "rs.GetMatchName", "client.Get"       -- `.getExtra kind n`
  , "kerrors.IsNotFound", "return"        --   `.notFound => k (some none)`
  , "return"                              --   other error: `k none`
  , "AsStruct", "return"                  --   not modelled: AsStruct of an *Unstructured read from the API server cannot fail
  , "return"                              --   `.found nm => k (some (some [nm]))`
  , "client.List", "client.MatchingLabels", "match.MatchLabels.GetLabels"   -- `.listExtra kind ls`
  , "return"                              --   error: `k none`
  , "AsStruct", "return"                  --   not modelled (as above)
  , "return"                              --   `.items ns => k (some (some ns))`
  , "return", "errors.New" ]              -- unknown match: `.unset => k none`

/-- DeletingComposedResourceGarbageCollector.GarbageCollectComposedResources ↔ `gcFnFull` -/
def skelGcFn : List String :=
  [ "metav1.GetControllerOf", "owner.GetUID", "return"   -- `o.ctrl = .other → onError`
  , "meta.RemoveLabels"                                  -- content of the `.gcUpdate` request (labels are not in the abstract store)
  , "client.Update", "resource.IgnoreNotFound", "return" -- `wcall (.gcUpdate ..)`: NotFound goes on, err / conflict abort
  , "client.Delete", "resource.IgnoreNotFound", "return" -- `wcall (.delete ..)`
  , "return" ]                                           -- `[] => k`

/-- GarbageCollectingAssociator.AssociateTemplates ↔ `Xp.C01.associatePT` -/
def skelAssociator : List String :=
  [ "return", "AssociateByOrder", "cr.GetResourceReferences"   -- an unnamed template: not modelled (the XR world has named templates only)
  , "cr.GetResourceReferences"                                 -- the `List Ref` argument
  , "cached.Get", "kerrors.IsNotFound"                         -- `.getCached`
  , "uncached.Get", "kerrors.IsNotFound"                       -- `.notFound => .getObj` ; second NotFound: skip the reference
  , "return"                                                   -- other error of either read: `onError`
  , "GetCompositionResourceName"                               -- `o.annot`
  , "return", "AssociateByOrder", "cr.GetResourceReferences"   -- annotation-less resource: the model stops (`onError`) where the code falls back to
                                                               -- association by order — outside the model, see level_note
  , "metav1.GetControllerOf", "cr.GetUID", "return"            -- template gone ∧ `o.ctrl = .other → onError`
  , "meta.RemoveLabels"                                        -- content of `.gcUpdate`
  , "cached.Update", "resource.IgnoreNotFound", "return"       -- `wcall (.gcUpdate ..)`
  , "cached.Delete", "resource.IgnoreNotFound", "return"       -- `wcall (.delete ..)`
  , "return" ]                                                 -- `[] => k acc`

/-- ExistingComposedResourceObserver.ObserveComposedResources ↔ `Xp.C01.observeFn` -/
def skelObserver : List String :=
  [ "xr.GetResourceReferences"                     -- the `List Ref` argument
  , "cached.Get", "kerrors.IsNotFound"             -- `.getCached`
  , "uncached.Get", "kerrors.IsNotFound"           -- `.notFound => .getObj`; second NotFound: skip
  , "return"                                       -- other error of either read: `onError`
  , "metav1.GetControllerOf", "xr.GetUID"          -- `o.ctrl = .other`: skip
  , "GetCompositionResourceName", "return"         -- `o.annot = "" → onError`
  , "details.FetchConnection", "return"            -- not modelled here: connection secrets are C09's model; the XR world's composed resources have none (no call)
  , "return" ]                                     -- `[] => k acc`

/-- FunctionComposer.Compose ↔ `composeFnFull` (= `Xp.C01.composeFn`, theorem `compose_with_controller_check_eq`) with
`out := pipelineOut …` (the pipeline loop is `Xp.C04.runPipeline`, each step's RunFunction is
`runFunctionP`) -/
def skelComposeFn : List String :=
  [ "composite.ObserveComposedResources"           -- `observeFn`
  , "composite.FetchConnection"                    -- not modelled: the XR's own connection secret (C09); no call in the XR world
  , "AsState"                                      -- `obs.map toRes` (pipelineOut)
  , "client.Get"                                   -- credentials secret: `Step.creds` (`none` = the Get failed) in runPipeline
  , "pipeline.RunFunction"                         -- `runFetching` / `runFunctionP`
  , "FromStruct"                                   -- `toDesired`
  , "RenderComposedResourceMetadata"               -- not modelled: cannot fail for a labelled XR (labels are outside the abstract store)
  , "composite.GenerateName"                       -- `renderFn`: one `.getCached` probe per generated name
  , "composite.GarbageCollectComposedResources"    -- `gcFnFull`
  , "UpdateResourceRefs"                           -- `refsOf`
  , "client.Patch"                                 -- `.patchRefs`
  , "composite.ManagedFieldsUpgrader.Upgrade"      -- not modelled: issues no call unless the object carries client-side-apply managed fields (none in the XR world)
  , "client.Patch", "kerrors.IsInvalid"            -- `applyFn`: `.apply`, `.invalid` tolerated
  , "FromStruct", "removeSystemConditions"         -- not modelled here: XR status content (C05)
  , "client.Status.Patch" ]                        -- `.statusPatch`

end Xp.C03
