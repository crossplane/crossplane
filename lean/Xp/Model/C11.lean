import Xp.Gen.Xcrd
/-
C11 model: derivation of the composite and claim CRDs from an XRD
(internal/xcrd/crd.go: ForCompositeResource, ForCompositeResourceClaim,
genCrdVersion, validateClaimNames, setCrdMetadata), the XRD update validation
(apis/apiextensions/v1/xrd_validation.go: Validate, validateConversion,
ValidateUpdate) and the admission decision of the XRD webhook
(internal/validation/apiextensions/v1/xrd/handler.go) with the API server's
dry-run verdicts as an input.

Schemas are `Xp.Gen.XSchema` trees (the structure is emitted by the table dumper
next to the machinery tables): `props` is an association list standing for the Go
map `Properties`; the fields the code reads or writes are explicit, every other
JSONSchemaProps field is opaque JSON text in `rest`.  JSON (un)marshalling of
`extv1.JSONSchemaProps` is library code and is not modelled: the harness hands the
model the author's schema as `json.Unmarshal` produced it.

Go maps: `m[k] = v` is `setKey`, `for k, v := range t { m[k] = v }` is `setAll`
(a left fold of `setKey`), `m[k]` on a missing key is the zero value (`prop`).
Map iteration order cannot be observed in the result because the tables have no
duplicate keys (`nodup_tableOf`, `nodup_statusProps` in Proofs/C11, over the generated
tables; stated with the other table obligations as Props/C11 `tables_consistent`).
-/
namespace Xp.C11

abbrev Schema := Xp.Gen.XSchema

/-- first binding of `k` -/
def lookup (k : String) : List (String × α) → Option α
  | [] => none
  | (k', v) :: rest => if k' = k then some v else lookup k rest

/-- Go `m[k] = v` on an association list: replace the binding in place, else append -/
def setKey (k : String) (v : α) : List (String × α) → List (String × α)
  | [] => [(k, v)]
  | (k', v') :: rest => if k' = k then (k, v) :: rest else (k', v') :: setKey k v rest

/-- Go `for k, v := range t { m[k] = v }` -/
def setAll (m : List (String × α)) : List (String × α) → List (String × α)
  | [] => m
  | (k, v) :: rest => setAll (setKey k v m) rest

def keys (m : List (String × α)) : List String := m.map (·.1)

/-- Go `s.Properties[k]`: the zero schema when the key is missing -/
def prop (s : Schema) (k : String) : Schema := (lookup k s.props).getD {}

/-! ### the XRD -/

structure Names where
  kind : String
  plural : String
  singular : String := ""
  listKind : String := ""
  shortNames : List String := []
  categories : List String := []
  deriving DecidableEq, Repr

/-- `vr.Schema`: nil, a RawExtension that does not unmarshal into JSONSchemaProps, or the parsed schema -/
inductive SchemaIn where
  | absent
  | bad
  | ok (s : Schema)

structure Version where
  name : String
  served : Bool
  referenceable : Bool
  deprecated : Option Bool := none
  deprecationWarning : Option String := none
  /-- author's additionalPrinterColumns, each opaque JSON text -/
  columns : List String := []
  schema : SchemaIn

/-- spec.conversion as far as validateConversion looks into it; `raw` is the whole value (opaque) -/
structure Conversion where
  strategy : String
  hasWebhook : Bool
  hasClientConfig : Bool
  raw : String
  deriving DecidableEq, Repr

structure Xrd where
  name : String
  uid : String := ""
  labels : List (String × String) := []
  /-- spec.metadata.labels / annotations (nil and empty are not distinguished) -/
  metaLabels : List (String × String) := []
  metaAnnotations : List (String × String) := []
  group : String
  names : Names
  claimNames : Option Names := none
  versions : List Version
  conversion : Option Conversion := none
  defaultCompositionUpdatePolicy : Option String := none
  defaultCompositeDeletePolicy : Option String := none

/-! ### the derived CRD -/

structure OwnerRef where
  apiVersion : String
  kind : String
  name : String
  uid : String
  controller : Bool
  blockOwnerDeletion : Bool
  deriving DecidableEq, Repr

structure CrdVersion where
  name : String
  served : Bool
  storage : Bool
  deprecated : Bool
  deprecationWarning : Option String
  columns : List String
  schema : Schema
  statusSubresource : Bool
  scaleSubresource : Bool := false

structure Crd where
  name : String
  labels : List (String × String)
  annotations : List (String × String)
  owners : List OwnerRef
  scope : String
  group : String
  names : Names
  versions : List CrdVersion
  conversion : Option Conversion

inductive Err where
  | parseSchema
  | nilValidation
  | missingClaimNames
  | conflictingClaimName (n : String)
  deriving DecidableEq, Repr

/-! ### genCrdVersion -/

/-- the name length limit: the author's `metadata.name.maxLength` when it is smaller -/
def nameMaxLength (s : Schema) (maxNameLength : Int) : Int :=
  match (prop (prop s "metadata") "name").maxLength with
  | some old => if old < maxNameLength then old else maxNameLength
  | none => maxNameLength

/-- the `spec` node: BaseProps' node, author's required / preserve-unknown / rules / oneOf /
description / properties merged in (nothing else of the author's node is read) -/
def genSpec (base : Schema) (s : Schema) : Schema :=
  let xSpec := prop s "spec"
  let cSpec := prop base "spec"
  { cSpec with
    required := cSpec.required ++ xSpec.required
    preserveUnknown := xSpec.preserveUnknown
    xValidations := cSpec.xValidations ++ xSpec.xValidations
    oneOf := cSpec.oneOf ++ xSpec.oneOf
    description := xSpec.description
    props := setAll cSpec.props xSpec.props }

/-- the `status` node: author's fields first, then the machinery status properties -/
def genStatus (base : Schema) (s : Schema) : Schema :=
  let xStatus := prop s "status"
  let cStatus := prop base "status"
  { cStatus with
    required := xStatus.required
    xValidations := xStatus.xValidations
    description := xStatus.description
    oneOf := xStatus.oneOf
    props := setAll (setAll cStatus.props xStatus.props) Xp.Gen.xcrdStatusProps }

def genMetadata (base : Schema) (s : Schema) (maxNameLength : Int) : Schema :=
  let xName : Schema := { prop (prop base "metadata") "name" with
                          maxLength := some (nameMaxLength s maxNameLength), type := "string" }
  { prop base "metadata" with props := [("name", xName)] }

def genSchema (s : Schema) (maxNameLength : Int) : Schema :=
  let base := Xp.Gen.xcrdBaseProps
  { base with
    description := s.description
    props := setKey "status" (genStatus base s)
              (setKey "spec" (genSpec base s)
                (setKey "metadata" (genMetadata base s maxNameLength) base.props)) }

/-- the CRD version built from XRD version `vr` whose schema parsed to `s` -/
def mkVersion (vr : Version) (s : Schema) (maxNameLength : Int) : CrdVersion :=
  { name := vr.name
    served := vr.served
    storage := vr.referenceable
    deprecated := vr.deprecated.getD false
    deprecationWarning := vr.deprecationWarning
    columns := vr.columns
    schema := genSchema s maxNameLength
    statusSubresource := true }

def genVersion (vr : Version) (maxNameLength : Int) : Except Err CrdVersion :=
  match vr.schema with
  | .bad => .error .parseSchema
  | .absent => .error .nilValidation
  | .ok s => .ok (mkVersion vr s maxNameLength)

/-- the statements of `genCrdVersion` (internal/xcrd/crd.go) that the definitions above mirror, one entry per
statement with the model step that mirrors it (Props/C11: skeleton obligations against the list
regenerated from the current tree) -/
def skelGenCrdVersion : List String := [
  "func genCrdVersion(vr v1.CompositeResourceDefinitionVersion, maxNameLength int64) (*extv1.CustomResourceDefinitionVersion, error)",  -- genVersion : Version → Int → Except Err CrdVersion
  "crdv := extv1.CustomResourceDefinitionVersion{ Name: vr.Name, Served: vr.Served, Storage: vr.Referenceable, Deprecated: ptr.Deref(vr.Deprecated, false), DeprecationWarning: vr.DeprecationWarning, AdditionalPrinterColumns: vr.AdditionalPrinterColumns, Schema: &extv1.CustomResourceValidation{ OpenAPIV3Schema: BaseProps(), }, Subresources: &extv1.CustomResourceSubresources{ Status: &extv1.CustomResourceSubresourceStatus{}, }, }",  -- mkVersion: name, served, storage := vr.referenceable, deprecated := vr.deprecated.getD false, deprecationWarning, columns := vr.columns, schema from Xp.Gen.xcrdBaseProps (genSchema), statusSubresource := true
  "s, err := parseSchema(vr.Schema)",  -- genVersion: match vr.schema (parseSchema: SchemaIn)
  "if err != nil",  -- genVersion: | .bad
  "return nil, errors.Wrapf(err, errParseValidation)",  -- genVersion: .error .parseSchema
  "end",
  "if s == nil",  -- genVersion: | .absent
  "return nil, errors.New(errCustomResourceValidationNil)",  -- genVersion: .error .nilValidation
  "end",
  "crdv.Schema.OpenAPIV3Schema.Description = s.Description",  -- genSchema: description := s.description
  "maxLength := maxNameLength",  -- nameMaxLength: | none => maxNameLength
  "if old := s.Properties[\"metadata\"].Properties[\"name\"].MaxLength; old != nil && *old < maxLength",  -- nameMaxLength: | some old => if old < maxNameLength
  "maxLength = *old",  -- nameMaxLength: then old
  "end",
  "xName := crdv.Schema.OpenAPIV3Schema.Properties[\"metadata\"].Properties[\"name\"]",  -- genMetadata: prop (prop base "metadata") "name"
  "xName.MaxLength = ptr.To(maxLength)",  -- genMetadata: maxLength := some (nameMaxLength s maxNameLength)
  "xName.Type = \"string\"",  -- genMetadata: type := "string"
  "xMetaData := crdv.Schema.OpenAPIV3Schema.Properties[\"metadata\"]",  -- genMetadata: prop base "metadata"
  "xMetaData.Properties = map[string]extv1.JSONSchemaProps{\"name\": xName}",  -- genMetadata: props := [("name", xName)]
  "crdv.Schema.OpenAPIV3Schema.Properties[\"metadata\"] = xMetaData",  -- genSchema: setKey "metadata" (genMetadata …) base.props
  "xSpec := s.Properties[\"spec\"]",  -- genSpec: xSpec := prop s "spec"
  "cSpec := crdv.Schema.OpenAPIV3Schema.Properties[\"spec\"]",  -- genSpec: cSpec := prop base "spec"
  "cSpec.Required = append(cSpec.Required, xSpec.Required...)",  -- genSpec: required := cSpec.required ++ xSpec.required
  "cSpec.XPreserveUnknownFields = xSpec.XPreserveUnknownFields",  -- genSpec: preserveUnknown := xSpec.preserveUnknown
  "cSpec.XValidations = append(cSpec.XValidations, xSpec.XValidations...)",  -- genSpec: xValidations := cSpec.xValidations ++ xSpec.xValidations
  "cSpec.OneOf = append(cSpec.OneOf, xSpec.OneOf...)",  -- genSpec: oneOf := cSpec.oneOf ++ xSpec.oneOf
  "cSpec.Description = xSpec.Description",  -- genSpec: description := xSpec.description
  "for k, v := range xSpec.Properties",  -- genSpec: props := setAll cSpec.props xSpec.props
  "cSpec.Properties[k] = v",  -- genSpec: setAll = fold of setKey
  "end",
  "crdv.Schema.OpenAPIV3Schema.Properties[\"spec\"] = cSpec",  -- genSchema: setKey "spec" (genSpec base s)
  "xStatus := s.Properties[\"status\"]",  -- genStatus: xStatus := prop s "status"
  "cStatus := crdv.Schema.OpenAPIV3Schema.Properties[\"status\"]",  -- genStatus: cStatus := prop base "status"
  "cStatus.Required = xStatus.Required",  -- genStatus: required := xStatus.required
  "cStatus.XValidations = xStatus.XValidations",  -- genStatus: xValidations := xStatus.xValidations
  "cStatus.Description = xStatus.Description",  -- genStatus: description := xStatus.description
  "cStatus.OneOf = xStatus.OneOf",  -- genStatus: oneOf := xStatus.oneOf
  "for k, v := range xStatus.Properties",  -- genStatus: setAll cStatus.props xStatus.props (author's first)
  "cStatus.Properties[k] = v",  -- genStatus: setAll = fold of setKey
  "end",
  "for k, v := range CompositeResourceStatusProps()",  -- genStatus: setAll (…) Xp.Gen.xcrdStatusProps (machinery LAST: machinery_intact_status)
  "cStatus.Properties[k] = v",  -- genStatus: setAll = fold of setKey
  "end",
  "crdv.Schema.OpenAPIV3Schema.Properties[\"status\"] = cStatus",  -- genSchema: setKey "status" (genStatus base s)
  "return &crdv, nil"]  -- genVersion: .ok (mkVersion vr s maxNameLength)


/-- the statements of `parseSchema` (internal/xcrd/crd.go) that the definitions above mirror, one entry per
statement with the model step that mirrors it (Props/C11: skeleton obligations against the list
regenerated from the current tree) -/
def skelParseSchema : List String := [
  "func parseSchema(v *v1.CompositeResourceValidation) (*extv1.JSONSchemaProps, error)",  -- SchemaIn (the result of parseSchema is the model's input)
  "if v == nil",  -- SchemaIn.absent
  "return nil, nil",  -- SchemaIn.absent (genVersion turns it into .nilValidation)
  "end",
  "s := &extv1.JSONSchemaProps{}",  -- a fresh decode target per call: the model is per version (state carried over shows as a difference)
  "if err := json.Unmarshal(v.OpenAPIV3Schema.Raw, s); err != nil",  -- not modelled: encoding/json into extv1.JSONSchemaProps (oracle: the harness hands the model the decoded schema)
  "return nil, errors.Wrap(err, errParseValidation)",  -- SchemaIn.bad
  "end",
  "return s, nil"]  -- SchemaIn.ok s


/-! ### what genCrdVersion READS of the author's schema

Of the author's document only these fields are read: the top-level description; of the `spec`
node required, x-kubernetes-preserve-unknown-fields, x-kubernetes-validations, oneOf, description
and properties; of the `status` node required, x-kubernetes-validations, oneOf, description and
properties; and `metadata.name.maxLength`. Everything else the author writes at those levels
(type, default, enum, anyOf / allOf / not, additionalProperties, nullable, status
preserve-unknown-fields, further top-level properties and keywords, ...) is dropped:
`readSchema` is that projection and Props/C11 `author_read_exactly` states that the derivation
cannot tell a schema from its projection. -/

def readSpec (x : Schema) : Schema :=
  { required := x.required, preserveUnknown := x.preserveUnknown, xValidations := x.xValidations,
    oneOf := x.oneOf, description := x.description, props := x.props }

def readStatus (x : Schema) : Schema :=
  { required := x.required, xValidations := x.xValidations, oneOf := x.oneOf,
    description := x.description, props := x.props }

def readSchema (s : Schema) : Schema :=
  { description := s.description,
    props := [("spec", readSpec (prop s "spec")), ("status", readStatus (prop s "status")),
              ("metadata", { props := [("name", { maxLength := (prop (prop s "metadata") "name").maxLength })] })] }

def Version.read (v : Version) : Version :=
  { v with schema := match v.schema with
                     | .ok s => .ok (readSchema s)
                     | .absent => .absent
                     | .bad => .bad }

/-! ### ForCompositeResource / ForCompositeResourceClaim -/

/-- `cup.Default = &extv1.JSON{Raw: "\"<policy>\""}` when the XRD sets a default policy -/
def applyDefault (policy : Option String) (s : Schema) : Schema :=
  match policy with
  | none => s
  | some p => { s with default := some ("\"" ++ p ++ "\"") }

/-- `cup := props[key]; cup.Default = ...; props[key] = cup` (only when a default policy is set) -/
def withDefault (key : String) (policy : Option String) (table : List (String × Schema)) : List (String × Schema) :=
  match policy with
  | none => table
  | some _ => setKey key (applyDefault policy ((lookup key table).getD {})) table

def xrSpecMachinery (xrd : Xrd) : List (String × Schema) :=
  withDefault "compositionUpdatePolicy" xrd.defaultCompositionUpdatePolicy Xp.Gen.xcrdSpecPropsXR

def claimSpecMachinery (xrd : Xrd) : List (String × Schema) :=
  withDefault "compositeDeletePolicy" xrd.defaultCompositeDeletePolicy Xp.Gen.xcrdSpecPropsClaim

/-- `crdv.Schema.OpenAPIV3Schema.Properties["spec"].Properties[k] = v` for every machinery property -/
def writeSpecProps (root : Schema) (mach : List (String × Schema)) : Schema :=
  let spec := prop root "spec"
  { root with props := setKey "spec" { spec with props := setAll spec.props mach } root.props }

/-- loop body of the For* functions -/
def decorate (cv : CrdVersion) (columns : List String) (mach : List (String × Schema)) : CrdVersion :=
  { cv with columns := cv.columns ++ columns, schema := writeSpecProps cv.schema mach }

/-- the version loop: the first failing version aborts -/
def genVersions (vs : List Version) (maxNameLength : Int) (columns : List String) (mach : List (String × Schema)) :
    Except Err (List CrdVersion) :=
  match vs with
  | [] => .ok []
  | vr :: rest =>
    match genVersion vr maxNameLength with
    | .error e => .error e
    | .ok cv =>
      match genVersions rest maxNameLength columns mach with
      | .error e => .error e
      | .ok cvs => .ok (decorate cv columns mach :: cvs)

/-- setCrdMetadata: XRD labels overlaid with spec.metadata.labels -/
def crdLabels (xrd : Xrd) : List (String × String) := setAll xrd.labels xrd.metaLabels

/-- the statements of `setCrdMetadata` (internal/xcrd/crd.go) that the definitions above mirror, one entry per
statement with the model step that mirrors it (Props/C11: skeleton obligations against the list
regenerated from the current tree) -/
def skelSetCrdMetadata : List String := [
  "func setCrdMetadata(crd *extv1.CustomResourceDefinition, xrd *v1.CompositeResourceDefinition) *extv1.CustomResourceDefinition",  -- crdLabels / Crd.annotations
  "crd.SetLabels(xrd.GetLabels())",  -- crdLabels: setAll xrd.labels … (starts from the XRD's own labels)
  "if xrd.Spec.Metadata != nil",  -- Xrd.metaLabels / metaAnnotations are [] without spec.metadata (driver: hasMeta)
  "if xrd.Spec.Metadata.Labels != nil",  -- nil and empty spec.metadata.labels are not distinguished (setAll m [] = m)
  "inheritedLabels := crd.GetLabels()",  -- crdLabels: the map set at 1
  "if inheritedLabels == nil",  -- nil map = []
  "inheritedLabels = map[string]string{}",  -- nil map = []
  "end",
  "for k, v := range xrd.Spec.Metadata.Labels",  -- crdLabels: setAll xrd.labels xrd.metaLabels (spec.metadata.labels win: labels_propagated)
  "inheritedLabels[k] = v",  -- setAll = fold of setKey
  "end",
  "crd.SetLabels(inheritedLabels)",  -- forXR / forClaim: labels := crdLabels xrd
  "end",
  "if xrd.Spec.Metadata.Annotations != nil",  -- nil and empty are not distinguished
  "crd.SetAnnotations(xrd.Spec.Metadata.Annotations)",  -- forXR / forClaim: annotations := xrd.metaAnnotations (the XRD's own annotations are not propagated)
  "end",
  "end",
  "return crd"]  -- return value unused by the callers


def controllerRef (xrd : Xrd) : OwnerRef :=
  { apiVersion := Xp.Gen.xrdApiVersion, kind := Xp.Gen.xrdKind, name := xrd.name, uid := xrd.uid,
    controller := true, blockOwnerDeletion := true }

def forXR (xrd : Xrd) : Except Err Crd :=
  match genVersions xrd.versions Xp.Gen.xcrdMaxNameLengthXR Xp.Gen.xcrdPrinterColumnsXR (xrSpecMachinery xrd) with
  | .error e => .error e
  | .ok vs => .ok {
      name := xrd.name
      labels := crdLabels xrd
      annotations := xrd.metaAnnotations
      owners := [controllerRef xrd]
      scope := "Cluster"
      group := xrd.group
      names := { xrd.names with categories := xrd.names.categories ++ [Xp.Gen.categoryComposite] }
      versions := vs
      conversion := xrd.conversion }

/-- the statements of `ForCompositeResource` (internal/xcrd/crd.go) that the definitions above mirror, one entry per
statement with the model step that mirrors it (Props/C11: skeleton obligations against the list
regenerated from the current tree) -/
def skelForCompositeResource : List String := [
  "func ForCompositeResource(xrd *v1.CompositeResourceDefinition) (*extv1.CustomResourceDefinition, error)",  -- forXR : Xrd → Except Err Crd
  "crd := &extv1.CustomResourceDefinition{ Spec: extv1.CustomResourceDefinitionSpec{ Scope: extv1.ClusterScoped, Group: xrd.Spec.Group, Names: xrd.Spec.Names, Versions: make([]extv1.CustomResourceDefinitionVersion, len(xrd.Spec.Versions)), Conversion: xrd.Spec.Conversion, }, }",  -- forXR: scope := "Cluster", group, names := xrd.names, versions (one per XRD version: genVersions), conversion
  "crd.SetName(xrd.GetName())",  -- forXR: name := xrd.name
  "setCrdMetadata(crd, xrd)",  -- forXR: labels := crdLabels xrd, annotations := xrd.metaAnnotations (setCrdMetadata)
  "crd.SetOwnerReferences([]metav1.OwnerReference{meta.AsController( meta.TypedReferenceTo(xrd, v1.CompositeResourceDefinitionGroupVersionKind), )})",  -- forXR: owners := [controllerRef xrd] (meta.AsController / TypedReferenceTo are crossplane-runtime: compared by correspondence)
  "crd.Spec.Names.Categories = append(crd.Spec.Names.Categories, CategoryComposite)",  -- forXR: categories := xrd.names.categories ++ [categoryComposite]
  "const maxCompositeNameLength = 63",  -- Xp.Gen.xcrdMaxNameLengthXR (probed by the dumper; obligation name_limit)
  "for i, vr := range xrd.Spec.Versions",  -- genVersions: recursion over xrd.versions
  "crdv, err := genCrdVersion(vr, maxCompositeNameLength)",  -- genVersions: genVersion vr maxNameLength
  "if err != nil",  -- genVersions: | .error e => .error e (the first failing version aborts)
  "return nil, errors.Wrapf(err, errFmtGenCrd, \"Composite Resource\", xrd.Name)",  -- Err (wrapping text not modelled; class compared)
  "end",
  "crdv.AdditionalPrinterColumns = append(crdv.AdditionalPrinterColumns, CompositeResourcePrinterColumns()...)",  -- decorate: columns := cv.columns ++ columns (author's first, machinery's last)
  "props := CompositeResourceSpecProps()",  -- xrSpecMachinery: Xp.Gen.xcrdSpecPropsXR (a fresh table per version)
  "if xrd.Spec.DefaultCompositionUpdatePolicy != nil",  -- withDefault: | some _
  "cup := props[\"compositionUpdatePolicy\"]",  -- withDefault: (lookup key table).getD {}
  "cup.Default = &extv1.JSON{Raw: []byte(fmt.Sprintf(\"\\\"%s\\\"\", *xrd.Spec.DefaultCompositionUpdatePolicy))}",  -- applyDefault: default := some ("\"" ++ p ++ "\"")
  "props[\"compositionUpdatePolicy\"] = cup",  -- withDefault: setKey key … table
  "end",
  "for k, v := range props",  -- writeSpecProps: setAll spec.props mach (machinery written LAST: machinery_intact)
  "crdv.Schema.OpenAPIV3Schema.Properties[\"spec\"].Properties[k] = v",  -- writeSpecProps: setKey "spec" { spec with props := … }
  "end",
  "crd.Spec.Versions[i] = *crdv",  -- genVersions: decorate cv columns mach :: cvs
  "end",
  "return crd, nil"]  -- forXR: .ok { … }


def validateClaimNames (d : Xrd) : Except Err Names :=
  match d.claimNames with
  | none => .error .missingClaimNames
  | some c =>
    if c.kind = d.names.kind then .error (.conflictingClaimName c.kind)
    else if c.plural = d.names.plural then .error (.conflictingClaimName c.plural)
    else if c.singular ≠ "" ∧ c.singular = d.names.singular then .error (.conflictingClaimName c.singular)
    else if c.listKind ≠ "" ∧ c.listKind = d.names.listKind then .error (.conflictingClaimName c.listKind)
    else .ok c

/-- the statements of `validateClaimNames` (internal/xcrd/crd.go) that the definitions above mirror, one entry per
statement with the model step that mirrors it (Props/C11: skeleton obligations against the list
regenerated from the current tree) -/
def skelValidateClaimNames : List String := [
  "func validateClaimNames(d *v1.CompositeResourceDefinition) error",  -- validateClaimNames : Xrd → Except Err Names
  "if d.Spec.ClaimNames == nil",  -- | none
  "return errors.New(errMissingClaimNames)",  -- .error .missingClaimNames
  "end",
  "if n := d.Spec.ClaimNames.Kind; n == d.Spec.Names.Kind",  -- if c.kind = d.names.kind
  "return errors.Errorf(errFmtConflictingClaimName, n)",  -- .error (.conflictingClaimName c.kind)
  "end",
  "if n := d.Spec.ClaimNames.Plural; n == d.Spec.Names.Plural",  -- else if c.plural = d.names.plural
  "return errors.Errorf(errFmtConflictingClaimName, n)",  -- .error (.conflictingClaimName c.plural)
  "end",
  "if n := d.Spec.ClaimNames.Singular; n != \"\" && n == d.Spec.Names.Singular",  -- else if c.singular ≠ "" ∧ c.singular = d.names.singular
  "return errors.Errorf(errFmtConflictingClaimName, n)",  -- .error (.conflictingClaimName c.singular)
  "end",
  "if n := d.Spec.ClaimNames.ListKind; n != \"\" && n == d.Spec.Names.ListKind",  -- else if c.listKind ≠ "" ∧ c.listKind = d.names.listKind
  "return errors.Errorf(errFmtConflictingClaimName, n)",  -- .error (.conflictingClaimName c.listKind)
  "end",
  "return nil"]  -- else .ok c


def forClaim (xrd : Xrd) : Except Err Crd :=
  match validateClaimNames xrd with
  | .error e => .error e
  | .ok c =>
    match genVersions xrd.versions Xp.Gen.xcrdMaxNameLengthClaim Xp.Gen.xcrdPrinterColumnsClaim (claimSpecMachinery xrd) with
    | .error e => .error e
    | .ok vs => .ok {
        name := c.plural ++ "." ++ xrd.group
        labels := crdLabels xrd
        annotations := xrd.metaAnnotations
        owners := [controllerRef xrd]
        scope := "Namespaced"
        group := xrd.group
        names := { c with categories := c.categories ++ [Xp.Gen.categoryClaim] }
        versions := vs
        conversion := xrd.conversion }

/-- the statements of `ForCompositeResourceClaim` (internal/xcrd/crd.go) that the definitions above mirror, one entry per
statement with the model step that mirrors it (Props/C11: skeleton obligations against the list
regenerated from the current tree) -/
def skelForCompositeResourceClaim : List String := [
  "func ForCompositeResourceClaim(xrd *v1.CompositeResourceDefinition) (*extv1.CustomResourceDefinition, error)",  -- forClaim : Xrd → Except Err Crd
  "if err := validateClaimNames(xrd); err != nil",  -- forClaim: match validateClaimNames xrd
  "return nil, errors.Wrap(err, errInvalidClaimNames)",  -- forClaim: | .error e => .error e
  "end",
  "crd := &extv1.CustomResourceDefinition{ Spec: extv1.CustomResourceDefinitionSpec{ Scope: extv1.NamespaceScoped, Group: xrd.Spec.Group, Names: *xrd.Spec.ClaimNames, Versions: make([]extv1.CustomResourceDefinitionVersion, len(xrd.Spec.Versions)), Conversion: xrd.Spec.Conversion, }, }",  -- forClaim: scope := "Namespaced", group, names := c (the claim names), versions, conversion
  "crd.SetName(xrd.Spec.ClaimNames.Plural + \".\" + xrd.Spec.Group)",  -- forClaim: name := c.plural ++ "." ++ xrd.group
  "setCrdMetadata(crd, xrd)",  -- forClaim: labels := crdLabels xrd, annotations := xrd.metaAnnotations
  "crd.SetOwnerReferences([]metav1.OwnerReference{meta.AsController( meta.TypedReferenceTo(xrd, v1.CompositeResourceDefinitionGroupVersionKind), )})",  -- forClaim: owners := [controllerRef xrd]
  "crd.Spec.Names.Categories = append(crd.Spec.Names.Categories, CategoryClaim)",  -- forClaim: categories := c.categories ++ [categoryClaim]
  "const maxClaimNameLength = 63",  -- Xp.Gen.xcrdMaxNameLengthClaim (probed; obligation name_limit)
  "for i, vr := range xrd.Spec.Versions",  -- genVersions: recursion over xrd.versions
  "crdv, err := genCrdVersion(vr, maxClaimNameLength)",  -- genVersions: genVersion vr maxNameLength
  "if err != nil",  -- genVersions: | .error e => .error e
  "return nil, errors.Wrapf(err, errFmtGenCrd, \"Composite Resource Claim\", xrd.Name)",  -- Err (wrapping text not modelled; class compared)
  "end",
  "crdv.AdditionalPrinterColumns = append(crdv.AdditionalPrinterColumns, CompositeResourceClaimPrinterColumns()...)",  -- decorate: columns := cv.columns ++ columns
  "props := CompositeResourceClaimSpecProps()",  -- claimSpecMachinery: Xp.Gen.xcrdSpecPropsClaim
  "if xrd.Spec.DefaultCompositeDeletePolicy != nil",  -- withDefault: | some _
  "cdp := props[\"compositeDeletePolicy\"]",  -- withDefault: (lookup key table).getD {}
  "cdp.Default = &extv1.JSON{Raw: []byte(fmt.Sprintf(\"\\\"%s\\\"\", *xrd.Spec.DefaultCompositeDeletePolicy))}",  -- applyDefault
  "props[\"compositeDeletePolicy\"] = cdp",  -- withDefault: setKey key … table
  "end",
  "for k, v := range props",  -- writeSpecProps: setAll spec.props mach
  "crdv.Schema.OpenAPIV3Schema.Properties[\"spec\"].Properties[k] = v",  -- writeSpecProps: setKey "spec" …
  "end",
  "crd.Spec.Versions[i] = *crdv",  -- genVersions: decorate cv columns mach :: cvs
  "end",
  "return crd, nil"]  -- forClaim: .ok { … }


/-! ### Validate / ValidateUpdate (field paths of the errors, in order) -/

def validateConversion (c : Xrd) : List String :=
  match c.conversion with
  | some conv =>
    if conv.strategy = "Webhook" ∧ (conv.hasWebhook = false ∨ conv.hasClientConfig = false)
    then ["spec.conversion.webhook"] else []
  | none => []

def validate (c : Xrd) : List String := validateConversion c

def validateUpdate (c old : Xrd) : List String :=
  (if c.group ≠ old.group then ["spec.group"] else []) ++
  (if c.names.plural ≠ old.names.plural then ["spec.names.plural"] else []) ++
  (if c.names.kind ≠ old.names.kind then ["spec.names.kind"] else []) ++
  (match c.claimNames, old.claimNames with
   | some cn, some on =>
     (if cn.plural ≠ on.plural then ["spec.claimNames.plural"] else []) ++
     (if cn.kind ≠ on.kind then ["spec.claimNames.kind"] else [])
   | _, _ => []) ++
  validate c

/-- the statements of `Validate / validateConversion / ValidateUpdate` (apis/apiextensions/v1/xrd_validation.go) that the definitions above mirror, one entry per
statement with the model step that mirrors it (Props/C11: skeleton obligations against the list
regenerated from the current tree) -/
def skelValidate : List String := [
  "func (c *CompositeResourceDefinition) Validate() (warns []string, errs field.ErrorList)",  -- validate : Xrd → List String (field paths of the errors; warnings are always nil)
  "type validationFunc func() field.ErrorList",
  "validations := []validationFunc{ c.validateConversion, }",  -- validate := validateConversion (the only entry)
  "for _, f := range validations",
  "errs = append(errs, f()...)",  -- validate
  "end",
  "return nil, errs"]  -- validate


def skelValidateConversion : List String := [
  "func (c *CompositeResourceDefinition) validateConversion() (errs field.ErrorList)",  -- validateConversion
  "if conv := c.Spec.Conversion; conv != nil && conv.Strategy == extv1.WebhookConverter && (conv.Webhook == nil || conv.Webhook.ClientConfig == nil)",  -- | some conv => if conv.strategy = "Webhook" ∧ (conv.hasWebhook = false ∨ conv.hasClientConfig = false)
  "errs = append(errs, field.Required(field.NewPath(\"spec\", \"conversion\", \"webhook\"), fmt.Sprintf(\"webhook configuration is required when conversion strategy is %q\", extv1.WebhookConverter)))",  -- ["spec.conversion.webhook"]
  "end",
  "return errs"]  -- else [] / | none => []


def skelValidateUpdate : List String := [
  "func (c *CompositeResourceDefinition) ValidateUpdate(old *CompositeResourceDefinition) (warns []string, errs field.ErrorList)",  -- validateUpdate (c old : Xrd) : List String
  "if c.Spec.Group != old.Spec.Group",  -- if c.group ≠ old.group
  "errs = append(errs, field.Invalid(field.NewPath(\"spec\", \"group\"), c.Spec.Group, \"field is immutable\"))",  -- ["spec.group"]
  "end",
  "if c.Spec.Names.Plural != old.Spec.Names.Plural",  -- if c.names.plural ≠ old.names.plural
  "errs = append(errs, field.Invalid(field.NewPath(\"spec\", \"names\", \"plural\"), c.Spec.Names.Plural, \"field is immutable\"))",  -- ["spec.names.plural"]
  "end",
  "if c.Spec.Names.Kind != old.Spec.Names.Kind",  -- if c.names.kind ≠ old.names.kind
  "errs = append(errs, field.Invalid(field.NewPath(\"spec\", \"names\", \"kind\"), c.Spec.Names.Kind, \"field is immutable\"))",  -- ["spec.names.kind"]
  "end",
  "if c.Spec.ClaimNames != nil && old.Spec.ClaimNames != nil",  -- | some cn, some on
  "if c.Spec.ClaimNames.Plural != old.Spec.ClaimNames.Plural",  -- if cn.plural ≠ on.plural
  "errs = append(errs, field.Invalid(field.NewPath(\"spec\", \"claimNames\", \"plural\"), c.Spec.ClaimNames.Plural, \"field is immutable\"))",  -- ["spec.claimNames.plural"]
  "end",
  "if c.Spec.ClaimNames.Kind != old.Spec.ClaimNames.Kind",  -- if cn.kind ≠ on.kind
  "errs = append(errs, field.Invalid(field.NewPath(\"spec\", \"claimNames\", \"kind\"), c.Spec.ClaimNames.Kind, \"field is immutable\"))",  -- ["spec.claimNames.kind"]
  "end",
  "end",
  "warns, newErr := c.Validate()",  -- ++ validate c
  "errs = append(errs, newErr...)",  -- ++ validate c
  "return warns, errs"]  -- the list of field paths


/-! ### the webhook's decision (handler.go) -/

inductive Admission where
  | allowed
  | invalid (fields : List String)      -- Validate / ValidateUpdate errors
  | crdError (which : String) (e : Err) -- getAllCRDsForXRD failed ("xr" / "claim")
  | rejectedByServer (which : String)   -- the dry-run of a generated CRD was refused
  deriving DecidableEq, Repr

/-- getAllCRDsForXRD: the XR CRD, and the claim CRD iff claim names are set -/
def allCrds (xrd : Xrd) : Except (String × Err) (List (String × Crd)) :=
  match forXR xrd with
  | .error e => .error ("xr", e)
  | .ok x =>
    match xrd.claimNames with
    | none => .ok [("xr", x)]
    | some _ =>
      match forClaim xrd with
      | .error e => .error ("claim", e)
      | .ok c => .ok [("xr", x), ("claim", c)]

/-- the statements of `getAllCRDsForXRD` (internal/validation/apiextensions/v1/xrd/handler.go) that the definitions above mirror, one entry per
statement with the model step that mirrors it (Props/C11: skeleton obligations against the list
regenerated from the current tree) -/
def skelGetAllCRDsForXRD : List String := [
  "func getAllCRDsForXRD(in *v1.CompositeResourceDefinition) (out []*apiextv1.CustomResourceDefinition, err error)",  -- allCrds : Xrd → Except (String × Err) (List (String × Crd))
  "crd, err := xcrd.ForCompositeResource(in)",  -- match forXR xrd
  "if err != nil",  -- | .error e
  "return out, xperrors.Wrap(err, \"cannot get CRD for Composite Resource\")",  -- .error ("xr", e)
  "end",
  "out = append(out, crd)",  -- ("xr", x) ::
  "if in.Spec.ClaimNames == nil",  -- match xrd.claimNames | none
  "return out, nil",  -- .ok [("xr", x)]
  "end",
  "crdClaim, err := xcrd.ForCompositeResourceClaim(in)",  -- match forClaim xrd
  "if err != nil",  -- | .error e
  "return out, xperrors.Wrap(err, \"cannot get Claim CRD for Composite Claim\")",  -- .error ("claim", e)
  "end",
  "out = append(out, crdClaim)",  -- [("xr", x), ("claim", c)]
  "return out, nil"]  -- .ok …


/-- the dry-run loop; `server` is the API server's verdict on a generated CRD (an input) -/
def dryRun (server : Crd → Bool) : List (String × Crd) → Admission
  | [] => .allowed
  | (w, c) :: rest => if server c then dryRun server rest else .rejectedByServer w

def admission (errs : List String) (xrd : Xrd) (server : Crd → Bool) : Admission :=
  if errs ≠ [] then .invalid errs else
  match allCrds xrd with
  | .error (w, e) => .crdError w e
  | .ok crds => dryRun server crds

def admissionCreate (xrd : Xrd) (server : Crd → Bool) : Admission := admission (validate xrd) xrd server
def admissionUpdate (new old : Xrd) (server : Crd → Bool) : Admission := admission (validateUpdate new old) new server

/-! ### position-wise relation between the XRD's versions and the CRD's versions (for statements) -/

/-- `Zip R as bs`: the lists have equal length and `R` relates the elements at every position -/
inductive Zip (R : α → β → Prop) : List α → List β → Prop
  | nil : Zip R [] []
  | cons {a b as bs} : R a b → Zip R as bs → Zip R (a :: as) (b :: bs)

/-! ### the two derivations under one name (so that each theorem is stated once for both CRDs) -/

inductive Which where
  | xr | claim
  deriving DecidableEq, Repr

def derive : Which → Xrd → Except Err Crd
  | .xr => forXR
  | .claim => forClaim

/-- the machinery spec table of the current tree -/
def tableOf : Which → List (String × Schema)
  | .xr => Xp.Gen.xcrdSpecPropsXR
  | .claim => Xp.Gen.xcrdSpecPropsClaim

/-- the one machinery property whose `default` an XRD may set, and the XRD's setting -/
def policyKey : Which → String
  | .xr => "compositionUpdatePolicy"
  | .claim => "compositeDeletePolicy"

def policyOf : Which → Xrd → Option String
  | .xr, d => d.defaultCompositionUpdatePolicy
  | .claim, d => d.defaultCompositeDeletePolicy

def machineryOf : Which → Xrd → List (String × Schema)
  | .xr, d => xrSpecMachinery d
  | .claim, d => claimSpecMachinery d

def columnsOf : Which → List String
  | .xr => Xp.Gen.xcrdPrinterColumnsXR
  | .claim => Xp.Gen.xcrdPrinterColumnsClaim

def maxNameLengthOf : Which → Int
  | .xr => Xp.Gen.xcrdMaxNameLengthXR
  | .claim => Xp.Gen.xcrdMaxNameLengthClaim

/-- the four corresponding name fields validateClaimNames compares -/
def claimNamesCollide (c n : Names) : Prop :=
  c.kind = n.kind ∨ c.plural = n.plural ∨ (c.singular ≠ "" ∧ c.singular = n.singular) ∨ (c.listKind ≠ "" ∧ c.listKind = n.listKind)

/-! ### shape of a machinery table (used to state what "standard schema" means independently of the table) -/

/-- (key, type, required, property names) of every entry -/
def shape (t : List (String × Schema)) : List (String × String × List String × List String) :=
  t.map fun (k, s) => (k, s.type, s.required, keys s.props)

/-! ### the reconcile step that WRITES a derived CRD (definition / offered reconciler)

`r.client.Apply(ctx, crd, MustBeControllableBy(uid))` with the reconcilers' own
`NewClientApplicator` = `resource.NewAPIUpdatingApplicator`: Get, then Create if there is
no CRD, else Update of the rendered object carrying the stored resourceVersion. An Update
REPLACES labels, annotations, owner references and spec (the status subresource is kept by
the server). `stored` is the XRD's own CRD as an earlier reconcile left it. -/

/-- the API server's Update of the main resource: the submitted object replaces the stored one -/
def serverUpdate (_stored desired : Crd) : Crd := desired

/-- what an RFC 7386 merge patch of the rendered object would leave instead (NOT what the code
does; kept to show that `reconcile_stores_derived` distinguishes the two): absent optional
fields keep the stored value, maps are merged, lists replaced -/
def serverMergePatch (stored desired : Crd) : Crd :=
  { desired with
    labels := setAll stored.labels desired.labels
    annotations := setAll stored.annotations desired.annotations
    conversion := match desired.conversion with | some c => some c | none => stored.conversion
    names := { desired.names with
      singular := if desired.names.singular = "" then stored.names.singular else desired.names.singular
      listKind := if desired.names.listKind = "" then stored.names.listKind else desired.names.listKind
      shortNames := if desired.names.shortNames = [] then stored.names.shortNames else desired.names.shortNames } }

/-- one successful pass of the definition (`.xr`) / offered (`.claim`) reconciler over the CRD -/
def reconcileStep (w : Which) (xrd : Xrd) (stored : Option Crd) : Except Err Crd :=
  match derive w xrd with
  | .error e => .error e
  | .ok d =>
    match stored with
    | none => .ok d
    | some s => .ok (serverUpdate s d)

/-- xcrd.IsEstablished (crd.go): the FIRST status condition of type Established decides; `conds` are the
(type, status) pairs of crd.Status.Conditions in order -/
def isEstablished : List (String × String) → Bool
  | [] => false
  | (t, s) :: rest => if t = "Established" then s == "True" else isEstablished rest

/-- the statements of `IsEstablished` (internal/xcrd/crd.go) that `isEstablished` mirrors -/
def skelIsEstablished : List String := [
  "func IsEstablished(s extv1.CustomResourceDefinitionStatus) bool",  -- isEstablished : List (String × String) → Bool
  "for _, c := range s.Conditions",  -- recursion over the conditions, in order
  "if c.Type == extv1.Established",  -- if t = "Established" (extv1.Established: obligation skeleton_IsEstablished)
  "return c.Status == extv1.ConditionTrue",  -- then s == "True" (the first one decides)
  "end",
  "end",
  "return false"]  -- | [] => false

/-- what the definition / offered reconciler answers after it applied the CRD without error:
`if !xcrd.IsEstablished(crd.Status) { return reconcile.Result{Requeue: true}, nil }`, else it goes on to
start the controller and finishes. `conds` is the status of the CRD as the Apply returned it (an Update
keeps the stored status, a Create starts with none). -/
def reconcileResult (conds : List (String × String)) : String :=
  if isEstablished conds then "ok" else "requeue"

/-- the calls of `(*Reconciler).Reconcile` of internal/controller/apiextensions/definition (verbs of
client.Client, Render, finalizers, engine), source order, and what `reconcileStep .xr` mirrors of them -/
def skelDefinitionReconcile : List String := [
  "client.Get",               -- not modelled: the XRD is the model's input (read once, live)
  "composite.Render",         -- reconcileStep: derive .xr xrd (NewReconciler: CRDRenderFn(xcrd.ForCompositeResource), obligation skeleton_reconcilers)
  "client.Status.Update",     -- not modelled: deletion branch (C02 / C08)
  "client.Get",               -- not modelled: deletion branch
  "engine.Stop",              -- not modelled: deletion branch
  "composite.RemoveFinalizer", -- not modelled: deletion branch
  "client.DeleteAllOf",       -- not modelled: deletion branch
  "client.List",              -- not modelled: deletion branch
  "engine.Stop",              -- not modelled: deletion branch
  "client.Delete",            -- not modelled: deletion branch
  "composite.AddFinalizer",   -- not modelled: says nothing about the CRD (C02)
  "client.Apply",             -- reconcileStep: stored = none => Create d | some s => serverUpdate s d (APIUpdatingApplicator of crossplane-runtime: Get, Create | Update; MustBeControllableBy belongs to C02)
  "engine.Stop",              -- not modelled: controller engine (C02)
  "engine.IsRunning",         -- not modelled
  "client.Status.Update",     -- not modelled: XRD status
  "engine.Start",             -- not modelled
  "engine.StartWatches",      -- not modelled
  "client.Status.Update"]     -- not modelled: XRD status

/-- the same for internal/controller/apiextensions/offered and `reconcileStep .claim` -/
def skelOfferedReconcile : List String := [
  "client.Get",               -- not modelled: the XRD is the model's input
  "claim.Render",             -- reconcileStep: derive .claim xrd (NewReconciler: CRDRenderFn(xcrd.ForCompositeResourceClaim))
  "client.Status.Update",     -- not modelled: deletion branch (C02 / C08)
  "client.Get",               -- not modelled: deletion branch
  "engine.Stop",              -- not modelled: deletion branch
  "claim.RemoveFinalizer",    -- not modelled: deletion branch
  "client.List",              -- not modelled: deletion branch
  "client.Delete",            -- not modelled: deletion branch (claims one by one)
  "engine.Stop",              -- not modelled: deletion branch
  "client.Delete",            -- not modelled: deletion branch (the CRD)
  "claim.AddFinalizer",       -- not modelled
  "client.Apply",             -- reconcileStep: Create d | serverUpdate s d
  "engine.Stop",              -- not modelled
  "engine.IsRunning",         -- not modelled
  "client.Status.Update",     -- not modelled
  "engine.Start",             -- not modelled
  "engine.StartWatches",      -- not modelled
  "client.Status.Update"]     -- not modelled

/-- which derivation each reconciler is built with -/
def rendererOf : Which → List String
  | .xr => ["ForCompositeResource"]
  | .claim => ["ForCompositeResourceClaim"]

/-! ### example input used by the non-vacuity examples of Props/C11 -/

/-- an author schema that tries to shadow machinery: `spec.claimRef` and `status.conditions` as strings -/
def exSchema : Schema :=
  { type := "object", description := "A database.",
    props := [
      ("spec", { type := "object", required := ["region"], xValidations := ["{\"rule\":\"self.region != ''\"}"],
                 oneOf := ["{\"required\":[\"region\"]}"], preserveUnknown := some true,
                 props := [("region", { type := "string" }), ("claimRef", { type := "string", description := "mine" })] }),
      ("status", { type := "object", props := [("conditions", { type := "string" }), ("address", { type := "string" })] }),
      ("metadata", { type := "object", props := [("name", { maxLength := some 30 })] })] }

def exXrd : Xrd :=
  { name := "xdatabases.example.org", uid := "u1", group := "example.org",
    names := { kind := "XDatabase", plural := "xdatabases", singular := "xdatabase" },
    claimNames := some { kind := "Database", plural := "databases", singular := "database" },
    defaultCompositionUpdatePolicy := some "Manual",
    versions := [{ name := "v1alpha1", served := true, referenceable := false, schema := .ok exSchema },
                 { name := "v1", served := true, referenceable := true, schema := .ok {} }] }

end Xp.C11
