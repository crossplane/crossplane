import Xp.Base.JsonIO
import Xp.Drv.C01
import Xp.Model.C02World
/-
Driver of the C02 site "xwE" (harness/main/c02_adopt.go): an XR-world scenario of C01's shape
(`xw`) plus, per round, at most one action of a third party: before API call `k` of that
reconcile the composed resource `kind/name` gets a controller reference to another owner
(`adopt`). Runs `Xp.C01.reconcile` over `Xp.C02World.sem` with `Xp.runE` and prints the
observation in the shape of C01's driver. Model-side verdict: an own request changed an object
that was controlled by somebody else at that moment outside the two windows of
`Xp.C02.composers_foreign_untouched_under_interference` (never, by that theorem).
-/
namespace Xp.C02World
open Lean (Json)
open Xp.IOx
open Xp.C01

/-- the own calls that changed an object foreign at that moment, outside the windows -/
def badWrites (own : List (W × Req)) : List Req :=
  (own.filter fun x =>
    let after := (exec x.1 x.2).1
    x.1.base.objs.any fun o =>
      o.ctrl == .other && !after.base.objs.contains o &&
        !(x.1.mine.contains ⟨o.kind, o.name⟩ && x.1.stale.contains ⟨o.kind, o.name⟩)).map (·.2)

def handler : Handler := fun top => do
  let scn := obj top "xw"
  let adopts := arr top "adopt"
  let mode := str scn "mode"
  let objs0 := (arr scn "objs").map objOf
  let refs0 : List Ref := (arr scn "refs").map fun j => ⟨str j "kind", str j "name"⟩
  let mut st : St := { xrFin := bool scn "fin", xrRv := 0, refs := refs0,
                       objs := objs0, refsVer := "v1", xrApplied := !(bool scn "fresh"), foreign0 := [] }
  let mut outs : Array Json := #[]
  let mut ok := true
  let mut why := ""
  let mut ri := 0
  for rd in arr scn "rounds" do
    let ds := (arr rd "desired").map desiredOf
    let h := obj rd "hints"
    let gen := (arr h "gen").map fun p => match p with
      | .arr a => ((a[0]?.bind (·.getStr?.toOption)).getD "", (a[1]?.bind (·.getStr?.toOption)).getD "")
      | _ => ("", "")
    let fnErr := str rd "fnErr"
    let ver := if str rd "ver" == "" then "v1" else str rd "ver"
    let ch : Choices := ⟨ver, gen.map (·.2), orderBy (·.annot) (strs h "gc"), orderBy (·.d.rname) (strs h "apply")⟩
    let m : Mode := if mode == "fn" then
        .fn (fun _ => if fnErr == "" then .desired (orderBy (·.rname) (gen.map (·.1)) ds) else .failed) ch
      else .pt ds (gen.map (·.2)) ver
    let plan : Plan := if has rd "fault" then
        let f := obj rd "fault"
        Plan.at (nat f "k") (outcomeOf (str f "o"))
      else Plan.allOk
    let miss : List Ref := (arr rd "miss").map fun j => ⟨str j "kind", str j "name"⟩
    -- the third party's action of this round, if any
    let env : Env W := match adopts.find? (fun a => nat a "round" == ri) with
      | some a => adoptAt (nat a "k") (str a "kind") (str a "name")
      | none => Env.none
    -- a reconcile starts without copies of composed resources
    let w : W := { base := { st with miss := miss }, mine := [], stale := [] }
    let prog := reconcile m
    let log := callLogE sem env plan 0 prog w
    let res := runE sem env plan 0 prog w
    let bad := badWrites (ownE sem env plan 0 prog w)
    if !bad.isEmpty then
      ok := false; why := "C02:foreign-written-outside-window-in-model"
    st := res.1.base
    let result := match res.2 with
      | none => "crashed"
      | some .success => "success"
      | some .handled => "handled"
      | some .error => "error"
    let refs := (st.refs.map fun r => (r.kind, r.name)).mergeSort keyLe
    let objs := st.objs.mergeSort fun a b => keyLe (a.kind, a.name) (b.kind, b.name)
    outs := outs.push <| Json.mkObj [
      ("calls", Json.arr (log.map fun e => Json.str (callStr e)).toArray),
      ("refs", Json.arr (refs.map fun r => refJson ⟨r.1, r.2⟩).toArray),
      ("objs", Json.arr (objs.map objJson).toArray),
      ("result", .str result),
      ("xrFin", .bool st.xrFin)]
    ri := ri + 1
  return (Json.mkObj [("rounds", Json.arr outs)], ok, why)

end Xp.C02World
